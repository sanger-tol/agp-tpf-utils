-- root of the library: every model file, the lemma library of the proofs, and every property file
import AgpTpf.Model.Py
import AgpTpf.Model.Basic
import AgpTpf.Model.NaturalKey
import AgpTpf.Model.Lookup
import AgpTpf.Model.Text
import AgpTpf.Model.Fasta
import AgpTpf.Model.Remap
import AgpTpf.Model.Cache
import AgpTpf.Model.Outputs
import AgpTpf.Model.Cli
import AgpTpf.Model.CliPlan
import AgpTpf.Model.Pretext
import AgpTpf.Model.AsmFormat
import AgpTpf.Model.PyRt
import AgpTpf.Model.PyRtHeap
import AgpTpf.Model.PyRtPhase2
import AgpTpf.Gen.Imp2
import AgpTpf.Proofs.Lib
import AgpTpf.Properties.C01
import AgpTpf.Properties.C01Imp
import AgpTpf.Properties.C01ImpCut
import AgpTpf.Properties.C01ImpFound
import AgpTpf.Properties.C01ImpMissing
import AgpTpf.Properties.C01ImpRemap
import AgpTpf.Properties.C02
import AgpTpf.Properties.C02Aligned
import AgpTpf.Properties.C02Core
import AgpTpf.Properties.C02Deep
import AgpTpf.Properties.C02Imp
import AgpTpf.Properties.C02NoError
import AgpTpf.Properties.C02Order
import AgpTpf.Properties.C02Returns
import AgpTpf.Properties.C02Script
import AgpTpf.Properties.C02Source
import AgpTpf.Properties.C03
import AgpTpf.Properties.C03Cli
import AgpTpf.Properties.C03Imp
import AgpTpf.Properties.C03Source
import AgpTpf.Properties.C04
import AgpTpf.Properties.C04Imp
import AgpTpf.Properties.C05
import AgpTpf.Properties.C05Cli
import AgpTpf.Properties.C05Imp
import AgpTpf.Properties.C05ImpParse
import AgpTpf.Properties.C06
import AgpTpf.Properties.C06Built
import AgpTpf.Properties.C06Cli
import AgpTpf.Properties.C06Imp
import AgpTpf.Properties.C07
import AgpTpf.Properties.C07Gaps
import AgpTpf.Properties.C07Imp
import AgpTpf.Properties.C07ImpFuse
import AgpTpf.Properties.C07ImpLeftover
import AgpTpf.Properties.C08
import AgpTpf.Properties.C09
import AgpTpf.Properties.C09Imp
import AgpTpf.Properties.C09ImpNames
import AgpTpf.Properties.C09Names
import AgpTpf.Properties.C09Route
import AgpTpf.Properties.C10
import AgpTpf.Properties.C10Multi
import AgpTpf.Properties.C10Report
import AgpTpf.Properties.C10Unique
import AgpTpf.Properties.C11
import AgpTpf.Properties.C11EndToEnd
import AgpTpf.Properties.C11Imp
import AgpTpf.Properties.C11Info
import AgpTpf.Properties.C11Source
import AgpTpf.Properties.C12
import AgpTpf.Properties.C12Imp
import AgpTpf.Properties.C12ImpIndex
import AgpTpf.Properties.C13
import AgpTpf.Properties.C13Imp
import AgpTpf.Properties.C13Source
import AgpTpf.Properties.C14
import AgpTpf.Properties.C14Imp
import AgpTpf.Properties.C15
import AgpTpf.Properties.C15Imp
import AgpTpf.Properties.C16
import AgpTpf.Properties.C16Imp
import AgpTpf.Properties.C16Plan
import AgpTpf.Properties.C17
import AgpTpf.Properties.C17Imp
import AgpTpf.Properties.C17Warm
import AgpTpf.Properties.C18
import AgpTpf.Properties.C18Imp
import AgpTpf.Properties.C18Source
import AgpTpf.Properties.C19
import AgpTpf.Properties.C19Cli
import AgpTpf.Properties.C19Imp
import AgpTpf.Properties.C20Imp
import AgpTpf.Properties.C20ImpSort
import AgpTpf.Properties.C10ImpCsv
import AgpTpf.Properties.C10ImpGroup
import AgpTpf.Properties.C11ImpJunctions
import AgpTpf.Properties.C10ImpBuild
import AgpTpf.Properties.C10ImpName
import AgpTpf.Properties.C10ImpFused
import AgpTpf.Properties.C20ImpCtor
import AgpTpf.Properties.C05ImpCtor
import AgpTpf.Properties.C17ImpFai
import AgpTpf.Properties.C14ImpSeqBytes
import AgpTpf.Properties.C14ImpReverse
import AgpTpf.Properties.C03ImpAssembly
import AgpTpf.Properties.C19Source
import AgpTpf.Properties.C20
