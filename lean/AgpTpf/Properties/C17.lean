/-
  C17 — Outputs are a deterministic function of the input files.

  The model (`remap`, `assembliesFused`, …) is a pure function of the parsed inputs, so "same inputs, same outputs" holds
  of it by construction.  The one place where the real code consults an iteration order that is NOT a function of the
  input files is `for tag in fragment_tags` in `ScaffoldNamer.make_scaffold_name`: `fragment_tags` is a Python `set` of
  `str`, whose iteration order depends on PYTHONHASHSEED.  The model fixes one order (`Scaffold.fragmentTags`); the
  theorems here show that this choice is immaterial: `makeScaffoldName` returns the same value (the same namer, or the
  same error) for every ordering of the tag set, and `labelScaffold` reads the scaffold tag set only through membership.

  The side condition `[] ∉ tags` is met by every tag set the source passes: `Scaffold.fragment_tags` skips an empty tag
  column (`if t:`; model `Scaffold.fragmentTags`, `Scaffold.nil_not_mem_fragmentTags` in Proofs/Lib/Rows.lean), and both
  calls of `make_scaffold_name` are given such a set.  For `make_scaffold_name` on its own it cannot be dropped: on the
  tag set {"", "Hap1"} the order ["", "Hap1"] succeeds (haplotype "Hap1") and the order ["Hap1", ""] raises TaggingError,
  because `if haplotype:` treats the haplotype "" obtained from the empty tag as "not set" (`empty_tag_order_dependent`).
-/
import AgpTpf.Proofs.C17
namespace AgpTpf.C17
open AgpTpf

/-- **Hash-seed independence of `make_scaffold_name`.**  For a namer whose haplotype dictionary holds no empty spelling
    (`NamerOk`, an invariant of every reachable namer: `namerOk_init`, `namerOk_makeScaffoldName`, `namerOk_labelScaffold`)
    and a tag collection without the empty tag, any reordering of the tags gives the *same* result: the same error, or
    `.ok` of the same namer — all fields, including `haplotypeLc` with its insertion order (a second haplotype-looking tag
    or a second chromosome-name tag is an error in either order).  `Nodup` of the tags is not needed. -/
theorem make_scaffold_name_perm (n : Namer) (scName : Str) (rows : List Row) (tags₁ tags₂ : List Str)
    (hp : tags₁.Perm tags₂) (hne : [] ∉ tags₁) (hn : NamerOk n) :
    makeScaffoldName n scName rows tags₁ = makeScaffoldName n scName rows tags₂ := by
  rw [makeScaffoldName_eq, makeScaffoldName_eq, foldlM_scanTag_perm (n, {}) tags₁ tags₂ hp hne hn]

/-- Field by field: both runs fail with the same error, or both succeed with namers agreeing on every field the
    rest of the pipeline reads. -/
theorem make_scaffold_name_perm_fields (n : Namer) (scName : Str) (rows : List Row) (tags₁ tags₂ : List Str)
    (hp : tags₁.Perm tags₂) (hne : [] ∉ tags₁) (hn : NamerOk n) :
    (∃ e, makeScaffoldName n scName rows tags₁ = .error e ∧ makeScaffoldName n scName rows tags₂ = .error e) ∨
    (∃ n₁ n₂, makeScaffoldName n scName rows tags₁ = .ok n₁ ∧ makeScaffoldName n scName rows tags₂ = .ok n₂ ∧
      n₁.currentScaffoldName = n₂.currentScaffoldName ∧ n₁.currentRank = n₂.currentRank ∧
      n₁.currentHaplotype = n₂.currentHaplotype ∧ n₁.targetTags = n₂.targetTags ∧
      n₁.primaryHaplotype = n₂.primaryHaplotype ∧ n₁.unlocN = n₂.unlocN ∧ n₁.unlocScaffolds = n₂.unlocScaffolds ∧
      n₁.haplotigN = n₂.haplotigN ∧ n₁.haplotigScaffolds = n₂.haplotigScaffolds ∧
      n₁.autosomePrefix = n₂.autosomePrefix ∧ n₁.haplotypeLc = n₂.haplotypeLc) := by
  rw [← make_scaffold_name_perm n scName rows tags₁ tags₂ hp hne hn]
  cases h : makeScaffoldName n scName rows tags₁ with
  | error e => exact .inl ⟨e, rfl, rfl⟩
  | ok n₁ => exact .inr ⟨n₁, n₁, rfl, rfl, rfl, rfl, rfl, rfl, rfl, rfl, rfl, rfl, rfl, rfl, rfl⟩

/-- The underlying fact: two loop bodies commute, as `Except` values. -/
theorem scan_tag_commutes (st : Namer × TagScan) (a b : Str) (ha : a ≠ []) (hb : b ≠ []) (hs : NamerOk st.1) :
    (scanTag st a >>= fun st' => scanTag st' b) = (scanTag st b >>= fun st' => scanTag st' a) :=
  scanTag_comm st a b ha hb hs

/-! ### the invariant is met by every reachable namer -/

theorem namerOk_init (prefix_ : Str) : NamerOk { autosomePrefix := prefix_ } := by
  intro kv h; cases h

theorem namerOk_makeScaffoldName (n n' : Namer) (scName : Str) (rows : List Row) (tags : List Str)
    (hne : [] ∉ tags) (hn : NamerOk n) (h : makeScaffoldName n scName rows tags = .ok n') : NamerOk n' :=
  makeScaffoldName_ok n n' scName rows tags hne hn h

theorem namerOk_labelScaffold (n n' : Namer) (o o' : OverlapResult) (sid : Nat) (frag : Fragment)
    (scTags : List Str) (orig : Str) (hn : NamerOk n)
    (h : labelScaffold n o sid frag scTags orig = .ok (n', o')) : NamerOk n' := by
  unfold NamerOk
  rw [labelScaffold_haplotypeLc n n' o o' sid frag scTags orig h]
  exact hn

/-! ### `label_scaffold` reads the scaffold tag set only through membership -/

/-- Two orderings of the Pretext scaffold's tag set give the same namer and the same labelled result, except for the
    stored `originalTags` (the set itself). -/
theorem label_scaffold_tag_order (n : Namer) (o : OverlapResult) (sid : Nat) (frag : Fragment) (t₁ t₂ : List Str)
    (orig : Str) (hm : ∀ x, x ∈ t₁ ↔ x ∈ t₂) :
    labelScaffold n o sid frag t₂ orig =
      (labelScaffold n o sid frag t₁ orig).map (fun p => (p.1, { p.2 with originalTags := some t₂ })) := by
  have hc : ∀ x, t₁.contains x = t₂.contains x := fun x => by
    rw [Bool.eq_iff_iff]; simp [hm]
  rw [labelScaffold_eq, labelScaffold_eq]
  simp only [finalTag, preTag, hc, apply_ite (Except.map _)]
  rfl

/-! ### non-vacuity and the counterexamples -/

def hap1 : Str := ['H','a','p','1']
def hap2 : Str := ['H','a','p','2']
def ctg : Row := .frag { name := ['c','t','g','1'], start := 1, stop := 100, strand := 1 }
def n0 : Namer := { autosomePrefix := ['S','U','P','E','R','_'] }

def isOk {α} : R α → Bool
  | .ok _ => true
  | .error _ => false

/-- hypotheses satisfiable, with a run that succeeds and changes the namer non-trivially -/
example : [hap1, sPainted, sTarget, ['X']].Perm [['X'], sTarget, hap1, sPainted] ∧
    [] ∉ [hap1, sPainted, sTarget, ['X']] ∧ NamerOk n0 ∧
    (makeScaffoldName n0 ['S','c','1'] [ctg] [hap1, sPainted, sTarget, ['X']]).toOption.map
        (fun n => (n.currentScaffoldName, n.currentRank, n.currentHaplotype, n.targetTags)) =
      some (some ['X'], 2, some hap1, true) ∧
    (makeScaffoldName n0 ['S','c','1'] [ctg] [hap1, sPainted, sTarget, ['X']]).toOption.map (·.haplotypeLc) =
      some [(['h','a','p','1'], hap1)] := by
  refine ⟨by decide +kernel, by decide +kernel, namerOk_init _, by decide +kernel, by decide +kernel⟩

/-- … and one where both orders fail (two haplotype-looking tags) -/
example : isOk (makeScaffoldName n0 [] [ctg] [hap1, hap2]) = false ∧
    isOk (makeScaffoldName n0 [] [ctg] [hap2, hap1]) = false := by decide +kernel

/-- COUNTEREXAMPLE without `[] ∉ tags`: `make_scaffold_name` handed the tag set {"", "Hap1"} succeeds in one order and
    raises TaggingError in the other.  (No file produces this set: `fragment_tags` leaves the empty column out.) -/
theorem empty_tag_order_dependent :
    isOk (makeScaffoldName n0 [] [ctg] [[], hap1]) = true ∧
    isOk (makeScaffoldName n0 [] [ctg] [hap1, []]) = false := by decide +kernel

/-- COUNTEREXAMPLE without `NamerOk n` (not reachable in the real code, shows the hypothesis is used): a dictionary
    that spells "hap1" as "" makes the order of {"Hap1", "Hap2"} matter. -/
theorem bad_namer_order_dependent :
    isOk (makeScaffoldName { n0 with haplotypeLc := [(['h','a','p','1'], [])] } [] [ctg] [hap1, hap2]) = true ∧
    isOk (makeScaffoldName { n0 with haplotypeLc := [(['h','a','p','1'], [])] } [] [ctg] [hap2, hap1]) = false := by
  decide +kernel

end AgpTpf.C17
