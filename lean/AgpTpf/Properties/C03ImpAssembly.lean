/-
  C03 over the SOURCE (T1c), the whole file: `FastaStream.write_assembly` as translated from the current /repo/src/tola/fasta/stream.py
  (`Gen.Imp.FastaStream_write_assembly`: a `for` loop over `assembly.scaffolds` calling the translated `write_scaffold`) IS the model's
  `streamAssembly`, and therefore the bytes the SOURCE writes are the output AGP applied to the input FASTA.

  1. `write_assembly_is_source` — with the model's chunk iterators: NO hypothesis but the fuel bound of `write_scaffold_is_source`, for
     every file, index, `buffer_size`, `line_length` (also `≤ 0`), assembly.  Model and source do NOT differ on how a record starts:
     the source sets `want = line_length` at the top of every `write_scaffold`; the model's `streamScaffold` takes no log and starts from
     `{ out := header, want := w }`, and `streamAssembly` only appends its `out` (the `want := w` it stores in the accumulator is never
     read).  Nothing carries over from one record to the next on either side.
  2. `write_assembly_with_source_iterators` — the same with the source's own translated iterators (`C13.srcGapIter`, `C13.srcSeqIter`),
     under `1 ≤ bs` (true for `bs ≠ 0`: `…_any_bs`; FALSE at `bs = 0`, example below, as for one scaffold);
     `write_assembly_all_source` — also `self.sequence_bytes` is the TRANSLATED one (`C14.sequence_bytes_source_full`), wherever the
     shared file handle stands when it is called: every function on the way from `write_assembly` to `fh.read` is the translated source.
  3. `source_fasta_file_is_agp_applied` — C03 for the source: on well-formed input the translated `write_assembly` returns `.ok` of the
     records of the scaffolds, in order: `>name\n` + the rows applied to the input FASTA, wrapped at `line_length`.
  On an exception (a scaffold naming a missing sequence: `ValueError`) both sides have that exception as the result, decided by the FIRST
  failing scaffold; the records written to the file before it are not part of an `Except` result on either side.
  Helper lemmas: `Proofs/ImpWriteAsm.lean`.
-/
import AgpTpf.Proofs.ImpWriteAsm
import AgpTpf.Proofs.ImpEval
import AgpTpf.Properties.C03Imp
import AgpTpf.Properties.C13Imp
import AgpTpf.Properties.C14ImpSeqBytes
import AgpTpf.Properties.C03Source
namespace AgpTpf.C03
open AgpTpf AgpTpf.WrapProofs AgpTpf.StreamProofs AgpTpf.ImpEval

/-! ## 1. with the model's iterators -/

/-- **`FastaStream.write_assembly`, as translated, returns what the model's `streamAssembly` writes** — same bytes, same exception
    (that of the first scaffold whose record fails) — for EVERY `file`, index, `buffer_size`, `line_length` and assembly, for every fuel
    of the `while True` loop of `write_scaffold` above the length of every chunk the iterators yield for the rows of the scaffolds
    (`hfuel`: the hypothesis of `write_scaffold_is_source` for every scaffold; see there why it is needed and tight). -/
theorem write_assembly_is_source (file : Bytes) (idx : List (Str × FastaInfo)) (bs w : Int) (a : Assembly) (fuel : Nat)
    (hfuel : ∀ sc ∈ a.scaffolds, ∀ row ∈ sc.rows,
      (∀ c ∈ modelGapIter bs row Gen.gapCharacter, c.data.length < fuel) ∧
      (∀ cs, modelSeqIter file idx bs row = .ok cs → ∀ c ∈ cs, c.data.length < fuel)) :
    Gen.Imp.FastaStream_write_assembly fuel a (modelGapIter bs) (modelSeqIter file idx bs) w Gen.gapCharacter
      = (streamAssembly file idx bs w a.scaffolds).map (·.out) :=
  ImpWriteAsm.write_assembly_of_scaffolds fun sc hsc => write_scaffold_is_source file idx bs w sc fuel (hfuel sc hsc)

/-! Examples: the file `>a\nACGT\nNNAC\nGT\n>b\nTTTT\n` (`C14.seqFile`; `a`: offset 3, `b`: offset 19, 4 residues per line, 5 bytes per
    line); `buffer_size = 3`, line length 4, fuel 4.  Scaffold `s1` = a[1..4] forward, a gap of 5, a[3..10] on the minus strand
    (`GTNNACGT` → `ACGTNNAC`); scaffold `s2` = b[1..4] forward, a[9..10] forward. -/

def asmIdx : List (Str × FastaInfo) := [("a".toList, C14.seqInfoA), ("b".toList, C14.seqInfoB)]
def asmS1 : Scaffold := { name := "s1".toList, rows := [
  .frag { oid := 0, name := "a".toList, start := 1, stop := 4, strand := 1, tags := [] },
  .gap { length := 5, gapType := "scaffold".toList },
  .frag { oid := 1, name := "a".toList, start := 3, stop := 10, strand := -1, tags := [] }] }
def asmS2 : Scaffold := { name := "s2".toList, rows := [
  .frag { oid := 2, name := "b".toList, start := 1, stop := 4, strand := 1, tags := [] },
  .frag { oid := 3, name := "a".toList, start := 9, stop := 10, strand := 1, tags := [] }] }
/-- a scaffold naming a sequence that is not in the index -/
def asmBad : Scaffold := { name := "s3".toList, rows := [
  .gap { length := 2, gapType := "scaffold".toList },
  .frag { oid := 4, name := "zz".toList, start := 1, stop := 4, strand := 1, tags := [] }] }

/-- the translated source, run -/
example : Gen.Imp.FastaStream_write_assembly 4 { name := "asm".toList, scaffolds := [asmS1, asmS2] }
    (modelGapIter 3) (modelSeqIter C14.seqFile asmIdx 3) 4 Gen.gapCharacter
    = .ok (strToBytes ">s1\nACGT\nNNNN\nNACG\nTNNA\nC\n>s2\nTTTT\nGT\n".toList) := by
  str_lits
  decide +kernel
/-- and the model -/
example : (streamAssembly C14.seqFile asmIdx 3 4 [asmS1, asmS2]).map (·.out)
    = .ok (strToBytes ">s1\nACGT\nNNNN\nNACG\nTNNA\nC\n>s2\nTTTT\nGT\n".toList) := by
  str_lits
  decide +kernel

/-- `hfuel` is satisfiable there (every chunk has at most 3 bytes) -/
example : ∀ sc ∈ [asmS1, asmS2], ∀ row ∈ sc.rows,
    (∀ c ∈ modelGapIter 3 row Gen.gapCharacter, c.data.length < 4) ∧
    (∀ cs, modelSeqIter C14.seqFile asmIdx 3 row = .ok cs → ∀ c ∈ cs, c.data.length < 4) := by
  simp only [asmS1, asmS2, asmIdx]
  str_lits
  decide +kernel

/-- the second scaffold names a missing sequence: `ValueError` on both sides (after the first record, and the gap of the second, went
    to the file); it is the FIRST failing scaffold that decides — the third one would be fine -/
example : Gen.Imp.FastaStream_write_assembly 4 { name := "asm".toList, scaffolds := [asmS1, asmBad, asmS2] }
      (modelGapIter 3) (modelSeqIter C14.seqFile asmIdx 3) 4 Gen.gapCharacter = .error .value
    ∧ (streamAssembly C14.seqFile asmIdx 3 4 [asmS1, asmBad, asmS2]).map (·.out) = .error .value := by
  str_lits
  decide +kernel

/-- every record starts a fresh line: at line length 3 the first record (4 + 5 + 8 = 17 residues) ends in the incomplete line `AC`
    (`want = 1` when `write_scaffold` returns); the closing LF is written and the next record starts with `want = line_length` again -/
example : Gen.Imp.FastaStream_write_assembly 4 { name := "asm".toList, scaffolds := [asmS1, asmS2] }
    (modelGapIter 3) (modelSeqIter C14.seqFile asmIdx 3) 3 Gen.gapCharacter
    = .ok (strToBytes ">s1\nACG\nTNN\nNNN\nACG\nTNN\nAC\n>s2\nTTT\nTGT\n".toList) := by
  str_lits
  decide +kernel

/-- no scaffolds: nothing is written -/
example : Gen.Imp.FastaStream_write_assembly 0 { name := "asm".toList } (modelGapIter 3) (modelSeqIter [] [] 3) 4 Gen.gapCharacter
    = .ok [] := by
  str_lits
  decide +kernel

/-! ## 2. with the source's own iterators -/

/-- for every `buffer_size` but 0 (FALSE for `bs = 0`, example below) and wherever `sequence_bytes` leaves the cursor of the
    `BytesIO` it returns (`p`) -/
theorem write_assembly_with_source_iterators_any_bs (file : Bytes) (idx : List (Str × FastaInfo)) (bs w : Int) (p : Bytes → Nat)
    (a : Assembly) (fuel : Nat) (hbs : bs ≠ 0)
    (hfuel : ∀ sc ∈ a.scaffolds, ∀ row ∈ sc.rows,
      (∀ c ∈ modelGapIter bs row Gen.gapCharacter, c.data.length < fuel) ∧
      (∀ cs, modelSeqIter file idx bs row = .ok cs → ∀ c ∈ cs, c.data.length < fuel)) :
    Gen.Imp.FastaStream_write_assembly fuel a (C13.srcGapIter bs) (C13.srcSeqIter file idx bs p) w Gen.gapCharacter
      = (streamAssembly file idx bs w a.scaffolds).map (·.out) :=
  ImpWriteAsm.write_assembly_of_scaffolds
    fun sc hsc => C13.write_scaffold_with_source_iterators_any_bs file idx bs w p sc fuel hbs (hfuel sc hsc)

/-- **The source's `write_assembly` over the source's own chunk iterators writes the model's bytes** — same bytes, same exception — for
    every `file`, index, `buffer_size ≥ 1`, `line_length` (also `≤ 0`) and assembly.  `C13.srcGapIter` / `C13.srcSeqIter` are built from
    the TRANSLATED `get_gap_iter`, `get_sequence_iter`, `get_info`, `fwd_chunks`, `rev_chunks`, `revcomp_bytes_io`, `reverse_complement`
    (and the model's `sequenceBytes`; `write_assembly_all_source` below plugs in the translated `sequence_bytes` as well). -/
theorem write_assembly_with_source_iterators (file : Bytes) (idx : List (Str × FastaInfo)) (bs w : Int) (p : Bytes → Nat)
    (a : Assembly) (fuel : Nat) (hbs : 1 ≤ bs)
    (hfuel : ∀ sc ∈ a.scaffolds, ∀ row ∈ sc.rows,
      (∀ c ∈ modelGapIter bs row Gen.gapCharacter, c.data.length < fuel) ∧
      (∀ cs, modelSeqIter file idx bs row = .ok cs → ∀ c ∈ cs, c.data.length < fuel)) :
    Gen.Imp.FastaStream_write_assembly fuel a (C13.srcGapIter bs) (C13.srcSeqIter file idx bs p) w Gen.gapCharacter
      = (streamAssembly file idx bs w a.scaffolds).map (·.out) :=
  write_assembly_with_source_iterators_any_bs file idx bs w p a fuel (by omega) hfuel

/-- the translated writer over the translated iterators, run (cursors where Python leaves them), and the missing sequence -/
example : Gen.Imp.FastaStream_write_assembly 4 { name := "asm".toList, scaffolds := [asmS1, asmS2] }
    (C13.srcGapIter 3) (C13.srcSeqIter C14.seqFile asmIdx 3 List.length) 4 Gen.gapCharacter
    = .ok (strToBytes ">s1\nACGT\nNNNN\nNACG\nTNNA\nC\n>s2\nTTTT\nGT\n".toList) := by
  str_lits
  decide +kernel
example : Gen.Imp.FastaStream_write_assembly 4 { name := "asm".toList, scaffolds := [asmS1, asmBad, asmS2] }
    (C13.srcGapIter 3) (C13.srcSeqIter C14.seqFile asmIdx 3 List.length) 4 Gen.gapCharacter = .error .value := by
  str_lits
  decide +kernel

/-- `buffer_size = 0` (excluded above): the translated source ends in `ZeroDivisionError` on the first Fragment row, as Python does;
    the model (total `pyDiv`) writes a file — the tie with the source's iterators is FALSE without `bs ≠ 0`, exactly as for one
    scaffold (`C13Imp`); with the MODEL's iterators (`write_assembly_is_source`) there is no such hypothesis -/
example : Gen.Imp.FastaStream_write_assembly 9 { name := "asm".toList, scaffolds := [asmS2] }
      (C13.srcGapIter 0) (C13.srcSeqIter C14.seqFile asmIdx 0 List.length) 4 Gen.gapCharacter = .error .zeroDiv
    ∧ (streamAssembly C14.seqFile asmIdx 0 4 [asmS2]).map (·.out) = .ok (strToBytes ">s2\nTTTT\nGT\n>\n".toList) := by
  str_lits
  decide +kernel

/-- **well-formed input: `buffer_size < fuel` is enough** (`StreamProofs.RowOK`: every fragment row names an index entry that lays its
    residues out in `file` and lies within them; gap rows of any length) -/
theorem write_assembly_with_source_iterators_of_rowOK (file : Bytes) (idx : List (Str × FastaInfo)) (resOf : Str → Bytes)
    (bs w : Int) (p : Bytes → Nat) (a : Assembly) (fuel : Nat) (hbs : 1 ≤ bs)
    (hok : ∀ sc ∈ a.scaffolds, ∀ r ∈ sc.rows, RowOK file idx resOf r) (hfuel : bs.toNat < fuel) :
    Gen.Imp.FastaStream_write_assembly fuel a (C13.srcGapIter bs) (C13.srcSeqIter file idx bs p) w Gen.gapCharacter
      = (streamAssembly file idx bs w a.scaffolds).map (·.out) :=
  ImpWriteAsm.write_assembly_of_scaffolds
    fun sc hsc => C13.write_scaffold_with_source_iterators_of_rowOK file idx resOf bs w p sc fuel hbs (hok sc hsc) hfuel

/-! ### `self.sequence_bytes` translated as well -/

/-- `self.sequence_bytes` as TRANSLATED (`Gen.Imp.FastaIndex_sequence_bytes_imp`, over the file handle `self.fh` = bytes + cursor),
    called with the handle at position `pos info start end` — ANY position: in Python the handle is shared and stands where the
    previous call left it; the first operation of `sequence_bytes` is an absolute `seek`, so the position does not matter
    (`srcSequenceBytesT_eq`: the right-hand side does not mention `pos`).  The result is the `BytesIO` (cursor at its end). -/
def srcSequenceBytesT (file : Bytes) (pos : FastaInfo → Int → Int → Nat) : FastaInfo → Int → Int → R PyRt.BytesIO :=
  fun info s e => (Gen.Imp.FastaIndex_sequence_bytes_imp { data := file, pos := pos info s e } info s e).map (·.2)

theorem srcSequenceBytesT_eq (file : Bytes) (pos : FastaInfo → Int → Int → Nat) :
    srcSequenceBytesT file pos = C13.srcSequenceBytes file List.length := by
  funext info s e
  simp only [srcSequenceBytesT, C13.srcSequenceBytes, C14.sequence_bytes_source_full]
  cases sequenceBytes file info s e <;> rfl

/-- `fai.get_sequence_iter(row)` from TRANSLATED functions only: `C13.srcSeqIter` with the translated `sequence_bytes` -/
def srcSeqIterT (file : Bytes) (idx : List (Str × FastaInfo)) (bs : Int) (pos : FastaInfo → Int → Int → Nat) (row : Row) :
    R (List PyRt.BytesIO) :=
  match row with
  | .frag f =>
    Gen.Imp.FastaIndex_get_sequence_iter f (fun name => Gen.Imp.FastaIndex_get_info name idx)
      (fun info s e => Gen.Imp.FastaIndex_rev_chunks_imp info s e bs (srcSequenceBytesT file pos) C13.srcRevcompBytesIO)
      (fun info s e => Gen.Imp.FastaIndex_fwd_chunks_imp info s e bs (srcSequenceBytesT file pos))
  | .gap _ => .error .attribute

theorem srcSeqIterT_eq (file : Bytes) (idx : List (Str × FastaInfo)) (bs : Int) (pos : FastaInfo → Int → Int → Nat) :
    srcSeqIterT file idx bs pos = C13.srcSeqIter file idx bs List.length := by
  funext row
  cases row <;> simp only [srcSeqIterT, C13.srcSeqIter, srcSequenceBytesT_eq]

/-- **Every function between `write_assembly` and `fh.read` is the translated source, and the bytes are the model's**:
    `write_assembly` → `write_scaffold` → `get_gap_iter` / `get_sequence_iter` → `get_info`, `fwd_chunks` / `rev_chunks`
    (→ `revcomp_bytes_io` → `reverse_complement`) → `sequence_bytes` on a file handle standing anywhere.  `1 ≤ bs` as above. -/
theorem write_assembly_all_source (file : Bytes) (idx : List (Str × FastaInfo)) (bs w : Int) (pos : FastaInfo → Int → Int → Nat)
    (a : Assembly) (fuel : Nat) (hbs : 1 ≤ bs)
    (hfuel : ∀ sc ∈ a.scaffolds, ∀ row ∈ sc.rows,
      (∀ c ∈ modelGapIter bs row Gen.gapCharacter, c.data.length < fuel) ∧
      (∀ cs, modelSeqIter file idx bs row = .ok cs → ∀ c ∈ cs, c.data.length < fuel)) :
    Gen.Imp.FastaStream_write_assembly fuel a (C13.srcGapIter bs) (srcSeqIterT file idx bs pos) w Gen.gapCharacter
      = (streamAssembly file idx bs w a.scaffolds).map (·.out) := by
  rw [srcSeqIterT_eq]
  exact write_assembly_with_source_iterators file idx bs w _ a fuel hbs hfuel

/-- run, with the handle parked at byte 7 before every call -/
example : Gen.Imp.FastaStream_write_assembly 4 { name := "asm".toList, scaffolds := [asmS1, asmS2] }
    (C13.srcGapIter 3) (srcSeqIterT C14.seqFile asmIdx 3 (fun _ _ _ => 7)) 4 Gen.gapCharacter
    = .ok (strToBytes ">s1\nACGT\nNNNN\nNACG\nTNNA\nC\n>s2\nTTTT\nGT\n".toList) := by
  str_lits
  decide +kernel

/-! ## 3. C03 for the source -/

/-- `source_fasta_file_is_agp_applied` below, in the vocabulary of `Properties/C03.lean` (`recordBytes w name body` = header line +
    `wrapBody w body`), with the iterators of `C13Imp` (the model's `sequenceBytes` for `self.sequence_bytes`, any cursor convention `p`) -/
theorem source_fasta_file_is_agp_applied_records {bs w : Int} (hbs : 1 ≤ bs) (hw : 1 ≤ w) (file : Bytes)
    (idx : List (Str × FastaInfo)) (resOf : Str → Bytes) (p : Bytes → Nat) (a : Assembly) (fuel : Nat)
    (hfuel : bs.toNat < fuel) (hok : ∀ sc ∈ a.scaffolds, ∀ r ∈ sc.rows, RowOK file idx resOf r) :
    Gen.Imp.FastaStream_write_assembly fuel a (C13.srcGapIter bs) (C13.srcSeqIter file idx bs p) w Gen.gapCharacter
      = .ok (a.scaffolds.map (fun sc => recordBytes w sc.name (rowsBody resOf sc.rows))).flatten := by
  rw [write_assembly_with_source_iterators_of_rowOK file idx resOf bs w p a fuel hbs hok hfuel]
  obtain ⟨lg, h1, h2⟩ := fasta_file_is_agp_applied hbs hw file idx resOf a.scaffolds hok
  rw [h1]
  simp only [Except.map, h2]

/-- **C03 over the source.**  For every `buffer_size ≥ 1`, `line_length ≥ 1`, every fuel above `buffer_size`, every assembly all of whose
    fragment rows name an index entry that lays its residues out in the input FASTA `file` and lie within them (`RowOK`; `resOf name`
    = the residues of input record `name`): the translated `FastaStream.write_assembly`, over the translated iterators and the
    translated `sequence_bytes`, does NOT raise and returns exactly the records of the scaffolds, in scaffold order, one per scaffold,
    nothing else — each record `>name\n` followed by the rows of the output AGP applied to the input FASTA (`rowsBody`: the addressed
    residues, reverse-complemented on the minus strand, every gap as that many `N`) cut into lines of `line_length` bytes
    (the last one 1..`line_length`), each ended by LF. -/
theorem source_fasta_file_is_agp_applied {bs w : Int} (hbs : 1 ≤ bs) (hw : 1 ≤ w) (file : Bytes)
    (idx : List (Str × FastaInfo)) (resOf : Str → Bytes) (pos : FastaInfo → Int → Int → Nat) (a : Assembly) (fuel : Nat)
    (hfuel : bs.toNat < fuel) (hok : ∀ sc ∈ a.scaffolds, ∀ r ∈ sc.rows, RowOK file idx resOf r) :
    Gen.Imp.FastaStream_write_assembly fuel a (C13.srcGapIter bs) (srcSeqIterT file idx bs pos) w Gen.gapCharacter
      = .ok (a.scaffolds.map (fun sc => [62] ++ strToBytes sc.name ++ [10]
              ++ ((linesOf w.toNat (rowsBody resOf sc.rows)).map (· ++ [10])).flatten)).flatten := by
  rw [srcSeqIterT_eq, source_fasta_file_is_agp_applied_records hbs hw file idx resOf _ a fuel hfuel hok]
  congr 3
  funext sc
  rw [recordBytes]
  have : w = ((w.toNat : Nat) : Int) := by omega
  rw [this, wrapBody_eq_lines w.toNat (by omega), Int.toNat_natCast]

/-- the hypotheses are satisfiable: the fixture of `Proofs/C03Example.lean` (`x:1-4(+) gap(2) x:6-10(-)` over a 3-line record, and the
    same scaffold reversed), `buffer_size = 3`, line length 4, fuel 4; the translated source run on it; and what the theorem says it
    returns (`AACC NN TAACN`, then its reverse complement) -/
example : (∀ sc ∈ [StreamExample.exScaffold, StreamExample.exScaffold.reverse], ∀ r ∈ sc.rows,
    RowOK StreamExample.exFile StreamExample.exIdx StreamExample.exResOf r) ∧ (3 : Int).toNat < 4 := by
  refine ⟨?_, by decide⟩
  intro sc hsc
  simp only [List.mem_cons, List.not_mem_nil, or_false] at hsc
  rcases hsc with rfl | rfl
  · exact StreamExample.exRowsOK
  · intro r hr
    have hrows : StreamExample.exScaffold.reverse.rows =
        [.frag { name := "x".toList, start := 6, stop := 10, strand := 1 }, .gap { length := 2, gapType := [] },
         .frag { name := "x".toList, start := 1, stop := 4, strand := -1 }] := by decide
    rw [hrows] at hr
    simp only [List.mem_cons, List.not_mem_nil, or_false] at hr
    rcases hr with rfl | rfl | rfl
    · exact StreamExample.exFragOK _ rfl (by decide) (by decide) (by decide)
    · trivial
    · exact StreamExample.exFragOK _ rfl (by decide) (by decide) (by decide)
example : Gen.Imp.FastaStream_write_assembly 4
    { name := "asm".toList, scaffolds := [StreamExample.exScaffold, StreamExample.exScaffold.reverse] }
    (C13.srcGapIter 3) (srcSeqIterT StreamExample.exFile StreamExample.exIdx 3 (fun _ _ _ => 0)) 4 Gen.gapCharacter
    = .ok (strToBytes ">s\nAACC\nNNTA\nACN\n>s\nNGTT\nANNG\nGTT\n".toList) := by
  str_lits
  decide +kernel
example : ([StreamExample.exScaffold, StreamExample.exScaffold.reverse].map (fun sc => [62] ++ strToBytes sc.name ++ [10]
      ++ ((linesOf (4 : Int).toNat (rowsBody StreamExample.exResOf sc.rows)).map (· ++ [10])).flatten)).flatten
    = strToBytes ">s\nAACC\nNNTA\nACN\n>s\nNGTT\nANNG\nGTT\n".toList := by
  str_lits
  decide +kernel

end AgpTpf.C03
