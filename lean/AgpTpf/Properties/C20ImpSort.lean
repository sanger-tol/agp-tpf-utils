/-
  C20 (T1c, phase 2) — `Assembly.smart_sort_scaffolds` of the Python source (assembly.py), as translated, IS the model's `smartSort`.

  Source side: `Gen.Imp.Assembly_smart_sort_scaffolds heap_b refs` in `AgpTpf/Gen/Imp2.lean` (generated; carries the Python text):
  `self.scaffolds.sort(key=smart_sort_key)`, `smart_sort_key(s) = (s.rank, self.name_natural_key(s))`, over REFERENCES into the arena
  `heap_b` of fused Scaffold objects = `PyRt.sortedByKeyLt? PyRt.smartKeyLt? …` (`Model/PyRtPhase2.lean`): all keys first, TypeError if
  SOME pair of keys present is incomparable (an `int` meets a `str` in Python's tuple comparison), otherwise the stable sort by
  `¬ (b < a)`.
  Model side: `smartSort : List Scaffold → R (List Scaffold)` (`Model/NaturalKey.lean`), the stable sort by `smartLe` on `(rank, NatKey)`.

   1  `flat_keys_comparable`, `smart_keys_comparable`   Python's `<` on two keys `name_natural_key` produces never raises TypeError
   2  `flat_key_lt_iff`, `smart_key_lt_iff`             … and is the model's `keyLe` / `smartLe` minus equality;
      `flat_key_not_lt`, `smart_key_not_lt`             the comparator the sort uses, `¬ (b < a)`, IS `keyLe a b` / `smartLe a b`
                                                        (so the two sorts agree on equal keys too: same stability direction)
   3  `smart_sort_is_source`                            NO hypothesis (any arena, any references, dangling ones included)
      `smart_sort_refs`, `smart_sort_perm`, `smart_sort_stable`   the result on the references themselves
   4  `smart_sort_total`                                the source's sort never raises

  No difference between source and model was found.  (`PyRt.sortedByKeyLt?` over-approximates WHEN CPython's timsort would raise TypeError;
  by 1 that branch is dead here, so the over-approximation is not observable for this caller.)

  Proofs: `AgpTpf/Proofs/ImpSmartSort.lean` (a lemma about `sortedByKeyLt?` for an ARBITRARY key function with a hypothesis on what one
  evaluation returns; the generated key lambda is only met by `simp`).
-/
import AgpTpf.Proofs.ImpSmartSort
import AgpTpf.Proofs.ImpEval
namespace AgpTpf.C20
open AgpTpf
open scoped AgpTpf.ImpEval

/-! ## 1–2  Python's `<` on the keys -/

/-- **1** texts and numbers alternate at the same positions in every flat key: Python's tuple comparison of two keys never compares an
    `int` with a `str` (no TypeError). -/
theorem flat_keys_comparable (a b : NatKey) : (PyRt.keyToksLt? (flatKey a) (flatKey b)).isSome := by
  rw [ImpSmartSort.keyLt]; rfl

/-- **2** … and `<` on flat keys is the model's `keyLe` minus equality -/
theorem flat_key_lt_iff (a b : NatKey) : PyRt.keyToksLt? (flatKey a) (flatKey b) = some (keyLe a b && a ≠ b) := by
  rw [ImpSmartSort.keyLt]; simp

/-- the comparator a sort by these keys uses: `¬ (b < a)` is `keyLe a b` -/
theorem flat_key_not_lt (a b : NatKey) : (!((PyRt.keyToksLt? (flatKey b) (flatKey a)).getD false)) = keyLe a b :=
  ImpSmartSort.not_keyLt_swap a b

/-- the same with ranks: `(rank, key)` tuples are always comparable -/
theorem smart_keys_comparable (r₁ r₂ : Int) (a b : NatKey) :
    (PyRt.smartKeyLt? (r₁, flatKey a) (r₂, flatKey b)).isSome := by
  rw [ImpSmartSort.smartLt]; rfl

theorem smart_key_lt_iff (r₁ r₂ : Int) (a b : NatKey) :
    PyRt.smartKeyLt? (r₁, flatKey a) (r₂, flatKey b) = some (smartLe (r₁, a) (r₂, b) && (r₁, a) ≠ (r₂, b)) := by
  rw [ImpSmartSort.smartLt]; simp

/-- `list.sort` puts `x` in front of the first `y` that is not `< x`; the model's `stableSort` in front of the first `y` with
    `smartLe x y`: the same test (equal keys included — same stability direction) -/
theorem smart_key_not_lt (r₁ r₂ : Int) (a b : NatKey) :
    (!((PyRt.smartKeyLt? (r₂, flatKey b) (r₁, flatKey a)).getD false)) = smartLe (r₁, a) (r₂, b) :=
  ImpSmartSort.not_smartLt_swap r₁ r₂ a b

example : PyRt.keyToksLt? (flatKey (keyOf "SUPER_2".toList)) (flatKey (keyOf "SUPER_10".toList)) = some true := by
  str_lits
  decide +kernel
example : PyRt.keyToksLt? (flatKey (keyOf "SUPER_10".toList)) (flatKey (keyOf "SUPER_2".toList)) = some false := by
  str_lits
  decide +kernel
example : PyRt.keyToksLt? (flatKey (keyOf "SUPER_02".toList)) (flatKey (keyOf "SUPER_2".toList)) = some false := by
  str_lits
  decide +kernel
example : PyRt.smartKeyLt? (2, flatKey (keyOf "A".toList)) (1, flatKey (keyOf "B".toList)) = some false := by decide +kernel
/-- the TypeError of the run-time semantics is real: keys that do NOT alternate the same way are incomparable -/
example : PyRt.keyToksLt? [.txt ['a'], .num 1] [.txt ['a'], .txt ['b']] = none := by decide +kernel
example : PyRt.sortedByKeyLt? PyRt.keyToksLt? (fun (x : List PyRt.KeyTok) => .ok x)
    [[.txt ['a'], .num 1], [.txt ['a'], .txt ['b']]] = .error .type := by decide +kernel

/-! ## 3  the tie -/

/-- the source's sort on the REFERENCES: the stable sort by the model's `smartLe` on `(rank, natural key)` of the scaffold each reference
    points at (`ImpSmartSort.refSorted`) — for every arena and every list of references -/
theorem smart_sort_refs (heap_b : List Scaffold) (refs : List Nat) :
    Gen.Imp.Assembly_smart_sort_scaffolds heap_b refs = .ok (ImpSmartSort.refSorted heap_b refs) := by
  unfold Gen.Imp.Assembly_smart_sort_scaffolds
  rw [bind_ok]
  apply ImpSmartSort.sort_refs
  intro r
  simp [source_natural_key_eq, bind, Except.bind]

/-- **T1c tie** `smart_sort_scaffolds()` of the source = the model's `smartSort`, on the Scaffold objects the references point at. -/
theorem smart_sort_is_source (heap_b : List Scaffold) (refs : List Nat) :
    (Gen.Imp.Assembly_smart_sort_scaffolds heap_b refs).map (fun rs => rs.map (PyRt.bsGet heap_b))
      = smartSort (refs.map (PyRt.bsGet heap_b)) := by
  rw [smart_sort_refs, smartSort_total, ← ImpSmartSort.refSorted_deref]
  rfl

/-- the list of references left behind is a permutation of the one that was there -/
theorem smart_sort_perm (heap_b : List Scaffold) (refs rs : List Nat)
    (h : Gen.Imp.Assembly_smart_sort_scaffolds heap_b refs = .ok rs) : rs.Perm refs := by
  rw [smart_sort_refs] at h; cases h
  exact ImpSmartSort.refSorted_perm heap_b refs

/-- stability on the references: those whose scaffolds share a `(rank, natural_key)` keep their order -/
theorem smart_sort_stable (heap_b : List Scaffold) (refs rs : List Nat)
    (h : Gen.Imp.Assembly_smart_sort_scaffolds heap_b refs = .ok rs) (k : Int × NatKey) :
    rs.filter (fun r => ((PyRt.bsGet heap_b r).rank, keyOf (PyRt.bsGet heap_b r).name) = k)
      = refs.filter (fun r => ((PyRt.bsGet heap_b r).rank, keyOf (PyRt.bsGet heap_b r).name) = k) := by
  rw [smart_sort_refs] at h; cases h
  exact ImpSmartSort.refSorted_stable heap_b refs k

/-- an arena for the examples: SUPER_02 and SUPER_2 have the same key; rank goes first -/
def sortHeap : List Scaffold := [
  { name := "SUPER_10".toList, rank := 1 }, { name := "SUPER_2".toList, rank := 1 },
  { name := "SUPER_2_unloc_1".toList, rank := 2 }, { name := "SUPER_02".toList, rank := 1 },
  { name := "scaffold_7".toList, rank := 3 }, { name := "chrIV".toList, rank := 1 }]

example : Gen.Imp.Assembly_smart_sort_scaffolds sortHeap [4, 0, 2, 3, 1, 5] = .ok [3, 1, 0, 5, 2, 4] := by
  rw [sortHeap]; str_lits
  decide +kernel
/-- equal keys keep their input order (here SUPER_2 = ref 1 comes before SUPER_02 = ref 3) -/
example : Gen.Imp.Assembly_smart_sort_scaffolds sortHeap [4, 0, 2, 1, 3, 5] = .ok [1, 3, 0, 5, 2, 4] := by
  rw [sortHeap]; str_lits
  decide +kernel
/-- a reference outside the arena reads the default scaffold (empty name, rank 0) on both sides -/
example : Gen.Imp.Assembly_smart_sort_scaffolds sortHeap [4, 0, 9] = .ok [9, 0, 4] := by
  rw [sortHeap]; str_lits
  decide +kernel
example : smartSort ([4, 0, 2, 3, 1, 5].map (PyRt.bsGet sortHeap)) = .ok ([3, 1, 0, 5, 2, 4].map (PyRt.bsGet sortHeap)) := by
  rw [sortHeap]; str_lits
  decide +kernel

/-! ## 4  the source's sort never raises -/

theorem smart_sort_total (heap_b : List Scaffold) (refs : List Nat) :
    ∃ rs, Gen.Imp.Assembly_smart_sort_scaffolds heap_b refs = .ok rs :=
  ⟨_, smart_sort_refs heap_b refs⟩

example : ∃ rs, Gen.Imp.Assembly_smart_sort_scaffolds sortHeap [5, 4, 3, 2, 1, 0] = .ok rs := by
  rw [sortHeap]; str_lits
  exact ⟨[3, 1, 0, 5, 2, 4], by decide +kernel⟩

end AgpTpf.C20
