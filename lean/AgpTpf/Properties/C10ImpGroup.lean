/-
  C10 (T1c, phase 2) — the `ChrGroup` methods of `assembly/build_utils.py` as translated ARE the model's group functions.

  Source side: `Gen.Imp.ChrGroup___init__`, `ChrGroup_haplotype_dict`, `ChrGroup_add_scaffold_to_haplotype`,
  `ChrGroup_original_tags_of_haplotype_scaffold`, `ChrGroup_length_of_first_haplotype`, `ChrGroup_multi_chr_list`,
  `ChrGroup_max_hap_set_count`, `ChrGroup_name_chromosome` in `AgpTpf/Gen/Imp2.lean` (each with the Python text it came from).
  Model side (`Model/Remap.lean`): `newGroup`, `groupAdd`, `groupFirstLength`, `multiChrList`, `nameGroup`, and the inline use of
  `originalTags` in `buildGroups`.

  The source's `ChrGroup.data : PyRt.GData` has `Option Str` keys (what `Scaffold.original_name` holds); the model's `GroupData` has `Str` keys.
  `ImpChrGroup.absG` maps `some k ↦ k` (and a None key to `""`, unreachable); `ImpChrGroup.KeysSome` = no key is None;
  `ImpChrGroup.KeysNonEmpty` = every key is a non-empty string (what `build_groups` guarantees before it stores anything).
  Scaffold references are indices into `heap_b`; the model's `fs.getD i default` and the source's `PyRt.bsGet heap_b i` are the same
  function (`ImpChrGroup.bsGet_eq_getD`, by `rfl`), so NO theorem below needs the references to be in range.

  Where the two sides differ (all on inputs the callers never produce) — each with a theorem or an `example` below:
    * `__init__` with a repeated haplotype: the source overwrites (one key), `newGroup` keeps both entries;
    * `add_scaffold_to_haplotype` with an unknown haplotype: source AttributeError, `groupAdd` creates the key;
    * `multi_chr_list` / `name_chromosome` with more than 1114047 (= 0x110000 − ord "A") names: source ValueError from `chr`, model carries on;
    * `name_chromosome` with an EMPTY original name: `str.replace("", x)` inserts `x` around every character, `replaceAll` is the identity;
      with a None original name (and a scaffold under it): source TypeError; with `chr_n < 0`: `str(-3) = "-3"`, the model takes a `Nat`;
    * `original_tags_of_haplotype_scaffold` with an unknown haplotype: source TypeError (`None[...]`), model KeyError (it defaults to `{}`).
  Proofs: `AgpTpf/Proofs/ImpChrGroup.lean`.
-/
import AgpTpf.Proofs.ImpEval
import AgpTpf.Proofs.ImpChrGroup
namespace AgpTpf.C10
open AgpTpf AgpTpf.ImpChrGroup
open scoped AgpTpf.ImpEval

/-! ### the input the `example`s run on: three fused scaffolds, two of them from Pretext scaffold `S_10`, and two groups -/

def gH1 : Str := ['H', 'a', 'p', '1']
def gH2 : Str := ['H', 'a', 'p', '2']
def gO10 : Str := ['S', '_', '1', '0']
def gO11 : Str := ['S', '_', '1', '1']
def gPre : Str := ['S', 'U', '_']
def gHeap : List Scaffold :=
  [ { name := gO10, originalName := some gO10, originalTags := some [sSingleton],
      rows := [.frag { oid := 1, name := ['c', '1'], start := 1, stop := 100, strand := 1 }] },
    { name := gO10 ++ ['_', 'u', '1'], originalName := some gO10,
      rows := [.frag { oid := 2, name := ['c', '2'], start := 1, stop := 50, strand := 1 }, .gap ⟨200, ['s']⟩] },
    { name := gO11, originalName := some gO11,
      rows := [.frag { oid := 3, name := ['c', '3'], start := 11, stop := 17, strand := -1 }] } ]
/-- two original names in the first haplotype (what `check_groups` reports as an error) -/
def gData2 : PyRt.GData := [(gH1, [(some gO10, [0, 1]), (some gO11, [2])]), (gH2, [])]
/-- one original name per haplotype -/
def gData1 : PyRt.GData := [(gH1, [(some gO10, [0, 1])]), (gH2, [(some gO11, [2])])]

example : KeysNonEmpty gData2 ∧ KeysNonEmpty gData1 := ⟨keysNonEmpty_of_B _ (by decide +kernel), keysNonEmpty_of_B _ (by decide +kernel)⟩
example : ∀ kv ∈ gData2, (kv.2.length : Int) ≤ 1114047 := by decide +kernel

/-! ### 1. `ChrGroup.__init__` -/

/-- for EVERY list of haplotypes: the keys in first-occurrence order (`data[hap] = {}` overwrites), each with an empty dictionary -/
theorem chrgroup_init_is_source (haps : List (Str × Bool)) :
    Gen.Imp.ChrGroup___init__ haps = .ok (((haps.map (·.1)).foldl sAdd []).map (fun h => (h, []))) :=
  init_nf haps

/-- modulo `absG` this is the model's `newGroup` of the de-duplicated haplotypes, and the invariants hold -/
theorem chrgroup_init_is_newGroup (haps : List (Str × Bool)) :
    ∃ d, Gen.Imp.ChrGroup___init__ haps = .ok d ∧ absG d = newGroup ((haps.map (·.1)).foldl sAdd []) ∧ KeysNonEmpty d :=
  ⟨_, chrgroup_init_is_source haps, absG_emptyVals _, keysNonEmpty_emptyVals _⟩

/-- distinct haplotype texts (the caller passes the keys of a dictionary): literally `newGroup` of them -/
theorem chrgroup_init_is_source_nodup (haps : List (Str × Bool)) (h : (haps.map (·.1)).Nodup) :
    Gen.Imp.ChrGroup___init__ haps = .ok (haps.map (fun kv => (kv.1, []))) ∧
    absG (haps.map (fun kv => (kv.1, []))) = newGroup (haps.map (·.1)) := by
  have e : (haps.map (·.1)).foldl sAdd [] = haps.map (·.1) := by
    rw [foldl_sAdd_nodup _ [] (by simpa using h)]; rfl
  constructor
  · rw [chrgroup_init_is_source, e, List.map_map]; rfl
  · have := absG_emptyVals (haps.map (·.1))
    rwa [List.map_map] at this

example : Gen.Imp.ChrGroup___init__ [(gH1, true), (gH2, true)] = .ok [(gH1, []), (gH2, [])] := rfl
/-- a repeated haplotype: the source has ONE key, `newGroup` would have two entries -/
example : Gen.Imp.ChrGroup___init__ [(gH1, true), (gH2, true), (gH1, false)] = .ok [(gH1, []), (gH2, [])] ∧
    newGroup [gH1, gH2, gH1] = [(gH1, []), (gH2, []), (gH1, [])] := ⟨rfl, rfl⟩

/-- `haplotype_dict` = `dict.get`; under the abstraction the model's `dGet?` -/
theorem haplotype_dict_is_source (hap : Str) (data : PyRt.GData) :
    Gen.Imp.ChrGroup_haplotype_dict hap data = .ok (dGet? data hap) ∧ (dGet? data hap).map absHapSet = dGet? (absG data) hap :=
  ⟨rfl, (dGet?_absG data hap).symm⟩

example : Gen.Imp.ChrGroup_haplotype_dict gH2 gData1 = .ok (some [(some gO11, [2])]) := by decide +kernel

/-! ### 2. `ChrGroup.multi_chr_list` -/

/-- up to 1114047 names (`chr(ord("A") + k)` exists for every `k` below that): the model's list.  Covers `n ≤ 0`: both sides `[]`. -/
theorem multi_chr_list_is_source (name : Str) (n : Int) (h : n ≤ 1114047) :
    Gen.Imp.ChrGroup_multi_chr_list name n = .ok (multiChrList name n.toNat) :=
  multi_chr_list_tie name n h

/-- beyond: the loop reaches `chr(0x110000)` — ValueError (the model has no such case: `multiChrList` is total) -/
theorem multi_chr_list_too_many (name : Str) (n : Int) (h : 1114047 < n) :
    Gen.Imp.ChrGroup_multi_chr_list name n = .error .value := by
  rw [multi_chr_list_nf, if_neg (by omega)]
  apply foldlM_error
  · intro x s e' he
    unfold chrStep PyRt.chr at he
    split at he
    · cases he
    · cases he; rfl
  · exact ⟨0x110000, PyRt.mem_rangeUp.2 (by omega), fun s => rfl⟩

/-- a count `≤ 0`: the empty list on both sides -/
theorem multi_chr_list_nonpos (name : Str) (n : Int) (h : n ≤ 0) : Gen.Imp.ChrGroup_multi_chr_list name n = .ok [] := by
  rw [multi_chr_list_is_source name n (by omega)]
  have : n.toNat = 0 := by omega
  rw [this]; rfl

example : Gen.Imp.ChrGroup_multi_chr_list (gPre ++ ['3']) 3 =
    .ok [gPre ++ ['3', 'A'], gPre ++ ['3', 'B'], gPre ++ ['3', 'C']] := by decide +kernel
example : Gen.Imp.ChrGroup_multi_chr_list (gPre ++ ['3']) 1 = .ok [gPre ++ ['3']] := by decide +kernel
example : Gen.Imp.ChrGroup_multi_chr_list (gPre ++ ['3']) (-2) = .ok [] := by decide +kernel

/-! ### 3. `ChrGroup.add_scaffold_to_haplotype` -/

/-- a known haplotype, a scaffold whose `original_name` is a string: the model's `groupAdd`, and `KeysSome` is kept -/
theorem add_scaffold_to_haplotype_is_source (heap_b : List Scaffold) (data : PyRt.GData) (hap orig : Str) (sid : Nat)
    (horig : (PyRt.bsGet heap_b sid).originalName = some orig) (hk : KeysSome data) (hh : dHas data hap = true) :
    ∃ d', Gen.Imp.ChrGroup_add_scaffold_to_haplotype heap_b data hap sid = .ok d' ∧
      absG d' = groupAdd (absG data) hap orig sid ∧ KeysSome d' := by
  obtain ⟨hs, hhs⟩ := (dHas_eq_true_iff _ _).1 hh
  refine ⟨appended data hap hs (some orig) sid, ?_, absG_appended _ _ _ _ _ hk hhs, keys_appended (fun k => ∃ s, k = some s) sid hk hhs ⟨orig, rfl⟩⟩
  rw [add_scaffold_nf, horig, gdataAppend_known _ _ _ _ _ hhs]

/-- … and a NON-EMPTY `original_name` keeps `KeysNonEmpty` (the invariant `name_chromosome` needs) -/
theorem add_scaffold_to_haplotype_keeps_nonempty (heap_b : List Scaffold) (data : PyRt.GData) (hap : Str) (c : Char) (r : Str) (sid : Nat)
    (horig : (PyRt.bsGet heap_b sid).originalName = some (c :: r)) (hk : KeysNonEmpty data) (hh : dHas data hap = true) :
    ∃ d', Gen.Imp.ChrGroup_add_scaffold_to_haplotype heap_b data hap sid = .ok d' ∧
      absG d' = groupAdd (absG data) hap (c :: r) sid ∧ KeysNonEmpty d' := by
  obtain ⟨hs, hhs⟩ := (dHas_eq_true_iff _ _).1 hh
  refine ⟨appended data hap hs (some (c :: r)) sid, ?_, absG_appended _ _ _ _ _ hk.keysSome hhs,
    keys_appended (fun k => ∃ c r, k = some (c :: r)) sid hk hhs ⟨c, r, rfl⟩⟩
  rw [add_scaffold_nf, horig, gdataAppend_known _ _ _ _ _ hhs]

/-- an unknown haplotype: `self.data.get(hap)` is None — AttributeError; the model's `groupAdd` silently creates the key
    (`build_groups` only passes haplotypes the group was created with) -/
theorem add_scaffold_to_haplotype_unknown (heap_b : List Scaffold) (data : PyRt.GData) (hap orig : Str) (sid : Nat)
    (hh : dHas data hap = false) :
    Gen.Imp.ChrGroup_add_scaffold_to_haplotype heap_b data hap sid = .error .attribute ∧
    groupAdd (absG data) hap orig sid = absG data ++ [(hap, [(orig, [sid])])] := by
  have hn := (dHas_eq_false_iff _ _).1 hh
  exact ⟨by rw [add_scaffold_nf, gdataAppend_unknown _ _ _ _ hn], groupAdd_unknown _ _ _ _ hn⟩

example : Gen.Imp.ChrGroup_add_scaffold_to_haplotype gHeap [(gH1, [(some gO10, [0])]), (gH2, [])] gH1 1 =
    .ok [(gH1, [(some gO10, [0, 1])]), (gH2, [])] := rfl
example : Gen.Imp.ChrGroup_add_scaffold_to_haplotype gHeap [(gH1, [(some gO10, [0])]), (gH2, [])] gH2 2 =
    .ok [(gH1, [(some gO10, [0])]), (gH2, [(some gO11, [2])])] := rfl
example : (PyRt.bsGet gHeap 1).originalName = some gO10 ∧ KeysSome [(gH1, [(some gO10, [0])]), (gH2, [])] ∧
    dHas [(gH1, [(some gO10, [0])]), (gH2, ([] : PyRt.HapSet))] gH1 = true :=
  ⟨by decide, (keysNonEmpty_of_B _ (by decide +kernel)).keysSome, by decide +kernel⟩
example : Gen.Imp.ChrGroup_add_scaffold_to_haplotype gHeap [(gH1, [(some gO10, [0])])] gH2 2 = .error .attribute ∧
    groupAdd (absG [(gH1, [(some gO10, [0])])]) gH2 gO11 2 = [(gH1, [(gO10, [0])]), (gH2, [(gO11, [2])])] := ⟨rfl, rfl⟩

/-! ### 4. `ChrGroup.length_of_first_haplotype` -/

/-- for EVERY arena and EVERY `data` (None keys, references outside the arena included): the same value and the same exception class —
    ValueError for an empty `data`, an empty first haplotype, and a first haplotype with two or more original names -/
theorem length_of_first_haplotype_is_source (heap_b : List Scaffold) (data : PyRt.GData) :
    Gen.Imp.ChrGroup_length_of_first_haplotype heap_b data = groupFirstLength heap_b (absG data) :=
  length_of_first_tie heap_b data

example : Gen.Imp.ChrGroup_length_of_first_haplotype gHeap gData1 = .ok 150 := by decide +kernel
example : Gen.Imp.ChrGroup_length_of_first_haplotype gHeap gData2 = .error .value := by decide +kernel
example : Gen.Imp.ChrGroup_length_of_first_haplotype gHeap [] = .error .value ∧
    Gen.Imp.ChrGroup_length_of_first_haplotype gHeap [(gH1, [])] = .error .value := by decide +kernel

/-! ### 5. `ChrGroup.name_chromosome` -/

/-- `0 ≤ chr_n`; every original name that has a scaffold under it is a non-empty string (`HapNamed`, implied by `KeysNonEmpty`);
    no haplotype has more than 1114047 original names.  References may point outside the arena (no-op on both sides).
    `chr_names.pop(0)` never fails: `multi_chr_list` returns exactly `len(hap_set)` names (`ImpChrGroup.foldlM_renameEntry`). -/
theorem name_chromosome_is_source (heap_b : List Scaffold) (pre : Str) (n : Int) (data : PyRt.GData) (hn : 0 ≤ n)
    (hnamed : ∀ kv ∈ data, HapNamed kv.2) (hb : ∀ kv ∈ data, (kv.2.length : Int) ≤ 1114047) :
    Gen.Imp.ChrGroup_name_chromosome heap_b pre n data = .ok (nameGroup heap_b (absG data) pre n.toNat) :=
  name_chromosome_tie heap_b pre n data hn hnamed hb

/-- the same under the invariant of `build_groups` -/
theorem name_chromosome_is_source_of_keysNonEmpty (heap_b : List Scaffold) (pre : Str) (n : Int) (data : PyRt.GData) (hn : 0 ≤ n)
    (hk : KeysNonEmpty data) (hb : ∀ kv ∈ data, (kv.2.length : Int) ≤ 1114047) :
    Gen.Imp.ChrGroup_name_chromosome heap_b pre n data = .ok (nameGroup heap_b (absG data) pre n.toNat) :=
  name_chromosome_tie heap_b pre n data hn hk.named hb

example : (Gen.Imp.ChrGroup_name_chromosome gHeap gPre 3 gData2).map (·.map (·.name)) =
    .ok [gPre ++ ['3', 'A'], gPre ++ ['3', 'A', '_', 'u', '1'], gPre ++ ['3', 'B']] := by decide +kernel
example : (Gen.Imp.ChrGroup_name_chromosome gHeap gPre 3 gData1).map (·.map (·.name)) =
    .ok [gPre ++ ['3'], gPre ++ ['3', '_', 'u', '1'], gPre ++ ['3']] := by decide +kernel
/-- an EMPTY original name: Python's `"S_10".replace("", "SU_3")` inserts the new text around every character; `replaceAll` is the identity -/
example : (Gen.Imp.ChrGroup_name_chromosome gHeap gPre 3 [(gH1, [(some [], [2])])]).map (·.map (·.name)) =
      .ok [gO10, gO10 ++ ['_', 'u', '1'], gPre ++ ['3', 'S'] ++ gPre ++ ['3', '_'] ++ gPre ++ ['3', '1'] ++ gPre ++ ['3', '1'] ++ gPre ++ ['3']] ∧
    (nameGroup gHeap (absG [(gH1, [(some [], [2])])]) gPre 3).map (·.name) = [gO10, gO10 ++ ['_', 'u', '1'], gO11] := by decide +kernel
/-- a None original name with a scaffold under it: TypeError in the source -/
example : Gen.Imp.ChrGroup_name_chromosome gHeap gPre 3 [(gH1, [(none, [0])])] = .error .type := by decide +kernel
/-- a negative `chr_n`: `str(-3)` is "-3"; the model's counter is a `Nat` -/
example : (Gen.Imp.ChrGroup_name_chromosome gHeap gPre (-3) [(gH2, [(some gO11, [2])])]).map (·.map (·.name)) =
      .ok [gO10, gO10 ++ ['_', 'u', '1'], gPre ++ ['-', '3']] ∧
    (nameGroup gHeap (absG [(gH2, [(some gO11, [2])])]) gPre (-3 : Int).toNat).map (·.name) = [gO10, gO10 ++ ['_', 'u', '1'], gPre ++ ['0']] := by
  decide

/-! ### 6. `ChrGroup.original_tags_of_haplotype_scaffold` -/

/-- `ImpChrGroup.origTagsModel fs hd lo` is, verbatim, what `buildGroups` computes inline with `hd = (dGet? st.cur hap).getD []` and
    `lo = st.lastOrig.getD []`; `original_tags_model_inline` below rewrites that inline `match` (with its continuation) into
    `origTagsModel … >>= k`.  For a known haplotype (`buildGroups` is in the branch `¬ hd.isEmpty`: `ImpChrGroup.dHas_of_absG_ne`) and string
    keys the source call is that computation: same value, KeyError for an absent name, IndexError for an empty list. -/
theorem original_tags_is_source (heap_b : List Scaffold) (hap lo : Str) (data : PyRt.GData) (hk : KeysSome data)
    (hh : dHas data hap = true) :
    Gen.Imp.ChrGroup_original_tags_of_haplotype_scaffold heap_b hap (some lo) data =
      origTagsModel heap_b ((dGet? (absG data) hap).getD []) lo := by
  obtain ⟨hs, hhs⟩ := (dHas_eq_true_iff _ _).1 hh
  rw [original_tags_known _ _ _ _ hs hhs, dGet?_absG, hhs]
  unfold origTagsModel
  simp only [Option.map_some, Option.getD_some, dGet?_absHapSet hs (hk (hap, hs) (dGet?_mem hhs))]

/-- with `last_orig` as the Python variable holds it (None before the first scaffold; the model reads `lastOrig.getD []`): under
    `KeysNonEmpty` neither None nor "" is a key, KeyError on both sides -/
theorem original_tags_is_source_opt (heap_b : List Scaffold) (hap : Str) (last : Option Str) (data : PyRt.GData) (hk : KeysNonEmpty data)
    (hh : dHas data hap = true) :
    Gen.Imp.ChrGroup_original_tags_of_haplotype_scaffold heap_b hap last data =
      origTagsModel heap_b ((dGet? (absG data) hap).getD []) (last.getD []) := by
  cases last with
  | some lo => exact original_tags_is_source heap_b hap lo data hk.keysSome hh
  | none =>
    obtain ⟨hs, hhs⟩ := (dHas_eq_true_iff _ _).1 hh
    have hne := hk (hap, hs) (dGet?_mem hhs)
    have h1 : dGet? hs none = none := (dGet?_none_iff hs none).2 (fun hm => by
      obtain ⟨e, he, hk⟩ := List.mem_map.1 hm
      obtain ⟨c, r, hcr⟩ := hne e he
      rw [hcr] at hk; cases hk)
    have h2 : dGet? (absHapSet hs) [] = none := (dGet?_none_iff _ _).2 (fun hm => by
      simp only [absHapSet, List.map_map, List.mem_map, Function.comp_apply] at hm
      obtain ⟨e, he, hk⟩ := hm
      obtain ⟨c, r, hcr⟩ := hne e he
      rw [hcr] at hk; cases hk)
    rw [original_tags_known _ _ _ _ hs hhs, dGet?_absG, hhs]
    unfold origTagsModel
    simp only [Option.map_some, Option.getD_some, Option.getD_none, h1, h2]

/-- the inline code of `buildGroups` IS `origTagsModel` (for any continuation `k`) -/
theorem original_tags_model_inline {β : Type} (fs : List Scaffold) (hd : List (Str × List Nat)) (lo : Str) (k : List Str → R β) :
    (match dGet? hd lo with
     | none => (throw Err.key : R β)
     | some ids => do
       let first ← pyGet ids 0
       k (((fs.getD first default).originalTags).getD [])) = origTagsModel fs hd lo >>= k := by
  unfold origTagsModel
  cases dGet? hd lo with
  | none => rfl
  | some ids =>
    simp only []
    cases pyGet ids 0 <;> rfl

/-- an unknown haplotype: the source raises TypeError (`None[scffld_name]`), the model (which defaults to `{}`) KeyError -/
theorem original_tags_unknown_haplotype (heap_b : List Scaffold) (hap : Str) (last : Option Str) (lo : Str) (data : PyRt.GData)
    (hh : dHas data hap = false) :
    Gen.Imp.ChrGroup_original_tags_of_haplotype_scaffold heap_b hap last data = .error .type ∧
    origTagsModel heap_b ((dGet? (absG data) hap).getD []) lo = .error .key := by
  have hn := (dHas_eq_false_iff _ _).1 hh
  constructor
  · rw [original_tags_nf, hn]; rfl
  · rw [dGet?_absG, hn]; rfl

example : Gen.Imp.ChrGroup_original_tags_of_haplotype_scaffold gHeap gH1 (some gO10) gData2 = .ok [sSingleton] := by decide +kernel
example : Gen.Imp.ChrGroup_original_tags_of_haplotype_scaffold gHeap gH1 (some gO11) gData2 = .ok [] := by decide +kernel
/-- absent name: KeyError; None: KeyError; empty list: IndexError; unknown haplotype: TypeError -/
example : Gen.Imp.ChrGroup_original_tags_of_haplotype_scaffold gHeap gH1 (some gH1) gData2 = .error .key ∧
    Gen.Imp.ChrGroup_original_tags_of_haplotype_scaffold gHeap gH1 none gData2 = .error .key ∧
    Gen.Imp.ChrGroup_original_tags_of_haplotype_scaffold gHeap gH1 (some gO10) [(gH1, [(some gO10, [])])] = .error .index ∧
    Gen.Imp.ChrGroup_original_tags_of_haplotype_scaffold gHeap gO10 (some gO10) gData2 = .error .type := by decide +kernel

/-! ### 7. `ChrGroup.max_hap_set_count` -/

/-- `max()` of an empty sequence: ValueError -/
theorem max_hap_set_count_is_source_empty : Gen.Imp.ChrGroup_max_hap_set_count [] = .error .value :=
  rfl

/-- otherwise the maximum of the numbers of original names per haplotype: an upper bound that is attained
    (`absG` keeps these numbers: `ImpChrGroup.absHapSet_length`) -/
theorem max_hap_set_count_is_source (data : PyRt.GData) (hne : data ≠ []) :
    ∃ m : Int, Gen.Imp.ChrGroup_max_hap_set_count data = .ok m ∧ (∀ kv ∈ data, (kv.2.length : Int) ≤ m) ∧
      ∃ kv ∈ data, (kv.2.length : Int) = m := by
  rw [max_hap_set_count_nf]
  cases data with
  | nil => exact absurd rfl hne
  | cons kv rest =>
    obtain ⟨h1, h2⟩ := foldl_max_spec (kv.2.length : Int) (rest.map (fun kv => (kv.2.length : Int)))
    rw [← List.map_cons (f := fun (kv : Str × PyRt.HapSet) => (kv.2.length : Int))] at h1 h2
    obtain ⟨kv', hkv', he⟩ := List.mem_map.mp h2
    exact ⟨_, rfl, fun kv' hkv' => h1 _ (List.mem_map.mpr ⟨kv', hkv', rfl⟩), kv', hkv', he⟩

example : Gen.Imp.ChrGroup_max_hap_set_count gData2 = .ok 2 := by decide +kernel
example : Gen.Imp.ChrGroup_max_hap_set_count gData1 = .ok 1 := by decide +kernel

end AgpTpf.C10
