/-
  C01 / C07 / C08 / C09 — T1c: the model's `addMissing` (Model/Remap.lean) IS the source's
  `BuildAssembly.add_missing_scaffolds_from_input` (assembly/build_assembly.py) as translated by `harness/translate_imp.py` into
  `Gen.Imp.BuildAssembly_add_missing_scaffolds_from_input`.  Loop lemmas: Proofs/ImpMissing.lean.

  The left-over Scaffold objects the source creates live in an arena (`List PyRt.Leftover`: the object and its `input_predecessor`
  attribute); `loModel x = (x.1, x.2.bind predOfRows)` reads an object as the pair the model appends to `Build.extra`,
  `loSrc e = (e.1, e.2.map predToRows)` is the way back (`predOfRows` / `predToRows` of Proofs/ImpLeftover.lean).
  The namer is the Python object `PyRt.SrcNamer`, read as the model's `Namer` by `absNamer` (Proofs/ImpMissing.lean).  The tie of
  `ScaffoldNamer.make_scaffold_name` to `makeScaffoldName` is a HYPOTHESIS here (`hmk`, `hwf`: it is the subject of
  Properties/C09Imp.lean, `make_scaffold_name_refines`); only the call the method makes (`fragment_tags=None`) is asked.
-/
import AgpTpf.Gen.Imp
import AgpTpf.Proofs.ImpMissing
import AgpTpf.Properties.C07ImpLeftover
namespace AgpTpf.C01
open AgpTpf ImpMissing

/-- `add_missing_scaffolds_from_input` refines `addMissing`: for a build state `b` with a default gap `g`, a well-formed namer object `s`
    that reads as `b.namer`, and a `found` dictionary with the keys of `b.found`:
    * when the source returns `(heap, added, s')`: every created object was added, in order (`added = range heap.length`); `s'` is
      well-formed; every object's `input_predecessor` is a `(Fragment, gaps)` pair (`loSrc (loModel x) = x`, so `loModel` loses
      nothing); and the model returns `b` with the namer `absNamer s'` and the objects appended to `extra` — nothing else changed;
    * when the source raises `e`, so does the model.
    (The source either returns or raises, so this determines `addMissing input b` in every case: "exactly when".) -/
theorem add_missing_refines (input : List Scaffold) (b : Build) (g : Gap) (hg : b.joinGap = some g)
    (s : PyRt.SrcNamer) (hs : WFNamer s) (habs : absNamer s = b.namer)
    (found : List (Key × Nat)) (hkeys : ∀ k, (dGet? found k).isSome = dHas b.found k)
    (hmk : ∀ s sc, WFNamer s → (Gen.Imp.ScaffoldNamer_make_scaffold_name s sc none).map absNamer
              = makeScaffoldName (absNamer s) sc.name sc.rows sc.fragmentTags)
    (hwf : ∀ s sc s', WFNamer s → Gen.Imp.ScaffoldNamer_make_scaffold_name s sc none = .ok s' → WFNamer s') :
    (∀ heap added s', Gen.Imp.BuildAssembly_add_missing_scaffolds_from_input s input g found = .ok (heap, added, s') →
        added = List.range heap.length ∧ WFNamer s' ∧ (∀ x ∈ heap, loSrc (loModel x) = x) ∧
        addMissing input b = .ok { b with namer := absNamer s', extra := b.extra ++ heap.map loModel }) ∧
    (∀ e, Gen.Imp.BuildAssembly_add_missing_scaffolds_from_input s input g found = .error e →
        addMissing input b = .error e) :=
  (add_missing_tie input b g hg s hs habs found hkeys hmk hwf).elim_src
    (fun e h => ⟨fun _ _ _ h' => (nomatch h'), fun _ h' => by cases h'; exact h⟩)
    fun _ _ hm ⟨ha, hw, hl, hb⟩ =>
      ⟨fun _ _ _ h' => (by cases h'; exact ⟨ha, hw, hl, hm.trans (congrArg _ hb)⟩), fun _ h' => (nomatch h')⟩

/-- the same from the namer tie for EVERY `fragment_tags` argument (`tagsOf`), the form in which `C09.make_scaffold_name_refines`
    provides it -/
theorem add_missing_refines_of_namer_tie (input : List Scaffold) (b : Build) (g : Gap) (hg : b.joinGap = some g)
    (s : PyRt.SrcNamer) (hs : WFNamer s) (habs : absNamer s = b.namer)
    (found : List (Key × Nat)) (hkeys : ∀ k, (dGet? found k).isSome = dHas b.found k)
    (hmk : ∀ s sc ft, WFNamer s → (Gen.Imp.ScaffoldNamer_make_scaffold_name s sc ft).map absNamer
              = makeScaffoldName (absNamer s) sc.name sc.rows (tagsOf sc ft))
    (hwf : ∀ s sc ft s', WFNamer s → Gen.Imp.ScaffoldNamer_make_scaffold_name s sc ft = .ok s' → WFNamer s') :
    (∀ heap added s', Gen.Imp.BuildAssembly_add_missing_scaffolds_from_input s input g found = .ok (heap, added, s') →
        added = List.range heap.length ∧ WFNamer s' ∧ (∀ x ∈ heap, loSrc (loModel x) = x) ∧
        addMissing input b = .ok { b with namer := absNamer s', extra := b.extra ++ heap.map loModel }) ∧
    (∀ e, Gen.Imp.BuildAssembly_add_missing_scaffolds_from_input s input g found = .error e →
        addMissing input b = .error e) :=
  add_missing_refines input b g hg s hs habs found hkeys (fun s sc h => hmk s sc none h) (fun s sc s' h => hwf s sc none s' h)

/-- read from the model's side ("exactly when"): whatever `addMissing` does, the source did the same -/
theorem add_missing_refines_conv (input : List Scaffold) (b : Build) (g : Gap) (hg : b.joinGap = some g)
    (s : PyRt.SrcNamer) (hs : WFNamer s) (habs : absNamer s = b.namer)
    (found : List (Key × Nat)) (hkeys : ∀ k, (dGet? found k).isSome = dHas b.found k)
    (hmk : ∀ s sc, WFNamer s → (Gen.Imp.ScaffoldNamer_make_scaffold_name s sc none).map absNamer
              = makeScaffoldName (absNamer s) sc.name sc.rows sc.fragmentTags)
    (hwf : ∀ s sc s', WFNamer s → Gen.Imp.ScaffoldNamer_make_scaffold_name s sc none = .ok s' → WFNamer s') :
    (∀ b', addMissing input b = .ok b' →
        ∃ heap s', Gen.Imp.BuildAssembly_add_missing_scaffolds_from_input s input g found = .ok (heap, List.range heap.length, s') ∧
          WFNamer s' ∧ heap = (b'.extra.drop b.extra.length).map loSrc ∧
          b' = { b with namer := absNamer s', extra := b.extra ++ heap.map loModel }) ∧
    (∀ e, addMissing input b = .error e →
        Gen.Imp.BuildAssembly_add_missing_scaffolds_from_input s input g found = .error e) := by
  refine (add_missing_tie input b g hg s hs habs found hkeys hmk hwf).elim
    (fun e hsrc => ⟨fun _ h' => (nomatch h'), fun _ h' => by cases h'; exact hsrc⟩)
    fun t b1 hsrc ⟨ha, hw, hl, hb⟩ => ⟨fun b' h' => ?_, fun _ h' => (nomatch h')⟩
  cases h'
  refine ⟨t.1, t.2.2, by rw [hsrc, ← ha], hw, ?_, hb⟩
  rw [hb]
  simp only [List.drop_left, List.map_map]
  conv => lhs; rw [← List.map_id t.1]
  exact List.map_congr_left (fun x hx => (hl x hx).symm)

/-! the generated function runs.  Input scaffold `s1 = a g1 b g2 c` of which only `b` was placed: the left-over is `a`, the default
    gap, `c` (a contig placed elsewhere lay between them); it has no `input_predecessor` (nothing in front of `a`); `c` carries the
    tag `Target`, so the namer now knows targets are in use, and this scaffold is not a contaminant; its haplotype `h1` is read off the
    name of its first contig.  Then `s3 = d` (untagged, nothing placed): left over whole, and tagged `Contaminant`. -/
-- instance search for the results below, one object / one pair of `extra` at a time
local instance : DecidableEq PyRt.Leftover := inferInstance
local instance : DecidableEq (Scaffold × Option (Fragment × List Gap)) := inferInstance

def exA : Fragment := { oid := 1, name := "h1_s_1".toList, start := 1, stop := 10, strand := 1 }
def exB : Fragment := { oid := 2, name := ['b'], start := 1, stop := 20, strand := -1 }
def exC : Fragment := { oid := 3, name := ['c'], start := 5, stop := 30, strand := 1, tags := ["Target".toList] }
def exD : Fragment := { oid := 4, name := ['d'], start := 1, stop := 8, strand := 1 }
def exG1 : Gap := { length := 7, gapType := ['u'] }
def exG2 : Gap := { length := 9, gapType := ['v'] }
def exDflt : Gap := { length := 200, gapType := "scaffold".toList }
def exNamer : PyRt.SrcNamer := { autosome_prefix := "SUPER_".toList }
/-- the model's build state / the source's `found_fragments` dictionary in which exactly the contigs `fnd` are registered -/
def exBuild (fnd : List Fragment) : Build :=
  { namer := absNamer exNamer, nextOid := 10, joinGap := some exDflt, err := 3,
    found := fnd.map (fun f => (f.keyTuple, { fragment := f, scaffolds := [0] })) }
def exFound (fnd : List Fragment) : List (Key × Nat) := fnd.map (fun f => (f.keyTuple, 0))
def exS1 : Scaffold := { name := ['s','1'], rows := [.frag exA, .gap exG1, .frag exB, .gap exG2, .frag exC] }
def exS2 : Scaffold := { name := ['s','2'], rows := [.frag exB, .gap exG1, .frag exA, .gap exG1, .gap exG2, .frag exC] }
def exS3 : Scaffold := { name := ['s','3'], rows := [.frag exD] }
def exNamer' : PyRt.SrcNamer :=
  { exNamer with current_scaffold_name := some "h1_s_1".toList, current_rank := some 3, current_haplotype := some ['h','1'],
                 target_tags := true, haplotype_lc_dict := [(['h','1'], ['h','1'])] }

example : Gen.Imp.BuildAssembly_add_missing_scaffolds_from_input exNamer [exS1, exS3] exDflt (exFound [exB])
    = .ok ([({ name := ['s','1'], rows := [.frag exA, .gap exDflt, .frag exC], rank := 3, haplotype := some ['h','1'] }, none),
            ({ name := ['s','3'], rows := [.frag exD], rank := 3, tag := some "Contaminant".toList }, none)], [0, 1],
           { exNamer' with current_scaffold_name := some ['d'], current_haplotype := none }) := by decide +kernel

/-- … and the model on the same input, evaluated independently: the same two pairs appended to `extra`, the same namer -/
example : (addMissing [exS1, exS3] (exBuild [exB])).map (fun b' => (b'.extra, b'.namer))
    = .ok ([({ name := ['s','1'], rows := [.frag exA, .gap exDflt, .frag exC], rank := 3, haplotype := some ['h','1'] }, none),
            ({ name := ['s','3'], rows := [.frag exD], rank := 3, tag := some "Contaminant".toList }, none)],
           absNamer { exNamer' with current_scaffold_name := some ['d'], current_haplotype := none }) := by decide +kernel

/-- `s2 = b g1 a g1 g2 c`, only `b` placed: only gaps lie between the left-over contigs `a` and `c` — both are kept; the object remembers
    its predecessor in the input, `b` and the gap `g1` behind it -/
example : Gen.Imp.BuildAssembly_add_missing_scaffolds_from_input exNamer [exS2] exDflt (exFound [exB])
    = .ok ([({ name := ['s','2'], rows := [.frag exA, .gap exG1, .gap exG2, .frag exC], rank := 3, haplotype := some ['h','1'] },
             some (.frag exB, [.gap exG1]))], [0], exNamer') := by decide +kernel
example : (addMissing [exS2] (exBuild [exB])).map (fun b' => (b'.extra, b'.namer))
    = .ok ([({ name := ['s','2'], rows := [.frag exA, .gap exG1, .gap exG2, .frag exC], rank := 3, haplotype := some ['h','1'] },
             some (exB, [exG1]))], absNamer exNamer') := by decide +kernel

/-- everything placed: no object, nothing changes -/
example : Gen.Imp.BuildAssembly_add_missing_scaffolds_from_input exNamer [exS1] exDflt (exFound [exA, exB, exC])
    = .ok ([], [], exNamer) := by decide +kernel

/-- two left-over contigs with different haplotype tags: `make_scaffold_name` raises TaggingError, on both sides -/
def exT1 : Fragment := { oid := 5, name := ['t'], start := 1, stop := 5, strand := 1, tags := ["hapA".toList] }
def exT2 : Fragment := { oid := 6, name := ['t'], start := 6, stop := 9, strand := 1, tags := ["hapB".toList] }
def exS4 : Scaffold := { name := ['s','4'], rows := [.frag exT1, .gap exG1, .frag exT2] }
example : Gen.Imp.BuildAssembly_add_missing_scaffolds_from_input exNamer [exS3, exS4] exDflt (exFound [exB]) = .error .tagging := by decide +kernel
example : (addMissing [exS3, exS4] (exBuild [exB])).map (fun b' => b'.extra) = .error .tagging := by decide +kernel

/-- the hypotheses of `add_missing_refines` are met by the example state (the two about `make_scaffold_name` are the subject of
    Properties/C09Imp.lean; here: the instance the first example uses) -/
example : (exBuild [exB]).joinGap = some exDflt ∧ WFNamer exNamer ∧ absNamer exNamer = (exBuild [exB]).namer ∧
    (∀ k, (dGet? (exFound [exB]) k).isSome = dHas (exBuild [exB]).found k) := by
  refine ⟨rfl, by simp [WFNamer, exNamer], rfl, fun k => ?_⟩
  by_cases h : exB.keyTuple = k <;> simp [exFound, exBuild, dGet?, dHas, h]
example :
    (Gen.Imp.ScaffoldNamer_make_scaffold_name exNamer { name := ['s','1'], rows := [.frag exA, .gap exDflt, .frag exC], rank := 3 } none).map
        absNamer
      = makeScaffoldName (absNamer exNamer) ['s','1'] [.frag exA, .gap exDflt, .frag exC]
          ({ name := ['s','1'], rows := [.frag exA, .gap exDflt, .frag exC], rank := 3 } : Scaffold).fragmentTags := by decide +kernel

end AgpTpf.C01
