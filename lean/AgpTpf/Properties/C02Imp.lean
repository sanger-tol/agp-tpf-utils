/-
  C02 / C01 (T1c) — the model's overhang resolver IS the Python source as translated.

  Source side: `Gen.Imp.StartOverhangPremise_*`, `Gen.Imp.EndOverhangPremise_*`, `Gen.Imp.OverhangResolver_add_overhang_premise`,
  `Gen.Imp.OverhangResolver_make_fixes_imp` in `AgpTpf/Gen/Imp.lean`, generated by `harness/translate_imp.py` from
  `src/tola/assembly/build_utils.py` (each definition carries the Python text it came from).  A Python reference to an
  OverlapResult is an index into the store of results (`Model/PyRtHeap.lean`), exactly the convention of the model.
  Model side: `Premise.*`, `addPremise`, `fixOne`, `resolverRound` in `AgpTpf/Model/Remap.lean`, which the C01 / C02 theorems are about.

  Each theorem is an equality of functions into `R = Except Err`: same value, same exception class, for ALL inputs — no side
  condition is needed anywhere (in particular not "no premise list is empty": on an empty list both sides skip the pass, see the
  `example` after `make_fixes_is_source`).  `improves` is tied by T1b (`Properties/C02Source.lean`, `improves_is_source`).

  What the translation leaves out (so what these ties do NOT cover): the `logging.debug(f"… {prem_list[0].fragment} … {prem} …")`
  statement at the top of the loop body of `make_fixes`.  Python evaluates that f-string eagerly at every log level, so on an EMPTY
  premise list the real `make_fixes` raises `IndexError` where the translated source and the model go on.
  `premise_lists_never_empty` / `round_premise_lists_never_empty` show that no reachable resolver state contains an empty list.

  Proofs: `AgpTpf/Proofs/ImpResolver.lean`.
-/
import AgpTpf.Proofs.ImpResolver
namespace AgpTpf.C02
open AgpTpf

/-! ### the input the `example`s run on: two results sharing the fragment `s2:1-200(-)` -/

def impF1 : Fragment := { oid := 1, name := ['s', '1'], start := 1, stop := 100, strand := 1 }
def impF2 : Fragment := { oid := 2, name := ['s', '2'], start := 1, stop := 200, strand := -1 }
def impF3 : Fragment := { oid := 3, name := ['s', '3'], start := 1, stop := 300, strand := 1 }
def impG1 : Gap := ⟨10, ['s', 'c', 'a', 'f', 'f', 'o', 'l', 'd']⟩
def impG2 : Gap := ⟨5, ['s', 'c', 'a', 'f', 'f', 'o', 'l', 'd']⟩
def impBait0 : Fragment := { oid := 8, name := ['c', '1'], start := 195, stop := 400, strand := 1 }
def impBait1 : Fragment := { oid := 9, name := ['c', '1'], start := 401, stop := 900, strand := 1 }
/-- `[s1:1-100(+), gap 10, gap 5, s2:1-200(-)]` at 101..415, bait c1:195-400 -/
def impR0 : OverlapResult :=
  { bait := impBait0, start := 101, stop := 415, rows := [.frag impF1, .gap impG1, .gap impG2, .frag impF2] }
/-- `[s2:1-200(-), gap 10, s3:1-300(+)]` at 216..725, bait c1:401-900 -/
def impR1 : OverlapResult :=
  { bait := impBait1, start := 216, stop := 725, rows := [.frag impF2, .gap impG1, .frag impF3] }
def impStore : List Res := [{ o := impR0, added := true }, { o := impR1, added := true }]

def impEndOf0 : Premise := { kind := .stop, sid := 0, fragment := impF2 }
def impStartOf1 : Premise := { kind := .start, sid := 1, fragment := impF2 }
/-- the dictionary `add_overhang_premise` builds for `s2` in results 0 and 1, `s1` in 0, `s3` in 1 -/
def impPrems : List (Key × List Premise) :=
  [((['s', '2'], 1, 200), [impEndOf0, impStartOf1]),
   ((['s', '1'], 1, 100), [{ kind := .start, sid := 0, fragment := impF1 }]),
   ((['s', '3'], 1, 300), [{ kind := .stop, sid := 1, fragment := impF3 }])]
/-- result 1 after `discard_start`: `s2` and the gap behind it are gone -/
def impR1Fixed : OverlapResult := { impR1 with start := 426, rows := [.frag impF3] }

/-! ### the subclass methods -/

/-- the `StartOverhangPremise` methods are the `.start` branches of the model's dispatching functions -/
theorem start_premise_methods_are_source (store : List Res) (sid : Nat) (f : Fragment) :
    let p : Premise := { kind := .start, sid := sid, fragment := f }
    Gen.Imp.StartOverhangPremise_bait_overlap store sid = (p.baitOverlap store).map (fun v => (store, v)) ∧
    Gen.Imp.StartOverhangPremise_overhang_if_applied store sid = (p.overhangIfApplied store).map (fun v => (store, v)) ∧
    Gen.Imp.StartOverhangPremise_overhang_error_delta_if_applied store sid = (p.delta store).map (fun v => (store, v)) ∧
    Gen.Imp.StartOverhangPremise_apply store sid = p.apply store :=
  ⟨ImpResolver.start_bait_overlap store sid f, ImpResolver.start_overhang_if_applied store sid f,
   ImpResolver.start_delta store sid f, ImpResolver.start_apply store sid f⟩

example : Gen.Imp.StartOverhangPremise_bait_overlap impStore 1 = .ok (impStore, 15) := by rfl
example : Gen.Imp.StartOverhangPremise_overhang_if_applied impStore 1 = .ok (impStore, -25) := by rfl
example : Gen.Imp.StartOverhangPremise_overhang_error_delta_if_applied impStore 1 = .ok (impStore, -160) := by rfl
example : Gen.Imp.StartOverhangPremise_apply impStore 1
    = .ok [{ o := impR0, added := true }, { o := impR1Fixed, added := true }] := by rfl
/-- a reference outside the store reads the default (row-less) result: `rows[0]` raises `IndexError` on both sides -/
example : Gen.Imp.StartOverhangPremise_apply impStore 7 = .error .index := by rfl

/-- the `EndOverhangPremise` methods are the `.stop` branches of the model's dispatching functions -/
theorem end_premise_methods_are_source (store : List Res) (sid : Nat) (f : Fragment) :
    let p : Premise := { kind := .stop, sid := sid, fragment := f }
    Gen.Imp.EndOverhangPremise_bait_overlap store sid = (p.baitOverlap store).map (fun v => (store, v)) ∧
    Gen.Imp.EndOverhangPremise_overhang_if_applied store sid = (p.overhangIfApplied store).map (fun v => (store, v)) ∧
    Gen.Imp.EndOverhangPremise_overhang_error_delta_if_applied store sid = (p.delta store).map (fun v => (store, v)) ∧
    Gen.Imp.EndOverhangPremise_apply store sid = p.apply store :=
  ⟨ImpResolver.end_bait_overlap store sid f, ImpResolver.end_overhang_if_applied store sid f,
   ImpResolver.end_delta store sid f, ImpResolver.end_apply store sid f⟩

example : Gen.Imp.EndOverhangPremise_bait_overlap impStore 0 = .ok (impStore, 185) := by rfl
example : Gen.Imp.EndOverhangPremise_overhang_if_applied impStore 0 = .ok (impStore, -200) := by rfl
example : Gen.Imp.EndOverhangPremise_overhang_error_delta_if_applied impStore 0 = .ok (impStore, 185) := by rfl
example : Gen.Imp.EndOverhangPremise_apply impStore 0
    = .ok [{ o := { impR0 with stop := 200, rows := [.frag impF1] }, added := true }, { o := impR1, added := true }] := by rfl

theorem add_overhang_premise_is_source (store : List Res) (prems : List (Key × List Premise)) (f : Fragment) (sid : Nat) :
    Gen.Imp.OverhangResolver_add_overhang_premise store prems f sid
      = (addPremise store prems f sid).map (fun p => (store, p)) :=
  ImpResolver.add_premise_tie store prems f sid

/-- `s2` ends result 0 (→ an EndOverhangPremise under a new key), starts result 1 (→ a StartOverhangPremise appended to the same
    key), and `s3` is neither the first nor the last row of result 0 (→ nothing) -/
example : Gen.Imp.OverhangResolver_add_overhang_premise impStore [] impF2 0
    = .ok (impStore, [((['s', '2'], 1, 200), [impEndOf0])]) := by rfl
example : Gen.Imp.OverhangResolver_add_overhang_premise impStore [((['s', '2'], 1, 200), [impEndOf0])] impF2 1
    = .ok (impStore, [((['s', '2'], 1, 200), [impEndOf0, impStartOf1])]) := by rfl
example : Gen.Imp.OverhangResolver_add_overhang_premise impStore [] impF3 0 = .ok (impStore, []) := by rfl
example : Gen.Imp.OverhangResolver_add_overhang_premise impStore [] impF3 7 = .error .index := by rfl

/-- `make_fixes` = the model's fold of `fixOne` over the premise lists, in dict order; no side condition -/
theorem make_fixes_is_source (store : List Res) (prems : List (Key × List Premise)) (err : Int) :
    Gen.Imp.OverhangResolver_make_fixes_imp store prems err = (prems.map (·.2)).foldlM (fixOne err) (store, []) :=
  ImpResolver.make_fixes_tie store prems err

/-- error length 10: the bait overlaps (185, 15) are not both below it, so the lists are sorted by delta (-160 before 185); the
    best premise improves, the next one does not: `s2` is removed from the start of result 1 -/
example : Gen.Imp.OverhangResolver_make_fixes_imp impStore impPrems 10
    = .ok ([{ o := impR0, added := true }, { o := impR1Fixed, added := true }], [impStartOf1]) := by rfl
/-- error length 190: both bait overlaps are below it, the `prem_count == 2` rule removes `s2` where it overlaps its bait least -/
example : Gen.Imp.OverhangResolver_make_fixes_imp impStore impPrems 190
    = .ok ([{ o := impR0, added := true }, { o := impR1Fixed, added := true }], [impStartOf1]) := by rfl
/-- a premise that points outside the store: `IndexError` from `bait_overlap` on both sides -/
example : Gen.Imp.OverhangResolver_make_fixes_imp impStore [((['s', '2'], 1, 200), [impEndOf0, { impStartOf1 with sid := 7 }])] 190
    = .error .index := by rfl
/-- an EMPTY premise list: both the translated source and the model skip it (the `logging.debug` line of the real source, which
    is not translated, would raise `IndexError` here; see `premise_lists_never_empty`) -/
example : Gen.Imp.OverhangResolver_make_fixes_imp impStore [((['s', '9'], 1, 9), [])] 10 = .ok (impStore, []) := by rfl
example : ([((['s', '9'], 1, 9), ([] : List Premise))].map (·.2)).foldlM (fixOne 10) (impStore, []) = .ok (impStore, []) := by rfl

/-! ### empty premise lists are unreachable -/

/-- `add_overhang_premise` keeps "no premise list is empty" (`setdefault(fk, []).append(premise)` never leaves an empty list) -/
theorem premise_lists_never_empty (store : List Res) (prems prems' : List (Key × List Premise)) (f : Fragment) (sid : Nat)
    (h : ∀ kv ∈ prems, kv.2 ≠ []) (h' : addPremise store prems f sid = .ok prems') : ∀ kv ∈ prems', kv.2 ≠ [] :=
  ImpResolver.addPremise_nonempty h h'

example : (∀ kv ∈ impPrems, kv.2 ≠ []) := by decide
example : addPremise impStore impPrems impF3 1
    = .ok (impPrems.take 2 ++ [((['s', '3'], 1, 300), [{ kind := .stop, sid := 1, fragment := impF3 },
                                                       { kind := .stop, sid := 1, fragment := impF3 }])]) := by rfl

/-! ### one resolver round -/

/-- `resolverRound` starts by building the premise dictionary with this loop nest … -/
theorem resolver_round_unfolds (b : Build) :
    resolverRound b = (do
      let prems ← ImpResolver.roundPrems b
      let (store, fixes) ← (prems.map (·.2)).foldlM (fixOne b.err) (b.store, [])
      if fixes.isEmpty then pure none
      else do
        let b ← fixes.foldlM applyFixBookkeeping { b with store := store }
        pure (some b)) :=
  Pipeline.resolverRound_eq b

/-- … whose dictionary never contains an empty list, … -/
theorem round_premise_lists_never_empty (b : Build) (prems : List (Key × List Premise))
    (h : ImpResolver.roundPrems b = .ok prems) : ∀ kv ∈ prems, kv.2 ≠ [] :=
  ImpResolver.roundPrems_nonempty h

/-- … and on which the translated `make_fixes` returns exactly the `(store, fixes)` that `resolverRound` goes on with -/
theorem make_fixes_in_resolver_round (b : Build) (prems : List (Key × List Premise))
    (h : ImpResolver.roundPrems b = .ok prems) :
    Gen.Imp.OverhangResolver_make_fixes_imp b.store prems b.err = (prems.map (·.2)).foldlM (fixOne b.err) (b.store, [])
    ∧ ∀ kv ∈ prems, kv.2 ≠ [] :=
  ⟨ImpResolver.make_fixes_tie b.store prems b.err, ImpResolver.roundPrems_nonempty h⟩

/-- the whole round: `resolverRound` with BOTH resolver methods replaced by their translated source
    (`ImpResolver.resolverRoundSrc`: the same loop nest calling `Gen.Imp.OverhangResolver_add_overhang_premise`, then
    `Gen.Imp.OverhangResolver_make_fixes_imp`, then the model's bookkeeping) is `resolverRound` -/
theorem resolver_round_is_source (b : Build) : ImpResolver.resolverRoundSrc b = resolverRound b :=
  ImpResolver.resolverRoundSrc_eq b

/-- a build state in which `s2` is found in results 0 and 1 -/
def impBuild : Build :=
  { namer := { autosomePrefix := ['R'] }, store := impStore, nextOid := 10, joinGap := none, err := 10,
    found := [((['s', '1'], 1, 100), { fragment := impF1, scaffolds := [0] }),
              ((['s', '2'], 1, 200), { fragment := impF2, scaffolds := [0, 1] }),
              ((['s', '3'], 1, 300), { fragment := impF3, scaffolds := [1] })],
    multi := [(['s', '2'], 1, 200)] }

example : ImpResolver.roundPremsSrc impBuild = .ok (impStore, [((['s', '2'], 1, 200), [impEndOf0, impStartOf1])]) := by rfl
/-- the round removes `s2` from result 1, after which it is found in result 0 only and no fragment is in several results -/
example : ImpResolver.resolverRoundSrc impBuild
    = .ok (some { impBuild with
        store := [{ o := impR0, added := true }, { o := impR1Fixed, added := true }],
        found := [((['s', '1'], 1, 100), { fragment := impF1, scaffolds := [0] }),
                  ((['s', '2'], 1, 200), { fragment := impF2, scaffolds := [0] }),
                  ((['s', '3'], 1, 300), { fragment := impF3, scaffolds := [1] })],
        multi := [] }) := by rfl

end AgpTpf.C02
