/-
  C12 / T1c — the model's `buildIndex` IS the index the source's `IndexedAssembly.add_scaffold`
  (assembly/indexed_assembly.py) stores, as translated by `harness/translate_imp.py` into
  `Gen.Imp.IndexedAssembly_add_scaffold`.  Loop lemmas: Proofs/ImpSmall.lean.
-/
import AgpTpf.Gen.Imp
import AgpTpf.Proofs.ImpSmall
namespace AgpTpf.C12
open AgpTpf

/-- `add_scaffold` stores, under the scaffold's name, the scaffold and the cumulative-end index the model calls `buildIndex`; a name that is
    already present raises ValueError -/
theorem add_scaffold_is_source (d : List (Str × Scaffold)) (ix : List (Str × List Int)) (sc : Scaffold) :
    Gen.Imp.IndexedAssembly_add_scaffold d ix sc =
      if (dGet? d sc.name).isSome then .error .value else .ok (dSet d sc.name sc, dSet ix sc.name (buildIndex sc.rows)) := by
  unfold Gen.Imp.IndexedAssembly_add_scaffold
  split
  · rfl
  · dsimp only
    rw [PyRt.forIn_foldl ImpSmall.idxStep ?_, ImpSmall.foldl_idxStep]
    · simp [bind, Except.bind, buildIndex]
    · intro row _ s; rfl

/-- the generated function runs: two fragments and a gap are indexed by their cumulative ends … -/
example :
    Gen.Imp.IndexedAssembly_add_scaffold [] []
      { name := ['s'], rows := [.frag { name := ['c'], start := 1, stop := 5, strand := 1 }, .gap { length := 200, gapType := ['s'] },
                               .frag { name := ['d'], start := 11, stop := 20, strand := -1 }] }
    = .ok ([(['s'], { name := ['s'], rows := [.frag { name := ['c'], start := 1, stop := 5, strand := 1 },
                                            .gap { length := 200, gapType := ['s'] },
                                            .frag { name := ['d'], start := 11, stop := 20, strand := -1 }] })],
           [(['s'], [5, 205, 215])]) := by rfl

/-- … and a second scaffold of the same name is refused -/
example :
    Gen.Imp.IndexedAssembly_add_scaffold [(['s'], { name := ['s'] })] [(['s'], [])] { name := ['s'] } = .error .value := by rfl

end AgpTpf.C12
