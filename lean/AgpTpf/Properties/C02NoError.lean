/-
  C02, first clause — "remapping completes without error" — for every PretextView edit script:
  `remap_to_input_assembly` NEVER RAISES (N2), and in particular the cut QC never fails (N1).

  Python: `BuildAssembly.remap_to_input_assembly`, `find_assembly_overlaps`, `discard_overhanging_fragments`,
  `cut_remaining_overhangs` / `cut_fragments` / `qc_sub_fragments`, `add_missing_scaffolds_from_input` (build_assembly.py),
  `OverlapResult.trim_fragment`, `fragment_start_if_trimmed`, `trim_large_overhangs` (overlap_result.py),
  `OverhangResolver.make_fixes`, `OverhangPremise.improves`, `ScaffoldNamer.make_scaffold_name / label_scaffold`
  (build_utils.py), `IndexedAssembly.find_overlaps` (indexed_assembly.py).  Spec side: `Model/Pretext.lean`.
  Helpers: `Proofs/C02NTrim` (`trim_fragment` forwards, any flags / strand / tags), `C02NCut` (`VisitOK` ⇒
  `cut_fragments` succeeds), `C02NGeo` (a piece inside one contig keeps it; one holder), `C02NHold`
  (`Tiling`, holders are consecutive), `C02NSeq` (the invariants after lookup + resolver; the whole cutting
  loop), `C02NRes` (the resolver never raises; fuel), `C02NFront` (lookup stage,
  `add_missing`), `C02NMain` (scripts are tilings; assembly).

  PROVED, all at full strength for the stated hypotheses (no `_partial` theorem in this file):

    N1a `holders_are_consecutive`      ANY map whose pieces tile the input scaffolds (`Tiling`: valid, pairwise disjoint,
                                       no hole between two pieces of one scaffold, a piece between two others has ≥ err
                                       bases), ANY state reached by `find_assembly_overlaps` and then
                                       `discard_overhanging_fragments` (any fuel): for every contig still in `multi` the
                                       holders, in the order `cut_fragments` visits them, own ABUTTING stretches of the
                                       contig (`VisitOK`): the contig is the low-side row of every holder but the first and
                                       the high-side row of every holder but the last, each overhang is exactly the distance
                                       to the bait.  (Why: a piece lying wholly inside the contig has a one-row result that
                                       neither `trim_large_overhangs` nor the resolver ever touches — `Solo` — so between two
                                       holders every piece is a holder.  An END holder may be dropped by the resolver; the
                                       next holder then keeps the contig's first / last base: `keep_start` / `keep_end`.)
    N1b `cut_qc_passes_for_tiling`     … hence `cut_fragments` succeeds on each of them: `qc_sub_fragments` passes.
                                       Any number of holders, forward and reverse contigs, painted or not.
    N1c `cut_remaining_ok_for_tiling`  … and the WHOLE loop `cut_remaining_overhangs` succeeds (cutting one contig leaves
                                       the holders of every other contig ready).
    T   `script_map_is_tiling`         the map of every well-formed script (`wfScript`) over an input with pairwise
                                       different scaffold names is a `Tiling` at `errLen = 1 + ⌊bp per texel⌋`.
    R   `discard_overhanging_never_raises`   under the registry invariant `Mid` (C01) no round of the resolver raises
                                       (`Premise.apply` on an empty result, `removeFirst` failing: excluded), every
                                       productive round removes a row, so any fuel above `totalRows` — in particular the
                                       pipeline's `totalRows + 2` — suffices.
    L   `find_assembly_overlaps_never_raises`, `add_missing_never_raises`   the stages around it.
    N2g `remap_to_input_ok_for_tiling` `remap_to_input_assembly` returns for ANY tiling map whose Pretext scaffolds begin
                                       with a fragment row, name input scaffolds and carry no tag but `Painted`.
    N2  `script_remap_to_input_ok`     **for every well-formed script over a well-formed input `remap_to_input_assembly`
                                       returns a build** — painted or not, any haplotype-shaped names, any texel size.
        `script_cut_stage_never_fails` the states between: after lookup and resolver every shared contig is `VisitOK`.

  N3 `script_remap_ok` (that `assemblies_with_scaffolds_fused` does not raise after N2, hence `remap` returns) is in
  `Properties/C02Returns.lean`.

  HYPOTHESES of N2 (all decidable; discharged by `decide` in the example): `wfScript input s`; `WFInput input` (scaffold
  names, Fragment objects, contig keys pairwise different, contigs disjoint and ≥ 1 bp); no gap row of negative length;
  contigs forward or reverse; every input scaffold has at least one row (`find_overlaps` raises "Scaffold is empty" by
  design; an AGP file cannot produce one); input contigs carry no tags (`make_scaffold_name` on a left-over scaffold).

  FINDINGS.  No statement was found false; no well-formed script on a well-formed input makes the real code raise
  (searched with the real Python code before proving: 600 000 random dense-cut scripts — texel sizes 1, 1.01, 1.25, 1.5,
  1.99, 2, 7/3, 2.5, 3, 4, 10, 10.75; contigs of 1 … 40·err bases, both strands, 0-length gaps, up to 3 scaffolds, painted
  and unpainted, pieces shuffled / reversed / regrouped — plus an exhaustive enumeration of ALL cut sets (T ≤ 16) of 1 600
  three-contig scaffolds at texel sizes 1, 1.5, 2, 3: 245 000 scripts × 2 piece orders; 0 errors of any kind).
  The hypothesis "a piece between two others has ≥ err bases" is necessary (C02Core F-K4: a shorter middle piece is
  emptied by `trim_large_overhangs` and the QC raises); PretextView pieces of a cut scaffold have ≥ 2 texels ≥ err bases.
  Side remarks (designed validation, not defects of the remapping): an input scaffold without rows makes `find_overlaps`
  raise; for PAINTED scripts over an input whose scaffold names are shaped `<hap>_…_<digits>` with ≥ 2 different `<hap>`,
  `assemblies_with_scaffolds_fused` raises `ChrNamerError` (`ChrNamer.check_groups`) when the painted scaffolds come in a
  haplotype order such as A, A, B or A, B, C, B (A, B, B and A, B, A, B are accepted) — `painted_two_haplotypes_raises`
  below, confirmed on the real code — so the literal "for EVERY edit script … remapping completes without error" needs
  "unpainted, or a single haplotype" for the last stage (N3).
-/
import AgpTpf.Proofs.C02NMain
import AgpTpf.Proofs.ImpEval
namespace AgpTpf.C02
open AgpTpf AgpTpf.Pretext OverlapResult
open AgpTpf.C01 (WFInput inputFrags)

/-! ## the notions, spelled out -/

/-- `Tiling err ptx` (`Proofs/C02NHold.lean`); `ptxFrags ptx` = all Pretext fragment rows of the map -/
theorem tiling_iff (err : Int) (ptx : List Scaffold) :
    Tiling err ptx ↔
      (∀ p ∈ ptxFrags ptx, p.start ≤ p.stop) ∧
      (ptxFrags ptx).Pairwise (fun p q => p.name = q.name → p.stop < q.start ∨ q.stop < p.start) ∧
      (∀ p ∈ ptxFrags ptx, ∀ q ∈ ptxFrags ptx, p.name = q.name → ∀ x, p.stop < x → x < q.start →
        ∃ m ∈ ptxFrags ptx, m.name = p.name ∧ m.start ≤ x ∧ x ≤ m.stop) ∧
      (∀ m ∈ ptxFrags ptx, (∃ p ∈ ptxFrags ptx, p.name = m.name ∧ p.stop < m.start) →
        (∃ q ∈ ptxFrags ptx, q.name = m.name ∧ m.stop < q.start) → err ≤ m.length) :=
  ⟨fun h => ⟨h.valid, h.disjoint, h.convex, h.long⟩, fun ⟨a, b, c, d⟩ => ⟨a, b, c, d⟩⟩

theorem ptxFrags_def (ptx : List Scaffold) : ptxFrags ptx = ptx.flatMap Scaffold.fragments := rfl

/-- `VisitOK b fnd V lo hi` (`Proofs/C02NCut.lean`).  `a` / `c` = the contig is the first / last row of the holder's
    result; low side = first row and start overhang for a forward contig, last row and end overhang for a reverse one
    (`lowB`, `ovLow`; `highB`, `ovHigh` mirrored). -/
theorem visitOK_iff (b : Build) (fnd : Found) (V : List Nat) (lo hi : Nat → Int) :
    VisitOK b fnd V lo hi ↔
      V.Perm fnd.scaffolds ∧ V ≠ [] ∧ (fnd.fragment.strand = 1 ∨ fnd.fragment.strand = -1) ∧
      fnd.fragment.start ≤ fnd.fragment.stop ∧
      (∀ j, j < V.length → lo j ≤ hi j ∧ fnd.fragment.start ≤ hi j ∧ lo j ≤ fnd.fragment.stop) ∧
      (∀ j, j + 1 < V.length → hi j + 1 = lo (j + 1)) ∧
      ∀ j (h : j < V.length), ∃ a c,
        firstIs (getRes b.store V[j]) fnd.fragment = .ok a ∧ lastIs (getRes b.store V[j]) fnd.fragment = .ok c ∧
        (a = true ∨ c = true) ∧
        (lowB fnd.fragment a c = true → ovLow (getRes b.store V[j]) fnd.fragment = lo j - fnd.fragment.start) ∧
        (highB fnd.fragment a c = true → ovHigh (getRes b.store V[j]) fnd.fragment = fnd.fragment.stop - hi j) ∧
        (0 < j → lowB fnd.fragment a c = true) ∧ (j + 1 < V.length → highB fnd.fragment a c = true) :=
  ⟨fun h => ⟨h.perm, h.ne, h.strand, h.valid, h.geo, h.abut, h.res⟩,
   fun ⟨a, b, c, d, e, f, g⟩ => ⟨a, b, c, d, e, f, g⟩⟩

theorem low_high_def (F : Fragment) (o : OverlapResult) (a c : Bool) :
    lowB F a c = (if F.strand = 1 then a else c) ∧ highB F a c = (if F.strand = 1 then c else a) ∧
    ovLow o F = (if F.strand = 1 then o.startOverhang else o.endOverhang) ∧
    ovHigh o F = (if F.strand = 1 then o.endOverhang else o.startOverhang) := ⟨rfl, rfl, rfl, rfl⟩

/-! ## N1 — any tiling map -/

/-- **N1a — the holders of a shared contig are consecutive pieces.**  `input` well-formed (`WFInput`: scaffold names,
    Fragment objects and contig keys pairwise different, contigs disjoint and ≥ 1 bp), no gap of negative length, contigs
    forward or reverse; `ptx` a `Tiling` at `err ≥ 0`; `b1` what `find_assembly_overlaps` returns on the fresh build, `b2`
    what `discard_overhanging_fragments` (any fuel) returns on `b1`.  Then every key still in `multi` has a holder list
    satisfying `VisitOK`. -/
theorem holders_are_consecutive (input ptx : List Scaffold) (prefix_ : Str) (joinGap : Option Gap) (err : Int)
    (hwf : WFInput input) (hnn : InputNonNeg input) (hstr : ∀ f ∈ inputFrags input, f.strand = 1 ∨ f.strand = -1)
    (herr : 0 ≤ err) (hT : Tiling err ptx) (b1 b2 : Build) (fuel : Nat)
    (h1 : findAssemblyOverlaps input ptx (C09.startBuild input prefix_ joinGap err) = .ok b1)
    (h2 : discardOverhanging fuel b1 = .ok b2) :
    ∀ k ∈ b2.multi, ∀ fnd, dGet? b2.found k = some fnd → ∃ V lo hi, VisitOK b2 fnd V lo hi := by
  intro k hk fnd hf
  have hctx := holdCtx_after_resolver input ptx prefix_ joinGap err hwf hnn hstr herr hT b1 b2 fuel h1 h2
  obtain ⟨sc, X, Y, hH⟩ := hctx.holderSet hk hf
  exact hH.visit

/-- the fresh build is the one `remap_to_input_assembly` starts from -/
theorem start_build_def (input : List Scaffold) (prefix_ : Str) (joinGap : Option Gap) (err : Int) :
    C09.startBuild input prefix_ joinGap err =
      { namer := { autosomePrefix := prefix_ },
        nextOid := (input.flatMap Scaffold.fragments).foldl (fun m f => max m (f.oid + 1)) 0,
        joinGap := joinGap, err := err } := rfl

/-- **`VisitOK` ⇒ `cut_fragments` succeeds** (the QC passes), for any build -/
theorem cut_fragments_ok_of_visit {b : Build} {fnd : Found} {V : List Nat} {lo hi : Nat → Int}
    (h : VisitOK b fnd V lo hi) : ∃ b', cutFragments b fnd = .ok b' ∧ b'.cuts = b.cuts + ((V.length : Int) - 1) :=
  (cut_ok_of_visit h).elim fun _ hc => ⟨_, hc.1, rfl⟩

/-- **N1b — the cut QC passes for every contig left in `multi`.** -/
theorem cut_qc_passes_for_tiling (input ptx : List Scaffold) (prefix_ : Str) (joinGap : Option Gap) (err : Int)
    (hwf : WFInput input) (hnn : InputNonNeg input) (hstr : ∀ f ∈ inputFrags input, f.strand = 1 ∨ f.strand = -1)
    (herr : 0 ≤ err) (hT : Tiling err ptx) (b1 b2 : Build) (fuel : Nat)
    (h1 : findAssemblyOverlaps input ptx (C09.startBuild input prefix_ joinGap err) = .ok b1)
    (h2 : discardOverhanging fuel b1 = .ok b2) :
    ∀ k ∈ b2.multi, ∀ fnd, dGet? b2.found k = some fnd → ∃ b', cutFragments b2 fnd = .ok b' := by
  intro k hk fnd hf
  obtain ⟨V, lo, hi, hV⟩ :=
    holders_are_consecutive input ptx prefix_ joinGap err hwf hnn hstr herr hT b1 b2 fuel h1 h2 k hk fnd hf
  exact (cut_ok_of_visit hV).elim fun _ hc => ⟨_, hc.1⟩

/-- **N1c — the whole loop `cut_remaining_overhangs` succeeds.** -/
theorem cut_remaining_ok_for_tiling (input ptx : List Scaffold) (prefix_ : Str) (joinGap : Option Gap) (err : Int)
    (hwf : WFInput input) (hnn : InputNonNeg input) (hstr : ∀ f ∈ inputFrags input, f.strand = 1 ∨ f.strand = -1)
    (herr : 0 ≤ err) (hT : Tiling err ptx) (b1 b2 : Build) (fuel : Nat)
    (h1 : findAssemblyOverlaps input ptx (C09.startBuild input prefix_ joinGap err) = .ok b1)
    (h2 : discardOverhanging fuel b1 = .ok b2) :
    ∃ b3, cutRemaining b2 = .ok b3 :=
  cut_remaining_ok_for_tiling' input ptx prefix_ joinGap err hwf hnn hstr herr hT b1 b2 fuel h1 h2

/-! ## T — scripts are tilings -/

/-- **T.**  The map of a well-formed script tiles the input scaffolds, at the error length the remapper derives from the
    map's header (`errLen p q = 1 + ⌊p/q⌋`, `err_len_of_header_text`). -/
theorem script_map_is_tiling {input : List Scaffold} {s : Script} (hw : wfScript input s = true)
    (hn : (input.map (·.name)).Nodup) : Tiling (errLen s.p s.q : Int) (ptxOf input s) :=
  script_is_tiling hw hn

/-! ## R, L — the other stages -/

/-- **R — `discard_overhanging_fragments` never raises** (and terminates within its fuel): `Mid input b` is C01's registry
    invariant, which `find_assembly_overlaps` establishes (`C01.reg_after_find`) and every round keeps. -/
theorem discard_overhanging_never_raises {input : List Scaffold} (hwf : WFInput input) (fuel : Nat) (b : Build)
    (hm : C01.Mid input b) (hfuel : totalRows b.store < fuel) : ∃ b', discardOverhanging fuel b = .ok b' :=
  discardOverhanging_returns hwf fuel b hm hfuel

/-- one round: it returns; a productive round removes at least one row from the store -/
theorem resolver_round_never_raises {input : List Scaffold} (hwf : WFInput input) {b : Build} (hm : C01.Mid input b) :
    ∃ r, resolverRound b = .ok r ∧ ∀ b', r = some b' → totalRows b'.store < totalRows b.store :=
  resolverRound_returns hwf hm

theorem ptxScafOk_iff (input : List Scaffold) (S : Scaffold) :
    PtxScafOk input S ↔
      (∃ f t, S.rows = .frag f :: t) ∧
      ((∀ p ∈ S.fragments, p.tags = []) ∨ (S.fragments ≠ [] ∧ ∀ p ∈ S.fragments, p.tags = [sPainted])) ∧
      (∀ p ∈ S.fragments, ∃ sc ∈ input, sc.name = p.name) :=
  ⟨fun h => ⟨h.head, h.tags, h.names⟩, fun ⟨a, b, c⟩ => ⟨a, b, c⟩⟩

/-- **L — the lookup stage never raises** on a map whose scaffolds begin with a fragment row, whose pieces name input
    scaffolds (with at least one row each) and carry no tag, or all just `Painted` -/
theorem find_assembly_overlaps_never_raises {input : List Scaffold} (hn : (input.map (·.name)).Nodup)
    (hnn : InputNonNeg input) (hrows : ∀ sc ∈ input, sc.rows ≠ []) (ptx : List Scaffold)
    (hp : ∀ S ∈ ptx, PtxScafOk input S) (b : Build) : ∃ b', findAssemblyOverlaps input ptx b = .ok b' :=
  findAssemblyOverlaps_returns hn hnn hrows ptx hp b

/-- **L — `add_missing_scaffolds_from_input` never raises** with a join gap and an untagged input -/
theorem add_missing_never_raises (g : Gap) (input : List Scaffold) (b : Build) (hj : b.joinGap = some g)
    (hut : ∀ sc ∈ input, ∀ f ∈ sc.fragments, f.tags = []) : ∃ b', addMissing input b = .ok b' := by
  rw [Pipeline.addMissing_eq]; exact addMissing_returns g input b hj hut

/-! ## N2 — `remap_to_input_assembly` never raises -/

/-- **N2, any tiling map.** -/
theorem remap_to_input_ok_for_tiling (input ptx : List Scaffold) (prefix_ : Str) (jg : Gap) (err : Int)
    (hwf : WFInput input) (hnn : InputNonNeg input) (hstr : ∀ f ∈ inputFrags input, f.strand = 1 ∨ f.strand = -1)
    (hrows : ∀ sc ∈ input, sc.rows ≠ []) (hut : ∀ sc ∈ input, ∀ f ∈ sc.fragments, f.tags = [])
    (herr : 0 ≤ err) (hT : Tiling err ptx) (hp : ∀ S ∈ ptx, PtxScafOk input S) :
    ∃ b, remapToInput input ptx prefix_ (some jg) err = .ok b :=
  remapToInput_ok_of_tiling input ptx prefix_ jg err hwf hnn hstr hrows hut herr hT hp

/-- **N2 — for every PretextView script `remap_to_input_assembly` returns a build.** -/
theorem script_remap_to_input_ok {input : List Scaffold} {s : Script} (hw : wfScript input s = true)
    (hwf : WFInput input) (hnn : InputNonNeg input) (hstr : ∀ f ∈ inputFrags input, f.strand = 1 ∨ f.strand = -1)
    (hrows : ∀ sc ∈ input, sc.rows ≠ []) (hut : ∀ sc ∈ input, ∀ f ∈ sc.fragments, f.tags = [])
    (prefix_ : Str) (jg : Gap) :
    ∃ b, remapToInput input (ptxOf input s) prefix_ (some jg) (errLen s.p s.q : Int) = .ok b :=
  remapToInput_ok_of_tiling input _ prefix_ jg _ hwf hnn hstr hrows hut (by omega) (script_map_is_tiling hw hwf.1)
    (script_ptx_ok (wfScript_spec hw))

/-- the states in between: whenever the lookup stage and the resolver loop have returned `b1`, `b2` (they do, by `L` and
    `R`), every contig still shared is `VisitOK` in `b2` and `cut_remaining_overhangs` returns. -/
theorem script_cut_stage_never_fails {input : List Scaffold} {s : Script} (hw : wfScript input s = true)
    (hwf : WFInput input) (hnn : InputNonNeg input) (hstr : ∀ f ∈ inputFrags input, f.strand = 1 ∨ f.strand = -1)
    (prefix_ : Str) (joinGap : Option Gap) (b1 b2 : Build)
    (h1 : findAssemblyOverlaps input (ptxOf input s)
        (C09.startBuild input prefix_ joinGap (errLen s.p s.q : Int)) = .ok b1)
    (h2 : discardOverhanging (totalRows b1.store + 2) b1 = .ok b2) :
    (∀ k ∈ b2.multi, ∀ fnd, dGet? b2.found k = some fnd → ∃ V lo hi, VisitOK b2 fnd V lo hi) ∧
    ∃ b3, cutRemaining b2 = .ok b3 :=
  ⟨holders_are_consecutive input _ prefix_ joinGap _ hwf hnn hstr (by omega) (script_map_is_tiling hw hwf.1) b1 b2 _ h1 h2,
   cut_remaining_ok_for_tiling input _ prefix_ joinGap _ hwf hnn hstr (by omega) (script_map_is_tiling hw hwf.1) b1 b2 _ h1 h2⟩

/-! ## non-vacuity -/

open scoped AgpTpf.ImpEval

private def g10 : Gap := { length := 10, gapType := "scaffold".toList }
private def jg : Gap := { length := 200, gapType := "scaffold".toList }
private def f1 : Fragment := { oid := 1, name := "ctgF".toList, start := 1, stop := 100, strand := 1 }
private def f2 : Fragment := { oid := 2, name := "ctgG".toList, start := 1, stop := 60, strand := -1 }
/-- 170 bp: F 1-100 (forward), gap, G 111-170 (reverse) -/
private def sN : Scaffold := { name := "scaffold_1".toList, rows := [.frag f1, .gap g10, .frag f2] }
/-- texel 8 bp (`errLen = 9`), 21 texels (floor: 168), cut after texels 3, 6, 17: pieces `[1,24]`, `[25,48]`, `[49,136]`,
    `[137,168]`.  F is held by THREE pieces (the middle one lies wholly inside it), the reverse contig G by two; the pieces
    are shuffled, two of them reversed, and regrouped into two Pretext scaffolds. -/
private def scrN : Script :=
  { p := 8, q := 1, scafs := [{ T := 21, cuts := [3, 6, 17] }],
    groups := [{ items := [{ sc := 0, k := 2, minus := true }, { sc := 0, k := 0 }] },
               { items := [{ sc := 0, k := 3 }, { sc := 0, k := 1, minus := true }], painted := true }] }

private theorem wfN : wfScript [sN] scrN = true := by decide +kernel
private theorem inputN : WFInput [sN] ∧ InputNonNeg [sN] ∧ ∀ f ∈ inputFrags [sN], f.strand = 1 ∨ f.strand = -1 := by
  decide +kernel

example : wfScript [sN] scrN = true := wfN
example : WFInput [sN] ∧ InputNonNeg [sN] ∧ ∀ f ∈ inputFrags [sN], f.strand = 1 ∨ f.strand = -1 := inputN
example : (scrN.scafs.map (fun c => c.spans 8 1)) = [[(1, 24), (25, 48), (49, 136), (137, 168)]] := by decide +kernel
/-- `T` gives the tiling; its clauses can be read off the four pieces -/
example : Tiling 9 (ptxOf [sN] scrN) := script_map_is_tiling (s := scrN) wfN inputN.1.1

set_option synthInstance.maxSize 1024 in
/-- the pipeline evaluated by the kernel, independently of the theorems: it completes with 3 cuts (F into three, G into
    two) -/
private theorem evalN : (remapToInput [sN] (ptxOf [sN] scrN) "SUPER_".toList (some jg) 9).toOption.map (·.cuts) = some 3 := by
  unfold sN jg f1 f2 g10
  str_lits
  decide +kernel

/-- N2 applied: all its hypotheses are decided -/
example : ∃ b, remapToInput [sN] (ptxOf [sN] scrN) "SUPER_".toList (some jg) (errLen scrN.p scrN.q : Int) = .ok b :=
  script_remap_to_input_ok (s := scrN) wfN inputN.1 inputN.2.1 inputN.2.2 (by decide +kernel) (by decide +kernel) _ jg

/-- the hypotheses `h1`, `h2` of `script_cut_stage_never_fails` are satisfiable -/
example : ∃ b1 b2 b3, findAssemblyOverlaps [sN] (ptxOf [sN] scrN) (C09.startBuild [sN] "SUPER_".toList (some jg) 9) = .ok b1 ∧
    discardOverhanging (totalRows b1.store + 2) b1 = .ok b2 ∧ cutRemaining b2 = .ok b3 := by
  obtain ⟨b, hr, -⟩ := ok_of_view evalN
  obtain ⟨b1, b2, b3, h1, h2, h3, _⟩ := Pipeline.remapToInput_ok hr
  exact ⟨b1, b2, b3, h1, h2, h3⟩

/-- `remap` as a whole completes on this script too -/
example : (remap [sN] (ptxOf [sN] scrN) "SUPER_".toList (some jg) 9).toOption.map (fun r => r.2.cuts) = some 3 := by
  unfold sN jg f1 f2 g10
  str_lits
  decide +kernel

/-! ### the ChrNamer validation: a painted well-formed script that `remap` rejects (by design) -/

private def hA1 : Scaffold := { name := "A_x_1".toList, rows := [.frag { oid := 1, name := "c1".toList, start := 1, stop := 100, strand := 1 }] }
private def hA2 : Scaffold := { name := "A_x_2".toList, rows := [.frag { oid := 2, name := "c2".toList, start := 1, stop := 100, strand := 1 }] }
private def hB1 : Scaffold := { name := "B_x_1".toList, rows := [.frag { oid := 3, name := "c3".toList, start := 1, stop := 100, strand := 1 }] }
/-- three whole scaffolds (10 texels of 10 bp each), uncut, each painted as its own Pretext scaffold, in input order -/
private def scrH : Script :=
  { p := 10, q := 1, scafs := [{ T := 10 }, { T := 10 }, { T := 10 }],
    groups := [{ items := [{ sc := 0, k := 0 }], painted := true }, { items := [{ sc := 1, k := 0 }], painted := true },
               { items := [{ sc := 2, k := 0 }], painted := true }] }

set_option synthInstance.maxSize 1024 in
/-- **by design**: haplotypes `A`, `A`, `B` (taken from the input scaffold names) — `remap_to_input_assembly` returns (N2),
    then `ChrNamer.check_groups` rejects the map (two names in the first haplotype's set of one chromosome group).
    The real code raises `ChrNamerError` on the same input. -/
theorem painted_two_haplotypes_raises :
    wfScript [hA1, hA2, hB1] scrH = true ∧
    (remapToInput [hA1, hA2, hB1] (ptxOf [hA1, hA2, hB1] scrH) "SUPER_".toList (some jg) 11).toOption.isSome = true ∧
    remap [hA1, hA2, hB1] (ptxOf [hA1, hA2, hB1] scrH) "SUPER_".toList (some jg) 11 = .error .chrNamer := by
  unfold hA1 hA2 hB1 jg
  str_lits
  exact ⟨by decide +kernel, by decide +kernel, by decide +kernel⟩

/-- not a tiling: a hole between two pieces (`convex` fails) — the map `[1,24]`, `[49,120]` of the same scaffold -/
example : ¬ Tiling 9 [{ name := "P".toList, rows :=
    [.frag { name := sN.name, start := 1, stop := 24, strand := 1 },
     .frag { name := sN.name, start := 49, stop := 120, strand := 1 }] }] := by
  intro h
  obtain ⟨m, hm, _, h1, h2⟩ := h.convex { name := sN.name, start := 1, stop := 24, strand := 1 } (by decide +kernel)
    { name := sN.name, start := 49, stop := 120, strand := 1 } (by decide +kernel) rfl 30 (by decide +kernel) (by decide +kernel)
  have : m = { name := sN.name, start := 1, stop := 24, strand := 1 } ∨
      m = { name := sN.name, start := 49, stop := 120, strand := 1 } := by
    simpa [ptxFrags, Scaffold.fragments, fragmentsOf] using hm
  rcases this with rfl | rfl
  · exact absurd h2 (by decide +kernel)
  · exact absurd h1 (by decide +kernel)

end AgpTpf.C02
