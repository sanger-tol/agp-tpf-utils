/-
  C19 (T1c) — the model's overlap scan `findOverlappingFragments` IS the Python source as translated.

  Source side: `Gen.Imp.Assembly_all_vs_all_fragments_detect` in `AgpTpf/Gen/Imp.lean`, generated by `harness/translate_imp.py` from
  `src/tola/assembly/assembly.py` (`all_vs_all_fragments`, with the callback `detect_overlap` of `find_overlapping_fragments`
  inlined; the result is the list `over_pairs` of pairs `((f1, scaffold1), (f2, scaffold2))` of fragment and scaffold OBJECT).
  Model side: `findOverlappingFragments` / `overlappingPairsNamed` / `Assembly.fragmentsWithScaffold` (`Model/AsmFormat.lean`), where
  each scaffold is reduced to its name (all that `report_overlaps` prints), and the C19 theorems of `Properties/C19.lean`,
  `Properties/C19Cli.lean`.

  The two index loops `for i in range(0, lgth): for j in range(i + 1, lgth): … frags[i] … frags[j]` never raise (`frags[i]`,
  `frags[j]` are always in range), so the tie says `= .ok …` for EVERY assembly.
  Proofs: `AgpTpf/Proofs/ImpAllVsAll.lean`.
-/
import AgpTpf.Proofs.ImpAllVsAll
import AgpTpf.Properties.C19Cli
namespace AgpTpf.C19
open AgpTpf AgpTpf.AsmFormat

/-- a pair of the source (scaffold objects) as the report sees it (scaffold names) -/
def srcOvPair (p : (Fragment × Scaffold) × (Fragment × Scaffold)) : OvPair :=
  { f1 := p.1.1, s1 := p.1.2.name, f2 := p.2.1, s2 := p.2.2.name }

/-- the pairs the source's all-against-all scan collects are the model's (each scaffold object reduced to its name, as the report does) -/
theorem all_vs_all_is_source (a : Assembly) :
    (Gen.Imp.Assembly_all_vs_all_fragments_detect a.scaffolds).map
        (List.map (fun p => ({ f1 := p.1.1, s1 := p.1.2.name, f2 := p.2.1, s2 := p.2.2.name } : OvPair)))
      = .ok (findOverlappingFragments a) := by
  rw [ImpScaffold.all_vs_all_tie]
  unfold findOverlappingFragments
  rw [← ImpScaffold.fragsWithScaffoldObj_names, ImpScaffold.overlappingPairsNamed_eq_ovPairs,
    ← ImpScaffold.ovPairs_map Scaffold.name, List.map_map]
  rfl

/-! ### the input the `example`s run on: scaffold `s1 = [c:1-5(+), gap 3, c:4-7(-)]`, scaffold `s2 = [c:5-7(?), d:1-9(+)]` -/

private def g1 : Fragment := { oid := 0, name := ['c'], start := 1, stop := 5, strand := 1, tags := [['s', '1']] }
private def g2 : Fragment := { oid := 1, name := ['c'], start := 4, stop := 7, strand := -1 }
private def g3 : Fragment := { oid := 2, name := ['c'], start := 5, stop := 7, strand := 0 }
private def g4 : Fragment := { oid := 3, name := ['d'], start := 1, stop := 9, strand := 1 }
private def sc1 : Scaffold := { name := ['s', '1'], rows := [.frag g1, .gap ⟨3, ['s', 'c', 'a', 'f', 'f', 'o', 'l', 'd']⟩, .frag g2] }
private def sc2 : Scaffold := { name := ['s', '2'], rows := [.frag g3, .frag g4] }

/-- three pairs: one inside scaffold s1, two across s1 / s2, in scan order; `d:1-9` overlaps nothing -/
example : Gen.Imp.Assembly_all_vs_all_fragments_detect [sc1, sc2] =
    .ok [((g1, sc1), (g2, sc1)), ((g1, sc1), (g3, sc2)), ((g2, sc1), (g3, sc2))] := by decide +kernel
example : (Gen.Imp.Assembly_all_vs_all_fragments_detect [sc1, sc2]).map (List.map srcOvPair) =
    .ok [⟨g1, ['s', '1'], g2, ['s', '1']⟩, ⟨g1, ['s', '1'], g3, ['s', '2']⟩, ⟨g2, ['s', '1'], g3, ['s', '2']⟩] := by decide +kernel
/-- no scaffolds, no pairs -/
example : Gen.Imp.Assembly_all_vs_all_fragments_detect [] = .ok [] := by decide

/-- `find_overlapping_named_spec` (Properties/C19Cli.lean) for the SOURCE's scan, for ANY assembly: the scan ends without exception;
    the collected pairs are, in scan order, the overlapping ones among all position pairs `i < j` of the fragment list (scaffold
    after scaffold) — each unordered pair once, within a scaffold and across scaffolds alike; forgetting the scaffolds gives exactly
    `overlappingPairs` of all fragments; every collected fragment comes with a scaffold OBJECT of the assembly that holds it, and the
    two fragments of a pair overlap; nothing is collected iff no two fragments of the assembly overlap. -/
theorem source_scan_spec (a : Assembly) :
    ∃ pairs, Gen.Imp.Assembly_all_vs_all_fragments_detect a.scaffolds = .ok pairs ∧
      pairs.map srcOvPair = findOverlappingFragments a ∧
      pairs.map srcOvPair = ((allPairs a.fragmentsWithScaffold).filter (fun p => p.1.1.overlaps p.2.1)).map mkOvPair ∧
      pairs.map (fun p => (p.1.1, p.2.1)) = overlappingPairs a.allFragments ∧
      (∀ p ∈ pairs, (p.1.2 ∈ a.scaffolds ∧ p.1.1 ∈ p.1.2.fragments) ∧ (p.2.2 ∈ a.scaffolds ∧ p.2.1 ∈ p.2.2.fragments) ∧
                    p.1.1.overlaps p.2.1 = true) ∧
      (pairs = [] ↔ ∀ i j : Nat, i < j → ∀ f g, a.allFragments[i]? = some f → a.allFragments[j]? = some g →
                      f.overlaps g = false) := by
  have htie := all_vs_all_is_source a
  rw [ImpScaffold.all_vs_all_tie] at htie
  simp only [Except.map, Except.ok.injEq] at htie
  have hnamed : (ImpScaffold.ovPairs (ImpScaffold.fragsWithScaffoldObj a.scaffolds)).map srcOvPair = findOverlappingFragments a := htie
  obtain ⟨s1, s2, _, _⟩ := find_overlapping_named_spec a
  refine ⟨_, ImpScaffold.all_vs_all_tie a.scaffolds, hnamed, hnamed.trans s1, ?_, ?_, ?_⟩
  · rw [← s2, ← hnamed, List.map_map]; rfl
  · intro p hp
    rw [ImpScaffold.ovPairs_eq_filter_allPairs, List.mem_filter] at hp
    obtain ⟨⟨f, s⟩, ⟨g, t⟩⟩ := p
    obtain ⟨i, j, _, hi, hj⟩ := (mem_allPairs_iff _ _ _).1 hp.1
    have mem : ∀ (f : Fragment) (s : Scaffold), (f, s) ∈ ImpScaffold.fragsWithScaffoldObj a.scaffolds →
        s ∈ a.scaffolds ∧ f ∈ s.fragments := by
      intro f s h
      simp only [ImpScaffold.fragsWithScaffoldObj, List.mem_flatMap, List.mem_map, Prod.mk.injEq] at h
      obtain ⟨s', hs', f', hf', rfl, rfl⟩ := h
      exact ⟨hs', hf'⟩
    exact ⟨mem f s (List.mem_of_getElem? hi), mem g t (List.mem_of_getElem? hj), hp.2⟩
  · rw [← findOverlapping_nil_iff, ← hnamed, List.map_eq_nil_iff]

end AgpTpf.C19
