/-
  C14 / T1c — the model's `Fragment.reverse`, `Scaffold.reverse` and `OverlapResult.toScaffoldRows` ARE the source's
  `Fragment.reverse` (assembly/fragment.py) and `OverlapResult.to_scaffold` (assembly/overlap_result.py) as translated by
  `harness/translate_imp.py` into `Gen.Imp.Fragment_reverse` / `Gen.Imp.OverlapResult_to_scaffold`.
-/
import AgpTpf.Gen.Imp
import AgpTpf.Proofs.ImpEval
namespace AgpTpf.C14
open AgpTpf AgpTpf.ImpEval

/-- the source's `reverse()` goes through `Fragment.__init__` again: it builds the model's reversed fragment (a NEW object)
    exactly when the checks of `__init__` hold for `self`, and raises ValueError otherwise — i.e. for a hand-mutated fragment
    with a strand outside {0, 1, -1} or `start > end`, where the model's total `Fragment.reverse` still returns a value. -/
theorem fragment_reverse_source_cases (f : Fragment) (newOid : Nat) :
    Gen.Imp.Fragment_reverse f newOid =
      if (f.strand = 0 ∨ f.strand = 1 ∨ f.strand = -1) ∧ f.start ≤ f.stop then .ok { f.reverse with oid := newOid }
      else .error .value := by
  unfold Gen.Imp.Fragment_reverse mkFragment Fragment.reverse
  simp only [bind, Except.bind]
  grind

/-- for a Fragment that passed `Fragment.__init__`'s checks the source's `reverse()` builds the model's reversed fragment (a NEW object) -/
theorem fragment_reverse_is_source (f : Fragment) (newOid : Nat) (hs : f.strand = 0 ∨ f.strand = 1 ∨ f.strand = -1) (hse : f.start ≤ f.stop) :
    Gen.Imp.Fragment_reverse f newOid = .ok { f.reverse with oid := newOid } := by
  rw [fragment_reverse_source_cases, if_pos ⟨hs, hse⟩]

/-- the hypotheses are met, and the generated function runs -/
example :
    Gen.Imp.Fragment_reverse { oid := 3, name := ['c'], start := 4, stop := 9, strand := 1, tags := [['t']] } 7
      = .ok { oid := 7, name := ['c'], start := 4, stop := 9, strand := -1, tags := [['t']] } := by
  decide +kernel
example : ((1 : Int) = 0 ∨ (1 : Int) = 1 ∨ (1 : Int) = -1) ∧ (4 : Int) ≤ 9 := by
  decide +kernel
/-- outside the hypotheses the source raises where the model's `Fragment.reverse` returns a fragment -/
example : Gen.Imp.Fragment_reverse { name := ['c'], start := 4, stop := 9, strand := 2 } 7 = .error .value := by
  decide +kernel
example : Gen.Imp.Fragment_reverse { name := ['c'], start := 9, stop := 4, strand := 1 } 7 = .error .value := by
  decide +kernel

/-- `to_scaffold` never raises and its rows are the model's `toScaffoldRows` -/
theorem to_scaffold_is_source (o : OverlapResult) :
    (Gen.Imp.OverlapResult_to_scaffold o).map (·.rows) = .ok o.toScaffoldRows := by
  unfold Gen.Imp.OverlapResult_to_scaffold OverlapResult.toScaffoldRows Scaffold.reverse
  by_cases h : o.bait.strand = -1 <;> simp [h, Except.map]

/-- the whole result of `to_scaffold`: name / original_name / original_tags are those of `o`, rows as above, and
    tag / haplotype / rank are the defaults of a fresh `Scaffold` (the source does not copy them) -/
theorem to_scaffold_is_source_full (o : OverlapResult) :
    Gen.Imp.OverlapResult_to_scaffold o =
      .ok { name := o.name, rows := o.toScaffoldRows, originalName := o.originalName, originalTags := o.originalTags } := by
  unfold Gen.Imp.OverlapResult_to_scaffold OverlapResult.toScaffoldRows Scaffold.reverse
  by_cases h : o.bait.strand = -1 <;> simp [h]

/-- the generated function runs: a minus-strand bait reverses order and strands -/
example :
    Gen.Imp.OverlapResult_to_scaffold
      { bait := { name := ['b'], start := 1, stop := 20, strand := -1 }, start := 1, stop := 20, name := ['n'], rank := 2,
        originalName := some ['o'],
        rows := [.frag { name := ['c'], start := 1, stop := 5, strand := 1 }, .gap { length := 5, gapType := ['s'] },
                 .frag { name := ['d'], start := 11, stop := 20, strand := -1 }] }
    = .ok { name := ['n'], originalName := some ['o'],
            rows := [.frag { name := ['d'], start := 11, stop := 20, strand := 1 }, .gap { length := 5, gapType := ['s'] },
                     .frag { name := ['c'], start := 1, stop := 5, strand := -1 }] } := by
  decide +kernel

end AgpTpf.C14
