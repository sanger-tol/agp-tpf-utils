/-
  C06 through the command: every AGP text `asm-format` writes (Model/AsmFormat.lean) is coordinate-valid.

  `ValidAgp strict text objs` (Proofs/AsmFormatNames.lean): `text` is comment lines `# …` followed, object by object, by
  tab-joined newline-terminated lines that tile each object of `objs` = (name, length) from 1 to its length with part
  numbers 1, 2, … (`ValidAgpLines`, the predicate of Properties/C06.lean, numeric columns read back with `int()`);
  `strict`: also start ≤ end on every line and a non-empty gap type on every gap line.
  What the READERS guarantee for any input text that parses (Proofs/AsmFormatRun.lean, AsmFormatNames.lean):
      `RowsParsed`  every fragment has strand ∈ {0, 1, -1} and start ≤ end (`Fragment.__init__`),
      `HeaderOk`    every header text is one non-empty line,
  so the AGP and TPF writers cannot raise after a successful parse and the text is `ValidAgp false`.  What they do NOT
  guarantee is `GapsStrict`: gap lines with length ≤ 0 or an empty type are read and written back (finding below), so
  `ValidAgp true` needs that hypothesis.  Object names need not be pairwise different (findings below).
-/
import AgpTpf.Properties.C06
import AgpTpf.Proofs.AsmFormatCli
import AgpTpf.Proofs.AsmFormatNames
import AgpTpf.Proofs.ImpEval
namespace AgpTpf.C06
open AgpTpf AgpTpf.C05 AgpTpf.AsmFormat
open scoped AgpTpf.ImpEval

/-- after a successful parse, `process_fh` cannot raise for any of the four output formats -/
theorem asm_format_never_fails_after_parse (inFmt : Fmt) (asmName : Str) (lines : List Str) (asm : Assembly)
    (hp : parseFh inFmt asmName lines = .ok asm) (outFmt : OutFmt) (qc : Bool) :
    ∃ text, processFh inFmt asmName lines (some outFmt) qc =
      .ok (text, if qc then findOverlappingFragments asm else []) := by
  obtain ⟨text, hw⟩ := writeFh_parsed_ok hp outFmt
  exact ⟨text, (processFh_ok_iff _ _ _ _ _ _ _).2 ⟨asm, hp, rfl, hw⟩⟩

/-- ONE `process_fh` with output format AGP that does not raise (input AGP or TPF, ANY input text): the text written
    is a valid AGP file whose objects are the scaffolds of the parsed assembly with their lengths; strictly valid as
    soon as every gap of the parsed assembly has a positive length and a type; and two objects that follow each other
    are differently named (`AdjDiff`; a name may still come back later, see the findings). -/
theorem asm_format_writes_valid_agp (inFmt : Fmt) (asmName : Str) (lines : List Str) (qc : Bool)
    (text : Str) (pairs : List OvPair) (h : processFh inFmt asmName lines (some .AGP) qc = .ok (text, pairs)) :
    ∃ asm, parseFh inFmt asmName lines = .ok asm ∧
      ValidAgp false text (agpObjects asm) ∧
      (GapsStrict asm → ValidAgp true text (agpObjects asm)) ∧
      AdjDiff ((agpObjects asm).map (·.1)) := by
  obtain ⟨asm, hp, _, hw⟩ := (processFh_ok_iff _ _ _ _ _ _ _).1 h
  have hrows := parseFh_rowsParsed hp
  have hhdr : ∀ x ∈ asm.header, '\n' ∉ x := fun x hx => C06.HeaderOk.no_nl (parseFh_headerOk hp x hx)
  have hs : ∀ s ∈ asm.scaffolds, ∀ r ∈ s.rows, StrandOk r := fun s hs r hr => (hrows s hs r hr).strandOk
  have htext : ∀ ls, formatAgp asm = .ok ls → text = ls.flatten := by
    intro ls hls
    simp only [writeFh, hls, bind, Except.bind, pure, Except.pure, Except.ok.injEq] at hw
    exact hw.symm
  refine ⟨asm, hp, ?_, ?_, ?_⟩
  · obtain ⟨ls, hls, hv⟩ := formatAgp_validAgp false asm hs (fun hf => Bool.noConfusion hf) hhdr
    rw [htext ls hls]; exact hv
  · intro hg
    obtain ⟨ls, hls, hv⟩ := formatAgp_validAgp true asm hs
      (fun _ s hs r hr => rowStrict_of_parsed (hrows s hs r hr) (hg s hs r hr)) hhdr
    rw [htext ls hls]; exact hv
  · -- the object names of the written AGP are the scaffold names, in order
    rw [show (agpObjects asm).map (·.1) = scNames asm.scaffolds by
      simp [agpObjects, scNames, List.map_map, Function.comp_def]]
    exact parseFh_adjDiff hp

/-- The whole run with output format AGP, any number of input files, failing or not: what is on the output handle at
    the end is the concatenation of one valid AGP text per input file processed before the first failure (all of
    them when the run ends without exception) — valid PER FILE.  As one AGP file the concatenation holds the objects of
    all files in order, with the comment lines of later files in between; its object names are pairwise different
    only if the scaffold names are so across all the input files (`same_file_twice` below). -/
theorem asm_format_files_write_valid_agp (o : AsmFormatOpts) (f : Str × List Str) (rest : List (Str × List Str))
    (stdin : List Str) (hout : outFmtOf o.format o.outputFile = .ok .AGP) :
    ∃ (k : Nat) (texts : List Str),
      (asmFormat o (f :: rest) stdin).written = texts.flatten ∧
      Forall2 (fun (file : Str × List Str) (text : Str) =>
        ∃ asm, parseFh (fileInFmt o file) (fileAsmName o file) (fileLinesRead o file) = .ok asm ∧
          ValidAgp false text (agpObjects asm) ∧ (GapsStrict asm → ValidAgp true text (agpObjects asm)) ∧
          AdjDiff ((agpObjects asm).map (·.1)))
        ((f :: rest).take k) texts ∧
      ((asmFormat o (f :: rest) stdin).error = none → k = (f :: rest).length) := by
  rw [asmFormat_files]
  obtain ⟨k, outs, h1, h2, _, h4⟩ := asmFormatLoop_spec o (outFmtSel o.format o.outputFile) (f :: rest) {}
  refine ⟨k, outs.map (·.1), by rw [h2]; rfl, ?_, ?_⟩
  · rw [outFmtOf_ok hout] at h1
    exact Forall2.map_right _ (h1.imp fun _ _ h => asm_format_writes_valid_agp _ _ _ _ _ _ h)
  · intro hnone
    rcases h4 with ⟨hk, _, _⟩ | ⟨g, e, _, _, he⟩
    · exact hk
    · rw [he] at hnone; cases hnone

/-- the same for STDIN -/
theorem asm_format_stdin_writes_valid_agp (o : AsmFormatOpts) (stdin : List Str)
    (hout : outFmtOf o.format o.outputFile = .ok .AGP) (h : (asmFormat o [] stdin).error = none) :
    ∃ asm, parseFh (stdinInFmt o) (stdinAsmName o) stdin = .ok asm ∧
      ValidAgp false (asmFormat o [] stdin).written (agpObjects asm) ∧
      (GapsStrict asm → ValidAgp true (asmFormat o [] stdin).written (agpObjects asm)) ∧
      AdjDiff ((agpObjects asm).map (·.1)) := by
  cases hp : processFh (stdinInFmt o) (stdinAsmName o) stdin (outFmtSel o.format o.outputFile) o.qcOverlaps with
  | error e => rw [(asmFormat_stdin_error o stdin e hp).2] at h; cases h
  | ok r =>
    obtain ⟨text, pairs⟩ := r
    rw [(asmFormat_stdin_ok o stdin text pairs hp).1]
    rw [outFmtOf_ok hout] at hp
    exact asm_format_writes_valid_agp _ _ _ _ _ _ hp

/-! ## non-vacuity -/

private def lines1 : List Str :=
  ["# made by hand\n".toList, "s1\t1\t5\t1\tW\tc\t1\t5\t+\ts1\n".toList,
   "s1\t6\t8\t2\tU\t3\tscaffold\tyes\tproximity_ligation\n".toList,
   "s1\t9\t12\t3\tW\tc\t4\t7\t-\n".toList, "s2\t1\t3\t1\tW\tc\t5\t7\t?\n".toList]
private def tpf1 : List Str :=
  ["?\tc:1-5\ts1\tPLUS\n".toList, "GAP\tTYPE-2\t3\n".toList, "?\tc:4-7\ts1\tMINUS\n".toList]

private def asm1 : Assembly :=
  { name := ['a'], header := ["made by hand".toList],
    scaffolds := [
      { name := "s1".toList,
        rows := [.frag { oid := 0, name := ['c'], start := 1, stop := 5, strand := 1, tags := ["s1".toList] },
                 .gap { length := 3, gapType := "scaffold".toList },
                 .frag { oid := 1, name := ['c'], start := 4, stop := 7, strand := -1 }] },
      { name := "s2".toList, rows := [.frag { oid := 2, name := ['c'], start := 5, stop := 7, strand := 0 }] }] }
private def asm2 : Assembly :=
  { name := ['b'],
    scaffolds := [
      { name := "s1".toList,
        rows := [.frag { oid := 0, name := ['c'], start := 1, stop := 5, strand := 1 },
                 .gap { length := 3, gapType := "scaffold".toList },
                 .frag { oid := 1, name := ['c'], start := 4, stop := 7, strand := -1 }] }] }

example : processFh .AGP ['a'] lines1 (some .AGP) false = .ok (lines1.flatten, []) := by
  unfold lines1
  str_lits
  decide +kernel
example : parseFh .AGP ['a'] lines1 = .ok asm1 ∧ GapsStrict asm1 ∧
    agpObjects asm1 = [("s1".toList, 12), ("s2".toList, 3)] := by
  unfold lines1 asm1
  str_lits
  decide +kernel
example : parseFh .TPF ['b'] tpf1 = .ok asm2 ∧ GapsStrict asm2 ∧ agpObjects asm2 = [("s1".toList, 12)] := by
  unfold tpf1 asm2
  str_lits
  decide +kernel
example : outFmtOf none (some "out.agp".toList) = .ok .AGP ∧ outFmtOf none none = .ok .AGP := by decide
example : (asmFormat {} [("a.agp".toList, lines1), ("b.tpf".toList, tpf1)] []).error = none := by
  unfold lines1 tpf1
  str_lits
  decide +kernel

/-! ## Findings (each checked against the real command) -/

/-- FINDING (why `GapsStrict` is a hypothesis; real run `asm-format g0.agp` prints exactly this): gap lines of length
    0 and -5 and an empty gap type are accepted by the reader; the writer then emits `6 5` and `6 0` (end < start),
    and the fragment after the negative gap starts again at 1 — inside the first fragment's span. -/
example : processFh .AGP ['g'] ["s1\t1\t5\t1\tW\tc\t1\t5\t+\n".toList, "s1\t6\t5\t2\tU\t0\tscaffold\tyes\tx\n".toList,
      "s1\t6\t1\t3\tN\t-5\t\tyes\tx\n".toList, "s1\t6\t10\t4\tW\td\t1\t5\t+\n".toList] (some .AGP) false =
    .ok (("s1\t1\t5\t1\tW\tc\t1\t5\t+\n" ++ "s1\t6\t5\t2\tU\t0\tscaffold\tyes\tproximity_ligation\n" ++
          "s1\t6\t0\t3\tU\t-5\t\tyes\tproximity_ligation\n" ++ "s1\t1\t5\t4\tW\td\t1\t5\t+\n").toList, []) := by
  simp only [String.toList_append]
  str_lits
  decide +kernel

/-- FINDING (object names; real run `asm-format nc.agp`): lines of one object that are not contiguous (`s1`, `s2`,
    `s1`) are read as THREE scaffolds, two of them named `s1`, and written as such: the output repeats the object
    `s1`, each copy tiled from 1.  `ValidAgp` holds (per scaffold), a one-record-per-object reading of AGP does not. -/
example : (parseFh .AGP ['n'] ["s1\t1\t5\t1\tW\tc\t1\t5\t+\n".toList, "s2\t1\t5\t1\tW\td\t1\t5\t+\n".toList,
      "s1\t1\t5\t1\tW\te\t1\t5\t+\n".toList]).map agpObjects =
    .ok [("s1".toList, 5), ("s2".toList, 5), ("s1".toList, 5)] := by
  str_lits
  decide +kernel

/-- FINDING (several input files; real run `asm-format a.agp a.agp`): the objects of every file are written one
    file after the other, whatever their names -/
theorem same_file_twice (o : AsmFormatOpts) (f : Str × List Str) (stdin : List Str) (text : Str) (pairs : List OvPair)
    (h : processFile o (outFmtSel o.format o.outputFile) f = .ok (text, pairs)) :
    (asmFormat o [f, f] stdin).written = text ++ text ∧ (asmFormat o [f, f] stdin).error = none := by
  rw [asmFormat_files]
  have := asmFormatLoop_all_ok o (outFmtSel o.format o.outputFile) [f, f] [(text, pairs), (text, pairs)]
    ⟨h, h, trivial⟩ {}
  simpa using this

/-- FINDING (real run: `h.tpf` = "?\tc:1-5\t#s\tPLUS", `asm-format h.tpf -o h.agp`, then `asm-format h.agp` prints only
    "# s\t1\t5\t1\tW\tc\t1\t5\t+"): a TPF scaffold name may start with '#'; the AGP written for it is `ValidAgp`, but its
    only line is a COMMENT to every AGP reader, including this one — reading it back gives no scaffold at all. -/
example : processFh .TPF ['h'] ["?\tc:1-5\t#s\tPLUS\n".toList] (some .AGP) false =
      .ok ("#s\t1\t5\t1\tW\tc\t1\t5\t+\n".toList, []) ∧
    processFh .AGP ['h'] ["#s\t1\t5\t1\tW\tc\t1\t5\t+\n".toList] (some .AGP) false =
      .ok ("# s\t1\t5\t1\tW\tc\t1\t5\t+\n".toList, []) := by
  str_lits
  decide +kernel

end AgpTpf.C06
