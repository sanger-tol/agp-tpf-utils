/-
  C16 over the SOURCE (T1c): `get_output_filehandle`, translated whole from scripts/pretext_to_asm.py
  (`Gen.Imp.get_output_filehandle_imp`; `path.exists()` and `path.open(mode)` are oracles of the kernel, `sys.exit(1)` is `Err.other`):
  the file is opened with mode "w…" when clobbering and "x…" otherwise — and a FileExistsError from the exclusive open is turned into
  exit status 1, every other failure is passed on, nothing is opened twice.
-/
import AgpTpf.Properties.C16
import AgpTpf.Gen.Imp
import AgpTpf.Proofs.ImpEval
namespace AgpTpf.C16
open AgpTpf AgpTpf.Outputs AgpTpf.ImpEval
/-- `open(path, mode)` on the model's file system: an exclusive mode ("x…") on an existing path raises FileExistsError -/
def fsOpen (fs : FS) (p : Str) (mode : Str) : R Str :=
  if mode.head? = some 'x' ∧ dHas fs p then .error .fileExists else .ok p

/-- the source opens with exactly the mode the model's `openMode` prescribes, and leaves with status 1 exactly when the model's
    `openOutput` fails (the path exists and we are not clobbering) -/
theorem get_output_filehandle_is_source (ex : Str → Bool) (fs : FS) (p : Str) (clobber : Bool) (mode : Str) :
    Gen.Imp.get_output_filehandle_imp ex (fsOpen fs) p clobber mode
      = match openOutput (openMode clobber) fs p with
        | .ok _ => .ok p
        | .error _ => .error .other := by
  unfold Gen.Imp.get_output_filehandle_imp fsOpen openOutput openMode
  cases clobber <;> simp [bind, Except.bind]
  by_cases h : dHas fs p = true <;> simp [h]

/-- whatever the opener answers, the source asks it ONCE, with "w"+mode when clobbering and "x"+mode otherwise -/
theorem get_output_filehandle_mode (ex : Str → Bool) (op : Str → Str → R Str) (p : Str) (clobber : Bool) (mode : Str) :
    Gen.Imp.get_output_filehandle_imp ex op p clobber mode
      = match op p ((if clobber then "w".toList else "x".toList) ++ mode) with
        | .error .fileExists => .error .other
        | .error e => .error e
        | .ok h => .ok h := by
  unfold Gen.Imp.get_output_filehandle_imp
  cases clobber <;> simp [bind, Except.bind] <;>
    (generalize op p _ = r; cases r with
     | ok v => rfl
     | error e => cases e <;> rfl)

example : Gen.Imp.get_output_filehandle_imp (fun _ => true) (fsOpen [("a.fa".toList, .old)]) "a.fa".toList false [] = .error .other := by
  str_lits
  decide +kernel
example : Gen.Imp.get_output_filehandle_imp (fun _ => true) (fsOpen [("a.fa".toList, .old)]) "a.fa".toList true [] = .ok "a.fa".toList := by
  str_lits
  decide +kernel
example : Gen.Imp.get_output_filehandle_imp (fun _ => false) (fsOpen [("a.fa".toList, .old)]) "b.fa".toList false "b".toList = .ok "b.fa".toList := by
  str_lits
  decide +kernel

end AgpTpf.C16
