/-
  C10, first sentence — "Within each output assembly scaffold names are unique (for input names outside the generated
  <prefix>.., H_.. and Pretext Scaffold_.. namespaces)" — for ALL scaffolds of ALL output assemblies of `remap`:
  autosomes and their unlocs (rank 1), name-tagged chromosomes and their unlocs (rank 2), unplaced scaffolds (rank 3:
  unpainted Pretext scaffolds, left-over input scaffolds), and the tagged assemblies Haplotig / Contaminant /
  FalseDuplicate.

  Model: `remap` = `remapToInput` (find_assembly_overlaps, overhang resolver, cut_fragments, rename_by_size, add_missing)
  followed by `assembliesFused` (scaffolds_fused_by_name, split loop with add_chr_prefix, ChrNamer.name_chromosomes,
  smart_sort_scaffolds).  Python: build_assembly.py, build_utils.py.

  PROVED (all at full strength for the model, no `_partial`):
    U1 `fused_names_unique_per_key`       two scaffolds of `scaffolds_fused_by_name` with equal (tag, haplotype, name)
                                          are the same scaffold
    U2 `NamesOutsideGenerated`            (clauses 1–6, `names_outside_generated_iff`), and clause 7 in two forms:
       `TaggedOneHaplotype`               (7a, 7b; `tagged_one_haplotype_iff`) — Contaminant / FalseDuplicate scaffolds
                                          carry NO haplotype;
       `TaggedNamesGiveHaplotype`         (7'a–7'd; `tagged_names_give_haplotype_iff`) — their NAME determines the
                                          haplotype (covers two-haplotype maps whose contaminants sit on `HAP1_…` /
                                          `HAP2_…` input scaffolds).
                                          All clauses are explicit, decidable conditions on the input scaffolds, the
                                          Pretext scaffolds and the prefix (checked by `decide +kernel` in the examples).
    U3 `remap_names_unique`               `remap … = .ok (outs, stats)` → `NamesOutsideGenerated` → `TaggedOneHaplotype`
                                          → every output assembly has pairwise different scaffold names
       `remap_names_unique_named`         the same with `TaggedNamesGiveHaplotype` instead
       `remap_names_unique_curated`       the same WITHOUT any clause 7 for every assembly whose key is not
                                          `Contaminant` / `FalseDuplicate`: all curated assemblies (primary, every
                                          haplotype) and the Haplotig assembly (`H_1 … H_n` after `rename_by_size`)
    U4 one `decide +kernel` counter-example through the whole of `remap` for clauses 1, 2, 3, 4, 7 (both forms) and 7'b
       (each: two scaffolds with the same name in one output assembly, every OTHER clause holding): `dup_*` below.
       All six were reproduced on the Python code (harness `real_remap`).
       Clause 5 (Pretext names not occurring inside `_unloc_<k>`), clause 6 (at most 55231 Pretext scaffolds) and
       clause 7'a (case-consistent haplotype spellings) are needed by the proof (shape `<prefix><n><suffix>` of the new
       names; injectivity of the model's `Char.ofNat`; the namer's haplotype being exactly tag-or-prefix); no duplicate
       was found without them (`no_dup_found_clause5` shows the mangled but still distinct names).
    Non-vacuity: `ex_*` (single haplotype: autosome + unloc, name-tagged chromosome, haplotig, contaminant, unpainted
    scaffold, left-over), `ex2_*` (two haplotypes by tags), `ex3_*` (two haplotypes read from FASTA-style names,
    contaminants with haplotypes) — hypotheses by `decide +kernel`, theorem instantiated, `remap` evaluated.
  The proof is in `Proofs/C10U*.lean`: back half `C10UBack.fused_names_nodup` (from conditions on the fused scaffolds,
  `FusedOk`, to the output assemblies), front half `C10UFront.front_spec` (invariants of the store through
  `remapToInput`, parametrised by the condition `Par.Q` kept on Contaminant / FalseDuplicate scaffolds),
  `C10UMain.remap_names_unique_gen`, instances in `C10UMain` (no haplotype / no condition) and `C10UTagB` (name
  determines haplotype; `makeScaffoldName_exact`).

  What makes names unique, and what the clauses are for:
    * inside ONE fused list two scaffolds with the same name differ in tag or haplotype (U1); an assembly keyed by a
      haplotype (or `None`) holds untagged scaffolds of that one haplotype → different names BEFORE renaming.  (A
      haplotype is never the empty string, so key `None` = haplotype `None`: `C10UNamer.makeScaffoldName_facts`.)
    * renaming: rank 1 → `<prefix><n>[letter][_unloc_<k>]` (injective per haplotype key: C10 / C10Multi), rank 2 →
      `<prefix><tag>[_unloc_<k>]` (injective when no tag runs into the prefix: clause 3), rank 3 untouched (an input
      scaffold name: outside `<prefix>…` by clause 1).  Rank 1 vs rank 2: `<n>[letter]` is never a chromosome-name tag
      except `<digits><one capital>` (`C10UStr.num_ne_tag`, clause 4; a pure number is NOT a chromosome-name tag, so in
      single-haplotype maps rank 1 and rank 2 never clash).
    * an assembly keyed by a TAG holds scaffolds of all haplotypes: equal names with different haplotypes coexist
      (clause 7 excludes haplotypes there, or makes them a function of the name; for Haplotig the names `H_<k>` are
      different by construction); a haplotype STRING equal to a tag word would put untagged scaffolds in the tagged
      assembly (clause 2, finding F16).
-/
import AgpTpf.Proofs.C10UMain
import AgpTpf.Proofs.C10UTagB
import AgpTpf.Proofs.ImpEval
namespace AgpTpf.C10
open AgpTpf

/-! ## U1 -/

/-- **U1.**  In `scaffolds_fused_by_name` two scaffolds with the same `(tag, haplotype, name)` are the same scaffold
    (from `Fuse.fuseByName_triples_nodup`: the dict keys are pairwise different). -/
theorem fused_names_unique_per_key (b : Build) :
    ∀ s ∈ fuseByName b, ∀ s' ∈ fuseByName b,
      s.tag = s'.tag → s.haplotype = s'.haplotype → s.name = s'.name → s = s' := by
  intro s hs s' hs' h1 h2 h3
  exact inj_of_nodup_map C09.triple (Fuse.fuseByName_triples_nodup b) s hs s' hs'
    (by unfold C09.triple; rw [h1, h2, h3])

theorem fused_triples_nodup (b : Build) : ((fuseByName b).map (fun s => (s.tag, s.haplotype, s.name))).Nodup :=
  Fuse.fuseByName_triples_nodup b

/-! ## U2  the hypotheses, clause by clause -/

/-- the six clauses of `NamesOutsideGenerated` (definitions in `Proofs/C10UHyp.lean`, repeated here):
    1 `InputOutsidePrefix`     `∀ sc ∈ input, prefix.isPrefixOf sc.name = false`
    2 `NoTagWordHaplotype`     `∀ nm ∈ fragNames ptx ++ fragNames input, hapPrefixOfName nm ∉ [Contaminant, FalseDuplicate, Haplotig]`
    3 `ChrTagsPrefixFree`      `∀ ps ∈ ptx, ∀ t ∈ ps.fragmentTags, isChrNameTag t → prefixFree prefix t`
    4 `ChrTagsNotNumLetter`    `∀ ps ∈ ptx, ∀ t ∈ ps.fragmentTags, isChrNameTag t → isNumLetter t = false`
    5 `PaintedNamesUnlocFree`  `∀ ps ∈ ptx, Painted ∈ ps.fragmentTags → unlocFreeName ps.name`
    6 `FewScaffolds`           `ptx.length ≤ 55231` -/
theorem names_outside_generated_iff (input ptx : List Scaffold) (prefix_ : Str) :
    NamesOutsideGenerated input ptx prefix_ ↔
      (∀ sc ∈ input, prefix_.isPrefixOf sc.name = false) ∧
      (∀ nm ∈ fragNames ptx ++ fragNames input,
        hapPrefixOfName nm ∉ [some sContaminant, some sFalseDuplicate, some sHaplotig]) ∧
      (∀ ps ∈ ptx, ∀ t ∈ ps.fragmentTags, isChrNameTag t = true → prefixFree prefix_ t = true) ∧
      (∀ ps ∈ ptx, ∀ t ∈ ps.fragmentTags, isChrNameTag t = true → C10U.isNumLetter t = false) ∧
      (∀ ps ∈ ptx, sPainted ∈ ps.fragmentTags → unlocFreeName ps.name = true) ∧
      ptx.length ≤ 55231 :=
  namesOutsideGenerated_iff input ptx prefix_

/-- the two clauses of `TaggedOneHaplotype` ("tagged assemblies: one haplotype"):
    7a a Pretext scaffold with a piece tagged Contaminant / FalseDuplicate — or without a Target tag when Target tags are
       used anywhere — has no haplotype tag and its first row's name no haplotype prefix;
    7b when Target tags are used, no input contig has a haplotype tag or a haplotype prefix. -/
theorem tagged_one_haplotype_iff (input ptx : List Scaffold) :
    TaggedOneHaplotype input ptx ↔
      (∀ ps ∈ ptx, mayBeTagged ((ptx ++ input).any hasTarget) ps = true → hapFreeSc ps = true) ∧
      ((ptx ++ input).any hasTarget = true → ∀ sc ∈ input, ∀ f ∈ sc.fragments, fragHapFree f = true) :=
  taggedOneHaplotype_iff input ptx

/-- the four clauses of `TaggedNamesGiveHaplotype`, the SECOND form of clause 7 ("in the tagged assemblies the name
    determines the haplotype"; definitions in `Proofs/C10UTagB.lean`):
    7'a `CaseConsistent (hapSources input ptx)`  no two haplotype spellings (haplotype tags, haplotype prefixes of names)
        differ only in case;
    7'b `NoPrimaryTag`  no `Primary` tag anywhere;
    7'c for every Pretext scaffold that may hold Contaminant / FalseDuplicate pieces and every candidate `c` for its
        current name (`curCands`: chromosome-name tags; the Pretext name if painted, else the first row's name): the
        haplotype `make_scaffold_name` computes (`hapSrcOf`: haplotype tag, else haplotype prefix of the first row's
        name) is the haplotype prefix of `c`, and `_unloc_` does not occur in `c`;
    7'd when Target tags are used: `_unloc_` occurs in no input scaffold name, no input contig has a haplotype tag, and
        every contig's haplotype prefix is that of its scaffold's name (true when contigs are named after their
        scaffold, as in FASTA input). -/
theorem tagged_names_give_haplotype_iff (input ptx : List Scaffold) :
    TaggedNamesGiveHaplotype input ptx ↔
      (∀ a ∈ hapSources input ptx, ∀ b ∈ hapSources input ptx, lowerStr a = lowerStr b → a = b) ∧
      (∀ s ∈ ptx ++ input, sPrimary ∉ s.fragmentTags) ∧
      (∀ ps ∈ ptx, mayBeTagged ((ptx ++ input).any hasTarget) ps = true →
        ∀ c ∈ curCands ps, hapSrcOf ps.fragmentTags ps.rows = hapPrefixOfName c ∧ occursIn unlocInfixStr c = false) ∧
      ((ptx ++ input).any hasTarget = true →
        ∀ sc ∈ input, occursIn unlocInfixStr sc.name = false ∧
          ∀ f ∈ sc.fragments, f.tags.all (fun t => t.isEmpty || !isHapTag t) = true ∧
            hapPrefixOfName f.name = hapPrefixOfName sc.name) :=
  taggedNamesGiveHaplotype_iff input ptx

/-- what the auxiliary predicates mean -/
theorem prefix_free_spec (p t : Str) (h : prefixFree p t = true) :
    p.isPrefixOf t = false ∧ ∀ k, p.isPrefixOf (t ++ "_unloc_".toList ++ natToStr k) = false := by
  refine ⟨by simpa using C10U.prefixFree_spec p t h [] (Or.inl rfl), fun k => ?_⟩
  have := C10U.prefixFree_spec p t h (unlocSuffix k) (Or.inr ⟨k, rfl⟩)
  rw [List.append_assoc, C10U.toList_unloc]; exact this

theorem unloc_free_name_spec (o : Str) (h : unlocFreeName o = true) (k : Nat) :
    occursIn o ("_unloc_".toList ++ natToStr k) = false := C10U.toList_unloc ▸ C10U.unlocFree_of_name o h k

example : prefixFree "SUPER_".toList "X".toList = true ∧ prefixFree "SUPER_".toList "S".toList = true ∧
    prefixFree "X".toList "XI".toList = false ∧ unlocFreeName "Scaffold_12".toList = true ∧
    unlocFreeName "c".toList = false ∧ C10U.isNumLetter "1A".toList = true ∧ C10U.isNumLetter "12".toList = false ∧
    C10U.isNumLetter "2RL".toList = false := by decide +kernel

/-! ## U3  the theorems -/

/-- **U3.**  Scaffold names are unique inside EVERY output assembly of `remap`. -/
theorem remap_names_unique (input ptx : List Scaffold) (prefix_ : Str) (jg : Option Gap) (err : Int)
    (outs : List OutAsm) (stats : Stats) (h : remap input ptx prefix_ jg err = .ok (outs, stats))
    (H : NamesOutsideGenerated input ptx prefix_) (HT : TaggedOneHaplotype input ptx) :
    ∀ a ∈ outs, (a.scaffolds.map (·.name)).Nodup :=
  C10U.remap_unique_noHap input ptx prefix_ jg err outs stats h H HT

/-- **U3 with the second form of clause 7**: haplotypes ARE allowed on Contaminant / FalseDuplicate scaffolds as long as
    the scaffold's name determines them (e.g. unpainted contaminant scaffolds `HAP1_SCAFFOLD_7` in a two-haplotype map). -/
theorem remap_names_unique_named (input ptx : List Scaffold) (prefix_ : Str) (jg : Option Gap) (err : Int)
    (outs : List OutAsm) (stats : Stats) (h : remap input ptx prefix_ jg err = .ok (outs, stats))
    (H : NamesOutsideGenerated input ptx prefix_) (HN : TaggedNamesGiveHaplotype input ptx) :
    ∀ a ∈ outs, (a.scaffolds.map (·.name)).Nodup :=
  C10U.remap_unique_named input ptx prefix_ jg err outs stats h H HN

/-- **U3 without clause 7**: every curated assembly (primary and every haplotype) and the Haplotig assembly — every
    assembly whose key is not `Contaminant` / `FalseDuplicate` — has pairwise different scaffold names. -/
theorem remap_names_unique_curated (input ptx : List Scaffold) (prefix_ : Str) (jg : Option Gap) (err : Int)
    (outs : List OutAsm) (stats : Stats) (h : remap input ptx prefix_ jg err = .ok (outs, stats))
    (H : NamesOutsideGenerated input ptx prefix_) :
    ∀ a ∈ outs, a.key ≠ some sContaminant → a.key ≠ some sFalseDuplicate → (a.scaffolds.map (·.name)).Nodup :=
  C10U.remap_unique_curated input ptx prefix_ jg err outs stats h H

/-! ## non-vacuity: a map with every kind of scaffold -/

private def uJg : Gap := { length := 200, gapType := "scaffold".toList }
private def uCtg (oid : Nat) (n : Str) (len : Int) : Fragment := { oid := oid, name := n, start := 1, stop := len, strand := 1 }
private def uIn (n : Str) (fs : List Fragment) : Scaffold := { name := n, rows := fs.map Row.frag }
private def uPc (n : Str) (s e : Int) (tags : List Str) : Row :=
  .frag { name := n, start := s, stop := e, strand := 1, tags := tags }
private def uPs (n : Str) (rows : List Row) : Scaffold := { name := n, rows := rows }
private def uNames (r : R (List OutAsm × Stats)) : Option (List (Option Str × List Str)) :=
  r.toOption.map (fun x => x.1.map (fun a => (a.key, a.scaffolds.map (·.name))))

/-- seven input scaffolds (one contig each) -/
def exInput : List Scaffold :=
  [uIn "scaffold_1".toList [uCtg 1 "c1".toList 100], uIn "scaffold_2".toList [uCtg 2 "c2".toList 80],
   uIn "scaffold_3".toList [uCtg 3 "c3".toList 60], uIn "scaffold_4".toList [uCtg 4 "c4".toList 50],
   uIn "scaffold_5".toList [uCtg 5 "c5".toList 40], uIn "scaffold_6".toList [uCtg 6 "c6".toList 30],
   uIn "scaffold_7".toList [uCtg 7 "c7".toList 20]]

/-- an autosome with an unloc, a name-tagged chromosome, a haplotig, a contaminant, an unpainted scaffold;
    `scaffold_7` is not in the map (left-over) -/
def exPtx : List Scaffold :=
  [uPs "Scaffold_1".toList [uPc "scaffold_1".toList 1 100 [sPainted], .gap uJg, uPc "scaffold_2".toList 1 80 [sPainted, sUnloc]],
   uPs "Scaffold_2".toList [uPc "scaffold_3".toList 1 60 [sPainted, "X".toList]],
   uPs "Scaffold_3".toList [uPc "scaffold_4".toList 1 50 [sHaplotig]],
   uPs "Scaffold_4".toList [uPc "scaffold_5".toList 1 40 [sContaminant]],
   uPs "Scaffold_5".toList [uPc "scaffold_6".toList 1 30 []]]

open scoped AgpTpf.ImpEval

private def uJgC : Decoded uJg := ⟨_, by unfold uJg; str_lits; exact rfl⟩
private def exInputC : Decoded exInput := ⟨_, by unfold exInput; str_lits; exact rfl⟩
private def exPtxC : Decoded exPtx := ⟨_, by unfold exPtx uJg; str_lits; exact rfl⟩

theorem ex_hypotheses : NamesOutsideGenerated exInput exPtx "SUPER_".toList ∧ TaggedOneHaplotype exInput exPtx := by
  rw [exInputC.2, exPtxC.2]; str_lits; decide +kernel

/-- the theorem instantiated: whatever `remap` returns for this map, names are unique in every assembly … -/
theorem ex_names_unique (outs : List OutAsm) (stats : Stats)
    (h : remap exInput exPtx "SUPER_".toList (some uJg) 1 = .ok (outs, stats)) :
    ∀ a ∈ outs, (a.scaffolds.map (·.name)).Nodup :=
  remap_names_unique exInput exPtx _ _ _ outs stats h ex_hypotheses.1 ex_hypotheses.2

/-- … and it does return something: three assemblies -/
theorem ex_evaluated : uNames (remap exInput exPtx "SUPER_".toList (some uJg) 1) =
    some [(none, ["SUPER_1".toList, "SUPER_1_unloc_1".toList, "SUPER_X".toList, "scaffold_6".toList,
                  "scaffold_7".toList]),
          (some sHaplotig, ["H_1".toList]), (some sContaminant, ["scaffold_5".toList])] := by
  rw [exInputC.2, exPtxC.2, uJgC.2]; str_lits; decide +kernel

example : ∃ outs stats, remap exInput exPtx "SUPER_".toList (some uJg) 1 = .ok (outs, stats) ∧
    ∀ a ∈ outs, (a.scaffolds.map (·.name)).Nodup := by
  cases hr : remap exInput exPtx "SUPER_".toList (some uJg) 1 with
  | error e =>
    have := ex_evaluated
    rw [hr] at this
    cases this
  | ok r => exact ⟨r.1, r.2, rfl, ex_names_unique r.1 r.2 hr⟩


/-! ### a two-haplotype map -/

/-- two haplotypes (haplotype tags `HAP1` / `HAP2`), a homologous pair of autosomes, a homologous pair name-tagged `X`,
    a haplotig, a contaminant on an input scaffold without haplotype prefix, an unpainted `HAP1_…` scaffold -/
def ex2Input : List Scaffold :=
  [uIn "HAP1_SCAFFOLD_1".toList [uCtg 1 "c1".toList 100], uIn "HAP2_SCAFFOLD_1".toList [uCtg 2 "c2".toList 90],
   uIn "HAP1_SCAFFOLD_2".toList [uCtg 3 "c3".toList 80], uIn "HAP2_SCAFFOLD_2".toList [uCtg 4 "c4".toList 70],
   uIn "HAP2_SCAFFOLD_3".toList [uCtg 5 "c5".toList 60], uIn "scaffold_9".toList [uCtg 6 "c6".toList 50],
   uIn "HAP1_SCAFFOLD_4".toList [uCtg 7 "c7".toList 40]]
def ex2Ptx : List Scaffold :=
  [uPs "Scaffold_1".toList [uPc "HAP1_SCAFFOLD_1".toList 1 100 [sPainted, "HAP1".toList]],
   uPs "Scaffold_2".toList [uPc "HAP2_SCAFFOLD_1".toList 1 90 [sPainted, "HAP2".toList]],
   uPs "Scaffold_3".toList [uPc "HAP1_SCAFFOLD_2".toList 1 80 [sPainted, "HAP1".toList, "X".toList]],
   uPs "Scaffold_4".toList [uPc "HAP2_SCAFFOLD_2".toList 1 70 [sPainted, "HAP2".toList, "X".toList]],
   uPs "Scaffold_5".toList [uPc "HAP2_SCAFFOLD_3".toList 1 60 [sHaplotig]],
   uPs "Scaffold_6".toList [uPc "scaffold_9".toList 1 50 [sContaminant]],
   uPs "Scaffold_7".toList [uPc "HAP1_SCAFFOLD_4".toList 1 40 []]]

private def ex2InputC : Decoded ex2Input := ⟨_, by unfold ex2Input; str_lits; exact rfl⟩
private def ex2PtxC : Decoded ex2Ptx := ⟨_, by unfold ex2Ptx; str_lits; exact rfl⟩

theorem ex2_hypotheses : NamesOutsideGenerated ex2Input ex2Ptx "SUPER_".toList ∧ TaggedOneHaplotype ex2Input ex2Ptx := by
  rw [ex2InputC.2, ex2PtxC.2]; str_lits; decide +kernel

theorem ex2_evaluated : uNames (remap ex2Input ex2Ptx "SUPER_".toList (some uJg) 1) =
    some [(some "HAP1".toList, ["SUPER_1".toList, "SUPER_X".toList, "HAP1_SCAFFOLD_4".toList]),
          (some "HAP2".toList, ["SUPER_1".toList, "SUPER_X".toList]),
          (some sHaplotig, ["H_1".toList]), (some sContaminant, ["scaffold_9".toList])] := by
  rw [ex2InputC.2, ex2PtxC.2, uJgC.2]; str_lits; decide +kernel

example (outs : List OutAsm) (stats : Stats)
    (h : remap ex2Input ex2Ptx "SUPER_".toList (some uJg) 1 = .ok (outs, stats)) :
    ∀ a ∈ outs, (a.scaffolds.map (·.name)).Nodup :=
  remap_names_unique ex2Input ex2Ptx _ _ _ outs stats h ex2_hypotheses.1 ex2_hypotheses.2

/-! ### a two-haplotype map with haplotypes read from the input names (FASTA input: contigs named after their scaffold) -/

def ex3Input : List Scaffold :=
  [uIn "HAP1_SCAFFOLD_1".toList [uCtg 1 "HAP1_SCAFFOLD_1".toList 100],
   uIn "HAP2_SCAFFOLD_1".toList [uCtg 2 "HAP2_SCAFFOLD_1".toList 90],
   uIn "HAP1_SCAFFOLD_2".toList [uCtg 3 "HAP1_SCAFFOLD_2".toList 80],
   uIn "HAP2_SCAFFOLD_2".toList [uCtg 4 "HAP2_SCAFFOLD_2".toList 70],
   uIn "HAP2_SCAFFOLD_3".toList [uCtg 5 "HAP2_SCAFFOLD_3".toList 60],
   uIn "HAP1_SCAFFOLD_4".toList [uCtg 6 "HAP1_SCAFFOLD_4".toList 50]]
/-- a homologous pair of autosomes, one contaminant scaffold per haplotype, a haplotig; `HAP1_SCAFFOLD_4` is left over -/
def ex3Ptx : List Scaffold :=
  [uPs "Scaffold_1".toList [uPc "HAP1_SCAFFOLD_1".toList 1 100 [sPainted]],
   uPs "Scaffold_2".toList [uPc "HAP2_SCAFFOLD_1".toList 1 90 [sPainted]],
   uPs "Scaffold_3".toList [uPc "HAP1_SCAFFOLD_2".toList 1 80 [sContaminant]],
   uPs "Scaffold_4".toList [uPc "HAP2_SCAFFOLD_2".toList 1 70 [sContaminant]],
   uPs "Scaffold_5".toList [uPc "HAP2_SCAFFOLD_3".toList 1 60 [sHaplotig]]]

private def ex3InputC : Decoded ex3Input := ⟨_, by unfold ex3Input; str_lits; exact rfl⟩
private def ex3PtxC : Decoded ex3Ptx := ⟨_, by unfold ex3Ptx; str_lits; exact rfl⟩

/-- the contaminant scaffolds carry the haplotypes HAP1 / HAP2: the first form of clause 7 fails, the second holds -/
theorem ex3_hypotheses : NamesOutsideGenerated ex3Input ex3Ptx "SUPER_".toList ∧
    TaggedNamesGiveHaplotype ex3Input ex3Ptx ∧ ¬ TaggedOneHaplotype ex3Input ex3Ptx := by
  rw [ex3InputC.2, ex3PtxC.2]; str_lits; decide +kernel

theorem ex3_evaluated : uNames (remap ex3Input ex3Ptx "SUPER_".toList (some uJg) 1) =
    some [(some "HAP1".toList, ["SUPER_1".toList, "HAP1_SCAFFOLD_4".toList]), (some "HAP2".toList, ["SUPER_1".toList]),
          (some sContaminant, ["HAP1_SCAFFOLD_2".toList, "HAP2_SCAFFOLD_2".toList]),
          (some sHaplotig, ["H_1".toList])] := by
  rw [ex3InputC.2, ex3PtxC.2, uJgC.2]; str_lits; decide +kernel

example (outs : List OutAsm) (stats : Stats)
    (h : remap ex3Input ex3Ptx "SUPER_".toList (some uJg) 1 = .ok (outs, stats)) :
    ∀ a ∈ outs, (a.scaffolds.map (·.name)).Nodup :=
  remap_names_unique_named ex3Input ex3Ptx _ _ _ outs stats h ex3_hypotheses.1 ex3_hypotheses.2.1

/-! ## U4  every clause is needed: counter-examples through the whole of `remap`

  Each `dup_*` theorem: (i) the output of `remap` with two equal names in one assembly, (ii) the clause in question is
  false, (iii) every other clause holds. -/

/-- **clause 1 (input names outside `<prefix>…`).**  An input scaffold called `SUPER_1` that is not painted stays
    `SUPER_1` (rank 3) next to the painted chromosome numbered `SUPER_1`.  REALISTIC: curating an assembly whose
    scaffolds are already called `SUPER_<n>` (this is the exclusion written into the property). -/
theorem dup_input_in_prefix_namespace :
    let input := [uIn "scaffold_1".toList [uCtg 1 "c1".toList 100], uIn "SUPER_1".toList [uCtg 2 "c2".toList 80]]
    let ptx := [uPs "Scaffold_1".toList [uPc "scaffold_1".toList 1 100 [sPainted]]]
    uNames (remap input ptx "SUPER_".toList (some uJg) 1) = some [(none, ["SUPER_1".toList, "SUPER_1".toList])] ∧
    ¬ InputOutsidePrefix input "SUPER_".toList ∧
    NoTagWordHaplotype input ptx ∧ ChrTagsPrefixFree ptx "SUPER_".toList ∧ ChrTagsNotNumLetter ptx ∧
    PaintedNamesUnlocFree ptx ∧ FewScaffolds ptx ∧ TaggedPiecesNoHaplotype input ptx ∧
    TargetLeftoversNoHaplotype input ptx := by rw [uJgC.2]; str_lits; decide +kernel

/-- **clause 2 (no tag word as haplotype; finding F16).**  The input scaffold `Contaminant_x_1` gives its unpainted
    pieces the HAPLOTYPE "Contaminant"; an untagged piece of it is therefore filed in the Contaminant assembly, next to
    a Contaminant-tagged piece of the same scaffold: same name, different `(tag, haplotype, name)`.  Not realistic (needs an
    input scaffold called `Contaminant_<…>_<n>`). -/
theorem dup_tag_word_haplotype :
    let input := [uIn "Contaminant_x_1".toList [uCtg 1 "c1".toList 50, uCtg 2 "c2".toList 50]]
    let ptx := [uPs "Scaffold_1".toList [uPc "Contaminant_x_1".toList 1 50 []],
                uPs "Scaffold_2".toList [uPc "Contaminant_x_1".toList 51 100 [sContaminant]]]
    uNames (remap input ptx "SUPER_".toList (some uJg) 1) =
      some [(some sContaminant, ["Contaminant_x_1".toList, "Contaminant_x_1".toList])] ∧
    ¬ NoTagWordHaplotype input ptx ∧
    InputOutsidePrefix input "SUPER_".toList ∧ ChrTagsPrefixFree ptx "SUPER_".toList ∧ ChrTagsNotNumLetter ptx ∧
    PaintedNamesUnlocFree ptx ∧ FewScaffolds ptx := by rw [uJgC.2]; str_lits; decide +kernel

/-- **clause 3 (chromosome-name tags do not run into the prefix).**  With the prefix `X`, the chromosome tagged `XI`
    "already has the prefix" and keeps its name, the chromosome tagged `I` becomes `X` + `I`.  Not realistic with the
    default prefix `SUPER_` (no chromosome-name tag `[A-Z]\d*|[IVX_]+|\d+[A-Z]+` starts with `SU`). -/
theorem dup_tag_runs_into_prefix :
    let input := [uIn "scaffold_1".toList [uCtg 1 "c1".toList 100], uIn "scaffold_2".toList [uCtg 2 "c2".toList 80]]
    let ptx := [uPs "Scaffold_1".toList [uPc "scaffold_1".toList 1 100 ["XI".toList]],
                uPs "Scaffold_2".toList [uPc "scaffold_2".toList 1 80 ["I".toList]]]
    uNames (remap input ptx "X".toList (some uJg) 1) = some [(none, ["XI".toList, "XI".toList])] ∧
    ¬ ChrTagsPrefixFree ptx "X".toList ∧
    InputOutsidePrefix input "X".toList ∧ NoTagWordHaplotype input ptx ∧ ChrTagsNotNumLetter ptx ∧
    PaintedNamesUnlocFree ptx ∧ FewScaffolds ptx ∧ TaggedPiecesNoHaplotype input ptx ∧
    TargetLeftoversNoHaplotype input ptx := by rw [uJgC.2]; str_lits; decide +kernel

/-- **clause 4 (no chromosome-name tag `<digits><one capital>`).**  Two-haplotype map: `Scaffold_2`, `Scaffold_3` (Hap2)
    are grouped with `Scaffold_1` (Hap1) and become `SUPER_1A`, `SUPER_1B`; a Hap2 scaffold name-tagged `1A` becomes
    `SUPER_` + `1A`.  Possible with sensible tagging only if a curator uses name tags like `1A` (the tag regex
    `\d+[A-Z]+` allows them) in a multi-haplotype map; in single-haplotype maps the clause is not needed. -/
theorem dup_number_letter_tag :
    let input := [uIn "scaffold_1".toList [uCtg 1 "c1".toList 100], uIn "scaffold_2".toList [uCtg 2 "c2".toList 80],
                  uIn "scaffold_3".toList [uCtg 3 "c3".toList 70], uIn "scaffold_4".toList [uCtg 4 "c4".toList 60]]
    let ptx := [uPs "Scaffold_1".toList [uPc "scaffold_1".toList 1 100 [sPainted, "Hap1".toList]],
                uPs "Scaffold_2".toList [uPc "scaffold_2".toList 1 80 [sPainted, "Hap2".toList]],
                uPs "Scaffold_3".toList [uPc "scaffold_3".toList 1 70 [sPainted, "Hap2".toList]],
                uPs "Scaffold_4".toList [uPc "scaffold_4".toList 1 60 [sPainted, "Hap2".toList, "1A".toList]]]
    uNames (remap input ptx "SUPER_".toList (some uJg) 1) =
      some [(some "Hap1".toList, ["SUPER_1".toList]),
            (some "Hap2".toList, ["SUPER_1A".toList, "SUPER_1B".toList, "SUPER_1A".toList])] ∧
    ¬ ChrTagsNotNumLetter ptx ∧
    InputOutsidePrefix input "SUPER_".toList ∧ NoTagWordHaplotype input ptx ∧ ChrTagsPrefixFree ptx "SUPER_".toList ∧
    PaintedNamesUnlocFree ptx ∧ FewScaffolds ptx ∧ TaggedPiecesNoHaplotype input ptx ∧
    TargetLeftoversNoHaplotype input ptx := by rw [uJgC.2]; str_lits; decide +kernel

/-- **clause 7 (tagged assemblies: one haplotype).**  Two-haplotype map, the X chromosome of each haplotype is
    name-tagged `X` and each holds a piece tagged FalseDuplicate: both pieces are called `X` (the current scaffold name)
    and both go to the FalseDuplicate assembly — `scaffolds_fused_by_name` keeps them apart because their haplotypes
    differ.  REALISTIC (homologous chromosomes carry the same name tag by design; the same happens with Contaminant
    pieces, and with unlocs: `X_unloc_1` twice).  A candidate finding: the false-duplicates / contaminants FASTA and
    AGP get two records called `X`. -/
theorem dup_tagged_two_haplotypes :
    let input := [uIn "scaffold_1".toList [uCtg 1 "c1".toList 100, uCtg 2 "c2".toList 50],
                  uIn "scaffold_2".toList [uCtg 3 "c3".toList 80, uCtg 4 "c4".toList 40]]
    let ptx := [uPs "Scaffold_1".toList [uPc "scaffold_1".toList 1 100 [sPainted, "Hap1".toList, "X".toList], .gap uJg,
                                         uPc "scaffold_1".toList 101 150 [sPainted, sFalseDuplicate]],
                uPs "Scaffold_2".toList [uPc "scaffold_2".toList 1 80 [sPainted, "Hap2".toList, "X".toList], .gap uJg,
                                         uPc "scaffold_2".toList 81 120 [sPainted, sFalseDuplicate]]]
    uNames (remap input ptx "SUPER_".toList (some uJg) 1) =
      some [(some "Hap1".toList, ["SUPER_X".toList]), (some sFalseDuplicate, ["X".toList, "X".toList]),
            (some "Hap2".toList, ["SUPER_X".toList])] ∧
    ¬ TaggedPiecesNoHaplotype input ptx ∧ ¬ TaggedPiecesNamed input ptx ∧
    NamesOutsideGenerated input ptx "SUPER_".toList ∧ TargetLeftoversNoHaplotype input ptx ∧
    CaseConsistent (hapSources input ptx) ∧ NoPrimaryTag input ptx ∧ TargetLeftoversNamed input ptx := by
  rw [uJgC.2]; str_lits; exact ⟨by decide +kernel, by decide +kernel⟩

/-- … for that map the curated assemblies are still covered by `remap_names_unique_curated` -/
example (outs : List OutAsm) (stats : Stats) (input ptx : List Scaffold)
    (H : NamesOutsideGenerated input ptx "SUPER_".toList)
    (h : remap input ptx "SUPER_".toList (some uJg) 1 = .ok (outs, stats)) :
    ∀ a ∈ outs, a.key = some "Hap1".toList → (a.scaffolds.map (·.name)).Nodup :=
  fun a ha hk => remap_names_unique_curated input ptx _ _ _ outs stats h H a ha (by rw [hk]; decide +kernel) (by rw [hk]; decide +kernel)

/-- **clause 7'b (no `Primary` tag), for the second form of clause 7.**  The haplotype `HAP1` becomes `Primary` only from
    the Pretext scaffold that carries the `Primary` tag ONWARDS: a contaminant piece of `HAP1_SCAFFOLD_1` listed before it
    is filed under haplotype `HAP1`, a piece of the same input scaffold listed after it under `Primary` — two records
    called `HAP1_SCAFFOLD_1` in the contaminant assembly.  Needs an input scaffold cut into two contaminant pieces that
    are separate Pretext scaffolds around the `Primary`-tagged one: unusual, but the dependence of the haplotype key on
    the ORDER of the Pretext scaffolds is a finding of its own (the same order dependence sends curated scaffolds of
    haplotype `HAP1` listed before the `Primary` tag to an assembly `HAP1` next to the assembly `Primary`). -/
theorem dup_primary_tag_order :
    let input := [uIn "HAP1_SCAFFOLD_1".toList [uCtg 1 "HAP1_SCAFFOLD_1".toList 100],
                  uIn "HAP1_SCAFFOLD_2".toList [uCtg 2 "HAP1_SCAFFOLD_2".toList 90]]
    let ptx := [uPs "Scaffold_1".toList [uPc "HAP1_SCAFFOLD_1".toList 1 50 [sContaminant]],
                uPs "Scaffold_2".toList [uPc "HAP1_SCAFFOLD_2".toList 1 90 [sPainted, sPrimary]],
                uPs "Scaffold_3".toList [uPc "HAP1_SCAFFOLD_1".toList 51 100 [sContaminant]]]
    uNames (remap input ptx "SUPER_".toList (some uJg) 1) =
      some [(some sContaminant, ["HAP1_SCAFFOLD_1".toList, "HAP1_SCAFFOLD_1".toList]),
            (some sPrimary, ["SUPER_1".toList])] ∧
    ¬ NoPrimaryTag input ptx ∧
    NamesOutsideGenerated input ptx "SUPER_".toList ∧ CaseConsistent (hapSources input ptx) ∧
    TaggedPiecesNamed input ptx ∧ TargetLeftoversNamed input ptx := by
  rw [uJgC.2]; str_lits; exact ⟨by decide +kernel, by decide +kernel⟩

/-- **clause 5** is a proof obligation, no duplicate found: a painted Pretext scaffold called `c` with two unlocs
    gets mangled names (`str.replace` also hits the `c` of `_unloc_`), but still three different ones. -/
theorem no_dup_found_clause5 :
    let input := [uIn "scaffold_1".toList [uCtg 1 "c1".toList 100], uIn "scaffold_2".toList [uCtg 2 "c2".toList 80],
                  uIn "scaffold_3".toList [uCtg 3 "c3".toList 70]]
    let ptx := [uPs "c".toList [uPc "scaffold_1".toList 1 100 [sPainted], .gap uJg,
                                uPc "scaffold_2".toList 1 80 [sPainted, sUnloc], .gap uJg,
                                uPc "scaffold_3".toList 1 70 [sPainted, sUnloc]]]
    uNames (remap input ptx "SUPER_".toList (some uJg) 1) =
      some [(none, ["SUPER_1".toList, "SUPER_1_unloSUPER_1_1".toList, "SUPER_1_unloSUPER_1_2".toList])] ∧
    ¬ PaintedNamesUnlocFree ptx := by rw [uJgC.2]; str_lits; decide +kernel

end AgpTpf.C10
