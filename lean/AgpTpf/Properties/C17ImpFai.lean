/-
  T1c / C17 — the `.fai` cache as the SOURCE has it: `FastaInfo.fai_row` and `FastaIndex.load_index` as translated from the Python
  (`Gen/Imp3.lean`) ARE the model's `faiRow` and `loadIndex` (`Model/Cli.lean`) — for ALL inputs: same index, same exception class
  (`ValueError` for a line without exactly five tab-separated fields — `PyRt.unpackN 5` against the model's five-element `match` — or
  with a non-integer number, the four `int(…)` evaluated in the same order), the error of the FIRST bad line.  A second `load_index`
  on a loaded index is `IndexUsageError`.  Composed with the model's round trip (`C17Warm.load_index_roundtrip*`): what the
  translated `fai_row` writes, the translated `load_index` reads back.  Helper lemmas: `Proofs/ImpFileIO.lean`.
-/
import AgpTpf.Proofs.ImpFileIO
import AgpTpf.Proofs.ImpEval
import AgpTpf.Properties.C17Warm
namespace AgpTpf.C17
open AgpTpf AgpTpf.ImpFileIO AgpTpf.ImpEval
/-- 1. `fai_row`: the translated source never raises and returns the model's row -/
theorem fai_row_is_source (i : FastaInfo) (name : Str) : Gen.Imp.FastaInfo_fai_row i name = .ok (faiRow (name, i)) :=
  faiRowSrc_eq i name

example : Gen.Imp.FastaInfo_fai_row { length := 10, fileOffset := 3, rpl := 4, mll := 5 } "chr 1".toList =
    .ok "chr 1\t10\t3\t4\t5\n".toList := by
  str_lits
  decide +kernel
example : Gen.Imp.FastaInfo_fai_row { length := -10, fileOffset := 0, rpl := 60, mll := 62 } [] =
    .ok "\t-10\t0\t60\t62\n".toList := by
  str_lits
  decide +kernel

/-- 2. `load_index` on a fresh index (`self.index` empty) IS the model's `loadIndex`: results, exception classes, and which line's
    error comes first -/
theorem load_index_is_source (lines : List Str) : Gen.Imp.FastaIndex_load_index [] lines = loadIndex lines :=
  loadIndexSrc_eq lines

/-- two good lines -/
example : Gen.Imp.FastaIndex_load_index [] ["a\t10\t3\t4\t5\n".toList, "b\t4\t19\t4\t5\n".toList] =
    .ok [(['a'], { length := 10, fileOffset := 3, rpl := 4, mll := 5 }),
         (['b'], { length := 4, fileOffset := 19, rpl := 4, mll := 5 })] := by
  str_lits
  decide +kernel
/-- a 4-field line: `ValueError` (not enough values to unpack) -/
example : Gen.Imp.FastaIndex_load_index [] ["a\t10\t3\t4\t5\n".toList, "b\t4\t19\t4\n".toList] = .error .value := by
  str_lits
  decide +kernel
/-- a 6-field line (a tab in the name) -/
example : Gen.Imp.FastaIndex_load_index [] ["a\tb\t10\t3\t4\t5\n".toList] = .error .value := by
  str_lits
  decide +kernel
/-- a non-numeric field: `ValueError` (invalid literal for int()) -/
example : Gen.Imp.FastaIndex_load_index [] ["a\t10\t3\tx\t5\n".toList, "b\t4\t19\t4\t5\n".toList] = .error .value := by
  str_lits
  decide +kernel
/-- a repeated name: the later row wins, at the first position; what `int()` accepts (blanks, sign, underscore) is accepted -/
example : Gen.Imp.FastaIndex_load_index [] ["a\t10\t3\t4\t5\n".toList, "a\t 1_1\t+7\t4 \t5".toList] =
    .ok [(['a'], { length := 11, fileOffset := 7, rpl := 4, mll := 5 })] := by
  str_lits
  decide +kernel

/-- … and on an index that is already loaded: `IndexUsageError`, whatever the file holds -/
theorem load_index_twice (idx : List (Str × FastaInfo)) (h : idx ≠ []) (lines : List Str) :
    Gen.Imp.FastaIndex_load_index idx lines = .error .usage :=
  loadIndexSrc_twice idx h lines

example : Gen.Imp.FastaIndex_load_index [(['a'], { length := 10, fileOffset := 3, rpl := 4, mll := 5 })]
    ["b\t4\t19\t4\t5\n".toList] = .error .usage := by
  str_lits
  decide +kernel
example : [((['a'] : Str), ({ length := 10, fileOffset := 3, rpl := 4, mll := 5 } : FastaInfo))] ≠ [] := by
  decide +kernel

/-- one bad line anywhere (wrong number of columns or a non-integer number: `loadIndexLine` raises) fails the whole translated
    `load_index` with `ValueError` (the model's `load_index_rejects`, for the source) -/
theorem load_index_source_rejects (lines : List Str) (l : Str) (hl : l ∈ lines) (e : Err) (he : loadIndexLine l = .error e) :
    Gen.Imp.FastaIndex_load_index [] lines = .error .value := by
  rw [load_index_is_source]; exact load_index_rejects lines l hl e he

example : "b\t4\t19\t4\n".toList ∈ ["a\t10\t3\t4\t5\n".toList, "b\t4\t19\t4\n".toList] ∧
    loadIndexLine "b\t4\t19\t4\n".toList = .error .value := by
  str_lits
  decide +kernel

/-- 3. THE SOURCE-LEVEL CACHE ROUND TRIP: the rows the translated `fai_row` writes for an index with pairwise different, TAB-free names
    are read back by the translated `load_index` as exactly that index — same entries, same order, same numbers (the model's
    `load_index_roundtrip`, as a statement about the two translated source functions). -/
theorem load_index_roundtrip_is_source (entries : List (Str × FastaInfo))
    (hok : ∀ e ∈ entries, '\t' ∉ e.1) (hd : (entries.map Prod.fst).Pairwise (· ≠ ·)) :
    (entries.mapM (fun r => Gen.Imp.FastaInfo_fai_row r.2 r.1) >>= fun rows => Gen.Imp.FastaIndex_load_index [] rows) =
      .ok entries := by
  rw [mapM_faiRowSrc]
  show Gen.Imp.FastaIndex_load_index [] (entries.map faiRow) = _
  rw [load_index_is_source, load_index_roundtrip entries hok hd]

/-- … and through the TEXT of the file (`write_index` concatenates the rows, `for line in idx` cuts the text at the newlines): names
    without tab and newline (`NameOk`) -/
theorem load_index_roundtrip_text_is_source (entries : List (Str × FastaInfo))
    (hok : ∀ e ∈ entries, CliFai.NameOk e.1) (hd : (entries.map Prod.fst).Pairwise (· ≠ ·)) :
    (entries.mapM (fun r => Gen.Imp.FastaInfo_fai_row r.2 r.1) >>= fun rows =>
      Gen.Imp.FastaIndex_load_index [] (pyLines rows.flatten)) = .ok entries := by
  rw [mapM_faiRowSrc]
  show Gen.Imp.FastaIndex_load_index [] (pyLines (entries.map faiRow).flatten) = _
  rw [load_index_is_source, (load_index_roundtrip_text entries hok hd).2]

/-- the hypotheses are satisfiable (`twoEntries` of `C17Warm`: names `a`, `b`), and the composition runs -/
example : (∀ e ∈ twoEntries, CliFai.NameOk e.1) ∧ (∀ e ∈ twoEntries, '\t' ∉ e.1) ∧ (twoEntries.map Prod.fst).Pairwise (· ≠ ·) := by
  decide +kernel
example : (twoEntries.mapM (fun r => Gen.Imp.FastaInfo_fai_row r.2 r.1) >>= fun rows =>
    Gen.Imp.FastaIndex_load_index [] (pyLines rows.flatten)) = .ok twoEntries := by
  decide +kernel
/-- both hypotheses are needed, at the source level too: a tab in a name (six columns: `ValueError`); a repeated name (one entry) -/
example : ([("a\tb".toList, (⟨6, 4, 4, 6⟩ : FastaInfo))].mapM (fun r => Gen.Imp.FastaInfo_fai_row r.2 r.1) >>= fun rows =>
    Gen.Imp.FastaIndex_load_index [] rows) = .error .value := by
  str_lits
  decide +kernel
example : ([(['a'], (⟨6, 4, 4, 6⟩ : FastaInfo)), (['a'], ⟨7, 20, 4, 6⟩)].mapM (fun r => Gen.Imp.FastaInfo_fai_row r.2 r.1) >>= fun rows =>
    Gen.Imp.FastaIndex_load_index [] rows) = .ok [(['a'], ⟨7, 20, 4, 6⟩)] := by
  decide +kernel

end AgpTpf.C17
