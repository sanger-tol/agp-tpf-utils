/-
  C07 — Every join carries a gap and retained neighbours keep their input gap.

  Stage by stage, for all inputs: `append_scaffold` (`append_adjacent`, `append_adjacent_none`), `gaps_before_leftover`
  and `input_predecessor`, `discard_start` / `discard_end`, `to_scaffold`, `scaffolds_fused_by_name` (`fuse_adjacent`),
  the left-over scaffolds (`leftover_adjacent`).
  End to end over `remap`, for all Pretext files on which it completes:
    `remap_no_terminal_gaps`            no scaffold of any output assembly begins or ends with a gap row;
    `remap_adjacent_only_from_input`    with a join gap configured and pairwise distinct input Fragment objects, every
                                        gapless fragment–fragment adjacency of the output is, as an unordered pair of contig
                                        ends (name, coordinate, head/tail), an adjacency of the input.  No strand
                                        hypothesis: `make_stats` raises unless strands at input junctions are ±1.
  The second is the case "no gap row between the two fragments" of `remap_gap_runs` (Properties/C07Gaps.lean), which says
  the same of every run of gap rows; `slice_adjacent`, `reverse_adjacent`, `trim_keeps_inner_ends`, `leftover_from_input`
  are its ingredients, stated for adjacencies.
-/
import AgpTpf.Properties.C07Gaps
namespace AgpTpf.C07
open AgpTpf
open AgpTpf.C01 (adjPairs_appendRows noTerminalGap_appendRows missingRows_spec GapOK)

/-! ## `append_scaffold` -/

/-- With a gap and a non-empty receiver, the junction carries exactly the gap `g`, and the gapless adjacencies of the
    result are those of the two parts: none is created across the seam.  (With an empty receiver the result is `othr`.) -/
theorem append_adjacent (rows othr : List Row) (g : Gap) (hne : rows ≠ []) :
    Scaffold.appendRows rows othr (some g) = rows ++ [Row.gap g] ++ othr ∧
    adjPairs (Scaffold.appendRows rows othr (some g)) = adjPairs rows ++ adjPairs othr :=
  ⟨Scaffold.appendRows_some othr g hne, by simpa using adjPairs_appendRows rows othr (some g)⟩

/-- Without a gap the seam is gapless: the result is the concatenation, and the only new adjacency is
    (last row of `rows`, first row of `othr`) when both are fragments. -/
theorem append_adjacent_none (rows othr : List Row) :
    Scaffold.appendRows rows othr none = rows ++ othr ∧
    adjPairs (Scaffold.appendRows rows othr none) = adjPairs rows ++ seam rows othr ++ adjPairs othr :=
  ⟨rfl, adjPairs_appendRows rows othr none⟩

private def f1 : Fragment := { oid := 1, name := ['a'], start := 1, stop := 10, strand := 1 }
private def f2 : Fragment := { oid := 2, name := ['a'], start := 11, stop := 20, strand := 1 }
private def f3 : Fragment := { oid := 3, name := ['b'], start := 1, stop := 5, strand := -1 }
private def jg : Gap := { length := 200, gapType := "scaffold".toList }
private def g7 : Gap := { length := 7, gapType := ['u'] }
example : adjPairs (Scaffold.appendRows [.frag f1, .frag f2] [.frag f3] (some jg)) = [(f1, f2)] ∧
    adjPairs (Scaffold.appendRows [.frag f1, .frag f2] [.frag f3] none) = [(f1, f2), (f2, f3)] := by decide +kernel

/-! ## `gaps_before_leftover` and `input_predecessor`
   The separator in front of a left-over scaffold is a LIST of gap rows: all input gap rows between the left-over contig
   and its input predecessor, or the single join gap. -/

theorem gaps_before_leftover_eq (joinGap : Option Gap) (built : List Row) (pred : Option (Fragment × List Gap)) :
    gapsBeforeLeftover joinGap built pred =
      if built = [] then []
      else match pred, built.getLast? with
        | some (prev, gaps), some (.frag last) => if FacingEnd last prev then gaps.map Row.gap else joinRows joinGap
        | _, _ => joinRows joinGap :=
  gapsBeforeLeftover_eq joinGap built pred

/-- With a join gap configured (and something built already), a left-over scaffold is appended WITHOUT any separator
    row only when the last built row is the facing end of its recorded input predecessor and the input had no gap row
    between them. -/
theorem gaps_before_leftover_nil_iff (j : Gap) (built : List Row) (hne : built ≠ []) (pred : Option (Fragment × List Gap)) :
    gapsBeforeLeftover (some j) built pred = [] ↔
      ∃ prev last, pred = some (prev, []) ∧ built.getLast? = some (.frag last) ∧ FacingEnd last prev := by
  rw [gapsBeforeLeftover_eq, if_neg hne]
  constructor
  · intro h
    split at h
    · next prev gaps last hl =>
      split at h
      · next hf =>
        have : gaps = [] := by simpa using h
        subst this; exact ⟨prev, last, rfl, hl, hf⟩
      · simp [joinRows] at h
    · simp [joinRows] at h
  · rintro ⟨prev, last, rfl, hl, hf⟩
    rw [hl]; simp [hf]

/-- every row it returns is a gap row: the join gap or one of the recorded input gap rows -/
theorem gaps_before_leftover_source (joinGap : Option Gap) (built : List Row) (pred : Option (Fragment × List Gap)) :
    ∀ x ∈ gapsBeforeLeftover joinGap built pred,
      ∃ g, x = Row.gap g ∧ (joinGap = some g ∨ ∃ prev gaps, pred = some (prev, gaps) ∧ g ∈ gaps) :=
  C01.gapsBeforeLeftover_rows joinGap built pred

/-- `input_predecessor(scaffold, i) = (f, gaps)`: `f` is a fragment row `j < i`, and `gaps` are exactly the rows strictly
    between `j` and `i` — all of them gap rows, in scaffold order: the input gaps separating the two neighbouring contigs. -/
theorem input_predecessor_gaps (rows : List Row) (i : Nat) (f : Fragment) (gaps : List Gap)
    (h : inputPredecessor rows i = some (f, gaps)) (hi : i ≤ rows.length) :
    ∃ j, j < i ∧ rows[j]? = some (.frag f) ∧ (rows.drop (j + 1)).take (i - (j + 1)) = gaps.map Row.gap :=
  inputPredecessor_spec rows i f gaps h hi

/-- `input_predecessor(scaffold, i)` records no gap only if the row directly in front of row `i` is that fragment:
    the two contigs were directly adjacent in the input. -/
theorem input_predecessor_no_gap (rows : List Row) (i : Nat) (f : Fragment)
    (h : inputPredecessor rows i = some (f, [])) (hi : i ≤ rows.length) :
    0 < i ∧ rows[i - 1]? = some (.frag f) := by
  obtain ⟨j, hj, hf, hg⟩ := inputPredecessor_spec rows i f [] h hi
  have hlen := congrArg List.length hg
  simp only [List.length_take, List.length_drop, List.map_nil, List.length_nil] at hlen
  have hjl : j < rows.length := (List.getElem?_eq_some_iff.mp hf).1
  have : j = i - 1 := by omega
  subst this
  exact ⟨by omega, hf⟩

example : gapsBeforeLeftover (some jg) [.frag f1] (some (f1, [])) = [] ∧
    gapsBeforeLeftover (some jg) [.frag f1] (some (f1, [g7, jg])) = [.gap g7, .gap jg] ∧
    gapsBeforeLeftover (some jg) [.frag f2] (some (f1, [])) = [.gap jg] ∧
    gapsBeforeLeftover (some jg) [.frag f1, .gap g7] (some (f1, [])) = [.gap jg] ∧
    gapsBeforeLeftover (some jg) [] (some (f1, [g7])) = [] ∧
    inputPredecessor [.frag f1, .frag f2] 1 = some (f1, []) ∧
    inputPredecessor [.frag f1, .gap g7, .gap jg, .frag f2] 3 = some (f1, [g7, jg]) := by decide +kernel

/-! ## `discard_start` / `discard_end` -/

/-- `discard_start`: the remaining rows are a proper suffix of the old rows that does not begin with a gap; everything
    removed after the first row is a gap; a non-gap last row stays the last row (or nothing is left). -/
theorem no_terminal_gaps_discard_start (o o' : OverlapResult) (h : o.discardStart = .ok o') :
    (∀ g, o'.rows.head? ≠ some (.gap g)) ∧
    o'.rows <:+ o.rows ∧ o'.rows.length < o.rows.length ∧
    (∀ x ∈ (o.rows.drop 1).take (o.rows.length - 1 - o'.rows.length), ∃ g, x = Row.gap g) ∧
    ((∀ g, o.rows.getLast? ≠ some (.gap g)) → ∀ g, o'.rows.getLast? ≠ some (.gap g)) := by
  obtain ⟨d, G, T, hr, hG, hT, rfl⟩ := OverlapResult.discardStart_ok h
  rw [hr]
  have hsuf : T <:+ d :: (G ++ T) := (List.suffix_append G T).trans (List.suffix_cons _ _)
  refine ⟨?_, hsuf, ?_, ?_, ?_⟩
  · rcases hT with rfl | ⟨f, T', rfl⟩ <;> intro g hg <;> cases hg
  · simp only [List.length_cons, List.length_append]; omega
  · have e : ((d :: (G ++ T)).drop 1).take ((d :: (G ++ T)).length - 1 - T.length) = G := by simp
    rw [e]
    exact fun x hx => Row.isGap_iff.mp (hG x hx)
  · intro hlast g hg
    by_cases hne : T = []
    · subst hne; cases hg
    · rw [suffix_getLast? hsuf hne] at hg; exact hlast g hg

/-- `discard_end`: the mirror image. -/
theorem no_terminal_gaps_discard_end (o o' : OverlapResult) (h : o.discardEnd = .ok o') :
    (∀ g, o'.rows.getLast? ≠ some (.gap g)) ∧
    o'.rows <+: o.rows ∧ o'.rows.length < o.rows.length ∧
    (∀ x ∈ (o.rows.drop o'.rows.length).take (o.rows.length - 1 - o'.rows.length), ∃ g, x = Row.gap g) ∧
    ((∀ g, o.rows.head? ≠ some (.gap g)) → ∀ g, o'.rows.head? ≠ some (.gap g)) := by
  obtain ⟨d, G, T, hr, hG, hT, rfl⟩ := OverlapResult.discardEnd_ok h
  rw [hr]
  have hpre : T <+: T ++ G ++ [d] := ⟨G ++ [d], by simp⟩
  refine ⟨?_, hpre, ?_, ?_, ?_⟩
  · rcases hT with rfl | ⟨f, T', rfl⟩ <;> intro g hg
    · cases hg
    · simp at hg
  · simp only [List.length_append, List.length_cons, List.length_nil]; omega
  · have e : ((T ++ G ++ [d]).drop T.length).take ((T ++ G ++ [d]).length - 1 - T.length) = G := by simp
    rw [e]
    exact fun x hx => Row.isGap_iff.mp (hG x hx)
  · intro hhead g hg
    by_cases hne : T = []
    · subst hne; cases hg
    · rw [prefix_head? hpre hne] at hg; exact hhead g hg

/-! ## `to_scaffold` -/

/-- `OverlapResult.to_scaffold`: for a plus/unstranded bait the rows are unchanged; for a minus bait the adjacencies are
    exactly the mirrored ones (order and strands reversed): nothing is created or lost. -/
theorem to_scaffold_adjacent (o : OverlapResult) :
    adjPairs o.toScaffoldRows =
      if o.bait.strand = -1 then (adjPairs o.rows).reverse.map mirror else adjPairs o.rows := by
  unfold OverlapResult.toScaffoldRows
  split
  · exact adjPairs_reverse_map _
  · rfl

/-! ## fused scaffolds -/

/-- where a gapless fragment–fragment adjacency of a fused scaffold can come from -/
def AdjSrc (b : Build) (pr : Fragment × Fragment) : Prop :=
  (∃ r ∈ b.store, r.added = true ∧ pr ∈ adjPairs r.o.toScaffoldRows) ∨
  (∃ e ∈ b.extra, pr ∈ adjPairs e.1.rows) ∨
  b.joinGap = none ∨
  (∃ e ∈ b.extra, ∃ prev, e.2 = some (prev, []) ∧ FacingEnd pr.1 prev ∧ e.1.rows.head? = some (.frag pr.2))

/-- In every fused scaffold two fragments are directly adjacent (no gap row between them) only if they are adjacent
    inside one part (a stored result, as `to_scaffold` orients it, or a left-over scaffold), or the pair is the seam in
    front of a left-over scaffold whose recorded input predecessor had NO gap row and whose facing end is exactly the
    fragment before the seam — i.e. the two contig ends were directly adjacent in the input (`input_predecessor_no_gap`);
    the only other possibility is that no join gap is configured at all. -/
theorem fuse_adjacent (b : Build) : ∀ s ∈ fuseByName b, ∀ pr ∈ adjPairs s.rows, AdjSrc b pr := by
  intro s hs
  refine (Fuse.fuseByName_all (fun rows => ∀ pr ∈ adjPairs rows, AdjSrc b pr) b ?_ ?_ s hs).1
  · intro r hr hadd _
    have part : ∀ pr ∈ adjPairs r.o.toScaffoldRows, AdjSrc b pr := fun pr hp => Or.inl ⟨r, hr, hadd, hp⟩
    refine ⟨fun pr hp => ?_, fun built _ hb pr hp => ?_⟩
    · rw [Scaffold.appendRows_nil] at hp; exact part pr hp
    · rw [adjPairs_appendRows] at hp
      simp only [List.mem_append] at hp
      rcases hp with (hp | hp) | hp
      · exact hb pr hp
      · cases hj : b.joinGap with
        | none => exact Or.inr (Or.inr (Or.inl hj))
        | some j => rw [hj] at hp; cases hp
      · exact part pr hp
  · intro e he _
    have part : ∀ pr ∈ adjPairs e.1.rows, AdjSrc b pr := fun pr hp => Or.inr (Or.inl ⟨e, he, hp⟩)
    refine ⟨part, fun built hbne hb pr hp => ?_⟩
    rw [adjPairs_leftover_add] at hp
    simp only [List.mem_append] at hp
    rcases hp with (hp | hp) | hp
    · exact hb pr hp
    · split at hp
      · next hg =>
        cases hj : b.joinGap with
        | none => exact Or.inr (Or.inr (Or.inl hj))
        | some j =>
          rw [hj] at hg
          obtain ⟨prev, last, hpred, hlast, hface⟩ := (gaps_before_leftover_nil_iff j built hbne e.2).mp hg
          obtain ⟨a, c⟩ := pr
          obtain ⟨h1, h2⟩ := (mem_seam_iff _ _ _ _).mp hp
          rw [hlast] at h1
          cases h1
          exact Or.inr (Or.inr (Or.inr ⟨e, he, prev, hpred, hface, h2⟩))
      · cases hp
    · exact part pr hp

private def bx : Build :=
  { namer := { autosomePrefix := [] }, nextOid := 4, joinGap := some jg, err := 1,
    store := [ { o := { bait := f1, start := 1, stop := 10, rows := [.frag f1], name := ['S'] }, added := true } ],
    extra := [ ({ name := ['S'], rows := [.frag f2] }, some (f1, [])),
               ({ name := ['S'], rows := [.frag f3] }, none) ] }
/-- a left-over contig whose input predecessor is the last built row, with no input gap, is re-joined without a gap;
    an unrelated left-over is joined with the join gap -/
example : (fuseByName bx).map (·.rows) = [[.frag f1, .frag f2, .gap jg, .frag f3]] := by decide +kernel
example : (∀ r ∈ bx.store, r.added = true → NoTerminalGap r.o.rows) ∧ (∀ e ∈ bx.extra, NoTerminalGap e.1.rows) := by
  simp [bx, NoTerminalGap]

/-! ## left-over scaffolds -/

/-- The left-over scaffold `add_missing_scaffolds_from_input` builds from one input scaffold: fragments directly
    adjacent in it were directly adjacent rows of the input scaffold; every gap row is an input gap row out of the run
    of gap rows directly in front of the following left-over fragment (all of them are kept when only gaps separate
    two left-over contigs), or the join gap; it neither starts nor ends with a gap. -/
theorem leftover_adjacent (b : Build) (rows out : List Row) (first : Option Nat)
    (h : missingRows b rows = .ok (out, first)) :
    (∀ pr ∈ adjPairs out, pr ∈ adjPairs rows) ∧ (∀ g, Row.gap g ∈ out → GapOK b rows g) ∧ NoTerminalGap out := by
  obtain ⟨_, h2, h3, h4, h5, _⟩ := missingRows_spec b rows out first h
  exact ⟨h3, h2, h4, h5⟩

/-! ## end to end: no output scaffold begins or ends with a gap -/

/-- The invariant behind it: after `remap_to_input_assembly` no stored result and no left-over scaffold begins or ends
    with a gap (`find_overlaps` skips terminal gaps, `discard_start/end` pop them, `trim_fragment` writes a fragment,
    left-over scaffolds start and end with a fragment). -/
theorem remap_to_input_no_terminal_gaps (input ptx : List Scaffold) (prefix_ : Str) (joinGap : Option Gap) (err : Int)
    (b : Build) (h : remapToInput input ptx prefix_ joinGap err = .ok b) :
    (∀ r ∈ b.store, NoTerminalGap r.o.rows) ∧ (∀ e ∈ b.extra, NoTerminalGap e.1.rows) :=
  remapToInput_ntg input ptx prefix_ joinGap err b h

/-- C07, second clause, for ALL inputs on which remapping completes: no scaffold of any output assembly begins or
    ends with a gap row. -/
theorem remap_no_terminal_gaps (input ptx : List Scaffold) (prefix_ : Str) (joinGap : Option Gap) (err : Int)
    (outs : List OutAsm) (stats : Stats) (h : remap input ptx prefix_ joinGap err = .ok (outs, stats)) :
    ∀ a ∈ outs, ∀ s ∈ a.scaffolds, NoTerminalGap s.rows := by
  obtain ⟨b, hb, _, hrows⟩ := C09.remap_fused input ptx prefix_ joinGap err outs stats h
  obtain ⟨hst, hex⟩ := remapToInput_ntg _ _ _ _ _ _ hb
  intro a ha s hs
  obtain ⟨s0, hs0, e⟩ := hrows a ha s hs
  rw [e]; exact (fuse_no_terminal_gaps b (fun r hr _ => hst r hr) hex s0 hs0).1

private def inA : Scaffold := { name := ['A'], rows := [.frag f1, .gap g7, .frag f2] }
private def inB : Scaffold := { name := ['B'], rows := [.frag { f3 with strand := 1 }] }
private def ptx1 : Scaffold :=
  { name := ['S','1'], rows := [.frag { oid := 10, name := ['A'], start := 1, stop := 27, strand := 1, tags := [sPainted] }] }
/-- remapping does complete on a small example (one painted Pretext scaffold covering scaffold A, B left over) -/
example : (remap [inA, inB] [ptx1] [] (some jg) 1).toOption.map (fun r => r.1.map (fun a => a.scaffolds.map (·.rows))) =
    some [[[.frag f1, .gap g7, .frag f2], [.frag { f3 with strand := 1 }]]] := by decide +kernel

/-! ## the first clause, end to end

  Contig ends are `(name, coordinate, isTail)` (`C11.End`); `facingEnds a b` are the two ends that face each other where
  fragment `a` is directly followed by fragment `b` (strand-aware; a cut piece's end is the piece's own coordinate);
  `inputAdj input` lists `facingEnds` of all directly adjacent fragment rows (NO gap row between) of the input scaffolds and
  `IsInputAdj input p` says that `p` is one of them as an UNORDERED pair.  With two same-named input fragments sharing an
  end coordinate the statement is about those value-level ends. -/
open AgpTpf.C11 (End leftFacing rightFacing facingEnds SameAdj)

theorem isInputAdj_iff (input : List Scaffold) (p : End × End) :
    IsInputAdj input p ↔
      ∃ sc ∈ input, ∃ a b, (a, b) ∈ adjPairs sc.rows ∧
        ((p.1 = leftFacing a ∧ p.2 = rightFacing b) ∨ (p.1 = rightFacing b ∧ p.2 = leftFacing a)) := by
  unfold IsInputAdj
  constructor
  · rintro ⟨q, hq, hs⟩
    obtain ⟨sc, hsc, a, b, hab, rfl⟩ := (mem_inputAdj input q).mp hq
    exact ⟨sc, hsc, a, b, hab, hs⟩
  · rintro ⟨sc, hsc, a, b, hab, hs⟩
    exact ⟨facingEnds a b, (mem_inputAdj input _).mpr ⟨sc, hsc, a, b, hab, rfl⟩, hs⟩

/-- Gapless adjacencies inside a contiguous slice `rows[i : i+n]` of an input scaffold's rows are adjacencies of
    that scaffold, hence input adjacencies. -/
theorem slice_adjacent (input : List Scaffold) (sc : Scaffold) (hsc : sc ∈ input) (i n : Nat) :
    ∀ pr ∈ adjPairs ((sc.rows.drop i).take n), pr ∈ adjPairs sc.rows ∧ IsInputAdj input (facingEnds pr.1 pr.2) := by
  intro pr hp
  have h := infix_adjacent ((List.take_prefix _ _).isInfix.trans (List.drop_suffix _ _).isInfix) pr hp
  exact ⟨h, isInputAdj_of input sc hsc pr.1 pr.2 h _ (SameAdj.refl _)⟩

/-- Reversing a run (order and strands — `to_scaffold` for a minus bait) turns each adjacency `(a, b)` into
    `(b.reverse, a.reverse)`, whose facing ends are the SAME unordered pair (strands ±1). -/
theorem reverse_adjacent (l : List Row) :
    ∀ pr ∈ adjPairs (l.reverse.map Row.reverse), ∃ q ∈ adjPairs l, pr = mirror q ∧
      (StrandPM q.1 → StrandPM q.2 → SameAdj (facingEnds pr.1 pr.2) (facingEnds q.1 q.2)) := by
  intro pr hp
  rw [adjPairs_reverse_map] at hp
  obtain ⟨q, hq, rfl⟩ := List.mem_map.mp hp
  refine ⟨q, List.mem_reverse.mp hq, rfl, fun h1 h2 => ?_⟩
  rw [facingEnds_mirror q.1 q.2 h1 h2]
  exact (SameAdj.swap _).symm

/-- Throughout `remap_to_input_assembly` (lookup, `trim_large_overhangs`, the resolver's `discard_start/end`,
    `cut_fragments`' `trim_fragment`, renaming) every stored result keeps the C18 invariant with respect to ONE input
    scaffold — a contiguous run of its rows, rows removed only at the ends, terminal fragments shortened only at their
    OUTER end — so the end facing the inner neighbour is unchanged: every adjacency `(a, c)` inside a stored result has
    the facing ends and strands of an adjacency `(a0, c0)` of that input scaffold.
    Hypothesis: the input Fragment objects are pairwise distinct (`trim_fragment` finds its row by identity). -/
theorem trim_keeps_inner_ends (input ptx : List Scaffold) (prefix_ : Str) (joinGap : Option Gap) (err : Int) (b : Build)
    (hnd : ((input.flatMap Scaffold.fragments).map (·.oid)).Nodup)
    (h : remapToInput input ptx prefix_ joinGap err = .ok b) :
    ∀ r ∈ b.store, ∃ sc ∈ input, C18.Inv sc.rows r.o ∧
      ∀ a c, (a, c) ∈ adjPairs r.o.rows →
        ∃ a0 c0, (a0, c0) ∈ adjPairs sc.rows ∧ leftFacing a = leftFacing a0 ∧ rightFacing c = rightFacing c0 ∧
          a.strand = a0.strand ∧ c.strand = c0.strand := by
  intro r hr
  obtain ⟨sc, hsc, hI⟩ := remapToInput_inv hnd h r hr
  refine ⟨sc, hsc, hI, fun a c hac => ?_⟩
  obtain ⟨a0, c0, h0, e⟩ := content_runs hI.content (a, [], c) ((gap_run_nil_iff _ _ _).mpr hac)
  exact ⟨a0, c0, (gap_run_nil_iff _ _ _).mp h0, e⟩

/-- … and the left-over scaffolds: adjacencies inside one are adjacencies of its input scaffold, and when the recorded
    input predecessor has no gap rows (`[]`), (predecessor, first left-over fragment) is an adjacency of that input
    scaffold. -/
theorem leftover_from_input (input ptx : List Scaffold) (prefix_ : Str) (joinGap : Option Gap) (err : Int) (b : Build)
    (hnd : ((input.flatMap Scaffold.fragments).map (·.oid)).Nodup)
    (h : remapToInput input ptx prefix_ joinGap err = .ok b) :
    b.joinGap = joinGap ∧
    ∀ e ∈ b.extra, ∃ sc ∈ input, (∀ pr ∈ adjPairs e.1.rows, pr ∈ adjPairs sc.rows) ∧
      ∀ prev c, e.2 = some (prev, []) → e.1.rows.head? = some (.frag c) → (prev, c) ∈ adjPairs sc.rows := by
  refine ⟨remapToInput_joinGap h, fun e he => ?_⟩
  obtain ⟨sc, hsc, hpred, hruns⟩ := remapToInput_extraGaps input ptx prefix_ joinGap err b h e he
  refine ⟨sc, hsc, ?_, fun prev c hp hc => (gap_run_nil_iff _ _ _).mp (hpred prev [] c hp hc)⟩
  rintro ⟨a, c⟩ hp
  rcases hruns (a, [], c) ((gap_run_nil_iff _ _ _).mpr hp) with h | ⟨j, _, h⟩
  · exact (gap_run_nil_iff _ _ _).mp h
  · cases h

/-- C07, first clause, for ALL inputs and ALL Pretext files on which remapping completes, with a join gap
    configured: in every scaffold of every output assembly two fragments are directly adjacent (no gap row between
    them) only if the same two contig ends were directly adjacent in the input assembly.
    Needed of the input: its Fragment objects are pairwise distinct (as objects read from a file are).
    This is `remap_gap_runs` for a run without gap rows: such a run is not the join gap, so it is an input run. -/
theorem remap_adjacent_only_from_input (input ptx : List Scaffold) (prefix_ : Str) (g : Gap) (err : Int)
    (outs : List OutAsm) (stats : Stats)
    (hnd : ((input.flatMap Scaffold.fragments).map (·.oid)).Nodup)
    (h : remap input ptx prefix_ (some g) err = .ok (outs, stats)) :
    ∀ a ∈ outs, ∀ s ∈ a.scaffolds, ∀ pr ∈ adjPairs s.rows, IsInputAdj input (facingEnds pr.1 pr.2) := by
  rintro a ha s hs ⟨x, y⟩ hp
  rcases remap_gap_runs input ptx prefix_ g err outs stats hnd h a ha s hs (x, [], y) ((gap_run_nil_iff _ _ _).mpr hp)
    with h | h
  · cases h
  · exact isInputAdj_of_inputRun h

/-- the same, spelled out: the pair of facing ends of the output adjacency is the pair of facing ends of two fragment
    rows `a0 b0` that are directly adjacent in some input scaffold (in either order) -/
theorem remap_adjacent_only_from_input' (input ptx : List Scaffold) (prefix_ : Str) (g : Gap) (err : Int)
    (outs : List OutAsm) (stats : Stats)
    (hnd : ((input.flatMap Scaffold.fragments).map (·.oid)).Nodup)
    (h : remap input ptx prefix_ (some g) err = .ok (outs, stats)) :
    ∀ a ∈ outs, ∀ s ∈ a.scaffolds, ∀ x y, (x, y) ∈ adjPairs s.rows →
      ∃ sc ∈ input, ∃ a0 b0, (a0, b0) ∈ adjPairs sc.rows ∧
        ((leftFacing x = leftFacing a0 ∧ rightFacing y = rightFacing b0) ∨
         (leftFacing x = rightFacing b0 ∧ rightFacing y = leftFacing a0)) := by
  intro a ha s hs x y hxy
  exact (isInputAdj_iff input _).mp (remap_adjacent_only_from_input input ptx prefix_ g err outs stats hnd h a ha s hs _ hxy)

/-! non-vacuity: scaffold C = a(+) b(−) c(+) d(+), no gaps.  Pretext: S1 = C:6-24 on the MINUS strand (cuts a and c,
    reverses the run), S2 = C:1-5 and C:25-30 (the other halves of a and c, joined with the join gap); d is left over.
    The output adjacencies (c−,b+) and (b+,a−) are the input adjacencies (b,c) and (a,b) read from the other side. -/
private def h1 : Fragment := { oid := 1, name := ['a'], start := 1, stop := 10, strand := 1 }
private def h2 : Fragment := { oid := 2, name := ['b'], start := 1, stop := 10, strand := -1 }
private def h3 : Fragment := { oid := 3, name := ['c'], start := 1, stop := 10, strand := 1 }
private def h4 : Fragment := { oid := 4, name := ['d'], start := 1, stop := 10, strand := 1 }
private def inC : Scaffold := { name := ['C'], rows := [.frag h1, .frag h2, .frag h3, .frag h4] }
private def ptxC : Scaffold :=
  { name := ['S','1'], rows := [.frag { oid := 10, name := ['C'], start := 6, stop := 24, strand := -1, tags := [sPainted] }] }
private def ptxD : Scaffold :=
  { name := ['S','2'], rows := [.frag { oid := 11, name := ['C'], start := 1, stop := 5, strand := 1, tags := [sPainted] },
      .frag { oid := 12, name := ['C'], start := 25, stop := 30, strand := 1, tags := [sPainted] }] }
private def cutTags : List Str := [Gen.cutTag]
private def c7 : Fragment := { oid := 7, name := ['c'], start := 1, stop := 4, strand := -1, tags := cutTags }
private def b2 : Fragment := { h2 with strand := 1 }
private def a6 : Fragment := { oid := 6, name := ['a'], start := 6, stop := 10, strand := -1, tags := cutTags }
example : ((inC.fragments).map (·.oid)).Nodup := by decide
example : (remap [inC] [ptxC, ptxD] [] (some jg) 1).toOption.map (fun r => r.1.map (fun a => a.scaffolds.map (·.rows))) =
    some [[[.frag c7, .frag b2, .frag a6],
           [.frag { oid := 5, name := ['a'], start := 1, stop := 5, strand := 1, tags := cutTags }, .gap jg,
            .frag { oid := 8, name := ['c'], start := 5, stop := 10, strand := 1, tags := cutTags }],
           [.frag h4]]] := by decide +kernel
example : inputAdj [inC] = [((['a'], 10, true), (['b'], 10, true)), ((['b'], 1, false), (['c'], 1, false)),
    ((['c'], 10, true), (['d'], 1, false))] := by decide +kernel
example : facingEnds c7 b2 = ((['c'], 1, false), (['b'], 1, false)) ∧ IsInputAdj [inC] (facingEnds c7 b2) ∧
    facingEnds b2 a6 = ((['b'], 10, true), (['a'], 10, true)) ∧ IsInputAdj [inC] (facingEnds b2 a6) := by
  unfold IsInputAdj; decide +kernel
/-- the ends that were NOT adjacent in the input are not input adjacencies: the cut ends a:5|a:6 and a join a–c -/
example : ¬ IsInputAdj [inC] ((['a'], 5, true), (['c'], 5, false)) := by unfold IsInputAdj; decide +kernel

end AgpTpf.C07
