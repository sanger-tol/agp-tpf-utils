/-
  C02 over the SOURCE: the GUARDS of the remapping heuristics — the thresholds the 3·err margin rests on — AS TRANSLATED from the
  current source (`Gen/Kernels.lean`, regenerated on every run by harness/translate_kernels.py):
    * the four `if` tests of `OverlapResult.trim_large_overhangs`      (`…_trim_large_overhangs_test0..3`),
    * `OverhangPremise.improves`                                       (`OverhangPremise_improves`, with the −3 × err_length guard),
    * the five `if` tests of `OverhangResolver.make_fixes`             (`…_make_fixes_test0..4`: two-premise rule, general rule).
  Each theorem says that the guard the MODEL uses (`EarlyKeep`, `StartGuard`, `EndGuard`, `Premise.improves`, the conditions of
  `fixOne`) is the translated test applied to the model's figures — so the mechanism theorems of `C02.lean` (M2–M5) are theorems
  about the comparisons the current code makes: `>` vs `≥`, `<` vs `≤`, `and` vs `or`, the factor −3, which operand is compared.
-/
import AgpTpf.Properties.C02
import AgpTpf.Proofs.Kernels
namespace AgpTpf.C02
open AgpTpf

/-! ## `trim_large_overhangs` -/

/-- early return: `len(self.rows) == 1 and self.bait.length > err_length` -/
theorem early_keep_is_source_test (o : OverlapResult) (err : Int) :
    EarlyKeep o err ↔ Gen.K.OverlapResult_trim_large_overhangs_test0 (err_length := err)
      (len_self_rows := (o.rows.length : Int)) (self_bait_length := o.bait.length) = true := by
  unfold EarlyKeep Gen.K.OverlapResult_trim_large_overhangs_test0
  simp only [Bool.and_eq_true, decide_eq_true_eq]
  constructor
  · rintro ⟨h1, h2⟩; exact ⟨by omega, h2⟩
  · rintro ⟨h1, h2⟩; exact ⟨by omega, h2⟩

/-- `self.start_overhang > err_length and self.start_row_bait_overlap < err_length` (the overlap is only evaluated when the first
    comparison holds: `and` short-circuits; on a non-empty result it always has a value) -/
theorem start_guard_is_source_test (o : OverlapResult) (err ov : Int) (hov : o.startRowBaitOverlap = .ok ov) :
    StartGuard o err ↔ Gen.K.OverlapResult_trim_large_overhangs_test1 (err_length := err)
      (self_start_overhang := o.startOverhang) (self_start_row_bait_overlap := ov) = true := by
  unfold StartGuard Gen.K.OverlapResult_trim_large_overhangs_test1
  simp only [Bool.and_eq_true, decide_eq_true_eq, hov, Except.ok.injEq]
  constructor
  · rintro ⟨h1, v, rfl, h2⟩; exact ⟨h1, h2⟩
  · rintro ⟨h1, h2⟩; exact ⟨h1, ov, rfl, h2⟩

/-- `if not self.rows: return` -/
theorem emptied_is_source_test (o : OverlapResult) :
    o.rows = [] ↔ Gen.K.OverlapResult_trim_large_overhangs_test2 (len_self_rows := (o.rows.length : Int)) = true := by
  unfold Gen.K.OverlapResult_trim_large_overhangs_test2
  simp only [decide_eq_true_eq]
  constructor
  · intro h; rw [h]; rfl
  · intro h; exact List.eq_nil_of_length_eq_zero (by omega)

/-- `self.end_overhang > err_length and self.end_row_bait_overlap < err_length` -/
theorem end_guard_is_source_test (o : OverlapResult) (err ov : Int) (hov : o.endRowBaitOverlap = .ok ov) :
    EndGuard o err ↔ Gen.K.OverlapResult_trim_large_overhangs_test3 (err_length := err)
      (self_end_overhang := o.endOverhang) (self_end_row_bait_overlap := ov) = true := by
  unfold EndGuard Gen.K.OverlapResult_trim_large_overhangs_test3
  simp only [Bool.and_eq_true, decide_eq_true_eq, hov, Except.ok.injEq]
  constructor
  · rintro ⟨h1, v, rfl, h2⟩; exact ⟨h1, h2⟩
  · rintro ⟨h1, h2⟩; exact ⟨h1, ov, rfl, h2⟩

/-! ## `OverhangPremise.improves` -/

/-- the model's `improves` is the translated function applied to: the number of rows of the premise's result, the error delta
    `|overhang if applied| − |current overhang|`, the overhang if applied, and `err_length` -/
theorem improves_is_source (p : Premise) (store : List Res) (err a : Int) (ha : p.overhangIfApplied store = .ok a) :
    p.improves store err = .ok (Gen.K.OverhangPremise_improves (err_length := err)
      (len_self_scaffold_rows := ((getRes store p.sid).rows.length : Int))
      (self_overhang_error_delta_if_applied := iabs a - iabs (Premise.currentOverhang p store))
      (self_overhang_if_applied := a)) := by
  rw [improves_eq ha, improves_guard_factor]
  congr 1
  unfold Gen.K.OverhangPremise_improves
  by_cases h1 : (getRes store p.sid).rows.length = 1
  · simp [h1]
  · have h1' : ¬ (((getRes store p.sid).rows.length : Int) = 1) := by omega
    by_cases h2 : iabs a - iabs (Premise.currentOverhang p store) < 0 <;> by_cases h3 : a > -3 * err <;> simp [h1, h1', h2, h3]

/-! ## `OverhangResolver.make_fixes` -/

/-- the two-premise rule fires iff test0 ∧ test1 of the source; it removes the FIRST premise's row iff test2 -/
theorem two_premise_tests (n : Nat) (fo so err : Int) :
    (n = 2 ↔ Gen.K.OverhangResolver_make_fixes_test0 (len_prem_list := (n : Int)) = true) ∧
    ((fo < err ∧ so < err) ↔ Gen.K.OverhangResolver_make_fixes_test1 (frst_bait_overlap := fo) (scnd_bait_overlap := so)
        (self_error_length := err) = true) ∧
    (fo < so ↔ Gen.K.OverhangResolver_make_fixes_test2 (frst_bait_overlap := fo) (scnd_bait_overlap := so) = true) ∧
    (n > 1 ↔ Gen.K.OverhangResolver_make_fixes_test3 (len_prem_list := (n : Int)) = true) := by
  unfold Gen.K.OverhangResolver_make_fixes_test0 Gen.K.OverhangResolver_make_fixes_test1
    Gen.K.OverhangResolver_make_fixes_test2 Gen.K.OverhangResolver_make_fixes_test3
  simp only [decide_eq_true_eq, Bool.and_eq_true]
  refine ⟨by omega, by trivial, by trivial, by omega⟩

/-- the general rule applies the best premise iff `bst.improves(err) and nxt.makes_worse(err)` (`makes_worse = not improves`) -/
theorem general_rule_test (bi ni : Bool) :
    (bi = true ∧ ni = false) ↔ Gen.K.OverhangResolver_make_fixes_test4 (b_bst_improves := bi) (b_nxt_makes_worse := !ni) = true := by
  unfold Gen.K.OverhangResolver_make_fixes_test4
  cases bi <;> cases ni <;> simp

/-- `fixOne` on two premises, phrased with the source's tests (the model's `fixOne` is `two_premise_rule` / `general_rule` of
    `C02.lean`; here only the conditions): with bait overlaps `fo`, `so` the two-premise rule applies `frst` iff test1 ∧ test2,
    `scnd` iff test1 ∧ ¬ test2, and falls through to the general rule iff ¬ test1 -/
theorem two_premise_decision (fo so err : Int) :
    let t1 := Gen.K.OverhangResolver_make_fixes_test1 (frst_bait_overlap := fo) (scnd_bait_overlap := so) (self_error_length := err)
    let t2 := Gen.K.OverhangResolver_make_fixes_test2 (frst_bait_overlap := fo) (scnd_bait_overlap := so)
    ((t1 = true ∧ t2 = true) ↔ (fo < err ∧ so < err ∧ fo < so)) ∧
    ((t1 = true ∧ t2 = false) ↔ (fo < err ∧ so < err ∧ ¬ fo < so)) ∧
    (t1 = false ↔ ¬ (fo < err ∧ so < err)) := by
  unfold Gen.K.OverhangResolver_make_fixes_test1 Gen.K.OverhangResolver_make_fixes_test2
  simp only [Bool.and_eq_true, decide_eq_true_eq, decide_eq_false_iff_not, Bool.and_eq_false_iff]
  refine ⟨by constructor <;> (intro h; omega), by constructor <;> (intro h; omega), by constructor <;> (intro h; omega)⟩

/-- non-vacuity: the translated guards evaluated on literals -/
example : Gen.K.OverhangPremise_improves (err_length := 10) (len_self_scaffold_rows := 3)
    (self_overhang_error_delta_if_applied := -5) (self_overhang_if_applied := -29) = true ∧
  Gen.K.OverhangPremise_improves (err_length := 10) (len_self_scaffold_rows := 3)
    (self_overhang_error_delta_if_applied := -5) (self_overhang_if_applied := -30) = false ∧
  Gen.K.OverlapResult_trim_large_overhangs_test1 (err_length := 10) (self_start_overhang := 11) (self_start_row_bait_overlap := 9) = true ∧
  Gen.K.OverlapResult_trim_large_overhangs_test1 (err_length := 10) (self_start_overhang := 10) (self_start_row_bait_overlap := 9) = false := by
  decide

end AgpTpf.C02
