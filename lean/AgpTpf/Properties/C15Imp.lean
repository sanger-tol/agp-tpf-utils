/-
  C15 over the SOURCE (T1c): `FastaIndex.check_for_index_files`, translated whole from the current /repo/src/tola/fasta/index.py
  (`Gen.Imp.FastaIndex_check_for_index_files`; the file system is an oracle: `fs_exists`, `fs_mtime`, time stamps as integers — only their order is
  used), accepts the cache exactly when BOTH index files exist and are STRICTLY newer than the FASTA file, looking at `.fai` first.
-/
import AgpTpf.Properties.C15
import AgpTpf.Gen.Imp
import AgpTpf.Proofs.ImpEval
namespace AgpTpf.C15
open AgpTpf AgpTpf.Cache AgpTpf.ImpEval

/-- the decision of the source's `check_for_index_files`, for a file system in which `stat` succeeds -/
theorem check_for_index_files_is_source (ex : Str → Bool) (mt : Str → Int) (fa fai agp : Str) :
    Gen.Imp.FastaIndex_check_for_index_files ex (fun p => .ok (mt p)) fa fai agp
      = .ok (ex fai && decide (mt fai > mt fa) && (ex agp && decide (mt agp > mt fa))) := by
  unfold Gen.Imp.FastaIndex_check_for_index_files
  simp only [bind, Except.bind, PyRt.forIn]
  cases h1 : ex fai <;> simp
  by_cases h2 : mt fai ≤ mt fa
  · simp [h2, Int.not_lt.mpr h2]
  · have h2' : mt fa < mt fai := by omega
    simp [h2, h2']
    cases h3 : ex agp <;> simp
    by_cases h4 : mt agp ≤ mt fa
    · simp [h4, Int.not_lt.mpr h4]
    · have h4' : mt fa < mt agp := by omega
      simp [h4, h4']

/-- a missing FASTA file (its `stat` raises) fails loudly, before any cache file is looked at -/
theorem check_for_index_files_missing_fasta (ex : Str → Bool) (mt : Str → R Int) (fa fai agp : Str) (e : Err) (h : mt fa = .error e) :
    Gen.Imp.FastaIndex_check_for_index_files ex mt fa fai agp = .error e := by
  unfold Gen.Imp.FastaIndex_check_for_index_files
  simp [bind, Except.bind, h]

/-- an index file with the SAME time stamp as the FASTA file is not trusted (the strict test of the property) -/
example : Gen.Imp.FastaIndex_check_for_index_files (fun _ => true) (fun p => .ok (if p = "x.fa.agp".toList then 7 else 5))
    "x.fa".toList "x.fa.fai".toList "x.fa.agp".toList = .ok false := by
  str_lits
  decide +kernel
example : Gen.Imp.FastaIndex_check_for_index_files (fun _ => true) (fun p => .ok (if p = "x.fa".toList then 5 else 7))
    "x.fa".toList "x.fa.fai".toList "x.fa.agp".toList = .ok true := by
  str_lits
  decide +kernel

/-- … which is the test the protocol model applies to each cache file (`Model/Cache.lean`, `newer`): with the model's view of the two files and the
    FASTA time stamp, the source accepts exactly when the model's process would go on to LOAD -/
theorem check_for_index_files_is_model_test (fai agp : Option FileV) (m : Nat) :
    Gen.Imp.FastaIndex_check_for_index_files (fun p => if p = "fai".toList then fai.isSome else agp.isSome)
        (fun p => .ok (if p = "fasta".toList then (m : Int) else if p = "fai".toList then ((fai.map FileV.mtime).getD 0 : Nat) else ((agp.map FileV.mtime).getD 0 : Nat)))
        "fasta".toList "fai".toList "agp".toList
      = .ok (newer fai m && newer agp m) := by
  rw [check_for_index_files_is_source (mt := fun p => if p = "fasta".toList then (m : Int) else if p = "fai".toList then ((fai.map FileV.mtime).getD 0 : Nat) else ((agp.map FileV.mtime).getD 0 : Nat))]
  cases fai <;> cases agp <;> simp [newer] <;> (try decide) <;> (try omega)

end AgpTpf.C15
