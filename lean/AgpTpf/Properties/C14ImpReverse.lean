/-
  C14 / T1c — `Scaffold.reverse` (assembly/scaffold.py) as translated by `harness/translate_imp.py` into
  `Gen.Imp.Scaffold_reverse_imp` IS the model's `Scaffold.reverse` up to fresh object ids, and the C14 laws (double reversal,
  what one reversal preserves) hold of the SOURCE function.

  Vocabulary (Proofs/ImpReverse.lean):
  * `RowsValid s` — every fragment row of `s` has strand ∈ {0, 1, -1} and start ≤ end: what `Fragment.__init__` guarantees for every
    Fragment object that exists (`rowsValid_iff`); decidable.
  * `eraseOids s` — `s` with every fragment's `oid := 0`; `eraseOidRow` the same for one row.
  * `renumber n rows` — the fragment rows get the ids `n, n+1, …` in row order; `reverseFrom n s` = the model's `s.reverse` with its
    rows renumbered from `n`.
  The source's `frag.reverse()` builds a NEW Fragment (it takes the next free object id and goes through `Fragment.__init__` again);
  the model keeps the ids and never raises.
-/
import AgpTpf.Proofs.ImpReverse
import AgpTpf.Properties.C14
import AgpTpf.Proofs.ImpEval
namespace AgpTpf.C14
open AgpTpf AgpTpf.ImpReverse AgpTpf.ImpEval

/-! ### 1. the tie -/

/-- for ALL inputs: with valid fragment rows the source returns the next free id and the model's reversed scaffold with the new
    fragments numbered `n, n+1, …` in the row order of the result; otherwise `Fragment.__init__` (called by `frag.reverse()` for the
    first invalid fragment met in reversed row order) raises ValueError — the model's total `Scaffold.reverse` returns a value there. -/
theorem scaffold_reverse_source_cases (s : Scaffold) (n : Nat) :
    Gen.Imp.Scaffold_reverse_imp n s =
      if RowsValid s then .ok (n + (Scaffold.fragments s).length, reverseFrom n s) else .error .value :=
  reverse_imp_cases n s

/-- the source's `reverse()` on a scaffold of constructed Fragment objects: it returns `r` with `r = s.reverse` up to object ids
    (everything else equal: name, original_name, original_tags kept, tag / haplotype / rank the constructor defaults on both sides),
    and the fragments of `r` carry the ids `n, n+1, …` in row order of `r`.  These two facts determine `r`
    (`ImpReverse.eq_of_eraseOids_of_oids`); explicitly `r = reverseFrom n s`. -/
theorem scaffold_reverse_is_source (s : Scaffold) (n : Nat) (h : RowsValid s) :
    ∃ r, Gen.Imp.Scaffold_reverse_imp n s = .ok (n + (Scaffold.fragments s).length, r) ∧
      eraseOids r = eraseOids s.reverse ∧
      (Scaffold.fragments r).map (·.oid) = List.range' n (Scaffold.fragments s).length ∧
      r = reverseFrom n s :=
  ⟨reverseFrom n s, by rw [scaffold_reverse_source_cases, if_pos h], eraseOids_reverseFrom n s, reverseFrom_oids n s, rfl⟩

/-- outside the hypothesis the source raises ValueError where the model returns a scaffold -/
theorem scaffold_reverse_invalid_raises (s : Scaffold) (n : Nat) (h : ¬ RowsValid s) :
    Gen.Imp.Scaffold_reverse_imp n s = .error .value := by
  rw [scaffold_reverse_source_cases, if_neg h]

/-- the source returns exactly on the valid scaffolds -/
theorem scaffold_reverse_ok_iff (s : Scaffold) (n : Nat) :
    (∃ p, Gen.Imp.Scaffold_reverse_imp n s = .ok p) ↔ RowsValid s := by
  rw [scaffold_reverse_source_cases]
  by_cases h : RowsValid s <;> simp [h]

/- fixture `exRev` (Proofs/ImpReverse.lean): `a:1-4(+) gap(7) b:3-9(-) gap(2) c:5-5(?)`, object ids 1, 2, 3, tag / haplotype / rank set -/
example : RowsValid exRev := by
  decide +kernel

/-- reversed once, next free id 10: rows in inverse order, strands negated (`?` stays `?`), new ids 10, 11, 12; tag, haplotype and
    rank are NOT carried over -/
example : Gen.Imp.Scaffold_reverse_imp 10 exRev = .ok (13,
    { name := ['s'], originalName := some ['o'], originalTags := some [['x']],
      rows := [.frag { oid := 10, name := ['c'], start := 5, stop := 5, strand := 0 }, .gap { length := 2, gapType := ['u'] },
               .frag { oid := 11, name := ['b'], start := 3, stop := 9, strand := 1 }, .gap { length := 7, gapType := ['g'] },
               .frag { oid := 12, name := ['a'], start := 1, stop := 4, strand := -1, tags := [['p']] }] }) := by
  decide +kernel

/- fixture `exRevBad`: a fragment with strand 2 (only reachable by mutating a Fragment by hand): the source raises ValueError, the
   model does not -/
example : ¬ RowsValid exRevBad := by
  decide +kernel
example : Gen.Imp.Scaffold_reverse_imp 10 exRevBad = .error .value := by
  decide +kernel
example : exRevBad.reverse.rows =
    [.frag { oid := 2, name := ['b'], start := 3, stop := 9, strand := -2 }, .gap { length := 7, gapType := ['g'] },
     .frag { oid := 1, name := ['a'], start := 1, stop := 4, strand := -1 }] := by
  decide +kernel
/-- likewise `start > end` -/
example : Gen.Imp.Scaffold_reverse_imp 0 { name := [], rows := [.frag { name := ['a'], start := 5, stop := 4, strand := 1 }] }
    = .error .value := by
  decide +kernel

/-! ### 2. the C14 laws for the source -/

/-- reversing twice with the source function (the second call starts at the id the first one returned): both calls return; the
    result has the original rows up to object ids — explicitly the original rows renumbered from `n + k`, `k` the number of
    fragments —, the name, original_name and original_tags of `s`, and tag / haplotype / rank RESET to None / None / 0 (already by
    the first reversal: the constructor call passes only name, original_name, original_tags — exactly what the model's
    `Scaffold.reverse` does, so up to ids the result is the model's `s.reverse.reverse`). -/
theorem source_reverse_twice (s : Scaffold) (n : Nat) (h : RowsValid s) :
    ∃ r1 r2, Gen.Imp.Scaffold_reverse_imp n s = .ok (n + (Scaffold.fragments s).length, r1) ∧
      Gen.Imp.Scaffold_reverse_imp (n + (Scaffold.fragments s).length) r1
        = .ok (n + (Scaffold.fragments s).length + (Scaffold.fragments s).length, r2) ∧
      r2.rows.map eraseOidRow = s.rows.map eraseOidRow ∧
      eraseOids r2 = eraseOids { s with tag := none, haplotype := none, rank := 0 } ∧
      eraseOids r2 = eraseOids s.reverse.reverse ∧
      r2 = { name := s.name, rows := renumber (n + (Scaffold.fragments s).length) s.rows,
             originalName := s.originalName, originalTags := s.originalTags } ∧
      (Scaffold.fragments r2).map (·.oid) = List.range' (n + (Scaffold.fragments s).length) (Scaffold.fragments s).length ∧
      (r1.tag = none ∧ r1.haplotype = none ∧ r1.rank = 0) ∧ (r2.tag = none ∧ r2.haplotype = none ∧ r2.rank = 0) := by
  obtain ⟨r1, h1, he1, -, rfl⟩ := scaffold_reverse_is_source s n h
  have hv1 : RowsValid (reverseFrom n s) := (rowsValid_reverseFrom n s).2 h
  obtain ⟨r2, h2, he2, ho2, rfl⟩ := scaffold_reverse_is_source (reverseFrom n s) (n + (Scaffold.fragments s).length) hv1
  rw [reverseFrom_fragments_length] at h2 ho2
  -- up to ids, the second result is the model's double reversal (tie 1 twice + `eraseOids` commutes with the model's reversal)
  have hm : eraseOids (reverseFrom (n + (Scaffold.fragments s).length) (reverseFrom n s)) = eraseOids s.reverse.reverse := by
    rw [he2, eraseOids_reverse, he1, ← eraseOids_reverse]
  -- … whose rows are the original rows: the model theorem `reverse_reverse`
  have hrows : (reverseFrom (n + (Scaffold.fragments s).length) (reverseFrom n s)).rows.map eraseOidRow = s.rows.map eraseOidRow := by
    have := congrArg Scaffold.rows hm
    simp only [eraseOids] at this
    rw [this, reverse_reverse]
  refine ⟨_, _, h1, h2, hrows, ?_, hm, reverseFrom_reverseFrom _ _ s, ho2, ⟨rfl, rfl, rfl⟩, ⟨rfl, rfl, rfl⟩⟩
  rw [hm]
  simp only [eraseOids, reverse_reverse]
  rfl

/-- reversed twice, ids 10.. then 13..: the original rows with the ids 13, 14, 15, and tag / haplotype / rank gone -/
example : (Gen.Imp.Scaffold_reverse_imp 10 exRev >>= fun p => Gen.Imp.Scaffold_reverse_imp p.1 p.2) = .ok (16,
    { name := ['s'], originalName := some ['o'], originalTags := some [['x']],
      rows := [.frag { oid := 13, name := ['a'], start := 1, stop := 4, strand := 1, tags := [['p']] }, .gap { length := 7, gapType := ['g'] },
               .frag { oid := 14, name := ['b'], start := 3, stop := 9, strand := -1 }, .gap { length := 2, gapType := ['u'] },
               .frag { oid := 15, name := ['c'], start := 5, stop := 5, strand := 0 }] }) := by
  decide +kernel

/-- whenever the source's `reverse()` returns (i.e. on every valid scaffold, `scaffold_reverse_ok_iff`): the next free id has advanced by
    the number of fragments; name, original_name, original_tags, length, fragments_length, the number of rows and of fragments are
    preserved; and for every position `i`, row `i` of the result is row `n-1-i` of the original with: gap rows identical; fragments
    with identical contig name, interval and tags, the strand negated, and the id `n + ` the number of fragment rows before
    position `i` in the result.  (Obtained from tie 1 and the model theorems `reverse_length`, `reverse_rows_length`, `reverse_rows_get`.) -/
theorem source_reverse_preserves (s : Scaffold) (n m : Nat) (r : Scaffold) (h : Gen.Imp.Scaffold_reverse_imp n s = .ok (m, r)) :
    m = n + (Scaffold.fragments s).length ∧
    r.name = s.name ∧ r.originalName = s.originalName ∧ r.originalTags = s.originalTags ∧
    r.length = s.length ∧ r.fragmentsLength = s.fragmentsLength ∧
    r.rows.length = s.rows.length ∧ (Scaffold.fragments r).length = (Scaffold.fragments s).length ∧
    ∀ i, i < s.rows.length →
      match s.rows[s.rows.length - 1 - i]?, r.rows[i]? with
      | some (.gap g), some r' => r' = .gap g
      | some (.frag f), some r' => ∃ f', r' = .frag f' ∧ f'.name = f.name ∧ f'.start = f.start ∧ f'.stop = f.stop ∧
          f'.tags = f.tags ∧ f'.strand = - f.strand ∧ f'.oid = n + (fragmentsOf (r.rows.take i)).length
      | _, _ => False := by
  rw [scaffold_reverse_source_cases] at h
  split at h
  · cases h
    have he := eraseOids_reverseFrom n s
    refine ⟨rfl, rfl, rfl, rfl, ?_, ?_, ?_, reverseFrom_fragments_length n s, ?_⟩
    · rw [← length_eraseOids, he, length_eraseOids, reverse_length]
    · rw [← fragmentsLength_eraseOids, he, fragmentsLength_eraseOids, fragmentsLength_reverse]
    · show (renumber n s.reverse.rows).length = _
      rw [renumber_length, reverse_rows_length]
    · intro i hi
      -- row `i` of the result is row `n-1-i` reversed (`reverse_rows_get`), renumbered by the fragments before it
      have hj : s.rows.length - 1 - i < s.rows.length := by omega
      simp only [show (reverseFrom n s).rows = renumber n s.reverse.rows from rfl, renumber_getElem?, renumber_take,
        fragmentsOf_renumber_length, reverse_rows_get s i hi, List.getElem?_eq_getElem hj, Option.map_some]
      cases s.rows[s.rows.length - 1 - i] with
      | gap g => rfl
      | frag f => rw [row_reverse_frag]; exact ⟨_, rfl, rfl, rfl, rfl, rfl, rfl, rfl⟩
  · cases h

/-- the conclusions on the instance: lengths 4 + 7 + 7 + 2 + 1 and 4 + 7 + 1 before and after -/
example : ∃ m r, Gen.Imp.Scaffold_reverse_imp 10 exRev = .ok (m, r) ∧ r.length = 21 ∧ exRev.length = 21 ∧
    r.fragmentsLength = 12 ∧ exRev.fragmentsLength = 12 ∧ (Scaffold.fragments r).map (·.oid) = [10, 11, 12] ∧
    (Scaffold.fragments r).map (·.strand) = [0, 1, -1] ∧ (Scaffold.fragments exRev).map (·.strand) = [1, -1, 0] :=
  ⟨13, reverseFrom 10 exRev, by decide +kernel, by decide +kernel, by decide +kernel, by decide +kernel, by decide +kernel, by decide +kernel,
    by decide +kernel, by decide +kernel⟩

end AgpTpf.C14
