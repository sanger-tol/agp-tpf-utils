/-
  C07 / C08 / T1c — the gap rows in front of a left-over contig: the model's `inputPredecessor` / `gapsBeforeLeftover`
  (Model/Remap.lean) ARE the source's `BuildAssembly.input_predecessor` / `BuildAssembly.gaps_before_leftover`
  (assembly/build_assembly.py) as translated by `harness/translate_imp.py` into `Gen.Imp`.  Helper lemmas: Proofs/ImpLeftover.lean.

  Conversions (Proofs/ImpLeftover.lean): the model keeps the predecessor as `(Fragment, List Gap)`; the source returns the row
  objects, `predToRows p = (Row.frag p.1, p.2.map Row.gap)`, and `gaps_before_leftover` takes the stored pair as it is (`prev.name`,
  `prev.strand`, `prev.start`, `prev.end` are attribute reads on a row object: AttributeError on a Gap).  `predOfRows` inverts
  `predToRows`; `gapsBeforeLeftoverRows` is `gaps_before_leftover` spelled out for an arbitrary stored pair.
-/
import AgpTpf.Gen.Imp
import AgpTpf.Proofs.ImpLeftover
namespace AgpTpf.C07
open AgpTpf ImpLeftover

/-- `input_predecessor(scffld, i)` for EVERY index `i ≥ 0` (no `i ≤ len` needed: beyond the end both sides walk back from the last
    row): the model's pair, with the fragment and the gaps as rows.  Never raises. -/
theorem input_predecessor_is_source (sc : Scaffold) (i : Nat) :
    Gen.Imp.BuildAssembly_input_predecessor sc (i : Int)
      = .ok ((inputPredecessor sc.rows i).map (fun p => (Row.frag p.1, p.2.map Row.gap))) := by
  unfold Gen.Imp.BuildAssembly_input_predecessor inputPredecessor
  by_cases h : i = 0
  · subst h; rfl
  · have h' : ((i : Int) ≠ 0) := by omega
    rw [if_pos (by simpa using h'), sliceRevFrom_pred sc.rows i h]
    refine forIn_walk_eq _ ?_ ?_ _ ?_ ?_ _ <;> intros <;> rfl

/-- negative `i` (never passed by the code: `i` is the index of a Fragment row): Python's slice counts `i - 1` from the end, so the
    source does what the model does at index `len + i` (at 0, i.e. `None`, when `-i ≥ len`) -/
theorem input_predecessor_is_source_neg (sc : Scaffold) (i : Int) (hi : i < 0) :
    Gen.Imp.BuildAssembly_input_predecessor sc i
      = .ok ((inputPredecessor sc.rows (i + (sc.rows.length : Int)).toNat).map (fun p => (Row.frag p.1, p.2.map Row.gap))) := by
  unfold Gen.Imp.BuildAssembly_input_predecessor inputPredecessor
  have h' : i ≠ 0 := by omega
  rw [if_pos (by simpa using h'), sliceRevFrom_pred_neg sc.rows i hi]
  refine forIn_walk_eq _ ?_ ?_ _ ?_ ?_ _ <;> intros <;> rfl

example :
    Gen.Imp.BuildAssembly_input_predecessor
      { name := ['s'], rows := [.frag { name := ['a'], start := 1, stop := 5, strand := 1 }, .gap { length := 7, gapType := ['u'] },
                                .gap { length := 200, gapType := ['s'] }, .frag { name := ['b'], start := 2, stop := 9, strand := -1 }] } 3
    = .ok (some (.frag { name := ['a'], start := 1, stop := 5, strand := 1 },
                 [.gap { length := 7, gapType := ['u'] }, .gap { length := 200, gapType := ['s'] }])) := by rfl

example :
    Gen.Imp.BuildAssembly_input_predecessor
      { name := ['s'], rows := [.gap { length := 7, gapType := ['u'] }, .frag { name := ['b'], start := 2, stop := 9, strand := -1 }] } 1
    = .ok none := by rfl

/-- a negative index: `rows[-2::-1]` of three rows starts at row 1 -/
example :
    Gen.Imp.BuildAssembly_input_predecessor
      { name := ['s'], rows := [.frag { name := ['a'], start := 1, stop := 5, strand := 1 }, .gap { length := 7, gapType := ['u'] },
                                .frag { name := ['b'], start := 2, stop := 9, strand := -1 }] } (-1)
    = .ok (some (.frag { name := ['a'], start := 1, stop := 5, strand := 1 }, [.gap { length := 7, gapType := ['u'] }])) := by rfl

/-- `gaps_before_leftover` for ANY stored pair (`prev` any row object, `gaps` any rows) — `gapsBeforeLeftoverRows` of
    Proofs/ImpLeftover.lean spells the result out: `[]` when nothing is built yet; the default gap when nothing is stored or the last
    built row is a Gap; when the last built row is a Fragment, `prev.name` is read: AttributeError if `prev` is a Gap, otherwise the
    stored rows as they are when the end of `prev` is still there, else the default gap -/
theorem gaps_before_leftover_rows_is_source (built : Scaffold) (pred : Option (Row × List Row)) (joinGap : Option Gap) :
    Gen.Imp.BuildAssembly_gaps_before_leftover built pred joinGap = gapsBeforeLeftoverRows joinGap built.rows pred := by
  unfold Gen.Imp.BuildAssembly_gaps_before_leftover gapsBeforeLeftoverRows
  -- the default gap is read case by case: the source may build `[g]` / `[]` by a test of its own instead of one expression
  cases hb : built.rows.isEmpty with
  | true => rfl
  | false =>
    cases pred with
    | none => cases joinGap <;> rfl
    | some q =>
      obtain ⟨prev, gaps⟩ := q
      cases hr : built.rows.reverse with
      | nil => simp at hr; simp [hr] at hb
      | cons x r =>
        rw [show pyGet built.rows (-(1 : Int)) = .ok x from pyGet_neg_one_of_reverse hr]
        cases x with
        | gap g => cases joinGap <;> rfl
        | frag last =>
          cases prev with
          | gap g => rfl
          | frag p =>
            -- the source's `and` chain is a nest of `if … then <next test> else False`, each test joined by `>>=`
            simp only [Bool.not_true, Bool.not_false, Bool.false_eq_true, if_true, if_false, Row.isGap, PyRt.asFrag, Except.map,
              ok_bind, ite_ok_bind]
            cases joinGap <;>
              simp only [Bool.if_false_right, Bool.and_eq_true, decide_eq_true_eq, and_assoc, Option.toList, List.map_cons, List.map_nil]

/-- `gaps_before_leftover` on what `input_predecessor` stores (`predToRows p = (Row.frag p.1, p.2.map Row.gap)`: the predecessor ROW
    object and the gap rows): never raises; the model's rows -/
theorem gaps_before_leftover_is_source (built : Scaffold) (pred : Option (Fragment × List Gap)) (joinGap : Option Gap) :
    Gen.Imp.BuildAssembly_gaps_before_leftover built (pred.map (fun p => (Row.frag p.1, p.2.map Row.gap))) joinGap
      = .ok (gapsBeforeLeftover joinGap built.rows pred) := by
  rw [gaps_before_leftover_rows_is_source]
  exact gapsBeforeLeftoverRows_predToRows joinGap built.rows pred

example :
    Gen.Imp.BuildAssembly_gaps_before_leftover
      { name := ['s'], rows := [.frag { name := ['a'], start := 1, stop := 5, strand := 1 }] }
      (some (.frag { name := ['a'], start := 1, stop := 5, strand := 1 }, [.gap { length := 7, gapType := ['u'] }]))
      (some { length := 200, gapType := ['s'] })
    = .ok [.gap { length := 7, gapType := ['u'] }] := by rfl

example :
    Gen.Imp.BuildAssembly_gaps_before_leftover
      { name := ['s'], rows := [.frag { name := ['a'], start := 1, stop := 4, strand := 1 }] }
      (some (.frag { name := ['a'], start := 1, stop := 5, strand := 1 }, [.gap { length := 7, gapType := ['u'] }]))
      (some { length := 200, gapType := ['s'] })
    = .ok [.gap { length := 200, gapType := ['s'] }] := by rfl

/-- the stored predecessor row is a Gap (never produced by `input_predecessor`): AttributeError (`prev.name`) EXACTLY when something is
    built and the last built row is a Fragment; otherwise the row is never looked at (`[]`, resp. the default gap) -/
theorem gaps_before_leftover_gap_predecessor (built : Scaffold) (g : Gap) (gaps : List Row) (joinGap : Option Gap) :
    Gen.Imp.BuildAssembly_gaps_before_leftover built (some (Row.gap g, gaps)) joinGap
      = match built.rows.reverse with
        | [] => .ok []
        | Row.frag _ :: _ => .error .attribute
        | Row.gap _ :: _ => .ok (joinGap.toList.map Row.gap) := by
  rw [gaps_before_leftover_rows_is_source]
  unfold gapsBeforeLeftoverRows
  cases hr : built.rows.reverse with
  | nil => simp at hr; simp [hr]
  | cons x r =>
    have hb : built.rows.isEmpty = false := by
      cases h : built.rows with
      | nil => simp [h] at hr
      | cons _ _ => rfl
    cases x <;> cases joinGap <;> simp [hb]

example :
    Gen.Imp.BuildAssembly_gaps_before_leftover
      { name := ['s'], rows := [.frag { name := ['a'], start := 1, stop := 4, strand := 1 }] }
      (some (.gap { length := 7, gapType := ['u'] }, [])) (some { length := 200, gapType := ['s'] })
    = .error .attribute := by rfl

example :
    Gen.Imp.BuildAssembly_gaps_before_leftover
      { name := ['s'], rows := [.frag { name := ['a'], start := 1, stop := 4, strand := 1 }, .gap { length := 3, gapType := ['u'] }] }
      (some (.gap { length := 7, gapType := ['u'] }, [])) (some { length := 200, gapType := ['s'] })
    = .ok [.gap { length := 200, gapType := ['s'] }] := by rfl

/-- the two compose: `scffld.input_predecessor = input_predecessor(input_scffld, i)`, handed to `gaps_before_leftover` AS IT IS STORED,
    gives the model's rows for the model's predecessor; never raises -/
theorem gaps_before_leftover_of_input_predecessor (sc built : Scaffold) (i : Nat) (joinGap : Option Gap) :
    (Gen.Imp.BuildAssembly_input_predecessor sc (i : Int) >>= fun q =>
        Gen.Imp.BuildAssembly_gaps_before_leftover built q joinGap)
      = .ok (gapsBeforeLeftover joinGap built.rows (inputPredecessor sc.rows i)) := by
  rw [input_predecessor_is_source]
  exact gaps_before_leftover_is_source built _ joinGap

example :
    (Gen.Imp.BuildAssembly_input_predecessor
      { name := ['s'], rows := [.frag { name := ['a'], start := 1, stop := 5, strand := -1 }, .gap { length := 7, gapType := ['u'] },
                                .frag { name := ['b'], start := 2, stop := 9, strand := 1 }] } 2 >>= fun q =>
      Gen.Imp.BuildAssembly_gaps_before_leftover
        { name := ['t'], rows := [.frag { name := ['c'], start := 1, stop := 3, strand := 1 },
                                  .frag { name := ['a'], start := 1, stop := 4, strand := -1 }] }
        q (some { length := 200, gapType := ['s'] }))
    = .ok [.gap { length := 7, gapType := ['u'] }] := by rfl

end AgpTpf.C07
