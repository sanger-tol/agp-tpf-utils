/-
  C19 — Overlap QC reports exactly the overlapping contig pairs; interval predicates are mutually consistent.
  Only property theorems + non-vacuity examples live here.
-/
import AgpTpf.Model.Basic
namespace AgpTpf.C19
open AgpTpf

/-- base `x` of contig `f.name` lies in fragment `f` -/
def Covers (f : Fragment) (x : Int) : Prop := f.start ≤ x ∧ x ≤ f.stop
/-- what `Fragment.__init__` guarantees -/
def Valid (f : Fragment) : Prop := f.start ≤ f.stop

theorem covers_both_iff (a b : Fragment) (x : Int) :
    Covers a x ∧ Covers b x ↔ max a.start b.start ≤ x ∧ x ≤ min a.stop b.stop := by
  rw [Int.max_le, Int.le_min]; unfold Covers
  exact ⟨fun ⟨⟨h1, h2⟩, h3, h4⟩ => ⟨⟨h1, h3⟩, h2, h4⟩, fun ⟨⟨h1, h3⟩, h2, h4⟩ => ⟨⟨h1, h2⟩, h3, h4⟩⟩

theorem shared_base_iff (a b : Fragment) :
    (∃ x, Covers a x ∧ Covers b x) ↔ max a.start b.start ≤ min a.stop b.stop :=
  ⟨fun ⟨x, hx⟩ => Int.le_trans ((covers_both_iff a b x).1 hx).1 ((covers_both_iff a b x).1 hx).2,
   fun h => ⟨_, (covers_both_iff a b _).2 ⟨Int.le_refl _, h⟩⟩⟩

/-- overlap ⇔ same contig and a shared base — for ALL integer coordinates -/
theorem overlaps_iff_share_base (a b : Fragment) (ha : Valid a) (hb : Valid b) :
    a.overlaps b = true ↔ a.name = b.name ∧ ∃ x, Covers a x ∧ Covers b x := by
  rw [shared_base_iff, Int.max_le, Int.le_min, Int.le_min, Fragment.overlaps]
  split
  · next hn => exact ⟨fun h => (nomatch h), fun h => absurd h.1 hn⟩
  · next hn =>
    rw [decide_eq_true_iff]
    exact ⟨fun h => ⟨Decidable.not_not.1 hn, ⟨ha, h.2⟩, h.1, hb⟩, fun h => ⟨h.2.2.1, h.2.1.2⟩⟩

theorem overlaps_symm (a b : Fragment) : a.overlaps b = b.overlaps a := by
  unfold Fragment.overlaps
  by_cases h : a.name = b.name
  · simp only [h, ne_eq, not_true_eq_false, ↓reduceIte]
    exact decide_eq_decide.mpr ⟨fun ⟨x, y⟩ => ⟨y, x⟩, fun ⟨x, y⟩ => ⟨y, x⟩⟩
  · have h' : ¬ b.name = a.name := fun e => h e.symm
    simp [h, h']

/-- the overlap length is the size of the intersection: the shared bases are exactly `n` consecutive ones -/
theorem overlap_length_is_intersection_size (a b : Fragment) (n : Int) (h : a.overlapLength b = some n) :
    a.name = b.name ∧ 1 ≤ n ∧ ∃ lo, ∀ x, (Covers a x ∧ Covers b x) ↔ (lo ≤ x ∧ x < lo + n) := by
  simp only [Fragment.overlapLength] at h
  split at h
  · cases h
  · next hn =>
    split at h
    · cases h
    · next hse =>
      cases h
      refine ⟨Decidable.not_not.1 hn, by omega, max a.start b.start, fun x => ?_⟩
      rw [covers_both_iff]; omega

/-- … and it is absent exactly when nothing is shared (or the contigs differ) -/
theorem overlap_length_none_iff (a b : Fragment) :
    a.overlapLength b = none ↔ (a.name ≠ b.name ∨ ¬ ∃ x, Covers a x ∧ Covers b x) := by
  simp only [Fragment.overlapLength]
  split
  · next hn => exact ⟨fun _ => .inl hn, fun _ => rfl⟩
  · next hn =>
    split
    · next hse =>
      refine ⟨fun _ => .inr (fun ⟨x, hx⟩ => ?_), fun _ => rfl⟩
      rw [covers_both_iff] at hx; omega
    · next hse =>
      refine ⟨fun h => (nomatch h), fun h => ?_⟩
      rcases h with h | h
      · exact absurd h hn
      · exact absurd ⟨max a.start b.start, (covers_both_iff a b _).2 ⟨Int.le_refl _, Int.not_lt.1 hse⟩⟩ h

theorem overlaps_iff_overlap_length (a b : Fragment) (ha : Valid a) (hb : Valid b) :
    a.overlaps b = true ↔ (a.overlapLength b).isSome = true := by
  rw [overlaps_iff_share_base a b ha hb, Option.isSome_iff_ne_none, ne_eq, overlap_length_none_iff, not_or,
    Decidable.not_not, Classical.not_not]

/-- differently named fragments never overlap, abut or have a gap -/
theorem different_contigs (a b : Fragment) (hn : a.name ≠ b.name) :
    a.overlaps b = false ∧ a.abuts b = false ∧ a.gapBetween b = none ∧ a.overlapLength b = none := by
  unfold Fragment.overlaps Fragment.abuts Fragment.gapBetween Fragment.overlapLength
  simp [hn]

/-- exactly one of overlap / abut / positive gap holds for same-named valid intervals -/
theorem trichotomy (a b : Fragment) (ha : Valid a) (hb : Valid b) (hn : a.name = b.name) :
    (a.overlaps b = true ∧ a.abuts b = false ∧ a.gapBetween b = none) ∨
    (a.overlaps b = false ∧ a.abuts b = true ∧ a.gapBetween b = some 0) ∨
    (a.overlaps b = false ∧ a.abuts b = false ∧ ∃ g, 0 < g ∧ a.gapBetween b = some g) := by
  unfold Valid at ha hb
  simp only [Fragment.overlaps, Fragment.abuts, Fragment.gapBetween, hn, ne_eq, not_true_eq_false, if_false,
    decide_eq_true_eq, decide_eq_false_iff_not]
  rcases Int.lt_or_le a.stop b.start with h | h
  · -- `a` lies before `b`
    rw [Int.min_eq_left (Int.le_trans (Int.le_of_lt h) hb), Int.max_eq_right (Int.le_trans ha (Int.le_of_lt h)),
      if_pos h]
    refine .inr ?_
    by_cases h2 : a.stop + 1 = b.start
    · exact .inl ⟨fun h' => Int.not_le.2 h h'.1, .inl h2, by rw [← h2]; congr 1; omega⟩
    · exact .inr ⟨fun h' => Int.not_le.2 h h'.1, by omega, _, by omega, rfl⟩
  · rcases Int.lt_or_le b.stop a.start with h' | h'
    · -- `b` lies before `a`
      rw [Int.min_eq_right (Int.le_trans (Int.le_of_lt h') ha), Int.max_eq_left (Int.le_trans hb (Int.le_of_lt h')),
        if_pos h']
      refine .inr ?_
      by_cases h2 : b.stop + 1 = a.start
      · exact .inl ⟨fun h'' => Int.not_le.2 h' h''.2, .inr h2, by rw [← h2]; congr 1; omega⟩
      · exact .inr ⟨fun h'' => Int.not_le.2 h' h''.2, by omega, _, by omega, rfl⟩
    · exact .inl ⟨⟨h, h'⟩, by omega,
        if_neg (Int.not_lt.2 (Int.le_min.2 ⟨Int.max_le.2 ⟨ha, h⟩, Int.max_le.2 ⟨h', hb⟩⟩))⟩

/-- two same-named intervals abut exactly when the gap between them is zero -/
theorem abuts_iff_gap_zero (a b : Fragment) (ha : Valid a) (hb : Valid b) :
    a.abuts b = true ↔ a.gapBetween b = some 0 := by
  by_cases hn : a.name = b.name
  · rcases trichotomy a b ha hb hn with ⟨-, h1, h2⟩ | ⟨-, h1, h2⟩ | ⟨-, h1, g, hg, h2⟩ <;> rw [h1, h2]
    · exact ⟨fun h => (nomatch h), fun h => (nomatch h)⟩
    · exact ⟨fun _ => rfl, fun _ => rfl⟩
    · exact ⟨fun h => (nomatch h), fun h => absurd (Option.some.inj h) (Int.ne_of_gt hg)⟩
  · rw [(different_contigs a b hn).2.1, (different_contigs a b hn).2.2.1]
    exact ⟨fun h => (nomatch h), fun h => (nomatch h)⟩

/-- all index pairs `i < j` of a list, in the scan order of `all_vs_all_fragments` -/
def allPairs {α} : List α → List (α × α)
  | [] => []
  | x :: r => r.map (fun y => (x, y)) ++ allPairs r

/-- the scan reports exactly the overlapping pairs, each unordered pair (position pair `i < j`) once, in scan order -/
theorem find_overlapping_spec (frags : List Fragment) :
    overlappingPairs frags = (allPairs frags).filter (fun p => p.1.overlaps p.2) := by
  induction frags with
  | nil => rfl
  | cons f r ih =>
    simp only [overlappingPairs, allPairs, List.filter_append, ih]
    congr 1
    clear ih
    induction r with
    | nil => rfl
    | cons g r' ih' =>
      simp only [List.filter, List.map]
      cases h : f.overlaps g <;> simp [ih']

theorem mem_overlapping_iff (frags : List Fragment) (p q : Fragment) :
    (p, q) ∈ overlappingPairs frags ↔ (p, q) ∈ allPairs frags ∧ p.overlaps q = true := by
  rw [find_overlapping_spec]; simp [List.mem_filter]

theorem mem_allPairs_iff {α} (l : List α) (x y : α) :
    (x, y) ∈ allPairs l ↔ ∃ i j : Nat, i < j ∧ l[i]? = some x ∧ l[j]? = some y := by
  induction l with
  | nil => exact ⟨fun h => (nomatch h), fun ⟨_, _, _, h, _⟩ => (nomatch h)⟩
  | cons a r ih =>
    rw [allPairs, List.mem_append, List.mem_map, ih]
    constructor
    · rintro (⟨z, hz, e⟩ | ⟨i, j, hij, hi, hj⟩)
      · cases e
        obtain ⟨k, hk⟩ := List.getElem?_of_mem hz
        exact ⟨0, k + 1, Nat.succ_pos k, rfl, hk⟩
      · exact ⟨i + 1, j + 1, Nat.succ_lt_succ hij, hi, hj⟩
    · rintro ⟨i, j, hij, hi, hj⟩
      cases j with
      | zero => exact absurd hij (Nat.not_lt_zero i)
      | succ j =>
        cases i with
        | zero => cases hi; exact .inl ⟨y, List.mem_of_getElem? hj, rfl⟩
        | succ i => exact .inr ⟨i, j, Nat.lt_of_succ_lt_succ hij, hi, hj⟩

/-! non-vacuity: concrete fragments meeting the hypotheses, in each branch of the trichotomy -/
private def f1 : Fragment := { name := ['c'], start := 1, stop := 10, strand := 1 }
private def f2 : Fragment := { name := ['c'], start := 10, stop := 20, strand := -1 }
private def f3 : Fragment := { name := ['c'], start := 11, stop := 20, strand := 1 }
private def f4 : Fragment := { name := ['c'], start := 15, stop := 20, strand := 1 }
example : Valid f1 ∧ Valid f2 ∧ f1.overlaps f2 = true ∧ f1.overlapLength f2 = some 1 := by
  unfold Valid; decide
example : f1.abuts f3 = true ∧ f1.gapBetween f3 = some 0 ∧ f1.overlaps f3 = false := by decide
example : f1.gapBetween f4 = some 4 ∧ f1.abuts f4 = false := by decide
example : overlappingPairs [f1, f2, f3, f4] = [(f1, f2), (f2, f3), (f2, f4), (f3, f4)] := by decide

end AgpTpf.C19
