/-
  C11 (part) — `manual_haplotig_removals` in `<output>.info.yaml` (`write_info_yaml`) is the number of scaffolds in
  the haplotig file the same run writes.

  Model: Model/CliPlan.lean (`infoRecord`, `outputPlan`), Model/Cli.lean (`nameAssemblies`, `outputFileName`).
  `write_info_yaml` looks the assembly up under the key `"Haplotig"` in the dict BEFORE `name_assemblies` renames it;
  an `Assembly` object is always truthy (the class defines neither `__bool__` nor `__len__`), so the count is taken
  whenever the key is present.

   I1  `haplotig_removals_eq`     count = scaffolds of the `Haplotig` assembly = scaffolds of the assembly written to
                                  `root.version.additional_haplotigs.curated<suffix>` (single-haplotype branch) /
                                  `root.version.haplotigs<suffix>` (`Primary` and multi-haplotype branches), a planned file
       `haplotig_removals_zero`   no `Haplotig` key: 0
       `haplotig_file_unique`     (file-level hypotheses of C16 P1) no other assembly is written to that file
       `info_record_fields`       the other fields of the record
-/
import AgpTpf.Proofs.CliPlanNodup
import AgpTpf.Properties.C09Names
import AgpTpf.Proofs.ImpEval
namespace AgpTpf.C11
open AgpTpf AgpTpf.CliNames AgpTpf.CliPlan
open scoped AgpTpf.ImpEval

/-- **I1** `outs` = the dict returned by the remap (pairwise different keys), `h` its assembly keyed `Haplotig`,
    not curated (it is keyed by a TAG: `C09.assembly_key`: the flag is `False` for a tag key).  Then `manual_haplotig_removals` is the number of
    scaffolds of `h`, and `name_assemblies` hands exactly these scaffolds to one named assembly `n`:
    * single-haplotype branch (a `None` key, no `Primary` key): key `additional_haplotigs`, file
      `root.version.additional_haplotigs.curated<suffix>`;
    * `Primary` branch and multi-haplotype branch: key `Haplotig` kept, file `root.version.haplotigs<suffix>`;
    and that file is one of the planned files of every plan built from `named`. -/
theorem haplotig_removals_eq (stats : Stats) (outs : List OutAsm) (root version suffix : Str) (named : List NamedAsm)
    (hn : nameAssemblies outs root version = .ok named)
    (hkeys : (outs.map (·.key)).Nodup)
    (h : OutAsm) (hh : h ∈ outs) (hk : h.key = some sHaplotig) (hc : h.curated = false) :
    (infoRecord stats outs).haplotigRemovals = (h.scaffolds.length : Int) ∧
    ∃ n ∈ named, n.scaffolds = h.scaffolds ∧
      (infoRecord stats outs).haplotigRemovals = (n.scaffolds.length : Int) ∧
      ((¬ HasKey outs (some sPrimary) ∧ HasKey outs none) →
        n.key = some "additional_haplotigs".toList ∧ n.curated = true ∧
        outputFileName n suffix = root ++ '.' :: (version ++ ".additional_haplotigs.curated".toList ++ suffix)) ∧
      (¬ (¬ HasKey outs (some sPrimary) ∧ HasKey outs none) →
        n.key = some sHaplotig ∧ n.curated = false ∧
        outputFileName n suffix = root ++ '.' :: (version ++ ".haplotigs".toList ++ suffix)) ∧
      (∀ outName writeLog fmt prefix_ plan,
        outputPlan outName writeLog named fmt suffix prefix_ = .ok plan → outputFileName n suffix ∈ plan) := by
  have hcount : (infoRecord stats outs).haplotigRemovals = (h.scaffolds.length : Int) := by
    unfold infoRecord
    simp only [find_haplotig outs hkeys h hh hk]
  refine ⟨hcount, ?_⟩
  have hlow : lowerKey h = some "haplotig".toList := by
    rw [lowerKey_some hk]; str_lits; decide +kernel
  -- the file of a non-curated assembly named `root.version.haplotigs`
  have hfile : ∀ n : NamedAsm, n.name = dotJoin [root, version, keyLabel (lowerKey h)] → n.curated = false →
      outputFileName n suffix = root ++ '.' :: (version ++ ".haplotigs".toList ++ suffix) := by
    intro n e1 e2
    unfold outputFileName
    rw [e1, e2, hlow, dotJoin3]
    unfold keyLabel
    str_lits
    simp
  rcases nameAssemblies_cases outs root version named hn with ⟨hp, hcur, e⟩ | ⟨hp, hnk, e⟩ | ⟨hp, hnk, e⟩
  · -- `Primary` branch: `h` keeps its own file
    have hlw : primaryLow h = lowerKey h := if_neg (by rw [hk]; decide)
    have hmem : primaryKept root version h ∈ named := by
      rw [e, filterMap_primaryName root version outs hcur]
      exact List.mem_append_left _ (List.mem_map_of_mem (List.mem_filter.2 ⟨hh, by simp [keeps, hc]⟩))
    exact ⟨_, hmem, rfl, hcount, fun hb => absurd hp hb.1,
      fun _ => ⟨hk, hc, hfile _ (by rw [← hlw]; rfl) hc⟩, mem_plan named suffix _ hmem⟩
  · -- single-haplotype branch
    have hmem : singleName root version h ∈ named := by rw [e]; exact List.mem_map_of_mem hh
    refine ⟨_, hmem, by rw [singleName_rec], by rw [singleName_rec]; exact hcount, fun _ => ?_,
      fun hb => absurd ⟨hp, hnk⟩ hb, mem_plan named suffix _ hmem⟩
    rw [C09.additional_haplotigs_file_name root version suffix h hk, singleName_rec]
    exact ⟨by rw [hk]; exact singleKey_haplotig, by simp [hk], rfl⟩
  · -- multi-haplotype branch
    have hmem : multiName root version h ∈ named := by rw [e]; exact List.mem_map_of_mem hh
    have hr := multiName_rec root version h sHaplotig hk
    refine ⟨_, hmem, by rw [hr], by rw [hr]; exact hcount, fun hb => absurd hb.2 hnk, fun _ => ?_,
      mem_plan named suffix _ hmem⟩
    rw [hr]
    exact ⟨hk, hc, hfile _ (by simp [hc]) hc⟩

/-- no assembly keyed `Haplotig`: `manual_haplotig_removals: 0` -/
theorem haplotig_removals_zero (stats : Stats) (outs : List OutAsm) (hno : ¬ HasKey outs (some sHaplotig)) :
    (infoRecord stats outs).haplotigRemovals = 0 := by
  unfold infoRecord
  have : outs.find? (fun a => a.key = some sHaplotig) = none := by
    apply List.find?_eq_none.2
    intro a ha hk
    exact hno ⟨a, ha, by simpa using hk⟩
  simp only [this]

/-- under the file-level hypotheses of `C16.named_assembly_files_nodup` the haplotig file belongs to ONE named
    assembly: nothing else is written into it -/
theorem haplotig_file_unique (outs : List OutAsm) (root version suffix : Str) (named : List NamedAsm)
    (hn : nameAssemblies outs root version = .ok named)
    (hkeys : (outs.map (·.key)).Nodup)
    (hcase : outs.Pairwise (fun a b => a.key.map lowerStr = b.key.map lowerStr → a.curated ≠ b.curated))
    (hadd : ¬ HasKey outs (some sPrimary) → HasKey outs none → HasKey outs (some sHaplotig) →
      ∀ a ∈ outs, a.curated = true → a.key.map lowerStr ≠ some "additional_haplotig".toList)
    (n m : NamedAsm) (hnm : n ∈ named) (hm : m ∈ named) (hf : outputFileName m suffix = outputFileName n suffix) :
    m = n :=
  inj_of_nodup_map (fun x => outputFileName x suffix)
    (named_files_nodup outs root version suffix named hn (.of_keys hkeys hcase hadd)) m hm n hnm hf

/-- the rest of the record: the per-assembly table as it is; the two totals iff the table has more than one entry -/
theorem info_record_fields (stats : Stats) (outs : List OutAsm) :
    (infoRecord stats outs).assemblies = stats.perAssembly ∧
    (stats.perAssembly.length > 1 →
      (infoRecord stats outs).manualBreaks = some stats.breaks ∧ (infoRecord stats outs).manualJoins = some stats.joins) ∧
    (stats.perAssembly.length ≤ 1 →
      (infoRecord stats outs).manualBreaks = none ∧ (infoRecord stats outs).manualJoins = none) := by
  unfold infoRecord
  refine ⟨rfl, ?_, ?_⟩
  · intro h; simp [h]
  · intro h
    have : ¬ stats.perAssembly.length > 1 := by omega
    simp [this]

/-! ### non-vacuity; the hypothesis `hc` -/

private def sc (n : String) : Scaffold := { name := n.toList }
private def singleOuts : List OutAsm :=
  [{ key := none, curated := true, scaffolds := [sc "S1"] },
   { key := some sHaplotig, curated := false, scaffolds := [sc "H_1", sc "H_2"] }]
private def multiOuts : List OutAsm :=
  [{ key := some "Hap1".toList, curated := true, scaffolds := [sc "S1"] },
   { key := some "Hap2".toList, curated := true, scaffolds := [sc "S2"] },
   { key := some sHaplotig, curated := false, scaffolds := [sc "H_1", sc "H_2", sc "H_3"] }]
private def primaryOuts : List OutAsm :=
  [{ key := some sPrimary, curated := true, scaffolds := [sc "S1"] },
   { key := some "Hap2".toList, curated := true, scaffolds := [sc "S2"] },
   { key := some sHaplotig, curated := false, scaffolds := [sc "H_1"] }]

example : (singleOuts.map (·.key)).Nodup ∧ (multiOuts.map (·.key)).Nodup ∧ (primaryOuts.map (·.key)).Nodup := by decide +kernel
example : (infoRecord {} singleOuts).haplotigRemovals = 2 ∧ (infoRecord {} multiOuts).haplotigRemovals = 3 ∧
    (infoRecord {} primaryOuts).haplotigRemovals = 1 := by decide +kernel
example : (nameAssemblies singleOuts ['x'] ['1']).map (·.map (fun n => (outputFileName n ".fa".toList, n.scaffolds.length))) =
    .ok [("x.1.primary.curated.fa".toList, 1), ("x.1.additional_haplotigs.curated.fa".toList, 2)] := by
  str_lits; decide +kernel
example : (nameAssemblies multiOuts ['x'] ['1']).map (·.map (fun n => (outputFileName n ".fa".toList, n.scaffolds.length))) =
    .ok [("x.hap1.1.primary.curated.fa".toList, 1), ("x.hap2.1.primary.curated.fa".toList, 1), ("x.1.haplotigs.fa".toList, 3)] := by
  str_lits; decide +kernel
example : (nameAssemblies primaryOuts ['x'] ['1']).map (·.map (fun n => (outputFileName n ".fa".toList, n.scaffolds.length))) =
    .ok [("x.1.primary.curated.fa".toList, 1), ("x.1.haplotigs.fa".toList, 1), ("x.1.all_haplotigs.curated.fa".toList, 1)] := by
  str_lits; decide +kernel

/-- `hc` is needed: a CURATED assembly keyed `Haplotig` (never produced by `assemblies_with_scaffolds_fused`, where the
    key `Haplotig` is a tag) would be merged into `all_haplotigs` in the `Primary` branch: count 1, file with 2 scaffolds -/
example :
    let outs : List OutAsm :=
      [{ key := some sPrimary, curated := true, scaffolds := [sc "S1"] },
       { key := some "Hap2".toList, curated := true, scaffolds := [sc "S2"] },
       { key := some sHaplotig, curated := true, scaffolds := [sc "H_1"] }]
    (infoRecord {} outs).haplotigRemovals = 1 ∧
    (nameAssemblies outs ['x'] ['1']).map (·.map (fun n => (outputFileName n ".fa".toList, n.scaffolds.length))) =
      .ok [("x.1.primary.curated.fa".toList, 1), ("x.1.all_haplotigs.curated.fa".toList, 2)] := by
  str_lits; decide +kernel

end AgpTpf.C11
