/-
  C10 (T1c, phase 2) — `ChrNamer.__init__`, `ChrNamer.add_scaffold`, `ChrNamer.add_chr_prefix` and `ChrNamer.name_chromosomes` AS TRANSLATED
  FROM THE PYTHON SOURCE (`Gen/Imp2.lean`) against the naming block of the model's `assembliesFused` (`Model/Remap.lean`).

  Model side.  `ImpNameChr.nameChromosomes fs haps entries prefix_` is that block verbatim (`if haps.isEmpty … buildGroups … groupsHaveErrors …
  groupFirstLength … stableSort (≥) … nameGroup`), `ImpNameChr.fusedStep` / `fusedSplit` the fold before it, `ImpNameChr.fusedRest` the code
  after it; `assembliesFused_is_block` says the model function IS their composition (`Proofs/ImpPhase2.lean` rewrites with it).

  Built on `C10ImpGroup` (`length_of_first_haplotype` = `groupFirstLength`, `name_chromosome` = `nameGroup`) and `C10ImpBuild`
  (`build_groups` = `buildGroups` + `groupsHaveErrors`).  Their well-formedness hypotheses on the groups (non-empty original names, at most
  1114047 names per haplotype) are DERIVED here from `buildGroups` itself (`ImpBuildGroups.buildGroups_wf`: every group it returns has
  non-empty original names and at most `entries.length` of them per haplotype).

  What the tie of `name_chromosomes` needs (all facts `__init__` / `add_scaffold` establish: `ImpNameChr.NamerWf`, kept by `add_scaffold`)
  * `(hs.map (·.1)).Nodup` — `haplotypes_seen` is a dictionary;
  * every haplotype text of `self.scaffolds` is a key of `haplotypes_seen` (difference (b) of `C10ImpBuild`: AttributeError vs a new key);
  * `hs ≠ [] → entries ≠ []`.  WITHOUT it the two sides DIFFER (`name_chromosomes_no_entries_differs`): the source builds one ChrGroup
    without scaffolds, `check_groups` marks nothing, and the sort key `length_of_first_haplotype` raises ValueError; the model raises
    ChrNamerError.  Unreachable: `add_scaffold` fills both attributes at once.
  * `entries.length ≤ 1114047`: `multi_chr_list` calls `chr(ord("A") + k)`; a haplotype (not the first one: two names there are a
    ChrNamerError) that collected more than 0x110000 − 65 original names in one group makes the source raise ValueError where the model
    carries on (`C10.multi_chr_list_too_many`, C10ImpGroup.lean).
  NO hypothesis on the scaffold references (both sides read / write the arena with the same default for a reference out of range), none on
  the values of `haplotypes_seen` (never read), none on `self.groups` / `heap_g` on entry (`self.groups = []` is the first statement).
  The sort keys are computed on the arena BEFORE any renaming on both sides; the renaming threads the arena through the groups in sorted
  order with `chr_n = 1, 2, …` (`enumerate` + `i + 1` vs `List.range … |>.zip` + `p.1 + 1`).
  Proofs: `AgpTpf/Proofs/ImpNameChr.lean`.
-/
import AgpTpf.Proofs.ImpEval
import AgpTpf.Proofs.ImpNameChr
namespace AgpTpf.C10
open AgpTpf AgpTpf.ImpNameChr
open scoped AgpTpf.ImpEval

/-! ### the input the `example`s run on: five rank-1 scaffolds (one of them an unloc of `S3`) in two haplotypes, one rank-2 scaffold -/

def ncHap1 : Str := ['H', 'a', 'p', '1']
def ncHap2 : Str := ['H', 'a', 'p', '2']
def ncPre : Str := ['S', 'U', '_']
def ncS (n o : Str) (len : Int) (rank : Int := 1) : Scaffold :=
  { name := n, originalName := some o, rank := rank,
    rows := [.frag { oid := 1, name := ['c'], start := 1, stop := len, strand := 1 }] }
def ncHeapB : List Scaffold :=
  [ncS ['S', '1'] ['S', '1'] 100, ncS ['S', '2'] ['S', '2'] 50, ncS ['S', '3'] ['S', '3'] 300, ncS ['S', '4'] ['S', '4'] 20,
   ncS ['S', '3', '_', 'u', '1'] ['S', '3'] 10, ncS ['X'] ['X'] 7 2]
def ncHs : List (Str × Bool) := [(ncHap1, true), (ncHap2, true)]
def ncEntries : List (Str × Nat) := [(ncHap1, 0), (ncHap2, 1), (ncHap1, 2), (ncHap1, 4), (ncHap2, 3)]

/-! ### 1. the naming block inside `assembliesFused` -/

/-- `assembliesFused` = the fold over the fused scaffolds (`fusedSplit`: assemblies, `chr_namer.scaffolds`, keys of
    `chr_namer.haplotypes_seen`, arena), then `nameChromosomes` on what it collected, then smart sort + statistics (`fusedRest`) -/
theorem assembliesFused_is_block (input : List Scaffold) (b : Build) :
    assembliesFused input b =
      (nameChromosomes (fusedSplit b).2.2.2 (fusedSplit b).2.2.1 (fusedSplit b).2.1 b.namer.autosomePrefix >>= fun fs =>
        fusedRest input b (fusedSplit b).1 fs) :=
  assembliesFused_eq input b

/-- the block on the running example: the second group is the longer one (300 > 100), so IT becomes `SU_1` -/
example : (nameChromosomes ncHeapB (ncHs.map (·.1)) ncEntries ncPre).map (·.map (·.name)) =
    .ok [ncPre ++ ['2'], ncPre ++ ['2'], ncPre ++ ['1'], ncPre ++ ['1'], ncPre ++ ['1', '_', 'u', '1'], ['X']] := by decide +kernel

/-! ### 2. `ChrNamer.__init__` -/

theorem chrnamer_init_is_source (p : Str) : Gen.Imp.ChrNamer___init__ p = .ok (p, [], [], none) :=
  init_eq p

/-- … which establishes the invariant of the pair (`haplotypes_seen`, `scaffolds`) -/
theorem chrnamer_init_wf : NamerWf [] [] := ⟨rfl, by intro kv h; cases h⟩

example : Gen.Imp.ChrNamer___init__ ncPre = .ok (ncPre, [], [], none) := rfl

/-! ### 3. `ChrNamer.add_scaffold` -/

/-- for EVERY input; `PyRt.optStrText` (`str(hap)`, "None" for None) is the model's `pyStrOpt` -/
theorem chrnamer_add_scaffold_is_source (scs : List (Str × Nat)) (hs : List (Str × Bool)) (hap : Option Str) (sid : Nat) :
    Gen.Imp.ChrNamer_add_scaffold scs hs hap sid = .ok (scs ++ [(pyStrOpt hap, sid)], dSet hs (pyStrOpt hap) true) := by
  rw [add_scaffold_eq, optStrText_eq]

/-- the keys of `haplotypes_seen[h] = True` are the model's `sAdd haps h` — for EVERY association list (no hypothesis needed) -/
theorem haplotypes_seen_keys (hs : List (Str × Bool)) (h : Str) : (dSet hs h true).map (·.1) = sAdd (hs.map (·.1)) h :=
  dSet_keys hs h true

/-- … and for a dictionary all of whose values are `True` the whole dictionary is determined by the model's set -/
theorem haplotypes_seen_all_true (keys : List Str) (h : Str) :
    dSet (keys.map (fun k => (k, true))) h true = (sAdd keys h).map (fun k => (k, true)) :=
  dSet_map_const true keys h

/-- `add_scaffold` keeps the invariant `NamerWf` (keys of `haplotypes_seen` = haplotype texts of `scaffolds` in first-occurrence order,
    all values `True`), which gives every hypothesis `name_chromosomes_is_source` has on `haplotypes_seen` / `scaffolds` -/
theorem chrnamer_add_scaffold_keeps_wf (scs : List (Str × Nat)) (hs : List (Str × Bool)) (hap : Option Str) (sid : Nat)
    (hw : NamerWf hs scs) :
    ∃ scs' hs', Gen.Imp.ChrNamer_add_scaffold scs hs hap sid = .ok (scs', hs') ∧ NamerWf hs' scs' ∧
      scs' = scs ++ [(pyStrOpt hap, sid)] ∧ hs'.map (·.1) = sAdd (hs.map (·.1)) (pyStrOpt hap) :=
  ⟨_, _, chrnamer_add_scaffold_is_source scs hs hap sid, namerWf_add hs scs _ sid hw, rfl, dSet_keys hs _ true⟩

theorem namerWf_gives {hs : List (Str × Bool)} {entries : List (Str × Nat)} (hw : NamerWf hs entries) :
    (hs.map (·.1)).Nodup ∧ (hs ≠ [] → entries ≠ []) ∧ (∀ e ∈ entries, e.1 ∈ hs.map (·.1)) ∧
      hs = ((entries.map (·.1)).foldl sAdd []).map (fun k => (k, true)) :=
  ⟨hw.nodup, hw.entries_ne, hw.known, hw.eq⟩

/-- in the fold of `assembliesFused`: a rank-1 scaffold gets exactly these two updates (with `hap = asmKey s`: tag, else haplotype, else
    None), the arena is untouched -/
theorem fused_rank1_is_add_scaffold (prefix_ : Str) (asms : List (Option Str × Bool × List Nat)) (entries : List (Str × Nat))
    (haps : List Str) (fs : List Scaffold) (sid : Nat) (h1 : (fs.getD sid default).rank = 1) :
    (fusedStep prefix_ (asms, entries, haps, fs) sid).2 =
      (entries ++ [(pyStrOpt (asmKey (fs.getD sid default)), sid)], sAdd haps (pyStrOpt (asmKey (fs.getD sid default))), fs) := by
  unfold fusedStep asmKey
  simp only [h1, if_true]
  split
  · rfl
  · split <;> rfl

example : Gen.Imp.ChrNamer_add_scaffold [(ncHap1, 0)] [(ncHap1, true)] (some ncHap2) 1 =
    .ok ([(ncHap1, 0), (ncHap2, 1)], [(ncHap1, true), (ncHap2, true)]) := rfl
example : Gen.Imp.ChrNamer_add_scaffold [(ncHap1, 0), (ncHap2, 1)] ncHs (some ncHap1) 2 =
    .ok ([(ncHap1, 0), (ncHap2, 1), (ncHap1, 2)], ncHs) := rfl
/-- an untagged scaffold: the text "None" -/
example : Gen.Imp.ChrNamer_add_scaffold [] [] none 3 = .ok ([(['N', 'o', 'n', 'e'], 3)], [(['N', 'o', 'n', 'e'], true)]) := rfl
/-- the running example satisfies the invariant -/
example : NamerWf ncHs ncEntries := ⟨by decide, by decide +kernel⟩

/-! ### 4. `ChrNamer.add_chr_prefix` -/

/-- for EVERY reference and prefix: `ImpNameChr.addPrefix p fs sid` is, verbatim, the rank-2 branch of the model's fold
    (`let s := fs.getD sid default; if p.isPrefixOf s.name then fs else setAt fs sid { s with name := p ++ s.name }`) -/
theorem add_chr_prefix_is_source (heap_b : List Scaffold) (sid : Nat) (p : Str) :
    Gen.Imp.ChrNamer_add_chr_prefix heap_b sid p =
      .ok (let s := heap_b.getD sid default
           if p.isPrefixOf s.name then heap_b else setAt heap_b sid { s with name := p ++ s.name }) :=
  add_chr_prefix_eq heap_b sid p

/-- a reference outside the arena: nothing happens on either side (the source tests the default object's name "" and `bsSet` ignores the
    write; the model's `setAt` is `List.set`) -/
theorem add_chr_prefix_out_of_range (heap_b : List Scaffold) (sid : Nat) (p : Str) (h : heap_b.length ≤ sid) :
    Gen.Imp.ChrNamer_add_chr_prefix heap_b sid p = .ok heap_b := by
  rw [add_chr_prefix_eq]
  unfold addPrefix AgpTpf.setAt
  simp only []
  split
  · rfl
  · rw [List.set_eq_of_length_le h]

/-- in the fold of `assembliesFused`: a rank-2 scaffold gets exactly this, the ChrNamer input is untouched -/
theorem fused_rank2_is_add_chr_prefix (prefix_ : Str) (asms : List (Option Str × Bool × List Nat)) (entries : List (Str × Nat))
    (haps : List Str) (fs : List Scaffold) (sid : Nat) (h2 : (fs.getD sid default).rank = 2) :
    ∃ fs', Gen.Imp.ChrNamer_add_chr_prefix fs sid prefix_ = .ok fs' ∧
      (fusedStep prefix_ (asms, entries, haps, fs) sid).2 = (entries, haps, fs') := by
  refine ⟨_, add_chr_prefix_eq fs sid prefix_, ?_⟩
  have h1 : ¬ (2 : Int) = 1 := by decide
  unfold fusedStep addPrefix
  simp only [h1, h2, if_true, if_false]

example : (Gen.Imp.ChrNamer_add_chr_prefix ncHeapB 5 ncPre).map (·.map (·.name)) =
    .ok [['S', '1'], ['S', '2'], ['S', '3'], ['S', '4'], ['S', '3', '_', 'u', '1'], ncPre ++ ['X']] := by decide +kernel
/-- the prefix is there already: unchanged -/
example : Gen.Imp.ChrNamer_add_chr_prefix ncHeapB 2 ['S'] = .ok ncHeapB := by decide +kernel
/-- out of range: unchanged -/
example : Gen.Imp.ChrNamer_add_chr_prefix ncHeapB 9 ncPre = .ok ncHeapB := by decide +kernel

/-! ### 5. `ChrNamer.name_chromosomes` -/

/-- results AND exception classes (ValueError / KeyError / IndexError out of `build_groups`, ChrNamerError, ValueError out of the sort
    key), for every arena `heap_g` and every `self.groups` on entry -/
theorem name_chromosomes_is_source (heap_b : List Scaffold) (heap_g : List PyRt.GData) (groups : Option (List Nat))
    (hs : List (Str × Bool)) (entries : List (Str × Nat)) (prefix_ : Str)
    (hnd : (hs.map (·.1)).Nodup) (hent : hs ≠ [] → entries ≠ []) (hkeys : ∀ e ∈ entries, e.1 ∈ hs.map (·.1))
    (hcount : entries.length ≤ 1114047) :
    (Gen.Imp.ChrNamer_name_chromosomes heap_b heap_g groups hs entries prefix_).map (·.1) =
      nameChromosomes heap_b (hs.map (·.1)) entries prefix_ :=
  name_chromosomes_tie heap_b heap_g groups hs entries prefix_ hnd hent hkeys hcount

/-- the same under the invariant that `__init__` establishes and `add_scaffold` keeps -/
theorem name_chromosomes_is_source_of_wf (heap_b : List Scaffold) (heap_g : List PyRt.GData) (groups : Option (List Nat))
    (hs : List (Str × Bool)) (entries : List (Str × Nat)) (prefix_ : Str) (hw : NamerWf hs entries)
    (hcount : entries.length ≤ 1114047) :
    (Gen.Imp.ChrNamer_name_chromosomes heap_b heap_g groups hs entries prefix_).map (·.1) =
      nameChromosomes heap_b (hs.map (·.1)) entries prefix_ :=
  name_chromosomes_tie heap_b heap_g groups hs entries prefix_ hw.nodup hw.entries_ne hw.known hcount

/-- no autosome was added: the source returns at once, EVERYTHING unchanged (`self.groups` stays what it was) -/
theorem name_chromosomes_nothing_to_name (heap_b : List Scaffold) (heap_g : List PyRt.GData) (groups : Option (List Nat))
    (entries : List (Str × Nat)) (prefix_ : Str) :
    Gen.Imp.ChrNamer_name_chromosomes heap_b heap_g groups [] entries prefix_ = .ok (heap_b, heap_g, groups) ∧
    nameChromosomes heap_b [] entries prefix_ = .ok heap_b :=
  ⟨rfl, rfl⟩

/-- THE DIFFERENCE: `self.scaffolds = []` with a non-empty `haplotypes_seen` — source ValueError (the sort key of the one group without
    scaffolds, which `check_groups` let through), model ChrNamerError -/
theorem name_chromosomes_no_entries_differs (heap_b : List Scaffold) (heap_g : List PyRt.GData) (groups : Option (List Nat))
    (hs : List (Str × Bool)) (prefix_ : Str) (hne : hs ≠ []) (hnd : (hs.map (·.1)).Nodup) :
    Gen.Imp.ChrNamer_name_chromosomes heap_b heap_g groups hs [] prefix_ = .error .value ∧
    nameChromosomes heap_b (hs.map (·.1)) [] prefix_ = .error .chrNamer := by
  cases hs with
  | nil => exact absurd rfl hne
  | cons a t =>
    refine ⟨?_, rfl⟩
    unfold Gen.Imp.ChrNamer_name_chromosomes
    simp only [List.isEmpty_cons, Bool.not_false, Bool.not_true, Bool.false_eq_true, if_false]
    rw [(ImpBuildGroups.build_groups_no_entries heap_b heap_g (a :: t) hne hnd).1]
    simp only [ok_bind, PyRt.needObj]
    rw [sortedByMDesc_congr _ (fun r => groupFirstLength heap_b
        (ImpChrGroup.absG (PyRt.gGet (heap_g ++ [ImpBuildGroups.conG (newGroup ((a :: t).map (·.1)))]) r))) _
      (by intro x; rw [ImpChrGroup.length_of_first_tie]; cases groupFirstLength heap_b _ <;> rfl)]
    unfold PyRt.sortedByMDesc
    simp only [List.mapM_cons, show PyRt.gGet (heap_g ++ [ImpBuildGroups.conG (newGroup ((a :: t).map (·.1)))]) heap_g.length = _ from
      Arena.getD_length_snoc _ _ _]
    rfl

/-- the hypotheses hold of the running example -/
example : (ncHs.map (·.1)).Nodup ∧ (ncHs ≠ [] → ncEntries ≠ []) ∧ (∀ e ∈ ncEntries, e.1 ∈ ncHs.map (·.1)) ∧ ncEntries.length ≤ 1114047 := by
  decide
/-- two groups; the second is the longer one and is named first (`self.groups` comes back as `[2, 1]`); the unloc keeps its suffix; the
    rank-2 scaffold is not touched; the arena of groups (which already held one object) is extended -/
example : (Gen.Imp.ChrNamer_name_chromosomes ncHeapB [[]] none ncHs ncEntries ncPre).map (fun r => (r.1.map (·.name), r.2)) =
    .ok ([ncPre ++ ['2'], ncPre ++ ['2'], ncPre ++ ['1'], ncPre ++ ['1'], ncPre ++ ['1', '_', 'u', '1'], ['X']],
      [[], [(ncHap1, [(some ['S', '1'], [0])]), (ncHap2, [(some ['S', '2'], [1])])],
       [(ncHap1, [(some ['S', '3'], [2, 4])]), (ncHap2, [(some ['S', '4'], [3])])]],
      some [2, 1]) := rfl
/-- ChrNamerError: two consecutive Hap1 scaffolds with different original names -/
example : Gen.Imp.ChrNamer_name_chromosomes ncHeapB [] none ncHs [(ncHap1, 0), (ncHap1, 2)] ncPre = .error .chrNamer ∧
    nameChromosomes ncHeapB (ncHs.map (·.1)) [(ncHap1, 0), (ncHap1, 2)] ncPre = .error .chrNamer := ⟨rfl, rfl⟩
/-- ValueError out of `build_groups`: a reference to a scaffold without `original_name` (here: outside the arena) -/
example : Gen.Imp.ChrNamer_name_chromosomes ncHeapB [] none ncHs [(ncHap1, 0), (ncHap2, 9)] ncPre = .error .value ∧
    nameChromosomes ncHeapB (ncHs.map (·.1)) [(ncHap1, 0), (ncHap2, 9)] ncPre = .error .value := ⟨rfl, rfl⟩
/-- THE DIFFERENCE on the running example -/
example : Gen.Imp.ChrNamer_name_chromosomes ncHeapB [] none ncHs [] ncPre = .error .value ∧
    nameChromosomes ncHeapB (ncHs.map (·.1)) [] ncPre = .error .chrNamer := ⟨rfl, rfl⟩
/-- why `hkeys` (difference (b) of `C10ImpBuild`): a haplotype text that is not a key — AttributeError vs ChrNamerError -/
example : Gen.Imp.ChrNamer_name_chromosomes ncHeapB [] none [(ncHap1, true)] [(ncHap2, 0)] ncPre = .error .attribute ∧
    nameChromosomes ncHeapB [ncHap1] [(ncHap2, 0)] ncPre = .error .chrNamer := ⟨rfl, rfl⟩

end AgpTpf.C10
