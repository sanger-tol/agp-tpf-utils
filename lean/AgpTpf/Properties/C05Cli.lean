/-
  C05 through the command: `asm-format` (Model/AsmFormat.lean: `asmFormat`, `asmFormatText`, `processFh`) round trips.

  A run is `asmFormat o files stdin` (`o` = the options, `files` = (name, lines) of the input files, `stdin` = the lines
  of STDIN, read only when there is no file); its result holds the text written to the output handle and the
  exception the run ended with.  The format decisions are hypotheses on the options and names:
      `inFmtOf o.inputFormat (some fileName) = .ok .AGP`   — `--input-format AGP`, or no option and any extension
                                                              other than `.tpf…` / `.fa…`
      `outFmtOf o.format o.outputFile = .ok .TPF`           — `--format TPF`, or no `--format` and `-o x.tpf…`
      `o.outputFile ≠ some fileName`                         — the output file is not the input file.  NEEDED: the
                                                              output is truncated before the input is read
                                                              (`in_place_run_loses_everything` below).
  Helper lemmas: Proofs/AsmFormat{Parse,Run,Cli}.lean; WF predicates: see Properties/C05.lean.
-/
import AgpTpf.Properties.C05
import AgpTpf.Proofs.AsmFormatCli
namespace AgpTpf.C05
open AgpTpf AgpTpf.AsmFormat
open scoped AgpTpf.ImpEval

/-! ## AGP → AGP is the identity on written AGP -/

/-- `asm-format` AGP→AGP on what `format_agp` wrote for `a` writes exactly that, byte for byte, and raises nothing
    (whatever the other options: `--name`, `--qc-overlaps`). -/
theorem asm_format_agp_identity (a : Assembly) (h : WFAgp a) (o : AsmFormatOpts) (fileName : Str) (stdin : List Str)
    (hin : inFmtOf o.inputFormat (some fileName) = .ok .AGP)
    (hout : outFmtOf o.format o.outputFile = .ok .AGP)
    (hio : o.outputFile ≠ some fileName) :
    ∃ lines, formatAgp a = .ok lines ∧
      (asmFormat o [(fileName, lines)] stdin).written = lines.flatten ∧
      (asmFormat o [(fileName, lines)] stdin).error = none := by
  obtain ⟨lines, a', h1, h2, h3⟩ := agp_format_parse_format a h
  exact ⟨lines, h1, convert_run o fileName stdin .AGP .AGP lines lines a' hin hout hio (parseFh_agp _ _ _ h2)
    (by simp only [writeFh, formatAgp_name, h3]; rfl)⟩

/-- the same through STDIN (`asm-format < x.agp`, input format AGP by default or by option) -/
theorem asm_format_agp_identity_stdin (a : Assembly) (h : WFAgp a) (o : AsmFormatOpts)
    (hin : o.inputFormat = none ∨ o.inputFormat = some .AGP)
    (hout : outFmtOf o.format o.outputFile = .ok .AGP) :
    ∃ lines, formatAgp a = .ok lines ∧
      (asmFormat o [] lines).written = lines.flatten ∧ (asmFormat o [] lines).error = none := by
  obtain ⟨lines, a', h1, h2, h3⟩ := agp_format_parse_format a h
  refine ⟨lines, h1, ?_⟩
  have hf : stdinInFmt o = .AGP := by unfold stdinInFmt; rcases hin with e | e <;> rw [e]
  have hp : processFh (stdinInFmt o) (stdinAsmName o) lines (outFmtSel o.format o.outputFile) o.qcOverlaps =
      .ok (lines.flatten, if o.qcOverlaps then findOverlappingFragments { a' with name := stdinAsmName o } else []) := by
    rw [processFh_ok_iff]
    refine ⟨_, by rw [hf]; exact parseFh_agp _ _ _ h2, rfl, ?_⟩
    rw [outFmtOf_ok hout]
    simp only [writeFh, formatAgp_name, h3]; rfl
  obtain ⟨e1, e2, _⟩ := asmFormat_stdin_ok o lines _ _ hp
  exact ⟨e1, e2⟩

/-- …and on the file CONTENT (the text `format_agp` wrote), provided no name, tag or gap type holds a newline and the
    text holds no carriage return (input files are read with universal newlines). -/
theorem asm_format_agp_identity_text (a : Assembly) (h : WFAgp a) (hnl : NoNewlines a) (o : AsmFormatOpts)
    (fileName : Str) (stdin : Str)
    (hin : inFmtOf o.inputFormat (some fileName) = .ok .AGP)
    (hout : outFmtOf o.format o.outputFile = .ok .AGP)
    (hio : o.outputFile ≠ some fileName) :
    ∃ lines, formatAgp a = .ok lines ∧ ('\r' ∉ lines.flatten →
      (asmFormatText o [(fileName, lines.flatten)] stdin).written = lines.flatten ∧
      (asmFormatText o [(fileName, lines.flatten)] stdin).error = none) := by
  obtain ⟨lines, h1, h2⟩ := asm_format_agp_identity a h o fileName (stdinLines stdin) hin hout hio
  obtain ⟨lines', h1', hpy, _⟩ := agp_roundtrip_text' a h hnl
  rw [h1] at h1'; cases h1'
  refine ⟨lines, h1, fun hcr => ?_⟩
  unfold asmFormatText
  simp only [List.map_cons, List.map_nil, fileLines_of_noCR _ hcr, hpy]
  exact h2

/-! ## TPF → TPF is the identity on written TPF -/

theorem asm_format_tpf_identity (a : Assembly) (h : WFTpf a) (o : AsmFormatOpts) (fileName : Str) (stdin : List Str)
    (hin : inFmtOf o.inputFormat (some fileName) = .ok .TPF)
    (hout : outFmtOf o.format o.outputFile = .ok .TPF)
    (hio : o.outputFile ≠ some fileName) :
    ∃ lines, formatTpf a = .ok lines ∧
      (asmFormat o [(fileName, lines)] stdin).written = lines.flatten ∧
      (asmFormat o [(fileName, lines)] stdin).error = none := by
  obtain ⟨lines, a', h1, h2, h3⟩ := tpf_format_parse_format a h
  exact ⟨lines, h1, convert_run o fileName stdin .TPF .TPF lines lines a' hin hout hio (parseFh_tpf _ _ _ h2)
    (by simp only [writeFh, formatTpf_name, h3]; rfl)⟩

/-! ## AGP → TPF → AGP drops the tags and nothing else -/

/-- Two runs: `asm-format x.agp -o y.tpf` on the AGP written for `a`, then `asm-format y.tpf -o z.agp` on what the
    first run wrote (its lines `tpf`).  The second run writes exactly the AGP of `a` without its tags. -/
theorem asm_format_agp_tpf_agp (a : Assembly) (h1 : WFAgp a) (h2 : WFTpf a)
    (o1 o2 : AsmFormatOpts) (n1 n2 : Str) (stdin1 stdin2 : List Str)
    (hin1 : inFmtOf o1.inputFormat (some n1) = .ok .AGP) (hout1 : outFmtOf o1.format o1.outputFile = .ok .TPF)
    (hio1 : o1.outputFile ≠ some n1)
    (hin2 : inFmtOf o2.inputFormat (some n2) = .ok .TPF) (hout2 : outFmtOf o2.format o2.outputFile = .ok .AGP)
    (hio2 : o2.outputFile ≠ some n2) :
    ∃ agp1 tpf agp2,
      formatAgp a = .ok agp1 ∧ formatTpf a = .ok tpf ∧ formatAgp (dropTagsAssembly a) = .ok agp2 ∧
      (asmFormat o1 [(n1, agp1)] stdin1).written = tpf.flatten ∧ (asmFormat o1 [(n1, agp1)] stdin1).error = none ∧
      (asmFormat o2 [(n2, tpf)] stdin2).written = agp2.flatten ∧ (asmFormat o2 [(n2, tpf)] stdin2).error = none := by
  obtain ⟨agp1, a1, tpf, a2, agp2, e1, e2, e3, e4, e5, e6, e7, _, e9⟩ := agp_to_tpf_and_back a h1 h2
  have etpf : formatTpf a = .ok tpf := by rw [← formatTpf_canon, ← e3]; exact e4
  obtain ⟨r1, r2⟩ := convert_run o1 n1 stdin1 .AGP .TPF agp1 tpf a1 hin1 hout1 hio1 (parseFh_agp _ _ _ e2)
    (by simp only [writeFh, formatTpf_name, e4]; rfl)
  obtain ⟨r3, r4⟩ := convert_run o2 n2 stdin2 .TPF .AGP tpf agp2 a2 hin2 hout2 hio2 (parseFh_tpf _ _ _ e5)
    (by simp only [writeFh, formatAgp_name, e7]; rfl)
  exact ⟨agp1, tpf, agp2, e1, etpf, e9, r1, r2, r3, r4⟩

/-- the same chain on file CONTENTS: the second run reads the text the first run wrote (no newline inside any name,
    tag or gap type; no carriage return in the two texts). -/
theorem asm_format_agp_tpf_agp_text (a : Assembly) (h1 : WFAgp a) (h2 : WFTpf a) (hnl : NoNewlines a)
    (o1 o2 : AsmFormatOpts) (n1 n2 : Str) (stdin1 stdin2 : Str)
    (hin1 : inFmtOf o1.inputFormat (some n1) = .ok .AGP) (hout1 : outFmtOf o1.format o1.outputFile = .ok .TPF)
    (hio1 : o1.outputFile ≠ some n1)
    (hin2 : inFmtOf o2.inputFormat (some n2) = .ok .TPF) (hout2 : outFmtOf o2.format o2.outputFile = .ok .AGP)
    (hio2 : o2.outputFile ≠ some n2) :
    ∃ agp1 tpf agp2,
      formatAgp a = .ok agp1 ∧ formatTpf a = .ok tpf ∧ formatAgp (dropTagsAssembly a) = .ok agp2 ∧
      ('\r' ∉ agp1.flatten → '\r' ∉ tpf.flatten →
        (asmFormatText o1 [(n1, agp1.flatten)] stdin1).error = none ∧
        (asmFormatText o2 [(n2, (asmFormatText o1 [(n1, agp1.flatten)] stdin1).written)] stdin2).written = agp2.flatten ∧
        (asmFormatText o2 [(n2, (asmFormatText o1 [(n1, agp1.flatten)] stdin1).written)] stdin2).error = none) := by
  obtain ⟨agp1, tpf, agp2, e1, e2, e3, r1, r2, r3, r4⟩ :=
    asm_format_agp_tpf_agp a h1 h2 o1 o2 n1 n2 (stdinLines stdin1) (stdinLines stdin2) hin1 hout1 hio1 hin2 hout2 hio2
  obtain ⟨agp1', e1', hpy1, _⟩ := agp_roundtrip_text' a h1 hnl
  rw [e1] at e1'; cases e1'
  obtain ⟨tpf', e2', hpy2, _⟩ := tpf_roundtrip_text' a h2 hnl
  rw [e2] at e2'; cases e2'
  refine ⟨agp1, tpf, agp2, e1, e2, e3, fun hc1 hc2 => ?_⟩
  have run1 : asmFormatText o1 [(n1, agp1.flatten)] stdin1 = asmFormat o1 [(n1, agp1)] (stdinLines stdin1) := by
    unfold asmFormatText
    simp only [List.map_cons, List.map_nil, fileLines_of_noCR _ hc1, hpy1]
  rw [run1, r1]
  have run2 : asmFormatText o2 [(n2, tpf.flatten)] stdin2 = asmFormat o2 [(n2, tpf)] (stdinLines stdin2) := by
    unfold asmFormatText
    simp only [List.map_cons, List.map_nil, fileLines_of_noCR _ hc2, hpy2]
  rw [run2]
  exact ⟨r2, r3, r4⟩

/-! ## TPF → AGP → TPF is the identity on written TPF (a TPF carries no tags) -/

theorem asm_format_tpf_agp_tpf (a : Assembly) (h1 : WFAgp a) (h2 : WFTpf a)
    (o1 o2 : AsmFormatOpts) (n1 n2 : Str) (stdin1 stdin2 : List Str)
    (hin1 : inFmtOf o1.inputFormat (some n1) = .ok .TPF) (hout1 : outFmtOf o1.format o1.outputFile = .ok .AGP)
    (hio1 : o1.outputFile ≠ some n1)
    (hin2 : inFmtOf o2.inputFormat (some n2) = .ok .AGP) (hout2 : outFmtOf o2.format o2.outputFile = .ok .TPF)
    (hio2 : o2.outputFile ≠ some n2) :
    ∃ tpf agp,
      formatTpf a = .ok tpf ∧ formatAgp (dropTagsAssembly a) = .ok agp ∧
      (asmFormat o1 [(n1, tpf)] stdin1).written = agp.flatten ∧ (asmFormat o1 [(n1, tpf)] stdin1).error = none ∧
      (asmFormat o2 [(n2, agp)] stdin2).written = tpf.flatten ∧ (asmFormat o2 [(n2, agp)] stdin2).error = none := by
  obtain ⟨tpf, t1, t2⟩ := tpf_roundtrip a h2
  obtain ⟨agp, g1, g2⟩ := agp_roundtrip (dropTagsAssembly a) h1.dropTags
  have g1' : formatAgp (canonAssembly (dropTagsAssembly a)) = .ok agp := by rw [formatAgp_canon]; exact g1
  have t1' : formatTpf (canonAssembly (dropTagsAssembly a)) = .ok tpf := by
    rw [formatTpf_canon, formatTpf_dropTags]; exact t1
  obtain ⟨r1, r2⟩ := convert_run o1 n1 stdin1 .TPF .AGP tpf agp _ hin1 hout1 hio1 (parseFh_tpf _ _ _ t2)
    (by simp only [writeFh, formatAgp_name, g1']; rfl)
  obtain ⟨r3, r4⟩ := convert_run o2 n2 stdin2 .AGP .TPF agp tpf _ hin2 hout2 hio2 (parseFh_agp _ _ _ g2)
    (by simp only [writeFh, formatTpf_name, t1']; rfl)
  exact ⟨tpf, agp, t1, g1, r1, r2, r3, r4⟩

/-! ## every data line gives exactly one row, or the run fails -/

/-- ONE `process_fh` (any input, well-formed or not; input format AGP or TPF, any output format): if it does not
    raise, the assembly it parsed has exactly one row per non-blank, non-`#` input line — none skipped, none merged —
    and for AGP / TPF output the text consists of one line per header text plus exactly one line per such input line. -/
theorem asm_format_line_or_error (inFmt : Fmt) (asmName : Str) (lines : List Str) (outFmt : Option OutFmt) (qc : Bool)
    (text : Str) (pairs : List OvPair) (h : processFh inFmt asmName lines outFmt qc = .ok (text, pairs)) :
    ∃ asm, parseFh inFmt asmName lines = .ok asm ∧
      asmRows asm = (lines.filter isDataLine).length ∧
      (outFmt = some .AGP ∨ outFmt = some .TPF →
        ∃ outLines : List Str, text = outLines.flatten ∧
          outLines.length = asm.header.length + (lines.filter isDataLine).length) := by
  obtain ⟨asm, hp, _, hw⟩ := (processFh_ok_iff _ _ _ _ _ _ _).1 h
  refine ⟨asm, hp, parseFh_rows hp, fun ho => ?_⟩
  obtain ⟨D, hD⟩ := writeFh_dialect asm ho
  rw [hD] at hw
  cases hf : D.format asm with
  | error e => rw [hf] at hw; cases hw
  | ok ls => rw [hf] at hw; cases hw; exact ⟨ls, rfl, by rw [D.format_length asm ls hf, parseFh_rows hp]⟩

/-- The whole run over several files: if it ends without exception, the text written is the concatenation, file by
    file, of texts with one line per header text and one line per data line of that file (as read: the file that is
    the output file is read as empty). -/
theorem asm_format_line_or_error_files (o : AsmFormatOpts) (f : Str × List Str) (rest : List (Str × List Str))
    (stdin : List Str) (hout : outFmtOf o.format o.outputFile = .ok .AGP ∨ outFmtOf o.format o.outputFile = .ok .TPF)
    (h : (asmFormat o (f :: rest) stdin).error = none) :
    ∃ outs : List (List Str),
      (asmFormat o (f :: rest) stdin).written = (outs.map List.flatten).flatten ∧
      Forall2 (fun (file : Str × List Str) (outLines : List Str) =>
        ∃ asm, parseFh (fileInFmt o file) (fileAsmName o file) (fileLinesRead o file) = .ok asm ∧
          outLines.length = asm.header.length + ((fileLinesRead o file).filter isDataLine).length) (f :: rest) outs := by
  rw [asmFormat_files] at h ⊢
  obtain ⟨k, outs, h1, h2, _, h4⟩ := asmFormatLoop_spec o (outFmtSel o.format o.outputFile) (f :: rest) {}
  have hk : k = (f :: rest).length := by
    rcases h4 with ⟨hk, _, _⟩ | ⟨g, e, _, _, he⟩
    · exact hk
    · rw [he] at h; cases h
  rw [hk, List.take_length] at h1
  rw [h2]
  have hw : ({} : AsmFormatResult).written = [] := rfl
  rw [hw, List.nil_append]
  have hof : outFmtSel o.format o.outputFile = some .AGP ∨ outFmtSel o.format o.outputFile = some .TPF := by
    rcases hout with e | e
    · exact Or.inl (outFmtOf_ok e)
    · exact Or.inr (outFmtOf_ok e)
  have hall := h1.imp (Q := fun file (out : Str × List OvPair) => ∃ outLines : List Str, out.1 = outLines.flatten ∧ ∃ asm,
      parseFh (fileInFmt o file) (fileAsmName o file) (fileLinesRead o file) = .ok asm ∧
        outLines.length = asm.header.length + ((fileLinesRead o file).filter isDataLine).length) fun file out hfile => by
    obtain ⟨asm, hp, _, hlines⟩ := asm_format_line_or_error _ _ _ _ _ _ _ hfile
    obtain ⟨outLines, et, hl⟩ := hlines hof
    exact ⟨outLines, et, asm, hp, hl⟩
  obtain ⟨outs', e, hf⟩ := Forall2.exists_map List.flatten (Forall2.map_right (fun out : Str × List OvPair => out.1) hall)
  exact ⟨outs', by rw [e], hf⟩

/-- corrupted lines end the run instead of being skipped: the 8-column line of `bad.agp` (real run: exit status 1,
    `ValueError("Error processing file 'bad.agp'")` from `IndexError`) -/
example : asmFormat {} [("bad.agp".toList, ["s1\t1\t5\t1\tW\tc\t1\t5\n".toList])] [] = { error := some .value } := by
  str_lits; decide +kernel

/-! ## the hypotheses can be met -/

example : inFmtOf none (some "x.agp".toList) = .ok .AGP ∧ outFmtOf none (some "y.tpf".toList) = .ok .TPF ∧
    (some "y.tpf".toList : Option Str) ≠ some "x.agp".toList ∧
    inFmtOf none (some "y.tpf".toList) = .ok .TPF ∧ outFmtOf none (some "z.agp".toList) = .ok .AGP ∧
    (some "z.agp".toList : Option Str) ≠ some "y.tpf".toList ∧
    inFmtOf (some .AGP) (some "x.txt".toList) = .ok .AGP ∧ outFmtOf (some .AGP) none = .ok .AGP ∧
    (none : Option Str) ≠ some "x.txt".toList := by
  str_lits; decide +kernel
example : WFAgp demo ∧ WFTpf demo ∧ NoNewlines demo := ⟨demo_wf.1, demo_wf.2.1, demo_wf.2.2.1⟩
/-- the demo assembly through the real decisions: `asm-format x.agp -o y.tpf`, then `asm-format y.tpf -o z.agp` -/
example : ∃ agp1 tpf agp2, formatAgp demo = .ok agp1 ∧ formatTpf demo = .ok tpf ∧
    formatAgp (dropTagsAssembly demo) = .ok agp2 ∧ '\r' ∉ agp1.flatten ∧ '\r' ∉ tpf.flatten ∧
    asmFormat { outputFile := some "y.tpf".toList } [("x.agp".toList, agp1)] [] = { written := tpf.flatten } ∧
    asmFormat { outputFile := some "z.agp".toList } [("y.tpf".toList, tpf)] [] = { written := agp2.flatten } :=
  by
  rw [demo]; str_lits
  refine ⟨_, _, _, rfl, rfl, rfl, ?_⟩
  decide +kernel
example : processFh .AGP ['a'] ["# hdr\n".toList, "\n".toList, "s\t1\t5\t1\tW\tc\t1\t5\t+\n".toList] (some .TPF) false =
    .ok ("## hdr\n?\tc:1-5\ts\tPLUS\n".toList, []) := by
  str_lits; decide +kernel

/-- a two-file run that ends without exception (hypothesis of `asm_format_line_or_error_files`) -/
example : outFmtOf none none = .ok .AGP ∧
    (asmFormat {} [("a.agp".toList, ["# h\n".toList, "s\t1\t5\t1\tW\tc\t1\t5\t+\n".toList]),
                   ("b.tpf".toList, ["?\tc:1-5\ts1\tPLUS\n".toList, "\n".toList, "GAP\tTYPE-2\t3\n".toList])] []).error = none := by
  str_lits; decide +kernel

/-! ## Findings -/

/-- FINDING (real run: `asm-format ip.agp -o ip.agp` exits 0 and leaves `ip.agp` EMPTY): reformatting a file in
    place destroys it — the output file is opened with "w" before the input is read.  So `hio` above is needed. -/
theorem in_place_run_loses_everything (o : AsmFormatOpts) (fileName : Str) (lines stdin : List Str)
    (hin : inFmtOf o.inputFormat (some fileName) = .ok .AGP)
    (hout : outFmtOf o.format o.outputFile = .ok .AGP)
    (hio : o.outputFile = some fileName) :
    (asmFormat o [(fileName, lines)] stdin).written = [] ∧ (asmFormat o [(fileName, lines)] stdin).error = none := by
  have hp : processFile o (outFmtSel o.format o.outputFile) (fileName, lines) = .ok ([], []) := by
    unfold processFile
    rw [fileLinesRead_of_eq o _ hio]
    show processFh (inFmtSel o.inputFormat (some fileName)) _ [] _ _ = _
    rw [inFmtOf_ok hin, outFmtOf_ok hout]
    cases o.qcOverlaps <;> rfl
  obtain ⟨e1, e2, _⟩ := asmFormat_single o (fileName, lines) stdin _ _ hp
  exact ⟨e1, e2⟩

/-- FINDING (real runs: `asm-format cr.agp` fails, `asm-format < cr.agp` succeeds and prints two rows): a carriage
    return inside a field survives STDIN but cuts the line when the same bytes come from a file argument, so the
    no-`'\r'` condition of the text-level theorems is needed.  Here the contig name `c\rd`, which `WFAgp` allows. -/
example :
    let a : Assembly := { scaffolds := [{ name := "s1".toList, rows := [.frag { name := "c\rd".toList, start := 1, stop := 5, strand := 1 }] }] }
    WFAgp a ∧ NoNewlines a ∧ ∃ lines, formatAgp a = .ok lines ∧
      asmFormatText {} [] lines.flatten = { written := lines.flatten } ∧
      asmFormatText {} [("x.agp".toList, lines.flatten)] [] = { error := some .value } :=
  by
  str_lits
  exact ⟨by decide +kernel, by decide +kernel, OkAnd.exists (by decide +kernel)⟩

end AgpTpf.C05
