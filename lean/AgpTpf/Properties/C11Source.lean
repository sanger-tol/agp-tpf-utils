/-
  C11 over the SOURCE: the orientation-aware encoding of a junction, `Fragment.junction_tuple`, AS TRANSLATED from the current
  /repo/src/tola/assembly/fragment.py (`Gen/Kernels.lean`; all four strand cases, both `sorted(...)` calls, the ValueError):
  reversal invariance ("reversing a whole scaffold, in input or output, changes neither count") and injectivity on adjacencies
  ("an adjacency being the unordered pair of the two facing contig ends") hold for the current code, for all fragments.
-/
import AgpTpf.Properties.C11
import AgpTpf.Proofs.Kernels
namespace AgpTpf.C11
open AgpTpf

/-- `a.junction_tuple(b)` as the current source has it -/
def srcJunctionTuple (a b : Fragment) : R Junction :=
  Gen.K.Fragment_junction_tuple (self_name := a.name) (self_start := a.start) (self_end := a.stop) (self_strand := a.strand)
    (othr_name := b.name) (othr_start := b.start) (othr_end := b.stop) (othr_strand := b.strand)

theorem src_junction_tuple (a b : Fragment) : srcJunctionTuple a b = junctionTuple a b := (Kernels.junction_tuple_eq a b).symm

/-- reversing the scaffold maps the junction `a b` to `b.reverse a.reverse`: the source gives the same tuple (or the same
    ValueError), for every pair of fragments -/
theorem source_junction_tuple_reverse (a b : Fragment) : srcJunctionTuple b.reverse a.reverse = srcJunctionTuple a b := by
  rw [src_junction_tuple, src_junction_tuple]; exact junction_tuple_reverse_any a b

/-- two junctions get the same tuple from the source iff they are the same unordered pair of facing contig ends -/
theorem source_junction_tuple_eq_iff (a b c d : Fragment) (t t' : Junction)
    (h : srcJunctionTuple a b = .ok t) (h' : srcJunctionTuple c d = .ok t') :
    t = t' ↔ SameAdj (facingEnds a b) (facingEnds c d) := by
  rw [src_junction_tuple] at h h'; exact junction_tuple_eq_iff a b c d t t' h h'

/-- the source raises ValueError exactly when one of the two strands is not ±1 -/
theorem source_junction_tuple_ok_iff (a b : Fragment) :
    (∃ t, srcJunctionTuple a b = .ok t) ↔ ((a.strand = 1 ∨ a.strand = -1) ∧ (b.strand = 1 ∨ b.strand = -1)) := by
  rw [src_junction_tuple]; exact junctionTuple_ok_iff a b

example : srcJunctionTuple { name := ['a'], start := 1, stop := 10, strand := 1 } { name := ['b'], start := 5, stop := 5, strand := -1 } =
    .ok (.s ['a'], .i 10, .i 5, .s ['b']) ∧
  srcJunctionTuple { name := ['b'], start := 5, stop := 5, strand := 1 } { name := ['a'], start := 1, stop := 10, strand := -1 } =
    .ok (.s ['a'], .i 10, .i 5, .s ['b']) := by decide

end AgpTpf.C11
