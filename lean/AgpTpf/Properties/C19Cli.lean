/-
  C19 through the command: `asm-format --qc-overlaps` (Model/AsmFormat.lean) and the scan behind it
  (`Assembly.find_overlapping_fragments` / `all_vs_all_fragments` with the scaffold of every fragment:
  `findOverlappingFragments`, `overlappingPairsNamed`).

  The report of one `process_fh` is a list of `OvPair` = ((f1, s1), (f2, s2)) (fragment, name of its scaffold); `[]`
  means `report_overlaps` is not called.  Its rendering on STDERR is `reportOverlapsText`.
  Helper lemmas: Proofs/AsmFormatQc.lean, Proofs/AsmFormatRun.lean.
-/
import AgpTpf.Properties.C19
import AgpTpf.Proofs.AsmFormatQc
import AgpTpf.Proofs.AsmFormatCli
import AgpTpf.Proofs.ImpEval
namespace AgpTpf.C19
open AgpTpf AgpTpf.AsmFormat
open scoped AgpTpf.ImpEval

/-- the scan itself, for ANY assembly: the reported pairs are the overlapping ones among all position pairs `i < j` of
    the fragment list in scan order (scaffold after scaffold) — each unordered pair once, within a scaffold and across
    scaffolds alike; forgetting the scaffold names gives exactly `overlappingPairs` of all fragments; every fragment
    comes with the name of a scaffold that holds it. -/
theorem find_overlapping_named_spec (a : Assembly) :
    findOverlappingFragments a =
      ((allPairs a.fragmentsWithScaffold).filter (fun p => p.1.1.overlaps p.2.1)).map mkOvPair ∧
    (findOverlappingFragments a).map (fun p => (p.f1, p.f2)) = overlappingPairs a.allFragments ∧
    a.fragmentsWithScaffold.map (·.1) = a.allFragments ∧
    (∀ f n, (f, n) ∈ a.fragmentsWithScaffold ↔ ∃ s ∈ a.scaffolds, f ∈ s.fragments ∧ s.name = n) := by
  refine ⟨overlappingPairsNamed_spec _, ?_, fragmentsWithScaffold_fst a, mem_fragmentsWithScaffold a⟩
  unfold findOverlappingFragments
  rw [overlappingPairsNamed_proj, fragmentsWithScaffold_fst]

/-- `asm-format --qc-overlaps`, one `process_fh` that does not raise (any input text, any formats):
    the pairs handed to `report_overlaps` are exactly `overlappingPairs` of all fragments of the parsed assembly, in
    scan order, each with the names of the scaffolds holding the two fragments; nothing is reported iff no two
    fragments overlap; and the report never changes the text written (same result, pairs aside, without the option). -/
theorem qc_report_spec (inFmt : Fmt) (asmName : Str) (lines : List Str) (outFmt : Option OutFmt)
    (text : Str) (pairs : List OvPair) (h : processFh inFmt asmName lines outFmt true = .ok (text, pairs)) :
    ∃ asm, parseFh inFmt asmName lines = .ok asm ∧
      pairs.map (fun p => (p.f1, p.f2)) = overlappingPairs asm.allFragments ∧
      pairs = ((allPairs asm.fragmentsWithScaffold).filter (fun p => p.1.1.overlaps p.2.1)).map mkOvPair ∧
      (∀ p ∈ pairs, (∃ s ∈ asm.scaffolds, p.f1 ∈ s.fragments ∧ s.name = p.s1) ∧
                    (∃ s ∈ asm.scaffolds, p.f2 ∈ s.fragments ∧ s.name = p.s2) ∧ p.f1.overlaps p.f2 = true) ∧
      (pairs = [] ↔ ∀ i j : Nat, i < j → ∀ f g, asm.allFragments[i]? = some f → asm.allFragments[j]? = some g →
                      f.overlaps g = false) ∧
      processFh inFmt asmName lines outFmt false = .ok (text, []) := by
  obtain ⟨asm, hp, hpairs, hw⟩ := (processFh_ok_iff _ _ _ _ _ _ _).1 h
  simp only [if_true] at hpairs
  subst hpairs
  obtain ⟨s1, s2, _, s4⟩ := find_overlapping_named_spec asm
  refine ⟨asm, hp, s2, s1, ?_, findOverlapping_nil_iff asm, (processFh_ok_iff _ _ _ _ _ _ _).2 ⟨asm, hp, rfl, hw⟩⟩
  intro p hpm
  rw [s1] at hpm
  simp only [List.mem_map, List.mem_filter] at hpm
  obtain ⟨⟨⟨f, n⟩, ⟨g, m⟩⟩, ⟨hmem, hov⟩, rfl⟩ := hpm
  obtain ⟨i, j, _, hi, hj⟩ := (mem_allPairs_iff _ _ _).1 hmem
  exact ⟨(s4 f n).1 (List.mem_of_getElem? hi), (s4 g m).1 (List.mem_of_getElem? hj), hov⟩

/-- …and the report can always be printed: `report_overlaps` (which formats every fragment with `Fragment.__str__`)
    cannot raise on the pairs of a parsed assembly -/
theorem qc_report_renders (inFmt : Fmt) (asmName : Str) (lines : List Str) (outFmt : Option OutFmt)
    (text : Str) (pairs : List OvPair) (h : processFh inFmt asmName lines outFmt true = .ok (text, pairs)) :
    ∃ t, reportOverlapsText asmName pairs = .ok t := by
  obtain ⟨asm, hp, _, _, hmem, _⟩ := qc_report_spec inFmt asmName lines outFmt text pairs h
  have hrows := parseFh_rowsParsed hp
  apply reportOverlapsText_ok
  intro p hpm
  obtain ⟨⟨s1, hs1, hf1, _⟩, ⟨s2, hs2, hf2, _⟩, _⟩ := hmem p hpm
  exact ⟨(hrows s1 hs1 _ (mem_fragmentsOf.1 hf1)).1, (hrows s2 hs2 _ (mem_fragmentsOf.1 hf2)).1⟩

/-- without the option nothing is ever reported -/
theorem no_qc_no_report (inFmt : Fmt) (asmName : Str) (lines : List Str) (outFmt : Option OutFmt)
    (text : Str) (pairs : List OvPair) (h : processFh inFmt asmName lines outFmt false = .ok (text, pairs)) :
    pairs = [] := by
  obtain ⟨asm, _, hpairs, _⟩ := (processFh_ok_iff _ _ _ _ _ _ _).1 h
  simpa using hpairs

/-- the whole run, any number of files (or STDIN), failing or not: `--qc-overlaps` changes neither the text written
    nor the exception the run ends with -/
theorem qc_never_changes_output (o : AsmFormatOpts) (files : List (Str × List Str)) (stdin : List Str) (q : Bool) :
    (asmFormat { o with qcOverlaps := q } files stdin).written = (asmFormat o files stdin).written ∧
    (asmFormat { o with qcOverlaps := q } files stdin).error = (asmFormat o files stdin).error := by
  cases files with
  | nil =>
    have e1 : asmFormat { o with qcOverlaps := q } [] stdin =
        match processFh (stdinInFmt o) (stdinAsmName o) stdin (outFmtSel o.format o.outputFile) q with
        | .ok (text, pairs) => ({ written := text } : AsmFormatResult).addReport (stdinAsmName o) pairs
        | .error e =>
          { (({} : AsmFormatResult).addReport (stdinAsmName o)
              (reportBeforeFailure (stdinInFmt o) (stdinAsmName o) stdin q)) with error := some e } := rfl
    rw [e1, asmFormat_stdin o]
    rcases processFh_qc_cases (stdinInFmt o) (stdinAsmName o) stdin (outFmtSel o.format o.outputFile) q o.qcOverlaps
      with ⟨e, h1, h2⟩ | ⟨t, p, p', h1, h2⟩ <;> rw [h1, h2]
    · exact ⟨by simp only [addReport_written], rfl⟩
    · exact ⟨by simp only [addReport_written], by simp only [addReport_error]⟩
  | cons f rest =>
    rw [asmFormat_files, asmFormat_files]
    show (asmFormatLoop { o with qcOverlaps := q } (outFmtSel o.format o.outputFile) (f :: rest) {}).written = _ ∧ _
    exact asmFormatLoop_qc o q _ (f :: rest) {} {} rfl rfl

/-- the reports of a whole run that ends without exception: one call of `report_overlaps` for every file whose
    assembly has overlapping fragments, in file order, under the assembly name of that file -/
theorem qc_reports_of_run (o : AsmFormatOpts) (f : Str × List Str) (rest : List (Str × List Str)) (stdin : List Str)
    (h : (asmFormat o (f :: rest) stdin).error = none) :
    ∃ outs : List (Str × List OvPair),
      C05.Forall2 (fun file out => processFile o (outFmtSel o.format o.outputFile) file = .ok out) (f :: rest) outs ∧
      (asmFormat o (f :: rest) stdin).reports =
        ((f :: rest).zip outs).flatMap (fun fo => if fo.2.2.isEmpty then [] else [(fileAsmName o fo.1, fo.2.2)]) := by
  rw [asmFormat_files] at h ⊢
  obtain ⟨k, outs, h1, _, _, h4⟩ := asmFormatLoop_spec o (outFmtSel o.format o.outputFile) (f :: rest) {}
  rcases h4 with ⟨hk, _, hr⟩ | ⟨g, e, _, _, he⟩
  · rw [hk, List.take_length] at h1
    exact ⟨outs, h1, by rw [hr]; rfl⟩
  · rw [he] at h; cases h

/-! ## non-vacuity, on the run `asm-format a.agp --qc-overlaps` of Model/AsmFormat.lean's tests -/

private def lines1 : List Str :=
  ["s1\t1\t5\t1\tW\tc\t1\t5\t+\ts1\n".toList, "s1\t6\t8\t2\tU\t3\tscaffold\tyes\tproximity_ligation\n".toList,
   "s1\t9\t12\t3\tW\tc\t4\t7\t-\n".toList, "s2\t1\t3\t1\tW\tc\t5\t7\t?\n".toList]
private def g1 : Fragment := { oid := 0, name := ['c'], start := 1, stop := 5, strand := 1, tags := [['s', '1']] }
private def g2 : Fragment := { oid := 1, name := ['c'], start := 4, stop := 7, strand := -1 }
private def g3 : Fragment := { oid := 2, name := ['c'], start := 5, stop := 7, strand := 0 }

/-- three pairs: one inside scaffold s1, two across s1 / s2 (the real run prints exactly these three) -/
example : processFh .AGP ['a'] lines1 (some .AGP) true =
    .ok (lines1.flatten, [⟨g1, "s1".toList, g2, "s1".toList⟩, ⟨g1, "s1".toList, g3, "s2".toList⟩, ⟨g2, "s1".toList, g3, "s2".toList⟩]) := by
  unfold lines1; str_lits; decide +kernel
/-- no overlap: nothing reported -/
example : processFh .AGP ['a'] ["s1\t1\t5\t1\tW\tc\t1\t5\t+\n".toList, "s2\t1\t5\t1\tW\tc\t6\t10\t+\n".toList] (some .AGP) true =
    .ok ("s1\t1\t5\t1\tW\tc\t1\t5\t+\ns2\t1\t5\t1\tW\tc\t6\t10\t+\n".toList, []) := by str_lits; decide +kernel
example : (asmFormat { qcOverlaps := true } [("a.agp".toList, lines1)] []).error = none := by
  unfold lines1; str_lits; decide +kernel

end AgpTpf.C19
