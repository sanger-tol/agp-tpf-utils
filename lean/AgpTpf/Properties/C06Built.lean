/-
  C06 (composition) — every assembly the tools BUILD is written as a valid AGP.

  `Properties/C06.lean` proves: IF every row of an assembly is `StrandOk` and `RowStrict` (fragment `start ≤ end`, gap
  `length ≥ 1` with a non-empty type) THEN `format_agp` writes a strictly valid file.  This file discharges the
  hypothesis for the two ways the tools build assemblies themselves:

   1  `remap_rows_strict`    pretext-to-asm: every row of every scaffold of every output assembly of `remap` is
                              `StrandOk ∧ RowStrict`, for ANY input and ANY Pretext assembly on which remapping completes,
                              provided the INPUT rows are and the join gap (if any) is.  (Output rows are input rows,
                              reversed input rows, pieces made by `trim_fragment` — which pass `Fragment.__init__` —,
                              input gap rows and the join gap.)
   2  `remap_agp_valid`      … hence `format_agp` of every output assembly succeeds and the file is the header lines
                              followed, scaffold by scaffold, by lines that tile the object from 1 to the scaffold's length
                              (`ValidAgpLines true`);  `written_agp_valid`: the same for the assemblies as
                              `name_assemblies` regroups them (incl. the merged `all_haplotigs`);
                              `remap_agp_valid_cli`: with the CLI's own join gap `Gap(200, "scaffold")`.
   3  `index_rows_strict`,   the assembly `index_fasta_file` derives from a FASTA (any number of records, LF/CRLF, any
      `index_agp_valid`       buffer size; `_open`: final newline missing): only forward untagged fragments with
                              `start ≤ end` and gaps ≥ 1 of type "scaffold"; its `.agp` cache text is strictly valid and
                              each object's last end = the length in the record's `.fai` entry = its number of residues.
   4  `fasta_remap_agp_valid` 3 and 2 composed: FASTA in, any Pretext assembly, AGP out — no hypothesis on rows left.

  Findings (evaluated below): the hypothesis on the INPUT gaps cannot be dropped — `parse_agp` accepts a gap line of
  length 0 (or a negative length), remapping passes the row through, and `format_agp` writes `end = start - 1`.
  Helpers: Proofs/Remap/Rows.lean (a row predicate through `remap`), C06BIndex.lean (`Good` is such a predicate; the indexed assembly).
-/
import AgpTpf.Proofs.C06BIndex
import AgpTpf.Properties.C09Names
namespace AgpTpf.C06
open AgpTpf AgpTpf.C05 AgpTpf.C04
open scoped AgpTpf.ImpEval

/-! ## 1  remapping builds only strict rows -/

/-- Whatever `remap` returns (any input, any Pretext assembly, any prefix / error length): if every row of the input
    is `StrandOk ∧ RowStrict` and the join gap, when there is one, is strict, then so is every row of every scaffold of
    every output assembly. -/
theorem remap_rows_strict (input ptx : List Scaffold) (prefix_ : Str) (joinGap : Option Gap) (err : Int)
    (outs : List OutAsm) (stats : Stats)
    (hin : ∀ sc ∈ input, ∀ r ∈ sc.rows, StrandOk r ∧ RowStrict r)
    (hjg : ∀ g, joinGap = some g → RowStrict (.gap g))
    (h : remap input ptx prefix_ joinGap err = .ok (outs, stats)) :
    ∀ a ∈ outs, ∀ s ∈ a.scaffolds, ∀ r ∈ s.rows, StrandOk r ∧ RowStrict r :=
  RemapRows.remap_all (good_closed input) hin (fun g hg => ⟨trivial, hjg g hg⟩) h

/-- the same one level down, for the build `remap_to_input_assembly` returns: stored results, left-over scaffolds, and
    the input gap rows remembered for re-attaching a left-over scaffold -/
theorem remap_to_input_rows_strict (input ptx : List Scaffold) (prefix_ : Str) (joinGap : Option Gap) (err : Int)
    (b : Build)
    (hin : ∀ sc ∈ input, ∀ r ∈ sc.rows, StrandOk r ∧ RowStrict r)
    (hjg : ∀ g, joinGap = some g → RowStrict (.gap g))
    (h : remapToInput input ptx prefix_ joinGap err = .ok b) :
    (∀ r ∈ b.store, ∀ x ∈ r.o.rows, StrandOk x ∧ RowStrict x) ∧ b.joinGap = joinGap ∧
    (∀ e ∈ b.extra, (∀ x ∈ e.1.rows, StrandOk x ∧ RowStrict x) ∧
      ∀ prev gaps, e.2 = some (prev, gaps) → ∀ g ∈ gaps, RowStrict (.gap g)) := by
  obtain ⟨h1, h2, h3⟩ := RemapRows.remapToInput_all (good_closed input) hin (fun g hg => ⟨trivial, hjg g hg⟩) h
  exact ⟨h1, h2, fun e he => ⟨(h3 e he).1, fun prev gaps hp g hg => ((h3 e he).2 prev gaps hp g hg).2⟩⟩

/-! ## 2  … so every output assembly is written as a valid AGP -/

/-- For each output assembly, under any assembly name and header lines: `format_agp` succeeds and the written file is
    the header lines followed, scaffold by scaffold, by lines that tile the object from 1 (`p = 0`) with parts 1, 2, …
    (`i = 0`), each line with `start ≤ end`, each gap line with a type, the last end being the scaffold's length. -/
theorem remap_agp_valid (input ptx : List Scaffold) (prefix_ : Str) (joinGap : Option Gap) (err : Int)
    (outs : List OutAsm) (stats : Stats)
    (hin : ∀ sc ∈ input, ∀ r ∈ sc.rows, StrandOk r ∧ RowStrict r)
    (hjg : ∀ g, joinGap = some g → RowStrict (.gap g))
    (h : remap input ptx prefix_ joinGap err = .ok (outs, stats)) :
    ∀ a ∈ outs, ∀ (name : Str) (hdr : List Str),
      ∃ bodies : List (List (List Str)),
        formatAgp { name := name, header := hdr, scaffolds := a.scaffolds, curated := a.curated } =
          .ok (hdr.map (fun h => Gen.agpHeaderPrefix ++ h ++ ['\n']) ++ (bodies.map (List.map lineOfCols)).flatten) ∧
        Forall2 (fun (s : Scaffold) colss => colss.length = s.rows.length ∧
                    ValidAgpLines true s.name 0 0 colss s.length) a.scaffolds bodies := by
  intro a ha name hdr
  exact formatAgp_good { name := name, header := hdr, scaffolds := a.scaffolds, curated := a.curated }
    (remap_rows_strict input ptx prefix_ joinGap err outs stats hin hjg h a ha)

/-- … and so is every assembly `write_assemblies` actually writes: `name_assemblies` only regroups the scaffolds
    (a `Primary` run merges the other curated assemblies into `all_haplotigs`). -/
theorem written_agp_valid (input ptx : List Scaffold) (prefix_ : Str) (joinGap : Option Gap) (err : Int)
    (outs : List OutAsm) (stats : Stats) (root version : Str) (named : List NamedAsm)
    (hin : ∀ sc ∈ input, ∀ r ∈ sc.rows, StrandOk r ∧ RowStrict r)
    (hjg : ∀ g, joinGap = some g → RowStrict (.gap g))
    (h : remap input ptx prefix_ joinGap err = .ok (outs, stats))
    (hn : nameAssemblies outs root version = .ok named) :
    ∀ n ∈ named, ∀ (hdr : List Str),
      ∃ bodies : List (List (List Str)),
        formatAgp { name := n.name, header := hdr, scaffolds := n.scaffolds, curated := n.curated } =
          .ok (hdr.map (fun h => Gen.agpHeaderPrefix ++ h ++ ['\n']) ++ (bodies.map (List.map lineOfCols)).flatten) ∧
        Forall2 (fun (s : Scaffold) colss => colss.length = s.rows.length ∧
                    ValidAgpLines true s.name 0 0 colss s.length) n.scaffolds bodies := by
  intro n hnm hdr
  apply formatAgp_good
  intro s hs
  have hmem : s ∈ CliNames.allNamedScaffolds named := List.mem_flatMap.mpr ⟨n, hnm, hs⟩
  have hmem' : s ∈ CliNames.allScaffolds outs := (C09.name_assemblies_conserves outs root version named hn).1.mem_iff.mp hmem
  obtain ⟨a, ha, hsa⟩ := List.mem_flatMap.mp hmem'
  exact remap_rows_strict input ptx prefix_ joinGap err outs stats hin hjg h a ha s hsa

/-- the join gap pretext-to-asm configures, `Gap(200, "scaffold")`, is strict -/
theorem cli_join_gap_strict : RowStrict (.gap { length := Gen.joinGapLength, gapType := Gen.joinGapType }) := by decide

/-- as the CLI runs it: only the input assembly has to be strict -/
theorem remap_agp_valid_cli (input ptx : List Scaffold) (prefix_ : Str) (err : Int)
    (outs : List OutAsm) (stats : Stats)
    (hin : ∀ sc ∈ input, ∀ r ∈ sc.rows, StrandOk r ∧ RowStrict r)
    (h : remap input ptx prefix_ (some { length := Gen.joinGapLength, gapType := Gen.joinGapType }) err = .ok (outs, stats)) :
    ∀ a ∈ outs, ∀ (name : Str) (hdr : List Str),
      ∃ bodies : List (List (List Str)),
        formatAgp { name := name, header := hdr, scaffolds := a.scaffolds, curated := a.curated } =
          .ok (hdr.map (fun h => Gen.agpHeaderPrefix ++ h ++ ['\n']) ++ (bodies.map (List.map lineOfCols)).flatten) ∧
        Forall2 (fun (s : Scaffold) colss => colss.length = s.rows.length ∧
                    ValidAgpLines true s.name 0 0 colss s.length) a.scaffolds bodies :=
  remap_agp_valid input ptx prefix_ _ err outs stats hin
    (fun g hg => by cases hg; exact cli_join_gap_strict) h

/-! ### non-vacuity

  Scaffold C = a(+) b(−) c(+) d(+) and scaffold G = e(+), gap 7, e'(+).  Pretext: S1 = C:6-24 on the MINUS strand (cuts
  `a` and `c`, reverses the run), S2 = C:1-5 and C:25-30 (the other halves, joined with the join gap); `d` and all of G are
  left over.  Remapping completes, the output has cut pieces, reversed rows, the join gap and an input gap. -/

def jg : Gap := { length := Gen.joinGapLength, gapType := Gen.joinGapType }
def inC : Scaffold :=
  { name := ['C'], rows := [.frag { oid := 1, name := ['a'], start := 1, stop := 10, strand := 1 },
                            .frag { oid := 2, name := ['b'], start := 1, stop := 10, strand := -1 },
                            .frag { oid := 3, name := ['c'], start := 1, stop := 10, strand := 1 },
                            .frag { oid := 4, name := ['d'], start := 1, stop := 10, strand := 1 }] }
def inG : Scaffold :=
  { name := ['G'], rows := [.frag { oid := 5, name := ['e'], start := 1, stop := 10, strand := 1 },
                            .gap { length := 7, gapType := ['u'] },
                            .frag { oid := 6, name := ['e'], start := 11, stop := 20, strand := 1 }] }
def ptxC : Scaffold :=
  { name := ['S','1'], rows := [.frag { oid := 10, name := ['C'], start := 6, stop := 24, strand := -1, tags := [sPainted] }] }
def ptxD : Scaffold :=
  { name := ['S','2'], rows := [.frag { oid := 11, name := ['C'], start := 1, stop := 5, strand := 1, tags := [sPainted] },
      .frag { oid := 12, name := ['C'], start := 25, stop := 30, strand := 1, tags := [sPainted] }] }

example : (∀ sc ∈ [inC, inG], ∀ r ∈ sc.rows, StrandOk r ∧ RowStrict r) ∧ (∀ g, some jg = some g → RowStrict (.gap g)) :=
  ⟨by decide, fun g hg => by cases hg; decide⟩

/-- remapping completes; the rows that come out -/
example : (remap [inC, inG] [ptxC, ptxD] [] (some jg) 1).toOption.map (fun r => r.1.map (fun a => a.scaffolds.map (·.rows))) =
    some [[[.frag { oid := 9, name := ['c'], start := 1, stop := 4, strand := -1, tags := [Gen.cutTag] },
            .frag { oid := 2, name := ['b'], start := 1, stop := 10, strand := 1 },
            .frag { oid := 8, name := ['a'], start := 6, stop := 10, strand := -1, tags := [Gen.cutTag] }],
           [.frag { oid := 7, name := ['a'], start := 1, stop := 5, strand := 1, tags := [Gen.cutTag] }, .gap jg,
            .frag { oid := 10, name := ['c'], start := 5, stop := 10, strand := 1, tags := [Gen.cutTag] }],
           [.frag { oid := 4, name := ['d'], start := 1, stop := 10, strand := 1 }],
           [.frag { oid := 5, name := ['e'], start := 1, stop := 10, strand := 1 }, .gap { length := 7, gapType := ['u'] },
            .frag { oid := 6, name := ['e'], start := 11, stop := 20, strand := 1 }]]] := by decide +kernel

/-! ### finding: the hypothesis on the input's gap rows is needed

  `parse_agp` accepts a gap line of length 0; the row is left over by remapping (here: an empty Pretext assembly) and
  `format_agp` writes it back with `end = start - 1`. -/

def zeroGapAgp : List Str :=
  ["t\t1\t10\t1\tW\tc\t1\t10\t+\n".toList, "t\t11\t10\t2\tU\t0\tscaffold\tyes\tna\n".toList,
   "t\t11\t20\t3\tW\td\t1\t10\t+\n".toList]
def zeroGapIn : Scaffold :=
  { name := ['t'], rows := [.frag { oid := 0, name := ['c'], start := 1, stop := 10, strand := 1 },
                            .gap { length := 0, gapType := "scaffold".toList },
                            .frag { oid := 1, name := ['d'], start := 1, stop := 10, strand := 1 }] }

theorem parse_agp_accepts_empty_gap : (parseAgp zeroGapAgp).toOption.map (·.scaffolds) = some [zeroGapIn] := by
  unfold zeroGapAgp zeroGapIn
  str_lits
  decide +kernel

theorem remap_keeps_empty_gap :
    (remap [zeroGapIn] [] [] (some jg) 1).toOption.map (fun r => r.1.map (fun a => a.scaffolds.map (·.rows))) =
      some [[zeroGapIn.rows]] ∧
    ¬ (∀ r ∈ zeroGapIn.rows, RowStrict r) ∧
    formatAgpRows ['t'] 0 0 zeroGapIn.rows =
      .ok ["t\t1\t10\t1\tW\tc\t1\t10\t+\n".toList, "t\t11\t10\t2\tU\t0\tscaffold\tyes\tproximity_ligation\n".toList,
           "t\t11\t20\t3\tW\td\t1\t10\t+\n".toList] := by
  unfold zeroGapIn
  str_lits
  exact ⟨by decide +kernel, by decide, rfl⟩

/-! ## 3  the assembly derived from a FASTA

  `RecScaffold r s` (C06BIndex): `s.name = r.name`, `s.length = number of residues of r`, every row of `s` is
  `StrandOk ∧ RowStrict ∧ IndexRow` — `IndexRow`: fragment forward (`strand = 1`) and untagged, gap of type "scaffold". -/

theorem index_row_iff (r : Row) :
    IndexRow r ↔ match r with
      | .frag f => f.strand = 1 ∧ f.tags = []
      | .gap g => g.gapType = "scaffold".toList := by
  cases r with
  | frag f => exact Iff.rfl
  | gap g => simp only [IndexRow]; rw [fastaGapType_expected]

/-- complete files: any number of well-formed records with distinct names, LF or CRLF per record, any residue symbols,
    every buffer size.  Indexing succeeds and, record by record, the derived scaffold has the record's name, the record's
    length and only strict rows. -/
theorem index_rows_strict (bs : Int) (recs : List Rec) (hne : recs ≠ []) (hwf : ∀ r ∈ recs, r.WF)
    (hnd : (recs.map Rec.name).Nodup) :
    ∃ st, indexFasta (bLines (fileOf recs)) bs = .ok st ∧ Forall2 RecScaffold recs st.scaffolds := by
  obtain ⟨st, e, hi, hs⟩ := indexFasta_fileOf bs recs hne hwf hnd
  exact ⟨st, e, (built_index_valid [] recs hnd st.idx st.scaffolds hi hs).1⟩

/-- … and the `.agp` cache text (`format_agp` of the derived assembly under any header lines — the code writes one,
    "Built from FASTA file '…'") is strictly valid: header lines, then per record lines that tile the object named like
    the record from 1, parts 1, 2, …, every span non-empty, gap lines typed, the LAST END being the length stored in the
    record's index (`.fai`) entry, which is the record's number of residues. -/
theorem index_agp_valid (bs : Int) (hdr : List Str) (recs : List Rec) (hne : recs ≠ []) (hwf : ∀ r ∈ recs, r.WF)
    (hnd : (recs.map Rec.name).Nodup) :
    ∃ st, indexFasta (bLines (fileOf recs)) bs = .ok st ∧
      ∃ bodies : List (List (List Str)),
        formatAgp { header := hdr, scaffolds := st.scaffolds } =
          .ok (hdr.map (fun h => Gen.agpHeaderPrefix ++ h ++ ['\n']) ++ (bodies.map (List.map lineOfCols)).flatten) ∧
        Forall2 (fun (r : Rec) colss => ∃ info, getInfo st.idx r.name = .ok info ∧ info.length = r.res.length ∧
                    ValidAgpLines true r.name 0 0 colss info.length) recs bodies := by
  obtain ⟨st, e, hi, hs⟩ := indexFasta_fileOf bs recs hne hwf hnd
  exact ⟨st, e, (built_index_valid hdr recs hnd st.idx st.scaffolds hi hs).2⟩

/-- the same when the file's final line terminator is missing (`last.lines = ls ++ [l]`, `l` non-empty) -/
theorem index_rows_strict_open (bs : Int) (init : List Rec) (last : Rec) (ls : List Bytes) (l : Bytes)
    (hwf : ∀ r ∈ init ++ [last], r.WF) (hnd : ((init ++ [last]).map Rec.name).Nodup)
    (hl : last.lines = ls ++ [l]) (hne : l ≠ []) :
    ∃ st, indexFasta (bLines (fileOpen init last ls l)) bs = .ok st ∧ Forall2 RecScaffold (init ++ [last]) st.scaffolds := by
  obtain ⟨st, e, hi, hs⟩ := indexFasta_fileOpen bs init last ls l hwf hnd hl hne
  exact ⟨st, e, (built_index_valid [] _ hnd st.idx st.scaffolds hi hs).1⟩

theorem index_agp_valid_open (bs : Int) (hdr : List Str) (init : List Rec) (last : Rec) (ls : List Bytes) (l : Bytes)
    (hwf : ∀ r ∈ init ++ [last], r.WF) (hnd : ((init ++ [last]).map Rec.name).Nodup)
    (hl : last.lines = ls ++ [l]) (hne : l ≠ []) :
    ∃ st, indexFasta (bLines (fileOpen init last ls l)) bs = .ok st ∧
      ∃ bodies : List (List (List Str)),
        formatAgp { header := hdr, scaffolds := st.scaffolds } =
          .ok (hdr.map (fun h => Gen.agpHeaderPrefix ++ h ++ ['\n']) ++ (bodies.map (List.map lineOfCols)).flatten) ∧
        Forall2 (fun (r : Rec) colss => ∃ info, getInfo st.idx r.name = .ok info ∧ info.length = r.res.length ∧
                    ValidAgpLines true r.name 0 0 colss info.length) (init ++ [last]) bodies := by
  obtain ⟨st, e, hi, hs⟩ := indexFasta_fileOpen bs init last ls l hwf hnd hl hne
  exact ⟨st, e, (built_index_valid hdr _ hnd st.idx st.scaffolds hi hs).2⟩

/-- **FASTA in, AGP out** (pretext-to-asm run on a FASTA file): the two halves composed.  For any well-formed FASTA, any
    buffer size, ANY Pretext assembly, prefix and error length, with the CLI's join gap: indexing succeeds, and whenever
    remapping the derived assembly completes, every output assembly is written as a strictly valid AGP — no hypothesis
    on rows is left. -/
theorem fasta_remap_agp_valid (bs : Int) (recs : List Rec) (hne : recs ≠ []) (hwf : ∀ r ∈ recs, r.WF)
    (hnd : (recs.map Rec.name).Nodup) (ptx : List Scaffold) (prefix_ : Str) (err : Int) :
    ∃ st, indexFasta (bLines (fileOf recs)) bs = .ok st ∧
      ∀ outs stats,
        remap st.scaffolds ptx prefix_ (some { length := Gen.joinGapLength, gapType := Gen.joinGapType }) err = .ok (outs, stats) →
        ∀ a ∈ outs, ∀ (name : Str) (hdr : List Str),
          ∃ bodies : List (List (List Str)),
            formatAgp { name := name, header := hdr, scaffolds := a.scaffolds, curated := a.curated } =
              .ok (hdr.map (fun h => Gen.agpHeaderPrefix ++ h ++ ['\n']) ++ (bodies.map (List.map lineOfCols)).flatten) ∧
            Forall2 (fun (s : Scaffold) colss => colss.length = s.rows.length ∧
                        ValidAgpLines true s.name 0 0 colss s.length) a.scaffolds bodies := by
  obtain ⟨st, e, hf⟩ := index_rows_strict bs recs hne hwf hnd
  refine ⟨st, e, fun outs stats h => ?_⟩
  refine remap_agp_valid_cli st.scaffolds ptx prefix_ err outs stats ?_ h
  exact hf.forall_right (Q := fun sc => ∀ r ∈ sc.rows, StrandOk r ∧ RowStrict r)
    fun _ _ _ hp r hr => ⟨(hp.2.2 r hr).1, (hp.2.2 r hr).2.1⟩

/-! ### non-vacuity: `>a\nACGTNN\nAC\n>b x\r\nnnAC\r\n` (one LF record, one CRLF record), buffer size 3 -/

def recA : Rec := { hdr := [97], le := [10], lines := [[65, 67, 71, 84, 78, 78], [65, 67]] }
def recB : Rec := { hdr := [98, 32, 120], le := [13, 10], lines := [[110, 110, 65, 67]] }

example : [recA, recB] ≠ [] ∧ (∀ r ∈ [recA, recB], r.WF) ∧ ([recA, recB].map Rec.name).Nodup := by
  refine ⟨by simp, ?_, by decide⟩
  intro r hr
  simp only [List.mem_cons, List.not_mem_nil, or_false] at hr
  rcases hr with rfl | rfl
  · exact ⟨Or.inl ⟨rfl, by decide⟩, by decide, by decide, by decide, by decide⟩
  · exact ⟨Or.inr rfl, by decide, by decide, by decide, by decide⟩

/-- what is indexed and written for it (evaluated): gap rows of length 2, last ends 8 and 4 = the `.fai` lengths -/
example : (indexFasta (bLines (fileOf [recA, recB])) 3).toOption.map
      (fun st => (st.idx.map (fun e => (e.1, e.2.length)),
                  (formatAgp { header := ["Built from FASTA file 'x.fa'".toList], scaffolds := st.scaffolds }).toOption)) =
    some ([(['a'], 8), (['b'], 4)],
          some ["# Built from FASTA file 'x.fa'\n".toList,
                "a\t1\t4\t1\tW\ta\t1\t4\t+\n".toList, "a\t5\t6\t2\tU\t2\tscaffold\tyes\tproximity_ligation\n".toList,
                "a\t7\t8\t3\tW\ta\t7\t8\t+\n".toList,
                "b\t1\t2\t1\tU\t2\tscaffold\tyes\tproximity_ligation\n".toList, "b\t3\t4\t2\tW\tb\t3\t4\t+\n".toList]) := by
  str_lits
  decide +kernel

/-- `fasta_remap_agp_valid`'s premise is satisfiable: the derived assembly remapped with a Pretext scaffold that is
    record `a` reversed (record `b` is left over; its leading gap is not carried into the left-over scaffold) -/
example : (indexFasta (bLines (fileOf [recA, recB])) 3).toOption.bind (fun st =>
      (remap st.scaffolds
          [{ name := ['S','1'],
             rows := [.frag { oid := 50, name := ['a'], start := 1, stop := 8, strand := -1, tags := [sPainted] }] }]
          "SUPER_".toList (some jg) 1).toOption.map
        (fun r => r.1.map (fun a => (formatAgp { scaffolds := a.scaffolds }).toOption))) =
    some [some ["SUPER_1\t1\t2\t1\tW\ta\t7\t8\t-\n".toList,
                "SUPER_1\t3\t4\t2\tU\t2\tscaffold\tyes\tproximity_ligation\n".toList,
                "SUPER_1\t5\t8\t3\tW\ta\t1\t4\t-\n".toList, "b\t1\t2\t1\tW\tb\t3\t4\t+\n".toList]] := by
  str_lits
  decide +kernel

end AgpTpf.C06
