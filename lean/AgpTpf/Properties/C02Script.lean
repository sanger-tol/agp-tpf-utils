/-
  C02 / C07 / C08, spec side — "every edit script PretextView can produce" as a Lean object.

  Model: `Model/Pretext.lean` (`Script`, `wfScript`, `ptxOf`, `nullScript`; Python twin
  `/verif/harness/remap_lib.py::pretext_script`, `null_script`).  Helpers: `Proofs/C02S*.lean`.
  Texel size `β = p/q ≥ 1` (`q ≥ 1`, `p ≥ q`); `coord p q t = ⌊t·β⌋`; `errLen p q = 1 + ⌊β⌋`.

  PROVED (all at full strength for the stated hypotheses; no `_partial` theorem in this file)
    E   `err_len_of_header_text`    `errLen` IS what `errLengthOfText` computes from the decimal text of β (any exact
                                    way of writing β as a fraction); `err_len_of_integer_header`.
    S1  `script_pieces_tile`        the pieces of one input scaffold of a well-formed script, in scaffold order: not empty,
                                    sorted by start and pairwise disjoint, consecutive ones abut, the first starts at 1, the
                                    last ends at `⌊T·β⌋`; floor choice: `⌊T·β⌋ ≤ L < ⌊T·β⌋ + 1 + β` (so `L − ⌊T·β⌋ ≤ errLen`);
                                    ceiling choice: `L ≤ ⌊T·β⌋ < L + β` (so `⌊T·β⌋ − L < errLen`).
    S2  `script_piece_long`         every piece has at least `⌊β⌋ = errLen − 1` bases; when the scaffold is cut, or has at
                                    least 2 texels, at least `⌊2β⌋ ≥ 2·(errLen − 1) ≥ errLen` bases (sharp: `piece_long_sharp`).
    S3  `null_script_unedited`      the map of the null script IS `pieces.map Piece.ptx` and satisfies `C08.Unedited` at
                                    `errLen` whenever the INPUT side conditions hold (`NullInputOk`);
        `null_script_painted`       likewise `C08.PaintedOk` / `Piece.pptx` when everything is painted;
        `null_script_reproduces_input`   hence `C08.unedited_map_reproduces_input` is a theorem about every null script.
    S4  `aligned_script_is_Aligned` a well-formed script all of whose interior cuts fall BETWEEN contigs (at a contig
                                    boundary or inside a gap: `CleanScript`) gives a `C02.Aligned` map at `errLen`
                                    (unpainted), resp. `C02.AlignedP` (`aligned_painted_script_is_AlignedP`);
        `aligned_script_rearranges` hence `C02.aligned_map_rearranges` is a theorem about such scripts.
    S5  `script_claimed_iff`        the contig in row `k` of an input scaffold is claimed by (= returned by the lookup of)
                                    some piece of a well-formed script iff the scaffold is present and the contig begins
                                    at or before `⌊T·β⌋` — for floor AND ceiling choice;
        `script_leftovers_are_suffix`    the unclaimed contigs are the contigs of a SUFFIX of the scaffold's rows
                                    (`rows.drop (tailStart rows ⌊T·β⌋)`), all rows for an absent scaffold;
        `ceil_script_no_leftovers`  with the ceiling choice a present scaffold has no left-over at all.

    S4' `deep_script_is_DeepCut`    a well-formed, unpainted script whose interior cuts each fall between contigs OR deeper
                                    than `3·errLen` inside a contig (`DeepScript`; any number of cuts per contig) gives a map
                                    in the class `C02.DeepCutN` of `Properties/C02Deep.lean`;
        `deep_script_rearranges`    hence `C02.deep_map_rearranges` is a theorem about such scripts;
        `deep_script_site`          the cut sites, in script terms: two consecutive pieces of one input scaffold that both meet
                                    a contig form a `SiteOk` site of it.

  FOUND FALSE (statement of the task, kept as a finding): "every cut within `errLen` of a contig boundary ⇒ `Aligned`".
    `cut_near_boundary_not_aligned`: a cut 4 bases inside a contig (errLen = 9) gives a map that is NOT `Aligned` — the
    contig is looked up by both neighbouring pieces (`disjoint` fails) and sticks out of one of them by more than `errLen`
    (`startOk` fails).  `Aligned` needs cuts that no contig straddles; cuts a few bases inside a contig are handled by
    `trim_large_overhangs` (evaluated: `cut_near_boundary_still_remaps`) but are outside the class `Aligned`.
-/
import AgpTpf.Proofs.C02SCheck
import AgpTpf.Proofs.C02SChain
import AgpTpf.Properties.C02Deep
import AgpTpf.Properties.C08
import AgpTpf.Properties.C02Aligned
import AgpTpf.Proofs.ImpEval
namespace AgpTpf.C02
open AgpTpf AgpTpf.Pretext
open AgpTpf.C12 (rowSpan meets rowSpan_snd rowSpan_len)

/-! ## E — the error length -/

/-- **`errLen` is what the remapper computes.**  If the header text `n.fr` (decimal digits) denotes `β = p/q` exactly —
    `p·10^k = (n·10^k + value(fr))·q`, `k = |fr|` — then `errLengthOfText` returns `errLen p q = 1 + ⌊p/q⌋`. -/
theorem err_len_of_header_text (p q n : Nat) (fr : Str) (hq : 0 < q) (hf : ∀ c ∈ fr, isDigit c = true)
    (hexact : p * 10 ^ fr.length = (n * 10 ^ fr.length + digitsVal 0 fr) * q) :
    errLengthOfText (natToStr n ++ '.' :: fr) = .ok ((errLen p q : Nat) : Int) := by
  rw [errLen_of_decimal_text n fr hf, errLen_congr p q _ _ hq (Nat.pow_pos (by decide)) hexact]

theorem err_len_of_integer_header (n : Nat) : errLengthOfText (natToStr n) = .ok ((errLen n 1 : Nat) : Int) := by
  rw [errLength_int (allDigits_natToStr n) (natToStr_ne_nil n), digitsVal_natToStr]
  unfold errLen
  simp

/-- β = 10.75 = 43/4: header text `10.750000`, error length 11 -/
example : errLengthOfText "10.750000".toList = .ok ((errLen 43 4 : Nat) : Int) := by decide +kernel
example : (43 : Nat) * 10 ^ "750000".toList.length = (10 * 10 ^ "750000".toList.length + digitsVal 0 "750000".toList) * 4 := by
  decide +kernel
example : errLen 43 4 = 11 ∧ coord 43 4 3 = 32 ∧ floorT 43 4 100 = 9 ∧ ceilT 43 4 100 = 10 := by decide

/-! ## S1 — the pieces of one scaffold tile `[1, ⌊T·β⌋]` -/

/-- **S1.**  `P` = the pieces of input scaffold `i` (length `L`, `T` texels) in scaffold order, `E = ⌊T·β⌋`. -/
theorem script_pieces_tile {input : List Scaffold} {s : Script} (hw : wfScript input s = true) {i : Nat}
    {sc : Scaffold} {c : ScafScript} (hsc : input[i]? = some sc) (hc : s.scafs[i]? = some c)
    (hp : c.present = true) :
    let P := c.spans s.p s.q
    let L := scafLen sc
    let E := coord s.p s.q c.T
    P ≠ [] ∧ (∀ x ∈ P, x.1 ≤ x.2) ∧
    P.Pairwise (fun x y => x.2 < y.1) ∧                                        -- sorted by start, pairwise disjoint
    (∀ n x y, P[n]? = some x → P[n + 1]? = some y → x.2 + 1 = y.1) ∧           -- consecutive pieces abut
    (∀ x, P.head? = some x → x.1 = 1) ∧ (∀ x, P.getLast? = some x → x.2 = E) ∧  -- from 1 to ⌊T·β⌋
    (c.T = floorT s.p s.q L ∨ c.T = ceilT s.p s.q L ∨ (floorT s.p s.q L = 0 ∧ c.T = 1)) ∧
    (floorT s.p s.q L = 0 → 1 ≤ L → ceilT s.p s.q L = 1) ∧                     -- the third case is the ceiling choice
    (c.T = floorT s.p s.q L → E ≤ L ∧ L * s.q < E * s.q + s.q + s.p ∧ L - E ≤ errLen s.p s.q) ∧
    (c.T = ceilT s.p s.q L → L ≤ E ∧ E * s.q < L * s.q + s.p ∧ E - L < errLen s.p s.q) := by
  intro P L E
  have hw' := wfScript_spec hw
  have hq := hw'.hq
  have hpq := hw'.hpq
  have hwf := hw'.scaf i sc c hsc hc
  have hinc := wf_inc hwf hp
  -- the pieces of a present scaffold are cut at the marks `0, cuts…, T`: each clause is a lemma about `spansFrom`
  have hP : P = spansFrom s.p s.q 0 (c.cuts ++ [c.T]) := spans_present hp
  clear_value P
  subst hP
  refine ⟨fun e => ?_, fun x hx => (spansFrom_bounds hq hpq hinc hx).2.1, spansFrom_pairwise hq hpq hinc,
    fun n x y => spansFrom_next, fun x hx => by rw [spansFrom_head hx, coord_zero], fun x => spansFrom_last,
    (wf_present hwf hp).1, fun h0 hL => ceilT_eq_one s.p s.q L hq hpq hL h0, fun e => ?_, fun e => ?_⟩
  · simpa [spansFrom_length] using congrArg List.length e
  · show coord s.p s.q c.T ≤ L ∧ L * s.q < coord s.p s.q c.T * s.q + s.q + s.p ∧ L - coord s.p s.q c.T ≤ errLen s.p s.q
    rw [e]
    exact ⟨coord_floorT_le s.p s.q L hq hpq, lt_coord_floorT s.p s.q L hq hpq, floorT_undershoot s.p s.q L hq hpq⟩
  · show L ≤ coord s.p s.q c.T ∧ coord s.p s.q c.T * s.q < L * s.q + s.p ∧ coord s.p s.q c.T - L < errLen s.p s.q
    rw [e]
    exact ⟨le_coord_ceilT s.p s.q L hq hpq, coord_ceilT_lt s.p s.q L hq hpq, ceilT_overshoot s.p s.q L hq hpq⟩

/-! ## S2 — piece lengths -/

/-- **S2.**  Every piece has at least `errLen − 1 = ⌊β⌋` bases (a scaffold of ONE texel is shown as one piece).  When the
    scaffold is cut at all, or has at least two texels, every piece has at least `⌊2β⌋` bases, hence at least
    `2·(errLen − 1)` and at least `errLen`; and fewer than `d·β + 1` for a piece of `d` texels (`coord_diff_lt`). -/
theorem script_piece_long {input : List Scaffold} {s : Script} (hw : wfScript input s = true) {i : Nat}
    {sc : Scaffold} {c : ScafScript} (hsc : input[i]? = some sc) (hc : s.scafs[i]? = some c)
    (hp : c.present = true) :
    ∀ x ∈ c.spans s.p s.q,
      errLen s.p s.q - 1 ≤ x.2 + 1 - x.1 ∧
      ((c.cuts ≠ [] ∨ 2 ≤ c.T) →
        coord s.p s.q 2 ≤ x.2 + 1 - x.1 ∧ 2 * (errLen s.p s.q - 1) ≤ x.2 + 1 - x.1 ∧ errLen s.p s.q ≤ x.2 + 1 - x.1) := by
  intro x hx
  have hw' := wfScript_spec hw
  have hq := hw'.hq
  have hpq := hw'.hpq
  have hwf := hw'.scaf i sc c hsc hc
  rw [spans_present hp] at hx
  have h1 := wf_inc hwf hp
  have hc1 : coord s.p s.q 1 = errLen s.p s.q - 1 := by unfold coord errLen; simp
  refine ⟨by rw [← hc1]; exact spansFrom_long hq h1 hx, ?_⟩
  intro hor
  have h2 : Steps 2 0 (c.cuts ++ [c.T]) := by
    rcases (wf_present hwf hp).2.2 with e | h
    · rcases hor with h' | h'
      · exact absurd e h'
      · rw [e]; exact ⟨by omega, trivial⟩
    · exact h
  exact spansFrom_long_two hq hpq h2 hx

/-! ## S3 — the null script -/

/-- **S3.**  The null script — no cuts, identity permutation, forward, one piece per Pretext scaffold, nothing painted —
    of any well-formed choice of texel counts: its map is literally the list of one-piece scaffolds `C08` is about, and it
    satisfies `C08.Unedited` at the error length `1 + ⌊β⌋`, whenever the side conditions of that predicate on the INPUT
    hold (`NullInputOk`: names and contig keys pairwise different; shown scaffolds well-formed, not haplotype-named, the
    map reaching into their last contig; absent scaffolds beginning and ending with a contig, untagged). -/
theorem null_script_unedited {input : List Scaffold} {p q : Nat} {Ts : List (Option Nat)}
    (hw : wfScript input (nullScript p q Ts false) = true) (hin : NullInputOk input p q Ts) :
    ptxOf input (nullScript p q Ts false) = (nullPieces input p q Ts).map C08.Piece.ptx ∧
    C08.Unedited input (nullPieces input p q Ts) (errLen p q : Int) := by
  have hw' := wfScript_spec hw
  exact ⟨ptxOf_null input p q Ts false (nullScript_length hw'), null_unedited hw' hin⟩

/-- **S3, painted**: `C08.PaintedOk`, provided no absent input scaffold is itself called `Scaffold_<n>`. -/
theorem null_script_painted {input : List Scaffold} {p q : Nat} {Ts : List (Option Nat)}
    (hw : wfScript input (nullScript p q Ts true) = true) (hin : NullInputOk input p q Ts)
    (hdis : ∀ sc, (sc, none) ∈ input.zip Ts → ∀ n, sc.name ≠ scaffoldName n) :
    ptxOf input (nullScript p q Ts true) = (nullPieces input p q Ts).map C08.Piece.pptx ∧
    C08.PaintedOk input (nullPieces input p q Ts) (errLen p q : Int) := by
  have hw' := wfScript_spec hw
  exact ⟨ptxOf_null input p q Ts true (nullScript_length hw'), null_paintedOk hw' hin hdis⟩

/-- the side condition "the map reaches into the last contig" holds whenever the last contig is at least `1 + β` long
    (floor or ceiling choice): `L − ⌊T·β⌋ < 1 + β ≤ |last contig|` -/
theorem reach_of_long_last_contig {p q : Nat} (hq : 1 ≤ q) (hpq : q ≤ p) {sc : Scaffold} {c : ScafScript}
    (hwf : c.wf p q (scafLen sc) = true) (hp : c.present = true) (hw : C08.WfRows sc.rows) {r : Row}
    (hr : sc.rows.getLast? = some r) (hlong : (q : Int) + p ≤ r.length * q) :
    C08.lastFragmentStart sc.rows ≤ (coord p q c.T : Int) := by
  rw [C08.lastFragmentStart_eq _ _ hr]
  have hL : 1 ≤ sc.length := hw.rowsLength_pos
  have hLn : ((scafLen sc : Nat) : Int) = sc.length := by unfold scafLen; omega
  have hL1 : 1 ≤ scafLen sc := by unfold scafLen; omega
  show sc.length - r.length + 1 ≤ _
  have key := wf_end_lt hq hpq hwf hp hL1
  have key' : sc.length * q < (coord p q c.T : Int) * q + q + p := by
    rw [← hLn]; exact_mod_cast key
  -- (L − E)·q < q + p ≤ last·q  ⇒  L − E < last
  have : (sc.length - (coord p q c.T : Int)) * q < r.length * q := by
    rw [Int.sub_mul]; omega
  have := Int.lt_of_mul_lt_mul_right this (by omega)
  omega

/-- **C08 for every null script**: `unedited_map_reproduces_input` applies to the map of any null script. -/
theorem null_script_reproduces_input {input : List Scaffold} {p q : Nat} {Ts : List (Option Nat)}
    (hw : wfScript input (nullScript p q Ts false) = true) (hin : NullInputOk input p q Ts) (prefix_ : Str)
    (joinGap : Option Gap) (hne : input ≠ [])
    (hstr : ∀ sc ∈ input, ∀ f ∈ sc.fragments, f.strand = 1 ∨ f.strand = -1) :
    ∃ scs stats, remap input (ptxOf input (nullScript p q Ts false)) prefix_ joinGap (errLen p q : Int) =
        .ok ([{ key := none, curated := true, scaffolds := scs }], stats) ∧
      (scs.map (fun s => (s.name, s.rows))).Perm (input.map (fun s => (s.name, s.rows))) ∧
      (∀ s ∈ scs, s.tag = none ∧ s.haplotype = none ∧ s.rank = 3) ∧
      stats.cuts = 0 ∧ stats.breaks = 0 ∧ stats.joins = 0 := by
  obtain ⟨e, hu⟩ := null_script_unedited hw hin
  obtain ⟨scs, stats, h1, -, h3, h4, -, h6, h7, h8⟩ :=
    C08.unedited_map_reproduces_input input _ prefix_ joinGap _ hu hne hstr
  exact ⟨scs, stats, by rw [e]; exact h1, h3, h4, h6, h7, h8⟩

/-! ## S4 — clean cuts give aligned maps -/

/-- **S4.**  A well-formed, unpainted script is `Aligned` at the error length `1 + ⌊β⌋` when
    * `CleanScript`: per present scaffold, no contig straddles an interior cut (the cut falls at a contig boundary or
      inside a gap), a contig straddling the END `⌊T·β⌋` of the last piece sticks out by at most `errLen`, and every
      piece touches a contig (a piece lying wholly inside a gap has no lookup result);
    * `InputOk`: scaffold names and contig keys pairwise different, no negative row length, contigs ≥ 1 bp;
    * `HeadsOk`: the input scaffold of the first piece of each Pretext scaffold is not named like a haplotype scaffold;
    * `TailOk`: the contigs the map cannot claim (S5: absent scaffolds, contigs beginning behind `⌊T·β⌋`) are untagged and
      not named like haplotype scaffolds.
    (Checkers: `cleanScriptB`, `inputOkB`, `headsOkB`, `tailOkB` with `…_of_check`.) -/
theorem aligned_script_is_Aligned {input : List Scaffold} {s : Script} (hw : wfScript input s = true)
    (hin : InputOk input) (hcl : CleanScript input s) (hh : HeadsOk input s) (ht : TailOk input s)
    (hup : ∀ g ∈ s.groups, g.painted = false) :
    Aligned input (ptxOf input s) (errLen s.p s.q : Int) := by
  have hw := wfScript_spec hw
  refine ⟨hin.names, hin.lens, ?_, claimedKeys_nodup hw hin.toInputBase hcl, unclaimed_ok hw hin ht⟩
  intro S hS
  obtain ⟨h1, h2, -, g, hg, h4⟩ := ptx_scaffold_ok hw hin.toInputBase hcl hh hS
  refine ⟨h1, fun p hp => ?_, h2⟩
  obtain ⟨⟨a, b, c⟩, d⟩ := h4 p hp
  rw [hup g hg] at d
  exact ⟨a, b, c, d⟩

/-- **S4, painted**: every Pretext scaffold painted ⇒ `AlignedP`. -/
theorem aligned_painted_script_is_AlignedP {input : List Scaffold} {s : Script} (hw : wfScript input s = true)
    (hin : InputOk input) (hcl : CleanScript input s) (hh : HeadsOk input s) (ht : TailOk input s)
    (hpt : ∀ g ∈ s.groups, g.painted = true) :
    AlignedP input (ptxOf input s) (errLen s.p s.q : Int) := by
  have hw := wfScript_spec hw
  refine ⟨hin.names, hin.lens, ?_, claimedKeys_nodup hw hin.toInputBase hcl, unclaimed_ok hw hin ht⟩
  intro S hS
  obtain ⟨h1, h2, h3, g, hg, h4⟩ := ptx_scaffold_ok hw hin.toInputBase hcl hh hS
  refine ⟨h1, fun p hp => ?_, h2, h3⟩
  obtain ⟨⟨a, b, c⟩, d⟩ := h4 p hp
  rw [hpt g hg] at d
  exact ⟨a, b, c, d⟩

theorem clean_script_def (input : List Scaffold) (s : Script) :
    CleanScript input s ↔
      ∀ (i : Nat) (sc : Scaffold) (c : ScafScript), input[i]? = some sc → s.scafs[i]? = some c → c.present = true →
        (∀ t ∈ c.cuts, ∀ k f, sc.rows[k]? = some (.frag f) →
          (rowSpan sc.rows k).2 ≤ (coord s.p s.q t : Int) ∨ (coord s.p s.q t : Int) < (rowSpan sc.rows k).1) ∧
        (∀ k f, sc.rows[k]? = some (.frag f) → (rowSpan sc.rows k).1 ≤ (coord s.p s.q c.T : Int) →
          (rowSpan sc.rows k).2 - (coord s.p s.q c.T : Int) ≤ (errLen s.p s.q : Int)) ∧
        (∀ ab ∈ c.spans s.p s.q, ∃ k, meets sc.rows ab.1 ab.2 k = true) := by
  constructor
  · intro h i sc c hi hc hp
    exact ⟨(h i sc c hi hc hp).cuts, (h i sc c hi hc hp).last, (h i sc c hi hc hp).touch⟩
  · intro h i sc c hi hc hp
    exact ⟨(h i sc c hi hc hp).1, (h i sc c hi hc hp).2.1, (h i sc c hi hc hp).2.2⟩

/-- in a clean script the lookups are even sharper than `Aligned` asks: no piece's result sticks out at its START at all,
    and at its END only the last piece of a scaffold can stick out (by at most `errLen`) -/
theorem clean_piece_overhangs {input : List Scaffold} {s : Script} (hw : wfScript input s = true)
    (hin : InputOk input) (hcl : CleanScript input s) {S : Scaffold} (hS : S ∈ ptxOf input s) {p : Fragment}
    (hp : p ∈ S.fragments) :
    (lookupPiece input p).isSome = true ∧ (pieceO input p).startOverhang ≤ 0 ∧
      (pieceO input p).endOverhang ≤ (errLen s.p s.q : Int) := by
  have hw' := wfScript_spec hw
  obtain ⟨g, -, -, -, -, -, -, -, -, hfr, hit⟩ := mem_ptxOf_wf hw' hS
  rw [hfr] at hp
  obtain ⟨y, hy, rfl⟩ := List.mem_map.1 hp
  obtain ⟨sc, c, ab, P, -⟩ := pieceOf_fragOf hw' (hit y hy)
  exact piece_lookup_ok hw' hin.toInputBase hcl P

/-- **C02 for every clean script**: `aligned_map_rearranges` applies (`NoClash`: the output names — each Pretext scaffold
    is named after the input scaffold of its first piece — are pairwise different; see `same_first_scaffold_is_fused`). -/
theorem aligned_script_rearranges {input : List Scaffold} {s : Script} (hw : wfScript input s = true)
    (hin : InputOk input) (hcl : CleanScript input s) (hh : HeadsOk input s) (ht : TailOk input s)
    (hup : ∀ g ∈ s.groups, g.painted = false) (prefix_ : Str) (jg : Gap)
    (hnc : NoClash input (ptxOf input s) jg)
    (hstr : ∀ sc ∈ input, ∀ f ∈ sc.fragments, f.strand = 1 ∨ f.strand = -1) :
    ∃ stats, remap input (ptxOf input s) prefix_ (some jg) (errLen s.p s.q : Int) =
        .ok (primaryOnly (expectedScaffolds input (ptxOf input s) jg), stats) ∧ stats.cuts = 0 :=
  aligned_map_rearranges input _ prefix_ jg _ (aligned_script_is_Aligned hw hin hcl hh ht hup) hnc hstr

/-! ## S5 — which contigs are left over -/

/-- **S5, per contig.**  In a well-formed script (floor or ceiling choice alike) the contig in row `k` of input scaffold
    `i` is claimed — returned by the lookup of some piece of the map — iff the scaffold is present and the contig begins
    at or before `⌊T·β⌋`.  (Contigs of at least 1 bp; a 0 bp contig exactly at a cut is claimed by neither neighbour.) -/
theorem script_claimed_iff {input : List Scaffold} {s : Script} (hw : wfScript input s = true) (hin : InputOk input)
    {i : Nat} {sc : Scaffold} {c : ScafScript} (hsc : input[i]? = some sc) (hc : s.scafs[i]? = some c)
    {k : Nat} {f : Fragment} (hk : sc.rows[k]? = some (.frag f)) :
    f.keyTuple ∈ claimedKeys input (ptxOf input s) ↔
      c.present = true ∧ (rowSpan sc.rows k).1 ≤ (coord s.p s.q c.T : Int) :=
  claimed_iff (wfScript_spec hw) hin.toInputBase hsc hc hk
    (hin.fragPos sc (List.mem_of_getElem? hsc) f (frag_mem_fragments hk))

theorem claimed_keys_def (input ptx : List Scaffold) (key : Key) :
    key ∈ claimedKeys input ptx ↔
      ∃ S ∈ ptx, ∃ p ∈ S.fragments, ∃ f ∈ fragmentsOf (pieceO input p).rows, f.keyTuple = key := by
  unfold claimedKeys pieceKeys
  simp only [List.mem_flatMap, List.mem_map]

/-- **S5.**  The contigs of an input scaffold that no piece's lookup returns — what `add_missing_scaffolds_from_input`
    will output as the left-over scaffold (`leftover_exact`) — are exactly the contigs of a SUFFIX of the scaffold's rows:
    the rows from `tailStart rows ⌊T·β⌋` on (the first row beginning behind `⌊T·β⌋`), all rows for an absent scaffold. -/
theorem script_leftovers_are_suffix {input : List Scaffold} {s : Script} (hw : wfScript input s = true)
    (hin : InputOk input) {i : Nat} {sc : Scaffold} {c : ScafScript} (hsc : input[i]? = some sc)
    (hc : s.scafs[i]? = some c) :
    (fragmentsOf sc.rows).filter (fun f => !(claimedKeys input (ptxOf input s)).contains f.keyTuple) =
      fragmentsOf (sc.rows.drop (if c.present then tailStart sc.rows (coord s.p s.q c.T : Int) else 0)) :=
  leftovers_suffix (wfScript_spec hw) hin.toInputBase hin.fragPos hsc hc

theorem tail_start_spec (rows : List Row) (hlen : ∀ r ∈ rows, 0 ≤ r.length) (E : Int) (k : Nat) (hk : k < rows.length) :
    k < tailStart rows E ↔ (rowSpan rows k).1 ≤ E :=
  tailStart_spec rows hlen E k hk

/-- with the CEILING choice (`L ≤ ⌊T·β⌋`) a present scaffold has no left-over contig -/
theorem ceil_script_no_leftovers {input : List Scaffold} {s : Script} (hw : wfScript input s = true)
    (hin : InputOk input) {i : Nat} {sc : Scaffold} {c : ScafScript} (hsc : input[i]? = some sc)
    (hc : s.scafs[i]? = some c) (hp : c.present = true) (hceil : sc.length ≤ (coord s.p s.q c.T : Int)) :
    (fragmentsOf sc.rows).filter (fun f => !(claimedKeys input (ptxOf input s)).contains f.keyTuple) = [] := by
  rw [List.filter_eq_nil_iff]
  intro f hf
  obtain ⟨k, hk⟩ := List.mem_iff_getElem?.1 (mem_fragmentsOf.1 hf)
  have hmem : sc ∈ input := List.mem_of_getElem? hsc
  have hlen := hin.lens sc hmem
  have hcl := (script_claimed_iff hw hin hsc hc hk).2 ⟨hp, by
    -- the row begins inside the scaffold
    have hkl : k < sc.rows.length := (List.getElem?_eq_some_iff.1 hk).1
    have h1 := C12.pre_mono sc.rows hlen (k + 1) sc.rows.length (by omega)
    have h2 := rowSpan_len sc.rows k _ hk
    have h3 : C12.pre sc.rows sc.rows.length = sc.length := C08.pre_length sc.rows
    have h4 := hin.fragPos sc hmem f hf
    rw [rowSpan_snd] at h2
    simp only [Row.length] at h2
    omega⟩
  have : (claimedKeys input (ptxOf input s)).contains f.keyTuple = true := by simpa using hcl
  rw [this]; decide

/-! ## non-vacuity: the rearrangement of `C02Aligned`'s example as a script (texel 8 bp) -/

private def g10 : Gap := { length := 10, gapType := "scaffold".toList }
private def g5 : Gap := { length := 5, gapType := "scaffold".toList }
private def jg : Gap := { length := 200, gapType := "scaffold".toList }
private def a1 : Fragment := { oid := 1, name := "ctgA1".toList, start := 1, stop := 100, strand := 1 }
private def a2 : Fragment := { oid := 2, name := "ctgA2".toList, start := 1, stop := 50, strand := -1 }
private def a3 : Fragment := { oid := 3, name := "ctgA3".toList, start := 1, stop := 40, strand := 1 }
private def b1 : Fragment := { oid := 4, name := "ctgB1".toList, start := 1, stop := 80, strand := 1 }
private def b2 : Fragment := { oid := 5, name := "ctgB2".toList, start := 1, stop := 60, strand := 1 }
private def c1 : Fragment := { oid := 6, name := "ctgC1".toList, start := 1, stop := 3, strand := 1 }
/-- 210 bp: a1 1-100, gap, a2 111-160 (reverse contig), gap, a3 171-210 -/
private def sA : Scaffold := { name := "scaffold_1".toList, rows := [.frag a1, .gap g10, .frag a2, .gap g10, .frag a3] }
/-- 145 bp: b1 1-80, gap, b2 86-145 -/
private def sB : Scaffold := { name := "scaffold_2".toList, rows := [.frag b1, .gap g5, .frag b2] }
/-- 3 bp: below one texel, not in the map -/
private def sC : Scaffold := { name := "scaffold_3".toList, rows := [.frag c1] }
private def inp : List Scaffold := [sA, sB, sC]

/-- The edits of `C02Aligned`'s example (same input), as PretextView can really produce them at 8 bp per texel.
    [`C02Aligned`'s own coordinates — cuts at 104 and 82, ends 210 and 145 — are not texel multiples at ANY texel size for
    which the 3 bp scaffold is absent (searched all `p/q`, `q < 40`, `p < 40·q`), so that example is an `Aligned` map but
    not a PretextView script; here the ends are rounded as Pretext rounds them.]
    `scaffold_1`: 27 texels (ceiling, 216 ≥ 210), cut after texel 13 (104, inside the first gap);
    `scaffold_2`: 18 texels (floor, 144 < 145), cut after texel 10 (80, the contig boundary); `scaffold_3`: absent.
    `Scaffold_1` = tail of A reversed + head of B; `Scaffold_2` = tail of B + head of A. -/
private def scr : Script :=
  { p := 8, q := 1,
    scafs := [{ T := 27, cuts := [13] }, { T := 18, cuts := [10] }, { present := false }],
    groups := [{ items := [{ sc := 0, k := 1, minus := true }, { sc := 1, k := 0 }] },
               { items := [{ sc := 1, k := 1 }, { sc := 0, k := 0 }] }],
    gap := jg }

private def pc (n : Str) (s e st : Int) : Row := .frag { name := n, start := s, stop := e, strand := st }

open scoped AgpTpf.ImpEval

private def inpC : Decoded inp :=
  ⟨_, by unfold inp sA sB sC a1 a2 a3 b1 b2 c1 g10 g5; str_lits; exact rfl⟩
private def jgC : Decoded jg := ⟨_, by unfold jg; str_lits; exact rfl⟩
private def scrC : Decoded scr := ⟨_, by unfold scr jg; str_lits; exact rfl⟩

example : wfScript inp scr = true := by decide +kernel
example : errLen scr.p scr.q = 9 := by decide
example : ptxOf inp scr =
    [{ name := "Scaffold_1".toList, rows := [pc sA.name 105 216 (-1), .gap jg, pc sB.name 1 80 1] },
     { name := "Scaffold_2".toList, rows := [pc sB.name 81 144 1, .gap jg, pc sA.name 1 104 1] }] := by
  rw [inpC.2, scrC.2, jgC.2]; str_lits; decide +kernel
example : InputOk inp := by rw [inpC.2]; exact inputOk_of_check (by decide +kernel)
example : CleanScript inp scr := by rw [inpC.2, scrC.2]; exact cleanScript_of_check (by decide +kernel)
example : HeadsOk inp scr ∧ TailOk inp scr := by
  rw [inpC.2, scrC.2]; exact ⟨headsOk_of_check (by decide +kernel), tailOk_of_check (by decide +kernel)⟩
example : ∀ g ∈ scr.groups, g.painted = false := by decide
example : NoClash inp (ptxOf inp scr) jg := by unfold NoClash; rw [inpC.2, scrC.2, jgC.2]; decide +kernel
example : ∀ sc ∈ inp, ∀ f ∈ sc.fragments, f.strand = 1 ∨ f.strand = -1 := by decide

/-- S1 / S2 on `scaffold_1`: pieces `[1,104]`, `[105,216]`; on `scaffold_2`: `[1,80]`, `[81,144]` -/
example : (scr.scafs.map (fun c => c.spans scr.p scr.q)) = [[(1, 104), (105, 216)], [(1, 80), (81, 144)], []] := by decide +kernel

/-- what the theorem gives: `Aligned`, independently re-checked by the Bool checker of `C02Aligned` -/
example : alignedB inp (ptxOf inp scr) 9 = true := by rw [inpC.2, scrC.2]; decide +kernel

/-- `remap` evaluated by the kernel, independently of the theorems: the specified output, no cuts -/
example : (remap inp (ptxOf inp scr) "SUPER_".toList (some jg) 9).toOption.map (·.1) =
    some (primaryOnly (expectedScaffolds inp (ptxOf inp scr) jg)) := by rw [inpC.2, scrC.2, jgC.2]; str_lits; decide +kernel

example : (expectedScaffolds inp (ptxOf inp scr) jg).map (fun s => (s.name, s.rows)) =
    [(sA.name, [.frag a3.reverse, .gap g10, .frag a2.reverse, .gap jg, .frag b1]),
     (sB.name, [.frag b2, .gap jg, .frag a1]),
     (sC.name, [.frag c1])] := by
  rw [inpC.2, scrC.2, jgC.2]; unfold sA sB sC a1 a2 a3 b1 b2 c1 g10; str_lits; decide +kernel

/-- S5 on the example: nothing of `scaffold_1` (ceiling) or `scaffold_2` (floor, but the last contig begins at 86 ≤ 144) is
    left over; all of the absent `scaffold_3` is -/
example : tailStart sA.rows 216 = 5 ∧ tailStart sB.rows 144 = 3 := by decide +kernel
example : inp.map (fun sc => (fragmentsOf sc.rows).filter
      (fun f => !(claimedKeys inp (ptxOf inp scr)).contains f.keyTuple)) = [[], [], [c1]] := by rw [inpC.2, scrC.2]; decide +kernel

/-- the same edits painted: `AlignedP` -/
private def scrP : Script := { scr with groups := scr.groups.map (fun g => { g with painted := true }) }
private def scrPC : Decoded scrP := ⟨_, by unfold scrP; rewrite [scrC.2]; exact rfl⟩
example : wfScript inp scrP = true ∧ (∀ g ∈ scrP.groups, g.painted = true) := by decide +kernel
example : CleanScript inp scrP ∧ HeadsOk inp scrP ∧ TailOk inp scrP := by
  rw [inpC.2, scrPC.2]
  exact ⟨cleanScript_of_check (by decide +kernel), headsOk_of_check (by decide +kernel), tailOk_of_check (by decide +kernel)⟩
example : alignedPB inp (ptxOf inp scrP) 9 = true := by rw [inpC.2, scrPC.2]; decide +kernel

/-! ### a fractional texel size: β = 21/2 -/

/-- `scaffold_1` (210 bp) = exactly 20 texels of 10.5 bp, cut after texels 2 and 10; `scaffold_2` (145 bp): 13 texels
    (floor; 136), uncut; `scaffold_3` (3 bp) shown as ONE texel (`T = 1`, the case the generator allows).
    Default separator (`pretextGap`, 100 bp). -/
private def scrF : Script :=
  { p := 21, q := 2,
    scafs := [{ T := 20, cuts := [2, 10] }, { T := 13 }, { T := 1 }],
    groups := [{ items := [{ sc := 0, k := 2 }, { sc := 2, k := 0, minus := true }], painted := true },
               { items := [{ sc := 0, k := 0 }] },
               { items := [{ sc := 1, k := 0 }, { sc := 0, k := 1, minus := true }] }] }

example : wfScript inp scrF = true := by decide +kernel
example : errLen 21 2 = 11 ∧ errLengthOfText "10.5".toList = .ok 11 := by decide +kernel
example : (scrF.scafs.map (fun c => c.spans scrF.p scrF.q)) =
    [[(1, 21), (22, 105), (106, 210)], [(1, 136)], [(1, 10)]] := by decide +kernel
/-- S2 is sharp: the piece `[1, 21]` has exactly `⌊2β⌋ = 21` bases; the one-texel piece `[1, 10]` exactly `⌊β⌋ = errLen − 1` -/
theorem piece_long_sharp : coord 21 2 2 = 21 ∧ errLen 21 2 - 1 = 10 ∧
    (scrF.scafs.map (fun c => (c.spans scrF.p scrF.q).map (fun x => x.2 + 1 - x.1))) = [[21, 84, 105], [136], [10]] := by
  decide +kernel
private def pcP (n : Str) (s e st : Int) : Row := .frag { name := n, start := s, stop := e, strand := st, tags := [sPainted] }
example : ptxOf inp scrF =
    [{ name := "Scaffold_1".toList, rows := [pcP sA.name 106 210 1, .gap pretextGap, pcP sC.name 1 10 (-1)] },
     { name := "Scaffold_2".toList, rows := [pc sA.name 1 21 1] },
     { name := "Scaffold_3".toList, rows := [pc sB.name 1 136 1, .gap pretextGap, pc sA.name 22 105 (-1)] }] := by
  rw [inpC.2]; str_lits; decide +kernel
/-- not a script: a piece used twice / a cut one texel from the end / a texel count that is neither floor nor ceiling -/
example : wfScript inp { scrF with groups := scrF.groups ++ [{ items := [{ sc := 1, k := 0 }] }] } = false ∧
    wfScript inp { scrF with scafs := [{ T := 20, cuts := [2, 19] }, { T := 13 }, { T := 1 }] } = false ∧
    wfScript inp { scrF with scafs := [{ T := 20, cuts := [2, 10] }, { T := 15 }, { T := 1 }] } = false := by decide +kernel

/-! ### the null script of `C08`'s example input (texel 8 bp) -/

private def d1 : Fragment := { oid := 1, name := "ctg1".toList, start := 1, stop := 100, strand := 1 }
private def d2 : Fragment := { oid := 2, name := "ctg2".toList, start := 1, stop := 55, strand := -1 }
private def d3 : Fragment := { oid := 3, name := "ctg3".toList, start := 1, stop := 3, strand := 1 }
private def d4 : Fragment := { oid := 4, name := "ctg4".toList, start := 1, stop := 20, strand := 1 }
private def d5 : Fragment := { oid := 5, name := "ctg5".toList, start := 1, stop := 2, strand := -1 }
private def gg1 : Gap := { length := 1, gapType := "contig".toList }
/-- 165 bp -/
private def t1 : Scaffold := { name := "scaffold_1".toList, rows := [.frag d1, .gap g10, .frag d2] }
/-- 7 bp: shorter than a texel, absent -/
private def t2 : Scaffold := { name := "scaffold_2".toList, rows := [.frag d3, .gap gg1, .gap gg1, .frag d5] }
/-- 20 bp -/
private def t3 : Scaffold := { name := "scaffold_10".toList, rows := [.frag d4] }
private def inpN : List Scaffold := [t1, t2, t3]
/-- `scaffold_1` rounded DOWN to 20 texels (160), `scaffold_2` absent, `scaffold_10` rounded UP to 3 texels (24) -/
private def TsN : List (Option Nat) := [some 20, none, some 3]

private def inpNC : Decoded inpN :=
  ⟨_, by unfold inpN t1 t2 t3 d1 d2 d3 d4 d5 g10 gg1; str_lits; exact rfl⟩

example : wfScript inpN (nullScript 8 1 TsN false) = true := by decide +kernel
example : NullInputOk inpN 8 1 TsN := by rw [inpNC.2]; exact nullInputOk_of_check (by decide +kernel)
example : ptxOf inpN (nullScript 8 1 TsN false) =
    [{ name := "Scaffold_1".toList, rows := [pc t1.name 1 160 1] },
     { name := "Scaffold_2".toList, rows := [pc t3.name 1 24 1] }] := by rw [inpNC.2]; str_lits; decide +kernel
example : (nullPieces inpN 8 1 TsN).map (fun p => (p.pname, p.sc.name, p.stop)) =
    [("Scaffold_1".toList, t1.name, 160), ("Scaffold_2".toList, t3.name, 24)] := by rw [inpNC.2]; str_lits; decide +kernel
example : inpN ≠ [] ∧ ∀ sc ∈ inpN, ∀ f ∈ sc.fragments, f.strand = 1 ∨ f.strand = -1 := by decide +kernel
/-- `remap` on it, evaluated independently of the theorems: the input comes back -/
example : (remap inpN (ptxOf inpN (nullScript 8 1 TsN false)) "SUPER_".toList (some jg) 9).toOption.map
      (fun r => r.1.map (fun a => a.scaffolds.map (fun s => (s.name, s.rows)))) =
    some [[(t1.name, t1.rows), (t2.name, t2.rows), (t3.name, t3.rows)]] := by
  -- the expected output is the input list under the same view, so that its text is read off with the input's
  show _ = some [inpN.map (fun s => (s.name, s.rows))]
  rw [inpNC.2, jgC.2]; str_lits; decide +kernel
/-- painted: the extra hypothesis of `null_script_painted` -/
example : wfScript inpN (nullScript 8 1 TsN true) = true ∧
    ∀ sc, (sc, none) ∈ inpN.zip TsN → ∀ n, sc.name ≠ scaffoldName n := by
  refine ⟨by decide, ?_⟩
  intro sc h n e
  have hz : inpN.zip TsN = [(t1, some 20), (t2, none), (t3, some 3)] := rfl
  rw [hz] at h
  have h1 : ∀ m, (scaffoldName m).head? = some 'S' := fun _ => rfl
  have h2 : t2.name.head? = some 's' := by unfold t2; str_lits; rfl
  rcases List.mem_cons.1 h with h | h
  · cases (Prod.mk.inj h).2
  · rcases List.mem_cons.1 h with h | h
    · have hsc := (Prod.mk.inj h).1
      rw [← hsc, e, h1] at h2
      cases h2
    · rcases List.mem_cons.1 h with h | h
      · cases (Prod.mk.inj h).2
      · cases h
/-- `reach_of_long_last_contig` applies to `scaffold_1`: the last contig (55 bp) is longer than `1 + β = 9` -/
example : C08.lastFragmentStart t1.rows ≤ (coord 8 1 20 : Int) :=
  reach_of_long_last_contig (p := 8) (q := 1) (sc := t1) (c := { T := 20 }) (r := .frag d2) (by decide) (by decide)
    (by decide) rfl (C08.wfRows_of_check _ (by decide)) (by decide) (by decide)

/-! ## FINDING: "cut within `errLen` of a contig boundary ⇒ `Aligned`" is false -/

/-- one scaffold, 210 bp: w1 1-100, gap 101-110, w2 111-210 -/
private def w1 : Fragment := { oid := 1, name := "ctgW1".toList, start := 1, stop := 100, strand := 1 }
private def w2 : Fragment := { oid := 2, name := "ctgW2".toList, start := 1, stop := 100, strand := 1 }
private def sW : Scaffold := { name := "scaffold_1".toList, rows := [.frag w1, .gap g10, .frag w2] }
/-- texel 8 bp (`errLen = 9`), 26 texels (floor; 208), ONE cut after texel 12: 96 | 97 — FOUR bases inside `ctgW1`, well
    within `errLen` of the contig boundary 100 | 101.  Pieces `[1,96]`, `[97,208]`, each its own Pretext scaffold. -/
private def scrW : Script :=
  { p := 8, q := 1, scafs := [{ T := 26, cuts := [12] }],
    groups := [{ items := [{ sc := 0, k := 0 }] }, { items := [{ sc := 0, k := 1 }] }] }

private def sWC : Decoded sW := ⟨_, by unfold sW w1 w2 g10; str_lits; exact rfl⟩

example : wfScript [sW] scrW = true := by decide +kernel
example : InputOk [sW] ∧ HeadsOk [sW] scrW ∧ TailOk [sW] scrW := by
  rw [sWC.2]
  exact ⟨inputOk_of_check (by decide +kernel), headsOk_of_check (by decide +kernel), tailOk_of_check (by decide +kernel)⟩
/-- the last piece ends 2 bases (`≤ errLen`) before the scaffold end, every piece touches a contig, and the only cut is
    within `errLen` of the contig boundary `100 | 101` … -/
example : (scrW.scafs.map (fun c => c.spans 8 1)) = [[(1, 96), (97, 208)]] ∧ (100 : Int) - 96 ≤ 9 ∧ (210 : Int) - 208 ≤ 9 := by
  decide +kernel

/-- … **but the map is not `Aligned`**: the lookup of the second piece `[97, 208]` returns `ctgW1` too (it shares bases
    97..100 with it) and sticks out by 96 > 9 bases at its start; and `ctgW1` is claimed by both pieces. -/
theorem cut_near_boundary_not_aligned : ¬ Aligned [sW] (ptxOf [sW] scrW) 9 := by
  intro h
  have hS : ({ name := "Scaffold_2".toList, rows := [pc sW.name 97 208 1] } : Scaffold) ∈ ptxOf [sW] scrW := by
    rw [sWC.2]; str_lits; decide +kernel
  have hp := ((h.scaffolds _ hS).pieces { name := sW.name, start := 97, stop := 208, strand := 1 }
    (List.mem_singleton.2 rfl)).startOk
  have e : (pieceO [sW] { name := sW.name, start := 97, stop := 208, strand := 1 }).startOverhang = 96 := by
    rw [sWC.2]; decide +kernel
  rw [e] at hp
  omega

example : ¬ (claimedKeys [sW] (ptxOf [sW] scrW)).Nodup := by rw [sWC.2]; decide +kernel
example : ¬ CleanScript [sW] scrW := by
  intro h
  have := (h 0 sW _ rfl rfl rfl).cuts 12 (by decide) 0 w1 rfl
  revert this
  decide +kernel

/-- The code copes: `trim_large_overhangs` drops `ctgW1` from the second piece (it shares 4 < 9 bases with it), nothing is
    cut, both contigs come out whole — each in the scaffold of the piece that holds most of it.  (Both Pretext scaffolds
    begin with a piece of `scaffold_1` and are unpainted, so they get the same name and are fused — `NoClash` fails as in
    `same_first_scaffold_is_fused`; the contig content is what matters here.) -/
theorem cut_near_boundary_still_remaps :
    (remap [sW] (ptxOf [sW] scrW) "SUPER_".toList (some jg) 9).toOption.map
      (fun r => (r.1.map (fun a => a.scaffolds.map (fun s => (s.name, s.rows))), r.2.cuts)) =
    some ([[(sW.name, [.frag w1, .gap jg, .frag w2])]], 0) := by rw [sWC.2, jgC.2]; str_lits; decide +kernel

/-! ## S4' — cuts deep inside contigs -/

/-- **S4, deep cuts.**  A well-formed, unpainted script is in the class `DeepCutN` (at the error length `1 + ⌊β⌋`) when
    * `DeepScript`: per present scaffold, for every interior cut `c | c + 1` and every contig (spanning `[a, b]`): the
      contig does not straddle the cut, or the cut is deeper than `3·errLen` inside it on both sides
      (`3·errLen < c − a + 1` and `3·errLen < b − c`) — any number of cuts per contig; the end of the last piece and the
      "every piece touches a contig" clause as in `CleanScript`;
    * `InputOk`, `HeadsOk`, `TailOk` as for S4; no input scaffold holds the same Fragment object twice; input contigs are
      forward or reverse (`trim_fragment` needs a strand).
    (Checker: `deepScriptB`, `deepScript_of_check`.)  `CleanScript` is the special case without the third alternative
    (`CleanScript.deep`). -/
theorem deep_script_is_DeepCut {input : List Scaffold} {s : Script} (hw : wfScript input s = true)
    (hin : InputOk input) (hoid : ∀ sc ∈ input, (C18.ids sc.rows).Nodup)
    (hstr : ∀ sc ∈ input, ∀ f ∈ sc.fragments, f.strand = 1 ∨ f.strand = -1)
    (hd : DeepScript input s) (hh : HeadsOk input s) (ht : TailOk input s)
    (hup : ∀ g ∈ s.groups, g.painted = false) :
    DeepCutN input (ptxOf input s) (errLen s.p s.q : Int) :=
  script_deepCutN (wfScript_spec hw) hin hoid hstr hd hh ht hup

theorem deep_script_def (input : List Scaffold) (s : Script) :
    DeepScript input s ↔
      ∀ (i : Nat) (sc : Scaffold) (c : ScafScript), input[i]? = some sc → s.scafs[i]? = some c → c.present = true →
        (∀ t ∈ c.cuts, ∀ k f, sc.rows[k]? = some (.frag f) →
          (rowSpan sc.rows k).2 ≤ (coord s.p s.q t : Int) ∨ (coord s.p s.q t : Int) < (rowSpan sc.rows k).1 ∨
          (3 * (errLen s.p s.q : Int) < (coord s.p s.q t : Int) - (rowSpan sc.rows k).1 + 1 ∧
           3 * (errLen s.p s.q : Int) < (rowSpan sc.rows k).2 - (coord s.p s.q t : Int))) ∧
        (∀ k f, sc.rows[k]? = some (.frag f) → (rowSpan sc.rows k).1 ≤ (coord s.p s.q c.T : Int) →
          (rowSpan sc.rows k).2 - (coord s.p s.q c.T : Int) ≤ (errLen s.p s.q : Int)) ∧
        (∀ ab ∈ c.spans s.p s.q, ∃ k, meets sc.rows ab.1 ab.2 k = true) := by
  constructor
  · intro h i sc c hi hc hp
    exact ⟨(h i sc c hi hc hp).cuts, (h i sc c hi hc hp).last, (h i sc c hi hc hp).touch⟩
  · intro h i sc c hi hc hp
    exact ⟨(h i sc c hi hc hp).1, (h i sc c hi hc hp).2.1, (h i sc c hi hc hp).2.2⟩

/-- **C02 (deep cuts) for every such script**: `deep_map_rearranges` applies. -/
theorem deep_script_rearranges {input : List Scaffold} {s : Script} (hw : wfScript input s = true)
    (hin : InputOk input) (hoid : ∀ sc ∈ input, (C18.ids sc.rows).Nodup)
    (hstr : ∀ sc ∈ input, ∀ f ∈ sc.fragments, f.strand = 1 ∨ f.strand = -1)
    (hd : DeepScript input s) (hh : HeadsOk input s) (ht : TailOk input s)
    (hup : ∀ g ∈ s.groups, g.painted = false) (prefix_ : Str) (jg : Gap)
    (hnc : NoClashDeepN input (ptxOf input s) jg) :
    ∃ stats, remap input (ptxOf input s) prefix_ (some jg) (errLen s.p s.q : Int) =
        .ok (primaryOnly (expectedScaffoldsDeepN input (ptxOf input s) jg), stats) ∧
      stats.cuts = (incidencesN input (ptxOf input s) : Int) - ((sharedKeys input (ptxOf input s)).length : Int) :=
  deep_map_rearranges input _ prefix_ jg _ (deep_script_is_DeepCut hw hin hoid hstr hd hh ht hup) hnc hstr

/-- **the cut sites, in script terms.**  If the pieces at map positions `a` and `b` are pieces `aba`, `abb` of input
    scaffold `i`, `abb` beginning one base after `aba` ends, and both meet the contig `F` in row `r`, then `(a, b)` is a
    cut site of `F` in the sense of `SiteOk`: `F` is the last row of `a`'s lookup result and the first of `b`'s, at the
    same scaffold coordinates, each sharing more than `3·errLen` bases with it or lying wholly inside it. -/
theorem deep_script_site {input : List Scaffold} {s : Script} (hw : wfScript input s = true) (hin : InputOk input)
    (hd : DeepScript input s) {i : Nat} {sc : Scaffold} {c : ScafScript} (hsc : input[i]? = some sc)
    (hc : s.scafs[i]? = some c) {r : Nat} {F : Fragment} (hr : sc.rows[r]? = some (.frag F))
    (hstr : F.strand = 1 ∨ F.strand = -1) {a b : Nat} {bxa bxb : Bool × Placed} {aba abb : Nat × Nat}
    (ha : (itemsT s)[a]? = some bxa) (hai : bxa.2.sc = i) (haab : (c.spans s.p s.q)[bxa.2.k]? = some aba)
    (ham : meets sc.rows aba.1 aba.2 r = true)
    (hb : (itemsT s)[b]? = some bxb) (hbi : bxb.2.sc = i) (hbab : (c.spans s.p s.q)[bxb.2.k]? = some abb)
    (hbm : meets sc.rows abb.1 abb.2 r = true) (habut : aba.2 + 1 = abb.1) :
    SiteOk input (ptxOf input s) (errLen s.p s.q : Int) ⟨F.keyTuple, F, a, b⟩ :=
  have hw' := wfScript_spec hw
  site_ok hw' hin.toInputBase hd hr hstr (HolderAt.of_span hw' hsc hc ha hai haab ham)
    (HolderAt.of_span hw' hsc hc hb hbi hbab hbm) habut

/-! ### non-vacuity: `C02Deep`'s example as a script (texel 8 bp; margin `3·errLen = 27`) -/

private def e2 : Fragment := { oid := 2, name := "ctgA2".toList, start := 1, stop := 80, strand := -1 }
/-- 240 bp: a1 1-100, gap, e2 111-190 (reverse contig), gap, a3 201-240 -/
private def sD : Scaffold := { name := "scaffold_1".toList, rows := [.frag a1, .gap g10, .frag e2, .gap g10, .frag a3] }
private def inpD : List Scaffold := [sD, sB]
/-- `scaffold_1` = exactly 30 texels, cut after texel 6 (48 | 49: inside the forward contig a1, 48 resp. 52 bases from its
    ends) and after texel 19 (152 | 153: inside the reverse contig at 111..190, 42 resp. 38 bases from its ends);
    `scaffold_2`: 18 texels (floor, 144), cut after texel 10 (80 | 81, the contig boundary).
    Same rearrangement as in `C02Deep`: the middle piece of `scaffold_1` reversed + head of `scaffold_2`;
    tail of `scaffold_2` + tail of `scaffold_1` + reversed head of `scaffold_1`.
    [`C02Deep`'s own cut 150 | 151 is not a texel boundary at 8 bp; 152 | 153 is.] -/
private def scrD : Script :=
  { p := 8, q := 1,
    scafs := [{ T := 30, cuts := [6, 19] }, { T := 18, cuts := [10] }],
    groups := [{ items := [{ sc := 0, k := 1, minus := true }, { sc := 1, k := 0 }] },
               { items := [{ sc := 1, k := 1 }, { sc := 0, k := 2 }, { sc := 0, k := 0, minus := true }] }],
    gap := jg }

private def inpDC : Decoded inpD :=
  ⟨_, by unfold inpD sD sB a1 e2 a3 b1 b2 g10 g5; str_lits; exact rfl⟩
private def scrDC : Decoded scrD := ⟨_, by unfold scrD jg; str_lits; exact rfl⟩

example : wfScript inpD scrD = true := by decide +kernel
example : ptxOf inpD scrD =
    [{ name := "Scaffold_1".toList, rows := [pc sD.name 49 152 (-1), .gap jg, pc sB.name 1 80 1] },
     { name := "Scaffold_2".toList,
       rows := [pc sB.name 81 144 1, .gap jg, pc sD.name 153 240 1, .gap jg, pc sD.name 1 48 (-1)] }] := by
  rw [inpDC.2, scrDC.2, jgC.2]; str_lits; decide +kernel
example : InputOk inpD := by rw [inpDC.2]; exact inputOk_of_check (by decide +kernel)
example : (∀ sc ∈ inpD, (C18.ids sc.rows).Nodup) ∧ ∀ sc ∈ inpD, ∀ f ∈ sc.fragments, f.strand = 1 ∨ f.strand = -1 := by
  decide +kernel
example : DeepScript inpD scrD := by rw [inpDC.2, scrDC.2]; exact deepScript_of_check (by decide +kernel)
example : ¬ CleanScript inpD scrD := by
  intro h
  have := (h 0 sD _ rfl rfl rfl).cuts 6 (by decide) 0 a1 rfl
  revert this
  decide +kernel
example : HeadsOk inpD scrD ∧ TailOk inpD scrD := by
  rw [inpDC.2, scrDC.2]; exact ⟨headsOk_of_check (by decide +kernel), tailOk_of_check (by decide +kernel)⟩
example : ∀ g ∈ scrD.groups, g.painted = false := by decide
example : NoClashDeepN inpD (ptxOf inpD scrD) jg := by unfold NoClashDeepN; rw [inpDC.2, scrDC.2, jgC.2]; decide +kernel
/-- what the theorem gives, independently re-checked by the Bool checker of `C02Deep` -/
example : deepCutNB inpD (ptxOf inpD scrD) 9 = true := by rw [inpDC.2, scrDC.2]; decide +kernel
/-- the chains: the reverse contig (pieces 0 and 3), the forward contig a1 (pieces 4 and 0) -/
example : (sitesN inpD (ptxOf inpD scrD)).map (fun x => (x.frag.name, x.chain)) =
    [(e2.name, [0, 3]), (a1.name, [4, 0])] := by rw [inpDC.2, scrDC.2]; decide +kernel
/-- `remap`, evaluated by the kernel independently of the theorems: the specified output, 2 cuts -/
private theorem remapD_run :
    (remap inpD (ptxOf inpD scrD) "SUPER_".toList (some jg) 9).toOption.map (fun r => (r.1, r.2.cuts)) =
      some (primaryOnly (expectedScaffoldsDeepN inpD (ptxOf inpD scrD) jg), 2) := by
  rw [inpDC.2, scrDC.2, jgC.2]; str_lits; decide +kernel
example : (remap inpD (ptxOf inpD scrD) "SUPER_".toList (some jg) 9).toOption.map (·.1) =
    some (primaryOnly (expectedScaffoldsDeepN inpD (ptxOf inpD scrD) jg)) := by
  have := congrArg (Option.map Prod.fst) remapD_run
  rwa [Option.map_map] at this
example : (remap inpD (ptxOf inpD scrD) "SUPER_".toList (some jg) 9).toOption.map (fun r => r.2.cuts) = some 2 := by
  have := congrArg (Option.map Prod.snd) remapD_run
  rwa [Option.map_map] at this

/-! ### … and a contig cut TWICE (texel 2 bp; `errLen = 3`, margin 9) -/

/-- `scaffold_1` (240 bp = 120 texels) cut at 30 | 31 and 70 | 71 — both inside a1, the middle piece lies wholly inside it
    — and at 150 | 151 inside the reverse contig; `scaffold_2` (145 bp: 72 texels, floor, 144) uncut -/
private def scrD2 : Script :=
  { p := 2, q := 1,
    scafs := [{ T := 120, cuts := [15, 35, 75] }, { T := 72 }],
    groups := [{ items := [{ sc := 0, k := 1, minus := true }, { sc := 0, k := 3 }] },
               { items := [{ sc := 1, k := 0 }, { sc := 0, k := 2, minus := true }, { sc := 0, k := 0 }] }] }

example : wfScript inpD scrD2 = true := by decide +kernel
example : (scrD2.scafs.map (fun c => c.spans 2 1)) = [[(1, 30), (31, 70), (71, 150), (151, 240)], [(1, 144)]] := by decide +kernel
example : DeepScript inpD scrD2 ∧ HeadsOk inpD scrD2 ∧ TailOk inpD scrD2 :=
  inpDC.2 ▸ ⟨deepScript_of_check (by decide +kernel), headsOk_of_check (by decide +kernel), tailOk_of_check (by decide +kernel)⟩
/-- a1 is held by the pieces at map positions 4 (1..30), 0 (31..70), 3 (71..150): one chain of three -/
example : (sitesN inpD (ptxOf inpD scrD2)).map (fun x => (x.frag.name, x.chain)) =
    [(a1.name, [4, 0, 3]), (e2.name, [3, 1])] := by rw [inpDC.2]; decide +kernel
example : deepCutNB inpD (ptxOf inpD scrD2) 3 = true := by rw [inpDC.2]; decide +kernel
example : (remap inpD (ptxOf inpD scrD2) "SUPER_".toList (some jg) 3).toOption.map (fun r => r.2.cuts) = some 3 := by
  rw [inpDC.2, jgC.2]; str_lits; decide +kernel

end AgpTpf.C02
