/-
  C10 (T1c, phase 2 CAPSTONE) — `BuildAssembly.assemblies_with_scaffolds_fused` of the Python source (assembly/build_assembly.py) AS TRANSLATED
  (`Gen.Imp.BuildAssembly_assemblies_with_scaffolds_fused`, `Gen/Imp2.lean`) IS the model's `assembliesFused` (`Model/Remap.lean`); and
  phase 1 followed by phase 2 of the source IS the model's `remap`.

  Composed of the ties of its parts: `C07.scaffolds_fused_by_name_is_source` (the generator),
  `C10.chrnamer_init_is_source` / `chrnamer_add_scaffold_is_source` / `add_chr_prefix_is_source` / `name_chromosomes_is_source_of_wf` and
  `assembliesFused_is_block` (the naming block), `C20.smart_sort_refs` (the sort), `C11.make_stats_is_source_partial` (the statistics),
  `C11.junctions_by_prefix_is_source` (`ImpJunctions.junctionsByPrefixSrc_eq`), `C01.remap_to_input_refines` (phase 1).

  How the source state stands for the model's fold state `(asms, entries, haps, fs)` (`ImpPhase2.toSrc`): `assemblies` maps the i-th key to
  the reference `i`; `heap_a[i]` is the Assembly object `(self.name, curated, ids)`; `chr_namer.haplotypes_seen` maps every text of `haps` to
  `True`; `chr_namer.scaffolds = entries`; `heap_b = fs`; no ChrGroup object exists before `name_chromosomes`.  One pass of the source's
  first loop on the state that stands for `m` gives the state that stands for `fusedStep m` — for EVERY `m` (inside `ImpPhase2.driver_normal_form`).
  `if tag := scffld.tag … elif hap := scffld.haplotype` (the translator's `some (c :: cs)` narrowing) against the model's `truthy`: the same
  three cases for every tag / haplotype (None, "", non-empty): NO difference found.
  The invariants those ties need are derived from the model's fold in closed form (`C09.splitLoop_eq`: `ImpPhase2.namerWf_fusedSplit`, `fusedSplit_keys_nodup`): `NamerWf` for `name_chromosomes`; the
  assembly keys pairwise different for `make_stats` (WITHOUT it `make_stats` differs: `C11Imp.lean`, keys None, "", None — a `dict` cannot
  hold that, and this theorem shows the driver never produces it).

  The one hypothesis: at most 1114047 fused scaffolds (really: rank-1 ones, `assemblies_fused_is_source_of_entries`).  It is the hypothesis
  of `C10.name_chromosomes_is_source`: beyond it `chr(ord("A") + k)` of `multi_chr_list` can raise ValueError in the source where the
  model carries on (`C10.multi_chr_list_too_many`).  Everything else — any store, any left-overs, dangling references, any `self.name`, any
  incoming `breaks` / `joins` — is covered.  `per_assembly_stats` is empty on entry (a fresh `AssemblyStats`), as in `C11Imp`.

  Theorem 2: how phase 1's result feeds phase 2 is `ImpPhase2.phase2Scaffolds` — see the comment there and the NOTE below.
  Proofs: `AgpTpf/Proofs/ImpPhase2.lean`.
-/
import AgpTpf.Proofs.ImpPhase2
-- the `example`s compare nested tuples: the default size limit of instance search is too small for their `DecidableEq`
set_option synthInstance.maxSize 100000
namespace AgpTpf.C10
open AgpTpf AgpTpf.ImpNameChr AgpTpf.ImpPhase2
open AgpTpf.ImpMissing (loSrc)
open AgpTpf.ImpStats (perToSrc)

/-! ### the input the `example`s run on: four OverlapResults of one haplotype (two autosomes — the SECOND is the longer one —, one rank-2
    scaffold, one haplotig) and one left-over scaffold without a haplotype -/

def fzF (n : Char) (b : Int) : Fragment := { name := [n], start := 1, stop := b, strand := 1 }
def fzHap : Str := "Hap1".toList
def fzRes (name : Str) (rank : Int) (rows : List Row) (tag : Option Str := none) (orig : Option Str := none) : Res :=
  { o := { bait := fzF 'p' 10, start := 1, stop := 10, rows := rows, name := name, tag := tag, haplotype := some fzHap, rank := rank,
           originalName := orig, originalTags := some ["Painted".toList] }, added := true }
def fzB : Build :=
  { namer := { autosomePrefix := "SUPER_".toList }, nextOid := 0, err := 0, joinGap := some { length := 200, gapType := ['s'] }, cuts := 2,
    store := [fzRes "S1".toList 1 [.frag (fzF 'a' 100), .frag (fzF 'c' 30)] none (some "S1".toList),
              fzRes "S2".toList 1 [.frag (fzF 'b' 300)] none (some "S2".toList),
              fzRes "X".toList 2 [.frag (fzF 'd' 40)],
              fzRes "H_1".toList 3 [.frag (fzF 'e' 5)] (some "Haplotig".toList)],
    extra := [({ name := "s9".toList, rows := [.frag (fzF 'f' 7)], rank := 3 }, none)] }
/-- the input assembly: `a b`, `c d e`, `f` — the output breaks `a|b`, `c|d`, `d|e` and joins `a|c` -/
def fzInput : List Scaffold :=
  [{ name := "s1".toList, rows := [.frag (fzF 'a' 100), .frag (fzF 'b' 300)] },
   { name := "s2".toList, rows := [.frag (fzF 'c' 30), .frag (fzF 'd' 40), .frag (fzF 'e' 5)] },
   { name := "s9".toList, rows := [.frag (fzF 'f' 7)] }]
/-- what the `example`s show of the source's result: the dictionary as `(key, curated, scaffold names)`, breaks, joins, records -/
def fzShow (r : List Scaffold × List PyRt.GData × List PyRt.AsmObj × Int × Int × List (Str × List (Str × Int)) × List (Option Str × Nat)) :=
  ((PyRt.asmDictView r.2.2.1 r.1 r.2.2.2.2.2.2).map (fun kv => (kv.1, kv.2.curated, kv.2.scaffolds.map (·.name))),
    r.2.2.2.1, r.2.2.2.2.1, r.2.2.2.2.2.1)

/-! ### 1. `assemblies_with_scaffolds_fused` -/

/-- the tie under the hypothesis that is really used: at most 1114047 entries in `chr_namer.scaffolds` (= rank-1 fused scaffolds) -/
theorem assemblies_fused_is_source_of_entries (input : List Scaffold) (b : Build) (namer : PyRt.SrcNamer) (name : Str) (b0 j0 : Int)
    (hp : namer.autosome_prefix = b.namer.autosomePrefix) (hcount : (fusedSplit b).2.1.length ≤ 1114047) :
    match assembliesFused input b with
    | .error e =>
        Gen.Imp.BuildAssembly_assemblies_with_scaffolds_fused b.store (b.extra.map loSrc) b0 j0 [] (junctionsByPrefix input)
          namer name b.joinGap (ImpFuse.builtRefs b) = .error e
    | .ok (outs, stats) => ∃ heap_b heap_g heap_a assemblies,
        Gen.Imp.BuildAssembly_assemblies_with_scaffolds_fused b.store (b.extra.map loSrc) b0 j0 [] (junctionsByPrefix input)
          namer name b.joinGap (ImpFuse.builtRefs b)
          = .ok (heap_b, heap_g, heap_a, stats.breaks, stats.joins, perToSrc stats.perAssembly, assemblies) ∧
        PyRt.asmDictView heap_a heap_b assemblies
          = outs.map (fun a => (a.key, ({ name := name, curated := a.curated, scaffolds := a.scaffolds } : Assembly))) ∧
        stats.cuts = b.cuts :=
  (fused_ref input b namer name b0 j0 hp hcount).elim (fun _ h => h)
    fun _ ⟨_, _⟩ h ⟨hb, hg, ha, asms, e, hv, hc⟩ => ⟨hb, hg, ha, asms, e ▸ h, hv, hc⟩

/-- **T1c tie.**  On a model state `b` — store `b.store`, left-over arena `b.extra.map loSrc`, default gap `b.joinGap`, `self.scaffolds` = the
    added results in store order then the left-overs (`ImpFuse.builtRefs b`, the list of `C07.scaffolds_fused_by_name_is_source`) —, with
    the namer's `autosome_prefix` that of `b`, the input junction sets `junctionsByPrefix input`, an empty `per_assembly_stats`, ANY
    `self.name` and ANY incoming `breaks` / `joins`: the source raises exactly the exception `assembliesFused input b` raises, and
    otherwise returns `(heap_b, heap_g, heap_a, breaks, joins, per_assembly_stats, assemblies)` with the model's numbers, and the
    `{key: Assembly}` dictionary it returns — read through the references — is the model's list of output assemblies, each as the object
    `Assembly(self.name, curated)` with its scaffolds in the model's order (keys in the same insertion order) -/
theorem assemblies_fused_is_source (input : List Scaffold) (b : Build) (namer : PyRt.SrcNamer) (name : Str) (b0 j0 : Int)
    (hp : namer.autosome_prefix = b.namer.autosomePrefix) (hcount : (fuseByName b).length ≤ 1114047) :
    match assembliesFused input b with
    | .error e =>
        Gen.Imp.BuildAssembly_assemblies_with_scaffolds_fused b.store (b.extra.map loSrc) b0 j0 [] (junctionsByPrefix input)
          namer name b.joinGap (ImpFuse.builtRefs b) = .error e
    | .ok (outs, stats) => ∃ heap_b heap_g heap_a assemblies,
        Gen.Imp.BuildAssembly_assemblies_with_scaffolds_fused b.store (b.extra.map loSrc) b0 j0 [] (junctionsByPrefix input)
          namer name b.joinGap (ImpFuse.builtRefs b)
          = .ok (heap_b, heap_g, heap_a, stats.breaks, stats.joins, perToSrc stats.perAssembly, assemblies) ∧
        PyRt.asmDictView heap_a heap_b assemblies
          = outs.map (fun a => (a.key, ({ name := name, curated := a.curated, scaffolds := a.scaffolds } : Assembly))) ∧
        stats.cuts = b.cuts :=
  assemblies_fused_is_source_of_entries input b namer name b0 j0 hp (Nat.le_trans (fusedSplit_entries_le b) hcount)

/-- read from the source's side: whenever the source returns, the model returns, with these outputs, curated
    flags and counts (and when the source raises, the model raises the same exception: the `match` above) -/
theorem assemblies_fused_source_ok (input : List Scaffold) (b : Build) (namer : PyRt.SrcNamer) (name : Str) (b0 j0 : Int)
    (hp : namer.autosome_prefix = b.namer.autosomePrefix) (hcount : (fuseByName b).length ≤ 1114047)
    (heap_b : List Scaffold) (heap_g : List PyRt.GData) (heap_a : List PyRt.AsmObj) (breaks joins : Int)
    (per : List (Str × List (Str × Int))) (assemblies : List (Option Str × Nat))
    (h : Gen.Imp.BuildAssembly_assemblies_with_scaffolds_fused b.store (b.extra.map loSrc) b0 j0 [] (junctionsByPrefix input)
          namer name b.joinGap (ImpFuse.builtRefs b) = .ok (heap_b, heap_g, heap_a, breaks, joins, per, assemblies)) :
    ∃ outs stats, assembliesFused input b = .ok (outs, stats) ∧
      (PyRt.asmDictView heap_a heap_b assemblies).map (fun kv => (kv.1, kv.2.curated, kv.2.scaffolds))
        = outs.map (fun a => (a.key, a.curated, a.scaffolds)) ∧
      breaks = stats.breaks ∧ joins = stats.joins ∧ per = perToSrc stats.perAssembly := by
  obtain ⟨⟨outs, stats⟩, hm, _, _, _, _, e, hv, -⟩ :=
    ImpRemap.Ref.of_src_ok (fused_ref input b namer name b0 j0 hp (Nat.le_trans (fusedSplit_entries_le b) hcount)) h
  cases e
  exact ⟨outs, stats, hm, by rw [hv, List.map_map]; rfl, rfl, rfl, rfl⟩

/-- the hypotheses hold of the running example -/
example : ({ autosome_prefix := "SUPER_".toList } : PyRt.SrcNamer).autosome_prefix = fzB.namer.autosomePrefix ∧
    (fuseByName fzB).length ≤ 1114047 := ⟨rfl, by decide +kernel⟩

/-- the generated driver on it (incoming counters 7 / 9 are overwritten): the longer autosome `S2` becomes `SUPER_1`, the rank-2 scaffold
    gets the prefix, the haplotig goes to the uncurated assembly "Haplotig", the left-over to the assembly `None`; the natural sort puts
    `SUPER_1` first; 3 breaks, 1 join, one record (the input junctions are all under the prefix `None`) -/
example : (Gen.Imp.BuildAssembly_assemblies_with_scaffolds_fused fzB.store (fzB.extra.map loSrc) 7 9 [] (junctionsByPrefix fzInput)
      { autosome_prefix := "SUPER_".toList } "asm".toList fzB.joinGap (ImpFuse.builtRefs fzB)).map fzShow
    = .ok ([(some fzHap, true, ["SUPER_1".toList, "SUPER_2".toList, "SUPER_X".toList]),
            (some "Haplotig".toList, false, ["H_1".toList]), (none, true, ["s9".toList])],
           3, 1, [("Primary".toList, [("manual_breaks".toList, 3), ("manual_joins".toList, 0)])]) := by
  decide +kernel

/-- … and the model on the same input, evaluated independently -/
example : (assembliesFused fzInput fzB).map (fun r =>
      (r.1.map (fun a => (a.key, a.curated, a.scaffolds.map (·.name))), r.2.cuts, r.2.breaks, r.2.joins, r.2.perAssembly))
    = .ok ([(some fzHap, true, ["SUPER_1".toList, "SUPER_2".toList, "SUPER_X".toList]),
            (some "Haplotig".toList, false, ["H_1".toList]), (none, true, ["s9".toList])],
           2, 3, 1, [(sPrimary, 3, 0)]) := by
  decide +kernel

/-- an exception: the state of `C07ImpFuse` has a rank-1 scaffold without `original_name` — ValueError out of `build_groups`, both sides -/
example : Gen.Imp.BuildAssembly_assemblies_with_scaffolds_fused C07.exB.store (C07.exB.extra.map loSrc) 0 0 [] (junctionsByPrefix fzInput)
      { autosome_prefix := [] } "asm".toList C07.exB.joinGap (ImpFuse.builtRefs C07.exB) = .error .value ∧
    (assembliesFused fzInput C07.exB).map (fun r => r.2.cuts) = .error .value := by
  decide +kernel

/-! ### 2. the whole remap -/

/- NOTE (how phase 1 feeds phase 2).  The translated phase 1 represents `BuildAssembly.scaffolds` by the flag `Res.added` on the store
   entries (`PyRt.markAdded`) and the list `added_lo` of left-over references; it does not keep the ORDER in which results were added.
   `ImpPhase2.sourceRemap` hands phase 2 the list `ImpPhase2.phase2Scaffolds store added_lo`: added results in STORE order, then the
   left-overs.  That the Python list has this order (a result is added in the pass that creates it; `add_missing_scaffolds_from_input`
   runs last) is the run-time convention of `PyRt.markAdded` — it is the glue between the two translated kernels, stated as a DEFINITION,
   not proved from the Python text, and it is the only such assumption.  With it `C07.scaffolds_fused_by_name_is_source` applies (no
   `.res` after a `.lo`: the re-binding of `gap` found there is not reachable). -/

/-- **The whole pipeline.**  For every input with distinct scaffold names, Pretext assembly, prefix, default gap, error length, the
    fuels of `C01.remap_to_input_refines` (`RemapFuel`) and of the junction iterator (one unit per fragment of the longest input
    scaffold), any `self.name` and incoming counters: `BuildAssembly.__init__` state → `remap_to_input_assembly` →
    `assemblies_with_scaffolds_fused` of the source raises exactly the exception the model's `remap` raises, and otherwise returns the
    model's cut / break / join counts, per-assembly records and — through the references — output assemblies with their curated flags -/
theorem source_remap_is_model (input ptx : List Scaffold) (prefix_ : Str) (g : Gap) (err : Int) (fuel fuelJ : Nat) (name : Str) (b0 j0 : Int)
    (hdup : C01.inputNamesDistinct input) (hfuel : C01.RemapFuel input ptx prefix_ (some g) err fuel)
    (hfj : ∀ s ∈ input, (Scaffold.fragments s).length ≤ fuelJ)
    (hcount : ∀ b, remapToInput input ptx prefix_ (some g) err = .ok b → (fuseByName b).length ≤ 1114047) :
    match remap input ptx prefix_ (some g) err with
    | .error e => sourceRemap fuel fuelJ input ptx prefix_ g err name b0 j0 = .error e
    | .ok (outs, stats) => ∃ heap_b heap_g heap_a assemblies,
        sourceRemap fuel fuelJ input ptx prefix_ g err name b0 j0
          = .ok (stats.cuts, heap_b, heap_g, heap_a, stats.breaks, stats.joins, perToSrc stats.perAssembly, assemblies) ∧
        PyRt.asmDictView heap_a heap_b assemblies
          = outs.map (fun a => (a.key, ({ name := name, curated := a.curated, scaffolds := a.scaffolds } : Assembly))) :=
  (remap_ref input ptx prefix_ g err fuel fuelJ name b0 j0 hdup hfuel hfj hcount).elim (fun _ h => h)
    fun ⟨_, _⟩ ⟨_, _⟩ h ⟨hc, hb, hg, ha, asms, e, hv, _⟩ => ⟨hb, hg, ha, asms, by cases hc; cases e; exact h, hv⟩

/-- `sourceRemap` is, verbatim, the two generated functions one after the other -/
example (fuel fuelJ : Nat) (input ptx : List Scaffold) (prefix_ : Str) (g : Gap) (err : Int) (name : Str) (b0 j0 : Int) :
    sourceRemap fuel fuelJ input ptx prefix_ g err name b0 j0 =
      (Gen.Imp.BuildAssembly_remap_to_input_assembly fuel [] (C01.remapStart input prefix_ (some g) err).nextOid [] { autosome_prefix := prefix_ }
          [] [] 0 ptx input err g (C01.inputOverlaps input) >>= fun p1 =>
        Gen.Imp.BuildAssembly_assemblies_with_scaffolds_fused p1.1 p1.2.2.1 b0 j0 []
            (Gen.Imp.Assembly_fragment_junctions_by_asm_prefix fuelJ input) p1.2.2.2.2.2.1 name (some g)
            (((List.range p1.1.length).filter (fun sid => (p1.1.getD sid default).added)).map PyRt.BuiltRef.res
              ++ p1.2.2.2.1.map PyRt.BuiltRef.lo) >>= fun p2 =>
        .ok (p1.2.2.2.2.2.2.2.2, p2)) := rfl

/-- the hypotheses are met by the end-to-end example of `C01ImpRemap` (contig `a` cut at 60 | 61, contig `b` left over) -/
example : (∀ s ∈ C01.rmInput, (Scaffold.fragments s).length ≤ 2) ∧
    (∀ b, remapToInput C01.rmInput C01.rmPtx C01.rmPrefix (some C01.rmG200) 3 = .ok b → (fuseByName b).length ≤ 1114047) := by
  refine ⟨by decide, ?_⟩
  intro b hb
  rw [C01.rm_model_run] at hb
  cases hb
  decide +kernel

/-- the source's whole remap on it: one cut, one break (`a | gap | b` is gone), one join (`a:61-100 | gap | c`), one record; the primary
    assembly holds `SUPER_1` (three rows: it is the longer one), `SUPER_2` and the left-over `s1` -/
example : (sourceRemap 5 2 C01.rmInput C01.rmPtx C01.rmPrefix C01.rmG200 3 "asm".toList 0 0).map (fun r => (r.1, fzShow r.2))
    = .ok (1, [(none, true, ["SUPER_1".toList, "SUPER_2".toList, "s1".toList])], 1, 1,
           [("Primary".toList, [("manual_breaks".toList, 1), ("manual_joins".toList, 1)])]) := by
  rw [sourceRemap, C01.rm_source_run]
  decide +kernel

/-- … and the model -/
example : (remap C01.rmInput C01.rmPtx C01.rmPrefix (some C01.rmG200) 3).map (fun r =>
      (r.2.cuts, r.1.map (fun a => (a.key, a.curated, a.scaffolds.map (·.name))), r.2.breaks, r.2.joins, r.2.perAssembly))
    = .ok (1, [(none, true, ["SUPER_1".toList, "SUPER_2".toList, "s1".toList])], 1, 1, [(sPrimary, 1, 1)]) := by
  rw [remap, C01.rm_model_run]
  decide +kernel

end AgpTpf.C10
