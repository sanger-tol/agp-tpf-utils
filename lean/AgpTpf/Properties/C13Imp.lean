/-
  C13 / C03 / C14 over the SOURCE (T1c): the chunk iterators of `fasta/index.py` (`get_gap_iter`, `fwd_chunks`, `rev_chunks`,
  `get_info`, `get_sequence_iter`) and `fasta/simple.py` (`reverse_complement`, `revcomp_bytes_io`), as translated from the current
  /repo source (`Gen.Imp.*`; a generator is translated to the LIST of values it yields), ARE the model's `gapChunkList` /
  `fwdChunkList` / `revChunkList` / `getInfo` / `reverseComplement` — and `FastaStream.write_scaffold`, as translated, run with these
  translated iterators, writes the model's bytes (`write_scaffold_with_source_iterators`).

  About `buffer_size`.  The ties of items 3–6 are stated for `1 ≤ bs`.  The equalities themselves hold for every `bs ≠ 0`
  (the `…_any_bs` theorems, from which the stated ones follow): there translated source and model do the same integer arithmetic.
  What `1 ≤ bs` excludes:
    * `bs = 0`: Python raises `ZeroDivisionError` (`length // max_length`, `(end - start) // max_length`), and so does the translated
      source: a `//` with a non-literal divisor is translated to the CHECKED `PyRt.floorDiv` (the `…_zero_buffer` theorems:
      `.error .zeroDiv`, before anything is yielded).  The MODEL does not: it divides with the total `pyDiv` (`pyDiv _ 0 = 0`,
      `Int.fdiv`) and yields one chunk instead (an empty one for a gap; `sequence_bytes(info, start, start - 1)` for a fragment).
      So at `bs = 0` source and model DIFFER (examples below), every equality with the model in this file carries `bs ≠ 0`
      (or `1 ≤ bs`), and the model's `streamScaffold` says nothing about what Python does with `buffer_size = 0`.
    * `bs < 0`: no exception in Python; both sides follow Python: `1 + length // bs ≤ 0` chunks for a gap longer than `-bs`
      (the gap silently vanishes from the output), see the examples.
-/
import AgpTpf.Proofs.ImpFasta
import AgpTpf.Proofs.ImpEval
import AgpTpf.Properties.C03Imp
import AgpTpf.Proofs.C03Example
namespace AgpTpf.C13
open AgpTpf AgpTpf.ImpEval

/-! ## 1. `reverse_complement`, `revcomp_bytes_io` -/

theorem reverse_complement_is_source (s : Bytes) : Gen.Imp.reverse_complement_imp s = .ok (reverseComplement s) := rfl

example : Gen.Imp.reverse_complement_imp [65, 67, 103, 78, 45] = .ok [45, 78, 99, 71, 84] := by
  decide +kernel

/-- `revcomp_bytes_io(seq)`: a NEW `BytesIO` (cursor 0) holding the reverse complement of `seq.getvalue()` — the whole contents,
    wherever the cursor of `seq` stands -/
theorem revcomp_bytes_io_is_source (c : PyRt.BytesIO) :
    Gen.Imp.revcomp_bytes_io_imp c reverseComplement = .ok { data := reverseComplement c.data, pos := 0 } := rfl

example : Gen.Imp.revcomp_bytes_io_imp { data := [65, 67, 103, 78], pos := 4 } reverseComplement
    = .ok { data := [78, 99, 71, 84], pos := 0 } := by
  decide +kernel

/-! ## 2. `get_info` -/

/-- `self.index.get(name)`, `ValueError` when absent (`if not info`: a `FastaInfo` object is always truthy) -/
theorem get_info_is_source (idx : List (Str × FastaInfo)) (name : Str) :
    Gen.Imp.FastaIndex_get_info name idx = getInfo idx name := by
  unfold Gen.Imp.FastaIndex_get_info getInfo
  cases dGet? idx name <;> rfl

example : Gen.Imp.FastaIndex_get_info "b".toList
    [("a".toList, { length := 8, fileOffset := 3, rpl := 6, mll := 7 }),
     ("b".toList, { length := 2, fileOffset := 16, rpl := 2, mll := 3 })]
    = .ok { length := 2, fileOffset := 16, rpl := 2, mll := 3 } := by
  str_lits
  decide +kernel
example : Gen.Imp.FastaIndex_get_info "zz".toList [("a".toList, { length := 8, fileOffset := 3, rpl := 6, mll := 7 })]
    = .error .value := by
  str_lits
  decide +kernel

/-! ## 3. `get_gap_iter` -/

/-- for every `buffer_size` but 0 (see the header for `bs ≤ 0`) -/
theorem get_gap_iter_is_source_any_bs (g : Gap) (c : Nat) (bs : Int) (hbs : bs ≠ 0) :
    Gen.Imp.FastaIndex_get_gap_iter_imp g [c] bs = .ok (C03.modelGapIter bs (.gap g) [c]) := by
  unfold Gen.Imp.FastaIndex_get_gap_iter_imp C03.modelGapIter gapChunkList
  dsimp only
  simp only [PyRt.floorDiv, if_neg hbs, ok_bind]
  rw [ImpFasta.rangeUp_zero, List.map_map]
  refine (ImpFasta.generator_eq_mapM _ _ _ _ _ _ ?_ ?_ ?_).trans (mapM_ok fun _ _ => rfl)
  · first | rfl | (congr 1; omega)
  · intro k _ acc
    simp only [Function.comp, List.headD_cons]
    exact ImpFasta.yield_gap_congr acc c (by omega)
  · intro ys; rfl

/-- `buffer_size = 0`: `ZeroDivisionError` (`length // max_length`), as in Python, before the first chunk -/
theorem get_gap_iter_zero_buffer (g : Gap) (c : Nat) :
    Gen.Imp.FastaIndex_get_gap_iter_imp g [c] 0 = .error .zeroDiv := by
  unfold Gen.Imp.FastaIndex_get_gap_iter_imp
  simp only [PyRt.floorDiv, if_true]
  rfl

/-- `get_gap_iter(gap, gap_character)` with a ONE-byte gap character (what `FastaStream` passes: `b"N"`) yields the model's chunks:
    one `BytesIO` of `n` copies of the character per entry `n` of `gapChunkList gap.length buffer_size`; it never raises
    (for `buffer_size = 0` it does: `get_gap_iter_zero_buffer`).
    * A gap character of another length is where source and model part (the model replicates the FIRST byte, `b"N"` if there is
      none; the source repeats the whole byte string): see the two examples below.  `FastaStream.gap_character` is a class
      attribute fixed to `b"N"`, so `write_scaffold` never gets there. -/
theorem get_gap_iter_is_source (g : Gap) (c : Nat) (bs : Int) (hbs : 1 ≤ bs) :
    Gen.Imp.FastaIndex_get_gap_iter_imp g [c] bs = .ok (C03.modelGapIter bs (.gap g) [c]) :=
  get_gap_iter_is_source_any_bs g c bs (by omega)

example : Gen.Imp.FastaIndex_get_gap_iter_imp { length := 5, gapType := "scaffold".toList } [78] 3
    = .ok [{ data := [78, 78, 78] }, { data := [78, 78] }] := by
  str_lits
  decide +kernel
/-- a gap whose length is a multiple of `buffer_size` ends in an EMPTY chunk (source and model alike) -/
example : Gen.Imp.FastaIndex_get_gap_iter_imp { length := 6, gapType := "scaffold".toList } [78] 3
    = .ok [{ data := [78, 78, 78] }, { data := [78, 78, 78] }, { data := [] }] := by
  str_lits
  decide +kernel
/-- gap character of length 2 / 0: the source repeats the string, the model its first byte / `N` (FALSE without `[c]`) -/
example : Gen.Imp.FastaIndex_get_gap_iter_imp { length := 2, gapType := "scaffold".toList } [78, 45] 3
      = .ok [{ data := [78, 45, 78, 45] }]
    ∧ C03.modelGapIter 3 (.gap { length := 2, gapType := "scaffold".toList }) [78, 45] = [{ data := [78, 78] }] := by
  str_lits
  decide +kernel
example : Gen.Imp.FastaIndex_get_gap_iter_imp { length := 2, gapType := "scaffold".toList } [] 3 = .ok [{ data := [] }]
    ∧ C03.modelGapIter 3 (.gap { length := 2, gapType := "scaffold".toList }) [] = [{ data := [78, 78] }] := by
  str_lits
  decide +kernel
/-- `bs = 0`: `ZeroDivisionError` in the source (as Python), one empty chunk in the model — they DIFFER (FALSE without `bs ≠ 0`);
    `bs = -3`: no chunk at all on both sides (as Python) -/
example : Gen.Imp.FastaIndex_get_gap_iter_imp { length := 5, gapType := "scaffold".toList } [78] 0 = .error .zeroDiv
    ∧ C03.modelGapIter 0 (.gap { length := 5, gapType := "scaffold".toList }) [78] = [{ data := [] }] := by
  str_lits
  decide +kernel
example : Gen.Imp.FastaIndex_get_gap_iter_imp { length := 5, gapType := "scaffold".toList } [78] (-3) = .ok []
    ∧ C03.modelGapIter (-3) (.gap { length := 5, gapType := "scaffold".toList }) [78] = [] := by
  str_lits
  decide +kernel

/-! ## 4. `fwd_chunks`, `rev_chunks` -/

/-- `fwd_chunks` for ANY `self.sequence_bytes`: one call per entry `(chunk_start, chunk_end)` of the model's `fwdChunkList`, in that
    order, results yielded as they are; the first call that raises is the exception (a generator: the chunks before it have been
    handed out, but the list — and the `for` loop consuming it — has no result).  For every `buffer_size` but 0. -/
theorem fwd_chunks_is_source_any_bs (info : FastaInfo) (start stop bs : Int) (sb : FastaInfo → Int → Int → R PyRt.BytesIO)
    (hbs : bs ≠ 0) :
    Gen.Imp.FastaIndex_fwd_chunks_imp info start stop bs sb = (fwdChunkList start stop bs).mapM (fun b => sb info b.1 b.2) := by
  unfold Gen.Imp.FastaIndex_fwd_chunks_imp fwdChunkList
  dsimp only
  simp only [PyRt.floorDiv, if_neg hbs, ok_bind]
  rw [ImpFasta.rangeUp_zero, mapM_map]
  apply ImpFasta.generator_eq_mapM
  · first | rfl | (congr 1; omega)
  · intro k _ acc
    refine ImpFasta.yield_call_congr (sb info) (fun y => PyRt.Ctl.next (acc ++ [y])) ?_ ?_ <;> simp only [chunkBounds] <;> omega
  · intro ys; rfl

/-- `buffer_size = 0`: `ZeroDivisionError` (`(end - start) // max_length`), as in Python, before `sequence_bytes` is called at all -/
theorem fwd_chunks_zero_buffer (info : FastaInfo) (start stop : Int) (sb : FastaInfo → Int → Int → R PyRt.BytesIO) :
    Gen.Imp.FastaIndex_fwd_chunks_imp info start stop 0 sb = .error .zeroDiv := by
  unfold Gen.Imp.FastaIndex_fwd_chunks_imp
  simp only [PyRt.floorDiv, if_true]
  rfl

/-- `rev_chunks` for ANY `self.sequence_bytes` and `revcomp_bytes_io`: one call per entry of `revChunkList` (last chunk first),
    each result passed through `revcomp_bytes_io`.  For every `buffer_size` but 0. -/
theorem rev_chunks_is_source_any_bs (info : FastaInfo) (start stop bs : Int) (sb : FastaInfo → Int → Int → R PyRt.BytesIO)
    (rc : PyRt.BytesIO → PyRt.BytesIO) (hbs : bs ≠ 0) :
    Gen.Imp.FastaIndex_rev_chunks_imp info start stop bs sb rc =
      (revChunkList start stop bs).mapM (fun b => (sb info b.1 b.2).map rc) := by
  unfold Gen.Imp.FastaIndex_rev_chunks_imp revChunkList
  dsimp only
  simp only [PyRt.floorDiv, if_neg hbs, ok_bind]
  rw [ImpFasta.rangeDown_neg_one]
  split
  · rfl
  · rw [mapM_map]
    apply ImpFasta.generator_eq_mapM
    · rfl
    · intro k _ acc
      refine ImpFasta.yield_call_congr' (sb info) rc (fun y => PyRt.Ctl.next (acc ++ [y])) ?_ ?_
        <;> simp only [chunkBounds] <;> omega
    · intro ys; rfl

/-- `buffer_size = 0`: `ZeroDivisionError`, as in Python, before `sequence_bytes` is called at all -/
theorem rev_chunks_zero_buffer (info : FastaInfo) (start stop : Int) (sb : FastaInfo → Int → Int → R PyRt.BytesIO)
    (rc : PyRt.BytesIO → PyRt.BytesIO) :
    Gen.Imp.FastaIndex_rev_chunks_imp info start stop 0 sb rc = .error .zeroDiv := by
  unfold Gen.Imp.FastaIndex_rev_chunks_imp
  simp only [PyRt.floorDiv, if_true]
  rfl

/-- `self.sequence_bytes` as the model has it (`sequenceBytes`: same bytes, same exception), returning a `BytesIO` whose cursor
    stands at `p data`.  In Python the object was only written to, so its cursor is at the end (`p = List.length`); nothing below
    depends on `p` — `write_scaffold` does `chunk.seek(0)`, `revcomp_bytes_io` uses `getvalue()`. -/
def srcSequenceBytes (file : Bytes) (p : Bytes → Nat) : FastaInfo → Int → Int → R PyRt.BytesIO :=
  fun info s e => (sequenceBytes file info s e).map (fun rl => ({ data := rl.data, pos := p rl.data } : PyRt.BytesIO))

/-- a translated function that cannot fail, used where the caller's parameter is a plain function -/
def okOr {α : Type} (d : α) : R α → α
  | .ok a => a
  | .error _ => d

/-- `reverse_complement` / `revcomp_bytes_io` as TRANSLATED, plugged into each other (both are always `.ok`: item 1) -/
def srcReverseComplement (s : Bytes) : Bytes := okOr s (Gen.Imp.reverse_complement_imp s)
def srcRevcompBytesIO (c : PyRt.BytesIO) : PyRt.BytesIO := okOr c (Gen.Imp.revcomp_bytes_io_imp c srcReverseComplement)

theorem srcReverseComplement_eq : srcReverseComplement = reverseComplement := rfl
theorem srcRevcompBytesIO_eq (c : PyRt.BytesIO) : srcRevcompBytesIO c = { data := reverseComplement c.data, pos := 0 } := rfl

/-- `fwd_chunks` over the model's `sequence_bytes`: the requests are `fwdChunkList`, the results the bytes read (cursor `p`) -/
theorem fwd_chunks_is_source (file : Bytes) (p : Bytes → Nat) (info : FastaInfo) (start stop bs : Int) (hbs : 1 ≤ bs) :
    Gen.Imp.FastaIndex_fwd_chunks_imp info start stop bs (srcSequenceBytes file p) =
      (fwdChunkList start stop bs).mapM (fun b =>
        (sequenceBytes file info b.1 b.2).map (fun rl => ({ data := rl.data, pos := p rl.data } : PyRt.BytesIO))) :=
  fwd_chunks_is_source_any_bs info start stop bs _ (by omega)

/-- `rev_chunks` over the model's `sequence_bytes` and the translated `revcomp_bytes_io` ∘ `reverse_complement`: the requests are
    `revChunkList`, the results the reverse complement of the bytes read, in fresh `BytesIO`s (cursor 0 whatever `p`) -/
theorem rev_chunks_is_source (file : Bytes) (p : Bytes → Nat) (info : FastaInfo) (start stop bs : Int) (hbs : 1 ≤ bs) :
    Gen.Imp.FastaIndex_rev_chunks_imp info start stop bs (srcSequenceBytes file p) srcRevcompBytesIO =
      (revChunkList start stop bs).mapM (fun b =>
        (sequenceBytes file info b.1 b.2).map (fun rl => ({ data := reverseComplement rl.data, pos := 0 } : PyRt.BytesIO))) := by
  rw [rev_chunks_is_source_any_bs _ _ _ _ _ _ (by omega)]
  apply mapM_congr
  intro b _
  simp only [srcSequenceBytes]
  cases sequenceBytes file info b.1 b.2 <;> rfl

/-! Examples: the file `>a\nACGTNN\nAC\n` (index entry: offset 3, 6 residues per line, 7 bytes per line), `buffer_size = 3`,
    residues 3..8 = `GTNNAC`; cursor at the end of each `sequence_bytes` result, as in Python. -/

example : Gen.Imp.FastaIndex_fwd_chunks_imp { length := 8, fileOffset := 3, rpl := 6, mll := 7 } 3 8 3
    (srcSequenceBytes [62, 97, 10, 65, 67, 71, 84, 78, 78, 10, 65, 67, 10] List.length)
    = .ok [{ data := [71, 84, 78], pos := 3 }, { data := [78, 65, 67], pos := 3 }] := by
  decide +kernel
example : Gen.Imp.FastaIndex_rev_chunks_imp { length := 8, fileOffset := 3, rpl := 6, mll := 7 } 3 8 3
    (srcSequenceBytes [62, 97, 10, 65, 67, 71, 84, 78, 78, 10, 65, 67, 10] List.length) srcRevcompBytesIO
    = .ok [{ data := [71, 84, 78], pos := 0 }, { data := [78, 65, 67], pos := 0 }] := by
  decide +kernel
/-- the requests: with a `sequence_bytes` that records its arguments in the result -/
example : Gen.Imp.FastaIndex_fwd_chunks_imp default 3 8 3 (fun _ s e => .ok { data := [s.toNat, e.toNat] })
    = .ok [{ data := [3, 5] }, { data := [6, 8] }] := by
  decide +kernel
example : Gen.Imp.FastaIndex_rev_chunks_imp default 3 9 3 (fun _ s e => .ok { data := [s.toNat, e.toNat] }) id
    = .ok [{ data := [9, 9] }, { data := [6, 8] }, { data := [3, 5] }] := by
  decide +kernel
/-- an exception of `sequence_bytes` (`rpl = 0`: `ZeroDivisionError`) is the result -/
example : Gen.Imp.FastaIndex_fwd_chunks_imp { length := 8, fileOffset := 3, rpl := 0, mll := 7 } 3 8 3
    (srcSequenceBytes [62, 97, 10, 65, 67, 71, 84, 78, 78, 10, 65, 67, 10] List.length) = .error .zeroDiv := by
  decide +kernel
/-- `bs = 0`: `ZeroDivisionError` in the source (as Python) although `sequence_bytes` would succeed; the model's request lists
    hold the one request `(start, start - 1)` — they DIFFER (FALSE without `bs ≠ 0`); `bs = -3` (a `bs ≠ 0`): equal, no request -/
example : Gen.Imp.FastaIndex_fwd_chunks_imp default 3 8 0 (fun _ s e => .ok { data := [s.toNat, e.toNat] }) = .error .zeroDiv
    ∧ Gen.Imp.FastaIndex_rev_chunks_imp default 3 8 0 (fun _ s e => .ok { data := [s.toNat, e.toNat] }) id = .error .zeroDiv
    ∧ fwdChunkList 3 8 0 = [(3, 2)] ∧ revChunkList 3 8 0 = [(3, 2)] := by
  decide +kernel
example : Gen.Imp.FastaIndex_fwd_chunks_imp default 3 8 (-3) (fun _ s e => .ok { data := [s.toNat, e.toNat] }) = .ok []
    ∧ fwdChunkList 3 8 (-3) = [] := by
  decide +kernel

/-! ## 5. `get_sequence_iter`: the composition of the translated pieces -/

/-- `fai.get_sequence_iter(row)` built from TRANSLATED functions only: the translated `get_sequence_iter`, whose `self.get_info`,
    `self.rev_chunks`, `self.fwd_chunks` are the translated ones, whose `revcomp_bytes_io` / `reverse_complement` are the
    translated ones; `self.sequence_bytes` is the model's (tied to the source's seek/read plan by `Kernels.sequence_bytes_plan_eq`).
    On a Gap row (never passed by `write_scaffold`, which tests `isinstance(row, Gap)`): `AttributeError` (`frag.name`), which is
    also what `C03.modelSeqIter` says. -/
def srcSeqIter (file : Bytes) (idx : List (Str × FastaInfo)) (bs : Int) (p : Bytes → Nat) (row : Row) : R (List PyRt.BytesIO) :=
  match row with
  | .frag f =>
    Gen.Imp.FastaIndex_get_sequence_iter f (fun name => Gen.Imp.FastaIndex_get_info name idx)
      (fun info s e => Gen.Imp.FastaIndex_rev_chunks_imp info s e bs (srcSequenceBytes file p) srcRevcompBytesIO)
      (fun info s e => Gen.Imp.FastaIndex_fwd_chunks_imp info s e bs (srcSequenceBytes file p))
  | .gap _ => .error .attribute

/-- `fai.get_gap_iter(row, gap_character)` from the translated `get_gap_iter` (which never raises for `bs ≠ 0`: item 3).  On a
    Fragment row (never passed by `write_scaffold`): no chunks, as `C03.modelGapIter` — Python would go on with `frag.length`; the
    value is irrelevant for every statement below, the writer does not call it.
    `bs = 0`: the translated `get_gap_iter` raises `ZeroDivisionError` (`get_gap_iter_zero_buffer`); the translated writer takes
    its gap iterator as a TOTAL function (`Row → List Nat → List BytesIO`), so that exception cannot be passed on here (`okOr`
    gives no chunks).  Every statement below about `srcGapIter` therefore carries `bs ≠ 0` (or `1 ≤ bs`). -/
def srcGapIter (bs : Int) (row : Row) (gc : List Nat) : List PyRt.BytesIO :=
  match row with
  | .gap g => okOr [] (Gen.Imp.FastaIndex_get_gap_iter_imp g gc bs)
  | .frag _ => []

/-- the composition, for every `buffer_size` but 0 and every cursor convention `p`: `get_info`, then one `sequence_bytes` per entry of
    the model's chunk list; on the minus strand `revcomp_bytes_io` makes fresh objects (cursor 0), on the forward strand the objects
    `sequence_bytes` returned are yielded as they are (cursor `p`) -/
theorem srcSeqIter_frag (file : Bytes) (idx : List (Str × FastaInfo)) (bs : Int) (p : Bytes → Nat) (f : Fragment) (hbs : bs ≠ 0) :
    srcSeqIter file idx bs p (.frag f) =
      getInfo idx f.name >>= fun info =>
        (if f.strand = -1 then revChunkList f.start f.stop bs else fwdChunkList f.start f.stop bs).mapM (fun b =>
          (sequenceBytes file info b.1 b.2).map (fun rl =>
            ({ data := if f.strand = -1 then reverseComplement rl.data else rl.data,
               pos := if f.strand = -1 then 0 else p rl.data } : PyRt.BytesIO))) := by
  have hfwd := fun info s e sb => fwd_chunks_is_source_any_bs info s e bs sb hbs
  have hrev := fun info s e sb rc => rev_chunks_is_source_any_bs info s e bs sb rc hbs
  simp only [srcSeqIter, Gen.Imp.FastaIndex_get_sequence_iter, get_info_is_source, hfwd, hrev, bind_ok]
  cases getInfo idx f.name with
  | error e => rfl
  | ok info =>
    simp only [ok_bind]
    by_cases hs : f.strand = -1
    · simp only [hs, decide_true, if_true]
      exact mapM_congr fun b _ => by simp only [srcSequenceBytes]; cases sequenceBytes file info b.1 b.2 <;> rfl
    · simp only [hs, decide_false, if_false, Bool.false_eq_true, srcSequenceBytes]

/-- for every `buffer_size` but 0 and every cursor convention `p`: same exception, same chunk CONTENTS in the same order.
    FALSE for `bs = 0` (example below): the source raises `ZeroDivisionError`, the model yields one chunk. -/
theorem get_sequence_iter_is_source_any_bs (file : Bytes) (idx : List (Str × FastaInfo)) (bs : Int) (p : Bytes → Nat)
    (f : Fragment) (hbs : bs ≠ 0) :
    (srcSeqIter file idx bs p (.frag f)).map (List.map (·.data))
      = (C03.modelSeqIter file idx bs (.frag f)).map (List.map (·.data)) := by
  rw [srcSeqIter_frag file idx bs p f hbs]
  simp only [C03.modelSeqIter, PyRt.asFrag, ok_bind]
  cases getInfo idx f.name with
  | error e => rfl
  | ok info =>
    simp only [ok_bind]
    rw [mapM_map_post, mapM_map_post]
    exact mapM_congr fun b _ => by cases sequenceBytes file info b.1 b.2 <;> rfl

/-- **`get_sequence_iter` as composed from the translated source = the model's `modelSeqIter`**, on the contents of the chunks.
    Equality of the `BytesIO` objects themselves is FALSE for the cursor Python leaves (`p = List.length`) on the forward strand:
    `sequence_bytes` returns a `BytesIO` it has just written (cursor at the end), `modelSeqIter` builds `{ data := …, pos := 0 }`
    (example below); on the minus strand `revcomp_bytes_io` makes fresh objects with cursor 0 and the objects are equal.
    The consumer (`write_scaffold`) seeks to 0 first: `write_scaffold_with_source_iterators`. -/
theorem get_sequence_iter_is_source (file : Bytes) (idx : List (Str × FastaInfo)) (bs : Int) (p : Bytes → Nat)
    (f : Fragment) (hbs : 1 ≤ bs) :
    (srcSeqIter file idx bs p (.frag f)).map (List.map (·.data))
      = (C03.modelSeqIter file idx bs (.frag f)).map (List.map (·.data)) :=
  get_sequence_iter_is_source_any_bs file idx bs p f (by omega)

/-- with cursor 0 (the model's convention) the two iterators are EQUAL, on every row — for every `buffer_size` but 0 -/
theorem get_sequence_iter_is_source_pos0 (file : Bytes) (idx : List (Str × FastaInfo)) (bs : Int) (row : Row) (hbs : bs ≠ 0) :
    srcSeqIter file idx bs (fun _ => 0) row = C03.modelSeqIter file idx bs row := by
  cases row with
  | gap g => rfl
  | frag f =>
    rw [srcSeqIter_frag file idx bs _ f hbs]
    simp only [C03.modelSeqIter, PyRt.asFrag, ok_bind, ite_self]
    cases getInfo idx f.name with
    | error e => rfl
    | ok info =>
      simp only [ok_bind]
      exact mapM_congr fun b _ => by cases sequenceBytes file info b.1 b.2 <;> rfl

/-- the composition, run: minus strand (objects equal to the model's), forward strand (cursor at the end: contents equal, objects not) -/
example : srcSeqIter [62, 97, 10, 65, 67, 71, 84, 78, 78, 10, 65, 67, 10]
    [("a".toList, { length := 8, fileOffset := 3, rpl := 6, mll := 7 })] 3 List.length
    (.frag { oid := 1, name := "a".toList, start := 3, stop := 8, strand := -1, tags := [] })
    = .ok [{ data := [71, 84, 78] }, { data := [78, 65, 67] }] := by
  str_lits
  decide +kernel
example : srcSeqIter [62, 97, 10, 65, 67, 71, 84, 78, 78, 10, 65, 67, 10]
      [("a".toList, { length := 8, fileOffset := 3, rpl := 6, mll := 7 })] 3 List.length
      (.frag { oid := 0, name := "a".toList, start := 1, stop := 4, strand := 1, tags := [] })
      = .ok [{ data := [65, 67, 71], pos := 3 }, { data := [84], pos := 1 }]
    ∧ C03.modelSeqIter [62, 97, 10, 65, 67, 71, 84, 78, 78, 10, 65, 67, 10]
      [("a".toList, { length := 8, fileOffset := 3, rpl := 6, mll := 7 })] 3
      (.frag { oid := 0, name := "a".toList, start := 1, stop := 4, strand := 1, tags := [] })
      = .ok [{ data := [65, 67, 71], pos := 0 }, { data := [84], pos := 0 }] := by
  str_lits
  decide +kernel
example : srcSeqIter [] [] 3 List.length
    (.frag { oid := 0, name := "zz".toList, start := 1, stop := 4, strand := 1, tags := [] }) = .error .value := by
  str_lits
  decide +kernel
/-- `bs = 0`: the source raises `ZeroDivisionError` (as Python), the model reads residues 1..0 with `sequence_bytes` and yields what
    that returns (here the whole first line) — the two theorems above are FALSE without `bs ≠ 0` -/
example : srcSeqIter [62, 97, 10, 65, 67, 71, 84, 78, 78, 10, 65, 67, 10]
      [("a".toList, { length := 8, fileOffset := 3, rpl := 6, mll := 7 })] 0 (fun _ => 0)
      (.frag { oid := 0, name := "a".toList, start := 1, stop := 4, strand := 1, tags := [] }) = .error .zeroDiv
    ∧ C03.modelSeqIter [62, 97, 10, 65, 67, 71, 84, 78, 78, 10, 65, 67, 10]
      [("a".toList, { length := 8, fileOffset := 3, rpl := 6, mll := 7 })] 0
      (.frag { oid := 0, name := "a".toList, start := 1, stop := 4, strand := 1, tags := [] })
      = .ok [{ data := [65, 67, 71, 84, 78, 78], pos := 0 }] := by
  str_lits
  decide +kernel

/-! ## 6. end to end -/

/-- the source's gap iterator, on the gap character `write_scaffold` passes, is the model's on every row (`bs ≠ 0`; for `bs = 0`
    see `srcGapIter`: no chunks, the model one empty chunk) -/
theorem srcGapIter_eq (bs : Int) (row : Row) (hbs : bs ≠ 0) :
    srcGapIter bs row Gen.gapCharacter = C03.modelGapIter bs row Gen.gapCharacter := by
  cases row with
  | frag f => rfl
  | gap g =>
    simp only [srcGapIter, show Gen.gapCharacter = [78] from rfl, get_gap_iter_is_source_any_bs g 78 bs hbs, okOr]

/-- for every `buffer_size` but 0 (FALSE for `bs = 0`, example below: the source's `get_sequence_iter` raises
    `ZeroDivisionError` on the first Fragment row, the model writes a file) -/
theorem write_scaffold_with_source_iterators_any_bs (file : Bytes) (idx : List (Str × FastaInfo)) (bs w : Int) (p : Bytes → Nat)
    (sc : Scaffold) (fuel : Nat) (hbs : bs ≠ 0)
    (hfuel : ∀ row ∈ sc.rows,
      (∀ c ∈ C03.modelGapIter bs row Gen.gapCharacter, c.data.length < fuel) ∧
      (∀ cs, C03.modelSeqIter file idx bs row = .ok cs → ∀ c ∈ cs, c.data.length < fuel)) :
    Gen.Imp.FastaStream_write_scaffold fuel sc w Gen.gapCharacter (srcGapIter bs) (srcSeqIter file idx bs p)
      = (streamScaffold file idx bs w sc).map (·.out) := by
  rw [← C03.write_scaffold_is_source file idx bs w sc fuel hfuel]
  apply ImpFasta.write_scaffold_data_congr
  · intro row _
    cases row with
    | gap g => simp only [ImpStream.rowChunks, Row.isGap, if_true, srcGapIter_eq bs _ hbs]
    | frag f =>
      simp only [ImpStream.rowChunks, Row.isGap, Bool.false_eq_true, if_false, ImpFasta.dataOf]
      exact get_sequence_iter_is_source_any_bs file idx bs p f hbs
  · exact fun row hrow => ImpStream.rowChunks_fuel (hfuel row hrow)

/-- **The source's `write_scaffold` with the source's own chunk iterators writes the model's bytes** — same bytes, same exception —
    for every `file`, index, `buffer_size ≥ 1`, `line_length` (also `≤ 0`), scaffold, and wherever `sequence_bytes` leaves the
    cursor of the `BytesIO` it returns (`p`; Python: at the end).  `srcGapIter` / `srcSeqIter` are built from TRANSLATED functions
    only (plus the model's `sequenceBytes` for `self.sequence_bytes`, tied to the source in `Kernels.sequence_bytes_plan_eq`).
    `hfuel`, as in `C03.write_scaffold_is_source`: the `while True` loop of the writer gets more passes than the longest chunk has
    bytes (see there why it is needed and tight); `write_scaffold_with_source_iterators_of_rowOK` below replaces it by
    `buffer_size < fuel` for well-formed input. -/
theorem write_scaffold_with_source_iterators (file : Bytes) (idx : List (Str × FastaInfo)) (bs w : Int) (p : Bytes → Nat)
    (sc : Scaffold) (fuel : Nat) (hbs : 1 ≤ bs)
    (hfuel : ∀ row ∈ sc.rows,
      (∀ c ∈ C03.modelGapIter bs row Gen.gapCharacter, c.data.length < fuel) ∧
      (∀ cs, C03.modelSeqIter file idx bs row = .ok cs → ∀ c ∈ cs, c.data.length < fuel)) :
    Gen.Imp.FastaStream_write_scaffold fuel sc w Gen.gapCharacter (srcGapIter bs) (srcSeqIter file idx bs p)
      = (streamScaffold file idx bs w sc).map (·.out) :=
  write_scaffold_with_source_iterators_any_bs file idx bs w p sc fuel (by omega) hfuel

/-- the translated writer over the translated iterators, run: `>a\nACGTNN\nAC\n`; scaffold `s1` = a[1..4] forward, a gap of 5,
    a[3..8] on the minus strand; `buffer_size = 3`, line length 4, fuel 4, cursors where Python leaves them -/
example : Gen.Imp.FastaStream_write_scaffold 4
    { name := "s1".toList, rows := [
      .frag { oid := 0, name := "a".toList, start := 1, stop := 4, strand := 1, tags := [] },
      .gap { length := 5, gapType := "scaffold".toList },
      .frag { oid := 1, name := "a".toList, start := 3, stop := 8, strand := -1, tags := [] }] }
    4 Gen.gapCharacter (srcGapIter 3)
    (srcSeqIter [62, 97, 10, 65, 67, 71, 84, 78, 78, 10, 65, 67, 10]
      [("a".toList, { length := 8, fileOffset := 3, rpl := 6, mll := 7 })] 3 List.length)
    = .ok (strToBytes ">s1\nACGT\nNNNN\nNGTN\nNAC\n".toList) := by
  str_lits
  decide +kernel

/-- `buffer_size = 0` (excluded above): the translated writer over the translated iterators ends in `ZeroDivisionError` on the
    first Fragment row, as Python does; the model (`streamScaffold`, total `pyDiv`) writes a file — FALSE without `bs ≠ 0` -/
example : Gen.Imp.FastaStream_write_scaffold 7
      { name := "s1".toList, rows := [
        .frag { oid := 0, name := "a".toList, start := 1, stop := 4, strand := 1, tags := [] },
        .gap { length := 5, gapType := "scaffold".toList }] }
      4 Gen.gapCharacter (srcGapIter 0)
      (srcSeqIter [62, 97, 10, 65, 67, 71, 84, 78, 78, 10, 65, 67, 10]
        [("a".toList, { length := 8, fileOffset := 3, rpl := 6, mll := 7 })] 0 List.length)
      = .error .zeroDiv
    ∧ (streamScaffold [62, 97, 10, 65, 67, 71, 84, 78, 78, 10, 65, 67, 10]
        [("a".toList, { length := 8, fileOffset := 3, rpl := 6, mll := 7 })] 0 4
        { name := "s1".toList, rows := [
          .frag { oid := 0, name := "a".toList, start := 1, stop := 4, strand := 1, tags := [] },
          .gap { length := 5, gapType := "scaffold".toList }] }).map (·.out)
      = .ok (strToBytes ">s1\nACGT\nNN\n".toList) := by
  str_lits
  decide +kernel

/-- `hfuel` is satisfiable there (all chunks have at most 3 bytes) -/
example : ∀ row ∈ [Row.frag { oid := 0, name := "a".toList, start := 1, stop := 4, strand := 1, tags := [] },
      Row.gap { length := 5, gapType := "scaffold".toList },
      Row.frag { oid := 1, name := "a".toList, start := 3, stop := 8, strand := -1, tags := [] }],
    (∀ c ∈ C03.modelGapIter 3 row Gen.gapCharacter, c.data.length < 4) ∧
    (∀ cs, C03.modelSeqIter [62, 97, 10, 65, 67, 71, 84, 78, 78, 10, 65, 67, 10]
        [("a".toList, { length := 8, fileOffset := 3, rpl := 6, mll := 7 })] 3 row = .ok cs → ∀ c ∈ cs, c.data.length < 4) := by
  str_lits
  decide +kernel

/-- **Well-formed input: `buffer_size < fuel` is enough.**  When every fragment row of the scaffold names an index entry that lays
    its residues out in `file` and lies within them (`StreamProofs.RowOK`, the hypothesis of `C13.stream_memory_bound`; gap rows of
    any length are OK), every chunk either iterator yields has at most `buffer_size` bytes, so any fuel above `buffer_size` will do.
    Here `1 ≤ bs` is used. -/
theorem write_scaffold_with_source_iterators_of_rowOK (file : Bytes) (idx : List (Str × FastaInfo)) (resOf : Str → Bytes)
    (bs w : Int) (p : Bytes → Nat) (sc : Scaffold) (fuel : Nat) (hbs : 1 ≤ bs)
    (hok : ∀ r ∈ sc.rows, StreamProofs.RowOK file idx resOf r) (hfuel : bs.toNat < fuel) :
    Gen.Imp.FastaStream_write_scaffold fuel sc w Gen.gapCharacter (srcGapIter bs) (srcSeqIter file idx bs p)
      = (streamScaffold file idx bs w sc).map (·.out) := by
  apply write_scaffold_with_source_iterators_any_bs (hbs := by omega)
  intro row hrow
  constructor
  · exact fun c hc => Nat.lt_of_le_of_lt (ImpStream.modelGapIter_length_le bs row _ c hc) hfuel
  · intro cs hcs c hc
    cases row with
    | gap g => cases hcs
    | frag f => exact Nat.lt_of_le_of_lt (ImpFasta.seqIter_chunk_le hbs file idx resOf f (hok _ hrow) cs hcs c hc) hfuel

/-- the hypotheses are satisfiable: the fixture of `Proofs/C03Example.lean` (`x:1-4(+) gap(2) x:6-10(-)` over a 3-line record),
    `buffer_size = 3`, fuel 4; and the translated writer over the translated iterators run on it -/
example : (∀ r ∈ StreamExample.exScaffold.rows,
    StreamProofs.RowOK StreamExample.exFile StreamExample.exIdx StreamExample.exResOf r) ∧ (3 : Int).toNat < 4 :=
  ⟨StreamExample.exRowsOK, by decide⟩
example : Gen.Imp.FastaStream_write_scaffold 4 StreamExample.exScaffold 4 Gen.gapCharacter (srcGapIter 3)
    (srcSeqIter StreamExample.exFile StreamExample.exIdx 3 List.length)
    = .ok (strToBytes ">s\nAACC\nNNTA\nACN\n".toList) := by
  str_lits
  decide +kernel

end AgpTpf.C13
