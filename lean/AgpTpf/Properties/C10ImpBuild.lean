/-
  C10 (T1c, phase 2) — `ChrNamer.new_group`, `ChrNamer.check_for_painted_scaffolds_missing_haplotype_tag`, `ChrNamer.check_groups` and
  `ChrNamer.build_groups` AS TRANSLATED FROM THE PYTHON SOURCE (`Gen/Imp2.lean`) against the model's `newGroup`, `groupsHaveErrors`,
  `buildGroups` and the line `if groupsHaveErrors groups then throw .chrNamer` of `assembliesFused` (`Model/Remap.lean`).

  Arenas.  A ChrGroup object is an index into `heap_g : List PyRt.GData`; `self.groups` is `some refs`.  The abstraction
  `absG : PyRt.GData → GroupData` (`Proofs/ImpBuildGroups.lean`) maps the source's `Option Str` original-name keys to the model's `Str` keys
  (`some k ↦ k`); `conG : GroupData → PyRt.GData` goes back (`absG (conG g) = g` always; `conG (absG d) = d` when no key is None).

  Well-formedness (all facts the caller can establish)
  * `(hs.map (·.1)).Nodup`: `haplotypes_seen` is a dictionary.  (For a list with a repeated key, `ChrGroup.__init__`'s `data[hap] = {}` keeps one
    entry where `newGroup` makes two.)
  * `CheckWf keys d`: the haplotype keys of group `d` are `keys` in that order; no scaffold list under an original name is empty
    (`setdefault(name, []).append(s)` never leaves one) — so `scaffolds[name][0]` in `check_groups` does not raise.
  * `NonVoid d`: some haplotype of the group has a scaffold (`new_group()` is always followed by `add_scaffold_to_haplotype`).

  DIFFERENCES FOUND (both on inputs the program cannot produce; the theorems exclude them by hypothesis and the `example`s exhibit them)
  (a) a group in which NO haplotype has a scaffold: the source's `check_groups` marks no error (`row_count = max_hap_set_count() = 0`, the
      `range(row_count)` loop does not run, so the `<empty>` test of the first haplotype is never reached); the model's `groupsHaveErrors`
      reports the empty first haplotype.  Through `build_groups` this is reachable only with `self.scaffolds = []` while
      `self.haplotypes_seen ≠ {}` (impossible: `add_scaffold` fills both): source returns normally, model raises ChrNamerError
      (`build_groups_no_entries`).
  (b) an entry of `self.scaffolds` whose haplotype text is not a key of `haplotypes_seen`: the source raises AttributeError
      (`self.data.get(hap_name)` is None), the model's `groupAdd` adds the key.  Excluded by `hkeys` (true: `add_scaffold` adds both at once).
  NOT a difference: the ERROR ORDER (ValueError for a missing / empty `original_name` inside the loop; KeyError / IndexError of
  `original_tags_of_haplotype_scaffold`; ChrNamerError last) is the same on both sides, and `last_orig = None` never reaches the dictionary
  lookup with a different outcome (the keys stored are non-empty strings, so `None` / `""` are both absent).

  Proofs: `AgpTpf/Proofs/ImpBuildGroups.lean`.
-/
import AgpTpf.Proofs.ImpEval
import AgpTpf.Proofs.ImpBuildGroups
namespace AgpTpf.C10
open AgpTpf AgpTpf.ImpBuildGroups
open scoped AgpTpf.ImpEval

/-! ### the inputs the `example`s run on -/

def ibHap1 : Str := ['H', 'a', 'p', '1']
def ibHap2 : Str := ['H', 'a', 'p', '2']
def ibHs : List (Str × Bool) := [(ibHap1, true), (ibHap2, true)]
def ibS (n o : Str) (tags : List Str) : Scaffold := { name := n, originalName := some o, originalTags := some tags }
/-- six fused scaffolds: S1 | S2, S2 (an unloc) | S3 (a Singleton) | S4 | S5 -/
def ibHeapB : List Scaffold :=
  [ibS ['a'] ['S', '1'] [], ibS ['b'] ['S', '2'] [], ibS ['c'] ['S', '2'] [], ibS ['d'] ['S', '3'] [sSingleton],
   ibS ['e'] ['S', '4'] [], ibS ['f'] ['S', '5'] []]
def ibEntries : List (Str × Nat) := [(ibHap1, 0), (ibHap2, 1), (ibHap2, 2), (ibHap1, 3), (ibHap1, 4), (ibHap2, 5)]
/-- the three groups `build_groups` makes of them -/
def ibGroups : List GroupData :=
  [[(ibHap1, [(['S', '1'], [0])]), (ibHap2, [(['S', '2'], [1, 2])])],
   [(ibHap1, [(['S', '3'], [3])]), (ibHap2, [])],
   [(ibHap1, [(['S', '4'], [4])]), (ibHap2, [(['S', '5'], [5])])]]

/-! ### 1. `new_group` -/

/-- `new_group()` allocates the model's `newGroup keys` at the end of the arena, appends the reference to `self.groups` and returns it;
    AttributeError when `self.groups` is None (`name_chromosomes` sets it to `[]` first). -/
theorem new_group_is_source (heap_g : List PyRt.GData) (self_groups : Option (List Nat)) (hs : List (Str × Bool))
    (hnd : (hs.map (·.1)).Nodup) :
    Gen.Imp.ChrNamer_new_group heap_g self_groups hs =
      (match self_groups with
       | none => .error .attribute
       | some refs => .ok (heap_g ++ [conG (newGroup (hs.map (·.1)))], some (refs ++ [heap_g.length]), heap_g.length)) ∧
    absG (conG (newGroup (hs.map (·.1)))) = newGroup (hs.map (·.1)) := by
  refine ⟨?_, absG_conG _⟩
  cases self_groups with
  | none => unfold Gen.Imp.ChrNamer_new_group; rw [ImpChrGroup.init_nf]; rfl
  | some refs => exact new_group_eq heap_g refs hs hnd

example : (ibHs.map (·.1)).Nodup := by decide +kernel
example : Gen.Imp.ChrNamer_new_group [conG (ibGroups.getD 0 [])] (some [0]) ibHs
    = .ok ([conG (ibGroups.getD 0 []), [(ibHap1, []), (ibHap2, [])]], some [0, 1], 1) := rfl
/-- why `Nodup`: a repeated key -/
example : Gen.Imp.ChrNamer_new_group [] (some []) [(ibHap1, true), (ibHap1, false)] = .ok ([[(ibHap1, [])]], some [0], 0)
    ∧ newGroup [ibHap1, ibHap1] = [(ibHap1, []), (ibHap1, [])] := ⟨rfl, rfl⟩

/-! ### 2. `check_for_painted_scaffolds_missing_haplotype_tag` -/

/-- The check never raises.  As translated it is DEAD CODE: `add_scaffold` stores `str(hap)` — the text "None" for an untagged scaffold —
    so the test `None in self.haplotypes_seen` on a dictionary of `str` keys is always False (the translator emits the constant `false`), and
    the `hap is None` filter of the message could not select anything either.  The model has no such error. -/
theorem check_painted_is_source (hs : List (Str × Bool)) :
    Gen.Imp.ChrNamer_check_for_painted_scaffolds_missing_haplotype_tag hs = .ok () :=
  check_painted_eq hs

/-- two haplotypes seen, one of them the text "None" of an untagged scaffold: no TaggingError -/
example : Gen.Imp.ChrNamer_check_for_painted_scaffolds_missing_haplotype_tag [(ibHap1, true), (PyRt.optStrText none, true)] = .ok () := by
  decide

/-! ### 3. `check_groups` -/

/-- `check_groups().errors` non-empty = the model's `groupsHaveErrors`, on well-formed groups none of which is without a scaffold.
    The source's two `mark_error` sites (`i == 0 and row_idx > 0` on an existing row: the first haplotype has a second original name;
    `row_idx == 0 and i == 0` on a missing one: the first haplotype has none) are the model's `firstSet.length ≥ 2` / `firstSet.isEmpty`
    — EXCEPT in a group where every haplotype is empty (`hnv` excludes it, see (a) above and the `example` below). -/
theorem check_groups_is_source (heap_b : List Scaffold) (heap_g : List PyRt.GData) (hs : List (Str × Bool)) (refs : List Nat)
    (hne : hs ≠ [])
    (hwf : ∀ r ∈ refs, CheckWf (hs.map (·.1)) (PyRt.gGet heap_g r))
    (hnv : ∀ r ∈ refs, NonVoid (PyRt.gGet heap_g r)) :
    Gen.Imp.ChrNamer_check_groups heap_b heap_g hs (some refs) = .ok (groupsHaveErrors (refs.map (absG ∘ PyRt.gGet heap_g))) :=
  check_groups_tie heap_b heap_g hs refs hne hwf hnv

/-- without `hnv`, exactly what the source computes: a group is in error when its first haplotype has two or more original names, or has
    none WHILE ANOTHER HAPLOTYPE HAS ONE (`srcGroupErr'`); no exception on well-formed groups -/
theorem check_groups_source_flag (heap_b : List Scaffold) (heap_g : List PyRt.GData) (hs : List (Str × Bool)) (refs : List Nat)
    (hne : hs ≠ []) (hwf : ∀ r ∈ refs, CheckWf (hs.map (·.1)) (PyRt.gGet heap_g r)) :
    Gen.Imp.ChrNamer_check_groups heap_b heap_g hs (some refs) = .ok (refs.any (fun r => srcGroupErr' (PyRt.gGet heap_g r))) :=
  check_groups_exact heap_b heap_g hs refs hne hwf

/-- `self.groups = None`: TypeError (`for grp in None`) -/
theorem check_groups_none_is_source (heap_b : List Scaffold) (heap_g : List PyRt.GData) (hs : List (Str × Bool)) :
    Gen.Imp.ChrNamer_check_groups heap_b heap_g hs none = .error .type := by
  unfold Gen.Imp.ChrNamer_check_groups
  simp only [PyRt.forIn_unit _ (fun _ _ => rfl), ok_bind, PyRt.needIter, error_bind]

/-- the three groups of the running example are fine; a group with two Hap1 names, or with only a Hap2 scaffold, is an error -/
example : Gen.Imp.ChrNamer_check_groups ibHeapB (ibGroups.map conG) ibHs (some [0, 1, 2]) = .ok false := by decide +kernel
example : Gen.Imp.ChrNamer_check_groups ibHeapB [[(ibHap1, [(some ['S', '1'], [0]), (some ['S', '4'], [4])]), (ibHap2, [])]] ibHs (some [0])
    = .ok true := by decide +kernel
example : Gen.Imp.ChrNamer_check_groups ibHeapB [[(ibHap1, []), (ibHap2, [(some ['S', '2'], [1])])]] ibHs (some [0]) = .ok true := by decide +kernel
/-- THE DIFFERENCE (a): a group without any scaffold — the source marks nothing, the model reports the empty first haplotype -/
example : Gen.Imp.ChrNamer_check_groups ibHeapB [[(ibHap1, []), (ibHap2, [])]] ibHs (some [0]) = .ok false
    ∧ groupsHaveErrors [absG [(ibHap1, []), (ibHap2, [])]] = true := by decide +kernel

/-! ### 4. `build_groups` -/

/-- `build_groups()` with `self.groups = []` on entry (as `name_chromosomes` sets it), any arena `heap_g`:
    the model's exception when `buildGroups` raises (ValueError for a scaffold without `original_name`, KeyError / IndexError out of
    `original_tags_of_haplotype_scaffold`), ChrNamerError when `groupsHaveErrors`, and otherwise the arena EXTENDED by the model's groups
    (in creation order) with `self.groups` the references to them.
    Hypotheses: `haplotypes_seen` is a non-empty dictionary; at least one scaffold was added (difference (a)); every haplotype text of
    `self.scaffolds` is a key of `haplotypes_seen` (difference (b)).  No hypothesis on the scaffold references: `heap_b` is read with the
    model's default for a reference out of range on both sides. -/
theorem build_groups_is_source (heap_b : List Scaffold) (heap_g : List PyRt.GData) (hs : List (Str × Bool)) (entries : List (Str × Nat))
    (hne : hs ≠ []) (hnd : (hs.map (·.1)).Nodup) (hent : entries ≠ []) (hkeys : ∀ e ∈ entries, e.1 ∈ hs.map (·.1)) :
    Gen.Imp.ChrNamer_build_groups heap_b heap_g (some []) hs entries =
      match buildGroups heap_b (hs.map (·.1)) entries with
      | .error e => .error e
      | .ok gs =>
        if groupsHaveErrors gs = true then .error .chrNamer
        else .ok (heap_g ++ gs.map conG, some (List.range' heap_g.length gs.length)) :=
  build_groups_tie heap_b heap_g hs entries hne hnd hent hkeys

/-- the result of `build_groups_is_source` read back: `self.groups`, through the new arena and the abstraction, IS the model's list -/
theorem build_groups_result_abs (heap_g : List PyRt.GData) (gs : List GroupData) :
    (List.range' heap_g.length gs.length).map (absG ∘ PyRt.gGet (heap_g ++ gs.map conG)) = gs :=
  result_abs heap_g gs

/-- THE DIFFERENCE (a) through `build_groups`: `self.scaffolds = []` with a non-empty `haplotypes_seen` -/
theorem build_groups_no_entries_differs (heap_b : List Scaffold) (heap_g : List PyRt.GData) (hs : List (Str × Bool))
    (hne : hs ≠ []) (hnd : (hs.map (·.1)).Nodup) :
    Gen.Imp.ChrNamer_build_groups heap_b heap_g (some []) hs [] = .ok (heap_g ++ [conG (newGroup (hs.map (·.1)))], some [heap_g.length]) ∧
    (buildGroups heap_b (hs.map (·.1)) [] >>= fun gs => if groupsHaveErrors gs = true then throw Err.chrNamer else pure gs)
      = .error .chrNamer :=
  build_groups_no_entries heap_b heap_g hs hne hnd

/-- the hypotheses hold of the running example, which makes three groups (a second Hap1 scaffold; a Singleton) in an arena that already
    holds one object -/
example : ibHs ≠ [] ∧ (ibHs.map (·.1)).Nodup ∧ ibEntries ≠ [] ∧ ∀ e ∈ ibEntries, e.1 ∈ ibHs.map (·.1) := by decide +kernel
example : Gen.Imp.ChrNamer_build_groups ibHeapB [[]] (some []) ibHs ibEntries = .ok ([] :: ibGroups.map conG, some [1, 2, 3]) := rfl
example : buildGroups ibHeapB (ibHs.map (·.1)) ibEntries = .ok ibGroups ∧ groupsHaveErrors ibGroups = false := ⟨rfl, rfl⟩
/-- ChrNamerError: two consecutive Hap1 scaffolds with different original names, the first not a Singleton -/
example : Gen.Imp.ChrNamer_build_groups ibHeapB [] (some []) ibHs [(ibHap1, 0), (ibHap1, 4)] = .error .chrNamer := rfl
/-- ValueError first: a reference to a scaffold without `original_name` (here: out of the arena) -/
example : Gen.Imp.ChrNamer_build_groups ibHeapB [] (some []) ibHs [(ibHap1, 0), (ibHap1, 4), (ibHap2, 9)] = .error .value := rfl
/-- THE DIFFERENCE (b): a haplotype text that is not a key -/
example : Gen.Imp.ChrNamer_build_groups ibHeapB [] (some []) [(ibHap1, true)] [(ibHap2, 0)] = .error .attribute
    ∧ buildGroups ibHeapB [ibHap1] [(ibHap2, 0)] = .ok [[(ibHap1, []), (ibHap2, [(['S', '1'], [0])])]] := ⟨rfl, rfl⟩
/-- THE DIFFERENCE (a) -/
example : Gen.Imp.ChrNamer_build_groups ibHeapB [] (some []) ibHs [] = .ok ([[(ibHap1, []), (ibHap2, [])]], some [0])
    ∧ groupsHaveErrors [newGroup (ibHs.map (·.1))] = true := ⟨rfl, rfl⟩

end AgpTpf.C10
