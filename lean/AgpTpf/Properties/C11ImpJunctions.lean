/-
  C11 / T1c — the junction sets of the INPUT assembly: the model's `Scaffold.junctionSet` (Model/Basic.lean) and `junctionsByPrefix` /
  `asmPrefixOfName` (Model/Remap.lean) against the source's `Scaffold.fragment_junction_set` (assembly/scaffold.py: an ITERATOR walked
  with `next()` / `except StopIteration` inside `while True`) and `Assembly.fragment_junctions_by_asm_prefix` (assembly/assembly.py:
  `re.match(r"([A-Za-z]+\d+)_", …)`, `.lower()`, `setdefault(…).update(…)`) as translated by `harness/translate_imp.py` into `Gen.Imp`
  (Gen/Imp3.lean).  Helper lemmas: Proofs/ImpJunctions.lean.

  The `while True` loop is `PyRt.whileLoop` with explicit fuel: one pass per fragment after the first, and one more for the pass in which
  `next(itr)` raises StopIteration — `(Scaffold.fragments s).length` passes for a non-empty scaffold, none for an empty one.

  RESULTS
   1  `asm_prefix_match_is_model`              full strength, all names
   2  `scaffold_junction_set_is_source`        full strength (result, exception class, WHICH error comes first) for every
                                               `fuel ≥ (Scaffold.fragments s).length` (`…_lt`: the same under `<`)
      `scaffold_junction_set_fuel_too_small`   every smaller fuel: the first error among the first `fuel` junction tuples, else `Err.other` —
      `scaffold_junction_set_fuel_tight`       never `.ok`: the bound in 2 is exact for every scaffold whose junction set exists
   3  `junctions_by_prefix_is_source`          full strength for every `fuel ≥` the number of fragments of each scaffold
   4  `assembly_junction_set_closed`           `Assembly.fragment_junction_set` with the translated scaffold method in place of the oracle
      `make_stats_closed_partial`              `C11.make_stats_is_source_partial` (keys pairwise different — the full statement is false, see
      `make_stats_counts_closed`               C11Imp.lean) and `C11.make_stats_counts_is_source` (no hypothesis on the keys) with the translated
      `make_stats_closed_normal_form`          `fragment_junctions_by_asm_prefix` in place of the oracle `junctionsByPrefix input`
-/
import AgpTpf.Gen.Imp3
import AgpTpf.Proofs.ImpJunctions
import AgpTpf.Properties.C11Imp
namespace AgpTpf.C11
open AgpTpf ImpStats ImpJunctions

/-! ### the worked input: four scaffolds under the prefixes `hap1`, `hap2`, none, `hap1` again, and an empty one -/

def hA (strand : Int) : Fragment := { name := ['H', 'a', 'p', '1', '_', 'c', '1'], start := 1, stop := 10, strand := strand }
def hB (strand : Int) : Fragment := { name := ['H', 'a', 'p', '1', '_', 'c', '2'], start := 5, stop := 5, strand := strand }
def hA2 (strand : Int) : Fragment := { name := ['H', 'a', 'p', '1', '_', 'c', '1'], start := 11, stop := 20, strand := strand }
def hC (strand : Int) : Fragment := { name := ['h', 'A', 'P', '2', '_', 'x'], start := 1, stop := 7, strand := strand }
def hD (strand : Int) : Fragment := { name := ['c', 't', 'g', '_', '9'], start := 3, stop := 4, strand := strand }

def scJ1 : Scaffold := { name := ['s', '1'], rows := [.frag (hA 1), gap100, .frag (hB (-1)), .frag (hA2 (-1)), gap100, .frag (hB 1)] }
def scJ2 : Scaffold := { name := ['s', '2'], rows := [.frag (hC 1), .frag (hC (-1))] }
def scJ3 : Scaffold := { name := ['s', '3'], rows := [.frag (hD (-1)), .frag (hA 1)] }
/-- prefix `hap1` again: one junction that `scJ1` has too (`c1 -|- c2`), one new -/
def scJ4 : Scaffold := { name := ['s', '4'], rows := [.frag (hA 1), .frag (hB (-1)), .frag (hD 1)] }
def scEmpty : Scaffold := { name := ['s', '0'], rows := [gap100] }
/-- a strand-0 fragment in second place -/
def scBad : Scaffold := { name := ['s', '5'], rows := [.frag (hA 1), .frag (hB 0), .frag (hA2 1)] }

/-! ## 1. the regex -/

/-- `m.group(1).lower() if m else None` for `m = re.match(r"([A-Za-z]+\d+)_", name)` is the model's `asmPrefixOfName` -/
theorem asm_prefix_match_is_model (name : Str) : (PyRt.asmPrefixMatch name).map lowerStr = asmPrefixOfName name :=
  asmPrefixMatch_lower name

example : PyRt.asmPrefixMatch (hC 1).name = some ['h', 'A', 'P', '2'] ∧ asmPrefixOfName (hC 1).name = some ['h', 'a', 'p', '2'] ∧
    PyRt.asmPrefixMatch (hD 1).name = none ∧ PyRt.asmPrefixMatch ['a', 'b', '_'] = none ∧ PyRt.asmPrefixMatch ['1', '2', '_'] = none := by
  decide

/-! ## 2. `Scaffold.fragment_junction_set` -/

/-- With one unit of fuel per fragment the source's iterator loop IS the model's `Scaffold.junctionSet`: the same set in the same
    insertion order, and when a junction tuple raises (a strand that is not ±1) the same exception for the same — first — pair: the
    model computes all tuples and then the set, the source adds them one by one, and `sAdd` cannot fail. -/
theorem scaffold_junction_set_is_source (s : Scaffold) (fuel : Nat) (h : (Scaffold.fragments s).length ≤ fuel) :
    Gen.Imp.Scaffold_fragment_junction_set fuel s = s.junctionSet :=
  scaffoldJunctionSetSrc_eq s fuel h

/-- the same under the stronger hypothesis `<` -/
theorem scaffold_junction_set_is_source_lt (s : Scaffold) (fuel : Nat) (h : (Scaffold.fragments s).length < fuel) :
    Gen.Imp.Scaffold_fragment_junction_set fuel s = s.junctionSet :=
  scaffoldJunctionSetSrc_eq s fuel (Nat.le_of_lt h)

example : (Scaffold.fragments scJ1).length ≤ 4 := by decide

/-- the generated function on four fragments (+ − − +, two gaps), with exactly 4 units of fuel -/
example : Gen.Imp.Scaffold_fragment_junction_set 4 scJ1
    = .ok [(.s (hA 1).name, .i 10, .i 5, .s (hB 1).name), (.s (hA 1).name, .i 20, .s (hB 1).name, .i 5),
           (.i 5, .s (hB 1).name, .s (hA 1).name, .i 11)] := by
  decide +kernel

/-- an empty scaffold (a gap only): the empty set, whatever the fuel — `next(itr)` raises at once -/
example : Gen.Imp.Scaffold_fragment_junction_set 0 scEmpty = .ok [] ∧ scEmpty.junctionSet = .ok [] := by decide +kernel

/-- a strand-0 fragment in second place: ValueError from the first junction tuple, on both sides -/
example : Gen.Imp.Scaffold_fragment_junction_set 3 scBad = .error .value ∧ scBad.junctionSet = .error .value := by decide +kernel

/-- Too little fuel: the source gets to the first `fuel` junction tuples (those of the first `fuel + 1` fragments); it raises the first
    error among them, and reports `Err.other` (out of fuel) when there is none. -/
theorem scaffold_junction_set_fuel_too_small (s : Scaffold) (fuel : Nat) (h : fuel < (Scaffold.fragments s).length) :
    Gen.Imp.Scaffold_fragment_junction_set fuel s
      = (junctionsOfFrags ((Scaffold.fragments s).take (fuel + 1)) >>= fun _ => .error .other) :=
  scaffoldJunctionSetSrc_short s fuel h

/-- … so it never returns a set: `(Scaffold.fragments s).length` is the least fuel with which the source returns what the model does,
    for every scaffold that has a junction set at all -/
theorem scaffold_junction_set_fuel_tight (s : Scaffold) (fuel : Nat) (h : fuel < (Scaffold.fragments s).length) (js : List Junction) :
    Gen.Imp.Scaffold_fragment_junction_set fuel s ≠ .ok js := by
  rw [scaffoldJunctionSetSrc_short s fuel h]
  cases junctionsOfFrags ((Scaffold.fragments s).take (fuel + 1)) <;> simp [bind, Except.bind]

/-- one unit short on `scJ1`: out of fuel; one unit on `scBad`: the ValueError is reached before the fuel runs out -/
example : Gen.Imp.Scaffold_fragment_junction_set 3 scJ1 = .error .other ∧
    Gen.Imp.Scaffold_fragment_junction_set 1 scBad = .error .value ∧
    Gen.Imp.Scaffold_fragment_junction_set 0 scBad = .error .other := by decide +kernel

/-! ## 3. `Assembly.fragment_junctions_by_asm_prefix` -/

/-- the source's loop over the scaffolds (skip an empty one; prefix of the FIRST fragment's name, lower-cased, or `None`;
    `setdefault(asm_name, set()).update(scffld.fragment_junction_set())`) is the model's `junctionsByPrefix` -/
theorem junctions_by_prefix_is_source (scs : List Scaffold) (fuel : Nat)
    (h : ∀ s ∈ scs, (Scaffold.fragments s).length ≤ fuel) :
    Gen.Imp.Assembly_fragment_junctions_by_asm_prefix fuel scs = junctionsByPrefix scs :=
  junctionsByPrefixSrc_eq scs fuel h

/-- the same under the stronger hypothesis `<` -/
theorem junctions_by_prefix_is_source_lt (scs : List Scaffold) (fuel : Nat)
    (h : ∀ s ∈ scs, (Scaffold.fragments s).length < fuel) :
    Gen.Imp.Assembly_fragment_junctions_by_asm_prefix fuel scs = junctionsByPrefix scs :=
  junctionsByPrefixSrc_eq scs fuel (fun s hs => Nat.le_of_lt (h s hs))

def inJ : List Scaffold := [scJ1, scEmpty, scJ2, scJ3, scJ4]

example : ∀ s ∈ inJ, (Scaffold.fragments s).length ≤ 4 := by decide

/-- the generated function on it: keys in first-insertion order `hap1`, `hap2`, `None`; `scJ4` adds ONE junction to the set of `hap1`
    in place (its other junction is there already) -/
example : Gen.Imp.Assembly_fragment_junctions_by_asm_prefix 4 inJ
    = .ok [(some ['h', 'a', 'p', '1'],
             [(.s (hA 1).name, .i 10, .i 5, .s (hB 1).name), (.s (hA 1).name, .i 20, .s (hB 1).name, .i 5),
              (.i 5, .s (hB 1).name, .s (hA 1).name, .i 11), (.i 3, .s (hD 1).name, .s (hB 1).name, .i 5)]),
           (some ['h', 'a', 'p', '2'], [(.s (hC 1).name, .i 7, .i 7, .s (hC 1).name)]),
           (none, [(.i 3, .s (hD 1).name, .s (hA 1).name, .i 1)])] := by
  rfl

/-- a bad strand in any scaffold: ValueError; fuel for the longest scaffold but one: out of fuel -/
example : Gen.Imp.Assembly_fragment_junctions_by_asm_prefix 4 (inJ ++ [scBad]) = .error .value ∧
    Gen.Imp.Assembly_fragment_junctions_by_asm_prefix 3 inJ = .error .other := ⟨rfl, rfl⟩

/-! ## 4. the oracles of `C11Imp.lean` replaced by the translated source -/

/-- `Assembly.fragment_junction_set` (the loop `junctions |= scffld.fragment_junction_set()`) with the TRANSLATED scaffold method for the
    call: the model's `Assembly.junctionSet` -/
theorem assembly_junction_set_closed (scs : List Scaffold) (fuel : Nat)
    (h : ∀ s ∈ scs, (Scaffold.fragments s).length ≤ fuel) :
    Gen.Imp.Assembly_fragment_junction_set scs (Gen.Imp.Scaffold_fragment_junction_set fuel)
      = ({ scaffolds := scs } : Assembly).junctionSet := by
  rw [assembly_junction_set_source_loop, Assembly.junctionSet]
  exact foldlM_congr (fun s hs acc => by rw [scaffoldJunctionSetSrc_eq s fuel (h s hs)]) []

example : (Gen.Imp.Assembly_fragment_junction_set inJ (Gen.Imp.Scaffold_fragment_junction_set 4)).map List.length = .ok 6 := by
  decide +kernel

/-- what the source's `make_stats` computes for ALL inputs (`C11.make_stats_source_normal_form`), the input junction sets computed by
    the translated `fragment_junctions_by_asm_prefix` -/
theorem make_stats_closed_normal_form (input : List Scaffold) (outs : List OutAsm) (b0 j0 : Int)
    (per0 : List (Str × List (Str × Int))) (fuel : Nat) (hf : ∀ s ∈ input, (Scaffold.fragments s).length ≤ fuel) :
    Gen.Imp.AssemblyStats_make_stats b0 j0 per0 (outs.map (fun a => (a.key, ({ scaffolds := a.scaffolds } : Assembly))))
        (Gen.Imp.Assembly_fragment_junctions_by_asm_prefix fuel input) =
      (junctionsByPrefix input >>= fun inSets =>
       outSetsOf outs >>= fun outSets =>
       let tb := sDiff (unionOf inSets) (unionOf outSets)
       let tj := sDiff (unionOf outSets) (unionOf inSets)
       .ok ((tb.length : Int), (tj.length : Int),
            (outSets.foldl (fun d p => dSet d p.1 p.2) []).foldl (perStepS inSets tb tj) per0)) := by
  rw [junctionsByPrefixSrc_eq input fuel hf]
  exact make_stats_source_normal_form input outs b0 j0 per0

/- FULL statement (FALSE — the counter-example of C11Imp.lean: keys None, "", None): the same without `hk`. -/
/-- `make_stats` on output assemblies with pairwise different keys, the input side computed by the translated source: exactly the
    model's `breaks`, `joins`, per-assembly numbers and exception class -/
theorem make_stats_closed_partial (input : List Scaffold) (outs : List OutAsm) (cuts b0 j0 : Int) (fuel : Nat)
    (hf : ∀ s ∈ input, (Scaffold.fragments s).length ≤ fuel) (hk : (outs.map (·.key)).Nodup) :
    Gen.Imp.AssemblyStats_make_stats b0 j0 [] (outs.map (fun a => (a.key, ({ scaffolds := a.scaffolds } : Assembly))))
        (Gen.Imp.Assembly_fragment_junctions_by_asm_prefix fuel input)
      = (makeStats input outs cuts).map (fun st => (st.breaks, st.joins, perToSrc st.perAssembly)) := by
  rw [junctionsByPrefixSrc_eq input fuel hf]
  exact make_stats_is_source_partial input outs cuts b0 j0 hk

/-- `breaks`, `joins` and the exception class: no hypothesis on the keys or on the incoming records -/
theorem make_stats_counts_closed (input : List Scaffold) (outs : List OutAsm) (cuts b0 j0 : Int)
    (per0 : List (Str × List (Str × Int))) (fuel : Nat) (hf : ∀ s ∈ input, (Scaffold.fragments s).length ≤ fuel) :
    (Gen.Imp.AssemblyStats_make_stats b0 j0 per0 (outs.map (fun a => (a.key, ({ scaffolds := a.scaffolds } : Assembly))))
        (Gen.Imp.Assembly_fragment_junctions_by_asm_prefix fuel input)).map (fun r => (r.1, r.2.1))
      = (makeStats input outs cuts).map (fun st => (st.breaks, st.joins)) := by
  rw [junctionsByPrefixSrc_eq input fuel hf]
  exact make_stats_counts_is_source input outs cuts b0 j0 per0

example : (∀ s ∈ inImp, (Scaffold.fragments s).length ≤ 2) ∧ (outImp.map (·.key)).Nodup := by decide

/-- the worked example of C11Imp.lean, no oracle left: breaks = 1, joins = 1, one record for "Primary" -/
example :
    Gen.Imp.AssemblyStats_make_stats 7 9 [] (outImp.map (fun a => (a.key, ({ scaffolds := a.scaffolds } : Assembly))))
        (Gen.Imp.Assembly_fragment_junctions_by_asm_prefix 2 inImp)
      = .ok (1, 1, [("Primary".toList, [("manual_breaks".toList, 1), ("manual_joins".toList, 1)])]) := by
  rfl

end AgpTpf.C11
