/-
  C09 (geometry half) — tagged pieces are routed END TO END.

  `C09.lean` proves three separate links (`label_special`, `fuse_keeps_tag`, `assembly_key`).  This file chains them
  over `remap`: which output assembly the fragments that come from a given Pretext piece end up in.

    R1 `store_tag_created`, `store_tag_stable_*`, `store_tag_stable`
         the label fields (`tag, haplotype, rank, originalName, originalTags, bait`, and `added`) of a stored lookup
         result are the ones `label_scaffold` gave when `processBait` created it; no later stage changes them
         (`rename_by_size` changes `name` only, the resolver / cutting change `rows, start, stop` only).
    R2 `piece_tag`, `piece_tag_rule`
         the i-th stored result was created by the i-th Pretext fragment whose lookup finds something (file order);
         its tag is FalseDuplicate > Haplotig > Contaminant-or-Target-mode > none, where Target mode for a piece of
         Pretext scaffold `S` means: a STRICTLY EARLIER Pretext scaffold carries a Target tag and `S` carries none.
    R3 `remap_routes_store`   END TO END: every added stored result and every left-over scaffold lies (as a contiguous
         block of rows) in a scaffold of the output assembly keyed `routeKey tag haplotype`; output keys are pairwise
         different; every fragment of every output scaffold comes from exactly such a part, with the scaffold's own
         tag and haplotype.
    R4 `tagged_piece_never_curated`   under the F16 side condition (`NoTagWordHaplotype`), for a well-formed input:
         the fragments of a piece tagged FalseDuplicate / Haplotig / Contaminant (R2's precedence) lie in the assembly
         keyed by that word, which is not curated, and any output fragment sharing a base with them is in that same
         assembly.
       `shared_base_one_assembly`, `target_mode_piece`, `tagged_leftover_never_curated` complete R4.
    R5 `target_mode_leftovers`, `leftover_tags`, `haplotype_leftovers_partial` / `haplotype_leftovers_untagged`
       (+ `leftover_step_exists`).

    R6 `piece_haplotype`, `scaffold_haplotype_tag`, `scaffold_haplotype_prefix`, `scaffold_no_haplotype`:
       which haplotype the pieces of a Pretext scaffold carry (the other argument of `routeKey`).

  All statements are at full strength except `haplotype_leftovers_partial` (left-over contigs carrying a `Primary` tag
  are excluded — never the case for an input read from FASTA; see there).  The
  known findings F10 (an unregistered name prefix invents a haplotype) and F16 (`curated` under a clash) are restated
  where they bite.
-/
import AgpTpf.Model.Remap
import AgpTpf.Properties.C01
import AgpTpf.Properties.C09
import AgpTpf.Proofs.C09RMain
import AgpTpf.Proofs.C09RHap
import AgpTpf.Proofs.ImpEval
namespace AgpTpf.C09
open AgpTpf
open scoped AgpTpf.ImpEval

/-! ## R1 — fields fixed at creation -/

/-- `oFixed` (Proofs/C09RFixed.lean) is the tuple of label fields -/
theorem oFixed_eq_iff (o o' : OverlapResult) :
    oFixed o = oFixed o' ↔
      o.tag = o'.tag ∧ o.haplotype = o'.haplotype ∧ o.rank = o'.rank ∧ o.originalName = o'.originalName ∧
      o.originalTags = o'.originalTags ∧ o.bait = o'.bait := by
  simp [oFixed]

theorem fixedOf_eq (r : Res) : fixedOf r = (oFixed r.o, r.added) ∧ fixedN r = (fixedOf r, r.o.name) := ⟨rfl, rfl⟩

/-- **Creation.**  `processBait` either leaves the store alone (lookup found nothing) or appends exactly one result, at
    index `sid = b.store.length`; its label fields and name are those `label_scaffold` returned for the fresh lookup
    result (`trim_large_overhangs`, which runs in between, does not touch them). -/
theorem store_tag_created (input : List Scaffold) (scTags : List Str) (orig : Str) (b b' : Build) (p : Fragment)
    (h : processBait input scTags orig b p = .ok b') :
    b'.store = b.store ∨
    ∃ sc o n' o' r, lookupScaffold input p.name = .ok sc ∧ findOverlaps sc.rows p = .ok (some o) ∧
      labelScaffold b.namer o b.store.length p scTags orig = .ok (n', o') ∧
      b'.store = b.store ++ [r] ∧ oFixed r.o = oFixed o' ∧ r.o.name = o'.name := by
  rcases processBait_spec input scTags orig b b' p h with ⟨_, rfl⟩ | ⟨_, sc, o, n', o', r, h1, h2, h3, h4, h5, h6, _⟩
  · exact .inl rfl
  · exact .inr ⟨sc, o, n', o', r, h1, h2, h3, h4, h5, h6⟩

/-- the rest of `find_assembly_overlaps` (later fragments, later Pretext scaffolds, `rename_by_size` of unlocs) only
    appends to the list of label fields -/
theorem store_tag_stable_find (input ptx : List Scaffold) (b b' : Build)
    (h : findAssemblyOverlaps input ptx b = .ok b') : b.store.map fixedOf <+: b'.store.map fixedOf :=
  (Pipeline.findAssemblyOverlaps_grows h).map_prefix fixedOf (fun _ _ => rfl)

/-- `discard_overhanging_fragments` keeps label fields AND names -/
theorem store_tag_stable_discard (fuel : Nat) (b b' : Build) (h : discardOverhanging fuel b = .ok b') :
    b'.store.map fixedN = b.store.map fixedN ∧ b'.namer = b.namer :=
  ⟨(discardOverhanging_keeps fuel b b' h).1, (discardOverhanging_keeps fuel b b' h).2.1⟩

/-- cutting keeps label fields AND names -/
theorem store_tag_stable_cut (b b' : Build) (h : cutRemaining b = .ok b') :
    b'.store.map fixedN = b.store.map fixedN ∧ b'.namer = b.namer :=
  ⟨(cutRemaining_keeps b b' h).1, (cutRemaining_keeps b b' h).2.1⟩

/-- `rename_by_size` changes `name` only -/
theorem store_tag_stable_rename (store : List Res) (ids : List Nat) :
    (renameBySize store ids).map (fun r => (fixedOf r, r.o.rows, r.o.start, r.o.stop)) =
      store.map (fun r => (fixedOf r, r.o.rows, r.o.start, r.o.stop)) :=
  Pipeline.renameBySize_map_eq _ (fun _ _ => rfl) store ids

/-- `add_missing` does not touch the store -/
theorem store_tag_stable_missing (input : List Scaffold) (b b' : Build) (h : addMissing input b = .ok b') :
    b'.store = b.store :=
  (addMissing_store input b b' h).1

/-- **R1, the whole of `remap_to_input_assembly`.**  With `b1 … b3` the builds after the search, the resolver and the
    cutting: the returned build has the same number of stored results as `b1`, and for every `sid` the fields
    `tag, haplotype, rank, originalName, originalTags, bait, added` of `b.store[sid]` are those of `b1.store[sid]` —
    which (`store_tag_created`, `store_tag_stable_find`) are the ones given at creation. -/
theorem store_tag_stable (input ptx : List Scaffold) (prefix_ : Str) (joinGap : Option Gap) (err : Int) (b : Build)
    (h : remapToInput input ptx prefix_ joinGap err = .ok b) :
    ∃ b1 b2 b3,
      findAssemblyOverlaps input ptx (startBuild input prefix_ joinGap err) = .ok b1 ∧
      discardOverhanging (totalRows b1.store + 2) b1 = .ok b2 ∧ cutRemaining b2 = .ok b3 ∧
      addMissing input { b3 with store := renameBySize b3.store b3.namer.haplotigScaffolds } = .ok b ∧
      b2.store.map fixedN = b1.store.map fixedN ∧ b3.store.map fixedN = b2.store.map fixedN ∧
      b.store.map fixedOf = b1.store.map fixedOf ∧
      (∀ (sid : Nat) (r : Res), b.store[sid]? = some r → ∃ r1, b1.store[sid]? = some r1 ∧ fixedOf r1 = fixedOf r) := by
  obtain ⟨b1, b2, b3, h1, h2, h3, h4⟩ := Pipeline.remapToInput_ok h
  have k2 := discardOverhanging_keeps _ b1 b2 h2
  have k3 := cutRemaining_keeps b2 b3 h3
  have hall : b.store.map fixedOf = b1.store.map fixedOf := middle_fixedOf h2 h3 h4
  refine ⟨b1, b2, b3, h1, h2, h3, h4, k2.1, k3.1, hall, ?_⟩
  intro sid r hr
  exact getElem?_of_map_eq fixedOf fixedOf _ _ hall.symm sid r hr

/-! ## R2 — which piece created which stored result, and its tag -/

/-- the code's precedence, with Target mode spelled out: FalseDuplicate if the piece carries it; else Haplotig if it
    carries it; else Contaminant if it carries it, or if a strictly earlier Pretext scaffold has a Target tag (`seen`)
    and the piece's own scaffold `S` has none; else no tag.
    (`pieceTag seen S p` is DEFINED with the namer flag as the code has it: `tagRule (seen || hasTarget S) …` — the
    flag is set by a Target tag "in `S` itself or in an earlier Pretext scaffold", and the same tag exempts `S`.) -/
theorem piece_tag_rule (seen : Bool) (S : Scaffold) (p : Fragment) :
    pieceTag seen S p = tagRule (seen || hasTarget S) S.fragmentTags p ∧
    pieceTag seen S p =
      if p.tags.contains sFalseDuplicate then some sFalseDuplicate
      else if p.tags.contains sHaplotig then some sHaplotig
      else if p.tags.contains sContaminant ∨ (seen = true ∧ hasTarget S = false) then some sContaminant
      else none :=
  ⟨rfl, pieceTag_eq seen S p⟩

/-- **R2.**  For the build returned by `remap_to_input_assembly`:
    * the stored results correspond one to one, in order, to `pieces input false ptx` — the Pretext fragments whose
      lookup finds something, in file order; the `sid`-th result has the `sid`-th piece as bait, its Pretext scaffold's
      name and tag set as `originalName` / `originalTags`, and the tag `pieceTag`;
    * for a piece `(seen, S, p)`: `p` is a fragment of `S`, `S` is a scaffold of the Pretext assembly, and `seen` says
      exactly that one of the Pretext scaffolds BEFORE `S` in the file carries a Target tag. -/
theorem piece_tag (input ptx : List Scaffold) (prefix_ : Str) (joinGap : Option Gap) (err : Int) (b : Build)
    (h : remapToInput input ptx prefix_ joinGap err = .ok b) :
    b.store.map labelView = (pieces input false ptx).map pieceView ∧
    (∀ (sid : Nat) (c : Bool × Scaffold × Fragment), (pieces input false ptx)[sid]? = some c →
      ∃ r, b.store[sid]? = some r ∧ r.o.tag = pieceTag c.1 c.2.1 c.2.2 ∧ r.o.originalName = some c.2.1.name ∧
        r.o.originalTags = some c.2.1.fragmentTags ∧ r.o.bait = c.2.2) ∧
    (∀ c ∈ pieces input false ptx, ∃ pre post, ptx = pre ++ c.2.1 :: post ∧ c.1 = pre.any hasTarget ∧
      c.2.2 ∈ c.2.1.fragments ∧ hits input c.2.2 = true) := by
  obtain ⟨hview, _, _⟩ := build_tags input ptx prefix_ joinGap err b h
  refine ⟨hview, ?_, ?_⟩
  · intro sid c hc
    obtain ⟨r, hr, hv⟩ := getElem?_of_map_eq labelView pieceView _ _ hview sid c hc
    exact ⟨r, hr, congrArg (·.1) hv, congrArg (·.2.1) hv, congrArg (·.2.2.1) hv, congrArg (·.2.2.2) hv⟩
  · intro c hc
    obtain ⟨pre, post, e1, e2, e3, e4⟩ := pieces_mem input ptx false c hc
    exact ⟨pre, post, e1, by simpa using e2, e3, e4⟩

/-! ## R3 — end to end -/

/-- `routeKey tag hap`: the tag if truthy, else the haplotype if truthy, else `none` (primary assembly) -/
theorem routeKey_cases (tag hap : Option Str) :
    (truthy tag = true → routeKey tag hap = tag) ∧
    (¬ truthy tag = true → truthy hap = true → routeKey tag hap = hap) ∧
    (¬ truthy tag = true → ¬ truthy hap = true → routeKey tag hap = none) := by
  unfold routeKey
  exact ⟨fun h => by rw [if_pos h], fun h1 h2 => by rw [if_neg h1, if_pos h2], fun h1 h2 => by rw [if_neg h1, if_neg h2]⟩

/-- **R3, END TO END.**  Whenever `remap` completes, with `b` the build `remap_to_input_assembly` returned:
    * the keys of the output assemblies are pairwise different (so "the assembly keyed `k`" is unique);
    * every stored result that was added and still has rows lies, as a contiguous block of rows BY VALUE
      (`toScaffoldRows`: reversed and strand-flipped for a minus bait), in a scaffold — carrying the result's tag and
      haplotype — of the output assembly keyed `routeKey tag haplotype`;
    * the same for every left-over scaffold;
    * conversely every scaffold of every output assembly sits in the assembly keyed by `routeKey` of its own tag and
      haplotype, and every fragment row of it is a row of an added stored result or of a left-over scaffold with that
      same tag and haplotype. -/
theorem remap_routes_store (input ptx : List Scaffold) (prefix_ : Str) (joinGap : Option Gap) (err : Int)
    (outs : List OutAsm) (stats : Stats) (h : remap input ptx prefix_ joinGap err = .ok (outs, stats)) :
    ∃ b, remapToInput input ptx prefix_ joinGap err = .ok b ∧
      (outs.map (·.key)).Nodup ∧
      (∀ r ∈ b.store, r.added = true → r.o.rows ≠ [] →
        ∃ a ∈ outs, a.key = routeKey r.o.tag r.o.haplotype ∧
          ∃ s ∈ a.scaffolds, s.tag = r.o.tag ∧ s.haplotype = r.o.haplotype ∧ r.o.toScaffoldRows <:+: s.rows) ∧
      (∀ e ∈ b.extra, e.1.rows ≠ [] →
        ∃ a ∈ outs, a.key = routeKey e.1.tag e.1.haplotype ∧
          ∃ s ∈ a.scaffolds, s.tag = e.1.tag ∧ s.haplotype = e.1.haplotype ∧ e.1.rows <:+: s.rows) ∧
      (∀ a ∈ outs, ∀ s ∈ a.scaffolds, a.key = routeKey s.tag s.haplotype ∧
        ∀ f, Row.frag f ∈ s.rows →
          (∃ r ∈ b.store, r.added = true ∧ r.o.rows ≠ [] ∧ r.o.tag = s.tag ∧ r.o.haplotype = s.haplotype ∧
              Row.frag f ∈ r.o.toScaffoldRows) ∨
          (∃ e ∈ b.extra, e.1.rows ≠ [] ∧ e.1.tag = s.tag ∧ e.1.haplotype = s.haplotype ∧ Row.frag f ∈ e.1.rows)) := by
  obtain ⟨b, hb, haf⟩ := Pipeline.remap_ok_iff.1 h
  exact ⟨b, hb, routes_of_build input b outs stats haf⟩

theorem output_key_unique (input ptx : List Scaffold) (prefix_ : Str) (joinGap : Option Gap) (err : Int)
    (outs : List OutAsm) (stats : Stats) (h : remap input ptx prefix_ joinGap err = .ok (outs, stats))
    (a a' : OutAsm) (ha : a ∈ outs) (ha' : a' ∈ outs) (hk : a.key = a'.key) : a = a' := by
  obtain ⟨_, _, hnd, _⟩ := remap_routes_store input ptx prefix_ joinGap err outs stats h
  exact inj_of_nodup_map (·.key) hnd a ha a' ha' hk

/-! ## R4 — a tagged piece is never written to a curated assembly -/

/-- `NoTagWordHaplotype b` (Proofs/C09RMain.lean), the F16 side condition: no untagged part of the build — stored
    result that was added and still has rows, or left-over scaffold — has "FalseDuplicate", "Haplotig" or
    "Contaminant" as its haplotype string. -/
theorem noTagWordHaplotype_iff (b : Build) :
    NoTagWordHaplotype b ↔
      (∀ r ∈ b.store, r.added = true → r.o.rows ≠ [] → ¬ truthy r.o.tag = true →
        r.o.haplotype ∉ [some sFalseDuplicate, some sHaplotig, some sContaminant]) ∧
      (∀ e ∈ b.extra, e.1.rows ≠ [] → ¬ truthy e.1.tag = true →
        e.1.haplotype ∉ [some sFalseDuplicate, some sHaplotig, some sContaminant]) := Iff.rfl

/-- the side condition is what `assembly_key_noclash` needs -/
theorem noClash_of_noTagWordHaplotype (input ptx : List Scaffold) (prefix_ : Str) (joinGap : Option Gap) (err : Int)
    (b : Build) (h : remapToInput input ptx prefix_ joinGap err = .ok b) (hn : NoTagWordHaplotype b) :
    NoClash (fuseByName b) :=
  noClash_of_build input ptx prefix_ joinGap err b h hn

/-- **R4.**  Well-formed input, `remap` completes, side condition F16 holds for the build.  Let the `sid`-th piece
    `c = (seen, S, p)` have a tag by R2's precedence (`pieceTag … ≠ none`: FalseDuplicate, Haplotig, Contaminant — the
    last also through Target mode).  If its stored result was added and still has rows, then there is an output
    assembly `a` keyed by exactly that tag word with `curated = false`, a scaffold of `a` holds the result's rows as a
    contiguous block, and for every fragment `f` of the result: any fragment of any scaffold of any output assembly
    `a'` that shares a base with `f` forces `a' = a` — the sequence is written to no other assembly, in particular to
    no curated one. -/
theorem tagged_piece_never_curated (input ptx : List Scaffold) (prefix_ : Str) (joinGap : Option Gap) (err : Int)
    (outs : List OutAsm) (stats : Stats) (hwf : C01.WFInput input)
    (h : remap input ptx prefix_ joinGap err = .ok (outs, stats)) :
    ∃ b, remapToInput input ptx prefix_ joinGap err = .ok b ∧
      (NoTagWordHaplotype b →
        ∀ (sid : Nat) (c : Bool × Scaffold × Fragment) (r : Res), (pieces input false ptx)[sid]? = some c → b.store[sid]? = some r →
          r.o.tag = pieceTag c.1 c.2.1 c.2.2 ∧ r.o.bait = c.2.2 ∧
          (pieceTag c.1 c.2.1 c.2.2 ≠ none → r.added = true → r.o.rows ≠ [] →
            ∃ a ∈ outs, a.key = pieceTag c.1 c.2.1 c.2.2 ∧ a.curated = false ∧
              (∃ s ∈ a.scaffolds, r.o.toScaffoldRows <:+: s.rows) ∧
              ∀ f, Row.frag f ∈ r.o.toScaffoldRows → f.start ≤ f.stop ∧
                ∀ a' ∈ outs, ∀ s' ∈ a'.scaffolds, ∀ f', Row.frag f' ∈ s'.rows → f'.name = f.name →
                  (∃ x, f.start ≤ x ∧ x ≤ f.stop ∧ f'.start ≤ x ∧ x ≤ f'.stop) → a' = a)) := by
  obtain ⟨b, hb, haf⟩ := Pipeline.remap_ok_iff.1 h
  refine ⟨b, hb, ?_⟩
  intro hn sid c r hc hr
  obtain ⟨r', hr', ht, _, _, hbait⟩ := (piece_tag input ptx prefix_ joinGap err b hb).2.1 sid c hc
  rw [hr] at hr'
  cases hr'
  refine ⟨ht, hbait, ?_⟩
  intro hne hadd hrows
  have htw : r.o.tag ∈ tagWords := by
    rcases tagWord_or_none_of_cases (pieceTag_cases c.1 c.2.1 c.2.2) with h0 | h0
    · exact absurd h0 hne
    · rw [ht]; exact h0
  have htr : truthy r.o.tag = true := truthy_of_tagWord htw
  have hnc := noClash_of_build input ptx prefix_ joinGap err b hb hn
  obtain ⟨a, ha, hk, hcur, s, hs, hinf⟩ :=
    tagged_item_route input b outs stats haf hnc
      (Fuse.mem_fuseItems.2 (.inl ⟨r, List.mem_of_getElem? hr, hadd, hrows, rfl⟩)) htr
  exact ⟨a, ha, hk.trans ht, hcur, ⟨s, hs, hinf⟩, fun f hf =>
    fragment_in_one_assembly input ptx prefix_ joinGap err outs stats hwf h a ha s hs f (hinf.subset hf)⟩

/-- **Uniqueness of location** (from `C01.remap_exactly_once`): for a well-formed input, two fragment rows of output
    scaffolds that share a base of the same contig are in the same output assembly. -/
theorem shared_base_one_assembly (input ptx : List Scaffold) (prefix_ : Str) (joinGap : Option Gap) (err : Int)
    (outs : List OutAsm) (stats : Stats) (hwf : C01.WFInput input)
    (h : remap input ptx prefix_ joinGap err = .ok (outs, stats))
    (a a' : OutAsm) (ha : a ∈ outs) (ha' : a' ∈ outs) (s s' : Scaffold) (hs : s ∈ a.scaffolds) (hs' : s' ∈ a'.scaffolds)
    (f f' : Fragment) (hf : Row.frag f ∈ s.rows) (hf' : Row.frag f' ∈ s'.rows)
    (hname : f.name = f'.name) (x : Int) (hx : f.start ≤ x ∧ x ≤ f.stop) (hx' : f'.start ≤ x ∧ x ≤ f'.stop) :
    a = a' :=
  shared_base_same_assembly input ptx prefix_ joinGap err outs stats hwf h a a' ha ha' s s' hs hs' f f' hf hf' hname x hx hx'

/-- a piece in Target mode always gets a tag — Contaminant unless it is itself FalseDuplicate or Haplotig — so R4
    applies to it: once a Target tag has been seen, no piece of a later Pretext scaffold without one reaches a curated
    assembly -/
theorem target_mode_piece (S : Scaffold) (p : Fragment) (h2 : hasTarget S = false) :
    pieceTag true S p ≠ none ∧
    (¬ p.tags.contains sFalseDuplicate = true → ¬ p.tags.contains sHaplotig = true →
      pieceTag true S p = some sContaminant) := by
  rw [pieceTag_eq]
  by_cases c1 : p.tags.contains sFalseDuplicate = true
  · rw [if_pos c1]; exact ⟨fun h => (by cases h), fun h => absurd c1 h⟩
  rw [if_neg c1]
  by_cases c2 : p.tags.contains sHaplotig = true
  · rw [if_pos c2]; exact ⟨fun h => (by cases h), fun _ h => absurd c2 h⟩
  rw [if_neg c2, if_pos (Or.inr ⟨rfl, h2⟩)]
  exact ⟨fun h => (by cases h), fun _ _ => rfl⟩

/-- **R4 for left-overs.**  Under the same hypotheses, a left-over scaffold with a tag (by `leftover_tags` that tag is
    Contaminant — Target mode) lies in the assembly keyed by the tag, which is not curated, and nowhere else. -/
theorem tagged_leftover_never_curated (input ptx : List Scaffold) (prefix_ : Str) (joinGap : Option Gap) (err : Int)
    (outs : List OutAsm) (stats : Stats) (hwf : C01.WFInput input)
    (h : remap input ptx prefix_ joinGap err = .ok (outs, stats)) :
    ∃ b, remapToInput input ptx prefix_ joinGap err = .ok b ∧
      (NoTagWordHaplotype b →
        ∀ e ∈ b.extra, truthy e.1.tag = true →
          e.1.tag = some sContaminant ∧
          ∃ a ∈ outs, a.key = some sContaminant ∧ a.curated = false ∧
            (∃ s ∈ a.scaffolds, e.1.rows <:+: s.rows) ∧
            ∀ f, Row.frag f ∈ e.1.rows → f.start ≤ f.stop ∧
              ∀ a' ∈ outs, ∀ s' ∈ a'.scaffolds, ∀ f', Row.frag f' ∈ s'.rows → f'.name = f.name →
                (∃ x, f.start ≤ x ∧ x ≤ f.stop ∧ f'.start ≤ x ∧ x ≤ f'.stop) → a' = a) := by
  obtain ⟨b, hb, haf⟩ := Pipeline.remap_ok_iff.1 h
  refine ⟨b, hb, ?_⟩
  intro hn e he htr
  have hnc := noClash_of_build input ptx prefix_ joinGap err b hb hn
  obtain ⟨sc, _, hok⟩ := remapToInput_leftovers input ptx prefix_ joinGap err b hb e he
  have htag : e.1.tag = some sContaminant := by
    rcases hok.2.2.2.1 with h0 | ⟨h0, _⟩
    · rw [h0] at htr; cases htr
    · exact h0
  obtain ⟨a, ha, hk, hcur, s, hs, hinf⟩ :=
    tagged_item_route input b outs stats haf hnc (Fuse.mem_fuseItems.2 (.inr ⟨e, he, hok.2.1, rfl⟩)) htr
  exact ⟨htag, a, ha, hk.trans htag, hcur, ⟨s, hs, hinf⟩, fun f hf =>
    fragment_in_one_assembly input ptx prefix_ joinGap err outs stats hwf h a ha s hs f (hinf.subset hf)⟩

/-! ## R5 — left-over scaffolds -/

/-- every left-over scaffold comes from an input scaffold `sc`, is non-empty, has rank 3, and its tag is `none` or —
    only when `sc` carries no Target tag — Contaminant -/
theorem leftover_tags (input ptx : List Scaffold) (prefix_ : Str) (joinGap : Option Gap) (err : Int) (b : Build)
    (h : remapToInput input ptx prefix_ joinGap err = .ok b) :
    ∀ e ∈ b.extra, ∃ sc ∈ input, e.1.name = sc.name ∧ e.1.rows ≠ [] ∧ e.1.rank = 3 ∧
      (e.1.tag = none ∨ (e.1.tag = some sContaminant ∧ hasTarget sc = false)) := by
  intro e he
  obtain ⟨sc, hsc, hok⟩ := remapToInput_leftovers input ptx prefix_ joinGap err b h e he
  exact ⟨sc, hsc, hok.1, hok.2.1, hok.2.2.1, hok.2.2.2.1⟩

/-- **R5, Target mode.**  If some Pretext scaffold carries a Target tag (so `target_tags` is set at the end of the
    map), every left-over scaffold — all sequence absent from the map — of an input scaffold WITHOUT a Target tag has
    tag Contaminant and lies (as a block of rows) in a scaffold of the assembly keyed "Contaminant"; a left-over of an
    input scaffold that itself carries a Target tag stays untagged. -/
theorem target_mode_leftovers (input ptx : List Scaffold) (prefix_ : Str) (joinGap : Option Gap) (err : Int)
    (outs : List OutAsm) (stats : Stats) (h : remap input ptx prefix_ joinGap err = .ok (outs, stats))
    (hT : ptx.any hasTarget = true) :
    ∃ b, remapToInput input ptx prefix_ joinGap err = .ok b ∧
      ∀ e ∈ b.extra, ∃ sc ∈ input, e.1.name = sc.name ∧ e.1.rows ≠ [] ∧
        e.1.tag = (if hasTarget sc then none else some sContaminant) ∧
        (hasTarget sc = false →
          ∃ a ∈ outs, a.key = some sContaminant ∧
            ∃ s ∈ a.scaffolds, s.tag = some sContaminant ∧ e.1.rows <:+: s.rows) := by
  obtain ⟨b, hb, haf⟩ := Pipeline.remap_ok_iff.1 h
  refine ⟨b, hb, ?_⟩
  obtain ⟨_, _, hex, _⟩ := routes_of_build input b outs stats haf
  intro e he
  obtain ⟨sc, hsc, hok⟩ := remapToInput_leftovers input ptx prefix_ joinGap err b hb e he
  have htag := hok.2.2.2.2 hT
  refine ⟨sc, hsc, hok.1, hok.2.1, htag, ?_⟩
  intro hnt
  rw [hnt] at htag
  simp only [Bool.false_eq_true, if_false] at htag
  obtain ⟨a, ha, hk, s, hs, s1, _, s3⟩ := hex e he hok.2.1
  refine ⟨a, ha, ?_, s, hs, s1.trans htag, s3⟩
  rw [hk, htag]; rfl

/-- `add_missing` is a left fold of `addMissingStep` (the loop body, verbatim in Proofs/C09RFixed.lean) over the input
    scaffolds: for every input scaffold `sc` there is the build `b1` just before it and `b2` just after it -/
theorem leftover_step_exists (pre post : List Scaffold) (sc : Scaffold) (b b' : Build)
    (h : addMissing (pre ++ sc :: post) b = .ok b') :
    ∃ b1 b2, addMissing pre b = .ok b1 ∧ addMissingStep b1 sc = .ok b2 ∧ addMissing post b2 = .ok b' := by
  rw [addMissing_eq, List.foldlM_append, bind_eq_ok] at h
  obtain ⟨b1, h1, h2⟩ := h
  rw [List.foldlM_cons, bind_eq_ok] at h2
  obtain ⟨b2, h2, h3⟩ := h2
  exact ⟨b1, b2, h1, h2, h3⟩

/-- `hapClassTag t`: `make_scaffold_name` takes tag `t` for a haplotype name -/
theorem hapClassTag_iff (t : Str) :
    hapClassTag t = true ↔
      t ≠ sPainted ∧ t ≠ sTarget ∧ t ≠ sPrimary ∧ isChrNameTag t = false ∧ Gen.otherKnownTags.contains t = false := by
  unfold hapClassTag
  simp only [Bool.and_eq_true, bne_iff_ne, ne_eq, Bool.not_eq_true']
  constructor
  · rintro ⟨⟨⟨⟨a, b⟩, c⟩, d⟩, e⟩; exact ⟨a, b, c, d, e⟩
  · rintro ⟨a, b, c, d, e⟩; exact ⟨⟨⟨⟨a, b⟩, c⟩, d⟩, e⟩

/-- **R5, haplotype by name prefix (PARTIAL: left-over contigs must not carry a `Primary` tag).**
    One step of `add_missing` for input scaffold `sc`, whose left-over rows are `rows ≠ []`, whose left-over contigs
    carry no haplotype-class tag (with one, the tag — not the name — gives the haplotype: the rule does not apply, by
    design) and no `Primary` tag, and whose first row's name matches `^([^_]+)_.+_\d+$` with group 1 = `g`:
    the left-over scaffold's haplotype is `leftoverHaplotype b.namer g`, i.e. with
    `v := registeredOr b.namer g` = the spelling registered for `lowerStr g` (case-insensitive lookup) if there is one,
    ELSE `g` ITSELF (finding F10: an unplaced scaffold named `Foo_x_1` invents a haplotype "Foo"), it is `some v` —
    or "Primary" when `v` is the primary haplotype; and after the step `lowerStr g` is registered with spelling `v`.
    Other tags on the left-over contigs (Painted, Target, chromosome names, Contaminant, …) are allowed.

    MISSING for the full statement: left-over contigs carrying a `Primary` tag while no primary haplotype is set yet.
    Then `make_scaffold_name` sets the primary haplotype to `getSetHaplotype v` in this very step and the result is
    "Primary"; proving that needs the registry invariant "every key of `haplotypeLc` is `lowerStr` of its value"
    threaded through the whole pipeline, which is not done here.  (Input read from FASTA has no tagged contigs.) -/
theorem haplotype_leftovers_partial (b b' : Build) (sc : Scaffold) (rows : List Row) (first : Option Nat) (nm g : Str)
    (hm : missingRows b sc.rows = .ok (rows, first)) (hne : rows ≠ [])
    (hh : ∀ t ∈ ({ name := sc.name, rows := rows } : Scaffold).fragmentTags, hapClassTag t = false)
    (hp : sPrimary ∉ ({ name := sc.name, rows := rows } : Scaffold).fragmentTags)
    (hfirst : firstRowName rows = .ok nm) (hg : hapPrefixOfName nm = some g)
    (h : addMissingStep b sc = .ok b') :
    ∃ e, b'.extra = b.extra ++ [e] ∧ e.1.name = sc.name ∧ e.1.rows = rows ∧
      e.1.haplotype = leftoverHaplotype b.namer g ∧
      dGet? b'.namer.haplotypeLc (lowerStr g) = some (registeredOr b.namer g) :=
  addMissingStep_nameprefix b b' sc rows first nm g hm hne hh hp hfirst hg h

/-- the usual case: the left-over contigs carry no tags at all -/
theorem haplotype_leftovers_untagged (b b' : Build) (sc : Scaffold) (rows : List Row) (first : Option Nat) (nm g : Str)
    (hm : missingRows b sc.rows = .ok (rows, first)) (hne : rows ≠ [])
    (hnt : ({ name := sc.name, rows := rows } : Scaffold).fragmentTags = [])
    (hfirst : firstRowName rows = .ok nm) (hg : hapPrefixOfName nm = some g)
    (h : addMissingStep b sc = .ok b') :
    ∃ e, b'.extra = b.extra ++ [e] ∧ e.1.name = sc.name ∧ e.1.rows = rows ∧
      e.1.haplotype = leftoverHaplotype b.namer g ∧
      dGet? b'.namer.haplotypeLc (lowerStr g) = some (registeredOr b.namer g) :=
  haplotype_leftovers_partial b b' sc rows first nm g hm hne (by rw [hnt]; intro t ht; cases ht)
    (by rw [hnt]; intro ht; cases ht) hfirst hg h

theorem leftoverHaplotype_eq (n : Namer) (g : Str) :
    registeredOr n g = (dGet? n.haplotypeLc (lowerStr g)).getD g ∧
    leftoverHaplotype n g =
      (if truthy n.primaryHaplotype ∧ some (registeredOr n g) = n.primaryHaplotype then some sPrimary
       else some (registeredOr n g)) := ⟨rfl, rfl⟩


/-! ## R6 — the haplotype half: "scaffolds carrying a haplotype tag … go to that haplotype's
      assembly; everything else goes to the primary assembly"

  R3 files a part under `routeKey tag haplotype`.  Which haplotype a stored result carries:
  `piece_haplotype` — the one `make_scaffold_name` computed for its Pretext scaffold `S` (kept to the end);
  `scaffold_haplotype_tag` / `scaffold_haplotype_prefix` / `scaffold_no_haplotype` — what `make_scaffold_name` computes. -/

/-- every spelling registered in the namer's case-insensitive haplotype dictionary is non-empty (holds for every namer
    the pipeline reaches: `piece_haplotype` provides it) -/
theorem namerOk_iff (n : Namer) : C17.NamerOk n ↔ ∀ kv ∈ n.haplotypeLc, kv.2 ≠ [] := Iff.rfl

/-- **The pieces of a Pretext scaffold carry its haplotype to the end.**  `findStep` is the loop body of
    `find_assembly_overlaps` (verbatim, Proofs/C09RHap.lean).  For the Pretext scaffold `S` at any position of the map,
    `bA` = the build when `S` is reached, `bB` = the build after it, `n` = the namer `make_scaffold_name` returns for `S`:
    the stored results created for `S` (`bA.store.length ≤ sid < bB.store.length`) have, in the build finally returned by
    `remap_to_input_assembly`, haplotype `n.currentHaplotype`. -/
theorem piece_haplotype (input pre post : List Scaffold) (S : Scaffold) (prefix_ : Str)
    (joinGap : Option Gap) (err : Int) (b : Build)
    (h : remapToInput input (pre ++ S :: post) prefix_ joinGap err = .ok b) :
    ∃ bA bB n, findAssemblyOverlaps input pre (startBuild input prefix_ joinGap err) = .ok bA ∧
      findStep input bA S = .ok bB ∧ C17.NamerOk bA.namer ∧
      makeScaffoldName bA.namer S.name S.rows S.fragmentTags = .ok n ∧
      bA.store.length ≤ bB.store.length ∧ bB.store.length ≤ b.store.length ∧
      ∀ (sid : Nat) (r : Res), bA.store.length ≤ sid → sid < bB.store.length → b.store[sid]? = some r →
        r.o.haplotype = n.currentHaplotype :=
  remapToInput_piece_haplotype input pre post S prefix_ joinGap err b h

/-- **A scaffold carrying one haplotype tag.**  `make_scaffold_name` on a tag set (in any listing order
    `pre ++ t :: post`) whose only haplotype-class tag is `t`, without a Primary tag: the current haplotype is
    `leftoverHaplotype n t` — the spelling already registered for `lowerStr t` (case-insensitive), else `t`; "Primary"
    if that is the primary haplotype — and `lowerStr t` is registered with that spelling afterwards.
    (Two different haplotype-class tags raise TaggingError; a Primary tag is `label`-independent and not covered.) -/
theorem scaffold_haplotype_tag (n n' : Namer) (scName : Str) (rows : List Row) (pre post : List Str) (t : Str)
    (hn : C17.NamerOk n) (ht : t ≠ []) (htc : hapClassTag t = true)
    (hh : ∀ x ∈ pre ++ post, hapClassTag x = false) (hp : sPrimary ∉ pre ++ post)
    (h : makeScaffoldName n scName rows (pre ++ t :: post) = .ok n') :
    n'.currentHaplotype = leftoverHaplotype n t ∧
    dGet? n'.haplotypeLc (lowerStr t) = some (registeredOr n t) := by
  have hmem : ∀ x ∈ pre ++ t :: post, x = t ∨ x ∈ pre ++ post := fun x hx => by
    rcases List.mem_append.1 hx with hx | hx
    · exact .inr (List.mem_append_left _ hx)
    · exact (List.mem_cons.1 hx).imp id (List.mem_append_right _)
  -- neither the empty tag nor `Primary` is among the tags: both would be, or are not, of haplotype class
  have hne : [] ∉ pre ++ t :: post := fun hm => (hmem _ hm).elim (fun e => ht e.symm) fun hm => by
    have := hh _ hm; revert this; decide
  have hp' : sPrimary ∉ pre ++ t :: post := fun hm => (hmem _ hm).elim (fun e => by rw [← e] at htc; revert htc; decide) hp
  have hl : hapTags (pre ++ t :: post) = [t] := by
    unfold hapTags
    rw [List.filter_append, List.filter_cons_of_pos (by simpa using (tagClass_hap t).2 htc)]
    show hapTags pre ++ t :: hapTags post = [t]
    rw [hapTags_eq_nil fun x hx => hh x (List.mem_append_left _ hx),
      hapTags_eq_nil fun x hx => hh x (List.mem_append_right _ hx)]
    rfl
  obtain ⟨src, hsrc, _, hlc, hcur⟩ := makeScaffoldName_haplotype hp' (hapTags_of_ok hne hn h) h
  rw [hl] at hsrc
  subst hsrc
  exact haplotype_of_source hlc hcur

/-- no haplotype-class tag (and no Primary tag): the name-prefix rule, for Pretext and left-over scaffolds alike -/
theorem scaffold_haplotype_prefix (n n' : Namer) (scName nm g : Str) (rows : List Row) (tags : List Str)
    (hh : ∀ t ∈ tags, hapClassTag t = false) (hp : sPrimary ∉ tags)
    (hfirst : firstRowName rows = .ok nm) (hg : hapPrefixOfName nm = some g)
    (h : makeScaffoldName n scName rows tags = .ok n') :
    n'.currentHaplotype = leftoverHaplotype n g ∧
    dGet? n'.haplotypeLc (lowerStr g) = some (registeredOr n g) :=
  makeScaffoldName_nameprefix n n' scName nm g rows tags hh hp hfirst hg h

/-- … and when the first row's name has no `<hap>_…_<n>` shape either: no haplotype — by R3 the scaffold's untagged
    pieces go to the primary assembly -/
theorem scaffold_no_haplotype (n n' : Namer) (scName nm : Str) (rows : List Row) (tags : List Str)
    (hh : ∀ t ∈ tags, hapClassTag t = false) (hp : sPrimary ∉ tags)
    (hfirst : firstRowName rows = .ok nm) (hg : hapPrefixOfName nm = none)
    (h : makeScaffoldName n scName rows tags = .ok n') :
    n'.currentHaplotype = none ∧ routeKey none n'.currentHaplotype = none := by
  have := _root_.AgpTpf.makeScaffoldName_nohap (hapTags_eq_nil hh) (fun nm' h' => by rw [hfirst] at h'; cases h'; exact hg) h
  exact ⟨this, by rw [this]; rfl⟩

/-! ## non-vacuity

  Input: scaffold `A` = c1, c2, c3 (100 bp each, no gaps), `B` = d1, `C` = e1, and three scaffolds absent from the map:
  `D` = f1, `E` = hap2_ctg_7, `F` = Foo_ctg_1.
  Pretext map `xPtx`:  S1 (painted) = A:1-100, A:101-200 [Contaminant], A:201-300 — a Contaminant piece in the MIDDLE of
  a painted scaffold;  S2 = B:1-50 [Haplotig];  S3 (painted) = C:1-60 [Hap2] — a haplotype-tagged scaffold.
  Target-mode variant `xPtxT`: S3 carries `Target` instead of `Hap2` and comes FIRST. -/

private def xjg : Gap := { length := 200, gapType := "scaffold".toList }
private def xfr (oid : Nat) (nm : String) (e : Int) : Fragment := { oid := oid, name := nm.toList, start := 1, stop := e, strand := 1 }
private def xIn : List Scaffold :=
  [{ name := ['A'], rows := [.frag (xfr 1 "c1" 100), .frag (xfr 2 "c2" 100), .frag (xfr 3 "c3" 100)] },
   { name := ['B'], rows := [.frag (xfr 4 "d1" 50)] }, { name := ['C'], rows := [.frag (xfr 5 "e1" 60)] },
   { name := ['D'], rows := [.frag (xfr 6 "f1" 40)] }, { name := ['E'], rows := [.frag (xfr 7 "hap2_ctg_7" 30)] },
   { name := ['F'], rows := [.frag (xfr 8 "Foo_ctg_1" 20)] }]
private def xpf (oid : Nat) (nm : Str) (s e : Int) (tags : List Str) : Row :=
  .frag { oid := oid, name := nm, start := s, stop := e, strand := 1, tags := tags }
private def xS1 : Scaffold :=
  { name := "S1".toList, rows := [xpf 10 ['A'] 1 100 [sPainted], xpf 11 ['A'] 101 200 [sPainted, sContaminant],
                                  xpf 12 ['A'] 201 300 [sPainted]] }
private def xS2 : Scaffold := { name := "S2".toList, rows := [xpf 13 ['B'] 1 50 [sHaplotig]] }
private def xS3 : Scaffold := { name := "S3".toList, rows := [xpf 14 ['C'] 1 60 [sPainted, "Hap2".toList]] }
private def xS3T : Scaffold := { name := "S3".toList, rows := [xpf 14 ['C'] 1 60 [sPainted, sTarget]] }
private def xPtx : List Scaffold := [xS1, xS2, xS3]
private def xPtxT : List Scaffold := [xS3T, xS1, xS2]
private def xPre : Str := "SUPER_".toList

/-- key, `curated`, and per scaffold the contig names, of every output assembly -/
private def routeView (r : R (List OutAsm × Stats)) : Option (List (Option Str × Bool × List (List Str))) :=
  r.toOption.map (fun r => r.1.map (fun a => (a.key, a.curated, a.scaffolds.map (fun s => (fragmentsOf s.rows).map (·.name)))))

/-- where every contig goes: c2 (the Contaminant piece in the middle of S1) to "Contaminant", c1+c3 fused to primary,
    d1 to "Haplotig", e1 and the left-over `hap2_ctg_7` (case-insensitive prefix match) to "Hap2", the left-over
    `Foo_ctg_1` to an invented haplotype "Foo" (F10), the left-over f1 to primary -/
private theorem xRemap_view :
    routeView (remap xIn xPtx xPre (some xjg) 1) =
      some [(none, true, [["c1".toList, "c3".toList], ["f1".toList]]),
            (some sContaminant, false, [["c2".toList]]),
            (some sHaplotig, false, [["d1".toList]]),
            (some "Hap2".toList, true, [["e1".toList], ["hap2_ctg_7".toList]]),
            (some "Foo".toList, true, [["Foo_ctg_1".toList]])] := by decide +kernel

/-- Target-mode variant: S3 (Target) first → S1 wholly contaminant, the Haplotig piece still haplotig, ALL left-overs
    contaminant; only e1 is curated -/
private theorem xRemapT_view :
    routeView (remap xIn xPtxT xPre (some xjg) 1) =
      some [(none, true, [["e1".toList]]),
            (some sContaminant, false, [["f1".toList], ["hap2_ctg_7".toList], ["Foo_ctg_1".toList],
                                        ["c1".toList, "c2".toList, "c3".toList]]),
            (some sHaplotig, false, [["d1".toList]])] := by decide +kernel

private theorem xPieces_view :
    (pieces xIn false xPtx).map (fun c => (c.1, c.2.1.name, c.2.2.oid, pieceTag c.1 c.2.1 c.2.2)) =
      [(false, "S1".toList, 10, none), (false, "S1".toList, 11, some sContaminant), (false, "S1".toList, 12, none),
       (false, "S2".toList, 13, some sHaplotig), (false, "S3".toList, 14, none)] := by decide +kernel

/-- the pieces, their `seen` flag and their tags (R2) in both maps -/
example :
    (pieces xIn false xPtx).map (fun c => (c.1, c.2.1.name, c.2.2.oid, pieceTag c.1 c.2.1 c.2.2)) =
      [(false, "S1".toList, 10, none), (false, "S1".toList, 11, some sContaminant), (false, "S1".toList, 12, none),
       (false, "S2".toList, 13, some sHaplotig), (false, "S3".toList, 14, none)] ∧
    (pieces xIn false xPtxT).map (fun c => (c.1, c.2.1.name, c.2.2.oid, pieceTag c.1 c.2.1 c.2.2)) =
      [(false, "S3".toList, 14, none), (true, "S1".toList, 10, some sContaminant),
       (true, "S1".toList, 11, some sContaminant), (true, "S1".toList, 12, some sContaminant),
       (true, "S2".toList, 13, some sHaplotig)] :=
  ⟨xPieces_view, by decide +kernel⟩

/-- a view `g` of a run that is a function `k` of a view `f` already evaluated -/
private theorem view_of_view {α β γ : Type} {x : R α} {f : α → β} {v : β} (h : x.toOption.map f = some v)
    (g : α → γ) (k : β → γ) (hk : ∀ a, g a = k (f a)) : x.toOption.map g = some (k v) := by
  cases x with
  | error e => cases h
  | ok a =>
    simp only [Except.toOption, Option.map_some, Option.some.injEq] at h ⊢
    rw [hk, h]

/-- the builds `remap_to_input_assembly` returns for the two maps, evaluated once each and seen through what the
    examples below ask of them: the side condition of R4 holds; on the first map all five stored results were added, have
    rows, and the last one (S3's) carries "Hap2"; on the second all three left-over scaffolds are tagged -/
private theorem xBuild_view :
    (remapToInput xIn xPtx xPre (some xjg) 1).toOption.map
        (fun b => (decide (NoTagWordHaplotype b), b.store.map (fun r => (r.added, r.o.rows.isEmpty)),
          b.store.map (fun r => r.o.haplotype))) =
      some (true, [(true, false), (true, false), (true, false), (true, false), (true, false)],
            [none, none, none, none, some "Hap2".toList]) := by decide +kernel

private theorem xBuildT_view :
    (remapToInput xIn xPtxT xPre (some xjg) 1).toOption.map
        (fun b => (decide (NoTagWordHaplotype b), b.store.map (fun r => r.o.tag), b.extra.map (fun e => e.1.tag))) =
      some (true, [none, some sContaminant, some sContaminant, some sContaminant, some sHaplotig],
            [some sContaminant, some sContaminant, some sContaminant]) := by decide +kernel

private theorem xBuild_facts :
    (remapToInput xIn xPtx xPre (some xjg) 1).toOption.map
        (fun b => (decide (NoTagWordHaplotype b), b.store.map (fun r => (r.added, r.o.rows.isEmpty)))) =
      some (true, [(true, false), (true, false), (true, false), (true, false), (true, false)]) :=
  view_of_view xBuild_view _ (fun v => (v.1, v.2.1)) (fun _ => rfl)

private theorem xIn_wf : C01.WFInput xIn := by decide +kernel

/-- **R4 applied**: its hypotheses hold for the first map (well-formed input, completed remap, side condition), and for
    the Contaminant piece in the middle of S1 (piece 1) it yields a non-curated assembly keyed "Contaminant" -/
example : ∃ outs stats, remap xIn xPtx xPre (some xjg) 1 = .ok (outs, stats) ∧
    ∃ a ∈ outs, a.key = some sContaminant ∧ a.curated = false := by
  have hv := xRemap_view
  cases hr : remap xIn xPtx xPre (some xjg) 1 with
  | error e => rw [hr] at hv; simp [routeView, Except.toOption] at hv
  | ok res =>
    obtain ⟨outs, stats⟩ := res
    refine ⟨outs, stats, rfl, ?_⟩
    obtain ⟨b, hb, hall⟩ := tagged_piece_never_curated xIn xPtx xPre (some xjg) 1 outs stats xIn_wf hr
    have hf := xBuild_facts
    rw [hb] at hf
    simp only [Except.toOption, Option.map_some, Option.some.injEq, Prod.mk.injEq] at hf
    obtain ⟨hn, hst⟩ := hf
    obtain ⟨c, hc, hcv⟩ := getElem?_of_map_eq _ id _ _ (xPieces_view.trans (List.map_id _).symm) 1 _ rfl
    obtain ⟨r, hr1, _⟩ := (piece_tag xIn xPtx xPre (some xjg) 1 b hb).2.1 1 c hc
    obtain ⟨r', hr', hrv⟩ := getElem?_of_map_eq _ id _ _ (hst.trans (List.map_id _).symm) 1 _ rfl
    rw [hr1] at hr'; cases hr'
    have htag : pieceTag c.1 c.2.1 c.2.2 = some sContaminant := congrArg (·.2.2.2) hcv
    obtain ⟨_, _, hrt⟩ := hall (of_decide_eq_true hn) 1 c r hc hr1
    obtain ⟨a, ha, hk, hcur, _⟩ := hrt (by rw [htag]; exact fun h => by cases h) (congrArg (·.1) hrv)
      (fun h0 => by have := congrArg (·.2) hrv; simp [h0] at this)
    exact ⟨a, ha, hk.trans htag, hcur⟩

/-- **R5 applied**: in the Target-mode variant the hypothesis `ptx.any hasTarget` holds -/
example : xPtxT.any hasTarget = true ∧ xPtx.any hasTarget = false := by constructor <;> decide

/-- `haplotype_leftovers_untagged` / `_partial`: hypotheses satisfiable.  With "Hap2" registered (as S3's tag does), the left-over
    scaffold `E` = hap2_ctg_7 gets haplotype "Hap2" (case-insensitive); `F` = Foo_ctg_1, nothing registered, gets "Foo"
    (F10) — and registers it. -/
private def xb0 : Build :=
  { namer := { autosomePrefix := xPre, haplotypeLc := [("hap2".toList, "Hap2".toList)] }, nextOid := 9,
    joinGap := some xjg, err := 1 }
example :
    missingRows xb0 [.frag (xfr 7 "hap2_ctg_7" 30)] = .ok ([.frag (xfr 7 "hap2_ctg_7" 30)], some 0) ∧
    ({ name := ['E'], rows := [.frag (xfr 7 "hap2_ctg_7" 30)] } : Scaffold).fragmentTags = [] ∧
    firstRowName [.frag (xfr 7 "hap2_ctg_7" 30)] = .ok "hap2_ctg_7".toList ∧
    hapPrefixOfName "hap2_ctg_7".toList = some "hap2".toList ∧
    (addMissingStep xb0 { name := ['E'], rows := [.frag (xfr 7 "hap2_ctg_7" 30)] }).toOption.map
        (fun b => b.extra.map (fun e => e.1.haplotype)) = some [some "Hap2".toList] ∧
    leftoverHaplotype xb0.namer "hap2".toList = some "Hap2".toList ∧
    leftoverHaplotype xb0.namer "Foo".toList = some "Foo".toList ∧
    (addMissingStep xb0 { name := ['F'], rows := [.frag (xfr 8 "Foo_ctg_1" 20)] }).toOption.map
        (fun b => (b.extra.map (fun e => e.1.haplotype), b.namer.haplotypeLc)) =
      some ([some "Foo".toList], [("hap2".toList, "Hap2".toList), ("foo".toList, "Foo".toList)]) := by
  simp only [xfr]
  str_lits
  refine ⟨?_, ?_, ?_, ?_, ?_, ?_, ?_, ?_⟩ <;> decide +kernel

/-- R1 / R2 hypotheses: `remap_to_input_assembly` completes on both maps, with five stored results each -/
example : (remapToInput xIn xPtx xPre (some xjg) 1).toOption.map (fun b => b.store.length) = some 5 ∧
    (remapToInput xIn xPtxT xPre (some xjg) 1).toOption.map (fun b => (b.store.map (fun r => r.o.tag), b.extra.map (fun e => e.1.tag))) =
      some ([none, some sContaminant, some sContaminant, some sContaminant, some sHaplotig],
            [some sContaminant, some sContaminant, some sContaminant]) :=
  ⟨view_of_view xBuild_facts _ (·.2.length) (fun _ => (List.length_map _).symm),
   view_of_view xBuildT_view _ (·.2) (fun _ => rfl)⟩


/-- R6 hypotheses are satisfiable: S3's tag set is `[Painted, Hap2]`, `Hap2` its only haplotype-class tag; on a fresh
    namer `make_scaffold_name` then gives current haplotype "Hap2" -/
example :
    xS3.fragmentTags = [sPainted] ++ "Hap2".toList :: [] ∧ hapClassTag "Hap2".toList = true ∧
    hapClassTag sPainted = false ∧ C17.NamerOk { autosomePrefix := xPre } ∧
    (makeScaffoldName { autosomePrefix := xPre } xS3.name xS3.rows xS3.fragmentTags).toOption.map
      (fun n => (n.currentHaplotype, n.haplotypeLc)) = some (some "Hap2".toList, [("hap2".toList, "Hap2".toList)]) ∧
    leftoverHaplotype { autosomePrefix := xPre } "Hap2".toList = some "Hap2".toList := by
  str_lits
  refine ⟨by decide +kernel, by decide +kernel, by decide +kernel, fun kv h => (by cases h), by decide +kernel,
    by decide +kernel⟩

/-- `piece_haplotype` on the first map (`xPtx = [xS1, xS2] ++ xS3 :: []`): the stored result created for S3 is the last
    one, and it carries "Hap2" -/
example : (remapToInput xIn ([xS1, xS2] ++ xS3 :: []) xPre (some xjg) 1).toOption.map
    (fun b => b.store.map (fun r => r.o.haplotype)) = some [none, none, none, none, some "Hap2".toList] :=
  view_of_view xBuild_view _ (·.2.2) (fun _ => rfl)


/-- **R5 applied** to the Target-mode variant: all three left-over scaffolds are tagged Contaminant and lie in the
    assembly keyed "Contaminant" -/
example : ∃ outs stats, remap xIn xPtxT xPre (some xjg) 1 = .ok (outs, stats) ∧
    ∃ b, remapToInput xIn xPtxT xPre (some xjg) 1 = .ok b ∧ b.extra.length = 3 ∧
      ∀ e ∈ b.extra, e.1.tag = some sContaminant ∧
        ∃ a ∈ outs, a.key = some sContaminant ∧ ∃ s ∈ a.scaffolds, e.1.rows <:+: s.rows := by
  have hv := xRemapT_view
  cases hr : remap xIn xPtxT xPre (some xjg) 1 with
  | error e => rw [hr] at hv; simp [routeView, Except.toOption] at hv
  | ok res =>
    obtain ⟨outs, stats⟩ := res
    refine ⟨outs, stats, rfl, ?_⟩
    obtain ⟨b, hb, hall⟩ := target_mode_leftovers xIn xPtxT xPre (some xjg) 1 outs stats hr (by decide)
    have hlen := view_of_view xBuildT_view (fun b => b.extra.length) (·.2.2.length) (fun _ => (List.length_map _).symm)
    rw [hb] at hlen
    simp only [Except.toOption, Option.map_some, Option.some.injEq] at hlen
    refine ⟨b, hb, hlen, ?_⟩
    intro e he
    obtain ⟨sc, hsc, _, _, htag, hroute⟩ := hall e he
    have hnt : ∀ sc ∈ xIn, hasTarget sc = false := by decide
    rw [hnt sc hsc] at htag
    obtain ⟨a, ha, hk, s, hs, _, hinf⟩ := hroute (hnt sc hsc)
    exact ⟨htag, a, ha, hk, s, hs, hinf⟩


/-- hypotheses of `shared_base_one_assembly` / `tagged_leftover_never_curated`: the input is well-formed; in the
    Target-mode variant the side condition holds for the build and all three left-over scaffolds are tagged -/
example : C01.WFInput xIn ∧
    (remapToInput xIn xPtxT xPre (some xjg) 1).toOption.map
        (fun b => (decide (NoTagWordHaplotype b), b.extra.map (fun e => truthy e.1.tag))) =
      some (true, [true, true, true]) :=
  ⟨xIn_wf, view_of_view xBuildT_view _ (fun v => (v.1, v.2.2.map truthy)) (fun _ => by rw [List.map_map]; rfl)⟩

/-- `store_tag_created`: `processBait` completes on the first piece of S1 and appends one result to the empty store -/
example : (processBait xIn xS1.fragmentTags xS1.name (startBuild xIn xPre (some xjg) 1)
      (match xpf 10 ['A'] 1 100 [sPainted] with | .frag f => f | .gap _ => default)).toOption.map
    (fun b => b.store.map (fun r => (r.o.tag, r.o.rank, r.added))) = some [(none, 0, true)] := by decide +kernel

/-- `scaffold_no_haplotype` / `scaffold_haplotype_prefix`: S1's tag set has no haplotype-class and no Primary tag, its
    first row lies on input scaffold `A` (no haplotype prefix); a first row on `hap2_scaffold_3` would have prefix `hap2` -/
example : xS1.fragmentTags = [sPainted, sContaminant] ∧ (∀ t ∈ xS1.fragmentTags, hapClassTag t = false) ∧
    sPrimary ∉ xS1.fragmentTags ∧ firstRowName xS1.rows = .ok ['A'] ∧ hapPrefixOfName ['A'] = none ∧
    hapPrefixOfName "hap2_scaffold_3".toList = some "hap2".toList := by
  str_lits
  refine ⟨by decide +kernel, by decide +kernel, by decide +kernel, by decide +kernel, by decide +kernel, by decide +kernel⟩

end AgpTpf.C09
