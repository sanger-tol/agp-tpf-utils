/-
  C12 — Overlap lookup equals a brute-force scan of the scaffold.

  `IndexedAssembly.find_overlaps` (indexed_assembly.py; model `findOverlaps` in Model/Lookup.lean: cumulative
  index, binary search, extension of the hit to both sides, stripping of leading/trailing gap rows) returns, for
  EVERY non-empty scaffold with non-negative row lengths and EVERY query, exactly what the independent
  brute-force specification `bruteForce` below returns — and never raises.

  The lookup itself is taken apart in AgpTpf/Proofs/Lib/Lookup.lean (`findOverlaps_cases`).
-/
import AgpTpf.Proofs.Lib.Lookup
import AgpTpf.Proofs.ImpEval
namespace AgpTpf.C12
open AgpTpf

/-! ### the brute-force specification (independent of the index / search machinery) -/

/-- scaffold coordinates (1-based, closed) of row `k`: `(1 + Σ_{i<k} length, Σ_{i≤k} length)` -/
def rowSpan (rows : List Row) (k : Nat) : Int × Int :=
  (1 + rowsLength (rows.take k), rowsLength (rows.take (k + 1)))

/-- row `k` exists, is a FRAGMENT row and its span intersects the query `[a, b]` -/
def meets (rows : List Row) (a b : Int) (k : Nat) : Bool :=
  match rows[k]? with
  | some (.frag _) => decide ((rowSpan rows k).1 ≤ b ∧ a ≤ (rowSpan rows k).2)
  | _ => false

/-- all indices of rows meeting the query, ascending: a plain scan over the whole scaffold -/
def meeting (rows : List Row) (a b : Int) : List Nat :=
  (List.range rows.length).filter (meets rows a b)

/-- `none` when no fragment row meets the query; else, with `i` the least and `j` the greatest meeting index,
    the contiguous slice of rows `i..j` (gaps in between included) with the scaffold coordinates of its ends. -/
def bruteForce (rows : List Row) (bait : Fragment) : Option OverlapResult :=
  let hits := meeting rows bait.start bait.stop
  match hits.head?, hits.getLast? with
  | some i, some j =>
    some { bait := bait, start := (rowSpan rows i).1, stop := (rowSpan rows j).2,
           rows := (rows.drop i).take (j + 1 - i), name := "matches".toList }
  | _, _ => none

/-! ### what the specification says (sanity lemmas about `bruteForce` itself) -/

theorem meets_iff (rows : List Row) (a b : Int) (k : Nat) :
    meets rows a b k = true ↔
      ∃ f, rows[k]? = some (.frag f) ∧ (rowSpan rows k).1 ≤ b ∧ a ≤ (rowSpan rows k).2 := by
  unfold meets
  split
  · next f h => simp [h]
  · next h =>
    constructor
    · intro h'; cases h'
    · rintro ⟨f, hf, -⟩; exact absurd hf (h f)

theorem mem_meeting (rows : List Row) (a b : Int) (k : Nat) :
    k ∈ meeting rows a b ↔ meets rows a b k = true := by
  unfold meeting
  simp only [List.mem_filter, List.mem_range, and_iff_right_iff_imp]
  intro h
  obtain ⟨f, hf, -⟩ := (meets_iff rows a b k).1 h
  by_cases hk : k < rows.length
  · exact hk
  · rw [List.getElem?_eq_none (by omega)] at hf; cases hf

theorem bruteForce_eq_none_iff (rows : List Row) (bait : Fragment) :
    bruteForce rows bait = none ↔ ∀ k, meets rows bait.start bait.stop k = false := by
  unfold bruteForce
  constructor
  · intro h k
    cases hm : meets rows bait.start bait.stop k with
    | false => rfl
    | true =>
      have hk := (mem_meeting rows _ _ k).2 hm
      cases hl : meeting rows bait.start bait.stop with
      | nil => rw [hl] at hk; cases hk
      | cons x xs =>
        rw [hl] at h
        have : (x :: xs).getLast? = some ((x :: xs).getLast (by simp)) := List.getLast?_eq_some_getLast _
        simp [this] at h
  · intro h
    have : meeting rows bait.start bait.stop = [] :=
      filter_range_eq_nil _ _ (fun k _ => h k)
    simp [this]

theorem meeting_sorted (rows : List Row) (a b : Int) : (meeting rows a b).Pairwise (· < ·) :=
  filter_range_sorted _ _

theorem bruteForce_eq_some (rows : List Row) (bait : Fragment) (o : OverlapResult)
    (h : bruteForce rows bait = some o) :
    ∃ i j, meets rows bait.start bait.stop i = true ∧ meets rows bait.start bait.stop j = true ∧
      (∀ k, meets rows bait.start bait.stop k = true → i ≤ k ∧ k ≤ j) ∧
      o = { bait := bait, start := (rowSpan rows i).1, stop := (rowSpan rows j).2,
            rows := (rows.drop i).take (j + 1 - i), name := "matches".toList } := by
  unfold bruteForce at h
  simp only at h
  split at h
  · next i j hi hj =>
    have hs := meeting_sorted rows bait.start bait.stop
    exact ⟨i, j, (mem_meeting _ _ _ i).1 (List.mem_of_head? hi), (mem_meeting _ _ _ j).1 (List.mem_of_getLast? hj),
      fun k hk => ⟨head?_le_of_pairwise hs hi ((mem_meeting _ _ _ k).2 hk),
        le_getLast?_of_pairwise hs hj ((mem_meeting _ _ _ k).2 hk)⟩, (Option.some.inj h).symm⟩
  · cases h

theorem meets_eq (rows : List Row) (a b : Int) (k : Nat) :
    meets rows a b k = true ↔ fragAt rows k = true ∧ passes rows a b k := by
  unfold meets fragAt passes rowSpan pre
  split <;> simp_all

/-- **C12, full strength, with fewer hypotheses than asked for**: neither `1 ≤ a ≤ b` nor
    "fragments have length ≥ 1" is needed — only a non-empty scaffold (else the source raises ValueError)
    and non-negative row lengths (monotone index). -/
theorem find_overlaps_spec_strong (rows : List Row) (bait : Fragment) (hne : rows ≠ [])
    (hlen : ∀ r ∈ rows, 0 ≤ r.length) :
    findOverlaps rows bait = .ok (bruteForce rows bait) := by
  rcases findOverlaps_cases rows bait hne hlen with ⟨h, hno⟩ | ⟨i, j, hij, hj, h, hfi, hfj, hpi, hpj, hall⟩
  · rw [h]
    have : bruteForce rows bait = none := by
      rw [bruteForce_eq_none_iff]
      intro k
      cases hm : meets rows bait.start bait.stop k with
      | false => rfl
      | true =>
        obtain ⟨h1, h2⟩ := (meets_eq _ _ _ _).1 hm
        exact absurd h2 (hno k h1)
    rw [this]
  · rw [h]
    have hmi : meets rows bait.start bait.stop i = true := (meets_eq _ _ _ _).2 ⟨hfi, hpi⟩
    have hmj : meets rows bait.start bait.stop j = true := (meets_eq _ _ _ _).2 ⟨hfj, hpj⟩
    have hall' : ∀ k, meets rows bait.start bait.stop k = true → i ≤ k ∧ k ≤ j := by
      intro k hk
      obtain ⟨h1, h2⟩ := (meets_eq _ _ _ _).1 hk
      exact hall k h1 h2
    have hh : (meeting rows bait.start bait.stop).head? = some i :=
      head?_filter_range _ _ i (by omega) hmi (fun k _ hk => (hall' k hk).1)
    have hl : (meeting rows bait.start bait.stop).getLast? = some j :=
      getLast?_filter_range _ _ j hj hmj (fun k _ hk => (hall' k hk).2)
    unfold bruteForce
    simp only [hh, hl]
    rfl

/-- **C12 as stated in the task.** For every non-empty scaffold (any mixture of fragment and gap rows, gaps
    first / last / consecutive, zero-length gaps, 1-bp rows, single-row scaffolds) and every query `[a, b]`,
    `1 ≤ a ≤ b` (also ending or lying wholly beyond the scaffold end), the lookup does not raise and returns
    exactly the brute-force answer. -/
theorem find_overlaps_spec (rows : List Row) (bait : Fragment) (hne : rows ≠ [])
    (_hq : 1 ≤ bait.start ∧ bait.start ≤ bait.stop) (hlen : ∀ r ∈ rows, 0 ≤ r.length)
    (_hfrag : ∀ f, Row.frag f ∈ rows → 1 ≤ f.length) :
    findOverlaps rows bait = .ok (bruteForce rows bait) :=
  find_overlaps_spec_strong rows bait hne hlen

/-- "never fails" -/
theorem find_overlaps_never_fails (rows : List Row) (bait : Fragment) (hne : rows ≠ [])
    (hlen : ∀ r ∈ rows, 0 ≤ r.length) : ∀ e, findOverlaps rows bait ≠ .error e := by
  intro e h
  rw [find_overlaps_spec_strong rows bait hne hlen] at h
  cases h

/-- A query that touches no fragment row (only gaps — leading, trailing, inner — or nothing at all)
    returns `None`. -/
theorem find_overlaps_only_gaps (rows : List Row) (bait : Fragment) (hne : rows ≠ [])
    (hlen : ∀ r ∈ rows, 0 ≤ r.length)
    (h : ∀ k, meets rows bait.start bait.stop k = false) :
    findOverlaps rows bait = .ok none := by
  rw [find_overlaps_spec_strong rows bait hne hlen, (bruteForce_eq_none_iff rows bait).2 h]

/-- A query lying wholly beyond the scaffold end returns `None`. -/
theorem find_overlaps_beyond_end (rows : List Row) (bait : Fragment) (hne : rows ≠ [])
    (hlen : ∀ r ∈ rows, 0 ≤ r.length) (h : rowsLength rows < bait.start) :
    findOverlaps rows bait = .ok none := by
  apply find_overlaps_only_gaps rows bait hne hlen
  intro k
  cases hm : meets rows bait.start bait.stop k with
  | false => rfl
  | true =>
    obtain ⟨h1, h2⟩ := (meets_eq _ _ _ _).1 hm
    have hk := fragAt_lt rows k h1
    have := pre_mono rows hlen (k + 1) rows.length (by omega)
    have e : pre rows rows.length = rowsLength rows := by simp [pre]
    unfold passes at h2
    omega

/-- Shape of every returned result: the rows are not empty, begin and end with a fragment row (leading and
    trailing gaps are stripped), both end rows intersect the query, and the reported span is exactly as long
    as the returned rows. -/
theorem find_overlaps_result (rows : List Row) (bait : Fragment) (o : OverlapResult) (hne : rows ≠ [])
    (hlen : ∀ r ∈ rows, 0 ≤ r.length) (h : findOverlaps rows bait = .ok (some o)) :
    o.rows ≠ [] ∧ (∃ f, o.rows.head? = some (.frag f)) ∧ (∃ g, o.rows.getLast? = some (.frag g)) ∧
    o.stop - o.start + 1 = rowsLength o.rows ∧ o.bait = bait ∧
    o.start ≤ bait.stop ∧ bait.start ≤ o.stop := by
  rcases findOverlaps_cases rows bait hne hlen with ⟨h', -⟩ | ⟨i, j, hij, hj, h', hfi, hfj, hpi, hpj, -⟩
  · rw [h'] at h; cases h
  · rw [h'] at h; cases h
    obtain ⟨fi, hfi⟩ := (fragAt_iff rows i).1 hfi
    obtain ⟨fj, hfj⟩ := (fragAt_iff rows j).1 hfj
    have hhead : ((rows.drop i).take (j + 1 - i)).head? = some (.frag fi) := by rw [slice_head? rows hij, hfi]
    refine ⟨fun e => ?_, ⟨fi, hhead⟩, ⟨fj, by rw [slice_getLast? rows hij hj, hfj]⟩, ?_, rfl, hpi.1, hpj.2⟩
    · rw [show (rows.drop i).take (j + 1 - i) = [] from e] at hhead; cases hhead
    · show pre rows (j + 1) - (1 + pre rows i) + 1 = _
      rw [rowsLength_slice rows (by omega)]; omega

/-! ### hypotheses are satisfiable; concrete evaluations of both sides -/

def fr (n : String) (len : Int) : Row := .frag { name := n.toList, start := 1, stop := len, strand := 1 }
def gp (len : Int) : Row := .gap { length := len, gapType := "scaffold".toList }
def q (a b : Int) : Fragment := { name := "s".toList, start := a, stop := b, strand := 1 }

/-- leading gap (1-5), A (6-15), two consecutive gaps (16-18, 19-20), 1-bp B (21), a zero-length gap, C (22-26),
    trailing gap (27-30) -/
def demo : List Row := [gp 5, fr "A" 10, gp 3, gp 2, fr "B" 1, gp 0, fr "C" 5, gp 4]

example : demo ≠ [] ∧ (∀ r ∈ demo, 0 ≤ r.length) ∧ (∀ f, Row.frag f ∈ demo → 1 ≤ f.length) ∧
    (1 ≤ (q 17 40).start ∧ (q 17 40).start ≤ (q 17 40).stop) := by
  refine ⟨by decide, by decide, ?_, by decide⟩
  intro f hf
  simp only [demo, fr, gp, List.mem_cons, Row.frag.injEq, List.not_mem_nil, or_false, reduceCtorEq,
    false_or] at hf
  rcases hf with rfl | rfl | rfl <;> decide

/-- equality of lookup outcomes is decidable (only used to evaluate concrete lookups) -/
instance decEqOutcome : DecidableEq (R (Option OverlapResult)) := ImpEval.instDecEqExcept

-- the specification, evaluated
example : bruteForce demo (q 1 5) = none := by decide +kernel              -- leading gap only
example : bruteForce demo (q 27 30) = none := by decide +kernel            -- trailing gap only
example : bruteForce demo (q 16 20) = none := by decide +kernel            -- inner consecutive gaps only
example : bruteForce demo (q 31 99) = none := by decide +kernel            -- beyond the end
example : bruteForce demo (q 1 6) =
    some { bait := q 1 6, start := 6, stop := 15, rows := [fr "A" 10], name := "matches".toList } := by decide +kernel
example : bruteForce demo (q 17 40) =                                       -- starts in a gap, ends past the end
    some { bait := q 17 40, start := 21, stop := 26, rows := [fr "B" 1, gp 0, fr "C" 5],
           name := "matches".toList } := by decide +kernel
example : bruteForce demo (q 15 21) =
    some { bait := q 15 21, start := 6, stop := 21, rows := [fr "A" 10, gp 3, gp 2, fr "B" 1],
           name := "matches".toList } := by decide +kernel

-- the lookup, evaluated independently of the theorem, on the same queries
example : findOverlaps demo (q 1 5) = .ok none := by decide +kernel
example : findOverlaps demo (q 27 30) = .ok none := by decide +kernel
example : findOverlaps demo (q 16 20) = .ok none := by decide +kernel
example : findOverlaps demo (q 31 99) = .ok none := by decide +kernel
example : findOverlaps demo (q 1 6) = .ok (bruteForce demo (q 1 6)) := by decide +kernel
example : findOverlaps demo (q 17 40) = .ok (bruteForce demo (q 17 40)) := by decide +kernel
example : findOverlaps demo (q 15 21) = .ok (bruteForce demo (q 15 21)) := by decide +kernel
example : findOverlaps demo (q 21 21) = .ok (bruteForce demo (q 21 21)) := by decide +kernel
example : findOverlaps [gp 3] (q 1 2) = .ok (bruteForce [gp 3] (q 1 2)) := by decide +kernel
example : findOverlaps [fr "A" 1] (q 1 1) = .ok (bruteForce [fr "A" 1] (q 1 1)) := by decide +kernel
-- the empty scaffold raises ValueError as in the source (outside the theorem's hypotheses)
example : findOverlaps [] (q 1 2) = .error .value := by decide +kernel

end AgpTpf.C12
