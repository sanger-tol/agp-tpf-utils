/-
  C10 (continued) — chromosome numbering with SEVERAL haplotypes:
  "in multi-haplotype maps the first haplotype decides and homologues grouped with it share the number".

  Model: `buildGroups`, `groupsHaveErrors`, `groupFirstLength`, `multiChrList`, `nameGroup` and the `name_chromosomes`
  block of `assembliesFused` (`nameChromosomes`, proved equal to that block in `finishAssemblies_eq_name`).
  Python: `ChrNamer`, `ChrGroup` in /repo/src/tola/assembly/build_utils.py.
  Everything here is for `haplotypes_seen = h1 :: others`, `others ≠ []` (the case `[h]` is in `Properties/C10.lean`).

  Vocabulary (definitions in `Proofs/C10GroupDict.lean`, `C10Build.lean`, `C10Name.lean`, `C10Number.lean`):
    * `Entry = Str × Nat`           `(haplotype key, id)` — one `ChrNamer.add_scaffold` call
    * `origOf fs sid`               Pretext name (`original_name`) of the fused scaffold `sid`
    * `startsNew fs seg e`          the cut rule of `build_groups` (`starts_new_iff` spells it out)
    * `segments fs entries`         decomposition of the entries by that rule (`segments_characterised`)
    * `segGroup fs haps seg`        the `ChrGroup.data` obtained by adding the entries of `seg` to a fresh group;
                                    `= haps.map (fun h => (h, hapChrs fs h seg))` (`seg_group_eq`)
    * `hapOrigs fs h seg`           distinct Pretext names of haplotype `h` in `seg`, first-occurrence order
    * `idsOf fs h o seg`            ids of the `h`-scaffolds with Pretext name `o` in `seg`, in order
    * `hapChrs fs h seg`            `(hapOrigs fs h seg).map (fun o => (o, idsOf fs h o seg))`   = `group.data[h]`
    * `groupsSpec fs haps entries`  `(segments fs entries).map (segGroup fs haps)`
    * `firstLen`, `sortedGroups`    `length_of_first_haplotype` (total) and the stable descending sort by it
    * `chrCount fs seg e`, `chrIndex fs seg e`   number of chromosomes of `e`'s haplotype in the group of `seg`, and
                                    the position of `e`'s chromosome among them
    * `chrLetter c i`               `[]` if `c = 1`, else the one-letter string `chr(ord "A" + i)`

  PROVED (all at full strength for the model):
    M1 `build_groups_multi`, `build_groups_multi_fails_iff`, `build_groups_multi_error` (+ `segments_characterised`,
       `starts_new_iff`, `seg_group_eq`, `hap_origs_spec`): `buildGroups = .ok (groupsSpec …)` iff every entry has a non-empty
       `original_name`; otherwise `ValueError`.  The `KeyError` branch (`Err.key`) and the `IndexError` of `ids[0]` are
       UNREACHABLE.
    M2 `group_errors_iff`, `group_errors_multi`
    M3 `numbering_multi`, `numbering_multi_error`, `numbering_multi_unloc`, `name_group_multi`
    M4 `homologues_share_number`
    M5 `names_unique_multi`
    and `assemblies_fused_multi` (the hypotheses about `haplotypes_seen` / entries are facts of the split loop).
  REMARKS / FINDINGS are collected at the end of the file.
-/
import AgpTpf.Properties.C10
import AgpTpf.Proofs.C10GroupDict
import AgpTpf.Proofs.C10Build
import AgpTpf.Proofs.C10Name
import AgpTpf.Proofs.C10Number
namespace AgpTpf.C10
open AgpTpf
open scoped AgpTpf.ImpEval

/-! ## running example: two haplotypes, four groups, one Singleton

  Pretext order:            Hap1          Hap2
     group a               Scaffold_1    Scaffold_2 (+ unloc)
     group b               Scaffold_3    Scaffold_4, Scaffold_5
     group c               Scaffold_6 (Singleton)
     group d               Scaffold_7    Scaffold_8
-/

def sHap1 : Str := "Hap1".toList
def sHap2 : Str := "Hap2".toList

def mSc (nm orig : Str) (hap : Str) (len : Int) (tags : List Str := [sPainted]) : Scaffold :=
  { name := nm, rank := 1, haplotype := some hap, originalName := some orig, originalTags := some tags,
    rows := [.frag { name := "ctg".toList, start := 1, stop := len, strand := 1 }] }

def mFs : List Scaffold :=
  [mSc "Scaffold_1".toList "Scaffold_1".toList sHap1 100,
   mSc "Scaffold_2".toList "Scaffold_2".toList sHap2 90,
   mSc "Scaffold_2_unloc_1".toList "Scaffold_2".toList sHap2 10,
   mSc "Scaffold_3".toList "Scaffold_3".toList sHap1 300,
   mSc "Scaffold_4".toList "Scaffold_4".toList sHap2 150,
   mSc "Scaffold_5".toList "Scaffold_5".toList sHap2 140,
   mSc "Scaffold_6".toList "Scaffold_6".toList sHap1 50 [sPainted, sSingleton],
   mSc "Scaffold_7".toList "Scaffold_7".toList sHap1 200,
   mSc "Scaffold_8".toList "Scaffold_8".toList sHap2 190]

def mEntries : List Entry :=
  [(sHap1, 0), (sHap2, 1), (sHap2, 2), (sHap1, 3), (sHap2, 4), (sHap2, 5), (sHap1, 6), (sHap1, 7), (sHap2, 8)]

def mHaps : List Str := [sHap1, sHap2]

def mFsC : Decoded mFs := ⟨_, by unfold mFs sHap1 sHap2; str_lits; exact rfl⟩

/-! ## M1  `ChrNamer.build_groups` with several haplotypes -/

/-- **the cut rule in words.**  A new group starts before `e` (the current group holding the entries `seg`, `l` the
    previous entry) exactly when
      (i)  `e`'s haplotype differs from `l`'s and the current group already has an entry of `e`'s haplotype, or
      (ii) the haplotype is unchanged, the Pretext name changed, and the FIRST scaffold the current group holds under
           `l`'s haplotype and Pretext name carries the `Singleton` tag. -/
theorem starts_new_iff (fs : List Scaffold) (seg : List Entry) (e : Entry) :
    startsNew fs seg e = true ↔
      ∃ l, seg.getLast? = some l ∧
        ((e.1 ≠ l.1 ∧ ∃ x ∈ seg, x.1 = e.1) ∨
         (e.1 = l.1 ∧ origOf fs e.2 ≠ origOf fs l.2 ∧
            ∃ x, seg.find? (fun x => decide (x.1 = l.1) && decide (origOf fs x.2 = origOf fs l.2)) = some x ∧
              isSingletonSc fs x.2 = true)) := by
  have hhead : ∀ (h o : Str), (idsOf fs h o seg).head? =
      (seg.find? (fun x => decide (x.1 = h) && decide (origOf fs x.2 = o))).map (·.2) := by
    intro h o
    unfold idsOf hapEntries
    rw [List.head?_map, List.filter_filter, List.head?_filter]
    congr 1
    congr 1
    funext x
    exact Bool.and_comm _ _
  unfold startsNew
  cases hl : seg.getLast? with
  | none => simp
  | some l =>
    simp only [Option.some.injEq, exists_eq_left']
    by_cases hh : e.1 = l.1
    · simp only [hh, ne_eq, not_true_eq_false, if_false, false_and, false_or, true_and]
      by_cases ho : origOf fs e.2 = origOf fs l.2
      · simp [ho]
      · simp only [ho, not_false_eq_true, if_true, true_and]
        rw [hhead]
        cases hf : seg.find? (fun x => decide (x.1 = l.1) && decide (origOf fs x.2 = origOf fs l.2)) with
        | none => simp
        | some x => simp
    · simp only [ne_eq, hh, not_false_eq_true, if_true, true_and, false_and, or_false]
      rw [List.any_eq_true]
      simp

/-- **what `segments` means**: concatenating the segments gives back the entries; inside a segment the rule never
    fires (`NoCut`); between two neighbouring segments it fires (`Boundaries`: the second segment begins with the entry
    `e` for which `startsNew fs <first segment> e`); no segment is empty.  These facts determine the decomposition. -/
theorem segments_characterised (fs : List Scaffold) (entries : List Entry) :
    (segments fs entries).flatten = entries ∧
    (∀ s ∈ segments fs entries, ∀ pre e post, s = pre ++ e :: post → startsNew fs pre e = false) ∧
    Boundaries fs (segments fs entries) ∧
    (entries ≠ [] → ∀ s ∈ segments fs entries, s ≠ []) := by
  have hc := segments_isCut fs entries
  refine ⟨hc.1, segments_noCut fs entries, segmentsAux_boundaries fs entries [], fun hne => ?_⟩
  rcases hc.2 with h | h
  · exact h
  · rw [h] at hc; exact absurd hc.1.symm hne

example (fs : List Scaffold) (s1 s2 : List Entry) (r : List (List Entry)) :
    Boundaries fs (s1 :: s2 :: r) ↔ (∃ e t, s2 = e :: t ∧ startsNew fs s1 e = true) ∧ Boundaries fs (s2 :: r) := Iff.rfl

/-- **the group of a segment**: for duplicate-free `haplotypes_seen` containing every key of the segment, the
    `ChrGroup.data` is `{h: {o: ids}}` with, per haplotype `h` in `haplotypes_seen` order, the distinct Pretext names in
    first-occurrence order, each with its scaffold ids in order.  (`dGet_segGroup`, `segGroup_head` give the same
    per-haplotype without the side conditions.) -/
theorem seg_group_eq (fs : List Scaffold) (haps : List Str) (hnd : haps.Nodup) (seg : List Entry)
    (hm : ∀ e ∈ seg, e.1 ∈ haps) :
    segGroup fs haps seg = haps.map (fun h => (h, (hapOrigs fs h seg).map (fun o => (o, idsOf fs h o seg)))) :=
  segGroup_eq fs haps hnd seg hm

theorem hap_origs_spec (fs : List Scaffold) (h : Str) (seg : List Entry) :
    (hapOrigs fs h seg).Nodup ∧ (∀ o, o ∈ hapOrigs fs h seg ↔ ∃ e ∈ seg, e.1 = h ∧ origOf fs e.2 = o) ∧
    (∀ o j, j ∈ idsOf fs h o seg ↔ ∃ e ∈ seg, e.1 = h ∧ origOf fs e.2 = o ∧ e.2 = j) :=
  ⟨hapOrigs_nodup fs h seg, fun o => mem_hapOrigs fs h o seg, fun o j => mem_idsOf fs h o seg j⟩

/-- **M1.**  With `haplotypes_seen = h1 :: others`, `others ≠ []`: if every scaffold has a non-empty `original_name`,
    `build_groups` returns — in order — the group of every segment; if some scaffold has an empty or absent
    `original_name`, it raises `ValueError`.  The two cases are exhaustive. -/
theorem build_groups_multi (fs : List Scaffold) (h1 : Str) (others : List Str) (hne : others ≠ [])
    (entries : List Entry) :
    ((∀ e ∈ entries, truthy (fs.getD e.2 default).originalName = true) →
        buildGroups fs (h1 :: others) entries = .ok (groupsSpec fs (h1 :: others) entries)) ∧
    ((∃ e ∈ entries, truthy (fs.getD e.2 default).originalName = false) →
        buildGroups fs (h1 :: others) entries = .error .value) := by
  have hoth : ((h1 :: others).drop 1).isEmpty = false := by
    cases others with
    | nil => exact absurd rfl hne
    | cons _ _ => rfl
  exact ⟨buildGroups_multi_ok fs _ hoth entries, (buildGroups_any fs _ entries).2⟩

/-- `build_groups` fails exactly when some `original_name` is missing or empty … -/
theorem build_groups_multi_fails_iff (fs : List Scaffold) (h1 : Str) (others : List Str) (hne : others ≠ [])
    (entries : List Entry) :
    (∃ err, buildGroups fs (h1 :: others) entries = .error err) ↔
      ∃ e ∈ entries, truthy (fs.getD e.2 default).originalName = false :=
  ⟨fun ⟨err, herr⟩ => ((buildGroups_error_iff fs _ entries err).1 herr).2,
    fun hb => ⟨_, (buildGroups_error_iff fs _ entries _).2 ⟨rfl, hb⟩⟩⟩

/-- … and then the error is `ValueError`: **the `KeyError` branch (`Err.key`, the lookup
    `haplotype_dict(haplotype)[last_orig]`) and the `IndexError` of `[0]` are unreachable**, because the previous
    entry — of the same haplotype, with Pretext name `last_orig` — is always in the current group. -/
theorem build_groups_multi_error (fs : List Scaffold) (h1 : Str) (others : List Str) (hne : others ≠ [])
    (entries : List Entry) (err : Err) (h : buildGroups fs (h1 :: others) entries = .error err) : err = .value :=
  ((buildGroups_error_iff fs _ entries err).1 h).1

/-- the example: four groups; rule (i) fires before ids 3 and 6, rule (ii) (Scaffold_6 is a Singleton) before id 7;
    Scaffold_5 joins Scaffold_4's group (Scaffold_4 is not a Singleton) -/
example : segments mFs mEntries =
    [[(sHap1, 0), (sHap2, 1), (sHap2, 2)], [(sHap1, 3), (sHap2, 4), (sHap2, 5)], [(sHap1, 6)], [(sHap1, 7), (sHap2, 8)]] := by
  rw [mFsC.2]; unfold mEntries sHap1 sHap2; str_lits; decide +kernel
theorem mGroups : groupsSpec mFs mHaps mEntries =
    [[(sHap1, [("Scaffold_1".toList, [0])]), (sHap2, [("Scaffold_2".toList, [1, 2])])],
     [(sHap1, [("Scaffold_3".toList, [3])]), (sHap2, [("Scaffold_4".toList, [4]), ("Scaffold_5".toList, [5])])],
     [(sHap1, [("Scaffold_6".toList, [6])]), (sHap2, [])],
     [(sHap1, [("Scaffold_7".toList, [7])]), (sHap2, [("Scaffold_8".toList, [8])])]] := by
  rw [mFsC.2]; unfold mEntries mHaps sHap1 sHap2; str_lits; decide +kernel
theorem mBuilt : buildGroups mFs mHaps mEntries = .ok (groupsSpec mFs mHaps mEntries) :=
  (build_groups_multi mFs sHap1 [sHap2] (List.cons_ne_nil _ _) mEntries).1
    (by rw [mFsC.2]; unfold mEntries sHap1 sHap2; str_lits; decide +kernel)
example : (match buildGroups mFs mHaps mEntries with | .ok g => g | .error _ => []) =
         [[(sHap1, [("Scaffold_1".toList, [0])]), (sHap2, [("Scaffold_2".toList, [1, 2])])],
          [(sHap1, [("Scaffold_3".toList, [3])]), (sHap2, [("Scaffold_4".toList, [4]), ("Scaffold_5".toList, [5])])],
          [(sHap1, [("Scaffold_6".toList, [6])]), (sHap2, [])],
          [(sHap1, [("Scaffold_7".toList, [7])]), (sHap2, [("Scaffold_8".toList, [8])])]] := by rw [mBuilt, mGroups]
example : (buildGroups mFs mHaps mEntries).toOption.isSome = true := by rw [mBuilt]; rfl
example : groupsSpec mFs mHaps mEntries =
    [[(sHap1, [("Scaffold_1".toList, [0])]), (sHap2, [("Scaffold_2".toList, [1, 2])])],
     [(sHap1, [("Scaffold_3".toList, [3])]), (sHap2, [("Scaffold_4".toList, [4]), ("Scaffold_5".toList, [5])])],
     [(sHap1, [("Scaffold_6".toList, [6])]), (sHap2, [])],
     [(sHap1, [("Scaffold_7".toList, [7])]), (sHap2, [("Scaffold_8".toList, [8])])]] := mGroups
example : mHaps = sHap1 :: [sHap2] ∧ [sHap2] ≠ [] ∧ mHaps.Nodup ∧ (∀ e ∈ mEntries, e.1 ∈ mHaps) ∧
    (mEntries.map (·.2)).Nodup ∧ (∀ e ∈ mEntries, truthy (mFs.getD e.2 default).originalName = true) := by
  rw [mFsC.2]; unfold mEntries mHaps sHap1 sHap2; str_lits; decide +kernel
/-- rule (i) and rule (ii) at work -/
example : startsNew mFs [(sHap1, 0), (sHap2, 1), (sHap2, 2)] (sHap1, 3) = true ∧
    startsNew mFs [(sHap1, 6)] (sHap1, 7) = true ∧
    startsNew mFs [(sHap1, 3), (sHap2, 4)] (sHap2, 5) = false := by
  rw [mFsC.2]; unfold sHap1 sHap2; str_lits; decide +kernel
/-- a scaffold without Pretext name: `ValueError` -/
example : (match buildGroups [{ name := "x".toList, rank := 1 }] mHaps [(sHap1, 0)] with
    | .error e => some e | .ok _ => none) = some Err.value := by unfold mHaps sHap1 sHap2; str_lits; decide +kernel

/-! ## M2  `check_groups` -/

/-- **M2.**  `check_groups` reports an error iff some group's FIRST haplotype set has no chromosome (`<empty>`) or
    at least two (`<Consecutive h1>`). -/
theorem group_errors_iff (groups : List GroupData) :
    groupsHaveErrors groups = true ↔
      ∃ g ∈ groups, ∃ h first rest, g = (h, first) :: rest ∧ (first = [] ∨ 2 ≤ first.length) := by
  rw [groupsHaveErrors_iff]
  constructor
  · rintro ⟨g, hg, h, first, rest, e, hne⟩
    refine ⟨g, hg, h, first, rest, e, ?_⟩
    cases first with
    | nil => exact Or.inl rfl
    | cons a r => right; simp at hne ⊢; cases r with
      | nil => exact absurd rfl hne
      | cons _ _ => simp
  · rintro ⟨g, hg, h, first, rest, e, hor⟩
    refine ⟨g, hg, h, first, rest, e, ?_⟩
    rcases hor with h0 | h2
    · rw [h0]; simp
    · exact Nat.ne_of_gt h2

/-- **M2 on the groups `build_groups` returns**: an error iff in some segment the first haplotype `h1` has no scaffold
    or scaffolds of at least two different Pretext names. -/
theorem group_errors_multi (fs : List Scaffold) (h1 : Str) (others : List Str) (entries : List Entry) :
    groupsHaveErrors (groupsSpec fs (h1 :: others) entries) = true ↔
      ∃ seg ∈ segments fs entries, (∀ e ∈ seg, e.1 ≠ h1) ∨ 2 ≤ (hapOrigs fs h1 seg).length := by
  rw [group_errors_iff]
  constructor
  · rintro ⟨g, hg, h, first, rest, e, hor⟩
    obtain ⟨seg, hseg, rfl⟩ := List.mem_map.1 hg
    obtain ⟨rest', hh⟩ := segGroup_head fs h1 others seg
    rw [hh] at e
    simp only [List.cons.injEq, Prod.mk.injEq] at e
    obtain ⟨⟨_, e2⟩, _⟩ := e
    refine ⟨seg, hseg, ?_⟩
    rw [← e2, hapChrs_length] at hor
    rcases hor with h0 | h2
    · left
      apply (hapOrigs_eq_nil_iff fs h1 seg).1
      unfold hapChrs at h0
      simpa using h0
    · exact Or.inr h2
  · rintro ⟨seg, hseg, hor⟩
    obtain ⟨rest', hh⟩ := segGroup_head fs h1 others seg
    refine ⟨segGroup fs (h1 :: others) seg, List.mem_map.2 ⟨seg, hseg, rfl⟩, h1, hapChrs fs h1 seg, rest', hh, ?_⟩
    rcases hor with h0 | h2
    · left
      unfold hapChrs
      rw [(hapOrigs_eq_nil_iff fs h1 seg).2 h0]; rfl
    · right; rw [hapChrs_length]; exact h2

example : groupsHaveErrors (groupsSpec mFs mHaps mEntries) = false := by
  rw [mFsC.2]; unfold mEntries mHaps sHap1 sHap2; str_lits; decide +kernel
/-- two consecutive Hap1 scaffolds without Singleton: `<Consecutive Hap1>` — `ChrNamerError` -/
example : groupsHaveErrors (groupsSpec mFs mHaps [(sHap1, 0), (sHap1, 3), (sHap2, 4)]) = true ∧
    (match nameChromosomes "SUPER_".toList mFs mHaps [(sHap1, 0), (sHap1, 3), (sHap2, 4)] with
      | .error e => some e | .ok _ => none) = some Err.chrNamer := by
  rw [mFsC.2]; unfold mHaps sHap1 sHap2; str_lits; decide +kernel
/-- the second haplotype comes first in a later group, which then has no Hap1 scaffold: `<empty>` -/
example : groupsHaveErrors (groupsSpec mFs [sHap2, sHap1] [(sHap1, 0), (sHap2, 1), (sHap2, 2)]) = false ∧
    groupsHaveErrors (groupsSpec mFs [sHap2, sHap1] [(sHap1, 0), (sHap2, 1), (sHap1, 3)]) = true := by
  rw [mFsC.2]; unfold sHap1 sHap2; str_lits; decide +kernel

/-! ## M3  numbering -/

/-- **`ChrGroup.name_chromosome(prefix, n)` on an arbitrary group** whose scaffold ids are pairwise different:
    exactly the scaffolds of the group are touched; in a scaffold of the `i`-th chromosome (Pretext name `o`) of a
    haplotype with `c` chromosomes in the group every occurrence of `o` in the name is replaced by
    `prefix ++ str(n)` (`c = 1`) resp. `prefix ++ str(n) ++ chr(ord "A" + i)` (`multi_chr_list`). -/
theorem name_group_multi (fs : List Scaffold) (g : GroupData) (prefix_ : Str) (n : Nat) (hnd : (groupIds g).Nodup) :
    (nameGroup fs g prefix_ n).length = fs.length ∧
    (∀ j, j ∉ groupIds g → (nameGroup fs g prefix_ n).getD j default = fs.getD j default) ∧
    (∀ hc ∈ g, ∀ i (hi : i < hc.2.length), ∀ j ∈ hc.2[i].2,
      (nameGroup fs g prefix_ n).getD j default =
        { fs.getD j default with
          name := replaceAll hc.2[i].1 (prefix_ ++ natToStr n ++ chrLetter hc.2.length i)
                    ((fs.getD j default).name.length + 1) (fs.getD j default).name }) :=
  nameGroup_spec fs g prefix_ n hnd

theorem multi_chr_list_eq (base : Str) (c : Nat) :
    multiChrList base c = (List.range c).map (fun i => base ++ chrLetter c i) ∧
    chrLetter 1 0 = [] ∧ (∀ i, c ≠ 1 → chrLetter c i = [Char.ofNat (65 + i)]) :=
  ⟨multiChrList_eq base c, rfl, fun i h => by unfold chrLetter; rw [if_neg h]⟩

example : multiChrList "SUPER_9".toList 1 = ["SUPER_9".toList] ∧
    multiChrList "SUPER_9".toList 3 = ["SUPER_9A".toList, "SUPER_9B".toList, "SUPER_9C".toList] := by
  str_lits; decide +kernel

/-- `check_groups` found an error: `ChrNamerError` -/
theorem numbering_multi_error (prefix_ : Str) (fs : List Scaffold) (h1 : Str) (others : List Str) (hne : others ≠ [])
    (entries : List Entry) (hg : ∀ e ∈ entries, truthy (fs.getD e.2 default).originalName = true)
    (herr : groupsHaveErrors (groupsSpec fs (h1 :: others) entries) = true) :
    nameChromosomes prefix_ fs (h1 :: others) entries = .error .chrNamer :=
  (nameChromosomes_multi prefix_ fs h1 others hne entries hg).1 herr

/-- **M3.**  `haplotypes_seen = h1 :: others` (duplicate-free, containing every entry's key), `others ≠ []`, entry ids
    pairwise different, every scaffold with a Pretext name, `check_groups` without error.  Then `name_chromosomes`
    succeeds and
      * `sorted` = the groups in non-increasing order of `length_of_first_haplotype`, ties in build order (stable);
        the groups are pairwise different, so the position of a group in `sorted` is unique;
      * scaffolds not handed to `ChrNamer` are untouched;
      * every segment `seg` has ONE position `k` in `sorted` (its number is `k + 1`, so the numbers are `1..n`);
        `length_of_first_haplotype` of that group is the summed fragments length of the `h1`-scaffolds of `seg`
        (chromosome + unlocs), of which there is exactly one Pretext name;
      * every scaffold `e` of `seg`: in its name every occurrence of its Pretext name is replaced by
        `prefix ++ str(k+1) ++ chrLetter c i`, `c` the number of chromosomes (distinct Pretext names) of `e`'s
        haplotype in `seg` and `i` the position of `e`'s among them — i.e. `<prefix>k` if `c = 1`, else `<prefix>kA`,
        `<prefix>kB`, …;
      * hence a scaffold called `<Pretext name> ++ suf` (no further occurrence of the Pretext name in `suf`) is then
        called `<prefix>k<letter> ++ suf`. -/
theorem numbering_multi (prefix_ : Str) (fs : List Scaffold) (h1 : Str) (others : List Str) (hne : others ≠ [])
    (hnd : (h1 :: others).Nodup) (entries : List Entry) (hm : ∀ e ∈ entries, e.1 ∈ h1 :: others)
    (hid : (entries.map (·.2)).Nodup) (hg : ∀ e ∈ entries, truthy (fs.getD e.2 default).originalName = true)
    (hok : groupsHaveErrors (groupsSpec fs (h1 :: others) entries) = false) :
    let groups := groupsSpec fs (h1 :: others) entries
    let sorted := sortedGroups fs groups
    ∃ fs', nameChromosomes prefix_ fs (h1 :: others) entries = .ok fs' ∧
      sorted.Perm groups ∧ sorted.Nodup ∧
      sorted.Pairwise (fun a b => firstLen fs a ≥ firstLen fs b) ∧
      (∀ L : Int, sorted.filter (fun g => firstLen fs g = L) = groups.filter (fun g => firstLen fs g = L)) ∧
      fs'.length = fs.length ∧
      (∀ j, j ∉ entries.map (·.2) → fs'.getD j default = fs.getD j default) ∧
      (∀ seg ∈ segments fs entries, ∃ k, ∃ hk : k < sorted.length,
        sorted[k] = segGroup fs (h1 :: others) seg ∧
        (hapOrigs fs h1 seg).length = 1 ∧
        firstLen fs sorted[k] = firstHapLength fs h1 seg ∧
        ∀ e ∈ seg,
          fs'.getD e.2 default =
            { fs.getD e.2 default with
              name := replaceAll (origOf fs e.2)
                        (prefix_ ++ natToStr (k + 1) ++ chrLetter (chrCount fs seg e) (chrIndex fs seg e))
                        ((fs.getD e.2 default).name.length + 1) (fs.getD e.2 default).name } ∧
          chrIndex fs seg e < chrCount fs seg e ∧
          (hapOrigs fs e.1 seg)[chrIndex fs seg e]? = some (origOf fs e.2) ∧
          ∀ suf, (fs.getD e.2 default).name = origOf fs e.2 ++ suf → occursIn (origOf fs e.2) suf = false →
            fs'.getD e.2 default =
              { fs.getD e.2 default with
                name := prefix_ ++ natToStr (k + 1) ++ chrLetter (chrCount fs seg e) (chrIndex fs seg e) ++ suf }) := by
  intro groups sorted
  have hnc := (nameChromosomes_multi prefix_ fs h1 others hne entries hg).2 hok
  have hcut := segments_isCut fs entries
  have hids := sorted_ids fs (h1 :: others) hcut
  obtain ⟨a, b, _⟩ := nameGroups_spec prefix_ sorted fs (hids.nodup_iff.2 hid)
  refine ⟨_, hnc, sortedGroups_perm fs groups, (sortedGroups_perm fs _).nodup_iff.2 (groups_nodup fs _ hcut hid), sortedGroups_sorted fs groups,
    sortedGroups_stable fs groups, a, ?_, ?_⟩
  · intro j hj
    exact b j (fun hmem => hj (hids.mem_iff.1 hmem))
  · intro seg hseg
    obtain ⟨k, hk, hkg, hren⟩ := piece_numbered prefix_ fs (h1 :: others) hnd hcut hm hid seg hseg
    have hone := first_hap_one fs h1 others _ hok seg hseg
    refine ⟨k, hk, hkg, hone, (congrArg (firstLen fs) hkg).trans (firstLen_segGroup fs h1 others seg hone), ?_⟩
    intro e he
    have hr := hren e he
    refine ⟨?_, chrIndex_lt fs seg e he, chrIndex_get fs seg e he, ?_⟩
    · exact hr
    · intro suf hn ho
      exact hr.trans (renameScaffold_piece fs e.2 _ (hg e (hcut.sub seg hseg e he)) suf hn ho)

/-- **M3, unlocs** (same side condition as `name_group_single_unloc`): a scaffold of `seg` called
    `<Pretext name>_unloc_<m>` becomes `<prefix><k><letter>_unloc_<m>`, `k`, `letter` those of its chromosome, provided
    the Pretext name has a character that is neither a digit nor one of `_ u n l o c` (true of every `Scaffold_<i>`). -/
theorem numbering_multi_unloc (prefix_ : Str) (fs : List Scaffold) (h1 : Str) (others : List Str) (hne : others ≠ [])
    (hnd : (h1 :: others).Nodup) (entries : List Entry) (hm : ∀ e ∈ entries, e.1 ∈ h1 :: others)
    (hid : (entries.map (·.2)).Nodup) (hg : ∀ e ∈ entries, truthy (fs.getD e.2 default).originalName = true)
    (hok : groupsHaveErrors (groupsSpec fs (h1 :: others) entries) = false)
    (seg : List Entry) (hseg : seg ∈ segments fs entries) :
    ∃ fs', nameChromosomes prefix_ fs (h1 :: others) entries = .ok fs' ∧ ∃ k,
      k < (segments fs entries).length ∧
      ∀ e ∈ seg, ∀ (c : Char), c ∈ origOf fs e.2 → isDigit c = false → c ∉ ['_', 'u', 'n', 'l', 'o', 'c'] →
        ((fs.getD e.2 default).name = origOf fs e.2 →
          (fs'.getD e.2 default).name =
            prefix_ ++ natToStr (k + 1) ++ chrLetter (chrCount fs seg e) (chrIndex fs seg e)) ∧
        (∀ m, (fs.getD e.2 default).name = origOf fs e.2 ++ "_unloc_".toList ++ natToStr m →
          (fs'.getD e.2 default).name =
            prefix_ ++ natToStr (k + 1) ++ chrLetter (chrCount fs seg e) (chrIndex fs seg e) ++ "_unloc_".toList ++
              natToStr m) := by
  obtain ⟨fs', h1', _, _, _, _, _, _, hsegs⟩ := numbering_multi prefix_ fs h1 others hne hnd entries hm hid hg hok
  obtain ⟨k, hk, _, _, _, hall⟩ := hsegs seg hseg
  refine ⟨fs', h1', k, ?_, ?_⟩
  · rw [← sortedGroups_length fs (h1 :: others)]; exact hk
  · intro e he c hc hd hu
    obtain ⟨_, _, _, hsuf⟩ := hall e he
    constructor
    · intro hn
      have := hsuf [] (by rw [hn]; simp) (by
        apply occursIn_false_of_mem (origOf fs e.2) [] c hc; simp)
      rw [this]; simp
    · intro m hn
      have := hsuf (unlocSuffix m) (by rw [hn, List.append_assoc]; rfl) (not_occurs_unloc _ m c hc hd hu)
      rw [this]; simp [unlocSuffix]

/-- the example: groups sorted by the Hap1 length 300, 200, 100, 50; Scaffold_4 / Scaffold_5 (two Hap2 chromosomes
    grouped with Scaffold_3) get the letters A, B; the unloc follows its chromosome -/
example : (nameChromosomes "SUPER_".toList mFs mHaps mEntries).toOption.map (fun fs => fs.map (·.name)) =
    some ["SUPER_3".toList, "SUPER_3".toList, "SUPER_3_unloc_1".toList, "SUPER_1".toList, "SUPER_1A".toList,
          "SUPER_1B".toList, "SUPER_4".toList, "SUPER_2".toList, "SUPER_2".toList] := by
  rw [mFsC.2]; unfold mEntries mHaps sHap1 sHap2; str_lits; decide +kernel
example : (sortedGroups mFs (groupsSpec mFs mHaps mEntries)).map (firstLen mFs) = [300, 200, 100, 50] := by
  rw [mFsC.2]; unfold mEntries mHaps sHap1 sHap2; str_lits; decide +kernel
example : chrCount mFs [(sHap1, 3), (sHap2, 4), (sHap2, 5)] (sHap2, 5) = 2 ∧
    chrIndex mFs [(sHap1, 3), (sHap2, 4), (sHap2, 5)] (sHap2, 5) = 1 ∧ chrLetter 2 1 = ['B'] := by
  rw [mFsC.2]; unfold sHap1 sHap2; str_lits; decide +kernel
example : 'S' ∈ origOf mFs 2 ∧ isDigit 'S' = false ∧ 'S' ∉ ['_', 'u', 'n', 'l', 'o', 'c'] ∧
    (mFs.getD 2 default).name = origOf mFs 2 ++ "_unloc_".toList ++ natToStr 1 := by
  rw [mFsC.2]; str_lits; decide +kernel

/-! ## M4  homologues share the number -/

/-- **M4.**  Two scaffolds `a`, `b` of one group (segment) — in particular homologues of different haplotypes — whose
    names are `<Pretext name> ++ suffix` (`PieceShape`) are renamed `<prefix><n><ra>` and `<prefix><n><rb>` with THE
    SAME number `n ≥ 1`; the remainders `ra`, `rb` (optional letter, then the old suffix) do not start with a digit, so
    `n` is the number read back from either name (`generated_names_unique`). -/
theorem homologues_share_number (prefix_ : Str) (fs : List Scaffold) (h1 : Str) (others : List Str)
    (hne : others ≠ []) (hnd : (h1 :: others).Nodup) (entries : List Entry) (hm : ∀ e ∈ entries, e.1 ∈ h1 :: others)
    (hid : (entries.map (·.2)).Nodup) (hg : ∀ e ∈ entries, truthy (fs.getD e.2 default).originalName = true)
    (hok : groupsHaveErrors (groupsSpec fs (h1 :: others) entries) = false)
    (seg : List Entry) (hseg : seg ∈ segments fs entries) (a b : Entry) (ha : a ∈ seg) (hb : b ∈ seg)
    (hsa : PieceShape fs a.2) (hsb : PieceShape fs b.2) :
    ∃ fs', nameChromosomes prefix_ fs (h1 :: others) entries = .ok fs' ∧
      ∃ n ra rb, 1 ≤ n ∧ n ≤ (segments fs entries).length ∧
        (fs'.getD a.2 default).name = prefix_ ++ natToStr n ++ ra ∧
        (fs'.getD b.2 default).name = prefix_ ++ natToStr n ++ rb ∧
        C20.NoDigitHead ra ∧ C20.NoDigitHead rb := by
  obtain ⟨fs', h1', _, _, _, _, _, _, hsegs⟩ := numbering_multi prefix_ fs h1 others hne hnd entries hm hid hg hok
  obtain ⟨k, hk, _, _, _, hall⟩ := hsegs seg hseg
  obtain ⟨sa, hna, hda, hoa⟩ := hsa
  obtain ⟨sb, hnb, hdb, hob⟩ := hsb
  have hka : k + 1 ≤ (segments fs entries).length := by rw [← sortedGroups_length fs (h1 :: others)]; exact hk
  refine ⟨fs', h1', k + 1, chrLetter (chrCount fs seg a) (chrIndex fs seg a) ++ sa,
    chrLetter (chrCount fs seg b) (chrIndex fs seg b) ++ sb, by omega, hka, ?_, ?_,
    noDigitHd_letter _ _ _ hda, noDigitHd_letter _ _ _ hdb⟩
  · rw [(hall a ha).2.2.2 sa hna hoa]; simp
  · rw [(hall b hb).2.2.2 sb hnb hob]; simp

/-- in the example Scaffold_7 (Hap1) and Scaffold_8 (Hap2) are in one segment … and both become SUPER_2 -/
example : [(sHap1, 7), (sHap2, 8)] ∈ segments mFs mEntries := by
  rw [mFsC.2]; unfold mEntries sHap1 sHap2; str_lits; decide +kernel
example : PieceShape mFs 7 ∧ PieceShape mFs 8 ∧ PieceShape mFs 2 := by
  rw [mFsC.2]
  exact ⟨⟨[], by decide +kernel, noDigitHd_nil, by decide +kernel⟩, ⟨[], by decide +kernel, noDigitHd_nil, by decide +kernel⟩,
   ⟨unlocSuffix 1, by decide +kernel, noDigitHd_unloc 1, by decide +kernel⟩⟩

/-! ## M5  unique names inside one haplotype's assembly -/

example : letterBound = 55231 := rfl

/-- **M5.**  As M3; moreover every `ChrNamer` scaffold is called `<its Pretext name> ++ suf` with `suf` empty or not
    starting with a digit and not containing the Pretext name again (`PieceShape`), two different scaffolds of the
    same Pretext scaffold have different names, and no group holds more than `letterBound = 55231` chromosomes of
    haplotype `h` (beyond that `ord "A" + i` reaches the surrogate range, where the model's `Char.ofNat` collapses to
    `'\0'`).  Then the new names of the scaffolds of haplotype `h` — one output assembly — are pairwise different. -/
theorem names_unique_multi (prefix_ : Str) (fs : List Scaffold) (h1 : Str) (others : List Str) (hne : others ≠ [])
    (hnd : (h1 :: others).Nodup) (entries : List Entry) (hm : ∀ e ∈ entries, e.1 ∈ h1 :: others)
    (hid : (entries.map (·.2)).Nodup) (hg : ∀ e ∈ entries, truthy (fs.getD e.2 default).originalName = true)
    (hok : groupsHaveErrors (groupsSpec fs (h1 :: others) entries) = false)
    (hshape : ∀ e ∈ entries, PieceShape fs e.2)
    (hdist : ∀ e ∈ entries, ∀ e' ∈ entries, e.2 ≠ e'.2 → origOf fs e.2 = origOf fs e'.2 →
      (fs.getD e.2 default).name ≠ (fs.getD e'.2 default).name)
    (h : Str) (hbound : ∀ seg ∈ segments fs entries, (hapOrigs fs h seg).length ≤ letterBound) :
    ∃ fs', nameChromosomes prefix_ fs (h1 :: others) entries = .ok fs' ∧
      ((entries.filter (fun e => e.1 = h)).map (fun e => (fs'.getD e.2 default).name)).Nodup := by
  have hnc := (nameChromosomes_multi prefix_ fs h1 others hne entries hg).2 hok
  have hoth : ((h1 :: others).drop 1).isEmpty = false := by
    cases others with
    | nil => exact absurd rfl hne
    | cons _ _ => rfl
  exact ⟨_, hnc, (named prefix_ fs h1 others entries _ hnd hid hm (· = h)
    (fun _ e => e ▸ segsOf_of_others fs _ hoth entries ▸ hbound) hnc).pairwise hid hshape hdist h rfl⟩

/-- the hypotheses of M5 on the example -/
example : ∀ e ∈ mEntries, PieceShape mFs e.2 := by
  rw [mFsC.2]; unfold mEntries
  intro e he
  simp only [List.mem_cons, List.not_mem_nil, or_false] at he
  rcases he with rfl | rfl | rfl | rfl | rfl | rfl | rfl | rfl | rfl
  · exact ⟨[], by decide +kernel, noDigitHd_nil, by decide +kernel⟩
  · exact ⟨[], by decide +kernel, noDigitHd_nil, by decide +kernel⟩
  · exact ⟨unlocSuffix 1, by decide +kernel, noDigitHd_unloc 1, by decide +kernel⟩
  · exact ⟨[], by decide +kernel, noDigitHd_nil, by decide +kernel⟩
  · exact ⟨[], by decide +kernel, noDigitHd_nil, by decide +kernel⟩
  · exact ⟨[], by decide +kernel, noDigitHd_nil, by decide +kernel⟩
  · exact ⟨[], by decide +kernel, noDigitHd_nil, by decide +kernel⟩
  · exact ⟨[], by decide +kernel, noDigitHd_nil, by decide +kernel⟩
  · exact ⟨[], by decide +kernel, noDigitHd_nil, by decide +kernel⟩
example : ∀ e ∈ mEntries, ∀ e' ∈ mEntries, e.2 ≠ e'.2 → origOf mFs e.2 = origOf mFs e'.2 →
    (mFs.getD e.2 default).name ≠ (mFs.getD e'.2 default).name := by
  rw [mFsC.2]; unfold mEntries sHap1 sHap2; str_lits; decide +kernel
example : ∀ seg ∈ segments mFs mEntries, (hapOrigs mFs sHap2 seg).length ≤ letterBound := by
  rw [mFsC.2]; unfold mEntries sHap1 sHap2; str_lits; decide +kernel
/-- … and its conclusion: the Hap2 assembly gets SUPER_3, SUPER_3_unloc_1, SUPER_1A, SUPER_1B, SUPER_2 -/
example : (nameChromosomes "SUPER_".toList mFs mHaps mEntries).toOption.map
      (fun fs' => (mEntries.filter (fun e => e.1 = sHap2)).map (fun e => (fs'.getD e.2 default).name)) =
    some ["SUPER_3".toList, "SUPER_3_unloc_1".toList, "SUPER_1A".toList, "SUPER_1B".toList, "SUPER_2".toList] := by
  rw [mFsC.2]; unfold mEntries mHaps sHap1 sHap2; str_lits; decide +kernel

/-! ## inside `assemblies_with_scaffolds_fused` -/

/-- If the split loop saw the haplotype keys `h1 :: others` among the painted (rank 1) scaffolds, then the side
    conditions of M3–M5 about `haplotypes_seen` and the entries hold (facts of the split loop), and `assembliesFused`
    is `name_chromosomes` followed by the sort / count tail. -/
theorem assemblies_fused_multi (input : List Scaffold) (b : Build) (asms : C09.Asms) (entries : List Entry)
    (h1 : Str) (others : List Str) (fs : List Scaffold)
    (hsplit : C09.splitLoop b.namer.autosomePrefix (fuseByName b) = (asms, entries, h1 :: others, fs)) :
    (h1 :: others).Nodup ∧ (∀ e ∈ entries, e.1 ∈ h1 :: others) ∧ (entries.map (·.2)).Nodup ∧
    assembliesFused input b =
      nameChromosomes b.namer.autosomePrefix fs (h1 :: others) entries >>= C09.outsTail input b asms := by
  have hinv := splitLoop_entries b.namer.autosomePrefix (fuseByName b)
  have hnd := splitLoop_haps_nodup b.namer.autosomePrefix (fuseByName b)
  rw [hsplit] at hinv hnd
  obtain ⟨i1, i2, _⟩ := hinv
  refine ⟨hnd, i2, i1, ?_⟩
  rw [C09.assembliesFused_eq, hsplit, finishAssemblies_eq_name]
  simp only [List.isEmpty_cons, Bool.false_eq_true, if_false]

/-- end to end on a two-haplotype build: Pretext scaffolds Scaffold_1 (Hap1, 100 bp) / Scaffold_2 (Hap2, 400 bp) and
    Scaffold_3 (Hap1, 300 bp) / Scaffold_4 (Hap2, 150 bp): the pair containing the longer HAP1 chromosome becomes
    SUPER_1 in BOTH assemblies although the Hap2 scaffold of the other pair is the longest of all — the first
    haplotype decides -/
def mPiece (nm orig ctg hap : Str) (len : Int) : Res :=
  { o := { bait := exFrag orig len, start := 1, stop := len, rows := [.frag (exFrag ctg len)], name := nm, rank := 1,
           haplotype := some hap, originalName := some orig, originalTags := some [sPainted] }, added := true }
def mBuild : Build :=
  { namer := { autosomePrefix := "SUPER_".toList },
    store := [mPiece "Scaffold_1".toList "Scaffold_1".toList "ctgA".toList sHap1 100,
              mPiece "Scaffold_2".toList "Scaffold_2".toList "ctgB".toList sHap2 400,
              mPiece "Scaffold_3".toList "Scaffold_3".toList "ctgC".toList sHap1 300,
              mPiece "Scaffold_4".toList "Scaffold_4".toList "ctgD".toList sHap2 150],
    nextOid := 0, joinGap := none, err := 1 }
def mBuildC : Decoded mBuild := ⟨_, by unfold mBuild sHap1 sHap2; str_lits; exact rfl⟩

example : (assembliesFused [] mBuild).toOption.map
      (fun r => r.1.map (fun a => (a.key, a.scaffolds.map (fun s => (s.name, s.fragmentsLength))))) =
    some [(some sHap1, [("SUPER_1".toList, 300), ("SUPER_2".toList, 100)]),
          (some sHap2, [("SUPER_1".toList, 150), ("SUPER_2".toList, 400)])] := by
  rw [mBuildC.2]; unfold sHap1 sHap2; str_lits; decide +kernel
example :
    let st := C09.splitLoop mBuild.namer.autosomePrefix (fuseByName mBuild)
    st = (st.1, st.2.1, sHap1 :: [sHap2], st.2.2.2) := by rw [mBuildC.2]; unfold sHap1 sHap2; str_lits; decide +kernel

/-! ## remarks and findings

  1. (M1) `Err.key` / `Err.index` in `buildGroups` are dead code for EVERY input (`build_groups_multi_error`); no
     assumption on `haps` is needed for M1 (keys outside `haplotypes_seen` would simply be appended to the group).
  2. The `Singleton` tag is consulted only by rule (ii), i.e. when the NEXT scaffold is of the same haplotype.  A
     first-haplotype Singleton followed by a scaffold of another haplotype is grouped with it and shares its number
     (`singleton_followed_by_other_haplotype` below) — the tag has no effect there.
  3. (M5) the bound `letterBound` is an artefact of the model (`Char.ofNat` maps surrogates to `'\0'`, Python's `chr`
     does not; Python raises `ValueError` only from `0x110000`).  Below it M5 holds without exception.
  4. Uniqueness holds per haplotype only — by design homologues of different haplotypes carry the same name
     (`homologues_share_number`; in the example both assemblies contain `SUPER_2`).
  5. `multi_chr_list` does not stop at `Z`: the 27th chromosome of a haplotype set is called `<prefix>k[`
     (`letters_beyond_Z`); the names stay unique (M5) but are no longer letters.
-/

/-- remark 5 -/
theorem letters_beyond_Z : (multiChrList "SUPER_1".toList 27).getLast? = some "SUPER_1[".toList := by
  str_lits; decide +kernel

/-- remark 2: Scaffold_6 is a Hap1 `Singleton`, but the following Hap2 scaffold joins its group and both are `SUPER_1` -/
theorem singleton_followed_by_other_haplotype :
    segments mFs [(sHap1, 6), (sHap2, 8)] = [[(sHap1, 6), (sHap2, 8)]] ∧
    (nameChromosomes "SUPER_".toList mFs mHaps [(sHap1, 6), (sHap2, 8)]).toOption.map
        (fun fs => ((fs.getD 6 default).name, (fs.getD 8 default).name)) =
      some ("SUPER_1".toList, "SUPER_1".toList) := by rw [mFsC.2]; unfold mHaps sHap1 sHap2; str_lits; decide +kernel

end AgpTpf.C10
