/-
  C16 (part) — WHICH files one `pretext-to-asm --output` run opens, and that they are pairwise different.

  Model: Model/CliPlan.lean (`parseOutputFile`, `nameAssemblies`, `namedDict`, `outputPlan`, `cliOutputPlan`, `runPlan`);
  helpers: Proofs/CliPlanPath.lean, CliPlanNames.lean, CliPlanNodup.lean.  File NAMES (final path component) only; every
  planned file lies in the directory of the `--output` file.  Domain: ASCII where case matters, keys without '/'.

   P1  `named_assembly_names_nodup`   the `name`s given by `name_assemblies` are pairwise different
       `named_assembly_files_nodup`   (weaker hypotheses) the assembly FILE names `{name}{.curated}{suffix}` are
       + `decide` counter-examples for every hypothesis (candidate findings: two assemblies written to one file)
   P2  `output_plan_nodup`, `cli_output_plan_nodup`, `output_plan_succeeds`
       `no_clobber_run`, `no_clobber_run_free`, `clobber_run`   (C16.no_clobber_exit without its `Nodup` hypothesis)
-/
import AgpTpf.Proofs.CliPlanNodup
import AgpTpf.Properties.C16
import AgpTpf.Proofs.ImpEval
namespace AgpTpf.C16
open AgpTpf AgpTpf.Outputs AgpTpf.CliNames AgpTpf.CliPlan
open scoped AgpTpf.ImpEval

/-! ## P1  names -/

/-- **P1** `named` = the assemblies renamed by `name_assemblies(outs, root, version)`.  If
    * `hlow`  the keys of the dict are pairwise different even after `.lower()` (`None` stays `None`),
    * `hadd`  in the single-haplotype branch (a `None` key, no `Primary`) with a `Haplotig` assembly: no key is
              `additional_haplotig` up to case,
    * `hall`  in the `Primary` branch when something is merged into `all_haplotigs`: no key is `all_haplotig` up to case,
    then the `name`s are pairwise different.  No hypothesis on `root` / `version`. -/
theorem named_assembly_names_nodup (outs : List OutAsm) (root version : Str) (named : List NamedAsm)
    (h : nameAssemblies outs root version = .ok named)
    (hlow : (outs.map (fun a => a.key.map lowerStr)).Nodup)
    (hadd : ¬ HasKey outs (some sPrimary) → HasKey outs none → HasKey outs (some sHaplotig) →
      ∀ a ∈ outs, a.key.map lowerStr ≠ some "additional_haplotig".toList)
    (hall : HasKey outs (some sPrimary) → (∃ a ∈ outs, a.key ≠ some sPrimary ∧ a.curated = true) →
      ∀ a ∈ outs, a.key.map lowerStr ≠ some "all_haplotig".toList) :
    (named.map (·.name)).Nodup :=
  named_names_nodup outs root version named h
    ⟨(List.pairwise_map (f := fun a : OutAsm => a.key.map lowerStr)).1 hlow, hadd, fun hp hne => hall hp (others_ne_nil.1 hne)⟩

/-- **P1, file level** what is needed for the FILES `{name}{".curated" if curated}{suffix}` to differ is less:
    * `hkeys` the keys are pairwise different (a dict),
    * `hcase` two keys that are equal up to case belong to one curated and one non-curated assembly,
    * `hadd`  in the single-haplotype branch with a `Haplotig` assembly: no CURATED assembly is keyed
              `additional_haplotig` up to case. -/
theorem named_assembly_files_nodup (outs : List OutAsm) (root version suffix : Str) (named : List NamedAsm)
    (h : nameAssemblies outs root version = .ok named)
    (hkeys : (outs.map (·.key)).Nodup)
    (hcase : outs.Pairwise (fun a b => a.key.map lowerStr = b.key.map lowerStr → a.curated ≠ b.curated))
    (hadd : ¬ HasKey outs (some sPrimary) → HasKey outs none → HasKey outs (some sHaplotig) →
      ∀ a ∈ outs, a.curated = true → a.key.map lowerStr ≠ some "additional_haplotig".toList) :
    (named.map (fun n => outputFileName n suffix)).Nodup ∧
    (named.map (fun n => (n.name, n.curated))).Nodup := by
  have hfs : FileSafe outs := .of_keys hkeys hcase hadd
  exact ⟨named_files_nodup outs root version suffix named h hfs, named_stems_nodup outs root version named h hfs⟩

/-- the hypotheses of P1 imply those of the file-level statement -/
theorem names_hyps_imply_files_hyps (outs : List OutAsm)
    (hlow : (outs.map (fun a => a.key.map lowerStr)).Nodup) :
    (outs.map (·.key)).Nodup ∧
    outs.Pairwise (fun a b => a.key.map lowerStr = b.key.map lowerStr → a.curated ≠ b.curated) := by
  unfold List.Nodup at hlow ⊢
  rw [List.pairwise_map] at hlow ⊢
  exact ⟨hlow.imp (fun hne e => hne (by rw [e])), hlow.imp (fun hne e => absurd e hne)⟩

/-! ### P1: every hypothesis is needed (`decide` counter-examples; what the real code does is in the comments) -/

private def sc (n : String) : Scaffold := { name := n.toList }
private def names (r : R (List NamedAsm)) : R (List Str) := r.map (·.map (·.name))
private def files (r : R (List NamedAsm)) : R (List Str) := r.map (·.map (fun n => outputFileName n ".agp".toList))

/-- `hlow` (multi-haplotype branch): keys `Hap1` and `hap1`, both curated → the same name, the same file.
    Real code: `name_assemblies({"Hap1": A, "hap1": B}, "x", "1")` names both `x.hap1.1.primary`; `write_assemblies`
    opens `x.hap1.1.primary.curated.agp` twice (second open truncates the first under `--clobber`, FileExistsError
    under `--no-clobber` although nothing pre-existed).  NOT reachable through `ScaffoldNamer`, which keeps one
    spelling per lower-cased haplotype name (`Namer.getSetHaplotype`). -/
example : names (nameAssemblies [{ key := some "Hap1".toList, curated := true, scaffolds := [sc "A"] },
                                 { key := some "hap1".toList, curated := true, scaffolds := [sc "B"] }] ['x'] ['1']) =
    .ok ["x.hap1.1.primary".toList, "x.hap1.1.primary".toList] := by
  unfold sc
  str_lits
  decide +kernel

/-- `hadd`: single-haplotype map, a haplotype called `additional_haplotig` next to `Haplotig`-tagged scaffolds → both
    assemblies are written to `x.1.additional_haplotigs.curated.agp`.  Real code: the same (checked with
    `name_assemblies` + `write_assemblies`, /verif/lean/tasks/w5cli/cex.py). -/
example : files (nameAssemblies [{ key := none, curated := true, scaffolds := [sc "S"] },
                                 { key := some "additional_haplotig".toList, curated := true, scaffolds := [sc "A"] },
                                 { key := some sHaplotig, curated := false, scaffolds := [sc "H_1"] }] ['x'] ['1']) =
    .ok ["x.1.primary.curated.agp".toList, "x.1.additional_haplotigs.curated.agp".toList,
         "x.1.additional_haplotigs.curated.agp".toList] := by
  unfold sc
  str_lits
  decide +kernel

/-- `hall`: `Primary` branch, a NON-curated assembly keyed `all_haplotig` → its `name` equals that of the merged
    `all_haplotigs` assembly (P1 fails) but the files differ (`…all_haplotigs.agp` / `…all_haplotigs.curated.agp`):
    the file-level statement needs no such hypothesis.  Real code: the same. -/
example :
    let r := nameAssemblies [{ key := some sPrimary, curated := true, scaffolds := [sc "S"] },
                             { key := some "Hap2".toList, curated := true, scaffolds := [sc "A"] },
                             { key := some "all_haplotig".toList, curated := false, scaffolds := [sc "Q"] }] ['x'] ['1']
    names r = .ok ["x.1.primary".toList, "x.1.all_haplotigs".toList, "x.1.all_haplotigs".toList] ∧
    files r = .ok ["x.1.primary.curated.agp".toList, "x.1.all_haplotigs.agp".toList,
                   "x.1.all_haplotigs.curated.agp".toList] := by
  unfold sc
  str_lits
  decide +kernel

/-- `hlow` is more than the files need: a haplotype spelt `contaminant` (curated) next to the `Contaminant` tag
    (non-curated) in a single-haplotype map → equal names, different files.  Real code: the same. -/
example :
    let r := nameAssemblies [{ key := none, curated := true, scaffolds := [sc "S"] },
                             { key := some "contaminant".toList, curated := true, scaffolds := [sc "A"] },
                             { key := some sContaminant, curated := false, scaffolds := [sc "C"] }] ['x'] ['1']
    names r = .ok ["x.1.primary".toList, "x.1.contaminants".toList, "x.1.contaminants".toList] ∧
    files r = .ok ["x.1.primary.curated.agp".toList, "x.1.contaminants.curated.agp".toList,
                   "x.1.contaminants.agp".toList] := by
  unfold sc
  str_lits
  decide +kernel

/-- `hcase` of the file-level statement: the same two keys with the SAME `curated` flag collide -/
example : files (nameAssemblies [{ key := none, curated := true, scaffolds := [sc "S"] },
                                 { key := some "contaminant".toList, curated := false, scaffolds := [sc "A"] },
                                 { key := some sContaminant, curated := false, scaffolds := [sc "C"] }] ['x'] ['1']) =
    .ok ["x.1.primary.curated.agp".toList, "x.1.contaminants.agp".toList, "x.1.contaminants.agp".toList] := by
  unfold sc
  str_lits
  decide +kernel

/-! ## P2  the whole plan -/

/-- **P2** `parse_output_file` accepted the `--output` name, `name_assemblies` returned `named` (file-level
    hypotheses of P1): every file name in the plan occurs once.  `named'` is `named` itself or the dict built from it
    (`namedDict named`; the same list when the keys of `named` are pairwise different). -/
theorem output_plan_nodup (outName : Str) (writeLog : Bool) (outs : List OutAsm) (prefix_ : Str)
    (fmt : Fmt) (root version suffix : Str) (named named' : List NamedAsm) (plan : List Str)
    (hparse : parseOutputFile outName = .ok (fmt, root, version, suffix))
    (hnamed : nameAssemblies outs root version = .ok named)
    (hd : named' = named ∨ named' = namedDict named)
    (hplan : outputPlan outName writeLog named' fmt suffix prefix_ = .ok plan)
    (hkeys : (outs.map (·.key)).Nodup)
    (hcase : outs.Pairwise (fun a b => a.key.map lowerStr = b.key.map lowerStr → a.curated ≠ b.curated))
    (hadd : ¬ HasKey outs (some sPrimary) → HasKey outs none → HasKey outs (some sHaplotig) →
      ∀ a ∈ outs, a.curated = true → a.key.map lowerStr ≠ some "additional_haplotig".toList) :
    plan.Nodup := by
  have hst := (named_assembly_files_nodup outs root version suffix named hnamed hkeys hcase hadd).2
  have hends := named_ends outs root version named hnamed
  have hsfx := (parseOutputFile_suffix outName fmt root version suffix hparse).1
  rcases hd with rfl | rfl
  · exact plan_nodup outName writeLog _ fmt suffix prefix_ plan hplan hsfx hends hst
  · exact plan_nodup outName writeLog _ fmt suffix prefix_ plan hplan hsfx
      (fun n hn => hends n (namedDict_mem named n hn)) (namedDict_stems named hst)

/-- the same for the composed `cliOutputPlan` (= `parse_output_file`, `name_assemblies`, dict, plan) -/
theorem cli_output_plan_nodup (outName : Str) (writeLog : Bool) (outs : List OutAsm) (prefix_ : Str) (plan : List Str)
    (hplan : cliOutputPlan outName writeLog outs prefix_ = .ok plan)
    (hkeys : (outs.map (·.key)).Nodup)
    (hcase : outs.Pairwise (fun a b => a.key.map lowerStr = b.key.map lowerStr → a.curated ≠ b.curated))
    (hadd : ¬ HasKey outs (some sPrimary) → HasKey outs none → HasKey outs (some sHaplotig) →
      ∀ a ∈ outs, a.curated = true → a.key.map lowerStr ≠ some "additional_haplotig".toList) :
    plan.Nodup := by
  obtain ⟨fmt, root, version, sfx, named, hp, hn, ho⟩ := (cliOutputPlan_ok_iff outName writeLog outs prefix_ plan).1 hplan
  exact output_plan_nodup outName writeLog outs prefix_ fmt root version sfx named _ plan hp hn (.inr rfl) ho hkeys hcase hadd

/-- once `parse_output_file` and `name_assemblies` have succeeded nothing in the plan raises (no `ValueError` from
    `with_suffix` / `with_name`), for an output name without '/' -/
theorem output_plan_succeeds (outName : Str) (writeLog : Bool) (outs : List OutAsm) (prefix_ : Str)
    (fmt : Fmt) (root version suffix : Str) (named : List NamedAsm)
    (hparse : parseOutputFile outName = .ok (fmt, root, version, suffix))
    (hnamed : nameAssemblies outs root version = .ok named) (hsl : '/' ∉ outName) :
    (∃ plan, outputPlan outName writeLog named fmt suffix prefix_ = .ok plan) ∧
    (∃ plan, cliOutputPlan outName writeLog outs prefix_ = .ok plan) := by
  obtain ⟨_, _, hne⟩ := parseOutputFile_suffix outName fmt root version suffix hparse
  have hends := named_ends outs root version named hnamed
  exact ⟨⟨_, outputPlan_isOk outName writeLog named fmt suffix prefix_ hne hsl hends⟩, _,
    (cliOutputPlan_ok_iff outName writeLog outs prefix_ _).2 ⟨fmt, root, version, suffix, named, hparse, hnamed,
      outputPlan_isOk outName writeLog _ fmt suffix prefix_ hne hsl fun n hn => hends n (namedDict_mem named n hn)⟩⟩

/-! ### the run -/

/-- **`no_clobber_run`**: `C16.no_clobber_exit` for the planned files, its `Nodup` hypothesis discharged: with
    `--no-clobber` the run fails iff some planned file pre-exists, the error names the first such file in the order
    the run opens them, and every file that existed before keeps its content. -/
theorem no_clobber_run (outName : Str) (writeLog : Bool) (outs : List OutAsm) (prefix_ : Str) (plan : List Str)
    (hplan : cliOutputPlan outName writeLog outs prefix_ = .ok plan)
    (hkeys : (outs.map (·.key)).Nodup)
    (hcase : outs.Pairwise (fun a b => a.key.map lowerStr = b.key.map lowerStr → a.curated ≠ b.curated))
    (hadd : ¬ HasKey outs (some sPrimary) → HasKey outs none → HasKey outs (some sHaplotig) →
      ∀ a ∈ outs, a.curated = true → a.key.map lowerStr ≠ some "additional_haplotig".toList)
    (fs₀ : FS) :
    ((runPlan false fs₀ plan).exit ≠ 0 ↔ ∃ p ∈ plan, dHas fs₀ p = true) ∧
    ((runPlan false fs₀ plan).exit = 0 ∨ (runPlan false fs₀ plan).exit = 1) ∧
    (runPlan false fs₀ plan).errorPath = plan.find? (fun q => dHas fs₀ q) ∧
    (∀ p v, dGet? fs₀ p = some v → dGet? (runPlan false fs₀ plan).fs p = some v) := by
  have hnd := cli_output_plan_nodup outName writeLog outs prefix_ plan hplan hkeys hcase hadd
  obtain ⟨h1, h2, h3⟩ := no_clobber_exit fs₀ plan hnd
  exact ⟨h1, h2, h3, fun p v hv => no_clobber_preserves fs₀ plan p v hv⟩

/-- nothing pre-exists: exit status 0 and every planned file is written by this run -/
theorem no_clobber_run_free (outName : Str) (writeLog : Bool) (outs : List OutAsm) (prefix_ : Str) (plan : List Str)
    (hplan : cliOutputPlan outName writeLog outs prefix_ = .ok plan)
    (hkeys : (outs.map (·.key)).Nodup)
    (hcase : outs.Pairwise (fun a b => a.key.map lowerStr = b.key.map lowerStr → a.curated ≠ b.curated))
    (hadd : ¬ HasKey outs (some sPrimary) → HasKey outs none → HasKey outs (some sHaplotig) →
      ∀ a ∈ outs, a.curated = true → a.key.map lowerStr ≠ some "additional_haplotig".toList)
    (fs₀ : FS) (hfree : ∀ p ∈ plan, dHas fs₀ p = false) :
    (runPlan false fs₀ plan).exit = 0 ∧ (runPlan false fs₀ plan).errorPath = none ∧
    ∀ p ∈ plan, dGet? (runPlan false fs₀ plan).fs p = some Content.new :=
  no_clobber_exit_free fs₀ plan (cli_output_plan_nodup outName writeLog outs prefix_ plan hplan hkeys hcase hadd) hfree

/-- **`clobber_run`** (default `--clobber`): exit status 0, every planned file completely (re)written, every other
    path untouched — whatever the plan is (no hypothesis: a name planned twice is simply written twice, which is
    exactly how two assemblies end up in one file in the counter-examples above). -/
theorem clobber_run (fs₀ : FS) (plan : List Str) :
    (runPlan true fs₀ plan).exit = 0 ∧ (runPlan true fs₀ plan).errorPath = none ∧
    (∀ p ∈ plan, dGet? (runPlan true fs₀ plan).fs p = some Content.new) ∧
    (∀ q, q ∉ plan → dGet? (runPlan true fs₀ plan).fs q = dGet? fs₀ q) :=
  clobber_rewrites fs₀ plan

/-! ### non-vacuity and the failing cases -/

private def tsc (n : String) (rank : Int) (orig : String) : Scaffold :=
  { name := n.toList, rank := rank, originalName := some orig.toList,
    rows := [Row.frag { name := ['c'], start := 1, stop := 9, strand := 1 }] }

/-- single-haplotype run: primary (two chromosomes' worth), haplotigs, contaminants -/
private def demo : List OutAsm :=
  [{ key := none, curated := true, scaffolds := [tsc "SUPER_1" 1 "Sc1", tsc "SUPER_1_unloc_1" 1 "Sc1", tsc "scaffold_7" 3 "Sc9"] },
   { key := some sHaplotig, curated := false, scaffolds := [tsc "H_1" 3 "Sc2"] },
   { key := some sContaminant, curated := false, scaffolds := [tsc "c_1" 3 "Sc3"] }]

private def demoPlan : List Str :=
  ["x.2.log".toList, "x.2.info.yaml".toList, "x.2.primary.curated.fa".toList, "x.2.primary.curated.agp".toList,
   "x.2.additional_haplotigs.curated.fa".toList, "x.2.additional_haplotigs.curated.agp".toList,
   "x.2.contaminants.fa".toList, "x.2.contaminants.agp".toList, "x.2.primary.chromosome.list.csv".toList,
   "x.2.chr_report.csv".toList]

example : cliOutputPlan "x.2.fa".toList true demo "SUPER_".toList = .ok demoPlan := by
  unfold demoPlan demo tsc
  str_lits
  decide +kernel
example : parseOutputFile "x.2.fa".toList = .ok (.FASTA, ['x'], ['2'], ".fa".toList) := by
  str_lits
  decide +kernel
example : '/' ∉ "x.2.fa".toList := by decide
example : (demo.map (·.key)).Nodup ∧ (demo.map (fun a => a.key.map lowerStr)).Nodup ∧
    demo.Pairwise (fun a b => a.key.map lowerStr = b.key.map lowerStr → a.curated ≠ b.curated) := by decide
example : ¬ HasKey demo (some sPrimary) ∧ HasKey demo none ∧ HasKey demo (some sHaplotig) ∧
    (∀ a ∈ demo, a.key.map lowerStr ≠ some "additional_haplotig".toList) ∧
    ¬ (∃ a ∈ demo, a.key ≠ some sPrimary ∧ a.curated = true ∧ HasKey demo (some sPrimary)) := by
  rw [String.toList_ofList]
  decide +kernel
/-- the run on a directory that already holds the haplotig AGP: exit 1, error names that file, it stays `.old` -/
example :
    let fs₀ : FS := [("x.2.additional_haplotigs.curated.agp".toList, .old)]
    (runPlan false fs₀ demoPlan).exit = 1 ∧
    (runPlan false fs₀ demoPlan).errorPath = some "x.2.additional_haplotigs.curated.agp".toList ∧
    dGet? (runPlan false fs₀ demoPlan).fs "x.2.additional_haplotigs.curated.agp".toList = some .old := by
  unfold demoPlan
  str_lits
  decide +kernel
example : (runPlan false [] demoPlan).exit = 0 ∧ (runPlan false [] demoPlan).fs = demoPlan.map (·, .new) := by
  unfold demoPlan
  str_lits
  decide +kernel

/-- **finding (P2 fails without `hadd`)**: the `additional_haplotig` counter-example end to end — the plan names
    `x.1.additional_haplotigs.curated.agp` twice, so with `--no-clobber` the run dies with "already exists" on a file
    it has just created itself (exit 1, empty directory), and with `--clobber` the second assembly silently replaces
    the first.  REAL CLI (/verif/lean/tasks/w5cli/e2e: three one-contig scaffolds tagged `Painted`, `additional_haplotig`, `Haplotig`;
    `pretext-to-asm -a in.tpf -p ptx.agp -o out.agp`): prints "Created: 'out.1.additional_haplotigs.curated.agp'" then
    "Overwrote: 'out.1.additional_haplotigs.curated.agp'", exit 0, the 8000 bp haplotype scaffold is in no output file;
    with `--no-clobber` in an empty directory: "ERROR: Output file 'out.1.additional_haplotigs.curated.agp' already
    exists", exit 1. -/
example :
    let outs : List OutAsm :=
      [{ key := none, curated := true, scaffolds := [sc "S"] },
       { key := some "additional_haplotig".toList, curated := true, scaffolds := [sc "A"] },
       { key := some sHaplotig, curated := false, scaffolds := [sc "H_1"] }]
    let plan := ["x.info.yaml".toList, "x.1.primary.curated.agp".toList, "x.1.additional_haplotigs.curated.agp".toList,
                 "x.1.additional_haplotigs.curated.agp".toList]
    cliOutputPlan "x.agp".toList false outs "SUPER_".toList = .ok plan ∧ ¬ plan.Nodup ∧
    (runPlan false [] plan).exit = 1 ∧
    (runPlan false [] plan).errorPath = some "x.1.additional_haplotigs.curated.agp".toList ∧
    (runPlan true [] plan).exit = 0 := by
  unfold sc
  str_lits
  decide +kernel

/-- **finding (dict key collision, cf. `C09.name_assemblies_keys_distinct`)**: a haplotype literally called
    `additional_haplotigs` next to `Haplotig`: `ret_asm["additional_haplotigs"]` is assigned twice, the curated
    haplotype assembly is dropped from the dict and written NOWHERE (the plan is duplicate-free, one assembly short).
    Real code: `name_assemblies` returns keys `[None, 'additional_haplotigs']` only (/verif/lean/tasks/w5cli/cex.py); REAL CLI
    (/verif/lean/tasks/w5cli/e2e, tags `Painted`, `additional_haplotigs`, `Haplotig`, `-p ptx2.agp`): exit 0, no warning, and
    SCAFFOLD_2 (the `additional_haplotigs` haplotype) occurs in none of the files written. -/
example :
    let outs : List OutAsm :=
      [{ key := none, curated := true, scaffolds := [sc "S"] },
       { key := some "additional_haplotigs".toList, curated := true, scaffolds := [sc "A"] },
       { key := some sHaplotig, curated := false, scaffolds := [sc "H_1"] }]
    cliOutputPlan "x.agp".toList false outs "SUPER_".toList =
      .ok ["x.info.yaml".toList, "x.1.primary.curated.agp".toList, "x.1.additional_haplotigs.curated.agp".toList] ∧
    (nameAssemblies outs ['x'] ['1']).map (fun l => (namedDict l).map (fun n => n.scaffolds.map (·.name))) =
      .ok [[['S']], [['H', '_', '1']]] := by
  unfold sc
  str_lits
  decide +kernel

end AgpTpf.C16
