/-
  C17 (T1c) — the model's `Scaffold.fragmentTags`, `Scaffold.length`, `Scaffold.fragmentsLength` ARE the Python source as translated.

  Source side: `Gen.Imp.Scaffold_fragment_tags`, `Gen.Imp.Scaffold_length_imp`, `Gen.Imp.Scaffold_fragments_length` in
  `AgpTpf/Gen/Imp.lean`, generated by `harness/translate_imp.py` from `src/tola/assembly/scaffold.py` (each definition carries
  the Python text it came from).  Model side: `Model/Basic.lean`.

  Each theorem says: for EVERY scaffold the translated source ends without exception and returns the model's value.
  Proofs: `AgpTpf/Proofs/ImpScaffold.lean`.
-/
import AgpTpf.Proofs.ImpScaffold
import AgpTpf.Proofs.ImpEval
namespace AgpTpf.C17
open AgpTpf
open scoped AgpTpf.ImpEval
/-! ### the input the `example`s run on:
    `[c1:1-100(+) {Hap1, "", Painted}, gap 200, c2:5-54(-) {Painted, Cut}, gap 10, c3:1-7(?) {}]` -/

def impTagHap1 : Str := ['H', 'a', 'p', '1']
def impTagPainted : Str := ['P', 'a', 'i', 'n', 't', 'e', 'd']
def impTagCut : Str := ['C', 'u', 't']
def impS : Scaffold :=
  { name := ['s', '1'],
    rows := [.frag { oid := 1, name := ['c', '1'], start := 1, stop := 100, strand := 1, tags := [impTagHap1, [], impTagPainted] },
             .gap ⟨200, ['s', 'c', 'a', 'f', 'f', 'o', 'l', 'd']⟩,
             .frag { oid := 2, name := ['c', '2'], start := 5, stop := 54, strand := -1, tags := [impTagPainted, impTagCut] },
             .gap ⟨10, ['s', 'c', 'a', 'f', 'f', 'o', 'l', 'd']⟩,
             .frag { oid := 3, name := ['c', '3'], start := 1, stop := 7, strand := 0 }] }

/-- the tag SET of a scaffold (a Python `set`; modelled duplicate-free in first-occurrence order) is built as in the source -/
theorem fragment_tags_is_source (s : Scaffold) : Gen.Imp.Scaffold_fragment_tags s = .ok s.fragmentTags :=
  ImpScaffold.fragment_tags_tie s

/-- the empty column is skipped, `Painted` is collected once -/
example : Gen.Imp.Scaffold_fragment_tags impS = .ok [impTagHap1, impTagPainted, impTagCut] := by
  decide +kernel

/-- `Scaffold.length`: the sum of the lengths of all rows, gaps included -/
theorem scaffold_length_is_source (s : Scaffold) : Gen.Imp.Scaffold_length_imp s = .ok s.length :=
  ImpScaffold.scaffold_length_tie s

example : Gen.Imp.Scaffold_length_imp impS = .ok 367 := by
  decide +kernel

/-- `Scaffold.fragments_length`: the sum of the lengths of the fragments only -/
theorem scaffold_fragments_length_is_source (s : Scaffold) : Gen.Imp.Scaffold_fragments_length s = .ok s.fragmentsLength :=
  ImpScaffold.scaffold_fragments_length_tie s

example : Gen.Imp.Scaffold_fragments_length impS = .ok 157 := by
  decide +kernel

end AgpTpf.C17
