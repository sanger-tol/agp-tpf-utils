/-
  C09 — Tags route sequence to the documented destination assembly.

  Three links of the chain are proved here, each about the model function that mirrors the Python named in brackets:
    1 `label_special`      [ScaffoldNamer.label_scaffold]   which tag / rank a looked-up piece gets;
    2 `fuse_keeps_tag`     [scaffolds_fused_by_name]        fusing never merges pieces with different (tag, haplotype, name);
    3 `assembly_key`       [assemblies_with_scaffolds_fused, split loop] which output assembly a fused scaffold is put in,
                           and the exact rule for that assembly's `curated` flag.

  FINDING (3): the simple statement "a tagged scaffold lands in an assembly with `curated = false`" is FALSE of the
  model (and the code): `curated` is fixed by the FIRST scaffold that creates the dict entry, and the entry is keyed by
  the bare string.  An untagged scaffold whose *haplotype* is the string "Contaminant" (e.g. an unplaced input contig
  called `Contaminant_x_1`: `haplotype_from_first_row_name` invents the haplotype "Contaminant") creates the assembly
  keyed "Contaminant" with `curated = true`; every Contaminant-tagged scaffold after it lands in that same, curated,
  assembly (and the haplotype's scaffolds are written to the contaminant file).  See `curated_counterexample`.
-/
import AgpTpf.Model.Remap
import AgpTpf.Proofs.Lib.Overlap
import AgpTpf.Proofs.Lib.Namer
import AgpTpf.Proofs.Lib.Fuse
import AgpTpf.Proofs.Remap.Phase2
namespace AgpTpf.C09
open AgpTpf

/-! ## 1  `label_scaffold` -/

/-- Target mode applies to this piece: a Target tag has been seen and the current Pretext scaffold has none. -/
def targetMode (n : Namer) (scTags : List Str) : Prop := n.targetTags = true ∧ ¬ scTags.contains sTarget = true

/-- `label_scaffold` fails only for an Unloc piece (not FalseDuplicate, not Haplotig) in an unpainted scaffold, and then
    with ValueError. -/
theorem label_fails_iff (n : Namer) (o : OverlapResult) (sid : Nat) (frag : Fragment) (scTags : List Str) (orig : Str) :
    (∃ e, labelScaffold n o sid frag scTags orig = .error e) ↔
      (¬ frag.tags.contains sFalseDuplicate = true ∧ ¬ frag.tags.contains sHaplotig = true ∧
        frag.tags.contains sUnloc = true ∧ ¬ scTags.contains sPainted = true) := by
  rw [labelScaffold_eq, show (_ ∧ _ ∧ _ ∧ _) ↔ (C10.isUnlocPiece frag = true ∧ ¬ scTags.contains sPainted = true) by
    rw [isUnlocPiece_iff, and_assoc, and_assoc]]
  split
  · rename_i hc; exact ⟨fun _ => hc, fun _ => ⟨_, rfl⟩⟩
  · rename_i hc; exact ⟨fun ⟨_, he⟩ => (nomatch he), fun h => absurd h hc⟩

/-- **Tag and rank given by `label_scaffold`**, with the code's precedence
    FalseDuplicate > Haplotig > (Contaminant tag or Target mode) > unchanged.
    Besides: the haplotype is always the namer's current one and the Pretext scaffold name / tags are recorded. -/
theorem label_special (n n' : Namer) (o o' : OverlapResult) (sid : Nat) (frag : Fragment) (scTags : List Str)
    (orig : Str) (h : labelScaffold n o sid frag scTags orig = .ok (n', o')) :
    (frag.tags.contains sFalseDuplicate = true → o'.tag = some sFalseDuplicate ∧ o'.rank = 3) ∧
    (¬ frag.tags.contains sFalseDuplicate = true → frag.tags.contains sHaplotig = true →
        o'.tag = some sHaplotig ∧ o'.rank = 3) ∧
    (¬ frag.tags.contains sFalseDuplicate = true → ¬ frag.tags.contains sHaplotig = true →
        (frag.tags.contains sContaminant = true ∨ targetMode n scTags) →
        o'.tag = some sContaminant ∧ o'.rank = 3) ∧
    (¬ frag.tags.contains sFalseDuplicate = true → ¬ frag.tags.contains sHaplotig = true →
        ¬ frag.tags.contains sContaminant = true → ¬ targetMode n scTags →
        o'.tag = o.tag ∧ o'.rank = n.currentRank) ∧
    o'.haplotype = n.currentHaplotype ∧ o'.originalName = some orig ∧ o'.originalTags = some scTags ∧
    o'.rows = o.rows ∧ o'.bait = o.bait := by
  obtain ⟨_, _, rfl⟩ := labelScaffold_ok h
  unfold targetMode labelled finalTag preTag
  refine ⟨fun h1 => ?_, fun h1 h2 => ?_, fun h1 h2 hc => ?_, fun h1 h2 hc ht => ?_, rfl, rfl, rfl, rfl, rfl⟩
  · rw [if_pos h1]; exact ⟨rfl, rfl⟩
  · rw [if_neg h1, if_pos h2]; exact ⟨rfl, rfl⟩
  · rw [if_neg h1, if_neg h2, if_pos hc]; exact ⟨rfl, rfl⟩
  · rw [if_neg h1, if_neg h2, if_neg (not_or.2 ⟨hc, ht⟩)]; exact ⟨rfl, rfl⟩

/-- In Target mode every piece is tagged: there is no way to reach a curated assembly. -/
theorem label_target_mode (n n' : Namer) (o o' : OverlapResult) (sid : Nat) (frag : Fragment) (scTags : List Str)
    (orig : Str) (ht : targetMode n scTags) (h : labelScaffold n o sid frag scTags orig = .ok (n', o')) :
    truthy o'.tag = true ∧ o'.rank = 3 := by
  obtain ⟨l1, l2, l3, _⟩ := label_special n n' o o' sid frag scTags orig h
  by_cases h1 : frag.tags.contains sFalseDuplicate = true
  · rw [(l1 h1).1, (l1 h1).2]; exact ⟨rfl, rfl⟩
  by_cases h2 : frag.tags.contains sHaplotig = true
  · rw [(l2 h1 h2).1, (l2 h1 h2).2]; exact ⟨rfl, rfl⟩
  · rw [(l3 h1 h2 (.inr ht)).1, (l3 h1 h2 (.inr ht)).2]; exact ⟨rfl, rfl⟩

/-- A fresh lookup result carries no tag, so outside the special cases `label_scaffold` leaves `tag = none`. -/
theorem find_overlaps_untagged (rows : List Row) (bait : Fragment) (o : OverlapResult)
    (h : findOverlaps rows bait = .ok (some o)) : o.tag = none ∧ o.bait = bait :=
  ⟨(findOverlaps_fresh h).2.1, (findOverlaps_fresh h).1⟩

/-! ## 2  `scaffolds_fused_by_name` -/

/-- the (tag, haplotype, name) triple the fusing dict is keyed by -/
def triple (s : Scaffold) : FKey := (s.tag, s.haplotype, s.name)

/-- **Fusing keeps tags apart.**
    (a) every stored lookup result that was added and still has rows is found, as a contiguous block of rows (reversed
        and strand-flipped for a minus bait: `toScaffoldRows`), inside a fused scaffold with the same tag, haplotype
        and name;
    (b) the same for every left-over input scaffold appended by `add_missing_scaffolds_from_input`;
    (c) fused scaffolds have pairwise different (tag, haplotype, name) — so the scaffold in (a)/(b) is unique;
    (d) every fused scaffold has the triple of one of its members: its tag IS the tag of a member, and by (c) of all. -/
theorem fuse_keeps_tag (b : Build) :
    (∀ r ∈ b.store, r.added = true → r.o.rows ≠ [] →
        ∃ s ∈ fuseByName b, triple s = (r.o.tag, r.o.haplotype, r.o.name) ∧ r.o.toScaffoldRows <:+: s.rows) ∧
    (∀ e ∈ b.extra, e.1.rows ≠ [] →
        ∃ s ∈ fuseByName b, triple s = triple e.1 ∧ e.1.rows <:+: s.rows) ∧
    ((fuseByName b).map triple).Nodup ∧
    (∀ s ∈ fuseByName b,
        (∃ r ∈ b.store, r.added = true ∧ r.o.rows ≠ [] ∧ triple s = (r.o.tag, r.o.haplotype, r.o.name)) ∨
        (∃ e ∈ b.extra, e.1.rows ≠ [] ∧ triple s = triple e.1)) := by
  refine ⟨fun r hr ha hn => Fuse.fused_of_item (Fuse.mem_fuseItems.2 (.inl ⟨r, hr, ha, hn, rfl⟩)),
    fun e he hn => Fuse.fused_of_item (Fuse.mem_fuseItems.2 (.inr ⟨e, he, hn, rfl⟩)), Fuse.fuseByName_triples_nodup b, ?_⟩
  intro s hs
  obtain ⟨it, _, _, hm, rfl⟩ := Fuse.fuseByName_mem hs
  rcases Fuse.mem_fuseItems.1 hm with ⟨r, hr, ha, hn, rfl⟩ | ⟨e, he, hn, rfl⟩
  · exact .inl ⟨r, hr, ha, hn, rfl⟩
  · exact .inr ⟨e, he, hn, rfl⟩

/-! ## 3  which output assembly -/

/-- the assemblies dict `assembliesFused` builds for the fused scaffolds `fs` -/
def asmsOf (prefix_ : Str) (fs : List Scaffold) : Asms := (splitLoop prefix_ fs).1

/-- The `OutAsm` list returned by `assembliesFused` has exactly the keys and `curated` flags of that dict, in order
    (so `assembly_key` speaks about the written assemblies). -/
theorem assembliesFused_keys (input : List Scaffold) (b : Build) (outs : List OutAsm) (stats : Stats)
    (h : assembliesFused input b = .ok (outs, stats)) :
    outs.map (fun a => (a.key, a.curated)) =
      (asmsOf b.namer.autosomePrefix (fuseByName b)).map (fun a => (a.1, a.2.1)) := by
  obtain ⟨_, _, rfl, _⟩ := assembliesFused_ok h
  unfold outsOf; rw [List.map_map]; rfl

/-- **Exact routing statement.**  Scaffold number `sid` is listed in the assembly keyed `(asmKey s).1` and in no other;
    that assembly's member list is exactly the scaffolds with this key, in order; and its `curated` flag is
    `(asmKey first).2` of its FIRST member — not necessarily of `s`. -/
theorem assembly_key (prefix_ : Str) (fs : List Scaffold) (sid : Nat) (hsid : sid < fs.length) :
    ∃ c ids first,
      dGet? (asmsOf prefix_ fs) (asmKey (fs.getD sid default)).1 = some (c, ids) ∧
      ids = (List.range fs.length).filter (fun j => (asmKey (fs.getD j default)).1 = (asmKey (fs.getD sid default)).1) ∧
      sid ∈ ids ∧ ids.head? = some first ∧ first ≤ sid ∧
      (asmKey (fs.getD first default)).1 = (asmKey (fs.getD sid default)).1 ∧
      c = (asmKey (fs.getD first default)).2 ∧
      (∀ k' c' ids', dGet? (asmsOf prefix_ fs) k' = some (c', ids') → sid ∈ ids' →
          k' = (asmKey (fs.getD sid default)).1) ∧
      ((asmsOf prefix_ fs).map (·.1)).Nodup := by
  have hin : sid ∈ idsOf fs (asmKey (fs.getD sid default)).1 := mem_idsOf.2 ⟨hsid, rfl⟩
  have hget := splitLoop_get prefix_ fs (asmKey (fs.getD sid default)).1
  -- `idsOf` is a sublist of `range n`, hence sorted: its head is its minimum
  have hsorted : (idsOf fs (asmKey (fs.getD sid default)).1).Pairwise (· < ·) := List.Pairwise.filter _ List.pairwise_lt_range
  cases hf : idsOf fs (asmKey (fs.getD sid default)).1 with
  | nil => rw [hf] at hin; cases hin
  | cons first r =>
    rw [hf] at hget hin hsorted
    refine ⟨_, _, first, hget, hf.symm, hin, rfl, ?_, (mem_idsOf.1 (hf ▸ List.mem_cons_self)).2, rfl, ?_,
      splitLoop_keys_nodup prefix_ fs⟩
    · rcases List.mem_cons.1 hin with h | h
      · omega
      · exact Nat.le_of_lt ((List.pairwise_cons.1 hsorted).1 sid h)
    · intro k' c' ids' hk' hin'
      rw [(splitLoop_get_some hk').1] at hin'
      exact (mem_idsOf.1 hin').2.symm

/-- No clash between tag strings and haplotype strings among the fused scaffolds. -/
def NoClash (fs : List Scaffold) : Prop :=
  ∀ i j, i < fs.length → j < fs.length →
    truthy (fs.getD i default).tag = true → ¬ truthy (fs.getD j default).tag = true →
    (fs.getD j default).haplotype ≠ (fs.getD i default).tag

theorem asmKey_snd (s : Scaffold) : (asmKey s).2 = !truthy s.tag := by
  unfold asmKey
  cases truthy s.tag
  · rw [if_neg Bool.false_ne_true]; split <;> rfl
  · rfl

theorem NoClash.tagged {fs : List Scaffold} (hnc : NoClash fs) {i j : Nat} (hi : i < fs.length) (hj : j < fs.length)
    (hk : (asmKey (fs.getD i default)).1 = (asmKey (fs.getD j default)).1) (ht : truthy (fs.getD i default).tag = true) :
    truthy (fs.getD j default).tag = true := by
  obtain ⟨-, b2, b3⟩ := asmKey_cases (fs.getD j default)
  rw [(asmKey_cases _).1 ht] at hk
  by_cases hjt : truthy (fs.getD j default).tag = true
  · exact hjt
  by_cases hjh : truthy (fs.getD j default).haplotype = true
  · rw [b2 hjt hjh] at hk
    exact absurd hk.symm (hnc i j hi hj ht hjt)
  · rw [b3 hjt hjh] at hk
    rw [show (fs.getD i default).tag = none from hk] at ht
    cases ht

/-- **Routing as documented, under `NoClash`.**  A scaffold with a tag lands in the assembly keyed by the tag, which is
    not curated; an untagged one with a haplotype in the curated assembly keyed by the haplotype; the rest in the curated
    assembly keyed `none` (primary).  For the `none` assembly no side condition is needed (`assembly_key_primary`). -/
theorem assembly_key_noclash (prefix_ : Str) (fs : List Scaffold) (sid : Nat) (hsid : sid < fs.length)
    (hnc : NoClash fs) :
    let s := fs.getD sid default
    (truthy s.tag = true → ∃ ids, dGet? (asmsOf prefix_ fs) s.tag = some (false, ids) ∧ sid ∈ ids) ∧
    (¬ truthy s.tag = true → truthy s.haplotype = true →
        ∃ ids, dGet? (asmsOf prefix_ fs) s.haplotype = some (true, ids) ∧ sid ∈ ids) ∧
    (¬ truthy s.tag = true → ¬ truthy s.haplotype = true →
        ∃ ids, dGet? (asmsOf prefix_ fs) none = some (true, ids) ∧ sid ∈ ids) := by
  intro s
  obtain ⟨c, ids, first, hd, _, hin, _, hle, hfk, rfl, _, _⟩ := assembly_key prefix_ fs sid hsid
  have hflt : first < fs.length := Nat.lt_of_le_of_lt hle hsid
  -- the flag is that of the assembly's first member, which is tagged exactly when `s` is: `s` is filed under `asmKey s`
  have hc : (asmKey (fs.getD first default)).2 = (asmKey s).2 := by
    rw [asmKey_snd, asmKey_snd]
    exact congrArg _ (Bool.eq_iff_iff.2 ⟨hnc.tagged hflt hsid hfk, hnc.tagged hsid hflt hfk.symm⟩)
  rw [hc] at hd
  obtain ⟨a1, a2, a3⟩ := asmKey_cases s
  refine ⟨fun ht => ⟨ids, ?_, hin⟩, fun ht hh => ⟨ids, ?_, hin⟩, fun ht hh => ⟨ids, ?_, hin⟩⟩
  · rw [a1 ht] at hd; exact hd
  · rw [a2 ht hh] at hd; exact hd
  · rw [a3 ht hh] at hd; exact hd

/-- the primary assembly (key `none`) is always curated and never receives a tagged or haplotype-labelled scaffold -/
theorem assembly_key_primary (prefix_ : Str) (fs : List Scaffold) (c : Bool) (ids : List Nat)
    (h : dGet? (asmsOf prefix_ fs) none = some (c, ids)) :
    c = true ∧ ∀ sid ∈ ids, sid < fs.length ∧ ¬ truthy (fs.getD sid default).tag = true ∧
      ¬ truthy (fs.getD sid default).haplotype = true := by
  obtain ⟨e1, first, r, e2, rfl⟩ := splitLoop_get_some h
  have hall : ∀ sid ∈ ids, sid < fs.length ∧ ¬ truthy (fs.getD sid default).tag = true ∧
      ¬ truthy (fs.getD sid default).haplotype = true := by
    intro sid hs
    rw [e1] at hs
    obtain ⟨hr, hk⟩ := mem_idsOf.1 hs
    obtain ⟨a1, a2, _⟩ := asmKey_cases (fs.getD sid default)
    refine ⟨hr, ?_, ?_⟩
    · intro ht; rw [a1 ht] at hk; simp only [] at hk; rw [hk] at ht; cases ht
    · intro hh
      by_cases ht : truthy (fs.getD sid default).tag = true
      · rw [a1 ht] at hk; simp only [] at hk; rw [hk] at ht; cases ht
      · rw [a2 ht hh] at hk; simp only [] at hk; rw [hk] at hh; cases hh
  obtain ⟨_, h1, h2⟩ := hall first (e2 ▸ List.mem_cons_self)
  exact ⟨by rw [(asmKey_cases _).2.2 h1 h2], hall⟩

/-! ### non-vacuity and the counterexample -/

def untaggedHapContaminant : Scaffold :=
  { name := ['C','o','n','t','a','m','i','n','a','n','t','_','x','_','1'], haplotype := some sContaminant, rank := 3 }
def taggedContaminant : Scaffold := { name := ['c','t','g','2'], tag := some sContaminant, rank := 3 }
def plainScaffold : Scaffold := { name := ['S','U','P','E','R','_','1'], rank := 1 }

/-- COUNTEREXAMPLE to "tagged ⇒ `curated = false`": the Contaminant-tagged scaffold (id 1) is put in an assembly with
    `curated = true`, created by the untagged scaffold (id 0) whose haplotype string is "Contaminant". -/
theorem curated_counterexample :
    asmsOf ['S','U','P','E','R','_'] [untaggedHapContaminant, taggedContaminant, plainScaffold] =
      [(some sContaminant, true, [0, 1]), (none, true, [2])] := by decide +kernel

/-- … and in the other order the haplotype's scaffold is filed under the non-curated contaminant assembly -/
example :
    asmsOf ['S','U','P','E','R','_'] [taggedContaminant, untaggedHapContaminant, plainScaffold] =
      [(some sContaminant, false, [0, 1]), (none, true, [2])] := by decide +kernel

/-- `NoClash` is satisfiable with all three kinds of scaffold present, and the routing is then as documented -/
example :
    NoClash [taggedContaminant, { plainScaffold with haplotype := some ['H','a','p','2'] }, plainScaffold] ∧
    asmsOf ['S','U','P','E','R','_']
        [taggedContaminant, { plainScaffold with haplotype := some ['H','a','p','2'] }, plainScaffold] =
      [(some sContaminant, false, [0]), (some ['H','a','p','2'], true, [1]), (none, true, [2])] := by
  refine ⟨?_, by decide +kernel⟩
  intro i j hi hj
  have hi' : i = 0 ∨ i = 1 ∨ i = 2 := by simp at hi; omega
  have hj' : j = 0 ∨ j = 1 ∨ j = 2 := by simp at hj; omega
  rcases hi' with rfl | rfl | rfl <;> rcases hj' with rfl | rfl | rfl <;> decide

/-- `label_special` / `label_target_mode` hypotheses are satisfiable: a Haplotig piece in Target mode -/
example :
    let n : Namer := { autosomePrefix := [], targetTags := true, currentScaffoldName := some ['S','1'], currentRank := 1 }
    let o : OverlapResult := { bait := { name := ['c'], start := 1, stop := 9, strand := 1 }, start := 1, stop := 9, rows := [] }
    let frag : Fragment := { name := ['c'], start := 1, stop := 9, strand := 1, tags := [sHaplotig, sContaminant] }
    targetMode n [sPainted] ∧
    (labelScaffold n o 0 frag [sPainted] ['S','1']).toOption.map (fun p => (p.2.tag, p.2.rank, p.2.name)) =
      some (some sHaplotig, 3, ['H','_','1']) := by
  refine ⟨⟨rfl, by decide⟩, by decide +kernel⟩

/-- `fuse_keeps_tag` on a concrete store: two added results with the same name but different tags stay apart -/
example :
    let f : Fragment := { name := ['c'], start := 1, stop := 9, strand := 1 }
    let o1 : OverlapResult := { bait := f, start := 1, stop := 9, rows := [.frag f], name := ['X'], tag := some sHaplotig }
    let o2 : OverlapResult := { bait := f, start := 1, stop := 9, rows := [.frag f], name := ['X'] }
    let b : Build := { namer := { autosomePrefix := [] }, store := [⟨o1, true⟩, ⟨o2, true⟩, ⟨o1, true⟩],
                       nextOid := 0, joinGap := none, err := 0 }
    (fuseByName b).map (fun s => (s.tag, s.rows.length)) = [(some sHaplotig, 2), (none, 1)] := by decide +kernel

end AgpTpf.C09
