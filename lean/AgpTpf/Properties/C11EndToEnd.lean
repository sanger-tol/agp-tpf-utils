/-
  C11, first clause, END TO END — "cuts = number of contig pieces in all output assemblies − number of input contigs":
  every contig that is cut into k pieces adds k − 1.

  PROVED, all at full strength (no `_partial` theorem in this file), for a well-formed input (`C01.WFInput`, exactly the
  hypothesis of `C01.remap_partitions`) and ANY Pretext assembly, prefix, join gap and texel size, whenever `remap` completes:

    `remap_cuts_count`        stats.cuts = #fragments over all scaffolds of all output assemblies − #fragments of the input
                              (an equation in `Int`: no truncated subtraction);
    `remap_cuts_nonneg`       0 ≤ stats.cuts, hence
    `remap_pieces_count`      #output fragments = #input fragments + stats.cuts.toNat   (the same equation in `Nat`);
    `remap_cuts_per_contig`   every input contig fragment `F` comes out as `piecesOf outs F ≥ 1` pieces (output fragments that
                              are sub-intervals of `F` on the same contig), every output fragment is a piece of exactly one
                              input fragment, and stats.cuts = Σ_F (piecesOf outs F − 1).

  How: `Proofs/C11ECount.lean`.  The registry invariant `Mid` of C01 holds when cutting starts; there
  Σ_{k ∈ multi} (holders k − 1) = #store rows + #unregistered input fragments − #input fragments (`mid_count`, a double
  count over the duplicate-free key list of the input); cutting adds exactly that sum to the counter
  (`C11.cut_remaining_counter`) and replaces rows one for one (`cutRemaining_fragCount`); the left-over scaffolds hold exactly the
  unregistered input fragments (`C01.addMissing_spec`); fusing/splitting/naming/sorting permute the triples
  (`C01.outputs_hold_store_and_leftovers`); `make_stats` passes the counter through.

  FINDING (why `WFInput` is needed, same root cause as in `Properties/C01.lean`): `remap_cuts_count_needs_wf` — an input that
  lists one contig interval twice completes without error with cuts = 0 but 1 output fragment for 2 input fragments
  (0 ≠ 1 − 2).  No statement was found false under `WFInput`.
-/
import AgpTpf.Properties.C01
import AgpTpf.Properties.C11
import AgpTpf.Proofs.C11ECount
namespace AgpTpf.C11
open AgpTpf

/-! ## the equation -/

/-- END TO END: for a well-formed input and any Pretext assembly, whenever `remap` completes, the cut counter reported in
    the statistics equals the number of contig fragments over all scaffolds of all output assemblies minus the number
    of contig fragments of the input. -/
theorem remap_cuts_count (input ptx : List Scaffold) (prefix_ : Str) (joinGap : Option Gap) (err : Int)
    (hwf : C01.WFInput input) (outs : List OutAsm) (stats : Stats)
    (h : remap input ptx prefix_ joinGap err = .ok (outs, stats)) :
    stats.cuts = (((outs.flatMap (·.scaffolds)).flatMap Scaffold.fragments).length : Int) -
      ((input.flatMap Scaffold.fragments).length : Int) := by
  obtain ⟨b, hb, hperm⟩ := C01.outputs_hold_store_and_leftovers input ptx prefix_ joinGap err outs stats h
  obtain ⟨b', hb', hcuts⟩ := remap_stats_cuts input ptx prefix_ joinGap err outs stats h
  rw [hb] at hb'
  cases hb'
  rw [hcuts, (remapToInput_cuts input ptx prefix_ joinGap err b hwf hb).1,
    ← length_flatMap_keysOf, hperm.length_eq, List.length_append, C01.storeKeys_eq, C01.extraKeys_eq,
    List.length_map, List.length_map]
  simp only [C01.inputFrags]
  omega

/-- the counter is never negative … -/
theorem remap_cuts_nonneg (input ptx : List Scaffold) (prefix_ : Str) (joinGap : Option Gap) (err : Int)
    (hwf : C01.WFInput input) (outs : List OutAsm) (stats : Stats)
    (h : remap input ptx prefix_ joinGap err = .ok (outs, stats)) : 0 ≤ stats.cuts := by
  obtain ⟨b, hb, hcuts⟩ := remap_stats_cuts input ptx prefix_ joinGap err outs stats h
  rw [hcuts]
  exact (remapToInput_cuts input ptx prefix_ joinGap err b hwf hb).2

/-- … so the same equation holds in `Nat`: remapping never loses a fragment, and makes exactly `cuts` more. -/
theorem remap_pieces_count (input ptx : List Scaffold) (prefix_ : Str) (joinGap : Option Gap) (err : Int)
    (hwf : C01.WFInput input) (outs : List OutAsm) (stats : Stats)
    (h : remap input ptx prefix_ joinGap err = .ok (outs, stats)) :
    ((outs.flatMap (·.scaffolds)).flatMap Scaffold.fragments).length =
      (input.flatMap Scaffold.fragments).length + stats.cuts.toNat := by
  have h1 := remap_cuts_count input ptx prefix_ joinGap err hwf outs stats h
  have h2 := remap_cuts_nonneg input ptx prefix_ joinGap err hwf outs stats h
  omega

/-! ## per contig: k pieces add k − 1 -/

/-- the output triple `t` is a piece of the input fragment `F`: same contig name, interval inside `F`'s -/
def isPiece (F : Fragment) (t : Key) : Bool := decide (t.1 = F.name ∧ F.start ≤ t.2.1 ∧ t.2.2 ≤ F.stop)

/-- number of output fragments (over all output assemblies) that are pieces of `F` -/
def piecesOf (outs : List OutAsm) (F : Fragment) : Nat := (C01.outputTriples outs).countP (isPiece F)

/-- Per contig: every input contig fragment comes out as at least one piece; every output fragment is a piece of exactly
    one input fragment (so the pieces of different contigs are disjoint collections and together are all output
    fragments); and the counter is the sum over the input contigs of (pieces − 1). -/
theorem remap_cuts_per_contig (input ptx : List Scaffold) (prefix_ : Str) (joinGap : Option Gap) (err : Int)
    (hwf : C01.WFInput input) (outs : List OutAsm) (stats : Stats)
    (h : remap input ptx prefix_ joinGap err = .ok (outs, stats)) :
    (∀ F ∈ C01.inputFrags input, 1 ≤ piecesOf outs F) ∧
    (∀ t ∈ C01.outputTriples outs, (C01.inputFrags input).countP (fun F => isPiece F t) = 1) ∧
    (((C01.outputTriples outs).length : Int) = sumInts ((C01.inputFrags input).map (fun F => (piecesOf outs F : Int)))) ∧
    stats.cuts = sumInts ((C01.inputFrags input).map (fun F => (piecesOf outs F : Int) - 1)) := by
  obtain ⟨hcount, hsub⟩ := C01.remap_partitions input ptx prefix_ joinGap err outs stats hwf h
  have huniq : ∀ t ∈ C01.outputTriples outs, (C01.inputFrags input).countP (fun F => isPiece F t) = 1 := by
    intro t ht
    obtain ⟨hle, F0, hF0, hn0, hs0, he0⟩ := hsub t ht
    have hc0 : C01.covers t.1 t.2.1 F0 = true := by
      simp only [C01.covers, decide_eq_true_eq]; exact ⟨hn0, hs0, by omega⟩
    rw [← hwf.cover_count hF0 hc0]
    apply List.countP_congr
    intro F hF
    constructor
    · intro hp
      simp only [isPiece, decide_eq_true_eq] at hp
      simp only [C01.covers, decide_eq_true_eq]
      exact ⟨hp.1.symm, hp.2.1, by omega⟩
    · intro hc
      have := hwf.cover_unique hF hF0 hc hc0
      subst this
      simp only [isPiece, decide_eq_true_eq]
      exact ⟨hn0.symm, hs0, he0⟩
  have hsum : ((C01.outputTriples outs).length : Int) =
      sumInts ((C01.inputFrags input).map (fun F => (piecesOf outs F : Int))) := by
    refine length_eq_sum_countP (fun F t => isPiece F t) (C01.inputFrags input) (C01.outputTriples outs) ?_
    intro t ht
    rw [← countP_eq_sumInts, huniq t ht]; rfl
  refine ⟨?_, huniq, hsum, ?_⟩
  · intro F hF
    have hx := C01.remap_exactly_once input ptx prefix_ joinGap err outs stats hwf h F hF F.start
      (Int.le_refl _) (hwf.2.2.2.2 F hF)
    have hpos : 0 < (C01.outputTriples outs).countP (C01.coversK F.name F.start) := by omega
    obtain ⟨t, ht, hct⟩ := List.countP_pos_iff.mp hpos
    simp only [C01.coversK, decide_eq_true_eq] at hct
    obtain ⟨hle, F0, hF0, hn0, hs0, he0⟩ := hsub t ht
    have hcF : C01.covers F.name F.start F = true := by
      have := hwf.2.2.2.2 F hF
      simp [C01.covers, this]
    have hcF0 : C01.covers F.name F.start F0 = true := by
      simp only [C01.covers, decide_eq_true_eq]; exact ⟨hn0.trans hct.1, by omega, by omega⟩
    have := hwf.cover_unique hF0 hF hcF0 hcF
    subst this
    unfold piecesOf
    apply List.countP_pos_iff.mpr
    exact ⟨t, ht, by simp only [isPiece, decide_eq_true_eq]; exact ⟨hn0.symm, hs0, he0⟩⟩
  · have hmain := remap_cuts_count input ptx prefix_ joinGap err hwf outs stats h
    have hlen : (C01.outputTriples outs).length = ((outs.flatMap (·.scaffolds)).flatMap Scaffold.fragments).length :=
      length_flatMap_keysOf _
    have hlin := sumInts_map_lin3 (fun F => (piecesOf outs F : Int)) (fun _ => 0) (fun _ => 1) (C01.inputFrags input)
    rw [sumInts_map_zero, sumInts_map_one] at hlin
    have hfun : (fun F => (piecesOf outs F : Int) - 1) = (fun F => (piecesOf outs F : Int) + 0 - 1) := by
      funext F; omega
    rw [hfun, hlin, ← hsum, hmain, hlen]
    simp only [C01.inputFrags]
    omega

/-! ## non-vacuity: one contig cut in two, one (reverse strand) cut in three — cuts = 3

  Input scaffold `A` = c1:1-100(+), c2:1-100(−) (scaffold positions 1-100, 101-200), scaffold `B` = d1:1-50.
  Pretext pieces A:1-40, A:41-130, A:131-160, A:161-200 (texel size 5): `c1` is held by the first two pieces and is cut in
  two (1-40 | 41-100); `c2` is held by the last three and is cut in three (71-100 | 41-70 | 1-40: reverse strand);
  `d1` is left over.  6 output fragments − 3 input fragments = 3 cuts. -/

private def jg : Gap := { length := 200, gapType := "scaffold".toList }
private def ec1 : Fragment := { oid := 1, name := "c1".toList, start := 1, stop := 100, strand := 1 }
private def ec2 : Fragment := { oid := 2, name := "c2".toList, start := 1, stop := 100, strand := -1 }
private def ed1 : Fragment := { oid := 3, name := "d1".toList, start := 1, stop := 50, strand := 1 }
private def eIn : List Scaffold :=
  [{ name := ['A'], rows := [.frag ec1, .frag ec2] }, { name := ['B'], rows := [.frag ed1] }]
private def epf (oid : Nat) (s e : Int) : Row :=
  .frag { oid := oid, name := ['A'], start := s, stop := e, strand := 1, tags := [sPainted] }
private def ePtx : List Scaffold :=
  [{ name := "S1".toList, rows := [epf 10 1 40] }, { name := "S2".toList, rows := [epf 11 41 130] },
   { name := "S3".toList, rows := [epf 12 131 160] }, { name := "S4".toList, rows := [epf 13 161 200] }]

example : C01.WFInput eIn := by decide +kernel

/-- `remap` completes; the counter, the output triples -/
private theorem eRemap_values :
    (remap eIn ePtx [] (some jg) 5).toOption.map (fun r => (r.2.cuts, C01.outputTriples r.1)) =
      some (3, [("c1".toList, 41, 100), ("c2".toList, 71, 100), ("c1".toList, 1, 40), ("c2".toList, 1, 40),
                ("c2".toList, 41, 70), ("d1".toList, 1, 50)]) := by
  decide +kernel

/-- the instance of the theorems on this input: cuts = 3 = 6 − 3; `c1` comes out in 2 pieces, `c2` in 3, `d1` in 1 -/
example : ∃ outs stats, remap eIn ePtx [] (some jg) 5 = .ok (outs, stats) ∧
    stats.cuts = 3 ∧
    ((outs.flatMap (·.scaffolds)).flatMap Scaffold.fragments).length = 6 ∧ (eIn.flatMap Scaffold.fragments).length = 3 ∧
    stats.cuts = (((outs.flatMap (·.scaffolds)).flatMap Scaffold.fragments).length : Int) -
      ((eIn.flatMap Scaffold.fragments).length : Int) ∧
    piecesOf outs ec1 = 2 ∧ piecesOf outs ec2 = 3 ∧ piecesOf outs ed1 = 1 := by
  have hv := eRemap_values
  cases hr : remap eIn ePtx [] (some jg) 5 with
  | error e => rw [hr] at hv; simp [Except.toOption] at hv
  | ok r =>
    obtain ⟨outs, stats⟩ := r
    rw [hr] at hv
    simp only [Except.toOption, Option.map_some, Option.some.injEq, Prod.mk.injEq] at hv
    obtain ⟨hc, ht⟩ := hv
    have hlen : ((outs.flatMap (·.scaffolds)).flatMap Scaffold.fragments).length = 6 := by
      rw [← length_flatMap_keysOf]
      have : (C01.outputTriples outs).length = 6 := by rw [ht]; rfl
      exact this
    refine ⟨outs, stats, rfl, hc, hlen, by decide +kernel,
      remap_cuts_count eIn ePtx [] (some jg) 5 (by decide +kernel) outs stats hr, ?_, ?_, ?_⟩
    · unfold piecesOf; rw [ht]; decide +kernel
    · unfold piecesOf; rw [ht]; decide +kernel
    · unfold piecesOf; rw [ht]; decide +kernel

/-! ## FINDING: without `WFInput` the equation fails (silently)

  The registry of found contigs is keyed by `(name, start, end)`.  If the input lists the same contig interval twice
  (scaffolds `A` and `B` both consist of c:1-10, two different Fragment objects) and the Pretext assembly places only `A`,
  the copy in `B` counts as "found" and is neither placed nor left over.  `remap` completes without error, reports
  cuts = 0, and the outputs hold ONE fragment for TWO input fragments: 0 ≠ 1 − 2.  The input violates `WFInput`
  (duplicate key / overlapping fragments); no check in the code rejects it. -/

private def yIn : List Scaffold :=
  [{ name := ['A'], rows := [.frag { oid := 1, name := ['c'], start := 1, stop := 10, strand := 1 }] },
   { name := ['B'], rows := [.frag { oid := 2, name := ['c'], start := 1, stop := 10, strand := 1 }] }]
private def yPtx : List Scaffold := [{ name := "S1".toList, rows := [epf 10 1 10] }]

theorem remap_cuts_count_needs_wf :
    ¬ C01.WFInput yIn ∧
    (remap yIn yPtx [] (some jg) 5).toOption.map
        (fun r => (r.2.cuts, ((r.1.flatMap (·.scaffolds)).flatMap Scaffold.fragments).length)) = some (0, 1) ∧
    (yIn.flatMap Scaffold.fragments).length = 2 := by
  refine ⟨by decide +kernel, by decide +kernel, by decide +kernel⟩

end AgpTpf.C11
