/-
  C01 / T1c — the model's `qcPasses` IS the source's `BuildAssembly.qc_sub_fragments` (assembly/build_assembly.py) as translated
  by `harness/translate_imp.py` into `Gen.Imp.BuildAssembly_qc_sub_fragments`.  Loop lemmas: Proofs/ImpSmall.lean.
-/
import AgpTpf.Gen.Imp
import AgpTpf.Proofs.ImpSmall
namespace AgpTpf.C01
open AgpTpf

-- the `simp only` sets below name the facts about EVERY spelling of the loop's iterable; under one given spelling some are unused
set_option linter.unusedSimpArgs false in
/-- the cut QC of the source raises ValueError exactly when the model's `qcPasses` says no (messages are abstracted to "non-empty") -/
theorem qc_sub_fragments_is_source (orig : Fragment) (subs : List Fragment) :
    Gen.Imp.BuildAssembly_qc_sub_fragments subs orig = if qcPasses orig subs then .ok () else .error .value := by
  unfold Gen.Imp.BuildAssembly_qc_sub_fragments
  dsimp only
  rw [ImpSmall.lexLe2_key_eq_lexLe]
  -- first loop, in either spelling (`for i, frag_a in enumerate(srtd_frags[:-1]): frag_b = srtd_frags[i + 1]` or
  -- `for i in range(len(srtd_frags) - 1): frag_a = srtd_frags[i]; frag_b = srtd_frags[i + 1]`): the iterable has `len - 1` items and
  -- the k-th pass is `qcStep` on `srtd_frags[k]`, `srtd_frags[k + 1]`
  rw [ImpSmall.forIn_consPairs (stableSort lexLe subs) ImpSmall.qcStep]
  rotate_left
  · simp only [PyRt.length_enumerate, PyRt.length_slice_none_neg_one, PyRt.length_rangeUp, Int.ofNat_eq_natCast]
      <;> omega
  · intro k h1 h2 s
    rw [ImpSmall.QSt.eta s]
    simp (disch := omega) only [PyRt.getElem_enumerate, PyRt.getElem_slice_none_neg_one, PyRt.getElem_rangeUp,
      Int.zero_add, pyGet_of_lt, ImpSmall.pyGet_natCast_succ, ok_bind, ite_ok_bind]
    rfl
  obtain ⟨h1, h2, h3⟩ := ImpSmall.qc_loop_counts subs
  generalize List.foldl _ _ (ImpSmall.consPairs (stableSort lexLe subs)) = S at h1 h2 h3 ⊢
  rw [ImpSmall.QSt.eta S]
  generalize S.abut = ac at h1 ⊢
  generalize S.over = oc at h2 ⊢
  generalize S.pairs = pg at h3 ⊢
  simp only [ok_bind, ite_ok_bind]
  -- `for frag_a, frag_b, g in pairs_with_gaps: msg += …`
  rw [PyRt.forIn_foldl (fun _ _ => true) (fun _ _ _ => rfl)]
  simp only [ok_bind]
  rw [ImpSmall.foldl_const_true]
  -- the four conditions under which `msg` is non-empty are the four conjuncts of `qcPasses`
  have hE : pg.isEmpty = (pg.length == 0) := by cases pg <;> rfl
  rw [ImpSmall.qcPasses_eq, hE, h3, h1, h2]
  unfold PyRt.sum
  generalize ImpSmall.abutCount subs = A
  generalize ImpSmall.overCount subs = O
  generalize ImpSmall.gapCount subs = G
  have hT : List.map (fun (f : Fragment) => f.length) subs = List.map Fragment.length subs := rfl
  rw [hT]
  generalize sumInts (List.map Fragment.length subs) = T
  by_cases c1 : orig.length = T <;> by_cases c2 : O = 0 <;> by_cases c3 : (A : Int) = (subs.length : Int) - 1 <;>
    by_cases c4 : G = 0 <;> simp [c1, c2, c3, c4]

/-- the generated function runs: three abutting pieces of `c:1-30`, given out of order, pass … -/
example :
    Gen.Imp.BuildAssembly_qc_sub_fragments
      [{ name := ['c'], start := 11, stop := 20, strand := 1 }, { name := ['c'], start := 1, stop := 10, strand := 1 },
       { name := ['c'], start := 21, stop := 30, strand := -1 }]
      { name := ['c'], start := 1, stop := 30, strand := 1 } = .ok () := by rfl

/-- … a lost base (gap between the pieces), an overlap, a single piece that is too short and no pieces at all raise ValueError -/
example :
    Gen.Imp.BuildAssembly_qc_sub_fragments
      [{ name := ['c'], start := 1, stop := 10, strand := 1 }, { name := ['c'], start := 12, stop := 30, strand := 1 }]
      { name := ['c'], start := 1, stop := 30, strand := 1 } = .error .value := by rfl
example :
    Gen.Imp.BuildAssembly_qc_sub_fragments
      [{ name := ['c'], start := 1, stop := 10, strand := 1 }, { name := ['c'], start := 10, stop := 29, strand := 1 }]
      { name := ['c'], start := 1, stop := 30, strand := 1 } = .error .value := by rfl
example :
    Gen.Imp.BuildAssembly_qc_sub_fragments [{ name := ['c'], start := 1, stop := 10, strand := 1 }]
      { name := ['c'], start := 1, stop := 30, strand := 1 } = .error .value := by rfl
example :
    Gen.Imp.BuildAssembly_qc_sub_fragments [] { name := ['c'], start := 1, stop := 30, strand := 1 } = .error .value := by rfl

end AgpTpf.C01
