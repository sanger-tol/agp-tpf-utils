/-
  C11 / T1c — the curation statistics: the model's `makeStats` / `Assembly.junctionSet` (Model/Remap.lean, Model/Basic.lean) against
  the source's `AssemblyStats.make_stats` (assembly/assembly_stats.py) and `Assembly.fragment_junction_set` (assembly/assembly.py)
  as translated by `harness/translate_imp.py` into `Gen.Imp`.  Helper lemmas: Proofs/ImpStats.lean.

  Conversions (Proofs/ImpStats.lean): the model's `perAssembly : List (Str × Int × Int)` is the source's `per_assembly_stats`
  under `perToSrc` (`(name, b, j) ↦ (name, [("manual_breaks", b), ("manual_joins", j)])`).  The source is run on
  `output_assemblies = [(a.key, Assembly(a.scaffolds)) for a in outs]` and
  `self.input_assembly.fragment_junctions_by_asm_prefix() = junctionsByPrefix input`; the incoming `self.breaks` / `self.joins`
  (`b0`, `j0`) are arbitrary (they are overwritten), the incoming `per_assembly_stats` is empty.  `cuts` is not touched by `make_stats`.

  RESULTS
   1  `assembly_junction_set_is_source`           full strength: the source's loop over `scffld.fragment_junction_set()` = `Assembly.junctionSet`
      `assembly_junction_set_source_loop`         … for any function standing for the per-scaffold call (its receiver is the loop variable)
   2  `make_stats_is_source_partial`              whole result (breaks, joins, per-assembly records, exception class) under
                                                  `outs` keys pairwise different — the FULL statement is FALSE of the model (counter-example
                                                  below: three assemblies with keys None, "", None), but a Python dict never has a repeated key
      `make_stats_counts_is_source`               breaks, joins and the exception class: full strength, NO hypothesis
      `make_stats_source_normal_form`             what the source computes for ALL inputs (the per-assembly loop runs over the dictionary)
   3  `make_stats_counts_source`                  `C11.make_stats_counts` for the numbers the SOURCE computes (no hypothesis on the keys)
-/
import AgpTpf.Gen.Imp
import AgpTpf.Proofs.ImpStats
import AgpTpf.Properties.C11
namespace AgpTpf.C11
open AgpTpf ImpStats

/-! ## 1. `Assembly.fragment_junction_set` -/

/-- the source's `Assembly.fragment_junction_set` (the loop `junctions |= scffld.fragment_junction_set()`) is the model's `Assembly.junctionSet`,
    with `Scaffold.junctionSet` for the per-scaffold call (the receiver of that call is the loop variable, so the parameter is a function
    of the scaffold) -/
theorem assembly_junction_set_is_source (a : Assembly) :
    Gen.Imp.Assembly_fragment_junction_set a.scaffolds Scaffold.junctionSet = a.junctionSet := by
  rw [assemblyJunctionSetSrc_eq, Assembly.junctionSet]

/-- … for every function standing for the call: the model's fold with that function -/
theorem assembly_junction_set_source_loop (scs : List Scaffold) (r : Scaffold → R (List Junction)) :
    Gen.Imp.Assembly_fragment_junction_set scs r
      = scs.foldlM (fun acc (sc : Scaffold) => do let js ← r sc; pure (sUnion acc js)) [] :=
  assemblyJunctionSetSrc_eq scs r

/-- the generated function run on two scaffolds with DIFFERENT junction sets: both sets are in the result -/
example : (Gen.Imp.Assembly_fragment_junction_set [scEx, scEx.reverse] Scaffold.junctionSet).isOk = true := by rfl

/-! ## 2. `AssemblyStats.make_stats` -/

/-- The source for ALL inputs, in the model's vocabulary: `junctionsByPrefix`, the `mapM` over the output assemblies (`outSetsOf`),
    the two unions and differences — exactly the model's stages — and then the per-assembly loop (`perStepS`, the model's step under
    `perToSrc`) over the DICTIONARY `output_junction_sets` built by storing the sets under their keys one by one. -/
theorem make_stats_source_normal_form (input : List Scaffold) (outs : List OutAsm) (b0 j0 : Int)
    (per0 : List (Str × List (Str × Int))) :
    Gen.Imp.AssemblyStats_make_stats b0 j0 per0 (outs.map (fun a => (a.key, ({ scaffolds := a.scaffolds } : Assembly))))
        (junctionsByPrefix input) =
      (junctionsByPrefix input >>= fun inSets =>
       outSetsOf outs >>= fun outSets =>
       let tb := sDiff (unionOf inSets) (unionOf outSets)
       let tj := sDiff (unionOf outSets) (unionOf inSets)
       .ok ((tb.length : Int), (tj.length : Int),
            (outSets.foldl (fun d p => dSet d p.1 p.2) []).foldl (perStepS inSets tb tj) per0)) :=
  makeStatsSrc_eq input outs b0 j0 per0

/- FULL statement (FALSE, see the counter-example below): the same without `hk`. -/
/-- `make_stats` on output assemblies with pairwise different keys (what a Python `dict` guarantees): the source returns exactly the
    model's `breaks`, `joins` and per-assembly numbers, and raises exactly when the model does, with the same exception class. -/
theorem make_stats_is_source_partial (input : List Scaffold) (outs : List OutAsm) (cuts b0 j0 : Int)
    (hk : (outs.map (·.key)).Nodup) :
    Gen.Imp.AssemblyStats_make_stats b0 j0 [] (outs.map (fun a => (a.key, ({ scaffolds := a.scaffolds } : Assembly))))
        (junctionsByPrefix input)
      = (makeStats input outs cuts).map (fun st => (st.breaks, st.joins, perToSrc st.perAssembly)) := by
  rw [makeStatsSrc_eq, makeStats_bind]
  cases junctionsByPrefix input with
  | error e => rfl
  | ok inSets =>
    cases h2 : outSetsOf outs with
    | error e => rfl
    | ok outSets =>
      simp only [bind, Except.bind, Except.map]
      rw [outDict_eq outs outSets h2 hk]
      exact congrArg (fun p => Except.ok (_, _, p)) (perLoop_eq inSets _ _ outSets [])

/-- `breaks`, `joins` and the exception class: for ALL inputs (repeated keys, any incoming `per_assembly_stats`) -/
theorem make_stats_counts_is_source (input : List Scaffold) (outs : List OutAsm) (cuts b0 j0 : Int)
    (per0 : List (Str × List (Str × Int))) :
    (Gen.Imp.AssemblyStats_make_stats b0 j0 per0 (outs.map (fun a => (a.key, ({ scaffolds := a.scaffolds } : Assembly))))
        (junctionsByPrefix input)).map (fun r => (r.1, r.2.1))
      = (makeStats input outs cuts).map (fun st => (st.breaks, st.joins)) := by
  rw [makeStatsSrc_eq, makeStats_bind]
  cases junctionsByPrefix input with
  | error e => rfl
  | ok inSets =>
    cases outSetsOf outs with
    | error e => rfl
    | ok outSets => rfl

/-! ### the worked example: input `a b` + `a2`; the output breaks `a|b` and joins `b|a2` -/

/-- input assembly: two scaffolds, one junction `a|b` -/
def inImp : List Scaffold :=
  [{ name := ['s', '1'], rows := [.frag (fA 1), gap100, .frag (fB 1)] },
   { name := ['s', '2'], rows := [.frag (fA2 1)] }]
/-- output: the primary assembly (key `None`) with `a` alone and the new scaffold `b a2`; a second assembly "Hap2" (no input
    junctions under the prefix `hap2`, so no record for it) -/
def outImp : List OutAsm :=
  [{ key := none, curated := true, scaffolds :=
      [{ name := ['r', '1'], rows := [.frag (fA 1)] },
       { name := ['r', '2'], rows := [.frag (fB 1), gap100, .frag (fA2 1)] }] },
   { key := some ['H', 'a', 'p', '2'], curated := true, scaffolds :=
      [{ name := ['h', '1'], rows := [.frag (fB (-1))] }] }]

example : (outImp.map (·.key)).Nodup := by decide

/-- the generated function run on it: breaks = 1, joins = 1, record for "Primary" (the incoming 7 / 9 are overwritten) -/
example :
    Gen.Imp.AssemblyStats_make_stats 7 9 [] (outImp.map (fun a => (a.key, ({ scaffolds := a.scaffolds } : Assembly))))
        (junctionsByPrefix inImp)
      = .ok (1, 1, [("Primary".toList, [("manual_breaks".toList, 1), ("manual_joins".toList, 1)])]) := by
  rfl

example : makeStats inImp outImp 3 = .ok { cuts := 3, breaks := 1, joins := 1, perAssembly := [(sPrimary, 1, 0 + 1)] } := by
  decide +kernel

/-- a strand 0 in an output scaffold: both sides raise `ValueError` -/
example :
    let bad : List OutAsm := [{ key := none, curated := true, scaffolds := [{ name := ['r'], rows := [.frag (fA 1), .frag (fB 0)] }] }]
    Gen.Imp.AssemblyStats_make_stats 0 0 [] (bad.map (fun a => (a.key, ({ scaffolds := a.scaffolds } : Assembly))))
        (junctionsByPrefix inImp) = .error .value ∧
    makeStats inImp bad 0 = .error .value :=
  ⟨rfl, rfl⟩

/-! ### the counter-example to the statement without `hk`

  Input: one scaffold `a b c d` (three junctions, all under the prefix `None`).  Output "assemblies" `(None, [a b])`, `("", [c d])`,
  `(None, [a d])` — the key `None` twice.  `None` and `""` both mean "Primary" (`name or "Primary"`) and both look up the input
  prefix `None` (`name.lower() if name else None`).
  * model (folds over the three entries in order, each overwriting the record "Primary"): the last writer is `(None, [a d])`:
    manual_breaks 1, manual_joins 1.
  * source (`output_junction_sets` is a dict: the second `None` overwrites the first IN PLACE, so the order of the items is
    `None ↦ [a d]`, `"" ↦ [c d]`): the last writer is `("", [c d])`: manual_breaks 1, manual_joins 0.
  `breaks = 1` (`b|c`) and `joins = 1` (`a|d`) agree, as `make_stats_counts_is_source` says they must. -/

def fN (n : Char) : Fragment := { name := [n], start := 1, stop := 10, strand := 1 }
def inDup : List Scaffold :=
  [{ name := ['s', '1'], rows := [.frag (fN 'a'), .frag (fN 'b'), .frag (fN 'c'), .frag (fN 'd')] }]
def outDup : List OutAsm :=
  [{ key := none, curated := true, scaffolds := [{ name := ['x'], rows := [.frag (fN 'a'), .frag (fN 'b')] }] },
   { key := some [], curated := true, scaffolds := [{ name := ['y'], rows := [.frag (fN 'c'), .frag (fN 'd')] }] },
   { key := none, curated := true, scaffolds := [{ name := ['z'], rows := [.frag (fN 'a'), .frag (fN 'd')] }] }]

example :
    Gen.Imp.AssemblyStats_make_stats 0 0 [] (outDup.map (fun a => (a.key, ({ scaffolds := a.scaffolds } : Assembly))))
        (junctionsByPrefix inDup) = .ok (1, 1, perToSrc [(sPrimary, 1, 0)]) ∧
    (makeStats inDup outDup 0).map (fun st => (st.breaks, st.joins, perToSrc st.perAssembly))
      = .ok (1, 1, perToSrc [(sPrimary, 1, 1)]) ∧
    ¬ (outDup.map (·.key)).Nodup :=
  ⟨rfl, rfl, by decide⟩

/-! ## 3. `C11.make_stats_counts` for the numbers the source computes -/

/-- Whenever the SOURCE's `make_stats` returns (any keys, any incoming counters and records), its `breaks` and `joins` are
    `|inputSet \ outputSet|` and `|outputSet \ inputSet|` for duplicate-free `inputSet` / `outputSet` whose members are exactly the
    junction tuples of consecutive fragment pairs of the input scaffolds / of the scaffolds of all output assemblies. -/
theorem make_stats_counts_source (input : List Scaffold) (outs : List OutAsm) (b0 j0 : Int)
    (per0 per : List (Str × List (Str × Int))) (b j : Int)
    (h : Gen.Imp.AssemblyStats_make_stats b0 j0 per0 (outs.map (fun a => (a.key, ({ scaffolds := a.scaffolds } : Assembly))))
        (junctionsByPrefix input) = .ok (b, j, per)) :
    ∃ inputSet outputSet : List Junction,
      inputSet.Nodup ∧ outputSet.Nodup ∧
      (∀ x, x ∈ inputSet ↔ JunctionIn input x) ∧
      (∀ x, x ∈ outputSet ↔ JunctionInOuts outs x) ∧
      b = ((sDiff inputSet outputSet).length : Int) ∧
      j = ((sDiff outputSet inputSet).length : Int) := by
  have hc := make_stats_counts_is_source input outs 0 b0 j0 per0
  rw [h] at hc
  cases hm : makeStats input outs 0 with
  | error e => rw [hm] at hc; simp [Except.map] at hc
  | ok st =>
    rw [hm] at hc
    simp only [Except.map, Except.ok.injEq, Prod.mk.injEq] at hc
    obtain ⟨I, O, hI, hO, mI, mO, -, hb, hj⟩ := make_stats_counts input outs 0 st hm
    exact ⟨I, O, hI, hO, mI, mO, by rw [hc.1, hb], by rw [hc.2, hj]⟩

example : ∃ b j per, Gen.Imp.AssemblyStats_make_stats 0 0 [] (outImp.map (fun a => (a.key, ({ scaffolds := a.scaffolds } : Assembly))))
    (junctionsByPrefix inImp) = .ok (b, j, per) :=
  ⟨1, 1, [("Primary".toList, [("manual_breaks".toList, 1), ("manual_joins".toList, 1)])], rfl⟩

end AgpTpf.C11
