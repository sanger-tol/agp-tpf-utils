/-
  C09 / C10 (T1c) — the model's scaffold namer IS the Python source of `ScaffoldNamer` as translated.

  Source side: `Gen.Imp.ScaffoldNamer_get_set_haplotype`, `…_haplotig_name`, `…_unloc_name`, `…_haplotype_from_first_row_name`,
  `…_make_scaffold_name`, `…_label_scaffold`, `…_rename_by_size` in `AgpTpf/Gen/Imp.lean`, generated by `harness/translate_imp.py`
  from `src/tola/assembly/build_utils.py` (each definition carries the Python text it came from).  `self` is `PyRt.SrcNamer`: the
  attributes of the Python object with their Python types (`current_rank : Option Int`, the counters as `Int`).
  Model side: `Namer.getSetHaplotype`, `scanTag`, `makeScaffoldName`, `labelScaffold`, `renameBySize` in `AgpTpf/Model/Remap.lean`,
  on `Namer` (rank as `Int`, counters as `Nat`).

  The ties are REFINEMENTS through `absNamer` (a `None` rank ↦ 0, the counters ↦ `Int.toNat`).  Results:
  * `get_set_haplotype`, `haplotype_from_first_row_name`, `make_scaffold_name`, `rename_by_size`: equal for ALL inputs, same
    exception class; `make_scaffold_name` additionally leaves `haplotig_n` alone and sets `unloc_n = 0`.
  * `haplotig_name`, `unloc_name`, `label_scaffold`: equal when the counter that is incremented is not negative (`WfNamer`; true of
    `ScaffoldNamer.__init__`, preserved by every kernel — proved below).  Without it they DIFFER: with `haplotig_n = -5` the source
    names the piece "H_-4", the model "H_1" (see the `example`s after `haplotig_name_refines` / `label_scaffold_refines`).  The
    negative values are unreachable: the source only ever assigns `0` and `+= 1`.
  * Nothing else needs a hypothesis in `label_scaffold`: `current_scaffold_name = None` is written as the text "None" on both sides, a
    `None` rank as 0 on both sides, and a reference `sid` outside the store loses the writes on both sides (the statement is
    `store' = PyRt.updRes store sid o'` with `o'` the model's labelled result, which holds for every `sid`).

  Proofs, and the definitions `absNamer`, `WfNamer`, `tagsOf`, `hapFromFirstRow` the statements use: `AgpTpf/Proofs/ImpNamer.lean`.
-/
import AgpTpf.Proofs.ImpNamer
import AgpTpf.Proofs.ImpEval
namespace AgpTpf.C09
open AgpTpf
open scoped AgpTpf.ImpEval

/-! ### the data the `example`s run on -/

def impNamer0 : PyRt.SrcNamer := { autosome_prefix := ['S', 'U', 'P', 'E', 'R', '_'] }
/-- a painted piece with a haplotype tag and a chromosome-name tag -/
def impFA : Fragment :=
  { oid := 1, name := ['s', 'c', 'a', 'f', '_', '1'], start := 1, stop := 1000, strand := 1,
    tags := [['P', 'a', 'i', 'n', 't', 'e', 'd'], ['H', 'a', 'p', '1'], ['X']] }
def impFUnloc : Fragment :=
  { oid := 2, name := ['s', 'c', 'a', 'f', '_', '2'], start := 1, stop := 500, strand := 1, tags := [['U', 'n', 'l', 'o', 'c']] }
def impFHaplotig : Fragment :=
  { oid := 3, name := ['s', 'c', 'a', 'f', '_', '3'], start := 1, stop := 300, strand := -1,
    tags := [['H', 'a', 'p', 'l', 'o', 't', 'i', 'g']] }
/-- a second haplotype tag, in conflict with `Hap1` -/
def impFHap2 : Fragment :=
  { oid := 4, name := ['s', 'c', 'a', 'f', '_', '4'], start := 1, stop := 300, strand := 1, tags := [['H', 'a', 'p', '2']] }
def impGap : Gap := ⟨200, ['s', 'c', 'a', 'f', 'f', 'o', 'l', 'd']⟩
/-- the Pretext scaffold `Scaffold_1` = painted X / Hap1 piece, Unloc piece, Haplotig piece -/
def impPainted : Scaffold :=
  { name := ['S', 'c', 'a', 'f', 'f', 'o', 'l', 'd', '_', '1'], rows := [.frag impFA, .gap impGap, .frag impFUnloc, .frag impFHaplotig] }
def impConflict : Scaffold := { name := ['S', 'c', 'a', 'f', 'f', 'o', 'l', 'd', '_', '2'], rows := [.frag impFA, .frag impFHap2] }
/-- an unpainted scaffold whose first row is named `Hap2_scaffold_17` -/
def impUnpainted : Scaffold :=
  { name := ['S', 'c', 'a', 'f', 'f', 'o', 'l', 'd', '_', '3'],
    rows := [.frag { impFUnloc with name := ['H', 'a', 'p', '2', '_', 's', 'c', 'a', 'f', 'f', 'o', 'l', 'd', '_', '1', '7'] }] }
/-- the namer after `make_scaffold_name(Scaffold_1)` -/
def impNamer1 : PyRt.SrcNamer :=
  { impNamer0 with current_scaffold_name := some ['X'], current_rank := some 2, current_haplotype := some ['H', 'a', 'p', '1'],
                   haplotype_lc_dict := [(['h', 'a', 'p', '1'], ['H', 'a', 'p', '1'])] }
def impBait : Fragment := { oid := 8, name := ['c', '1'], start := 1, stop := 900, strand := 1 }
def impRes (rows : List Row) : Res := { o := { bait := impBait, start := 1, stop := 900, rows := rows }, added := true }
def impStore : List Res := [impRes [.frag impFA], impRes [.frag impFUnloc], impRes [.frag impFHaplotig]]
def impPaintedTags : List Str :=
  [['P', 'a', 'i', 'n', 't', 'e', 'd'], ['H', 'a', 'p', '1'], ['X'], ['U', 'n', 'l', 'o', 'c'], ['H', 'a', 'p', 'l', 'o', 't', 'i', 'g']]

example : impPainted.fragmentTags = impPaintedTags := by decide
example : WfNamer impNamer0 ∧ WfNamer impNamer1 := by unfold WfNamer; decide

/-! ### 1. the small kernels -/

/-- `get_set_haplotype` = `Namer.getSetHaplotype` (never raises; the counters are not touched) -/
theorem get_set_haplotype_refines (s : PyRt.SrcNamer) (h : Str) :
    ∃ s' v, Gen.Imp.ScaffoldNamer_get_set_haplotype s h = .ok (s', v) ∧
      (absNamer s', v) = (absNamer s).getSetHaplotype h ∧ (WfNamer s → WfNamer s') :=
  ⟨_, _, ImpNamer.get_set_haplotype_eq s h, by simp [absNamer, Namer.getSetHaplotype], fun hw => hw⟩

/-- the first spelling wins: "HAP1" after "Hap1" returns "Hap1" -/
example : Gen.Imp.ScaffoldNamer_get_set_haplotype impNamer1 ['H', 'A', 'P', '1'] = .ok (impNamer1, ['H', 'a', 'p', '1']) := by decide +kernel

/-- `haplotig_name` = the name the model's `labelScaffold` gives a Haplotig piece, for a well-formed namer -/
theorem haplotig_name_refines (s : PyRt.SrcNamer) (hw : WfNamer s) :
    ∃ s', Gen.Imp.ScaffoldNamer_haplotig_name s = .ok (s', ['H', '_'] ++ natToStr ((absNamer s).haplotigN + 1)) ∧
      absNamer s' = { absNamer s with haplotigN := (absNamer s).haplotigN + 1 } ∧ WfNamer s' :=
  ⟨_, ImpNamer.haplotig_name_abs s hw.1, ImpNamer.abs_haplotig_succ s hw.1, by
    obtain ⟨h1, h2⟩ := hw; exact ⟨by show (0 : Int) ≤ s.haplotig_n + 1; omega, h2⟩⟩

example : Gen.Imp.ScaffoldNamer_haplotig_name impNamer1 = .ok ({ impNamer1 with haplotig_n := 1 }, ['H', '_', '1']) := by decide +kernel
/-- the hypothesis is needed: a negative counter (unreachable) is printed with its sign by the source, the model counts from 0 -/
example : Gen.Imp.ScaffoldNamer_haplotig_name { impNamer1 with haplotig_n := -5 }
    = .ok ({ impNamer1 with haplotig_n := -4 }, ['H', '_', '-', '4']) := by decide +kernel
example : ['H', '_'] ++ natToStr ((absNamer { impNamer1 with haplotig_n := -5 }).haplotigN + 1) = ['H', '_', '1'] := by decide

/-- `unloc_name` = the name the model's `labelScaffold` gives an Unloc piece, for a well-formed namer
    (`current_scaffold_name = None` prints as "None" on both sides) -/
theorem unloc_name_refines (s : PyRt.SrcNamer) (hw : WfNamer s) :
    ∃ s', Gen.Imp.ScaffoldNamer_unloc_name s
        = .ok (s', (absNamer s).currentScaffoldName.getD sNone ++ "_unloc_".toList ++ natToStr ((absNamer s).unlocN + 1)) ∧
      absNamer s' = { absNamer s with unlocN := (absNamer s).unlocN + 1 } ∧ WfNamer s' :=
  ⟨_, ImpNamer.unloc_name_abs s hw.2, ImpNamer.abs_unloc_succ s hw.2, by
    obtain ⟨h1, h2⟩ := hw; exact ⟨h1, by show (0 : Int) ≤ s.unloc_n + 1; omega⟩⟩

example : Gen.Imp.ScaffoldNamer_unloc_name impNamer1
    = .ok ({ impNamer1 with unloc_n := 1 }, ['X', '_', 'u', 'n', 'l', 'o', 'c', '_', '1']) := by decide +kernel
example : Gen.Imp.ScaffoldNamer_unloc_name impNamer0
    = .ok ({ impNamer0 with unloc_n := 1 }, ['N', 'o', 'n', 'e', '_', 'u', 'n', 'l', 'o', 'c', '_', '1']) := by decide +kernel

/-- `haplotype_from_first_row_name` = the model's "haplotype from the first row's name"; same exception class
    (`IndexError` on a row-less scaffold, `AttributeError` when the first row is a Gap); the counters are not touched -/
theorem haplotype_from_first_row_name_refines (s : PyRt.SrcNamer) (sc : Scaffold) :
    (Gen.Imp.ScaffoldNamer_haplotype_from_first_row_name s sc).map (fun p => (absNamer p.1, p.2))
        = hapFromFirstRow sc.rows (absNamer s) ∧
      ∀ s' v, Gen.Imp.ScaffoldNamer_haplotype_from_first_row_name s sc = .ok (s', v) → WfNamer s → WfNamer s' :=
  ⟨ImpNamer.hffrn_abs Int.toNat Int.toNat s sc, fun s' v h hw => by
    obtain ⟨h1, h2⟩ := ImpNamer.hffrn_counters s s' sc v h
    exact ⟨by rw [h1]; exact hw.1, by rw [h2]; exact hw.2⟩⟩

example : Gen.Imp.ScaffoldNamer_haplotype_from_first_row_name impNamer0 impUnpainted
    = .ok ({ impNamer0 with haplotype_lc_dict := [(['h', 'a', 'p', '2'], ['H', 'a', 'p', '2'])] }, some ['H', 'a', 'p', '2']) := by decide +kernel
example : Gen.Imp.ScaffoldNamer_haplotype_from_first_row_name impNamer0 impPainted = .ok (impNamer0, none) := by decide +kernel
example : Gen.Imp.ScaffoldNamer_haplotype_from_first_row_name impNamer0 { impPainted with rows := [] } = .error .index := by decide +kernel
example : Gen.Imp.ScaffoldNamer_haplotype_from_first_row_name impNamer0 { impPainted with rows := [.gap impGap] }
    = .error .attribute := by decide +kernel

/-! ### 2. `make_scaffold_name` -/

/-- `make_scaffold_name` = `makeScaffoldName` on the abstracted namer, for ALL inputs (no well-formedness needed): same namer, same
    exception class (TaggingError / IndexError / AttributeError); and the haplotig counter is not touched, the unloc counter is 0
    afterwards — so the result is well-formed whenever `haplotig_n` was not negative -/
theorem make_scaffold_name_refines (s : PyRt.SrcNamer) (sc : Scaffold) (ft : Option (List Str)) :
    (Gen.Imp.ScaffoldNamer_make_scaffold_name s sc ft).map absNamer
        = makeScaffoldName (absNamer s) sc.name sc.rows (tagsOf sc ft) ∧
      ∀ s', Gen.Imp.ScaffoldNamer_make_scaffold_name s sc ft = .ok s' →
        s'.haplotig_n = s.haplotig_n ∧ s'.unloc_n = 0 ∧ (0 ≤ s.haplotig_n → WfNamer s') :=
  ⟨ImpNamer.make_scaffold_name_tie s sc ft, fun s' h => by
    obtain ⟨h1, h2⟩ := ImpNamer.make_scaffold_name_counters s s' sc ft h
    exact ⟨h1, h2, fun h0 => ⟨by rw [h1]; exact h0, by rw [h2]; exact Int.le_refl 0⟩⟩⟩

theorem make_scaffold_name_painted : Gen.Imp.ScaffoldNamer_make_scaffold_name impNamer0 impPainted none = .ok impNamer1 := by
  decide +kernel
/-- a painted scaffold with a haplotype tag and a chromosome-name tag: named "X", rank 2, haplotype "Hap1" -/
example : Gen.Imp.ScaffoldNamer_make_scaffold_name impNamer0 impPainted none = .ok impNamer1 := make_scaffold_name_painted
example : makeScaffoldName (absNamer impNamer0) impPainted.name impPainted.rows impPaintedTags = .ok (absNamer impNamer1) := by decide +kernel
/-- an explicit tag list is used instead of the scaffold's own tags; an empty one is not -/
example : Gen.Imp.ScaffoldNamer_make_scaffold_name impNamer0 impPainted (some [['P', 'a', 'i', 'n', 't', 'e', 'd']])
    = .ok { impNamer0 with current_scaffold_name := some impPainted.name, current_rank := some 1 } := by decide +kernel
example : Gen.Imp.ScaffoldNamer_make_scaffold_name impNamer0 impPainted (some []) = .ok impNamer1 := by decide +kernel
/-- an unpainted scaffold keeps the name of its first row, rank 3, haplotype from that name -/
example : Gen.Imp.ScaffoldNamer_make_scaffold_name impNamer0 impUnpainted none
    = .ok { impNamer0 with current_scaffold_name := some ['H', 'a', 'p', '2', '_', 's', 'c', 'a', 'f', 'f', 'o', 'l', 'd', '_', '1', '7'],
                           current_rank := some 3, current_haplotype := some ['H', 'a', 'p', '2'],
                           haplotype_lc_dict := [(['h', 'a', 'p', '2'], ['H', 'a', 'p', '2'])] } := by decide +kernel
/-- two conflicting haplotype tags ⇒ TaggingError on both sides -/
example : Gen.Imp.ScaffoldNamer_make_scaffold_name impNamer0 impConflict none = .error .tagging := by decide +kernel
example : makeScaffoldName (absNamer impNamer0) impConflict.name impConflict.rows (tagsOf impConflict none) = .error .tagging := by decide +kernel
/-- no tags, no rows ⇒ IndexError from `scaffold.rows[0]` on both sides -/
example : Gen.Imp.ScaffoldNamer_make_scaffold_name impNamer0 { impPainted with rows := [] } none = .error .index := by decide +kernel

/-! ### 3. `label_scaffold` -/

/-- `label_scaffold` = `labelScaffold` on the abstracted namer and on the result the reference points at, written back to
    `store[sid]` (`PyRt.updRes`, which changes nothing else: `label_scaffold_frame`); same exception class (ValueError for an Unloc
    piece in an unpainted scaffold).  Needs a well-formed namer (`example`s below); holds for every `sid`, every
    `current_scaffold_name`, every `current_rank` -/
theorem label_scaffold_refines (store : List Res) (s : PyRt.SrcNamer) (sid : Nat) (frag : Fragment) (scTags : List Str)
    (originalName : Str) (hw : WfNamer s) :
    (Gen.Imp.ScaffoldNamer_label_scaffold store s sid frag scTags originalName).map (fun p => (absNamer p.1, p.2))
        = (labelScaffold (absNamer s) (getRes store sid) sid frag scTags originalName).map
            (fun q => (q.1, PyRt.updRes store sid q.2)) ∧
      ∀ s' store', Gen.Imp.ScaffoldNamer_label_scaffold store s sid frag scTags originalName = .ok (s', store') → WfNamer s' :=
  ⟨ImpNamer.label_scaffold_tie store s sid frag scTags originalName hw,
   fun s' store' h => ImpNamer.label_scaffold_wf store store' s s' sid frag scTags originalName hw h⟩

/-- the write-back touches `store[sid]` only, keeps its `added` flag, and for `sid` inside the store the labelled result is what
    is read back through the reference -/
theorem label_scaffold_frame (store : List Res) (sid : Nat) (o : OverlapResult) :
    (PyRt.updRes store sid o).length = store.length ∧
    (∀ j, j ≠ sid → (PyRt.updRes store sid o)[j]? = store[j]?) ∧
    ((PyRt.updRes store sid o).getD sid default).added = (store.getD sid default).added ∧
    (sid < store.length → getRes (PyRt.updRes store sid o) sid = o) := by
  refine ⟨by simp [PyRt.updRes, AgpTpf.setAt], fun j hj => ?_, ?_, ImpNamer.getRes_updRes store sid o⟩
  · simp [PyRt.updRes, AgpTpf.setAt, Ne.symm hj]
  · by_cases h : sid < store.length
    · simp [PyRt.updRes, AgpTpf.setAt, h]
    · rw [ImpNamer.updRes_of_ge _ _ _ (Nat.le_of_not_lt h)]

/-- after `make_scaffold_name` the namer is well-formed (given `haplotig_n ≥ 0` before), so `label_scaffold` is the model's
    `labelScaffold` for every piece labelled next -/
theorem label_after_make_scaffold_name (store : List Res) (s0 s : PyRt.SrcNamer) (sc : Scaffold) (ft : Option (List Str))
    (sid : Nat) (frag : Fragment) (scTags : List Str) (originalName : Str) (h0 : 0 ≤ s0.haplotig_n)
    (hm : Gen.Imp.ScaffoldNamer_make_scaffold_name s0 sc ft = .ok s) :
    (Gen.Imp.ScaffoldNamer_label_scaffold store s sid frag scTags originalName).map (fun p => (absNamer p.1, p.2))
      = (labelScaffold (absNamer s) (getRes store sid) sid frag scTags originalName).map
          (fun q => (q.1, PyRt.updRes store sid q.2)) :=
  (label_scaffold_refines store s sid frag scTags originalName (((make_scaffold_name_refines s0 sc ft).2 s hm).2.2 h0)).1

example : (0 : Int) ≤ impNamer0.haplotig_n ∧ Gen.Imp.ScaffoldNamer_make_scaffold_name impNamer0 impPainted none = .ok impNamer1 :=
  ⟨by decide, make_scaffold_name_painted⟩

/-- the painted piece: name "X", rank 2, haplotype "Hap1" written to `store[0]` only -/
example : Gen.Imp.ScaffoldNamer_label_scaffold impStore impNamer1 0 impFA impPaintedTags impPainted.name
    = .ok (impNamer1,
        [{ impRes [.frag impFA] with o := { (impRes [.frag impFA]).o with
             name := ['X'], haplotype := some ['H', 'a', 'p', '1'], rank := 2, originalName := some impPainted.name,
             originalTags := some impPaintedTags } },
         impRes [.frag impFUnloc], impRes [.frag impFHaplotig]]) := by decide +kernel
/-- the Unloc piece: "X_unloc_1", counter and list of unloc results updated -/
example : Gen.Imp.ScaffoldNamer_label_scaffold impStore impNamer1 1 impFUnloc impPaintedTags impPainted.name
    = .ok ({ impNamer1 with unloc_n := 1, unloc_scaffolds := [1] },
        [impRes [.frag impFA],
         { impRes [.frag impFUnloc] with o := { (impRes [.frag impFUnloc]).o with
             name := ['X', '_', 'u', 'n', 'l', 'o', 'c', '_', '1'], haplotype := some ['H', 'a', 'p', '1'], rank := 2,
             originalName := some impPainted.name, originalTags := some impPaintedTags } },
         impRes [.frag impFHaplotig]]) := by decide +kernel
/-- the Haplotig piece: "H_1", tag Haplotig, rank 3 -/
example : Gen.Imp.ScaffoldNamer_label_scaffold impStore impNamer1 2 impFHaplotig impPaintedTags impPainted.name
    = .ok ({ impNamer1 with haplotig_n := 1, haplotig_scaffolds := [2] },
        [impRes [.frag impFA], impRes [.frag impFUnloc],
         { impRes [.frag impFHaplotig] with o := { (impRes [.frag impFHaplotig]).o with
             name := ['H', '_', '1'], tag := some sHaplotig, haplotype := some ['H', 'a', 'p', '1'], rank := 3,
             originalName := some impPainted.name, originalTags := some impPaintedTags } }]) := by decide +kernel
/-- an Unloc piece in an unpainted scaffold ⇒ ValueError on both sides -/
example : Gen.Imp.ScaffoldNamer_label_scaffold impStore impNamer1 1 impFUnloc [['U', 'n', 'l', 'o', 'c']] impPainted.name
    = .error .value := by decide +kernel
example : labelScaffold (absNamer impNamer1) (getRes impStore 1) 1 impFUnloc [['U', 'n', 'l', 'o', 'c']] impPainted.name
    = .error .value := by decide +kernel
/-- a reference outside the store: the writes are lost, only the namer changes (both sides) -/
example : Gen.Imp.ScaffoldNamer_label_scaffold impStore impNamer1 7 impFHaplotig impPaintedTags impPainted.name
    = .ok ({ impNamer1 with haplotig_n := 1, haplotig_scaffolds := [7] }, impStore) := by decide +kernel
/-- the hypothesis is needed: with `haplotig_n = -5` (unreachable) the source names the piece "H_-4", the model "H_1" -/
example : ((Gen.Imp.ScaffoldNamer_label_scaffold impStore { impNamer1 with haplotig_n := -5 } 2 impFHaplotig impPaintedTags
      impPainted.name).map (fun p => (getRes p.2 2).name)) = .ok ['H', '_', '-', '4'] := by decide +kernel
example : ((labelScaffold (absNamer { impNamer1 with haplotig_n := -5 }) (getRes impStore 2) 2 impFHaplotig impPaintedTags
      impPainted.name).map (fun q => q.2.name)) = .ok ['H', '_', '1'] := by decide +kernel

/-! ### 4. `rename_by_size` -/

/-- `rename_by_size` = `renameBySize`, for all inputs (never raises: the `zip(strict=True)` lists have equal lengths) -/
theorem rename_by_size_is_source (store : List Res) (ids : List Nat) :
    Gen.Imp.ScaffoldNamer_rename_by_size store ids = .ok (renameBySize store ids) :=
  ImpNamer.rename_by_size_tie store ids

/-- three unloc results of lengths 1000, 500, 300 named b, c, a; the list `[1, 2, 0]` carries the names c, a, b, which go to the
    results in order of decreasing length: 0 ↦ c, 1 ↦ a, 2 ↦ b -/
def impNamed : List Res :=
  [{ impRes [.frag impFA] with o := { (impRes [.frag impFA]).o with stop := 1000, name := ['b'] } },
   { impRes [.frag impFUnloc] with o := { (impRes [.frag impFUnloc]).o with stop := 500, name := ['c'] } },
   { impRes [.frag impFHaplotig] with o := { (impRes [.frag impFHaplotig]).o with stop := 300, name := ['a'] } }]

example : (Gen.Imp.ScaffoldNamer_rename_by_size impNamed [1, 2, 0]).map (fun st => st.map (·.o.name))
    = .ok [['c'], ['a'], ['b']] := by decide +kernel
example : Gen.Imp.ScaffoldNamer_rename_by_size impNamed [] = .ok impNamed := by decide +kernel

end AgpTpf.C09
