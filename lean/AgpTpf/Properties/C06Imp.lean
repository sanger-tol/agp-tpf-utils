/-
  C06 / C05 — T1c tie: the model's `formatAgp` IS the source's `format_agp` (assembly/format.py) as translated by
  `harness/translate_imp.py` into `Gen.Imp.format_agp_imp`.

  The model produces the list of written lines, the translated source the text written to `file`
  (every `file.write(...)` appended); the tie is "text = concatenation of the lines", with the same exception
  (`IndexError` from `STRAND_STR[row.strand]`) otherwise.  Loop lemmas: Proofs/Lib/PyRt.lean, Proofs/ImpFormat.lean.
-/
import AgpTpf.Proofs.Lib.PyRt
import AgpTpf.Proofs.ImpFormat
import AgpTpf.Proofs.ImpEval
import AgpTpf.Properties.C06
namespace AgpTpf.C06
open AgpTpf AgpTpf.C05 AgpTpf.ImpEval
/-- the text the source's `format_agp` writes is the concatenation of the model's lines (same exception otherwise) -/
theorem format_agp_is_source (a : Assembly) :
    Gen.Imp.format_agp_imp a.header a.scaffolds = (formatAgp a).map List.flatten := by
  unfold Gen.Imp.format_agp_imp formatAgp
  dsimp only
  str_lits
  -- `for line in asm.header`
  rw [PyRt.forIn_foldl (fun file line => file ++ (Gen.agpHeaderPrefix ++ line ++ ['\n']))]
  rotate_left
  · intro line _ file; simp [Gen.agpHeaderPrefix]
  simp only [bind, Except.bind]
  -- `for scffld in asm.scaffolds`
  rw [PyRt.forIn_append_mapM (fun s : Scaffold => formatAgpRows s.name 0 0 s.rows) List.flatten]
  rotate_left
  · intro s _ file
    -- `for i, row in enumerate(scffld.rows)`
    -- the loop state is `(p, file)`: the translator's canonical order (by the Lean text of the type, then by name)
    rw [forIn_rows_model (fun p file => (p, file)) s.name]
    · cases formatAgpRows s.name 0 0 s.rows <;> rfl
    · intro i row p file
      cases row with
      | gap g =>
        simp [agpRowCols, PyRt.asGap, Row.isGap, Row.length, Except.map, lineOfCols,
          Gen.agpGapCol5, Gen.agpGapLinkage, Gen.agpGapEvidence]
      | frag f =>
        simp [agpRowCols, PyRt.asFrag, Row.isGap, Except.map, lineOfCols, strandStr,
          Gen.agpFragCol5, Gen.agpStrandStr]
        generalize pyGet _ f.strand = ss
        cases ss <;> cases f.tags <;> simp
  cases List.mapM (fun s : Scaffold => formatAgpRows s.name 0 0 s.rows) a.scaffolds <;>
    simp [Except.map, pure, Except.pure, List.flatten_flatten]

set_option maxRecDepth 8000 in
/-- the generated function, run: header line, gap row, `-1 ↦ "-"`, tags appended, second scaffold restarts at 1 -/
example : Gen.Imp.format_agp_imp demo.header demo.scaffolds = .ok
    ("# hdr\n".toList ++
     "scaffold_1\t1\t1000000000000\t1\tW\tctg:1\t1\t1000000000000\t+\tPainted\n".toList ++
     "scaffold_1\t1000000000001\t1000000000200\t2\tU\t200\tscaffold\tyes\tproximity_ligation\n".toList ++
     "scaffold_1\t1000000000201\t1000000000205\t3\tW\tctg2\t5\t9\t-\tX\tY\n".toList ++
     "scaffold_2\t1\t10\t1\tW\tctg3\t11\t20\t?\n".toList) := by
  unfold demo
  str_lits
  decide +kernel

/-- …and the exception: `STRAND_STR[3]` is an IndexError in the source, after a scaffold that was written fine
    (indices -3 … 2 are all accepted by the tuple lookup, in the source and in the model alike) -/
example : Gen.Imp.format_agp_imp [] [{ name := "a".toList, rows := [.gap { length := 3, gapType := "contig".toList }] },
      { name := "b".toList, rows := [.frag { name := "c".toList, start := 1, stop := 2, strand := 3 }] }] =
    .error .index := by
  str_lits
  decide +kernel

/-- Corollary (C06 for the SOURCE): for fragments as `mkFragment` admits them (strand ∈ {-1,0,1}) the source's
    `format_agp` does not raise, and the text it writes is the header lines followed, scaffold by scaffold, by the
    tab-joined column lists `bodies`, which tile each object from 1 to the scaffold's length, parts from 1. -/
theorem format_agp_source_valid (a : Assembly) (hs : ∀ s ∈ a.scaffolds, ∀ r ∈ s.rows, StrandOk r) :
    ∃ bodies : List (List (List Str)),
      Gen.Imp.format_agp_imp a.header a.scaffolds =
        .ok (a.header.map (fun h => Gen.agpHeaderPrefix ++ h ++ ['\n']) ++
              (bodies.map (List.map lineOfCols)).flatten).flatten ∧
      Forall2 (fun (s : Scaffold) colss => colss.length = s.rows.length ∧
                  ValidAgpLines false s.name 0 0 colss s.length) a.scaffolds bodies := by
  obtain ⟨bodies, h, hv⟩ := formatAgp_valid_at false a hs (fun h => nomatch h)
  exact ⟨bodies, by rw [format_agp_is_source, h]; rfl, hv⟩

/-- …and strictly valid (`start ≤ end` on every line, every gap line names its type) when all rows have positive
    length (`format_agp_valid_strict` / `formatAgp_valid_strict` carried over to the source). -/
theorem format_agp_source_valid_strict (a : Assembly) (hs : ∀ s ∈ a.scaffolds, ∀ r ∈ s.rows, StrandOk r)
    (hp : ∀ s ∈ a.scaffolds, ∀ r ∈ s.rows, RowStrict r) :
    ∃ bodies : List (List (List Str)),
      Gen.Imp.format_agp_imp a.header a.scaffolds =
        .ok (a.header.map (fun h => Gen.agpHeaderPrefix ++ h ++ ['\n']) ++
              (bodies.map (List.map lineOfCols)).flatten).flatten ∧
      Forall2 (fun (s : Scaffold) colss => colss.length = s.rows.length ∧
                  ValidAgpLines true s.name 0 0 colss s.length) a.scaffolds bodies := by
  obtain ⟨bodies, h, hv⟩ := formatAgp_valid_at true a hs (fun _ => hp)
  exact ⟨bodies, by rw [format_agp_is_source, h]; rfl, hv⟩

/-- hypotheses satisfiable: the two-scaffold `demo` of `Properties/C06.lean` -/
example : (∀ s ∈ demo.scaffolds, ∀ r ∈ s.rows, StrandOk r) ∧ (∀ s ∈ demo.scaffolds, ∀ r ∈ s.rows, RowStrict r) := by
  unfold demo
  str_lits
  decide +kernel

end AgpTpf.C06
