/-
  C13 over the SOURCE: the chunk arithmetic of `FastaIndex.fwd_chunks`, `rev_chunks`, `get_gap_iter` AS TRANSLATED from the
  current /repo/src/tola/fasta/index.py (`Gen/Kernels.lean`): the intervals requested from `sequence_bytes`, resp. the number of
  gap characters per chunk, for every buffer size ≥ 1 — chunks of at most `buffer_size` residues that tile the fragment / gap.
-/
import AgpTpf.Properties.C13
import AgpTpf.Proofs.Kernels
namespace AgpTpf.C13
open AgpTpf AgpTpf.ChunkProofs

/-- the source's `fwd_chunks` requests consecutive closed intervals, first starting at `start`, last ending at `end`,
    each 1..buffer_size long -/
theorem source_fwd_chunks_tiles (start stop bs : Int) (hbs : 1 ≤ bs) (h : start ≤ stop) :
    Tiles bs start stop (Gen.K.FastaIndex_fwd_chunks (start := start) (end_v := stop) (self_buffer_size := bs)) := by
  rw [← Kernels.fwd_chunks_eq]; exact fwd_chunks_tiles start stop bs hbs h

theorem source_fwd_chunks_bounded (start stop bs : Int) (hbs : 1 ≤ bs) (h : start ≤ stop) :
    ∀ c ∈ Gen.K.FastaIndex_fwd_chunks (start := start) (end_v := stop) (self_buffer_size := bs),
      1 ≤ c.2 - c.1 + 1 ∧ c.2 - c.1 + 1 ≤ bs ∧ start ≤ c.1 ∧ c.2 ≤ stop := by
  rw [← Kernels.fwd_chunks_eq]; exact (fwd_chunks_tile start stop bs hbs h).2.2.2.2.1

/-- the source's `rev_chunks` visits exactly the forward chunks, last to first -/
theorem source_rev_chunks_reverse (start stop bs : Int) (hbs : 1 ≤ bs) (h : start ≤ stop) :
    Gen.K.FastaIndex_rev_chunks (start := start) (end_v := stop) (self_buffer_size := bs) =
      (Gen.K.FastaIndex_fwd_chunks (start := start) (end_v := stop) (self_buffer_size := bs)).reverse := by
  rw [← Kernels.fwd_chunks_eq, ← Kernels.rev_chunks_eq]; exact rev_chunks_reverse start stop bs hbs h

/-- the source's `get_gap_iter`: every chunk has 0..buffer_size characters and together they have `max 0 length` -/
theorem source_gap_chunks (len bs : Int) (hbs : 1 ≤ bs) :
    sumInts ((Gen.K.FastaIndex_get_gap_iter (gap_length := len) (self_buffer_size := bs)).map (max 0)) = max 0 len ∧
    ∀ c ∈ (Gen.K.FastaIndex_get_gap_iter (gap_length := len) (self_buffer_size := bs)).map (max 0), 0 ≤ c ∧ c ≤ bs := by
  rw [← Kernels.gap_chunks_eq]; exact gap_chunks len bs hbs

example : Gen.K.FastaIndex_fwd_chunks (start := 5) (end_v := 14) (self_buffer_size := 3) = [(5, 7), (8, 10), (11, 13), (14, 14)] := by
  decide +kernel
example : Gen.K.FastaIndex_get_gap_iter (gap_length := 7) (self_buffer_size := 3) = [3, 3, 1] := by
  decide +kernel

end AgpTpf.C13
