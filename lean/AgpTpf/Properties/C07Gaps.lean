/-
  C07, SECOND sentence — "every gap row is either the input gap that separates the same two neighbouring contigs in the
  input (same length and type) or the configured join gap, and a junction between contigs that were not neighbours in the
  input always uses the join gap" — end to end over `remap`, for ALL Pretext files.
  Helpers: Proofs/C07Runs.lean (runs of gap rows: list lemmas, the runs `missingRows` writes), C07GapA.lean (C18 content
  invariant on runs), C07GapC.lean (`add_missing_scaffolds_from_input`; fused scaffolds); the pipeline
  invariant is that of C07GapC (`ResOK`).

  Vocabulary.  `gapRuns rows` lists every `(a, G, b)`: fragment row `a`, then exactly the gap rows `G` (possibly none), then
  the next fragment row `b` (`gap_run_iff`: `rows = … ++ a :: G ++ b :: …`).  `InputRun input (a, G, b)`: some input scaffold
  has a run `(a0, G0, b0)` with the same two facing contig ends `(name, coordinate, head/tail)` and `G = G0`, or the same
  two ends in the other order and `G = G0.reverse` (the pair is traversed in reverse).  `G = []` is the gapless case:
  `remap_adjacent_only_from_input` (Properties/C07.lean) is G2 below for such runs.

  PROVED (hypotheses: input Fragment objects pairwise distinct, `joinGap = some g`, `remap … = .ok (outs, stats)`), with no
  side condition on the map:
    G1 `remap_gap_rows_from_input_or_join`   every gap row of every output scaffold is the join gap `g` or a gap row of an
                                             input scaffold.
    G2 `remap_gap_runs`                      every run `(a, G, b)` of every output scaffold: `G = [g]`, or `InputRun input (a, G, b)`
                                             (the same two facing contig ends are consecutive in one input scaffold and `G` is
                                             exactly the gap rows the input has between them).
       `remap_non_neighbours_join_gap`       a junction between contigs that were not neighbours in the input carries exactly `[g]`.
  G2 rests on `missingRows` joining two left-over contigs with the join gap whenever a placed contig lay between them
  (fix 9be92a2 in /repo; before it the left-over scaffold of `a g5 b g7 c` with only `b` painted was `a g7 c`):
  `former_counterexample_uses_join_gap` below.
-/
import AgpTpf.Proofs.C07GapC
import AgpTpf.Proofs.Remap.Rows
namespace AgpTpf.C07
open AgpTpf
open AgpTpf.C11 (End leftFacing rightFacing facingEnds SameAdj)

/-! ## vocabulary, spelled out -/

theorem gap_run_iff (rows : List Row) (a b : Fragment) (G : List Gap) :
    (a, G, b) ∈ gapRuns rows ↔ ∃ pre post, rows = pre ++ .frag a :: (G.map Row.gap ++ .frag b :: post) :=
  mem_gapRuns_iff rows a b G

/-- runs without gap rows are exactly the gapless adjacencies of the first clause -/
theorem gap_run_nil_iff (rows : List Row) (a b : Fragment) : (a, [], b) ∈ gapRuns rows ↔ (a, b) ∈ adjPairs rows :=
  gapRuns_nil_iff_adjPairs rows a b

theorem inputRun_iff (input : List Scaffold) (a b : Fragment) (G : List Gap) :
    InputRun input (a, G, b) ↔
      ∃ sc ∈ input, ∃ a0 G0 b0, (a0, G0, b0) ∈ gapRuns sc.rows ∧
        ((leftFacing a = leftFacing a0 ∧ rightFacing b = rightFacing b0 ∧ G = G0) ∨
         (leftFacing a = rightFacing b0 ∧ rightFacing b = leftFacing a0 ∧ G = G0.reverse)) := by
  unfold InputRun RunMatch facingEnds
  constructor
  · rintro ⟨sc, hsc, ⟨a0, G0, b0⟩, hq, hm⟩
    refine ⟨sc, hsc, a0, G0, b0, hq, ?_⟩
    rcases hm with ⟨e, e'⟩ | ⟨e, e'⟩
    · simp only [Prod.mk.injEq] at e; exact Or.inl ⟨e.1, e.2, e'⟩
    · simp only [Prod.swap, Prod.mk.injEq] at e; exact Or.inr ⟨e.1, e.2, e'⟩
  · rintro ⟨sc, hsc, a0, G0, b0, hq, hm⟩
    refine ⟨sc, hsc, (a0, G0, b0), hq, ?_⟩
    rcases hm with ⟨e1, e2, e3⟩ | ⟨e1, e2, e3⟩
    · exact Or.inl ⟨by simp [e1, e2], e3⟩
    · exact Or.inr ⟨by simp [Prod.swap, e1, e2], e3⟩

/-! ## G1 -/

/-- G1: whenever `remap` completes (join gap `g` configured, distinct input Fragment objects), every gap row of every
    scaffold of every output assembly is the join gap or a gap row (same length and type) of an input scaffold. -/
theorem remap_gap_rows_from_input_or_join (input ptx : List Scaffold) (prefix_ : Str) (g : Gap) (err : Int)
    (outs : List OutAsm) (stats : Stats)
    (hnd : ((input.flatMap Scaffold.fragments).map (·.oid)).Nodup)
    (h : remap input ptx prefix_ (some g) err = .ok (outs, stats)) :
    ∀ a ∈ outs, ∀ s ∈ a.scaffolds, ∀ x, Row.gap x ∈ s.rows → x = g ∨ ∃ sc ∈ input, Row.gap x ∈ sc.rows :=
  fun a ha s hs x hx => (RemapRows.remap_rowOrigin h a ha s hs _ hx).gap.imp_left fun e => (Option.some.inj e).symm

/-! ## G2 -/

/-- G2, for ALL inputs and Pretext files: for every maximal run of gap rows `G` between two consecutive fragments `a`, `b`
    of an output scaffold: either `G = [g]` (the join gap), or the facing ends of `a` and `b` are the facing ends of two
    consecutive fragments of one input scaffold and `G` is exactly the gap rows the input has between them (in reverse
    order if the pair is traversed in reverse). -/
theorem remap_gap_runs (input ptx : List Scaffold) (prefix_ : Str) (g : Gap) (err : Int)
    (outs : List OutAsm) (stats : Stats)
    (hnd : ((input.flatMap Scaffold.fragments).map (·.oid)).Nodup)
    (h : remap input ptx prefix_ (some g) err = .ok (outs, stats)) :
    ∀ a ∈ outs, ∀ s ∈ a.scaffolds, ∀ t ∈ gapRuns s.rows, t.2.1 = [g] ∨ InputRun input t := by
  obtain ⟨b, hb, hstats, hrows⟩ := C09.remap_fused input ptx prefix_ (some g) err outs stats h
  have hex := remapToInput_extraGaps input ptx prefix_ (some g) err b hb
  have hntg := remapToInput_ntg input ptx prefix_ (some g) err b hb
  have hstr := input_run_strands_of_stats input outs b.cuts stats hstats
  intro a ha s hs t ht
  obtain ⟨s0, hs0, e⟩ := hrows a ha s hs
  rw [e] at ht
  exact fused_gap_runs input g b (remapToInput_inv hnd hb) (remapToInput_joinGap hb) hex hntg hstr s0 hs0 t ht

/-- corollary ("a junction between contigs that were not neighbours in the input always uses the join gap"):
    a run whose two fragments are not an input run carries exactly `[g]` -/
theorem remap_non_neighbours_join_gap (input ptx : List Scaffold) (prefix_ : Str) (g : Gap) (err : Int)
    (outs : List OutAsm) (stats : Stats)
    (hnd : ((input.flatMap Scaffold.fragments).map (·.oid)).Nodup)
    (h : remap input ptx prefix_ (some g) err = .ok (outs, stats)) :
    ∀ a ∈ outs, ∀ s ∈ a.scaffolds, ∀ x y G, (x, G, y) ∈ gapRuns s.rows → ¬ InputRun input (x, G, y) → G = [g] := by
  intro a ha s hs x y G ht hn
  rcases remap_gap_runs input ptx prefix_ g err outs stats hnd h a ha s hs _ ht with h1 | h2
  · exact h1
  · exact absurd h2 hn

/-! ## non-vacuity -/

private def c1 : Fragment := { oid := 1, name := ['a'], start := 1, stop := 10, strand := 1 }
private def c2 : Fragment := { oid := 2, name := ['b'], start := 1, stop := 10, strand := 1 }
private def c3 : Fragment := { oid := 3, name := ['c'], start := 1, stop := 10, strand := 1 }
private def c4 : Fragment := { oid := 4, name := ['d'], start := 1, stop := 10, strand := 1 }
private def gu : Gap := { length := 5, gapType := ['u'] }
private def gv : Gap := { length := 7, gapType := ['v'] }
private def gw : Gap := { length := 3, gapType := ['w'] }
private def jg : Gap := { length := 200, gapType := "scaffold".toList }
/-- S = a (1-10)  gap u (11-15)  gap v (16-22)  b (23-32)  gap w (33-35)  c (36-45);   T = d -/
private def inS : Scaffold := { name := ['S'], rows := [.frag c1, .gap gu, .gap gv, .frag c2, .gap gw, .frag c3] }
private def inT : Scaffold := { name := ['T'], rows := [.frag c4] }
/-- painted scaffold P1 = S:1-32 on the MINUS strand, then T: a…b reversed (gap rows in reverse order), join gap, d; c left over -/
private def ptxA : Scaffold :=
  { name := ['P','1'], rows := [.frag { oid := 10, name := ['S'], start := 1, stop := 32, strand := -1, tags := [sPainted] },
                                 .frag { oid := 11, name := ['T'], start := 1, stop := 10, strand := 1, tags := [sPainted] }] }
/-- unpainted scaffold P1 = S:1-32: the trailing contig c is left over and re-joined behind its input gap row w -/
private def ptxB : Scaffold :=
  { name := ['P','1'], rows := [.frag { oid := 10, name := ['S'], start := 1, stop := 32, strand := 1 }] }
private def c1m : Fragment := { c1 with strand := -1 }
private def c2m : Fragment := { c2 with strand := -1 }

example : (([inS, inT].flatMap Scaffold.fragments).map (·.oid)).Nodup := by decide
example : (remap [inS, inT] [ptxA] [] (some jg) 1).toOption.map (fun r => r.1.map (fun a => a.scaffolds.map (·.rows))) =
    some [[[.frag c2m, .gap gv, .gap gu, .frag c1m, .gap jg, .frag c4], [.frag c3]]] := by decide +kernel
example : (remap [inS, inT] [ptxB] [] (some jg) 1).toOption.map (fun r => r.1.map (fun a => a.scaffolds.map (·.rows))) =
    some [[[.frag c1, .gap gu, .gap gv, .frag c2, .gap gw, .frag c3], [.frag c4]]] := by decide +kernel
/-- the runs of the first output: the input run (a, [u, v], b) read in reverse, and a join between non-neighbours -/
example : gapRuns [.frag c2m, .gap gv, .gap gu, .frag c1m, .gap jg, .frag c4] = [(c2m, [gv, gu], c1m), (c1m, [jg], c4)] ∧
    gapRuns inS.rows = [(c1, [gu, gv], c2), (c2, [gw], c3)] ∧
    InputRun [inS, inT] (c2m, [gv, gu], c1m) ∧ ¬ InputRun [inS, inT] (c2m, [gu, gv], c1m) ∧
    ¬ InputRun [inS, inT] (c1m, [jg], c4) ∧ InputRun [inS, inT] (c2, [gw], c3) := by decide +kernel
/-- every gap row of the outputs is the join gap or an input gap row -/
example : ∀ x ∈ [gv, gu, jg, gw], x = jg ∨ ∃ sc ∈ [inS, inT], Row.gap x ∈ sc.rows := by decide +kernel

/-! ## the former counter-example (before fix 9be92a2 the left-over scaffold was `a, gap v, c`) -/

private def inX : Scaffold := { name := ['S'], rows := [.frag c1, .gap gu, .frag c2, .gap gv, .frag c3] }
/-- the map paints only b (S:16-25): a and c are left over on both sides of a found contig -/
private def ptxX : Scaffold :=
  { name := ['P','1'], rows := [.frag { oid := 10, name := ['S'], start := 16, stop := 25, strand := 1, tags := [sPainted] }] }

/-- through the whole of `remap`: a and c, which were not neighbours, are joined by the join gap -/
theorem former_counterexample_uses_join_gap :
    (remap [inX] [ptxX] [] (some jg) 1).toOption.map (fun r => r.1.map (fun a => a.scaffolds.map (·.rows))) =
      some [[[.frag c2], [.frag c1, .gap jg, .frag c3]]] := by decide +kernel

example : gapRuns [.frag c1, .gap jg, .frag c3] = [(c1, [jg], c3)] ∧ ¬ InputRun [inX] (c1, [jg], c3) ∧
    gapRuns inX.rows = [(c1, [gu], c2), (c2, [gv], c3)] := by decide +kernel

end AgpTpf.C07
