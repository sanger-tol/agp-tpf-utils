/-
  T1c / C10 — `AssemblyStats.chromosome_name_csv` as translated from the Python source (`Gen/Imp3.lean`) IS the model's
  `chromosomeNameCsv`, rendered as text (`ImpCsv.renderCsv`: one line `name,chr_name,yes|no\n` per row), or `None` when no line
  was written.  Holds for ALL inputs — every prefix (also the empty one: the replacement text is `""`, so Python's
  `name.replace("", "", 1)` and the model's `replaceFirst [] []` both copy the name), every `original_name` (None, `""`), every rank;
  the source never raises (the `orig_chr_name[orig]` read is guarded by `orig in orig_chr_name`).
  Helper lemmas: `Proofs/ImpCsv.lean`; the loop body of the generated function enters through the side goal of
  `PyRt.forIn_foldl_enc` and is closed by case analysis + `simp`, no generated sub-term is quoted.
-/
import AgpTpf.Proofs.Lib.PyRt
import AgpTpf.Proofs.ImpCsv
import AgpTpf.Proofs.ImpEval
namespace AgpTpf.C10
open AgpTpf AgpTpf.ImpCsv
open scoped AgpTpf.ImpEval

/-- the translated source = the model (so `C10.lean` / `C10Report.lean` speak about the text the source writes) -/
theorem chromosome_name_csv_is_source (asm : Assembly) (p : Str) :
    Gen.Imp.AssemblyStats_chromosome_name_csv asm p =
      .ok (if (chromosomeNameCsv p asm.scaffolds).isEmpty then none
           else some (renderCsv (chromosomeNameCsv p asm.scaffolds))) := by
  unfold Gen.Imp.AssemblyStats_chromosome_name_csv
  simp only []
  have hinit := toSrc_init
  dsimp only [csvSt] at hinit
  rw [hinit, PyRt.forIn_foldl_enc toSrc (csvStep p)]
  · rw [chromosomeNameCsv_eq]
    generalize (List.foldl (csvStep p) ([], []) asm.scaffolds) = t
    obtain ⟨out, seen⟩ := t
    cases out with
    | nil => simp [bind, Except.bind, toSrc, renderCsv_nil]
    | cons r out =>
      have h : renderCsv (r :: out) ≠ [] := by simp [renderCsv_eq_nil]
      simp [bind, Except.bind, toSrc, h]
  · rintro s _ ⟨out, seen⟩
    rw [csvStep_cases]
    simp only [toSrc, ← truthy_eq_strTruthy, rank_in_1_2]
    by_cases hr : s.rank = 1 ∨ s.rank = 2
    · simp only [if_pos hr]
      by_cases hc : (truthy s.originalName && dHas seen s.originalName) = true
      · simp only [if_pos hc]
        have hh : dHas seen s.originalName = true := by
          simp only [Bool.and_eq_true] at hc; exact hc.2
        unfold dHas at hh
        cases hg : dGet? seen s.originalName with
        | none => rw [hg] at hh; cases hh
        | some cn =>
          simp [PyRt.dictGet, hg, bind, Except.bind, renderCsv_snoc, csvLineText, yesNo]
      · simp only [if_neg hc]
        simp [bind, Except.bind, renderCsv_snoc, csvLineText, yesNo, strReplace1_nil_new]
    · simp only [if_neg hr]
      simp [bind, Except.bind]

/-- a chromosome, its unloc (same `original_name`: not localised, the chromosome's name), an unplaced scaffold (no line), a rank-2
    chromosome without `original_name` -/
example :
    Gen.Imp.AssemblyStats_chromosome_name_csv
      { scaffolds :=
        [{ name := "S_1".toList, rank := 1, originalName := some ['A'] },
         { name := "S_1_unloc_1".toList, rank := 1, originalName := some ['A'] },
         { name := "scaffold_9".toList, rank := 3, originalName := some ['B'] },
         { name := "S_X".toList, rank := 2, originalName := none }] } ['S', '_'] =
      .ok (some "S_1,1,yes\nS_1_unloc_1,1,no\nS_X,X,yes\n".toList) := by
  str_lits
  decide +kernel

/-- no rank-1/2 scaffold: nothing is written, the result is `None` -/
example :
    Gen.Imp.AssemblyStats_chromosome_name_csv
      { scaffolds :=
        [{ name := "scaffold_9".toList, rank := 3, originalName := some ['B'] },
         { name := "scaffold_10".toList, rank := 0, originalName := some ['B'] }] } ['S', '_'] = .ok none := by
  str_lits
  decide +kernel

/-- the empty prefix, and an empty `original_name` (falsy: never looked up, always "yes") -/
example :
    Gen.Imp.AssemblyStats_chromosome_name_csv
      { scaffolds :=
        [{ name := "S_1".toList, rank := 1, originalName := some [] },
         { name := "S_2".toList, rank := 1, originalName := some [] }] } [] =
      .ok (some "S_1,S_1,yes\nS_2,S_2,yes\n".toList) := by
  str_lits
  decide +kernel

/-- the text determines the rows (name, chromosome name, localised) when no name / chromosome name contains a comma.  (A newline in a
    name does not break this: the split is at the first two commas, then at the newline after `yes` / `no`.) -/
theorem renderCsv_determines_rows (rows rows' : List (Str × Str × Bool))
    (hc : ∀ r ∈ rows, ',' ∉ r.1 ∧ ',' ∉ r.2.1) (hc' : ∀ r ∈ rows', ',' ∉ r.1 ∧ ',' ∉ r.2.1)
    (h : renderCsv rows = renderCsv rows') : rows = rows' := by
  induction rows generalizing rows' with
  | nil =>
    rw [renderCsv_nil] at h
    exact ((renderCsv_eq_nil rows').1 h.symm).symm
  | cons r rows ih =>
    cases rows' with
    | nil =>
      rw [renderCsv_nil] at h
      exact (renderCsv_eq_nil _).1 h
    | cons r' rows' =>
      obtain ⟨n, c, b⟩ := r
      obtain ⟨n', c', b'⟩ := r'
      have h1 := hc (n, c, b) (by simp)
      have h1' := hc' (n', c', b') (by simp)
      simp only [renderCsv_cons, csvLineText_eq, List.append_assoc, List.cons_append, List.nil_append] at h
      -- split at the first comma, at the second, at the newline after `yes` / `no`
      obtain ⟨en, h⟩ := append_sep_inj _ _ _ _ h1.1 h1'.1 h
      obtain ⟨ec, h⟩ := append_sep_inj _ _ _ _ h1.2 h1'.2 h
      obtain ⟨eb, h⟩ := append_sep_inj _ _ _ _ (yesNo_no_newline b) (yesNo_no_newline b') h
      have hr : rows = rows' :=
        ih rows' (fun r hr => hc r (List.mem_cons_of_mem _ hr)) (fun r hr => hc' r (List.mem_cons_of_mem _ hr)) h
      have en : n = n' := en
      have ec : c = c' := ec
      rw [en, ec, yesNo_injective eb, hr]

/-- the hypothesis is needed: with commas two different row lists have the same text -/
example :
    renderCsv [("a,b".toList, "c".toList, true)] = renderCsv [("a".toList, "b,c".toList, true)] ∧
    [("a,b".toList, "c".toList, true)] ≠ [("a".toList, "b,c".toList, true)] := by
  str_lits
  decide +kernel

/-- and it is satisfiable by the rows of the example above -/
example : ∀ r ∈ [("S_1".toList, "1".toList, true), ("S_1_unloc_1".toList, "1".toList, false)], ',' ∉ r.1 ∧ ',' ∉ r.2.1 := by
  str_lits
  decide +kernel

end AgpTpf.C10
