/-
  C01 (T1c) — `BuildAssembly.store_fragments_found` and `BuildAssembly.discard_overhanging_fragments` of the Python source, as
  translated, REFINE the model's `storeFragmentsFound` and `discardOverhanging`.

  Source side: `Gen.Imp.BuildAssembly_store_fragments_found`, `Gen.Imp.BuildAssembly_discard_overhanging_fragments` in
  `AgpTpf/Gen/Imp.lean`, generated by `harness/translate_imp.py` from `src/tola/assembly/build_assembly.py` (each definition carries
  the Python text it came from).  The `FoundFragment` objects live in an arena `heap : List Found`; `self.found_fragments` and
  `self.fragments_found_more_than_once` map a contig key to a REFERENCE into it (in Python the SAME object sits in both
  dictionaries and is mutated in place).  `discard_overhanging_fragments` calls the translated `add_overhang_premise` and
  `make_fixes`, which `Properties/C02Imp.lean` ties to `addPremise` / the fold of `fixOne`.
  Model side: `storeFragmentsFound`, `applyFixBookkeeping`, `resolverRound`, `discardOverhanging` in `AgpTpf/Model/Remap.lean`.  The
  model de-aliases: `Build.found` holds the VALUES, `Build.multi` only the keys.

  So the ties are refinements: under the invariant `Coherent` the source state `(store, heap, found, multi)` stands for the model
  state `{ b with store, found := absFound heap found, multi := multi.map (·.1) }`, each method maps coherent states to coherent
  states, commutes with the abstraction, and raises exactly the exception the model raises.  `while multi:` and
  `discardOverhanging` burn one unit of fuel per round: the SAME `fuel` on both sides, `Err.other` on both when it runs out.

  `Coherent` has four clauses; `coherent_empty` + `store_fragments_found_keeps_coherent` + the `Coherent` conjunct of
  `discard_overhanging_refines` show that every reachable state satisfies it, and the four `example`s at the end show that the
  refinement is FALSE when any one of them is dropped (so none is redundant).  No clause about the keys of `found` is needed.

  Proofs: `AgpTpf/Proofs/ImpFound.lean` (`ImpFound.absFound` / `ImpFound.Coherent` there are these definitions verbatim).
-/
import AgpTpf.Proofs.ImpFound
import AgpTpf.Proofs.ImpEval
namespace AgpTpf.C01
open AgpTpf
open scoped AgpTpf.ImpEval

/-- what the model sees of the source's `self.found_fragments`: the VALUES behind the references -/
def absFound (heap : List Found) (found : List (Key × Nat)) : List (Key × Found) :=
  found.map (fun kv => (kv.1, PyRt.getFound heap kv.2))

/-- the source's two dictionaries are coherent: (1) the references in `found` are in range, (2) no two entries of `found` hold the
    same object, (3) every `multi` entry is the `found` entry of the same key — the same OBJECT —, (4) no key is twice in `multi` -/
def Coherent (heap : List Found) (found multi : List (Key × Nat)) : Prop :=
  (∀ kv ∈ found, kv.2 < heap.length) ∧ (found.map (·.2)).Nodup ∧
  (∀ kv ∈ multi, dGet? found kv.1 = some kv.2) ∧ (multi.map (·.1)).Nodup

/-! ### the input the `example`s run on: the two results of `C02.impStore`, which share the contig `s2:1-200` -/

def fndK1 : Key := (['s', '1'], 1, 100)
def fndK2 : Key := (['s', '2'], 1, 200)
def fndK3 : Key := (['s', '3'], 1, 300)
/-- the arena after `store_fragments_found` on result 0 … -/
def fndHeap0 : List Found := [{ fragment := C02.impF1, scaffolds := [0] }, { fragment := C02.impF2, scaffolds := [0] }]
/-- … and after result 1: `s2` is held by results 0 and 1 -/
def fndHeap1 : List Found :=
  [{ fragment := C02.impF1, scaffolds := [0] }, { fragment := C02.impF2, scaffolds := [0, 1] },
   { fragment := C02.impF3, scaffolds := [1] }]
def fndFound1 : List (Key × Nat) := [(fndK1, 0), (fndK2, 1), (fndK3, 2)]
/-- the arena after the resolver round that takes `s2` off the start of result 1 -/
def fndHeap2 : List Found :=
  [{ fragment := C02.impF1, scaffolds := [0] }, { fragment := C02.impF2, scaffolds := [0] },
   { fragment := C02.impF3, scaffolds := [1] }]
def fndStore2 : List Res := [{ o := C02.impR0, added := true }, { o := C02.impR1Fixed, added := true }]

theorem coherent_empty : Coherent [] [] [] := ImpFound.coherent_empty

example : Coherent fndHeap1 fndFound1 [(fndK2, 1)] := by unfold Coherent; decide
/-- the state `C02.impBuild` is what the model sees of it -/
example : C02.impBuild.found = absFound fndHeap1 fndFound1 ∧ C02.impBuild.multi = [(fndK2, 1)].map (·.1) := by decide

/-- from a coherent state that stands for `(b.found, b.multi)`, the source's `store_fragments_found` on the result with id `sid`
    never raises, leaves the store alone, and returns a coherent state that stands for `storeFragmentsFound b sid …` -/
theorem store_fragments_found_refines (b : Build) (heap : List Found) (found multi : List (Key × Nat)) (sid : Nat)
    (hc : Coherent heap found multi) (hf : b.found = absFound heap found) (hm : b.multi = multi.map (·.1)) :
    ∃ heap' found' multi',
      Gen.Imp.BuildAssembly_store_fragments_found b.store heap found multi sid = .ok (b.store, heap', found', multi') ∧
      Coherent heap' found' multi' ∧
      storeFragmentsFound b sid (fragmentsOf (getRes b.store sid).rows)
        = { b with found := absFound heap' found', multi := multi'.map (·.1) } := by
  obtain ⟨t, ht, heap', found', multi', rfl, hc', hb'⟩ := ImpFound.store_tie b heap found multi sid hc hf hm
  exact ⟨heap', found', multi', ht, hc', hb'⟩

/-- result 0 from the empty state: two new objects; then result 1: `s2` is found a second time — the object it maps to gets a
    second holder and is ALSO stored in `multi` —, `s3` is new -/
example : Gen.Imp.BuildAssembly_store_fragments_found C02.impStore [] [] [] 0
    = .ok (C02.impStore, fndHeap0, [(fndK1, 0), (fndK2, 1)], []) := by rfl
example : Gen.Imp.BuildAssembly_store_fragments_found C02.impStore fndHeap0 [(fndK1, 0), (fndK2, 1)] [] 1
    = .ok (C02.impStore, fndHeap1, fndFound1, [(fndK2, 1)]) := by rfl

/-- the invariant is kept whatever the model state is; with `coherent_empty`: every state reached by calling
    `store_fragments_found` from the empty dictionaries is coherent -/
theorem store_fragments_found_keeps_coherent (store : List Res) (heap : List Found) (found multi : List (Key × Nat)) (sid : Nat)
    (hc : Coherent heap found multi) :
    ∃ heap' found' multi',
      Gen.Imp.BuildAssembly_store_fragments_found store heap found multi sid = .ok (store, heap', found', multi') ∧
      Coherent heap' found' multi' :=
  ImpFound.store_coherent store heap found multi sid hc

/-- from a coherent state that stands for `b` (`found` is the source's `self.found_fragments`, which the method does not touch),
    for EVERY `fuel`: the source's `discard_overhanging_fragments fuel …` raises exactly the exception that
    `discardOverhanging fuel b` raises (`Err.other` = out of fuel included), or returns a coherent state that stands for the
    `Build` that `discardOverhanging fuel b` returns: same store, same `found` values seen through the references, same `multi`
    keys in the same order, everything else of `b` untouched -/
theorem discard_overhanging_refines (fuel : Nat) (b : Build) (heap : List Found) (found multi : List (Key × Nat))
    (hc : Coherent heap found multi) (hf : b.found = absFound heap found) (hm : b.multi = multi.map (·.1)) :
    match discardOverhanging fuel b with
    | .error e => Gen.Imp.BuildAssembly_discard_overhanging_fragments fuel b.store heap multi b.err = .error e
    | .ok b' => ∃ heap' multi',
        Gen.Imp.BuildAssembly_discard_overhanging_fragments fuel b.store heap multi b.err = .ok (b'.store, heap', multi') ∧
        Coherent heap' found multi' ∧
        b' = { b with store := b'.store, found := absFound heap' found, multi := multi'.map (·.1) } :=
  (ImpFound.discard_tie fuel b heap found multi hc hf hm).elim (fun _ h => h)
    fun t b' ht ⟨hc', hb'⟩ => ⟨t.2.1, t.2.2, by rw [ht, hb']; rfl, hc', by rw [hb']; rfl⟩

/-- one resolver round takes `s2` off the start of result 1: the object loses that holder and, with one holder left, leaves
    `multi`; the second pass finds `multi` empty.  One unit of fuel is not enough for that second test — on both sides -/
example : Gen.Imp.BuildAssembly_discard_overhanging_fragments 2 C02.impStore fndHeap1 [(fndK2, 1)] 10
    = .ok (fndStore2, fndHeap2, []) := by rfl
example : (discardOverhanging 2 C02.impBuild).map (fun b => (b.store, b.found, b.multi))
    = .ok (fndStore2, absFound fndHeap2 fndFound1, []) := by rfl
example : Gen.Imp.BuildAssembly_discard_overhanging_fragments 1 C02.impStore fndHeap1 [(fndK2, 1)] 10 = .error .other := by rfl
example : (discardOverhanging 1 C02.impBuild).map (fun b => b.multi) = .error .other := by decide +kernel
/-- a holder that is not in the store (a reference to result 7): `rows[0]` of `add_overhang_premise` raises `IndexError` on both
    sides -/
example : Gen.Imp.BuildAssembly_discard_overhanging_fragments 2 C02.impStore [{ fragment := C02.impF2, scaffolds := [0, 7] }]
    [(fndK2, 0)] 10 = .error .index := by rfl
example : (discardOverhanging 2 { C02.impBuild with
    found := absFound [{ fragment := C02.impF2, scaffolds := [0, 7] }] [(fndK2, 0)], multi := [fndK2] }).map (fun b => b.multi)
    = .error .index := by decide +kernel

/-! ### none of the four clauses of `Coherent` can be dropped -/

/-- (1) a DANGLING reference (`s3 ↦ 0` with an empty arena; clauses 2–4 hold): the object created for `s1` takes the place the
    reference points at, so the source's `s3` becomes that object while the model's stays the default value -/
example : (Gen.Imp.BuildAssembly_store_fragments_found C02.impStore [] [(fndK3, 0)] [] 0).map (fun t => absFound t.2.1 t.2.2.1)
    = .ok [(fndK3, { fragment := C02.impF1, scaffolds := [0] }), (fndK1, { fragment := C02.impF1, scaffolds := [0] }),
           (fndK2, { fragment := C02.impF2, scaffolds := [0] })] := by decide +kernel
example : (storeFragmentsFound { C02.impBuild with found := absFound [] [(fndK3, 0)], multi := [] } 0
      (fragmentsOf (getRes C02.impStore 0).rows)).found
    = [(fndK3, { fragment := default, scaffolds := [] }), (fndK1, { fragment := C02.impF1, scaffolds := [0] }),
       (fndK2, { fragment := C02.impF2, scaffolds := [0] })] := by decide +kernel

/-- (2) two keys holding the SAME object (`s1 ↦ 0`, `s3 ↦ 0`; clauses 1, 3, 4 hold): `add_scaffold` through `s1` is seen through
    `s3` in the source, not in the model -/
example : (Gen.Imp.BuildAssembly_store_fragments_found C02.impStore [{ fragment := C02.impF1, scaffolds := [5] }]
      [(fndK1, 0), (fndK3, 0)] [] 0).map (fun t => absFound t.2.1 t.2.2.1)
    = .ok [(fndK1, { fragment := C02.impF1, scaffolds := [5, 0] }), (fndK3, { fragment := C02.impF1, scaffolds := [5, 0] }),
           (fndK2, { fragment := C02.impF2, scaffolds := [0] })] := by decide +kernel
example : (storeFragmentsFound { C02.impBuild with
      found := absFound [{ fragment := C02.impF1, scaffolds := [5] }] [(fndK1, 0), (fndK3, 0)], multi := [] } 0
      (fragmentsOf (getRes C02.impStore 0).rows)).found
    = [(fndK1, { fragment := C02.impF1, scaffolds := [5, 0] }), (fndK3, { fragment := C02.impF1, scaffolds := [5] }),
       (fndK2, { fragment := C02.impF2, scaffolds := [0] })] := by decide +kernel

/-- (3) a key in `multi` but not in `found` (clauses 1, 2, 4 hold): the source follows the reference, fixes result 1 and empties
    `multi`; the model finds no value for the key, makes no premise, and stops with the store and `multi` as they were -/
example : Gen.Imp.BuildAssembly_discard_overhanging_fragments 2 C02.impStore [{ fragment := C02.impF2, scaffolds := [0, 1] }]
      [(fndK2, 0)] 10
    = .ok (fndStore2, [{ fragment := C02.impF2, scaffolds := [0] }], []) := by rfl
example : (discardOverhanging 2 { C02.impBuild with
      found := absFound [{ fragment := C02.impF2, scaffolds := [0, 1] }] [], multi := [fndK2] }).map (fun b => (b.store, b.multi))
    = .ok (C02.impStore, [fndK2]) := by decide +kernel

/-- (4) a key twice in `multi` (clauses 1–3 hold; error length 190): `del multi[fk]` removes ONE entry, the model's filter all -/
example : (Gen.Imp.BuildAssembly_discard_overhanging_fragments 3 C02.impStore [{ fragment := C02.impF2, scaffolds := [1] }]
      [(fndK2, 0), (fndK2, 0)] 190).map (fun t => t.2.2.map (·.1))
    = .ok [fndK2] := by decide +kernel
example : (discardOverhanging 3 { C02.impBuild with
      err := 190, found := absFound [{ fragment := C02.impF2, scaffolds := [1] }] [(fndK2, 0)], multi := [fndK2, fndK2] }).map (fun b => b.multi)
    = .ok [] := by decide +kernel

end AgpTpf.C01
