/-
  C03 / C04 over the SOURCE: the byte-offset arithmetic of `FastaIndex.sequence_bytes` AS TRANSLATED from the current
  /repo/src/tola/fasta/index.py into a plan of `seek` / `seek(…, 1)` / `read` operations (`Gen/Kernels.lean`), run on a file
  cursor (`Kernels.runPlan`: the spec of what the three operations mean).  On a laid-out record the plan returns exactly the
  addressed residues, and no single read asks for more than one line.
-/
import AgpTpf.Properties.C03
import AgpTpf.Proofs.Kernels
import AgpTpf.Proofs.ImpEval
namespace AgpTpf.C03
open AgpTpf AgpTpf.SeqProofs AgpTpf.ImpEval

/-- the plan the current source executes for `sequence_bytes(info, start, end)` -/
def srcPlan (info : FastaInfo) (start stop : Int) : List Gen.K.IOp :=
  Gen.K.FastaIndex_sequence_bytes_plan (start := start) (end_v := stop) (info_file_offset := info.fileOffset)
    (info_max_line_length := info.mll) (info_residues_per_line := info.rpl)

/-- running the source's plan on a laid-out record returns exactly `res[s:e]`, reading at most `min(rpl, e − s)` bytes at a time -/
theorem source_sequence_bytes_slice {file res : Bytes} {off R M : Nat} (info : FastaInfo)
    (hoff : info.fileOffset = off) (hrpl : info.rpl = R) (hmll : info.mll = M)
    (hR : 1 ≤ R) (hM : R ≤ M) (h : LaidOut file off R M res)
    (s e : Nat) (hs : s < e) (he : e ≤ res.length) :
    ∃ rl, Kernels.runPlan file (srcPlan info ((s : Int) + 1) (e : Int)) 0 {} = .ok rl ∧
      rl.data = (res.drop s).take (e - s) ∧
      ∀ r ∈ rl.reads, 0 ≤ r ∧ r ≤ (R : Int) ∧ r ≤ ((e - s : Nat) : Int) := by
  have h0 : info.rpl ≠ 0 := by rw [hrpl]; omega
  have hle : info.rpl ≤ info.mll := by rw [hrpl, hmll]; exact_mod_cast hM
  unfold srcPlan
  rw [← Kernels.sequence_bytes_plan_eq file info _ _ h0 hle]
  exact sequence_bytes_slice info hoff hrpl hmll hR hM h s e hs he

/-- the plan for residues 3…7 of `>a\nACGTNN\nAC\n` (index entry offset 3, 6 residues per line, 7 bytes per line) -/
example : srcPlan { length := 8, fileOffset := 3, rpl := 6, mll := 7 } 3 7 =
    [.seek 5, .read 4, .skip 1, .read 1] := by
  decide +kernel
example : (Kernels.runPlan [62, 97, 10, 65, 67, 71, 84, 78, 78, 10, 65, 67, 10]
    (srcPlan { length := 8, fileOffset := 3, rpl := 6, mll := 7 } 3 7) 0 {}).map (·.data) = .ok [71, 84, 78, 78, 65] := by
  decide +kernel

end AgpTpf.C03
