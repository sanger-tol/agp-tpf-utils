/-
  C19 over the SOURCE: the interval-predicate algebra, stated for the four predicates AS TRANSLATED from the current
  /repo/src/tola/assembly/fragment.py (`Gen/Kernels.lean`, regenerated on every run by harness/translate_kernels.py),
  not for the hand-written model.  `Proofs/Kernels.lean` proves model = translation; here the algebra is transported.
  A semantic change of `overlaps`, `overlap_length`, `abuts` or `gap_between` breaks these proofs for every input at once.
-/
import AgpTpf.Properties.C19
import AgpTpf.Proofs.Kernels
namespace AgpTpf.C19
open AgpTpf

/-- `Fragment.overlaps(self=a, othr=b)` as the current source has it -/
def srcOverlaps (a b : Fragment) : Bool :=
  Gen.K.Fragment_overlaps (self_name := a.name) (self_start := a.start) (self_end := a.stop)
    (othr_name := b.name) (othr_start := b.start) (othr_end := b.stop)
def srcOverlapLength (a b : Fragment) : Option Int :=
  Gen.K.Fragment_overlap_length (self_name := a.name) (self_start := a.start) (self_end := a.stop)
    (othr_name := b.name) (othr_start := b.start) (othr_end := b.stop)
def srcAbuts (a b : Fragment) : Bool :=
  Gen.K.Fragment_abuts (self_name := a.name) (self_start := a.start) (self_end := a.stop)
    (othr_name := b.name) (othr_start := b.start) (othr_end := b.stop)
def srcGapBetween (a b : Fragment) : Option Int :=
  Gen.K.Fragment_gap_between (self_name := a.name) (self_start := a.start) (self_end := a.stop)
    (othr_name := b.name) (othr_start := b.start) (othr_end := b.stop)

theorem src_overlaps (a b : Fragment) : srcOverlaps a b = a.overlaps b := (Kernels.fragment_overlaps_eq a b).symm
theorem src_overlap_length (a b : Fragment) : srcOverlapLength a b = a.overlapLength b :=
  (Kernels.fragment_overlap_length_eq a b).symm
theorem src_abuts (a b : Fragment) : srcAbuts a b = a.abuts b := (Kernels.fragment_abuts_eq a b).symm
theorem src_gap_between (a b : Fragment) : srcGapBetween a b = a.gapBetween b := (Kernels.fragment_gap_between_eq a b).symm

/-- the source's `overlaps` holds iff the two fragments name the same contig and share a base -/
theorem source_overlaps_iff_share_base (a b : Fragment) (ha : Valid a) (hb : Valid b) :
    srcOverlaps a b = true ↔ (a.name = b.name ∧ ∃ x, Covers a x ∧ Covers b x) := by
  rw [src_overlaps]; exact overlaps_iff_share_base a b ha hb

theorem source_overlaps_symm (a b : Fragment) : srcOverlaps a b = srcOverlaps b a := by
  rw [src_overlaps, src_overlaps]; exact overlaps_symm a b

theorem source_overlap_length_is_intersection_size (a b : Fragment) (n : Int) (h : srcOverlapLength a b = some n) :
    a.name = b.name ∧ 1 ≤ n ∧ ∃ lo, ∀ x, (Covers a x ∧ Covers b x) ↔ (lo ≤ x ∧ x < lo + n) := by
  rw [src_overlap_length] at h; exact overlap_length_is_intersection_size a b n h

theorem source_overlaps_iff_overlap_length (a b : Fragment) (ha : Valid a) (hb : Valid b) :
    srcOverlaps a b = true ↔ (srcOverlapLength a b).isSome = true := by
  rw [src_overlaps, src_overlap_length]; exact overlaps_iff_overlap_length a b ha hb

theorem source_abuts_iff_gap_zero (a b : Fragment) (ha : Valid a) (hb : Valid b) :
    srcAbuts a b = true ↔ srcGapBetween a b = some 0 := by
  rw [src_abuts, src_gap_between]; exact abuts_iff_gap_zero a b ha hb

/-- exactly one of overlap / abut / positive gap — for the source's predicates -/
theorem source_trichotomy (a b : Fragment) (ha : Valid a) (hb : Valid b) (hn : a.name = b.name) :
    (srcOverlaps a b = true ∧ srcAbuts a b = false ∧ srcGapBetween a b = none) ∨
    (srcOverlaps a b = false ∧ srcAbuts a b = true ∧ srcGapBetween a b = some 0) ∨
    (srcOverlaps a b = false ∧ srcAbuts a b = false ∧ ∃ g, 0 < g ∧ srcGapBetween a b = some g) := by
  rw [src_overlaps, src_abuts, src_gap_between]; exact trichotomy a b ha hb hn

/-- non-vacuity (evaluates the TRANSLATED code) -/
example : srcOverlaps { name := ['a'], start := 1, stop := 5, strand := 1 } { name := ['a'], start := 5, stop := 9, strand := 1 } = true ∧
    srcOverlapLength { name := ['a'], start := 1, stop := 5, strand := 1 } { name := ['a'], start := 5, stop := 9, strand := 1 } = some 1 ∧
    srcAbuts { name := ['a'], start := 1, stop := 5, strand := 1 } { name := ['a'], start := 6, stop := 9, strand := 1 } = true ∧
    srcGapBetween { name := ['a'], start := 1, stop := 5, strand := 1 } { name := ['a'], start := 10, stop := 12, strand := 1 } = some 4 := by
  decide

end AgpTpf.C19
