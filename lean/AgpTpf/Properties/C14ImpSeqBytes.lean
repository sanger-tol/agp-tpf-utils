/-
  T1c / C14 — `FastaIndex.sequence_bytes` as translated from the Python source (`Gen/Imp3.lean`, over `PyRt.BinFile` = bytes + cursor
  with `seek` / `seek(…, 1)` / `read`, checked `//` and `%`) against the model's `sequenceBytes` (`Model/Fasta.lean`, absolute positions).

  The tie holds for ALL `info`, `start`, `stop`, with NO hypothesis.  The source raises OSError at EVERY `fh.seek(…)` with a negative
  target, including the relative seeks `fh.seek(line_end_bytes, 1)` INSIDE the whole-lines loop; the model makes the same check at every
  pass (`sequenceBytes` runs the loop through `readWholeLinesChk`).  The check inside the loop matters on
      file = b"AC", info = FastaInfo(length 8, file_offset 3, residues_per_line 4, max_line_length 1), start = 1, end = 8
      source: OSError (`Err.other`, confirmed against /repo/src with a real file: `OSError [Errno 22]`); the unchecked recursion
      `readWholeLines` lets the position go negative and keeps reading from byte 0 (data b"AC").
  (It needs `line_end_bytes = max_line_length - residues_per_line < 0` AND a short read at the end of the file; no index the indexer
  writes has `residues_per_line > max_line_length`.)  On that input source AND model give `.error .other`
  (`sequence_bytes_loop_seek_oserror`); for `rpl ≤ mll` the checked loop is the unchecked one (`readWholeLinesChk_nonneg`,
  `Proofs/SeekChk.lean`).  Proved:
   * `sequence_bytes_is_source` — NO hypothesis: same bytes, same exception class (`.zeroDiv` for `rpl = 0` first, `.other` for a
     negative target of the absolute seek, of the relative seek after the first line, of a relative seek inside the loop);
   * `sequence_bytes_source_full` / `sequence_bytes_handle` — NO hypothesis: where the file handle and the buffer's cursor are left;
   * `sequence_bytes_loop_seek` — where a relative seek inside the loop has a negative target (`loopSeekNeg`) source and model raise
     the same exception;
   * the handle's initial position never matters (every statement is for an arbitrary `pos`; the first operation is an absolute seek).
  Helper lemmas: `Proofs/ImpFileIO.lean`, `Proofs/SeekChk.lean`.
-/
import AgpTpf.Proofs.ImpFileIO
import AgpTpf.Proofs.ImpEval
namespace AgpTpf.C14
open AgpTpf AgpTpf.ImpFileIO AgpTpf.ImpEval

/-- 4a. THE TIE, for all inputs: the bytes the translated `sequence_bytes` returns / the exception it raises are the model's.  The
    initial position `pos` of the handle does not occur on the right. -/
theorem sequence_bytes_is_source (file : Bytes) (pos : Nat) (info : FastaInfo) (start stop : Int) :
    (Gen.Imp.FastaIndex_sequence_bytes_imp { data := file, pos := pos } info start stop).map (fun r => r.2.data) =
      (sequenceBytes file info start stop).map (·.data) := by
  rw [seqBytesSrc_eq]
  cases sequenceBytes file info start stop <;> rfl

/-- 4b. the complete result, for all inputs: the handle still holds the file and is left at `seqEndPos` (the position after the last
    `read` / relative seek, computed with the model's functions); the buffer's cursor is at its end (the caller `seek(0)`s). -/
theorem sequence_bytes_source_full (file : Bytes) (pos : Nat) (info : FastaInfo) (start stop : Int) :
    Gen.Imp.FastaIndex_sequence_bytes_imp { data := file, pos := pos } info start stop =
      (sequenceBytes file info start stop).map (fun log =>
        (({ data := file, pos := (seqEndPos file info start stop).toNat } : PyRt.BinFile),
         ({ data := log.data, pos := log.data.length } : PyRt.BytesIO))) := by
  rw [seqBytesSrc_eq]
  cases sequenceBytes file info start stop <;> rfl

/-- 4c. where the handle is left, whenever the translated source returns -/
theorem sequence_bytes_handle (file : Bytes) (pos : Nat) (info : FastaInfo) (start stop : Int) (fh : PyRt.BinFile) (seq : PyRt.BytesIO)
    (h : Gen.Imp.FastaIndex_sequence_bytes_imp { data := file, pos := pos } info start stop = .ok (fh, seq)) :
    fh = { data := file, pos := (seqEndPos file info start stop).toNat } ∧ seq.pos = seq.data.length := by
  rw [seqBytesSrc_eq] at h
  cases hm : sequenceBytes file info start stop with
  | error e => rw [hm] at h; cases h
  | ok log =>
    rw [hm] at h
    cases h
    exact ⟨rfl, rfl⟩

/-- 4d. where a relative seek inside the whole-lines loop has a negative target
    (`loopSeekNeg`), source and model raise, the same exception (`.zeroDiv` / `.other` from an earlier check, else `.other` from the
    loop: `sequence_bytes_loop_seek_oserror` is an input where it is the loop) -/
theorem sequence_bytes_loop_seek (file : Bytes) (pos : Nat) (info : FastaInfo) (start stop : Int)
    (h : loopSeekNeg file info start stop = true) :
    ∃ e, Gen.Imp.FastaIndex_sequence_bytes_imp { data := file, pos := pos } info start stop = .error e ∧
      sequenceBytes file info start stop = .error e := by
  obtain ⟨e, he⟩ := sequenceBytes_loopSeekNeg file info start stop h
  exact ⟨e, by rw [seqBytesSrc_eq, he], he⟩

/-- under `residues_per_line ≤ max_line_length` (every index the indexer writes; the model's `LaidOut` theorems assume `R ≤ M` too) the
    check inside the loop never fires: the checked loop of `sequenceBytes` is the unchecked recursion the layout theorems are written over -/
theorem sequence_bytes_loop_unchanged (file : Bytes) (info : FastaInfo) (k : Nat) (p : Int) (acc : ReadLog)
    (hle : info.rpl ≤ info.mll) (hp : 0 ≤ p) :
    readWholeLinesChk file info.rpl (info.mll - info.rpl) k p acc = .ok (readWholeLines file info.rpl (info.mll - info.rpl) k p acc) :=
  readWholeLinesChk_nonneg file _ _ (by omega) k p acc hp

/-! ### examples: a 2-record file `>a\nACGT\nNNAC\nGT\n>b\nTTTT\n` -/

def seqFile : Bytes := [62, 97, 10, 65, 67, 71, 84, 10, 78, 78, 65, 67, 10, 71, 84, 10, 62, 98, 10, 84, 84, 84, 84, 10]
def seqInfoA : FastaInfo := { length := 10, fileOffset := 3, rpl := 4, mll := 5 }
def seqInfoB : FastaInfo := { length := 4, fileOffset := 19, rpl := 4, mll := 5 }

example : seqInfoA.rpl ≤ seqInfoA.mll ∧ seqInfoB.rpl ≤ seqInfoB.mll := by
  decide +kernel

/-- a range inside one line (`CG`): one read; the handle (which was somewhere else) is left behind the bytes read -/
example : Gen.Imp.FastaIndex_sequence_bytes_imp { data := seqFile, pos := 7 } seqInfoA 2 3 =
    .ok ({ data := seqFile, pos := 6 }, { data := [67, 71], pos := 2 }) := by
  decide +kernel
/-- a range spanning three lines (`GT` + `NNAC` + `GT`): the newlines are skipped by the relative seeks -/
example : Gen.Imp.FastaIndex_sequence_bytes_imp { data := seqFile, pos := 0 } seqInfoA 3 10 =
    .ok ({ data := seqFile, pos := 15 }, { data := [71, 84, 78, 78, 65, 67, 71, 84], pos := 8 }) := by
  decide +kernel
example : seqEndPos seqFile seqInfoA 3 10 = 15 := by
  decide +kernel
/-- a range ending at a line end (`last_offset = 0`: the last line is a whole line, the handle is left behind its newline) -/
example : Gen.Imp.FastaIndex_sequence_bytes_imp { data := seqFile, pos := 0 } seqInfoA 1 8 =
    .ok ({ data := seqFile, pos := 13 }, { data := [65, 67, 71, 84, 78, 78, 65, 67], pos := 8 }) := by
  decide +kernel
/-- the second record -/
example : Gen.Imp.FastaIndex_sequence_bytes_imp { data := seqFile, pos := 0 } seqInfoB 1 4 =
    .ok ({ data := seqFile, pos := 23 }, { data := [84, 84, 84, 84], pos := 4 }) := by
  decide +kernel
/-- `residues_per_line = 0`: ZeroDivisionError (at `start // rpl`) -/
example : Gen.Imp.FastaIndex_sequence_bytes_imp { data := seqFile, pos := 0 } { seqInfoA with rpl := 0 } 3 10 = .error .zeroDiv := by
  decide +kernel
/-- a negative target of the absolute seek: OSError -/
example : Gen.Imp.FastaIndex_sequence_bytes_imp { data := seqFile, pos := 0 } { seqInfoA with fileOffset := -9 } 3 10 = .error .other := by
  decide +kernel

/-- the check inside the loop (the unchecked recursion returns `.ok` with b"AC" here): `rpl = 4 > mll = 1`, a
    2-byte file.  First read at byte 3 (past the end): nothing; `seek(-3, 1)` → 0; in the loop `read(4)` returns 2 bytes, `seek(-3, 1)`
    → −1: the source raises OSError, and so does the model; it is the check inside the loop that fires (`loopSeekNeg`). -/
theorem sequence_bytes_loop_seek_oserror :
    Gen.Imp.FastaIndex_sequence_bytes_imp { data := [65, 67], pos := 0 } { length := 8, fileOffset := 3, rpl := 4, mll := 1 } 1 8 =
      .error .other ∧
    sequenceBytes [65, 67] { length := 8, fileOffset := 3, rpl := 4, mll := 1 } 1 8 = .error .other ∧
    loopSeekNeg [65, 67] { length := 8, fileOffset := 3, rpl := 4, mll := 1 } 1 8 = true :=
  ⟨by decide +kernel, by rfl, by decide +kernel⟩

/-- the hypothesis of 4d is satisfiable (the input above) -/
example : loopSeekNeg [65, 67] { length := 8, fileOffset := 3, rpl := 4, mll := 1 } 1 8 = true := by
  decide +kernel

/-- with `rpl > mll` and no short read no seek goes negative: both return, the same bytes -/
example :
    (Gen.Imp.FastaIndex_sequence_bytes_imp { data := seqFile, pos := 0 } { length := 8, fileOffset := 3, rpl := 4, mll := 1 } 1 8).map
      (fun r => r.2.data) = .ok [65, 67, 71, 84, 67, 71, 84, 10] ∧
    (sequenceBytes seqFile { length := 8, fileOffset := 3, rpl := 4, mll := 1 } 1 8).map (·.data) = .ok [65, 67, 71, 84, 67, 71, 84, 10] := by
  decide +kernel

end AgpTpf.C14
