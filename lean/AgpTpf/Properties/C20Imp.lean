/-
  C20 (T1c) — `Assembly.name_natural_key` of the Python source (assembly.py), as translated, IS the model's `naturalKey`
  (Model/NaturalKey.lean), flattened to the tuple Python builds.

  Source side: `Gen.Imp.Assembly_name_natural_key name` in `AgpTpf/Gen/Imp.lean` (generated by `harness/translate_imp.py`; the definition
  carries the Python text it came from): the comprehension over `enumerate(re.split(r"(IV|I{1,3}|\d+)", name))` (`PyRt.natSplitList`, the
  flat list text, match, text, … of the model's tokeniser `natTokens`), `NEMATODE_CHR_INT.get(x) or int(x)` at odd indices (`int(x)` is
  evaluated — and may raise ValueError — only when the table gives None or 0; since no value of the table is 0,
  `ImpNatKey.nematodeChrInt_values_ne_zero`, the spelling `NEMATODE_CHR_INT[x] if x in NEMATODE_CHR_INT else int(x)` is the same function and
  the proof below covers both), the text itself at even indices.
  Model side: `naturalKey name : R NatKey` (`first : Str`, `rest : List (Int × Str)`).

   1  `name_natural_key_is_source`   NO hypothesis: same result, same exception, for every name
   2  `source_natural_key_total`     the SOURCE's key function never raises (C20.1 `natural_key_total` through 1)
   3  `flatKey_injective`            the flattening loses nothing: equal source keys are equal model keys
   3' `source_key_eq_iff`            … so two names have the same source key iff they have the same model key

  Proofs: `AgpTpf/Proofs/ImpNatKey.lean` (a `mapM`-over-`enumerate` lemma for an arbitrary body; the generated body is only met by `simp`).
-/
import AgpTpf.Proofs.ImpNatKey
import AgpTpf.Properties.C20
import AgpTpf.Proofs.ImpEval
namespace AgpTpf.C20
open AgpTpf
open scoped AgpTpf.ImpEval

-- the `simp` sets below cover both spellings of the odd-index value; which arguments go unused depends on the spelling in the source
set_option linter.unusedSimpArgs false in
/-- **T1c tie** `name_natural_key(obj)` of the source = the model's `naturalKey obj.name`, flattened; for every name, including the
    exception (if there were one). -/
theorem name_natural_key_is_source (name : Str) : Gen.Imp.Assembly_name_natural_key name = (naturalKey name).map flatKey := by
  unfold Gen.Imp.Assembly_name_natural_key
  rw [bind_ok, ImpNatKey.mapM_natSplitList _ ?even ?odd]
  case even =>
    intro i x h
    simp [ImpNatKey.pyMod_two, h, bind_ok]
  case odd =>
    intro i x h
    -- split on the table lookup; `tokenValue` is `.ok v` on a hit (no table value is 0) and `int(x)` on a miss, whichever way the
    -- source spells it (`d.get(x) or int(x)` / `d[x] if x in d else int(x)`)
    cases hd : dGet? Gen.nematodeChrInt x with
    | none =>
      simp [ImpNatKey.pyMod_two, h, bind_ok, ← map_eq_bind_ok, ImpNatKey.tokenValue_miss hd, dHas, PyRt.dictGet, hd]
    | some v =>
      simp [ImpNatKey.pyMod_two, h, bind_ok, ← map_eq_bind_ok, ImpNatKey.tokenValue_hit hd,
        ImpNatKey.nematode_hit_ne_zero hd, dHas, PyRt.dictGet, hd, Except.map]

example : Gen.Imp.Assembly_name_natural_key "SUPER_10_unloc_2".toList
    = .ok [.txt "SUPER_".toList, .num 10, .txt "_unloc_".toList, .num 2, .txt []] := by
  str_lits
  decide +kernel
example : Gen.Imp.Assembly_name_natural_key "chrIV".toList = .ok [.txt "chr".toList, .num 4, .txt []] := by
  str_lits
  decide +kernel
example : Gen.Imp.Assembly_name_natural_key "IIII".toList = .ok [.txt [], .num 3, .txt [], .num 1, .txt []] := by
  str_lits
  decide +kernel
/-- a name without any match: the one-element tuple -/
example : Gen.Imp.Assembly_name_natural_key "scaffold_X".toList = .ok [.txt "scaffold_X".toList] := by
  str_lits
  decide +kernel
/-- the empty name -/
example : Gen.Imp.Assembly_name_natural_key [] = .ok [.txt []] := by decide +kernel
/-- leading zeros: `int("007")` -/
example : Gen.Imp.Assembly_name_natural_key "a007b".toList = .ok [.txt ['a'], .num 7, .txt ['b']] := by
  str_lits
  decide +kernel
example : (naturalKey "chrIV_2".toList).map flatKey = .ok [.txt "chr".toList, .num 4, .txt ['_'], .num 2, .txt []] := by
  str_lits
  decide +kernel

/-- … so the SOURCE's key function never raises, for any name (C20's "never fails") -/
theorem source_natural_key_total (name : Str) : ∃ k, Gen.Imp.Assembly_name_natural_key name = .ok k := by
  obtain ⟨k, hk⟩ := natural_key_total name
  exact ⟨flatKey k, by rw [name_natural_key_is_source, hk]; rfl⟩

/-- … and the value is the flattened `keyOf` (the pure key of `Proofs/C20.lean` all ordering theorems of C20 are phrased with) -/
theorem source_natural_key_eq (name : Str) : Gen.Imp.Assembly_name_natural_key name = .ok (flatKey (keyOf name)) := by
  rw [name_natural_key_is_source, natural_key_eq]; rfl

/-- `flatKey` is injective: equal source keys are equal model keys -/
theorem flatKey_injective (a b : NatKey) (h : flatKey a = flatKey b) : a = b :=
  ImpNatKey.flatKey_inj a b h

/-- two names have the same source key iff they have the same model key -/
theorem source_key_eq_iff (n₁ n₂ : Str) :
    Gen.Imp.Assembly_name_natural_key n₁ = Gen.Imp.Assembly_name_natural_key n₂ ↔ keyOf n₁ = keyOf n₂ := by
  rw [source_natural_key_eq, source_natural_key_eq]
  constructor
  · intro h
    exact flatKey_injective _ _ (Except.ok.inj h)
  · intro h; rw [h]

example : Gen.Imp.Assembly_name_natural_key "SUPER_02".toList = Gen.Imp.Assembly_name_natural_key "SUPER_2".toList := by
  str_lits
  decide +kernel
example : Gen.Imp.Assembly_name_natural_key "chrIV".toList = Gen.Imp.Assembly_name_natural_key "chr4".toList := by
  str_lits
  decide +kernel
example : Gen.Imp.Assembly_name_natural_key "chrIV".toList ≠ Gen.Imp.Assembly_name_natural_key "chrV".toList := by
  str_lits
  decide +kernel

end AgpTpf.C20
