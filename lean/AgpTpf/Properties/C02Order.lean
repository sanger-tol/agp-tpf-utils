/-
  C02, clause "… and pieces of one Pretext scaffold that share a destination follow each other in Pretext order" —
  for ALL maps for which `remap` succeeds.

  Python: `BuildAssembly.scaffolds_fused_by_name`, `Scaffold.append_scaffold`, `gaps_before_leftover`,
  `assemblies_with_scaffolds_fused` (build_assembly.py).  Helpers: `Proofs/C02OFuse.lean`, `C02OUnique.lean`.

  The argument: (1) `processBait` appends results to the store in Pretext order (`C09.piece_tag`: the `sid`-th stored
  result belongs to the `sid`-th piece of `C09.pieces`, file order of Pretext scaffolds, row order inside a scaffold);
  (2) `fuseByName` folds over the store IN ORDER and appends every added, non-empty result's `to_scaffold()` rows, after a
  join-gap row, to the scaffold of its key `(tag, haplotype, name)`; left-overs come after all store results;
  (3) `assembliesFused` distributes, renames (`name` only) and sorts scaffolds but never touches `rows`.

  PROVED, all at full strength (no `_partial` theorem in this file):

    O1  `fuse_rows_decomposition`   for EVERY build: the keys of the fused scaffolds are pairwise different, and every fused
          scaffold `s` has `s.rows = joinedRows joinGap (storeContributors b k) (extraContributors b k)`, `k` its own
          `(tag, haplotype, name)` — the contributors being the sub-list IN STORE ORDER of the results with `added`,
          `rows ≠ []` and key `k`, followed by the left-over scaffolds with key `k` in `extra` order; `joinedRows` is the
          explicit spec (`joinedRows_def`, `joinStore_def`, `joinExtra_def`, closed form of the store part:
          `joinStore_closed_form`).  Conversely every key with a contributor has its fused scaffold (`fuse_has_scaffold`).
    O2  `remap_pretext_order`       for EVERY map for which `remap` completes, no hypothesis on input or map: two store
          indices `i < j` whose results are added, non-empty and have the same key lie in ONE output scaffold `s` of the
          output assembly keyed `routeKey tag haplotype`, with `s.rows = A ++ rows_i ++ B ++ rows_j ++ C`; `s` is (up to its
          name) THE fused scaffold of that key, which is unique.
        `remap_pretext_order_pieces` the same indexed by the pieces of the Pretext map (`C09.pieces`).
        `remap_output_rows`         EVERY scaffold of EVERY output assembly has rows `joinedRows …` of ALL contributors of
          its key: the whole scaffold is the Pretext-ordered concatenation of its pieces (then its left-overs).
        `remap_outputs_are_fused`   all output scaffolds together are a permutation of the fused scaffolds up to names:
          nothing is duplicated or dropped by the later stages ("exactly one", structurally).
        `remap_pretext_order_unique`  for a well-formed input (`C01.WFInput`): that scaffold, in that assembly, is the ONLY
          place of the output holding a contig base of either piece ("exactly one", by content), and conversely two
          results that have a fragment each in one output scaffold have the same key (`same_destination_same_key`).
        `leftovers_come_last`       a left-over scaffold fused under the same key comes after every store result.
    O3  `core_order`                with the hypotheses of `remap_core_in_one_scaffold` (K3): two pieces `i < j` whose cores
          hold a contig base each have a home scaffold each (K3, unique); "same key", and "same home scaffold" are
          EQUIVALENT; and then the home scaffold's rows are `A ++ rows_i ++ B ++ rows_j ++ C`, the contig rows of core `i`
          inside `rows_i`, those of core `j` inside `rows_j`.

  FINDINGS: no statement was found false of the model.  Two remarks that matter for reading the clause:
    R1  "share a destination" must be read as "same `(tag, haplotype, name)` key of the stored results in the FINAL build"
        (after `rename_by_size`), not "same Pretext scaffold": pieces of ONE Pretext scaffold can have different keys (a
        tagged piece in the middle — Contaminant, Haplotig, FalseDuplicate, Unloc — is filed elsewhere), and pieces of
        DIFFERENT Pretext scaffolds can share a key (two unpainted Pretext scaffolds whose first rows name the same input
        scaffold): they too are concatenated in Pretext order (`two_pretext_scaffolds_one_destination` below).
    R2  without a join gap configured (`joinGap = none`) consecutive pieces are concatenated with no separator at all
        (`joinStore_closed_form`); that is the model's (and the code's) behaviour, not an ordering issue.
-/
import AgpTpf.Proofs.C02OUnique
import AgpTpf.Proofs.C02DeepDemo
import AgpTpf.Properties.C02Core
import AgpTpf.Properties.C09Route
namespace AgpTpf.C02
open AgpTpf OverlapResult
open AgpTpf.C01 (WFInput)
open AgpTpf.C09 (FKey triple noName routeKey)

/-! ## the notions, spelled out (definitions in `Proofs/C02OFuse.lean`, `Proofs/C02KOut.lean`) -/

/-- `triple s` (C09): the key a scaffold is fused under -/
theorem triple_def (s : Scaffold) : triple s = (s.tag, s.haplotype, s.name) := rfl

/-- the contributors of key `k`: sub-lists of the store / of `extra`, in their order -/
theorem storeContributors_def (b : Build) (k : FKey) :
    storeContributors b k = b.store.filter (isStoreContributor k) ∧
    (storeContributors b k).Sublist b.store ∧
    ∀ r, isStoreContributor k r = true ↔ r.added = true ∧ r.o.rows ≠ [] ∧ (r.o.tag, r.o.haplotype, r.o.name) = k :=
  ⟨rfl, List.filter_sublist, isStoreContributor_iff k⟩

theorem extraContributors_def (b : Build) (k : FKey) :
    extraContributors b k = b.extra.filter (isExtraContributor k) ∧
    (extraContributors b k).Sublist b.extra ∧
    ∀ e, isExtraContributor k e = true ↔ e.1.rows ≠ [] ∧ (e.1.tag, e.1.haplotype, e.1.name) = k :=
  ⟨rfl, List.filter_sublist, isExtraContributor_iff k⟩

/-- the separator in front of a store result's rows: the join-gap row, if a join gap is configured and something has been
    built already (`Scaffold.append_scaffold`) -/
theorem storeSep_def (jg : Option Gap) (built othr : List Row) :
    storeSep jg built = (match jg with
      | some g => if built.isEmpty then [] else [Row.gap g]
      | none => []) ∧
    Scaffold.appendRows built othr jg = built ++ storeSep jg built ++ othr :=
  ⟨rfl, appendRows_eq_storeSep built othr jg⟩

theorem joinStore_def (jg : Option Gap) (built : List Row) (r : Res) (rs : List Res) :
    joinStore jg built [] = built ∧
    joinStore jg built (r :: rs) = joinStore jg (built ++ storeSep jg built ++ r.o.toScaffoldRows) rs := ⟨rfl, rfl⟩

theorem joinExtra_def (jg : Option Gap) (built : List Row) (e : Scaffold × Option (Fragment × List Gap))
    (es : List (Scaffold × Option (Fragment × List Gap))) :
    joinExtra jg built [] = built ∧
    joinExtra jg built (e :: es) = joinExtra jg (built ++ gapsBeforeLeftover jg built e.2 ++ e.1.rows) es := ⟨rfl, rfl⟩

/-- **the spec function**: store contributors first, then left-over contributors -/
theorem joinedRows_def (jg : Option Gap) (rs : List Res) (es : List (Scaffold × Option (Fragment × List Gap))) :
    joinedRows jg rs es = joinExtra jg (joinStore jg [] rs) es := rfl

/-- closed form of the store part (every contributor has rows): the first contributor's rows, then for each later
    contributor `joinGapRows jg` — the join-gap row if configured, nothing otherwise — and its rows -/
theorem joinStore_closed_form (jg : Option Gap) (r : Res) (rs : List Res) (h : r.o.rows ≠ []) :
    joinStore jg [] (r :: rs) = r.o.toScaffoldRows ++ rs.flatMap (fun x => joinGapRows jg ++ x.o.toScaffoldRows) ∧
    joinGapRows jg = (match jg with | some g => [Row.gap g] | none => []) :=
  ⟨joinStore_closed jg r rs (OverlapResult.toScaffoldRows_ne_nil _ h), rfl⟩

theorem onlyHome_iff (outs : List OutAsm) (a : OutAsm) (s : Scaffold) (T : List Row) :
    OnlyHome outs a s T ↔
      ∀ a' ∈ outs, ∀ s' ∈ a'.scaffolds, ∀ g f', Row.frag g ∈ T → Row.frag f' ∈ s'.rows →
        f'.name = g.name → (∃ y, g.start ≤ y ∧ y ≤ g.stop ∧ f'.start ≤ y ∧ y ≤ f'.stop) → a' = a ∧ s' = s := Iff.rfl

/-! ## O1 — the rows of a fused scaffold -/

/-- **O1.**  For EVERY build `b` (no hypothesis):
    * the fused scaffolds have pairwise different `(tag, haplotype, name)`;
    * every fused scaffold `s` has exactly the rows `joinedRows b.joinGap cs es`, where `cs = storeContributors b k` is the
      sub-list, IN STORE ORDER, of the stored results with `added`, `rows ≠ []` and key `k = (s.tag, s.haplotype, s.name)`,
      and `es = extraContributors b k` the left-over scaffolds with that key in `extra` order: the contributors' row lists
      (`to_scaffold()` rows, resp. the left-over's rows) joined by exactly the separators the model inserts — the join-gap
      row between store results when configured, `gaps_before_leftover` in front of a left-over;
    * `s` has at least one contributor. -/
theorem fuse_rows_decomposition (b : Build) :
    ((fuseByName b).map triple).Nodup ∧
    ∀ s ∈ fuseByName b,
      s.rows = joinedRows b.joinGap (storeContributors b (s.tag, s.haplotype, s.name))
                 (extraContributors b (s.tag, s.haplotype, s.name)) ∧
      (storeContributors b (s.tag, s.haplotype, s.name) ≠ [] ∨ extraContributors b (s.tag, s.haplotype, s.name) ≠ []) :=
  fuseByName_rows b

/-- … and conversely every key with at least one contributor has its fused scaffold (unique by O1) -/
theorem fuse_has_scaffold (b : Build) (k : FKey)
    (h : storeContributors b k ≠ [] ∨ extraContributors b k ≠ []) : ∃ s ∈ fuseByName b, triple s = k := by
  obtain ⟨s, hs, ht, _⟩ := Fuse.fused_of_key ((mem_firstKeys_iff b k).2 h)
  exact ⟨s, hs, ht⟩

/-- the order inside one fused scaffold, at build level: two contributors `i < j` of key `k` -/
theorem fuse_pretext_order (b : Build) (i j : Nat) (ri rj : Res) (hij : i < j)
    (hi : b.store[i]? = some ri) (hj : b.store[j]? = some rj) (k : FKey)
    (ci : isStoreContributor k ri = true) (cj : isStoreContributor k rj = true) :
    ∃ s ∈ fuseByName b, triple s = k ∧
      ∃ A B C, s.rows = A ++ ri.o.toScaffoldRows ++ B ++ rj.o.toScaffoldRows ++ C :=
  fuse_order b i j ri rj hij hi hj k ci cj

/-- left-overs come after all store results of their key -/
theorem leftovers_come_last (b : Build) (ri : Res) (e : Scaffold × Option (Fragment × List Gap))
    (hi : ri ∈ b.store) (he : e ∈ b.extra) (k : FKey)
    (ci : isStoreContributor k ri = true) (ce : isExtraContributor k e = true) :
    ∃ s ∈ fuseByName b, triple s = k ∧
      ∃ A B C, s.rows = A ++ ri.o.toScaffoldRows ++ B ++ e.1.rows ++ C := by
  obtain ⟨P, Q, hst⟩ := List.append_of_mem hi
  obtain ⟨E, F, hex⟩ := List.append_of_mem he
  have hg := group_eq_contributors b k
  unfold storeContributors extraContributors at hg
  rw [hst, hex, List.filter_append, List.filter_cons_of_pos ci, List.filter_append, List.filter_cons_of_pos ce] at hg
  simp only [List.map_append, List.map_cons, List.append_assoc, List.cons_append] at hg
  exact Fuse.fused_order b k ((P.filter (isStoreContributor k)).map (Fuse.resItem b))
    ((Q.filter (isStoreContributor k)).map (Fuse.resItem b) ++ (E.filter (isExtraContributor k)).map (Fuse.extraItem b))
    ((F.filter (isExtraContributor k)).map (Fuse.extraItem b)) (Fuse.resItem b ri) (Fuse.extraItem b e)
    (by rw [hg, List.append_assoc])

/-! ### O1, non-vacuity: three parts under one key, one part under another (C01's example extended) -/

private def ojg : Gap := { length := 200, gapType := "scaffold".toList }
private def ofa : Fragment := { oid := 1, name := ['a'], start := 1, stop := 10, strand := 1 }
private def ofb : Fragment := { oid := 2, name := ['b'], start := 1, stop := 20, strand := 1 }
private def ofc : Fragment := { oid := 3, name := ['c'], start := 1, stop := 5, strand := 1 }
private def ofd : Fragment := { oid := 4, name := ['d'], start := 1, stop := 7, strand := 1 }
private def obx : Build :=
  { namer := { autosomePrefix := [] }, nextOid := 5, joinGap := some ojg, err := 1,
    store := [ { o := { bait := { ofa with strand := -1 }, start := 1, stop := 10, rows := [.frag ofa], name := ['S'] }, added := true },
               { o := { bait := ofd, start := 1, stop := 7, rows := [.frag ofd], name := ['T'] }, added := true },
               { o := { bait := ofb, start := 1, stop := 20, rows := [.frag ofb], name := ['S'] }, added := true } ],
    extra := [ ({ name := ['S'], rows := [.frag ofc] }, none) ] }
/-- the contributors of key `(none, none, "S")`: results 0 and 2 (result 1 has another key), then the left-over; the spec
    function evaluated; and `fuseByName` agrees -/
example :
    (storeContributors obx (none, none, ['S'])).map (·.o.bait.name) = [['a'], ['b']] ∧
    (extraContributors obx (none, none, ['S'])).length = 1 ∧
    joinedRows obx.joinGap (storeContributors obx (none, none, ['S'])) (extraContributors obx (none, none, ['S'])) =
      [.frag ofa.reverse, .gap ojg, .frag ofb, .gap ojg, .frag ofc] ∧
    (fuseByName obx).map (fun s => (s.name, s.rows)) =
      [(['S'], [.frag ofa.reverse, .gap ojg, .frag ofb, .gap ojg, .frag ofc]), (['T'], [.frag ofd])] := by decide +kernel
/-- hypotheses of `fuse_pretext_order` / `leftovers_come_last` on this build -/
example : obx.store[0]? = some obx.store[0] ∧ obx.store[2]? = some obx.store[2] ∧
    isStoreContributor (none, none, ['S']) obx.store[0] = true ∧ isStoreContributor (none, none, ['S']) obx.store[2] = true ∧
    isExtraContributor (none, none, ['S']) ({ name := ['S'], rows := [.frag ofc] }, none) = true := by decide +kernel

/-! ## O2 — the output of `remap` -/

/-- **O2.**  EVERY map: `remap input ptx prefix joinGap err` completes with `(outs, stats)`; `b` is the build
    `remap_to_input_assembly` returned.  For any two store indices `i < j` whose results `ri`, `rj` were added, still have
    rows, and have the same key `(tag, haplotype, name)`:
    * there is the fused scaffold `s0` of that key — the only one (`∀ s1 …`);
    * `s0` sits, renamed at most (`noName s = noName s0`: all fields but `name` equal), as scaffold `s` in the output
      assembly `a` with key `routeKey tag haplotype` (the keys of `outs` are pairwise different: "the" assembly);
    * `s.rows = A ++ ri.o.toScaffoldRows ++ B ++ rj.o.toScaffoldRows ++ C`: every row of piece `i` comes before every row
      of piece `j`.
    Since store order is the order of `C09.pieces` (`remap_pretext_order_pieces`), this is the clause of C02 — for pieces
    of one Pretext scaffold, and more generally for any two pieces that end up in one scaffold. -/
theorem remap_pretext_order (input ptx : List Scaffold) (prefix_ : Str) (joinGap : Option Gap) (err : Int)
    (outs : List OutAsm) (stats : Stats) (h : remap input ptx prefix_ joinGap err = .ok (outs, stats)) :
    ∃ b, remapToInput input ptx prefix_ joinGap err = .ok b ∧ (outs.map (·.key)).Nodup ∧
      ∀ (i j : Nat) (ri rj : Res), i < j → b.store[i]? = some ri → b.store[j]? = some rj →
        ri.added = true → ri.o.rows ≠ [] → rj.added = true → rj.o.rows ≠ [] →
        (ri.o.tag, ri.o.haplotype, ri.o.name) = (rj.o.tag, rj.o.haplotype, rj.o.name) →
        ∃ s0 ∈ fuseByName b, triple s0 = (ri.o.tag, ri.o.haplotype, ri.o.name) ∧
          (∀ s1 ∈ fuseByName b, triple s1 = (ri.o.tag, ri.o.haplotype, ri.o.name) → s1 = s0) ∧
          ∃ a ∈ outs, a.key = routeKey ri.o.tag ri.o.haplotype ∧
            ∃ s ∈ a.scaffolds, noName s = noName s0 ∧ s.tag = ri.o.tag ∧ s.haplotype = ri.o.haplotype ∧
              ∃ A B C, s.rows = A ++ ri.o.toScaffoldRows ++ B ++ rj.o.toScaffoldRows ++ C := by
  obtain ⟨b, hb, haf⟩ := Pipeline.remap_ok_iff.1 h
  refine ⟨b, hb, (C09.assembliesFused_route input b outs stats haf).1, ?_⟩
  intro i j ri rj hij hi hj ai ni aj nj hk
  obtain ⟨s0, hs0, hk0, huniq, a, ha, hak, s, hs, hn, hdec⟩ :=
    output_order input b outs stats haf i j ri rj hij hi hj ai ni aj nj hk
  obtain ⟨_, f2, f3, _⟩ := C09.noName_fields hn
  refine ⟨s0, hs0, hk0, huniq, a, ha, hak, s, hs, hn, ?_, ?_, hdec⟩
  · rw [f2]; exact congrArg (·.1) hk0
  · rw [f3]; exact congrArg (·.2.1) hk0

/-- `noName` (C09): what the later stages never change -/
theorem noName_eq_iff (s s' : Scaffold) :
    noName s' = noName s →
      s'.rows = s.rows ∧ s'.tag = s.tag ∧ s'.haplotype = s.haplotype ∧ s'.rank = s.rank ∧
      s'.originalName = s.originalName ∧ s'.originalTags = s.originalTags :=
  C09.noName_fields

/-- **"exactly one", structurally (every map).**  All scaffolds of all output assemblies together are a permutation of
    a list `fs2` that equals the list of fused scaffolds field by field except for `name`: `assembliesFused` distributes,
    renames and sorts — no fused scaffold is written twice, dropped, split or merged.  Together with O1 (fused keys
    pairwise different) and O2 the scaffold holding two pieces of one key exists exactly once. -/
theorem remap_outputs_are_fused (input ptx : List Scaffold) (prefix_ : Str) (joinGap : Option Gap) (err : Int)
    (outs : List OutAsm) (stats : Stats) (h : remap input ptx prefix_ joinGap err = .ok (outs, stats)) :
    ∃ b, remapToInput input ptx prefix_ joinGap err = .ok b ∧
      ∃ fs2 : List Scaffold, fs2.map noName = (fuseByName b).map noName ∧ (outs.flatMap (·.scaffolds)).Perm fs2 := by
  obtain ⟨b, hb, haf⟩ := Pipeline.remap_ok_iff.1 h
  obtain ⟨fs2, hn, rfl, _⟩ := C09.assembliesFused_noName haf
  have hlen : fs2.length = (fuseByName b).length := by simpa using congrArg List.length hn
  have hids := (C09.splitLoop_ids b.namer.autosomePrefix (fuseByName b)).map fun sid => fs2.getD sid default
  rw [← hlen, range_map_getD] at hids
  exact ⟨b, hb, fs2, hn, (C09.outsOf_scaffolds fs2 _).trans hids⟩

/-- **Every output scaffold, completely (every map).**  Each scaffold `s` of each output assembly is (renamed at most) the
    fused scaffold of some key `k = (s.tag, s.haplotype, name before renaming)`, and its rows are EXACTLY
    `joinedRows joinGap (storeContributors b k) (extraContributors b k)`: ALL stored results with that key, in store order
    = Pretext order, joined by the join-gap row, then the left-overs with that key.  So not only do two pieces of one
    destination keep their order — the whole scaffold is the Pretext-ordered concatenation of its pieces. -/
theorem remap_output_rows (input ptx : List Scaffold) (prefix_ : Str) (joinGap : Option Gap) (err : Int)
    (outs : List OutAsm) (stats : Stats) (h : remap input ptx prefix_ joinGap err = .ok (outs, stats)) :
    ∃ b, remapToInput input ptx prefix_ joinGap err = .ok b ∧
      ∀ a ∈ outs, ∀ s ∈ a.scaffolds, a.key = routeKey s.tag s.haplotype ∧
        ∃ nm : Str, (∃ s0 ∈ fuseByName b, noName s = noName s0 ∧ s0.name = nm) ∧
          s.rows = joinedRows b.joinGap (storeContributors b (s.tag, s.haplotype, nm))
                     (extraContributors b (s.tag, s.haplotype, nm)) ∧
          (storeContributors b (s.tag, s.haplotype, nm) ≠ [] ∨ extraContributors b (s.tag, s.haplotype, nm) ≠ []) := by
  obtain ⟨b, hb, haf⟩ := Pipeline.remap_ok_iff.1 h
  refine ⟨b, hb, ?_⟩
  obtain ⟨_, _, hfrom⟩ := C09.assembliesFused_route input b outs stats haf
  intro a ha s hs
  obtain ⟨s0, hs0, hn, hk⟩ := hfrom a ha s hs
  obtain ⟨f1, f2, f3, _⟩ := C09.noName_fields hn
  obtain ⟨hr, hne⟩ := (fuseByName_rows b).2 s0 hs0
  refine ⟨by rw [hk, f2, f3], s0.name, ⟨s0, hs0, hn, rfl⟩, ?_, ?_⟩
  · rw [f1, f2, f3]; exact hr
  · rw [f2, f3]; exact hne

/-- **O2 by Pretext pieces.**  The `sid`-th stored result belongs to the `sid`-th piece `(seen, S, p)` of
    `C09.pieces input false ptx` — the Pretext fragments whose lookup finds something, Pretext scaffolds in file order,
    fragments in row order.  So for two pieces `ci` BEFORE `cj` in the Pretext map (`i < j`; in particular two pieces of
    one Pretext scaffold `S`, `ci.2.1 = cj.2.1 = S`) there are their stored results `ri`, `rj` (bait = the piece, original
    name = the Pretext scaffold's name), and if both were added, still have rows and share the key, O2's conclusion holds. -/
theorem remap_pretext_order_pieces (input ptx : List Scaffold) (prefix_ : Str) (joinGap : Option Gap) (err : Int)
    (outs : List OutAsm) (stats : Stats) (h : remap input ptx prefix_ joinGap err = .ok (outs, stats)) :
    ∃ b, remapToInput input ptx prefix_ joinGap err = .ok b ∧
      b.store.length = (C09.pieces input false ptx).length ∧
      ∀ (i j : Nat) (ci cj : Bool × Scaffold × Fragment), i < j →
        (C09.pieces input false ptx)[i]? = some ci → (C09.pieces input false ptx)[j]? = some cj →
        ∃ ri rj, b.store[i]? = some ri ∧ b.store[j]? = some rj ∧
          ri.o.bait = ci.2.2 ∧ rj.o.bait = cj.2.2 ∧
          ri.o.originalName = some ci.2.1.name ∧ rj.o.originalName = some cj.2.1.name ∧
          (ri.added = true → ri.o.rows ≠ [] → rj.added = true → rj.o.rows ≠ [] →
            (ri.o.tag, ri.o.haplotype, ri.o.name) = (rj.o.tag, rj.o.haplotype, rj.o.name) →
            ∃ a ∈ outs, a.key = routeKey ri.o.tag ri.o.haplotype ∧
              ∃ s ∈ a.scaffolds, s.tag = ri.o.tag ∧ s.haplotype = ri.o.haplotype ∧
                ∃ A B C, s.rows = A ++ ri.o.toScaffoldRows ++ B ++ rj.o.toScaffoldRows ++ C) := by
  obtain ⟨b, hb, _, hord⟩ := remap_pretext_order input ptx prefix_ joinGap err outs stats h
  obtain ⟨hview, hpiece, _⟩ := C09.piece_tag input ptx prefix_ joinGap err b hb
  refine ⟨b, hb, by simpa using congrArg List.length hview, ?_⟩
  intro i j ci cj hij hci hcj
  obtain ⟨ri, hri, _, oi, _, bi⟩ := hpiece i ci hci
  obtain ⟨rj, hrj, _, oj, _, bj⟩ := hpiece j cj hcj
  refine ⟨ri, rj, hri, hrj, bi, bj, oi, oj, ?_⟩
  intro ai ni aj nj hk
  obtain ⟨_, _, _, _, a, ha, hak, s, hs, _, t1, t2, hdec⟩ := hord i j ri rj hij hri hrj ai ni aj nj hk
  exact ⟨a, ha, hak, s, hs, t1, t2, hdec⟩

/-- **"exactly one", by content (well-formed input).**  With `C01.WFInput input` in addition: the scaffold `s` of
    assembly `a` that O2 provides is the ONLY place of the whole output holding a contig base of piece `i` or of piece
    `j` (`OnlyHome`, see `onlyHome_iff`): any fragment of any scaffold of any assembly that shares a base with a fragment
    row of either piece lies in `s`, in `a`. -/
theorem remap_pretext_order_unique (input ptx : List Scaffold) (prefix_ : Str) (joinGap : Option Gap) (err : Int)
    (outs : List OutAsm) (stats : Stats) (hwf : WFInput input)
    (h : remap input ptx prefix_ joinGap err = .ok (outs, stats)) :
    ∃ b, remapToInput input ptx prefix_ joinGap err = .ok b ∧
      ∀ (i j : Nat) (ri rj : Res), i < j → b.store[i]? = some ri → b.store[j]? = some rj →
        ri.added = true → ri.o.rows ≠ [] → rj.added = true → rj.o.rows ≠ [] →
        (ri.o.tag, ri.o.haplotype, ri.o.name) = (rj.o.tag, rj.o.haplotype, rj.o.name) →
        ∃ a ∈ outs, a.key = routeKey ri.o.tag ri.o.haplotype ∧
          ∃ s ∈ a.scaffolds, s.tag = ri.o.tag ∧ s.haplotype = ri.o.haplotype ∧
            (∃ A B C, s.rows = A ++ ri.o.toScaffoldRows ++ B ++ rj.o.toScaffoldRows ++ C) ∧
            OnlyHome outs a s ri.o.toScaffoldRows ∧ OnlyHome outs a s rj.o.toScaffoldRows := by
  obtain ⟨b, hb, _, hord⟩ := remap_pretext_order input ptx prefix_ joinGap err outs stats h
  refine ⟨b, hb, ?_⟩
  intro i j ri rj hij hi hj ai ni aj nj hk
  obtain ⟨_, _, _, _, a, ha, hak, s, hs, _, t1, t2, A, B, C, hdec⟩ := hord i j ri rj hij hi hj ai ni aj nj hk
  refine ⟨a, ha, hak, s, hs, t1, t2, ⟨A, B, C, hdec⟩, ?_, ?_⟩
  · exact order_unique input ptx prefix_ joinGap err outs stats hwf h a ha s hs _
      ⟨A, B ++ rj.o.toScaffoldRows ++ C, by rw [hdec]; simp only [List.append_assoc]⟩
  · exact order_unique input ptx prefix_ joinGap err outs stats hwf h a ha s hs _
      ⟨A ++ ri.o.toScaffoldRows ++ B, C, by rw [hdec]⟩

/-- **Same output scaffold ⇒ same key (well-formed input).**  The converse direction of "share a destination": if ONE
    output scaffold holds a fragment row of the (added, non-empty) stored result `ri` and one of `rj`, the two results have
    the same `(tag, haplotype, name)` — two different fused scaffolds are never merged or confused by renaming. -/
theorem same_destination_same_key (input ptx : List Scaffold) (prefix_ : Str) (joinGap : Option Gap) (err : Int)
    (outs : List OutAsm) (stats : Stats) (hwf : WFInput input)
    (h : remap input ptx prefix_ joinGap err = .ok (outs, stats)) :
    ∃ b, remapToInput input ptx prefix_ joinGap err = .ok b ∧
      ∀ ri ∈ b.store, ∀ rj ∈ b.store, ri.added = true → ri.o.rows ≠ [] → rj.added = true → rj.o.rows ≠ [] →
        ∀ a ∈ outs, ∀ s ∈ a.scaffolds, ∀ gi gj, Row.frag gi ∈ ri.o.toScaffoldRows → Row.frag gj ∈ rj.o.toScaffoldRows →
          Row.frag gi ∈ s.rows → Row.frag gj ∈ s.rows →
          (ri.o.tag, ri.o.haplotype, ri.o.name) = (rj.o.tag, rj.o.haplotype, rj.o.name) := by
  obtain ⟨b, hb, haf⟩ := Pipeline.remap_ok_iff.1 h
  refine ⟨b, hb, ?_⟩
  intro ri hi rj hj ai ni aj nj a ha s hs gi gj hgi hgj hsi hsj
  exact same_scaffold_same_key input ptx prefix_ joinGap err outs stats hwf h b haf ri rj hi hj ai ni aj nj a ha s hs
    gi gj hgi hgj hsi hsj

/-! ## O3 — the cores of two pieces, in Pretext order -/

/-- a contig row of the input scaffold that is kept in a result (`RowKept`, K2) shows up in `to_scaffold()` as a fragment
    with the same contig name, inside the original interval -/
theorem rowKept_in_toScaffoldRows {o : OverlapResult} {f : Fragment} {xs : Int} {L : List Row} {row : Row} {R : List Row}
    {dl dr : Int} (hk : RowKept o f xs L row R dl dr) :
    ∃ g, Row.frag g ∈ o.toScaffoldRows ∧ g.name = f.name ∧ f.start ≤ g.start ∧ g.stop ≤ f.stop := by
  obtain ⟨f1, g1, e1, e2, hn, _, hco⟩ := hk.short
  cases e2
  have hmem : Row.frag f1 ∈ o.rows := by rw [hk.rows, e1]; simp
  obtain ⟨g, hg, hkey⟩ := frag_mem_toScaffoldRows hmem
  simp only [Fragment.keyTuple, Prod.mk.injEq] at hkey
  have d1 := hk.dl0
  have d2 := hk.dr0
  refine ⟨g, hg, hkey.1.trans hn, ?_, ?_⟩
  · rw [hkey.2.1]; split at hco <;> omega
  · rw [hkey.2.2]; split at hco <;> omega

/-- **O3.**  Hypotheses of K3 (`remap_core_in_one_scaffold`): well-formed input without negative gap lengths, pairwise
    disjoint baits, `err ≥ 0`, `remap` completes.  Take two pieces `ci = (_, Si, pi)` BEFORE `cj = (_, Sj, pj)` of the
    Pretext map (`i < j` in `C09.pieces`; e.g. two pieces of ONE Pretext scaffold), with stored results `ri`, `rj` and
    input scaffolds `sci`, `scj`, and let the core of each hold a contig base (`xi`, `xj`).  Then
    * each piece has its home: output assemblies `ai`, `aj` and scaffolds `si`, `sj` holding `to_scaffold()` of the
      result as one block, the only place of the output with sequence of that piece (K3);
    * every contig row of `sci` with a base in the core of piece `i` is a fragment row of block `i` (same contig,
      inside the original interval — shortened only if terminal, outside the core: K2), and likewise for `j`;
    * the pieces share a destination — `(ai, si) = (aj, sj)` — IF AND ONLY IF the stored results have the same key
      `(tag, haplotype, name)`;
    * and then `si.rows = A ++ block i ++ B ++ block j ++ C`: the cores appear in Pretext order. -/
theorem core_order (input ptx : List Scaffold) (prefix_ : Str) (joinGap : Option Gap) (err : Int)
    (outs : List OutAsm) (stats : Stats)
    (hwf : WFInput input) (hnn : InputNonNeg input) (hdis : PtxDisjoint ptx) (herr : 0 ≤ err)
    (h : remap input ptx prefix_ joinGap err = .ok (outs, stats)) :
    ∃ b, remapToInput input ptx prefix_ joinGap err = .ok b ∧
      ∀ (i j : Nat) (ci cj : Bool × Scaffold × Fragment), i < j →
        (C09.pieces input false ptx)[i]? = some ci → (C09.pieces input false ptx)[j]? = some cj →
        ∃ ri rj sci scj, b.store[i]? = some ri ∧ b.store[j]? = some rj ∧ ri.o.bait = ci.2.2 ∧ rj.o.bait = cj.2.2 ∧
          sci ∈ input ∧ sci.name = ci.2.2.name ∧ scj ∈ input ∧ scj.name = cj.2.2.name ∧
          ∀ xi xj, ContigAt sci.rows xi → ci.2.2.start + 3 * err ≤ xi → xi ≤ ci.2.2.stop - 3 * err →
            ContigAt scj.rows xj → cj.2.2.start + 3 * err ≤ xj → xj ≤ cj.2.2.stop - 3 * err →
            ∃ ai ∈ outs, ∃ si ∈ ai.scaffolds, ∃ aj ∈ outs, ∃ sj ∈ aj.scaffolds,
              ai.key = routeKey ri.o.tag ri.o.haplotype ∧ aj.key = routeKey rj.o.tag rj.o.haplotype ∧
              ri.o.toScaffoldRows <:+: si.rows ∧ rj.o.toScaffoldRows <:+: sj.rows ∧
              OnlyHome outs ai si ri.o.toScaffoldRows ∧ OnlyHome outs aj sj rj.o.toScaffoldRows ∧
              (∀ (X Y : List Row) (f : Fragment) (x : Int), sci.rows = X ++ .frag f :: Y →
                rowsLength X < x → x ≤ rowsLength X + f.length → ci.2.2.start + 3 * err ≤ x → x ≤ ci.2.2.stop - 3 * err →
                ∃ g, Row.frag g ∈ ri.o.toScaffoldRows ∧ g.name = f.name ∧ f.start ≤ g.start ∧ g.stop ≤ f.stop) ∧
              (∀ (X Y : List Row) (f : Fragment) (x : Int), scj.rows = X ++ .frag f :: Y →
                rowsLength X < x → x ≤ rowsLength X + f.length → cj.2.2.start + 3 * err ≤ x → x ≤ cj.2.2.stop - 3 * err →
                ∃ g, Row.frag g ∈ rj.o.toScaffoldRows ∧ g.name = f.name ∧ f.start ≤ g.start ∧ g.stop ≤ f.stop) ∧
              ((ai = aj ∧ si = sj) ↔
                (ri.o.tag, ri.o.haplotype, ri.o.name) = (rj.o.tag, rj.o.haplotype, rj.o.name)) ∧
              ((ai = aj ∧ si = sj) →
                ∃ A B C, si.rows = A ++ ri.o.toScaffoldRows ++ B ++ rj.o.toScaffoldRows ++ C) := by
  obtain ⟨b, hb, haf⟩ := Pipeline.remap_ok_iff.1 h
  refine ⟨b, hb, ?_⟩
  obtain ⟨b3, hb3, hK3⟩ := remap_core_in_one_scaffold input ptx prefix_ joinGap err outs stats hwf hnn hdis herr h
  have e3 : b3 = b := Except.ok.inj (hb3.symm.trans hb)
  subst e3
  obtain ⟨_, hK2⟩ := remap_keeps_core input ptx prefix_ joinGap err b3 hwf hnn hdis herr hb
  intro i j ci cj hij hci hcj
  obtain ⟨ri, sci, hri, bi, hsci, nmi, hcorei⟩ := hK3 i ci hci
  obtain ⟨rj, scj, hrj, bj, hscj, nmj, hcorej⟩ := hK3 j cj hcj
  refine ⟨ri, rj, sci, scj, hri, hrj, bi, bj, hsci, nmi, hscj, nmj, ?_⟩
  intro xi xj hxi i1 i2 hxj j1 j2
  obtain ⟨nei, addi, ai, hai, kai, si, hsi, _, _, infi, _, uniqi⟩ := hcorei xi hxi i1 i2
  obtain ⟨nej, addj, aj, haj, kaj, sj, hsj, _, _, infj, _, uniqj⟩ := hcorej xj hxj j1 j2
  -- the row form (K2), with K2's input scaffold identified with K3's through the distinct scaffold names
  have rowsOf : ∀ (k : Nat) (c : Bool × Scaffold × Fragment) (r : Res) (sc : Scaffold),
      (C09.pieces input false ptx)[k]? = some c → b3.store[k]? = some r → sc ∈ input → sc.name = c.2.2.name →
      ∀ (X Y : List Row) (f : Fragment) (x : Int), sc.rows = X ++ .frag f :: Y →
        rowsLength X < x → x ≤ rowsLength X + f.length → c.2.2.start + 3 * err ≤ x → x ≤ c.2.2.stop - 3 * err →
        ∃ g, Row.frag g ∈ r.o.toScaffoldRows ∧ g.name = f.name ∧ f.start ≤ g.start ∧ g.stop ≤ f.stop := by
    intro k c r sc hc hr hsc hnm X Y f x hs x1 x2 c1 c2
    obtain ⟨r', sc', _, hr', _, hsc', hnm', _, _, _, hrow⟩ := hK2 k c hc
    have er : r' = r := Option.some.inj (hr'.symm.trans hr)
    have es : sc' = sc := inj_of_nodup_map (·.name) hwf.1 sc' hsc' sc hsc (hnm'.trans hnm.symm)
    subst er; subst es
    obtain ⟨L, row, R, dl, dr, hk⟩ := hrow X Y f x hs x1 x2 c1 c2
    exact rowKept_in_toScaffoldRows hk
  have rowi := rowsOf i ci ri sci hci hri hsci nmi
  have rowj := rowsOf j cj rj scj hcj hrj hscj nmj
  -- a fragment of each block
  obtain ⟨Xi, fi, Yi, hsi', q1, q2⟩ := (contigAt_iff_span (hnn sci hsci) xi).1 hxi
  obtain ⟨gi, hgi, _, _, _⟩ := rowi Xi Yi fi xi hsi' q1 q2 i1 i2
  obtain ⟨Xj, fj, Yj, hsj', p1, p2⟩ := (contigAt_iff_span (hnn scj hscj) xj).1 hxj
  obtain ⟨gj, hgj, _, _, _⟩ := rowj Xj Yj fj xj hsj' p1 p2 j1 j2
  have hord := output_order input b3 outs stats haf i j ri rj hij hri hrj addi nei addj nej
  -- same key ⇒ the scaffold of O2 is the home of both
  have fromKey : (ri.o.tag, ri.o.haplotype, ri.o.name) = (rj.o.tag, rj.o.haplotype, rj.o.name) →
      (ai = aj ∧ si = sj) ∧ ∃ A B C, si.rows = A ++ ri.o.toScaffoldRows ++ B ++ rj.o.toScaffoldRows ++ C := by
    intro hk
    obtain ⟨_, _, _, _, a, ha, _, s, hs, _, A, B, C, hdec⟩ := hord hk
    have mi : Row.frag gi ∈ s.rows := by
      rw [hdec]; simp only [List.mem_append]; exact Or.inl (Or.inl (Or.inl (Or.inr hgi)))
    have mj : Row.frag gj ∈ s.rows := by
      rw [hdec]; simp only [List.mem_append]; exact Or.inl (Or.inr hgj)
    have vi := C09.output_fragment_valid input ptx prefix_ joinGap err outs stats hwf h a ha s hs gi mi
    have vj := C09.output_fragment_valid input ptx prefix_ joinGap err outs stats hwf h a ha s hs gj mj
    obtain ⟨ea, es⟩ := uniqi a ha s hs gi gi hgi mi rfl ⟨gi.start, Int.le_refl _, vi, Int.le_refl _, vi⟩
    obtain ⟨ea', es'⟩ := uniqj a ha s hs gj gj hgj mj rfl ⟨gj.start, Int.le_refl _, vj, Int.le_refl _, vj⟩
    refine ⟨⟨ea.symm.trans ea', es.symm.trans es'⟩, A, B, C, ?_⟩
    rw [← es]; exact hdec
  have toKey : (ai = aj ∧ si = sj) →
      (ri.o.tag, ri.o.haplotype, ri.o.name) = (rj.o.tag, rj.o.haplotype, rj.o.name) := by
    rintro ⟨ea, es⟩
    exact same_scaffold_same_key input ptx prefix_ joinGap err outs stats hwf h b3 haf ri rj
      (List.mem_of_getElem? hri) (List.mem_of_getElem? hrj) addi nei addj nej ai hai si hsi gi gj hgi hgj
      (infi.subset hgi) (es ▸ infj.subset hgj)
  exact ⟨ai, hai, si, hsi, aj, haj, sj, hsj, kai, kaj, infi, infj, uniqi, uniqj, rowi, rowj,
    ⟨toKey, fun hk => (fromKey hk).1⟩, fun hsame => (fromKey (toKey hsame)).2⟩

/-! ## non-vacuity of O2 / O3: C02Deep's example map (pieces swapped and reversed; 2 + 3 pieces fused into two scaffolds)

  Input `scaffold_1` = a1 1-100, gap, a2 111-190 (reverse contig), gap, a3 201-240;  `scaffold_2` = b1 1-80, gap, b2 86-145.
  Pretext `Scaffold_1` = scaffold_1:49-150 (−), scaffold_2:1-82;  `Scaffold_2` = scaffold_2:83-145, scaffold_1:151-240,
  scaffold_1:1-48 (−).  Unpainted, untagged: the pieces of `Scaffold_1` get the key `(none, none, "scaffold_1")` (name of
  the first row), those of `Scaffold_2` the key `(none, none, "scaffold_2")`. -/

private def okjg : Gap := { length := 200, gapType := "scaffold".toList }
private def okpc (n : Str) (s e st : Int) : Row := .frag { name := n, start := s, stop := e, strand := st }
private def okg10 : Gap := { length := 10, gapType := "scaffold".toList }
private def okg5 : Gap := { length := 5, gapType := "scaffold".toList }
private def oka1 : Fragment := { oid := 1, name := "ctgA1".toList, start := 1, stop := 100, strand := 1 }
private def oka2 : Fragment := { oid := 2, name := "ctgA2".toList, start := 1, stop := 80, strand := -1 }
private def oka3 : Fragment := { oid := 3, name := "ctgA3".toList, start := 1, stop := 40, strand := 1 }
private def okb1 : Fragment := { oid := 4, name := "ctgB1".toList, start := 1, stop := 80, strand := 1 }
private def okb2 : Fragment := { oid := 5, name := "ctgB2".toList, start := 1, stop := 60, strand := 1 }
private def oksA : Scaffold := { name := "scaffold_1".toList, rows := [.frag oka1, .gap okg10, .frag oka2, .gap okg10, .frag oka3] }
private def oksB : Scaffold := { name := "scaffold_2".toList, rows := [.frag okb1, .gap okg5, .frag okb2] }
private def okinp : List Scaffold := [oksA, oksB]
private def okP1 : Scaffold :=
  { name := "Scaffold_1".toList, rows := [okpc oksA.name 49 150 (-1), .gap okjg, okpc oksB.name 1 82 1] }
private def okP2 : Scaffold :=
  { name := "Scaffold_2".toList,
    rows := [okpc oksB.name 83 145 1, .gap okjg, okpc oksA.name 151 240 1, .gap okjg, okpc oksA.name 1 48 (-1)] }
private def okptx : List Scaffold := [okP1, okP2]

/-- what O2's hypotheses are about: `added`, "no rows", and the key of every stored result -/
private def okview (b : Build) : List (Bool × Bool × Option Str × Option Str × Str) :=
  b.store.map (fun r => (r.added, r.o.rows.isEmpty, r.o.tag, r.o.haplotype, r.o.name))

private def okexpected : List (Bool × Bool × Option Str × Option Str × Str) :=
  [(true, false, none, none, "scaffold_1".toList), (true, false, none, none, "scaffold_1".toList),
   (true, false, none, none, "scaffold_2".toList), (true, false, none, none, "scaffold_2".toList),
   (true, false, none, none, "scaffold_2".toList)]

/-- it is the demo map of `Proofs/C02DeepDemo`, where its runs are evaluated -/
private theorem okdemo : okinp = DeepDemo.inp ∧ okptx = DeepDemo.ptx ∧ okjg = DeepDemo.jg := ⟨rfl, rfl, rfl⟩

private theorem okdeep_view9 : (remapToInput okinp okptx "SUPER_".toList (some okjg) 9).toOption.map okview = some okexpected := by
  have h := map_view_of (DeepDemo.store9.trans DeepDemo.store5) (fun v => (v.added, v.noRows, v.tag, v.haplotype, v.name))
  simp only [List.map_cons, List.map_nil] at h
  rw [okdemo.1, okdemo.2.1, okdemo.2.2]; exact h

private theorem okdeep_view5 : (remapToInput okinp okptx "SUPER_".toList (some okjg) 5).toOption.map okview = some okexpected := by
  have h := map_view_of DeepDemo.store5 (fun v => (v.added, v.noRows, v.tag, v.haplotype, v.name))
  simp only [List.map_cons, List.map_nil] at h
  rw [okdemo.1, okdemo.2.1, okdemo.2.2]; exact h

private theorem okdeep_runs : ((remap okinp okptx "SUPER_".toList (some okjg) 9).toOption.map (fun r => r.2.cuts) = some 2) ∧
    ((remap okinp okptx "SUPER_".toList (some okjg) 5).toOption.map (fun r => r.2.cuts) = some 2) := by
  rw [okdemo.1, okdemo.2.1, okdemo.2.2]; exact ⟨(views_of_pair DeepDemo.run9).2, DeepDemo.cuts5⟩

/-- the hypotheses of O3 / `remap_pretext_order_unique` hold for this map -/
private theorem okdeep_hyps : WFInput okinp ∧ InputNonNeg okinp ∧ PtxDisjoint okptx := by
  rw [okdemo.1, okdemo.2.1]; exact DeepDemo.hyps

private theorem okview_entry (b : Build) (hv : okview b = okexpected) (i : Nat) (nm : Str)
    (hi : okexpected[i]? = some (true, false, none, none, nm)) :
    ∃ r, b.store[i]? = some r ∧ r.added = true ∧ r.o.rows ≠ [] ∧ (r.o.tag, r.o.haplotype, r.o.name) = (none, none, nm) := by
  obtain ⟨r, hr, e⟩ := entry_of_map_eq hv hi
  simp only [Prod.mk.injEq] at e
  refine ⟨r, hr, e.1, ?_, by rw [e.2.2.1, e.2.2.2.1, e.2.2.2.2]⟩
  intro h0; rw [h0] at e; simp at e

/-- **O2 instantiated** (texel 8 bp, `err = 9`, as in C02Deep): the first and the last piece of Pretext `Scaffold_2`
    (store indices 2 and 4; the piece in between, index 3, shares the key as well) lie in one scaffold of the primary
    assembly, the rows of piece 2 before the rows of piece 4.  All hypotheses of `remap_pretext_order` discharged. -/
example : ∃ outs stats b ri rj, remap okinp okptx "SUPER_".toList (some okjg) 9 = .ok (outs, stats) ∧
    remapToInput okinp okptx "SUPER_".toList (some okjg) 9 = .ok b ∧ b.store[2]? = some ri ∧ b.store[4]? = some rj ∧
    ∃ a ∈ outs, a.key = none ∧ ∃ s ∈ a.scaffolds,
      ∃ A B C, s.rows = A ++ ri.o.toScaffoldRows ++ B ++ rj.o.toScaffoldRows ++ C := by
  obtain ⟨⟨outs, stats⟩, hr, -⟩ := ok_of_view okdeep_runs.1
  obtain ⟨b, hb, _, hord⟩ := remap_pretext_order okinp okptx _ _ 9 outs stats hr
  obtain ⟨b', hb', hf⟩ := ok_of_view okdeep_view9
  cases hb.symm.trans hb'
  obtain ⟨ri, hri, ai, ni, ki⟩ := okview_entry b hf 2 "scaffold_2".toList rfl
  obtain ⟨rj, hrj, aj, nj, kj⟩ := okview_entry b hf 4 "scaffold_2".toList rfl
  obtain ⟨_, _, _, _, a, ha, hak, s, hs, _, _, _, hdec⟩ := hord 2 4 ri rj (by decide) hri hrj ai ni aj nj (ki.trans kj.symm)
  refine ⟨outs, stats, b, ri, rj, hr, hb, hri, hrj, a, ha, ?_, s, hs, hdec⟩
  have e1 : ri.o.tag = none := congrArg (·.1) ki
  have e2 : ri.o.haplotype = none := congrArg (·.2.1) ki
  rw [hak, e1, e2]; rfl

/-- the two pieces of Pretext `Scaffold_1` (store indices 0 and 1) likewise -/
example : ∃ outs stats b ri rj, remap okinp okptx "SUPER_".toList (some okjg) 9 = .ok (outs, stats) ∧
    remapToInput okinp okptx "SUPER_".toList (some okjg) 9 = .ok b ∧ b.store[0]? = some ri ∧ b.store[1]? = some rj ∧
    ∃ a ∈ outs, ∃ s ∈ a.scaffolds, ∃ A B C, s.rows = A ++ ri.o.toScaffoldRows ++ B ++ rj.o.toScaffoldRows ++ C := by
  obtain ⟨⟨outs, stats⟩, hr, -⟩ := ok_of_view okdeep_runs.1
  obtain ⟨b, hb, _, hord⟩ := remap_pretext_order okinp okptx _ _ 9 outs stats hr
  obtain ⟨b', hb', hf⟩ := ok_of_view okdeep_view9
  cases hb.symm.trans hb'
  obtain ⟨ri, hri, ai, ni, ki⟩ := okview_entry b hf 0 "scaffold_1".toList rfl
  obtain ⟨rj, hrj, aj, nj, kj⟩ := okview_entry b hf 1 "scaffold_1".toList rfl
  obtain ⟨_, _, _, _, a, ha, _, s, hs, _, _, _, hdec⟩ := hord 0 1 ri rj (by decide) hri hrj ai ni aj nj (ki.trans kj.symm)
  exact ⟨outs, stats, b, ri, rj, hr, hb, hri, hrj, a, ha, s, hs, hdec⟩

/-- **"exactly one" instantiated** (`remap_pretext_order_unique`; the input is well-formed): the scaffold holding pieces 0
    and 1 is the only place of the output with sequence of either -/
example : ∃ outs stats b ri rj, remap okinp okptx "SUPER_".toList (some okjg) 9 = .ok (outs, stats) ∧
    remapToInput okinp okptx "SUPER_".toList (some okjg) 9 = .ok b ∧ b.store[0]? = some ri ∧ b.store[1]? = some rj ∧
    ∃ a ∈ outs, ∃ s ∈ a.scaffolds, (∃ A B C, s.rows = A ++ ri.o.toScaffoldRows ++ B ++ rj.o.toScaffoldRows ++ C) ∧
      OnlyHome outs a s ri.o.toScaffoldRows ∧ OnlyHome outs a s rj.o.toScaffoldRows := by
  obtain ⟨⟨outs, stats⟩, hr, -⟩ := ok_of_view okdeep_runs.1
  obtain ⟨b, hb, hord⟩ := remap_pretext_order_unique okinp okptx _ _ 9 outs stats okdeep_hyps.1 hr
  obtain ⟨b', hb', hf⟩ := ok_of_view okdeep_view9
  cases hb.symm.trans hb'
  obtain ⟨ri, hri, ai, ni, ki⟩ := okview_entry b hf 0 "scaffold_1".toList rfl
  obtain ⟨rj, hrj, aj, nj, kj⟩ := okview_entry b hf 1 "scaffold_1".toList rfl
  obtain ⟨a, ha, _, s, hs, _, _, hdec, u1, u2⟩ := hord 0 1 ri rj (by decide) hri hrj ai ni aj nj (ki.trans kj.symm)
  exact ⟨outs, stats, b, ri, rj, hr, hb, hri, hrj, a, ha, s, hs, hdec, u1, u2⟩

set_option synthInstance.maxSize 1024 in
/-- … and what the kernel computes for that map, independently of the theorems: in `scaffold_2` the rows of piece 2
    (`ctgB2`), then piece 3 (`ctgA2:1-40`, `ctgA3`), then piece 4 (`ctgA1:1-48`, reversed) — Pretext order -/
example : (remap okinp okptx "SUPER_".toList (some okjg) 9).toOption.map
      (fun r => r.1.map (fun a => (a.key, a.scaffolds.map (fun s => (s.name, C01.keysOf s.rows))))) =
    some [(none, [("scaffold_1".toList, [("ctgA2".toList, 41, 80), ("ctgA1".toList, 49, 100), ("ctgB1".toList, 1, 80)]),
                  ("scaffold_2".toList, [("ctgB2".toList, 1, 60), ("ctgA2".toList, 1, 40), ("ctgA3".toList, 1, 40),
                                         ("ctgA1".toList, 1, 48)])])] := by
  rw [okdemo.1, okdemo.2.1, okdemo.2.2]; exact (views_of_pair DeepDemo.run9).1

/-- the hypotheses of O3 / `remap_pretext_order_unique` hold for this map (`err = 5`, margin 15, as in C02Core) -/
example : WFInput okinp ∧ InputNonNeg okinp ∧ PtxDisjoint okptx ∧ (0 : Int) ≤ 5 :=
  ⟨okdeep_hyps.1, okdeep_hyps.2.1, okdeep_hyps.2.2, by decide⟩

private def okc2 : Bool × Scaffold × Fragment := (false, okP2, { name := oksB.name, start := 83, stop := 145, strand := 1 })
private def okc4 : Bool × Scaffold × Fragment := (false, okP2, { name := oksA.name, start := 1, stop := 48, strand := -1 })

set_option synthInstance.maxSize 1024 in
private theorem okpieces : (C09.pieces okinp false okptx)[2]? = some okc2 ∧ (C09.pieces okinp false okptx)[4]? = some okc4 := by
  decide +kernel

/-- **O3 instantiated** (`err = 5`): pieces 2 and 4 are two pieces of ONE Pretext scaffold (`Scaffold_2`); the core of
    piece 2 (`[98, 130]` of `scaffold_2`) holds base 100 of contig b2, the core of piece 4 (`[16, 33]` of `scaffold_1`)
    holds base 20 of contig a1; their keys agree, so by `core_order` they have ONE home scaffold, whose rows are
    `A ++ block 2 ++ B ++ block 4 ++ C`, each block being the only place of the output with that piece's sequence. -/
example : ∃ outs stats b ri rj, remap okinp okptx "SUPER_".toList (some okjg) 5 = .ok (outs, stats) ∧
    remapToInput okinp okptx "SUPER_".toList (some okjg) 5 = .ok b ∧ b.store[2]? = some ri ∧ b.store[4]? = some rj ∧
    ∃ a ∈ outs, ∃ s ∈ a.scaffolds, OnlyHome outs a s ri.o.toScaffoldRows ∧ OnlyHome outs a s rj.o.toScaffoldRows ∧
      ∃ A B C, s.rows = A ++ ri.o.toScaffoldRows ++ B ++ rj.o.toScaffoldRows ++ C := by
  obtain ⟨⟨outs, stats⟩, hr, -⟩ := ok_of_view okdeep_runs.2
  obtain ⟨b, hb, hall⟩ := core_order okinp okptx _ _ 5 outs stats okdeep_hyps.1 okdeep_hyps.2.1 okdeep_hyps.2.2 (by decide) hr
  obtain ⟨b', hb', hf⟩ := ok_of_view okdeep_view5
  cases hb.symm.trans hb'
  obtain ⟨ri', hri', _, _, ki⟩ := okview_entry b hf 2 "scaffold_2".toList rfl
  obtain ⟨rj', hrj', _, _, kj⟩ := okview_entry b hf 4 "scaffold_2".toList rfl
  obtain ⟨ri, rj, sci, scj, hri, hrj, _, _, hsci, nmi, hscj, nmj, hcore⟩ := hall 2 4 okc2 okc4 (by decide) okpieces.1 okpieces.2
  have ei : ri' = ri := Option.some.inj (hri'.symm.trans hri)
  have ej : rj' = rj := Option.some.inj (hrj'.symm.trans hrj)
  subst ei; subst ej
  -- the scaffold a piece names is the one of that name: scaffold names are pairwise different
  simp only [okc2, okc4] at nmi nmj
  have e1 : sci = oksB := inj_of_nodup_map (·.name) okdeep_hyps.1.1 sci hsci oksB (by simp [okinp]) nmi
  have e2 : scj = oksA := inj_of_nodup_map (·.name) okdeep_hyps.1.1 scj hscj oksA (by simp [okinp]) nmj
  subst e1; subst e2
  obtain ⟨ai, hai, si, hsi, aj, haj, sj, hsj, _, _, _, _, ui, uj, _, _, hiff, hordr⟩ :=
    hcore 100 20 ⟨by decide, okb2, by decide +kernel⟩ (by decide) (by decide) ⟨by decide, oka1, by decide +kernel⟩ (by decide)
      (by decide)
  obtain ⟨ea, es⟩ := hiff.2 (ki.trans kj.symm)
  subst ea; subst es
  exact ⟨outs, stats, b, ri', rj', hr, hb, hri, hrj, ai, hai, si, hsi, ui, uj, hordr ⟨rfl, rfl⟩⟩

/-! ## remark R1: two DIFFERENT Pretext scaffolds, one destination

  Input `s` = c1 1-100, c2 101-200.  Pretext `P1` = s:101-200, `P2` = s:1-100, both unpainted and untagged: each takes the
  name of its first row's input scaffold, `s`, so both stored results have the key `(none, none, "s")` and are fused —
  in Pretext order (c2 first). -/

private def oc1 : Fragment := { oid := 1, name := "c1".toList, start := 1, stop := 100, strand := 1 }
private def oc2 : Fragment := { oid := 2, name := "c2".toList, start := 1, stop := 100, strand := 1 }
private def oin2 : List Scaffold := [{ name := "s".toList, rows := [.frag oc1, .frag oc2] }]
private def optx2 : List Scaffold :=
  [{ name := "P1".toList, rows := [okpc "s".toList 101 200 1] }, { name := "P2".toList, rows := [okpc "s".toList 1 100 1] }]

set_option synthInstance.maxSize 1024 in
theorem two_pretext_scaffolds_one_destination :
    (remapToInput oin2 optx2 [] (some okjg) 5).toOption.map
        (fun b => b.store.map (fun r => (r.added, r.o.originalName, r.o.tag, r.o.haplotype, r.o.name))) =
      some [(true, some "P1".toList, none, none, "s".toList), (true, some "P2".toList, none, none, "s".toList)] ∧
    (remap oin2 optx2 [] (some okjg) 5).toOption.map (fun r => r.1.map (fun a => (a.key, a.scaffolds.map (fun s => (s.name, s.rows))))) =
      some [(none, [("s".toList, [.frag oc2, .gap okjg, .frag oc1])])] := by
  constructor <;> decide +kernel

end AgpTpf.C02
