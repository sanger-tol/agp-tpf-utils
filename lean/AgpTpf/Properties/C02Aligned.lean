/-
  C02 (end-to-end placement for conflict-free maps) — contig-aligned Pretext maps are rearranged exactly.

  Generalises `Properties/C08.lean` (`unedited_map_reproduces_input`: every piece = one whole input scaffold, in place)
  to: every piece = ANY contiguous run of rows of an input scaffold that no other piece claims; pieces moved, reversed and
  regrouped into Pretext scaffolds freely; any subset of contigs claimed by no piece at all.
  Python: `BuildAssembly.remap_to_input_assembly`, `find_assembly_overlaps`, `add_missing_scaffolds_from_input`,
  `scaffolds_fused_by_name`, `assemblies_with_scaffolds_fused` (build_assembly.py).  Helpers: `Proofs/C02A*.lean`.

  HYPOTHESES — one predicate `Aligned input ptx err` (`Proofs/C02ALeft.lean`; Bool checker `alignedB`, `aligned_of_check` in `Proofs/C02AOut.lean`):
    * `names`     input scaffold names pairwise different (else `IndexedAssembly.add_scaffold` raises);
    * `lens`      no input row has negative length (monotone index);
    * `scaffolds` for every Pretext scaffold `S` (`ScaffoldAligned`): its first row is a fragment row (else
                  `make_scaffold_name` raises AttributeError), the name of that row does not look like `<hap>_…_<digits>`,
                  and every fragment row `p` of `S` (`PieceAligned`) has a lookup result
                  `lookupPiece input p = some o` (= the scaffold named `p.name` exists and `find_overlaps` on it returns
                  `o`) with `o.startOverhang ≤ err` and `o.endOverhang ≤ err` (nothing for `trim_large_overhangs` to
                  discard — cuts at or within the error length of contig boundaries), and carries no tags;
    * `disjoint`  `claimedKeys input ptx` — the `(name, start, end)` keys of the contigs of all lookup results, in Pretext
                  order — has no duplicate: no contig is claimed twice (so the resolver and `cut_fragments` have nothing
                  to do), and no lookup result contains a key twice;
    * `unclaimed` contigs claimed by no piece carry no tags and have names not shaped `<hap>_…_<digits>`.
    (Distinct oids and the other clauses of `C01.WFInput` are NOT needed: nothing is cut.)  Strands of the PIECES are
    unrestricted (`-1` reverses, anything else does not).  The join gap must be configured (`some jg`, as the CLI always
    does): without it `add_missing_scaffolds_from_input` can raise AttributeError.
  For the OUTPUT theorem additionally `NoClash input ptx jg`: the names of the fused scaffolds are pairwise different —
  an unpainted Pretext scaffold is named after its first row, i.e. after the INPUT scaffold of its first piece, and
  `scaffolds_fused_by_name` fuses everything with the same name.  See `same_first_scaffold_is_fused` (evaluated): without
  it two Pretext scaffolds — e.g. the two halves of a BREAK made in an unpainted scaffold — come out as ONE scaffold.

  PROVED (full strength for the untagged / unpainted class; no `_partial` theorem):
    `remap_to_input_aligned`   the build: `store = expectedStore` (one result per piece, Pretext order, labelled with the
                               Pretext scaffold's output name, rank 3), `extra = expectedExtra` (the left-over scaffolds:
                               `leftover` = `missingRows`, characterised by `leftover_exact` / `C01.missing_rows_exact`),
                               `multi = []`, `cuts = 0`
    `aligned_map_rearranges`   `remap = .ok (primaryOnly (expectedScaffolds input ptx jg), stats)` with `stats.cuts = 0`:
                               one primary curated assembly holding, in `smart_sort_scaffolds` order, for every Pretext
                               scaffold `S` the scaffold `pretextOut input jg S` with rows `expectedRows input jg S`, and
                               the left-over scaffolds
    `expected_rows_spelled_out` (b) `expectedRows` = first piece ++ (join gap :: next piece) ++ …, pieces in Pretext order
    `piece_is_contiguous_run`  (a) every piece's rows — `toScaffoldRows o`: the input rows `o.rows` (a contiguous run of the
                               input scaffold's rows, internal gaps kept), reversed with strands negated iff the piece is
                               on the minus strand — are one contiguous run of one scaffold of the output
    (c) no error: both theorems assert `= .ok …`.
  PAINTED VARIANT, also proved at full strength: `AlignedP` (as `Aligned`, but every piece carries exactly the tag
  `Painted` and every Pretext scaffold has a non-empty name), `NoClashP` (Pretext scaffold names pairwise different and
  different from the names of input scaffolds with left-overs), at least one Pretext scaffold:
    `remap_to_input_aligned_painted`  the build (results named after the PRETEXT scaffold, rank 1)
    `aligned_painted_map_rearranges`  `remap = .ok ([⟨none, true, smartSorted (expectedScaffoldsP …)⟩], stats)`, `cuts = 0`:
                               the scaffold of Pretext scaffold `S` has the SAME rows `expectedRows input jg S` as in the
                               unpainted case and is named `prefix ++ rank`, rank = 1 + position in the stable order by
                               non-increasing total contig length (`expected_scaffolds_painted_def`, `size_order_spec`);
                               left-over scaffolds keep their names.  So two halves of a break stay two scaffolds.
  NOT COVERED (restriction of the class, not a `_partial` proof): other tags, and maps mixing painted and unpainted
  scaffolds (needs the split-loop lemma for an arbitrary subset of rank-1 scaffolds instead of a prefix).
-/
import AgpTpf.Proofs.C02APaintOut
import AgpTpf.Proofs.ImpEval
namespace AgpTpf.C02
open AgpTpf

/-! ## the build -/

/-- **`remap_to_input_assembly` on an aligned map.** -/
theorem remap_to_input_aligned (input ptx : List Scaffold) (prefix_ : Str) (jg : Gap) (err : Int)
    (ha : Aligned input ptx err) :
    ∃ b, remapToInput input ptx prefix_ (some jg) err = .ok b ∧
      b.store = expectedStore input ptx ∧
      b.extra = expectedExtra (claimedKeys input ptx) jg input ∧
      b.multi = [] ∧ b.cuts = 0 ∧ b.joinGap = some jg ∧ b.namer.autosomePrefix = prefix_ :=
  Run.remapToInput_idle false input ptx prefix_ (some jg) err (fun sc => leftover (claimedKeys input ptx) jg sc.rows)
    ha.names (fun S hS => (ha.scaffolds S hS).kept) ha.disjoint
    (fun sc _ b hf hj => missingRows_eq_leftover b _ jg sc.rows hj hf) (fun sc hsc => leftPlain_leftover (ha.unclaimed sc hsc))

/-- what is stored for piece `p` of Pretext scaffold `S`: its lookup result, unchanged (bait, span, rows), named like the
    output scaffold of `S`, rank 3, no tag, no haplotype -/
theorem piece_res_fields (input : List Scaffold) (S : Scaffold) (p : Fragment) :
    (pieceRes input S p).added = true ∧ (pieceRes input S p).o.rows = (pieceO input p).rows ∧
    (pieceRes input S p).o.bait = (pieceO input p).bait ∧ (pieceRes input S p).o.start = (pieceO input p).start ∧
    (pieceRes input S p).o.stop = (pieceO input p).stop ∧ (pieceRes input S p).o.name = outName S ∧
    (pieceRes input S p).o.rank = 3 ∧ (pieceRes input S p).o.tag = none ∧ (pieceRes input S p).o.haplotype = none ∧
    (pieceRes input S p).o.originalName = some S.name :=
  ⟨rfl, rfl, rfl, rfl, rfl, rfl, rfl, rfl, rfl, rfl⟩

/-- the left-over rows of an input scaffold (`leftover`, = `missingRows`): exactly the unclaimed contigs, in input order,
    each once; never a gap row first or last.  (Separators: `C01.missing_rows_exact`.) -/
theorem leftover_exact (keys : List Key) (jg : Gap) (rows : List Row) :
    fragmentsOf (leftover keys jg rows).1 = (fragmentsOf rows).filter (fun f => !keys.contains f.keyTuple) ∧
    (∀ g, (leftover keys jg rows).1.head? ≠ some (.gap g)) ∧ (∀ g, (leftover keys jg rows).1.getLast? ≠ some (.gap g)) :=
  leftover_spec keys jg rows

/-! ## the output -/

/-- **C02, aligned maps.**  `remap` does not fail; it returns one primary, curated assembly (none at all iff there is
    nothing to output) whose scaffolds are, in `smart_sort_scaffolds` order, `expectedScaffolds input ptx jg`: for every
    Pretext scaffold `S` the scaffold `pretextOut input jg S` — rows `expectedRows input jg S`, named after the first row
    of `S`, rank 3 — followed by the left-over scaffolds; no cuts.
    (`hstr`: input strands ±1, so that junction sets exist — `make_stats` raises otherwise.) -/
theorem aligned_map_rearranges (input ptx : List Scaffold) (prefix_ : Str) (jg : Gap) (err : Int)
    (ha : Aligned input ptx err) (hnc : NoClash input ptx jg)
    (hstr : ∀ sc ∈ input, ∀ f ∈ sc.fragments, f.strand = 1 ∨ f.strand = -1) :
    ∃ stats, remap input ptx prefix_ (some jg) err = .ok (primaryOnly (expectedScaffolds input ptx jg), stats) ∧
      stats.cuts = 0 := by
  obtain ⟨b, hb, hstore, hextra, -, hcuts, hjg, -⟩ := remap_to_input_aligned input ptx prefix_ jg err ha
  have hfs := fuseByName_aligned input ptx jg err ha hnc b hjg hstore hextra
  obtain ⟨st, hst, hc⟩ := assembliesFused_plain input b _ hfs (expectedScaffolds_plain input ptx jg)
    (fun sc hsc => C08.junctionSet_ok_of_strands sc (hstr sc hsc))
    (expectedScaffolds_junctions input ptx jg err ha hstr)
  exact ⟨st, Pipeline.remap_ok_iff.2 ⟨b, hb, hst⟩, by rw [hc, hcuts]⟩

/-- the definitions the theorem is phrased with, unfolded -/
theorem expected_scaffolds_def (input ptx : List Scaffold) (jg : Gap) :
    expectedScaffolds input ptx jg =
      ptx.map (fun S => ({ name := outName S, rows := expectedRows input jg S, rank := 3,
                           originalName := some S.name, originalTags := some [] } : Scaffold)) ++
      (input.filterMap (leftoverEntry (claimedKeys input ptx) jg)).map (·.1) := rfl

theorem primary_only_def (fs : List Scaffold) :
    primaryOnly fs = if fs.isEmpty then [] else [{ key := none, curated := true, scaffolds := C20.smartSorted fs }] := rfl

/-- every scaffold of the output is one of the expected ones and vice versa (sorting permutes) -/
theorem output_scaffolds_perm (fs : List Scaffold) : (C20.smartSorted fs).Perm fs := stableSort_perm _ _

/-- **(b) pieces follow each other in Pretext order**, the join gap between consecutive pieces, nothing else -/
theorem expected_rows_spelled_out (input ptx : List Scaffold) (jg : Gap) (err : Int) (ha : Aligned input ptx err)
    (S : Scaffold) (hS : S ∈ ptx) :
    ∃ p0 ps, S.fragments = p0 :: ps ∧
      expectedRows input jg S =
        (pieceO input p0).toScaffoldRows ++ ps.flatMap (fun p => Row.gap jg :: (pieceO input p).toScaffoldRows) := by
  obtain ⟨f0, r0, hrows⟩ := (ha.scaffolds S hS).head
  have hf : S.fragments = f0 :: fragmentsOf r0 := by simp [Scaffold.fragments, hrows, fragmentsOf]
  exact ⟨f0, fragmentsOf r0, hf, expectedRows_eq input jg S f0 _ hf
    (pieceO_rows_ne ((ha.scaffolds S hS).pieces f0 (by rw [hf]; simp)).found)⟩

/-- **(a) every piece is one contiguous, collinear run in a single output scaffold**: its lookup result `o` is for the
    bait `p`, `o.rows` is a contiguous run of the rows of the input scaffold named `p.name`, and
    `toScaffoldRows o` — `o.rows` itself, or reversed with every strand negated iff `p.strand = -1` (input orientation ×
    piece orientation) — is a contiguous run of the rows of `pretextOut input jg S`. -/
theorem piece_is_contiguous_run (input ptx : List Scaffold) (jg : Gap) (err : Int) (ha : Aligned input ptx err)
    (S : Scaffold) (hS : S ∈ ptx) (p : Fragment) (hp : p ∈ S.fragments) :
    (∃ sc ∈ input, sc.name = p.name ∧ (pieceO input p).rows <:+: sc.rows) ∧ (pieceO input p).bait = p ∧
    (pieceO input p).toScaffoldRows =
      (if p.strand = -1 then (pieceO input p).rows.reverse.map Row.reverse else (pieceO input p).rows) ∧
    (pieceO input p).toScaffoldRows <:+: (pretextOut input jg S).rows := by
  obtain ⟨sc, hfind, hfo⟩ := lookupPiece_spec ((ha.scaffolds S hS).pieces p hp).found
  have hsc := List.mem_of_find?_eq_some hfind
  obtain ⟨hb, -, -, hinf⟩ := findOverlaps_fresh hfo
  refine ⟨⟨sc, hsc, by simpa using List.find?_some hfind, hinf⟩, hb, ?_, piece_infix input jg S p hp⟩
  unfold OverlapResult.toScaffoldRows
  rw [hb]

/-! ## the painted variant -/

/-- the build of a painted aligned map: as `remap_to_input_aligned`, results labelled `pieceResP` (named after the
    Pretext scaffold, rank 1, `originalTags = [Painted]`) -/
theorem remap_to_input_aligned_painted (input ptx : List Scaffold) (prefix_ : Str) (jg : Gap) (err : Int)
    (ha : AlignedP input ptx err) :
    ∃ b, remapToInput input ptx prefix_ (some jg) err = .ok b ∧
      b.store = expectedStoreP input ptx ∧
      b.extra = expectedExtra (claimedKeys input ptx) jg input ∧
      b.multi = [] ∧ b.cuts = 0 ∧ b.joinGap = some jg ∧ b.namer.autosomePrefix = prefix_ :=
  Run.remapToInput_idle true input ptx prefix_ (some jg) err (fun sc => leftover (claimedKeys input ptx) jg sc.rows)
    ha.names (fun S hS => (ha.scaffolds S hS).kept) ha.disjoint
    (fun sc _ b hf hj => missingRows_eq_leftover b _ jg sc.rows hj hf) (fun sc hsc => leftPlain_leftover (ha.unclaimed sc hsc))

/-- **C02, aligned painted maps.**  One primary curated assembly; its scaffolds are, in `smart_sort_scaffolds` order,
    `expectedScaffoldsP prefix input ptx jg`: for every Pretext scaffold the rows `expectedRows input jg S` under the name
    `prefix ++ rank-by-size`, then the left-over scaffolds under their input names; no cuts, no error. -/
theorem aligned_painted_map_rearranges (input ptx : List Scaffold) (prefix_ : Str) (jg : Gap) (err : Int)
    (ha : AlignedP input ptx err) (hnc : NoClashP input ptx jg) (hne : ptx ≠ [])
    (hstr : ∀ sc ∈ input, ∀ f ∈ sc.fragments, f.strand = 1 ∨ f.strand = -1) :
    ∃ stats, remap input ptx prefix_ (some jg) err =
        .ok ([{ key := none, curated := true,
                scaffolds := C20.smartSorted (expectedScaffoldsP prefix_ input ptx jg) }], stats) ∧
      stats.cuts = 0 := by
  obtain ⟨b, hb, hstore, hextra, -, hcuts, hjg, hpre⟩ := remap_to_input_aligned_painted input ptx prefix_ jg err ha
  have hfs := fuseByName_alignedP input ptx jg err ha hnc b hjg hstore hextra
  obtain ⟨st, hst, hc⟩ := assembliesFused_paintedPrefix input b _ ptx.length hfs
    (expectedFusedP_prefix input ptx jg err ha hnc hne)
    (fun sc hsc => C08.junctionSet_ok_of_strands sc (hstr sc hsc))
    (expectedFusedP_junctions input ptx jg err ha hstr)
  rw [hpre] at hst
  exact ⟨st, Pipeline.remap_ok_iff.2 ⟨b, hb, hst⟩, by rw [hc, hcuts]⟩

/-- `expectedScaffoldsP`, unfolded: the fused list `expectedFusedP` (Pretext scaffolds with rows `expectedRows`, rank 1;
    then the left-overs) with scaffold `i < ptx.length` renamed `prefix ++ (1 + position of i in the size order)` -/
theorem expected_scaffolds_painted_def (prefix_ : Str) (input ptx : List Scaffold) (jg : Gap) :
    expectedScaffoldsP prefix_ input ptx jg =
      (ptx.map (fun S => ({ name := S.name, rows := expectedRows input jg S, rank := 1, originalName := some S.name,
                            originalTags := some [sPainted] } : Scaffold)) ++
        (input.filterMap (leftoverEntry (claimedKeys input ptx) jg)).map (·.1)).mapIdx
        (fun i s => if i < ptx.length then
            { s with name := prefix_ ++ natToStr ((sizeOrderG (expectedFusedP input ptx jg) ptx.length).idxOf i + 1) }
          else s) := rfl

/-- the size order is a permutation of the Pretext scaffold indices, sorted by non-increasing total contig length
    (stable: ties keep Pretext order); renaming does not touch rows -/
theorem size_order_spec (prefix_ : Str) (input ptx : List Scaffold) (jg : Gap) :
    (sizeOrderG (expectedFusedP input ptx jg) ptx.length).Perm (List.range ptx.length) ∧
    (sizeOrderG (expectedFusedP input ptx jg) ptx.length).Pairwise
      (fun i j => C08.fragLen (expectedFusedP input ptx jg) i ≥ C08.fragLen (expectedFusedP input ptx jg) j) ∧
    (expectedScaffoldsP prefix_ input ptx jg).map (·.rows) = (expectedFusedP input ptx jg).map (·.rows) :=
  ⟨sizeOrderG_perm _ _, sizeOrderG_sorted _ _, namedBySize_rows _ _ _⟩

/-! ## non-vacuity: two pieces swapped between scaffolds, one reversed, a sub-texel scaffold left over -/

private def g10 : Gap := { length := 10, gapType := "scaffold".toList }
private def g5 : Gap := { length := 5, gapType := "scaffold".toList }
private def jg : Gap := { length := 200, gapType := "scaffold".toList }
private def a1 : Fragment := { oid := 1, name := "ctgA1".toList, start := 1, stop := 100, strand := 1 }
private def a2 : Fragment := { oid := 2, name := "ctgA2".toList, start := 1, stop := 50, strand := -1 }
private def a3 : Fragment := { oid := 3, name := "ctgA3".toList, start := 1, stop := 40, strand := 1 }
private def b1 : Fragment := { oid := 4, name := "ctgB1".toList, start := 1, stop := 80, strand := 1 }
private def b2 : Fragment := { oid := 5, name := "ctgB2".toList, start := 1, stop := 60, strand := 1 }
private def c1 : Fragment := { oid := 6, name := "ctgC1".toList, start := 1, stop := 3, strand := 1 }
/-- 210 bp: a1 1-100, gap, a2 111-160 (reverse contig), gap, a3 171-210 -/
private def sA : Scaffold := { name := "scaffold_1".toList, rows := [.frag a1, .gap g10, .frag a2, .gap g10, .frag a3] }
/-- 145 bp: b1 1-80, gap, b2 86-145 -/
private def sB : Scaffold := { name := "scaffold_2".toList, rows := [.frag b1, .gap g5, .frag b2] }
/-- 3 bp: below one texel, not in the map -/
private def sC : Scaffold := { name := "scaffold_3".toList, rows := [.frag c1] }
private def inp : List Scaffold := [sA, sB, sC]
private def pc (n : Str) (s e st : Int) : Row := .frag { name := n, start := s, stop := e, strand := st }
/-- texel 8 bp (`err = 9`); cuts at 104 (inside the first gap of A) and 82 (inside the gap of B), both within `err` of a
    contig boundary.  The tail of A (a2-a3) is REVERSED and put in front of the head of B; the tail of B is put in front
    of the head of A. -/
private def ptx : List Scaffold :=
  [{ name := "Scaffold_1".toList, rows := [pc sA.name 105 210 (-1), .gap jg, pc sB.name 1 82 1] },
   { name := "Scaffold_2".toList, rows := [pc sB.name 83 145 1, .gap jg, pc sA.name 1 104 1] }]

open scoped AgpTpf.ImpEval

private def inpC : Decoded inp := ⟨_, by unfold inp sA sB sC a1 a2 a3 b1 b2 c1 g10 g5; str_lits; exact rfl⟩
private def jgC : Decoded jg := ⟨_, by unfold jg; str_lits; exact rfl⟩
private def ptxC : Decoded ptx := ⟨_, by unfold ptx sA sB jg; str_lits; exact rfl⟩
private def sAC : Decoded sA := ⟨_, by unfold sA a1 a2 a3 g10; str_lits; exact rfl⟩

example : Aligned inp ptx 9 := by rw [inpC.2, ptxC.2]; exact aligned_of_check _ _ _ (by decide +kernel)
example : ∀ sc ∈ inp, ∀ f ∈ sc.fragments, f.strand = 1 ∨ f.strand = -1 := by decide +kernel

/-- the specification, evaluated: reversed tail of A (a3, gap, a2 with strands flipped) + join gap + b1 under A's name;
    b2 + join gap + a1 under B's name; the absent scaffold as a left-over -/
example : (expectedScaffolds inp ptx jg).map (fun s => (s.name, s.rows)) =
    [(sA.name, [.frag a3.reverse, .gap g10, .frag a2.reverse, .gap jg, .frag b1]),
     (sB.name, [.frag b2, .gap jg, .frag a1]),
     (sC.name, [.frag c1])] := by
  rw [inpC.2, ptxC.2, jgC.2]; unfold sA sB sC a1 a2 a3 b1 b2 c1 g10; str_lits; decide +kernel

example : NoClash inp ptx jg := by unfold NoClash; rw [inpC.2, ptxC.2, jgC.2]; decide +kernel

private theorem remap_eval : (remap inp ptx "SUPER_".toList (some jg) 9).toOption.map (fun r => (r.1, r.2.cuts)) =
    some (primaryOnly (expectedScaffolds inp ptx jg), 0) := by rw [inpC.2, ptxC.2, jgC.2]; str_lits; decide +kernel

/-- … and `remap` evaluated by the kernel, independently of the theorems, returns exactly the specified output -/
example : (remap inp ptx "SUPER_".toList (some jg) 9).toOption.map (·.1) =
    some (primaryOnly (expectedScaffolds inp ptx jg)) := (views_of_pair remap_eval).1

example : (remap inp ptx "SUPER_".toList (some jg) 9).toOption.map (fun r => r.2.cuts) = some 0 := (views_of_pair remap_eval).2

/-! ## why `NoClash` is there (evaluated) -/

/-- FINDING / caveat.  Two unpainted Pretext scaffolds whose first pieces lie on the same input scaffold get the same
    output name and are FUSED by `scaffolds_fused_by_name`: here the curator BROKE `scaffold_1` between a1 and a2 into two
    Pretext scaffolds; the output is a single scaffold again (the 10 bp input gap replaced by the 200 bp join gap), and
    the statistics report 0 breaks.  Painting the scaffolds avoids this (they are then named after the Pretext scaffold). -/
theorem same_first_scaffold_is_fused :
    (remap [sA] [{ name := "Scaffold_1".toList, rows := [pc sA.name 1 104 1] },
                 { name := "Scaffold_2".toList, rows := [pc sA.name 105 210 1] }] "SUPER_".toList (some jg) 9).toOption.map
      (fun r => (r.1.map (fun a => a.scaffolds.map (fun s => (s.name, s.rows))), r.2.breaks)) =
    some ([[(sA.name, [.frag a1, .gap jg, .frag a2, .gap g10, .frag a3])]], 0) := by
  rw [sAC.2, jgC.2]; unfold a1 a2 a3 g10; str_lits; decide +kernel

/-- that map is `Aligned`; only `NoClash` fails -/
example : Aligned [sA] [{ name := "Scaffold_1".toList, rows := [pc sA.name 1 104 1] },
                        { name := "Scaffold_2".toList, rows := [pc sA.name 105 210 1] }] 9 ∧
    ¬ NoClash [sA] [{ name := "Scaffold_1".toList, rows := [pc sA.name 1 104 1] },
                    { name := "Scaffold_2".toList, rows := [pc sA.name 105 210 1] }] jg := by
  rw [sAC.2, jgC.2]; str_lits
  exact ⟨aligned_of_check _ _ _ (by decide +kernel), by unfold NoClash; decide +kernel⟩

/-! ## the painted variant, evaluated on the same edits -/

private def pcP (n : Str) (s e st : Int) : Row := .frag { name := n, start := s, stop := e, strand := st, tags := [sPainted] }
private def ptxP : List Scaffold :=
  [{ name := "Scaffold_1".toList, rows := [pcP sA.name 105 210 (-1), .gap jg, pcP sB.name 1 82 1] },
   { name := "Scaffold_2".toList, rows := [pcP sB.name 83 145 1, .gap jg, pcP sA.name 1 104 1] }]

private def ptxPC : Decoded ptxP := ⟨_, by unfold ptxP sA sB jg; str_lits; exact rfl⟩

example : AlignedP inp ptxP 9 ∧ ptxP ≠ [] := by
  rw [inpC.2, ptxPC.2]; exact ⟨alignedP_of_check _ _ _ (by decide +kernel), by decide⟩
example : NoClashP inp ptxP jg := by unfold NoClashP; rw [inpC.2, ptxPC.2, jgC.2]; decide +kernel

/-- `Scaffold_1` holds 90 + 80 = 170 bp of contigs, `Scaffold_2` 60 + 100 = 160 bp: `SUPER_1`, `SUPER_2` -/
example : (C20.smartSorted (expectedScaffoldsP "SUPER_".toList inp ptxP jg)).map (fun s => (s.name, s.rows)) =
    [("SUPER_1".toList, [.frag a3.reverse, .gap g10, .frag a2.reverse, .gap jg, .frag b1]),
     ("SUPER_2".toList, [.frag b2, .gap jg, .frag a1]),
     (sC.name, [.frag c1])] := by
  rw [inpC.2, ptxPC.2, jgC.2]; unfold sC a1 a2 a3 b1 b2 c1 g10; str_lits; decide +kernel

example : (remap inp ptxP "SUPER_".toList (some jg) 9).toOption.map (·.1) =
    some [{ key := none, curated := true,
            scaffolds := C20.smartSorted (expectedScaffoldsP "SUPER_".toList inp ptxP jg) }] := by
  rw [inpC.2, ptxPC.2, jgC.2]; str_lits; decide +kernel

/-- painted, the two halves of the break of `same_first_scaffold_is_fused` stay two scaffolds -/
example : (remap [sA] [{ name := "Scaffold_1".toList, rows := [pcP sA.name 1 104 1] },
                       { name := "Scaffold_2".toList, rows := [pcP sA.name 105 210 1] }] "SUPER_".toList (some jg) 9).toOption.map
      (fun r => r.1.map (fun a => a.scaffolds.map (fun s => (s.name, s.rows)))) =
    some [[("SUPER_1".toList, [.frag a1]), ("SUPER_2".toList, [.frag a2, .gap g10, .frag a3])]] := by
  rw [sAC.2, jgC.2]; unfold a1 a2 a3 g10; str_lits; decide +kernel

end AgpTpf.C02
