/-
  C01 / C02 / C07–C11 (T1c CAPSTONE) — the whole of phase 1 of the Python source, `BuildAssembly.remap_to_input_assembly`
  (assembly/build_assembly.py) as translated by `harness/translate_imp.py` into `Gen.Imp.BuildAssembly_remap_to_input_assembly`,
  REFINES the model's `remapToInput` (Model/Remap.lean).

  Source side (`AgpTpf/Gen/Imp.lean`): `ScaffoldNamer_rename_unlocs_by_size`, `ScaffoldNamer_rename_haplotigs_by_size`,
  `BuildAssembly_find_assembly_overlaps`, `BuildAssembly_cut_remaining_overhangs`, `BuildAssembly_remap_to_input_assembly` — each a
  COMPOSITION of translated kernels (the calls are calls of the other generated definitions), whose ties to the model are composed
  here: C09Imp (namer), C12Imp / C12ImpIndex (lookup in the indexed input), C01ImpFound (`store_fragments_found`,
  `discard_overhanging_fragments`), C01ImpCut (`cut_fragments`), C01ImpMissing (`add_missing_scaffolds_from_input`).
  Model side: `processBait`, `findAssemblyOverlaps`, `discardOverhanging`, `cutRemaining`, `renameBySize`, `addMissing`, `remapToInput`.

  The source state `(store, heap_ff, namer, found, multi)` stands for the model's `Build`: same store; `absNamer` reads the Python namer
  object as the model's `Namer`; `absFound heap_ff found` reads the values behind the references of `self.found_fragments`; the model's
  `multi` are the keys of `self.fragments_found_more_than_once`; under the invariants `WfNamer` (C09Imp) and `Coherent` (C01ImpFound).
  Order difference inside one Pretext fragment: the model labels and trims a result BEFORE it appends it to the store, the source
  allocates it first and labels / trims it in place — same final store (the found-bait case of `ImpRemap.find_tie`).

  Every tie has the form: match the model's result — `.error e`: the source raises `e`; `.ok b'`: the source returns the state that
  stands for `b'`.  The source either returns or raises, so this is "exactly when" (`remap_to_input_source_ok` reads it from the source's side).

  Proofs: `AgpTpf/Proofs/ImpRemap.lean`.
-/
import AgpTpf.Proofs.ImpRemap
import AgpTpf.Properties.C01
import AgpTpf.Proofs.C02NRes
-- the `example`s compare nested tuples by `decide +kernel`: the default size limit of instance search is too small for their `DecidableEq`
set_option synthInstance.maxSize 100000
namespace AgpTpf.C01
open AgpTpf
open AgpTpf.C09 (absNamer WfNamer)
open AgpTpf.ImpMissing (loModel loSrc)

/-! ### the data of the end-to-end `example`: two input scaffolds `s1 = a(1-100) gap(10) b(1-50)`, `s2 = c(1-80, minus strand)`; a Pretext map
    with `Scaffold_1 = s1:1-60 (Painted)` and `Scaffold_2 = s1:61-100 (Painted), gap, s2:1-80` — the contig `a` is CUT at 60 | 61, the
    contig `b` is left UNPLACED -/

def rmA : Fragment := { oid := 1, name := ['a'], start := 1, stop := 100, strand := 1 }
def rmB : Fragment := { oid := 2, name := ['b'], start := 1, stop := 50, strand := 1 }
def rmC : Fragment := { oid := 3, name := ['c'], start := 1, stop := 80, strand := -1 }
def rmG10 : Gap := { length := 10, gapType := "scaffold".toList }
def rmG200 : Gap := { length := 200, gapType := "scaffold".toList }
def rmInput : List Scaffold :=
  [{ name := ['s', '1'], rows := [.frag rmA, .gap rmG10, .frag rmB] }, { name := ['s', '2'], rows := [.frag rmC] }]
def rmP1 : Fragment := { oid := 11, name := ['s', '1'], start := 1, stop := 60, strand := 1, tags := ["Painted".toList] }
def rmP2 : Fragment := { oid := 12, name := ['s', '1'], start := 61, stop := 100, strand := 1, tags := ["Painted".toList] }
def rmP3 : Fragment := { oid := 13, name := ['s', '2'], start := 1, stop := 80, strand := -1 }
def rmPtx : List Scaffold :=
  [{ name := "Scaffold_1".toList, rows := [.frag rmP1] }, { name := "Scaffold_2".toList, rows := [.frag rmP2, .gap rmG200, .frag rmP3] }]
def rmPrefix : Str := "SUPER_".toList
/-- the state after the first Pretext scaffold: one result holding `a` -/
def rmNamer1 : PyRt.SrcNamer :=
  { autosome_prefix := rmPrefix, current_scaffold_name := some "Scaffold_1".toList, current_rank := some 1 }
def rmRes (bait : Fragment) (s e : Int) (f : Fragment) (name : Str) : Res :=
  { o := { bait := bait, start := s, stop := e, rows := [.frag f], name := name, rank := 1, originalName := some name,
           originalTags := some ["Painted".toList] }, added := true }
/-- the store after `find_assembly_overlaps`: `a` is held by results 0 and 1 -/
def rmStore1 : List Res :=
  [rmRes rmP1 1 100 rmA "Scaffold_1".toList, rmRes rmP2 1 100 rmA "Scaffold_2".toList, rmRes rmP3 1 80 rmC "Scaffold_2".toList]
def rmHeap : List Found := [{ fragment := rmA, scaffolds := [0, 1] }, { fragment := rmC, scaffolds := [2] }]
def rmFound : List (Key × Nat) := [((['a'], 1, 100), 0), ((['c'], 1, 80), 1)]
def rmMulti : List (Key × Nat) := [((['a'], 1, 100), 0)]
/-- … and after `cut_remaining_overhangs`: two new objects, `a:1-60` and `a:61-100` -/
def rmStore2 : List Res :=
  [rmRes rmP1 1 60 { oid := 4, name := ['a'], start := 1, stop := 60, strand := 1, tags := ["Cut".toList] } "Scaffold_1".toList,
   rmRes rmP2 61 100 { oid := 5, name := ['a'], start := 61, stop := 100, strand := 1, tags := ["Cut".toList] } "Scaffold_2".toList,
   rmRes rmP3 1 80 rmC "Scaffold_2".toList]
def rmNamer2 : PyRt.SrcNamer := { rmNamer1 with current_scaffold_name := some "Scaffold_2".toList }

theorem rename_unlocs_is_source (store : List Res) (s : PyRt.SrcNamer) :
    Gen.Imp.ScaffoldNamer_rename_unlocs_by_size store s = .ok (renameBySize store (absNamer s).unlocScaffolds) :=
  ImpRemap.rename_unlocs_eq store s

theorem rename_haplotigs_is_source (store : List Res) (s : PyRt.SrcNamer) :
    Gen.Imp.ScaffoldNamer_rename_haplotigs_by_size store s = .ok (renameBySize store (absNamer s).haplotigScaffolds) :=
  ImpRemap.rename_haplotigs_eq store s

/-- the names "Scaffold_1", "Scaffold_2", "Scaffold_2" of the results `[2, 0, 1]` go to them in order of decreasing length
    (100, 100, 80; stable): 0 ↦ the name of 2, 1 ↦ the name of 0, 2 ↦ the name of 1 -/
example : (Gen.Imp.ScaffoldNamer_rename_unlocs_by_size rmStore1 { rmNamer1 with unloc_scaffolds := [2, 0, 1] }).map
      (fun st => st.map (·.o.name)) = .ok ["Scaffold_2".toList, "Scaffold_1".toList, "Scaffold_2".toList] := by decide +kernel
example : (Gen.Imp.ScaffoldNamer_rename_haplotigs_by_size rmStore1 { rmNamer1 with haplotig_scaffolds := [2, 0, 1] }).map
      (fun st => st.map (·.o.name)) = .ok ["Scaffold_2".toList, "Scaffold_1".toList, "Scaffold_2".toList] := by decide +kernel

/-- `input_asm.find_overlaps(bait)` as the model has it: the scaffold of the bait's name (ValueError when there is none), then the
    overlap search in it -/
def inputOverlaps (input : List Scaffold) (bait : Fragment) : R (Option OverlapResult) :=
  lookupScaffold input bait.name >>= fun sc => findOverlaps sc.rows bait

/-- `IndexedAssembly.__init__` (`for scffld in scaffolds: self.add_scaffold(scffld)`, from the empty dictionaries) with the SOURCE's
    `add_scaffold` does what the duplicate-name check at the head of `remapToInput` does: ValueError for a repeated name; otherwise the
    dictionaries hold every scaffold, and the index `buildIndex` of its rows, under its name -/
theorem index_input_is_source (input : List Scaffold) :
    input.foldlM (fun d sc => Gen.Imp.IndexedAssembly_add_scaffold d.1 d.2 sc) ([], [])
      = (input.foldlM (fun (seen : List Str) (s : Scaffold) =>
            if seen.contains s.name then (throw Err.value : R (List Str)) else pure (seen ++ [s.name])) []).map
          (fun _ => (input.map (fun sc => (sc.name, sc)), input.map (fun sc => (sc.name, buildIndex sc.rows)))) :=
  ImpRemap.indexInput_eq input

example : (rmInput.foldlM (fun d sc => Gen.Imp.IndexedAssembly_add_scaffold d.1 d.2 sc) ([], [])).map (·.2)
    = .ok [(['s', '1'], [100, 110, 160]), (['s', '2'], [80])] := by decide +kernel
example : (rmInput ++ rmInput).foldlM (fun d sc => Gen.Imp.IndexedAssembly_add_scaffold d.1 d.2 sc) ([], []) = .error .value := by decide +kernel

/-- the function handed to `find_assembly_overlaps` IS the source's `IndexedAssembly.find_overlaps` on those dictionaries
    (`scaffold_by_name` = the dictionary lookup that raises ValueError, `_scaffold_index.get` = the lookup that yields the falsy value),
    for every fuel above the longest input scaffold (`C12.find_overlaps_is_source`) -/
theorem input_find_overlaps_is_source (input : List Scaffold) (fuel : Nat) (hfuel : ∀ sc ∈ input, sc.rows.length + 1 < fuel)
    (bait : Fragment) :
    Gen.Imp.IndexedAssembly_find_overlaps fuel bait
        (fun n => match dGet? (input.map (fun sc => (sc.name, sc))) n with | some sc => .ok sc | none => .error .value)
        (fun n => (dGet? (input.map (fun sc => (sc.name, buildIndex sc.rows))) n).getD [])
      = inputOverlaps input bait :=
  ImpRemap.overlapsOf_is_source input fuel hfuel bait

example : ∀ sc ∈ rmInput, sc.rows.length + 1 < 5 := by decide
example : Gen.Imp.IndexedAssembly_find_overlaps 5 rmP2
      (fun n => match dGet? (rmInput.map (fun sc => (sc.name, sc))) n with | some sc => .ok sc | none => .error .value)
      (fun n => (dGet? (rmInput.map (fun sc => (sc.name, buildIndex sc.rows))) n).getD [])
    = .ok (some { bait := rmP2, start := 1, stop := 100, rows := [.frag rmA], name := "matches".toList }) := by decide +kernel

/-- from a source state that stands for the `Build` `b` — same store, `absNamer s = b.namer`, well-formed namer, coherent
    dictionaries, `b.found` the values behind `found`, `b.multi` the keys of `multi` —, with `input_asm.find_overlaps` the lookup in
    `input` and the error length of `b`: the source's `find_assembly_overlaps` raises exactly what `findAssemblyOverlaps input ptx b`
    raises, or returns a state that stands for the `Build` it returns (the invariants hold again; nothing else of `b` changes) -/
theorem find_assembly_overlaps_refines (input ptx : List Scaffold) (b : Build) (s : PyRt.SrcNamer) (heap : List Found)
    (found multi : List (Key × Nat)) (hn : absNamer s = b.namer) (hw : WfNamer s) (hc : Coherent heap found multi)
    (hf : b.found = absFound heap found) (hm : b.multi = multi.map (·.1)) :
    match findAssemblyOverlaps input ptx b with
    | .error e =>
        Gen.Imp.BuildAssembly_find_assembly_overlaps b.store heap s found multi ptx b.err (inputOverlaps input) = .error e
    | .ok b' => ∃ heap' s' found' multi',
        Gen.Imp.BuildAssembly_find_assembly_overlaps b.store heap s found multi ptx b.err (inputOverlaps input)
          = .ok (b'.store, heap', s', found', multi') ∧
        WfNamer s' ∧ Coherent heap' found' multi' ∧
        b' = { b with store := b'.store, namer := absNamer s', found := absFound heap' found', multi := multi'.map (·.1) } := by
  have hb : b = ImpRemap.mkBuild b b.store s heap found multi := by
    cases b; simp only [ImpRemap.mkBuild] at *; simp [hn, hf, hm]
  exact (ImpRemap.find_tie input ptx b (inputOverlaps input) (fun _ => rfl) b.store s heap found multi b ⟨hw, hc, hb⟩).elim
    (fun _ h => h) fun t b' ht ⟨hw', hc', hb'⟩ =>
      ⟨t.2.1, t.2.2.1, t.2.2.2.1, t.2.2.2.2, by rw [ht, hb']; rfl, hw', hc', by rw [hb']; rfl⟩

/-- the hypotheses are met by the initial state -/
example : absNamer { autosome_prefix := rmPrefix } = ({ autosomePrefix := rmPrefix } : Namer) ∧
    WfNamer { autosome_prefix := rmPrefix } ∧ Coherent [] [] [] := ⟨rfl, by unfold WfNamer; decide, coherent_empty⟩
/-- the source on the example, from the empty state: three results, the contig `a` held by two of them (the same object in both
    dictionaries); and the model, evaluated independently -/
example : Gen.Imp.BuildAssembly_find_assembly_overlaps [] [] { autosome_prefix := rmPrefix } [] [] rmPtx 3 (inputOverlaps rmInput)
    = .ok (rmStore1, rmHeap, rmNamer2, rmFound, rmMulti) := by decide +kernel
example : (findAssemblyOverlaps rmInput rmPtx
      { namer := { autosomePrefix := rmPrefix }, nextOid := 4, joinGap := some rmG200, err := 3 }).map
        (fun b => (b.store, b.namer, b.found, b.multi))
    = .ok (rmStore1, absNamer rmNamer2, absFound rmHeap rmFound, rmMulti.map (·.1)) := by decide +kernel
/-- an unknown scaffold name in the Pretext map: ValueError on both sides -/
example : Gen.Imp.BuildAssembly_find_assembly_overlaps [] [] { autosome_prefix := rmPrefix } [] []
      [{ name := "Scaffold_1".toList, rows := [.frag { rmP1 with name := ['s', '9'] }] }] 3 (inputOverlaps rmInput) = .error .value := by decide +kernel

/-- from a coherent state that stands for `b`: the source's `cut_remaining_overhangs` raises exactly what `cutRemaining b` raises, or
    returns the store, object-id counter and cut counter of the `Build` it returns, the arena untouched and `multi` EMPTY; nothing
    else of `b` changes (`cut_fragments` of every entry is `cutFragments`: `cut_fragments_is_source`) -/
theorem cut_remaining_refines (b : Build) (heap : List Found) (found multi : List (Key × Nat))
    (hc : Coherent heap found multi) (hf : b.found = absFound heap found) (hm : b.multi = multi.map (·.1)) :
    match cutRemaining b with
    | .error e => Gen.Imp.BuildAssembly_cut_remaining_overhangs b.store b.nextOid heap multi b.cuts = .error e
    | .ok b' =>
        Gen.Imp.BuildAssembly_cut_remaining_overhangs b.store b.nextOid heap multi b.cuts
          = .ok (b'.store, b'.nextOid, heap, [], b'.cuts) ∧
        b' = { b with store := b'.store, nextOid := b'.nextOid, cuts := b'.cuts, multi := [] } :=
  (ImpRemap.cut_tie b heap found multi hc hf hm).elim (fun _ h => h) fun _ _ ht ⟨e, hb'⟩ => ⟨e ▸ ht, hb'⟩

example : Coherent rmHeap rmFound rmMulti := by unfold Coherent; decide
example : Gen.Imp.BuildAssembly_cut_remaining_overhangs rmStore1 4 rmHeap rmMulti 0 = .ok (rmStore2, 6, rmHeap, [], 1) := by decide +kernel
def rmBuild1 : Build :=
  { namer := absNamer rmNamer2, store := rmStore1, found := absFound rmHeap rmFound, multi := [(['a'], 1, 100)], nextOid := 4,
    joinGap := some rmG200, err := 3 }
example : (cutRemaining rmBuild1).map (fun b => (b.store, b.nextOid, b.cuts, b.multi)) = .ok (rmStore2, 6, 1, []) := by decide +kernel

/-- the state `remapToInput` starts from -/
def remapStart (input : List Scaffold) (prefix_ : Str) (joinGap : Option Gap) (err : Int) : Build :=
  { namer := { autosomePrefix := prefix_ },
    nextOid := (input.flatMap Scaffold.fragments).foldl (fun m f => max m (f.oid + 1)) 0, joinGap := joinGap, err := err }

/-- the duplicate-name check `remapToInput` performs first (in the source: `IndexedAssembly.add_scaffold`, `index_input_is_source`) -/
def inputNamesDistinct (input : List Scaffold) : Prop :=
  ∃ seen : List Str, input.foldlM (fun (seen : List Str) (s : Scaffold) =>
      if seen.contains s.name then (throw Err.value : R (List Str)) else pure (seen ++ [s.name])) [] = .ok seen

/-- … when it fails, `remapToInput` raises ValueError (and the source never gets an `IndexedAssembly` to call phase 1 with) -/
theorem remap_to_input_duplicate_name (input ptx : List Scaffold) (prefix_ : Str) (joinGap : Option Gap) (err : Int)
    (h : ¬ inputNamesDistinct input) : remapToInput input ptx prefix_ joinGap err = .error .value := by
  rw [ImpRemap.remapToInput_eq]
  have hstep : ∀ (rest : List Scaffold) (seen : List Str) (e : Err), rest.foldlM ImpRemap.dupStep seen = .error e → e = .value := by
    intro rest
    induction rest with
    | nil => intro seen e h; cases h
    | cons a rest ih =>
      intro seen e h
      rw [List.foldlM_cons] at h
      unfold ImpRemap.dupStep at h ih
      by_cases hc : seen.contains a.name = true
      · simp only [hc, if_true] at h; cases h; rfl
      · simp only [hc, if_false, Bool.false_eq_true] at h; exact ih _ e h
  cases hd : ImpRemap.dupCheck input with
  | ok seen => exact absurd ⟨seen, hd⟩ h
  | error e => rw [hstep input [] e hd]; rfl

/-- the fuel handed to `discard_overhanging_fragments` is `totalRows b₁.store + 2`, the fuel the MODEL uses, where `b₁` is the state
    after `findAssemblyOverlaps` — or ANY LARGER fuel, provided the model's loop did not run out of its own
    (`ImpRemap.discardOverhanging_mono`: `discardOverhanging` is insensitive to extra fuel unless its result is the out-of-fuel error;
    `C02.discard_overhanging_never_raises` of Properties/C02NoError.lean shows it does not run out for a well-formed input) -/
def RemapFuel (input ptx : List Scaffold) (prefix_ : Str) (joinGap : Option Gap) (err : Int) (fuel : Nat) : Prop :=
  ∀ b₁, findAssemblyOverlaps input ptx (remapStart input prefix_ joinGap err) = .ok b₁ →
    fuel = totalRows b₁.store + 2 ∨
    (totalRows b₁.store + 2 ≤ fuel ∧ discardOverhanging (totalRows b₁.store + 2) b₁ ≠ .error .other)

/-- for a well-formed input the model's loop does not run out of fuel (`C02.discard_overhanging_never_raises`), so EVERY fuel from
    the model's upwards will do -/
theorem remap_fuel_of_wf (input ptx : List Scaffold) (prefix_ : Str) (joinGap : Option Gap) (err : Int) (fuel : Nat)
    (hwf : WFInput input)
    (hge : ∀ b₁, findAssemblyOverlaps input ptx (remapStart input prefix_ joinGap err) = .ok b₁ → totalRows b₁.store + 2 ≤ fuel) :
    RemapFuel input ptx prefix_ joinGap err fuel := by
  intro b₁ h
  refine .inr ⟨hge b₁ h, ?_⟩
  obtain ⟨hm, -⟩ := reg_after_find input ptx _ b₁ ⟨rfl, rfl, rfl⟩ h
  obtain ⟨b', hb'⟩ := C02.discardOverhanging_returns hwf (totalRows b₁.store + 2) b₁ hm (by omega)
  rw [hb']
  intro hc; cases hc

/-- THE CAPSTONE.  For every input (with distinct scaffold names), Pretext assembly, prefix, default gap `g` and error length, and the
    model's fuel (or more, `RemapFuel`): started from the state of `BuildAssembly.__init__` — the namer of `ScaffoldNamer.__init__`,
    empty store / arena / dictionaries, the object-id counter where `remapToInput` puts it, no cuts —, the source's
    `remap_to_input_assembly` raises exactly the exception `remapToInput` raises, or returns
    `(store, nextOid, heap_lo, added_lo, heap_ff, s, found, multi, cuts)` where `remapToInput` returns the `Build` with that store,
    counter and cut count, the namer `absNamer s`, `found` the values behind the references, `extra` the left-over objects
    (`loModel`, which loses nothing: `loSrc (loModel x) = x`) — every one of them added, in order —, `multi` empty on both sides,
    `joinGap` and `err` as given -/
theorem remap_to_input_refines (input ptx : List Scaffold) (prefix_ : Str) (g : Gap) (err : Int) (fuel : Nat)
    (hdup : inputNamesDistinct input) (hfuel : RemapFuel input ptx prefix_ (some g) err fuel) :
    match remapToInput input ptx prefix_ (some g) err with
    | .error e =>
        Gen.Imp.BuildAssembly_remap_to_input_assembly fuel [] (remapStart input prefix_ (some g) err).nextOid [] { autosome_prefix := prefix_ }
          [] [] 0 ptx input err g (inputOverlaps input) = .error e
    | .ok b => ∃ heap_lo heap_ff s found,
        Gen.Imp.BuildAssembly_remap_to_input_assembly fuel [] (remapStart input prefix_ (some g) err).nextOid [] { autosome_prefix := prefix_ }
          [] [] 0 ptx input err g (inputOverlaps input)
          = .ok (b.store, b.nextOid, heap_lo, List.range heap_lo.length, heap_ff, s, found, [], b.cuts) ∧
        WfNamer s ∧ Coherent heap_ff found [] ∧ (∀ x ∈ heap_lo, loSrc (loModel x) = x) ∧
        b = { namer := absNamer s, store := b.store, found := absFound heap_ff found, multi := [], extra := heap_lo.map loModel,
              cuts := b.cuts, nextOid := b.nextOid, joinGap := some g, err := err } := by
  obtain ⟨seen, hseen⟩ := hdup
  exact (ImpRemap.remap_to_input_ref input ptx prefix_ g err fuel seen hseen hfuel).elim (fun _ h => h)
    fun _ b ht ⟨heap_lo, heap_ff, s, found, e, hw, hc, hl, hb⟩ =>
      ⟨heap_lo, heap_ff, s, found, e ▸ ht, hw, hc, hl, by rw [hb]; simp [Pipeline.initBuild]⟩

/-- read from the source's side: whenever the source returns, the model returns the `Build` the result stands for -/
theorem remap_to_input_source_ok (input ptx : List Scaffold) (prefix_ : Str) (g : Gap) (err : Int) (fuel : Nat)
    (hdup : inputNamesDistinct input) (hfuel : RemapFuel input ptx prefix_ (some g) err fuel)
    (store : List Res) (nextOid : Nat) (heap_lo : List PyRt.Leftover) (added_lo : List Nat) (heap_ff : List Found) (s : PyRt.SrcNamer)
    (found multi : List (Key × Nat)) (cuts : Int)
    (h : Gen.Imp.BuildAssembly_remap_to_input_assembly fuel [] (remapStart input prefix_ (some g) err).nextOid [] { autosome_prefix := prefix_ }
          [] [] 0 ptx input err g (inputOverlaps input)
        = .ok (store, nextOid, heap_lo, added_lo, heap_ff, s, found, multi, cuts)) :
    added_lo = List.range heap_lo.length ∧ multi = [] ∧
    remapToInput input ptx prefix_ (some g) err
      = .ok { namer := absNamer s, store := store, found := absFound heap_ff found, multi := [], extra := heap_lo.map loModel,
              cuts := cuts, nextOid := nextOid, joinGap := some g, err := err } := by
  have hr := remap_to_input_refines input ptx prefix_ g err fuel hdup hfuel
  cases hm : remapToInput input ptx prefix_ (some g) err with
  | error e => rw [hm] at hr; exact nomatch hr.symm.trans h
  | ok b =>
    rw [hm] at hr
    obtain ⟨heap_lo', heap_ff', s', found', hsrc, -, -, -, hb⟩ := hr
    cases hsrc.symm.trans h
    exact ⟨rfl, rfl, by rw [hb]⟩

theorem rm_fuel : ∀ b₁, findAssemblyOverlaps rmInput rmPtx (remapStart rmInput rmPrefix (some rmG200) 3) = .ok b₁ →
    totalRows b₁.store + 2 = 5 := by
  intro b₁ h
  have : (findAssemblyOverlaps rmInput rmPtx (remapStart rmInput rmPrefix (some rmG200) 3)).map (fun b => totalRows b.store + 2)
      = .ok 5 := by decide +kernel
  rw [h] at this
  exact Except.ok.inj this

/-- the hypotheses are met by the example: distinct names; `findAssemblyOverlaps` leaves 3 rows in the store, so the fuel is 5 -/
example : inputNamesDistinct rmInput := ⟨[['s', '1'], ['s', '2']], by rfl⟩
example : RemapFuel rmInput rmPtx rmPrefix (some rmG200) 3 5 := fun b₁ h => .inl (rm_fuel b₁ h).symm

/-- … and, the input being well-formed, any larger fuel: 50 -/
example : RemapFuel rmInput rmPtx rmPrefix (some rmG200) 3 50 :=
  remap_fuel_of_wf _ _ _ _ _ _ (by decide) fun b₁ h => by have := rm_fuel b₁ h; omega
example : (Gen.Imp.BuildAssembly_remap_to_input_assembly 50 [] 4 [] { autosome_prefix := rmPrefix } [] [] 0 rmPtx rmInput 3 rmG200
      (inputOverlaps rmInput)).map (fun t => (t.1, t.2.1)) = .ok (rmStore2, 6) := by decide +kernel

theorem rm_source_run : Gen.Imp.BuildAssembly_remap_to_input_assembly 5 [] (remapStart rmInput rmPrefix (some rmG200) 3).nextOid []
      { autosome_prefix := rmPrefix } [] [] 0 rmPtx rmInput 3 rmG200 (inputOverlaps rmInput)
    = .ok (rmStore2, 6,
        [({ name := ['s', '1'], rows := [.frag rmB], rank := 3 }, some (.frag rmA, [.gap rmG10]))], [0],
        rmHeap, { rmNamer2 with current_scaffold_name := some ['b'], current_rank := some 3 }, rmFound, [], 1) := by decide +kernel
/-- THE END-TO-END EXAMPLE, source side: the contig `a` is cut at 60 | 61 into two new objects (ids 4 and 5, tag "Cut", one cut
    counted, object-id counter at 6); the contig `b` is left over: one object, named after its input scaffold `s1`, rank 3, added, with
    its `input_predecessor` (`a` and the gap behind it); the namer last named that left-over scaffold -/
example : Gen.Imp.BuildAssembly_remap_to_input_assembly 5 [] (remapStart rmInput rmPrefix (some rmG200) 3).nextOid []
      { autosome_prefix := rmPrefix } [] [] 0 rmPtx rmInput 3 rmG200 (inputOverlaps rmInput)
    = .ok (rmStore2, 6,
        [({ name := ['s', '1'], rows := [.frag rmB], rank := 3 }, some (.frag rmA, [.gap rmG10]))], [0],
        rmHeap, { rmNamer2 with current_scaffold_name := some ['b'], current_rank := some 3 }, rmFound, [], 1) := rm_source_run
/-- compared field by field: a `Build` has no decidable equality -/
theorem rm_model_run : remapToInput rmInput rmPtx rmPrefix (some rmG200) 3
    = .ok { namer := absNamer { rmNamer2 with current_scaffold_name := some ['b'], current_rank := some 3 }, store := rmStore2,
            found := absFound rmHeap rmFound, multi := [],
            extra := [({ name := ['s', '1'], rows := [.frag rmB], rank := 3 }, some (rmA, [rmG10]))],
            cuts := 1, nextOid := 6, joinGap := some rmG200, err := 3 } := by
  have h : (remapToInput rmInput rmPtx rmPrefix (some rmG200) 3).map
        (fun b => (b.namer, b.store, b.found, b.multi, b.extra, b.cuts, b.nextOid, b.joinGap, b.err))
      = .ok (absNamer { rmNamer2 with current_scaffold_name := some ['b'], current_rank := some 3 }, rmStore2,
             absFound rmHeap rmFound, [], [({ name := ['s', '1'], rows := [.frag rmB], rank := 3 }, some (rmA, [rmG10]))],
             1, 6, some rmG200, 3) := by decide +kernel
  cases hr : remapToInput rmInput rmPtx rmPrefix (some rmG200) 3 with
  | error e => rw [hr] at h; cases h
  | ok b =>
    rw [hr] at h
    simp only [Except.map, Except.ok.injEq, Prod.mk.injEq] at h
    obtain ⟨h1, h2, h3, h4, h5, h6, h7, h8, h9⟩ := h
    cases b
    simp only at h1 h2 h3 h4 h5 h6 h7 h8 h9
    subst h1 h2 h3 h4 h5 h6 h7 h8 h9
    rfl
/-- … and the model on the same input, evaluated independently: the `Build` that result stands for -/
example : remapToInput rmInput rmPtx rmPrefix (some rmG200) 3
    = .ok { namer := absNamer { rmNamer2 with current_scaffold_name := some ['b'], current_rank := some 3 }, store := rmStore2,
            found := absFound rmHeap rmFound, multi := [],
            extra := [({ name := ['s', '1'], rows := [.frag rmB], rank := 3 }, some (rmA, [rmG10]))],
            cuts := 1, nextOid := 6, joinGap := some rmG200, err := 3 } := rm_model_run
/-- a Pretext fragment on a scaffold the input does not have: ValueError on both sides -/
example : Gen.Imp.BuildAssembly_remap_to_input_assembly 5 [] 4 [] { autosome_prefix := rmPrefix } [] [] 0
      [{ name := "Scaffold_1".toList, rows := [.frag { rmP1 with name := ['s', '9'] }] }] rmInput 3 rmG200 (inputOverlaps rmInput)
    = .error .value := by decide +kernel
example : (remapToInput rmInput [{ name := "Scaffold_1".toList, rows := [.frag { rmP1 with name := ['s', '9'] }] }] rmPrefix
      (some rmG200) 3).map (fun b => b.cuts) = .error .value := by decide +kernel

/-! ### the point of it all: `remap_partitions` for the state the SOURCE's phase 1 produces -/

/-- L4 (`C01.remap_partitions`) about the SOURCE: for a well-formed input, whenever the source's `remap_to_input_assembly` (phase 1, as
    translated) returns, and the model's phase 2 (`assembliesFused`) on the `Build` that result stands for returns the output assemblies
    `outs`: every base of every input contig lies in as many output fragments as input fragments (exactly one / none), and every output
    fragment is a non-empty sub-interval of an input fragment of the same contig -/
theorem source_remap_partitions (input ptx : List Scaffold) (prefix_ : Str) (g : Gap) (err : Int) (fuel : Nat)
    (hwf : WFInput input) (hdup : inputNamesDistinct input) (hfuel : RemapFuel input ptx prefix_ (some g) err fuel)
    (store : List Res) (nextOid : Nat) (heap_lo : List PyRt.Leftover) (added_lo : List Nat) (heap_ff : List Found) (s : PyRt.SrcNamer)
    (found multi : List (Key × Nat)) (cuts : Int)
    (h : Gen.Imp.BuildAssembly_remap_to_input_assembly fuel [] (remapStart input prefix_ (some g) err).nextOid [] { autosome_prefix := prefix_ }
          [] [] 0 ptx input err g (inputOverlaps input)
        = .ok (store, nextOid, heap_lo, added_lo, heap_ff, s, found, multi, cuts))
    (outs : List OutAsm) (stats : Stats)
    (h2 : assembliesFused input
        { namer := absNamer s, store := store, found := absFound heap_ff found, multi := [], extra := heap_lo.map loModel,
          cuts := cuts, nextOid := nextOid, joinGap := some g, err := err } = .ok (outs, stats)) :
    (∀ n x, (outputTriples outs).countP (coversK n x) = ((inputFrags input).map Fragment.keyTuple).countP (coversK n x)) ∧
    (∀ t ∈ outputTriples outs, t.2.1 ≤ t.2.2 ∧
      ∃ F ∈ inputFrags input, F.name = t.1 ∧ F.start ≤ t.2.1 ∧ t.2.2 ≤ F.stop) := by
  obtain ⟨-, -, hm⟩ := remap_to_input_source_ok input ptx prefix_ g err fuel hdup hfuel store nextOid heap_lo added_lo heap_ff s
    found multi cuts h
  exact remap_partitions input ptx prefix_ (some g) err outs stats hwf (Pipeline.remap_ok_iff.2 ⟨_, hm, h2⟩)

end AgpTpf.C01
