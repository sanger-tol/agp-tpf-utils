/-
  C04 / C13 — T1c tie: the model's indexer `indexFasta` IS the source's `index_fasta_file` (fasta/index.py, with its two
  closures `store_info` / `process_seq_buffer` expanded) as translated by `harness/translate_imp.py` into
  `Gen.Imp.index_fasta_file_imp nextOid buffer_size lines` (result `(nextOid, idx_dict, fh.tell(), asm.scaffolds)`).

  The tie for EVERY list of lines is FALSE (`index_fasta_file_is_source_false`):
      lines = [b"A", b"A\n"], buffer_size = 100      source: TypeError      model: ValueError
      lines = [b"A", b"A\n", b">a\n", b"A\n"]        source: TypeError      model: returns an index for `a`
  Before any header the source's `line_end_bytes` is `None`, so `line[:-line_end_bytes]` raises TypeError for EVERY
  LF-terminated sequence line; the model raises it only while `residues_per_line` is `None` (the `match st.rpl with | none`
  branch of `indexLine`) and a header-less UNTERMINATED line sets `residues_per_line` on both sides.  Such a list of lines is
  not what `for line in fh` yields (only the last line of a file can lack its LF), so no file shows the difference.

  Proved (Proofs/ImpIndex.lean: state map `toSrc`, invariant `Inv`, one line = `indexLine`, closures = `processSeqBuffer` /
  `storeInfo`):
    `index_fasta_file_is_source_partial`   the tie under `preHeaderOk lines` (before the first header, an unterminated
                                           sequence line is not followed by an LF-terminated one) — the weakest shape
                                           condition on the header-less prefix under which the two agree line by line
    `index_fasta_file_is_source_lines`     … for lines that all end with LF except possibly the last
    `index_fasta_file_is_source_file`      … for `bLines file`, the lines of ANY file content, every buffer size: no hypothesis
    `index_fasta_file_is_source_full`      all four components, `fh.tell()` included
  Corollaries (C04 for the SOURCE): `source_index_spec`, `source_index_spec_open`, `source_index_duplicate`.
-/
import AgpTpf.Proofs.ImpIndex
import AgpTpf.Proofs.ImpEval
import AgpTpf.Properties.C04
namespace AgpTpf.C04
open AgpTpf AgpTpf.ImpEval

/-- the counter-example: a header-less unterminated line followed by a terminated one — the source raises TypeError
    (`line[:-None]`), the model ValueError (no record at the end) -/
example : (Gen.Imp.index_fasta_file_imp 0 100 [[65], [65, 10]]).map (fun r => (r.2.1, r.2.2.2, r.1)) = .error .type := by
  decide +kernel
example : (indexFasta [[65], [65, 10]] 100).map (fun st => (st.idx, st.scaffolds, st.nextOid)) = .error .value := by
  decide +kernel

/-- … and with a record after it the model even returns an index -/
example : (Gen.Imp.index_fasta_file_imp 0 100 [[65], [65, 10], [62, 97, 10], [65, 10]]).map (fun r => (r.2.1, r.2.2.2, r.1))
    = .error .type := by
  decide +kernel
example : (indexFasta [[65], [65, 10], [62, 97, 10], [65, 10]] 100).map (fun st => (st.idx, st.scaffolds, st.nextOid))
    = .ok ([(['a'], { length := 4, fileOffset := 6, rpl := 1, mll := 2 })],
           [{ name := ['a'], rows := [fragRow 0 ['a'] 0 2, gapRow 1, fragRow 1 ['a'] 3 4] }], 2) := by
  decide +kernel

theorem index_fasta_file_is_source_false :
    ¬ ∀ (lines : List Bytes) (bs : Int),
      (Gen.Imp.index_fasta_file_imp 0 bs lines).map (fun r => (r.2.1, r.2.2.2, r.1))
        = (indexFasta lines bs).map (fun st => (st.idx, st.scaffolds, st.nextOid)) := by
  intro h
  have h1 := h [[65], [65, 10]] 100
  have e1 : (Gen.Imp.index_fasta_file_imp 0 100 [[65], [65, 10]]).map (fun r => (r.2.1, r.2.2.2, r.1)) = .error .type := by decide +kernel
  have e2 : (indexFasta [[65], [65, 10]] 100).map (fun st => (st.idx, st.scaffolds, st.nextOid)) = .error .value := by decide +kernel
  rw [e1, e2] at h1
  cases h1

/-- all four components of the source's result, `fh.tell()` included -/
theorem index_fasta_file_is_source_full (lines : List Bytes) (bs : Int) (h : ImpIndex.preHeaderOk lines = true) :
    Gen.Imp.index_fasta_file_imp 0 bs lines
      = (indexFasta lines bs).map (fun st => (st.nextOid, st.idx, st.pos, st.scaffolds)) :=
  ImpIndex.index_fasta_file_imp_eq bs lines h

/-- the model's indexer IS the source's `index_fasta_file`: same index, same derived assembly, same object ids, same
    exception class — for every buffer size and every list of lines whose header-less prefix is of the shape `preHeaderOk` -/
theorem index_fasta_file_is_source_partial (lines : List Bytes) (bs : Int) (h : ImpIndex.preHeaderOk lines = true) :
    (Gen.Imp.index_fasta_file_imp 0 bs lines).map (fun r => (r.2.1, r.2.2.2, r.1))
      = (indexFasta lines bs).map (fun st => (st.idx, st.scaffolds, st.nextOid)) := by
  rw [index_fasta_file_is_source_full lines bs h]
  cases indexFasta lines bs <;> rfl

/-- the hypothesis holds for well-formed input (a header first), for header-less input of the kind `for line in fh` can
    yield, and excludes exactly the counter-example shape -/
example : ImpIndex.preHeaderOk [[62, 97, 10], [65, 67, 10], [65]] = true := by
  decide +kernel
example : ImpIndex.preHeaderOk [[65, 10], [65, 10]] = true := by
  decide +kernel
example : ImpIndex.preHeaderOk [[65]] = true := by
  decide +kernel
example : ImpIndex.preHeaderOk [[65], [62, 97, 10], [65, 10]] = true := by
  decide +kernel
example : ImpIndex.preHeaderOk [[65], [65, 10]] = false := by
  decide +kernel

/-- … in particular for lines that all end with LF, except possibly the last (what binary file iteration yields) -/
theorem index_fasta_file_is_source_lines (lines : List Bytes) (bs : Int) (h : ImpIndex.Terminated lines) :
    (Gen.Imp.index_fasta_file_imp 0 bs lines).map (fun r => (r.2.1, r.2.2.2, r.1))
      = (indexFasta lines bs).map (fun st => (st.idx, st.scaffolds, st.nextOid)) :=
  index_fasta_file_is_source_partial lines bs (ImpIndex.preHeaderOk_of_terminated lines h)

example : ImpIndex.Terminated [[62, 97, 10], [65, 67, 10], [65]] := by
  intro l hl
  simp only [List.dropLast_cons_cons, List.dropLast_singleton, List.mem_cons, List.not_mem_nil, or_false] at hl
  rcases hl with rfl | rfl <;> rfl

/-- … and so for the lines of ANY file content (`bLines` = `for line in fh` in binary mode), every buffer size:
    no hypothesis is left -/
theorem index_fasta_file_is_source_file (file : Bytes) (bs : Int) :
    (Gen.Imp.index_fasta_file_imp 0 bs (bLines file)).map (fun r => (r.2.1, r.2.2.2, r.1))
      = (indexFasta (bLines file) bs).map (fun st => (st.idx, st.scaffolds, st.nextOid)) :=
  index_fasta_file_is_source_lines _ bs (ImpIndex.bLines_terminated file)

/-! ### the generated function on concrete files -/

/-- `>a\nACNG\n>b\r\nNA\r\n`: two records, LF and CRLF, N-runs, buffer size 2 (a flush inside record `a`) -/
example : Gen.Imp.index_fasta_file_imp 0 2 [[62, 97, 10], [65, 67, 78, 71, 10], [62, 98, 13, 10], [78, 65, 13, 10]] =
    .ok (3,
      [(['a'], { length := 4, fileOffset := 3, rpl := 4, mll := 5 }),
       (['b'], { length := 2, fileOffset := 12, rpl := 2, mll := 4 })],
      16,
      [{ name := ['a'], rows := [fragRow 0 ['a'] 0 2, gapRow 1, fragRow 1 ['a'] 3 4] },
       { name := ['b'], rows := [gapRow 1, fragRow 2 ['b'] 1 2] }]) := by
  decide +kernel

/-- `>a x\nACGTNN\nAC\n>n\nNNNN\n>c\nGG` : a description after the name, a record without any ACGT, no final newline;
    buffer size 1 forces a flush after every line, and a run that continues over a flush (`…GT` | `NN` | `AC`) -/
example : Gen.Imp.index_fasta_file_imp 0 1
      (bLines [62, 97, 32, 120, 10, 65, 67, 71, 84, 78, 78, 10, 65, 67, 10, 62, 110, 10, 78, 78, 78, 78, 10, 62, 99, 10, 71, 71]) =
    .ok (3,
      [(['a'], { length := 8, fileOffset := 5, rpl := 6, mll := 7 }),
       (['n'], { length := 4, fileOffset := 18, rpl := 4, mll := 5 }),
       (['c'], { length := 2, fileOffset := 26, rpl := 2, mll := 3 })],
      28,
      [{ name := ['a'], rows := [fragRow 0 ['a'] 0 4, gapRow 2, fragRow 1 ['a'] 6 8] },
       { name := ['n'], rows := [gapRow 4] },
       { name := ['c'], rows := [fragRow 2 ['c'] 0 2] }]) := by
  decide +kernel

/-- the same file with a buffer that is never exceeded, and with `buffer_size = 0` / negative: the same result -/
example : Gen.Imp.index_fasta_file_imp 0 250000 (bLines [62, 97, 10, 65, 67, 71, 84, 78, 78, 10, 65, 67, 10]) =
    .ok (2, [(['a'], { length := 8, fileOffset := 3, rpl := 6, mll := 7 })], 13,
      [{ name := ['a'], rows := [fragRow 0 ['a'] 0 4, gapRow 2, fragRow 1 ['a'] 6 8] }]) := by
  decide +kernel
example : Gen.Imp.index_fasta_file_imp 0 (-3) (bLines [62, 97, 10, 65, 67, 71, 84, 78, 78, 10, 65, 67, 10]) =
    .ok (2, [(['a'], { length := 8, fileOffset := 3, rpl := 6, mll := 7 })], 13,
      [{ name := ['a'], rows := [fragRow 0 ['a'] 0 4, gapRow 2, fragRow 1 ['a'] 6 8] }]) := by
  decide +kernel

/-- a duplicate name ⇒ ValueError; a sequence line before any header ⇒ TypeError; an empty file ⇒ ValueError;
    a header without a name (`>\n`, `> \n`) ⇒ IndexError; an empty bytes object as a line ⇒ IndexError;
    a non-ASCII name ⇒ the `.decode()` error -/
example : Gen.Imp.index_fasta_file_imp 0 100 [[62, 97, 10], [65, 10], [62, 97, 32, 120, 10], [67, 10]] = .error .value := by
  decide +kernel
example : Gen.Imp.index_fasta_file_imp 0 100 [[65, 67, 10], [62, 97, 10], [65, 10]] = .error .type := by
  decide +kernel
example : Gen.Imp.index_fasta_file_imp 0 100 [] = .error .value := by
  decide +kernel
example : Gen.Imp.index_fasta_file_imp 0 100 [[62, 10]] = .error .index := by
  decide +kernel
example : Gen.Imp.index_fasta_file_imp 0 100 [[62, 32, 10]] = .error .index := by
  decide +kernel
example : Gen.Imp.index_fasta_file_imp 0 100 [[62, 97, 10], []] = .error .index := by
  decide +kernel
example : Gen.Imp.index_fasta_file_imp 0 100 [[62, 200, 10]] = .error .other := by
  decide +kernel
/-- a header-less unterminated single line: ValueError when it fits the buffer, TypeError (`None + int`) when it does not -/
example : Gen.Imp.index_fasta_file_imp 0 100 (bLines [65, 67, 71, 84]) = .error .value := by
  decide +kernel
example : Gen.Imp.index_fasta_file_imp 0 2 (bLines [65, 67, 71, 84]) = .error .type := by
  decide +kernel

/-! ### C04 for the SOURCE -/

/-- the SOURCE's indexer, run on the lines of any well-formed FASTA rendering (any number of records, LF / CRLF per record,
    descriptions, any residue symbols, any line lengths) with ANY buffer size, returns the faidx quintuples and the tiling
    assembly of `indexFasta_spec` -/
theorem source_index_spec (bs : Int) (recs : List Rec) (hne : recs ≠ []) (hwf : ∀ r ∈ recs, r.WF)
    (hnd : (recs.map Rec.name).Nodup) :
    ∃ oid pos, Gen.Imp.index_fasta_file_imp 0 bs (bLines (fileOf recs)) =
      .ok (oid, (recs.foldl addRec {}).idx, pos, (recs.foldl addRec {}).scaffolds) := by
  obtain ⟨st, e, hi, hs⟩ := indexFasta_spec bs recs hne hwf hnd
  refine ⟨st.nextOid, st.pos, ?_⟩
  rw [index_fasta_file_is_source_full _ bs (ImpIndex.preHeaderOk_of_terminated _ (ImpIndex.bLines_terminated _)), e, ← hi, ← hs]
  rfl

/-- … also when the final line terminator is missing -/
theorem source_index_spec_open (bs : Int) (init : List Rec) (last : Rec) (ls : List Bytes) (l : Bytes)
    (hwf : ∀ r ∈ init ++ [last], r.WF) (hnd : ((init ++ [last]).map Rec.name).Nodup)
    (hl : last.lines = ls ++ [l]) (hne : l ≠ []) :
    ∃ oid pos, Gen.Imp.index_fasta_file_imp 0 bs (bLines (fileOpen init last ls l)) =
      .ok (oid, ((init ++ [last]).foldl addRec {}).idx, pos, ((init ++ [last]).foldl addRec {}).scaffolds) := by
  obtain ⟨st, e, hi, hs⟩ := indexFasta_spec_open bs init last ls l hwf hnd hl hne
  refine ⟨st.nextOid, st.pos, ?_⟩
  rw [index_fasta_file_is_source_full _ bs (ImpIndex.preHeaderOk_of_terminated _ (ImpIndex.bLines_terminated _)), e, ← hi, ← hs]
  rfl

/-- two records with the same name: the SOURCE raises ValueError -/
theorem source_index_duplicate (bs : Int) (recs : List Rec) (hwf : ∀ r ∈ recs, r.WF)
    (hdup : ¬ (recs.map Rec.name).Nodup) :
    Gen.Imp.index_fasta_file_imp 0 bs (bLines (fileOf recs)) = .error .value := by
  rw [index_fasta_file_is_source_full _ bs (ImpIndex.preHeaderOk_of_terminated _ (ImpIndex.bLines_terminated _)),
    indexFasta_duplicate bs recs hwf hdup]
  rfl

/-- the hypotheses of the corollaries are those of `indexFasta_spec` (satisfiable: see the `example`s in `Properties/C04.lean`);
    here the corollary's prediction is checked against direct evaluation of the generated function -/
example :
    let a : Rec := { hdr := [97], le := [10], lines := [[65, 67], [71]] }
    let b : Rec := { hdr := [98, 32, 120], le := [13, 10], lines := [[78, 78, 65]] }
    Gen.Imp.index_fasta_file_imp 0 2 (bLines (fileOf [a, b])) =
      .ok (2, ([a, b].foldl addRec {}).idx, 19, ([a, b].foldl addRec {}).scaffolds) := by
  decide +kernel

end AgpTpf.C04
