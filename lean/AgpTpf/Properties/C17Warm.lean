/-
  C15 / C17 (part) — "whether the FASTA index cache was freshly built or loaded from disk":
  what `FastaIndex.load_index` / `load_assembly` read back from the `.fai` / `.agp` written by `write_index` /
  `write_assembly` is the index and assembly that `index_fasta_file` built.

  Model: Model/Cli.lean (`faiRow` = `FastaInfo.fai_row`, `splitFaiLine` = `line.rstrip("\n").split("\t")`,
  `loadIndexLine`, `loadIndex`; `splitWords` = `line.split()`, the reader before fix f770cde of the source), Model/Fasta.lean
  (`indexFasta`), Model/Text.lean (`formatAgp`, `parseAgp`).  Helpers: Proofs/CliFai.lean, CliWarm.lean.

   B0 `source_fai_split_is_tabs`  source guard: the expression `load_index` unpacks into the five columns
   B1 `load_index_roundtrip`      `.fai` rows written for an index with pairwise different, TAB-free names load back as
                                  exactly that index (same order, same numbers); names may be empty or contain blanks;
                                  `load_index_roundtrip_text`: … also from the written TEXT (names without newline)
   B2 `load_index_line_rejects*`  a line that, after removing trailing newlines, does not have exactly five TAB-separated
                                  fields, or whose numeric fields are not integer literals, is a `ValueError`;
                                  `load_index_line_accepts_iff` is the converse; one bad line fails the whole load
   B3 `cold_assembly_wf` (Proofs/CliWarm.lean), `warm_eq_cold_assembly`, `warm_eq_cold_index`
                                  the assembly / index `index_fasta_file` builds (C04 `indexFasta_spec`) satisfies C05's
                                  `WFAgp`, is already in reader form (`canonAssembly a = a`), so format → parse gives it
                                  back EXACTLY; hypotheses `ColdOk` (each is needed: see the counterexamples) and
                                  `'\n' ∉ path` for the header line "Built from FASTA file '<path>'".
                                  `warm_eq_cold_index` needs NO condition on the names: every name the indexer
                                  produces is `NameOk` (`CliWarm.rec_name`).
   FINDINGS (examples at the end): a record named `#…`, a record without residues make the warm assembly differ from the
   cold one.
   The defect fix f770cde repairs: a name containing one of the bytes 0x1C–0x1F (white space for `str.split()`, not for
   `bytes.split()`) makes every warm start of the `line.split()` reader fail with `ValueError`; the example `recFs` shows
   that reader's six words, and that the tab reader round-trips.
-/
import AgpTpf.Proofs.CliFai
import AgpTpf.Proofs.CliWarm
import AgpTpf.Properties.C04
import AgpTpf.Properties.C05
import AgpTpf.Proofs.ImpEval
namespace AgpTpf.C17
open AgpTpf AgpTpf.CliFai AgpTpf.CliWarm AgpTpf.C04 AgpTpf.C05
open scoped AgpTpf.ImpEval

/-! ## B0  source guard -/

/-- the value `load_index` unpacks into `name, length, file_offset, residues_per_line, max_line_length`, as written
    in /repo/src/tola/fasta/index.py (extracted into `Gen/Cli.lean` on every run).  `splitFaiLine` models exactly
    this expression; if the source changes it, this theorem — and with it the build — fails. -/
theorem source_fai_split_is_tabs : Gen.faiLineSplitExpr = "line.rstrip('\\n').split('\\t')" := rfl

/-! ## B1  `.fai` round trip -/

/-- `NameOk n`: no tab (the column separator) and no newline (the row terminator) in `n`.  Empty names, blanks and
    every other white-space character are fine. -/
example : NameOk "scaffold_1".toList ∧ NameOk "a b".toList ∧ NameOk [] ∧ NameOk ['a', Char.ofNat 28, 'b'] ∧
    ¬ NameOk "a\tb".toList ∧ ¬ NameOk "a\nb".toList := by
  str_lits
  decide +kernel

/-- one row: what `fai_row` writes, `line.rstrip("\n").split("\t")` + `int()` read back (only a tab in the name
    can disturb this; a newline matters only for cutting the file into lines) -/
theorem load_index_line_roundtrip (e : Str × FastaInfo) (h : '\t' ∉ e.1) : loadIndexLine (faiRow e) = .ok e :=
  loadIndexLine_faiRow e h

/-- the five columns come back as written (the numbers as their decimal text) -/
theorem split_fai_row (e : Str × FastaInfo) (h : '\t' ∉ e.1) :
    splitFaiLine (faiRow e) = [e.1, intToStr e.2.length, intToStr e.2.fileOffset, intToStr e.2.rpl, intToStr e.2.mll] :=
  splitFaiLine_faiRow e h

/-- **B1** the whole file: entries with pairwise different, tab-free names load back as exactly the written index —
    same entries, same order, negative numbers included. -/
theorem load_index_roundtrip (entries : List (Str × FastaInfo))
    (hok : ∀ e ∈ entries, '\t' ∉ e.1) (hd : (entries.map Prod.fst).Pairwise (· ≠ ·)) :
    loadIndex (entries.map faiRow) = .ok entries := by
  rw [loadIndex_eq, foldlM_loadStep_rows [] entries hok (by simpa using hd)]; rfl

/-- … and from the written TEXT: with `NameOk` names (no newline either) iterating over the file yields the written
    rows again -/
theorem load_index_roundtrip_text (entries : List (Str × FastaInfo))
    (hok : ∀ e ∈ entries, NameOk e.1) (hd : (entries.map Prod.fst).Pairwise (· ≠ ·)) :
    pyLines (entries.map faiRow).flatten = entries.map faiRow ∧
    loadIndex (pyLines (entries.map faiRow).flatten) = .ok entries := by
  have h1 : pyLines (entries.map faiRow).flatten = entries.map faiRow := by
    apply pyLines_flatten
    intro l hl
    obtain ⟨e, he, rfl⟩ := List.mem_map.1 hl
    exact faiRow_lineOk e (hok e he).2
  exact ⟨h1, by rw [h1]; exact load_index_roundtrip entries (fun e he => (hok e he).1) hd⟩

/-- non-vacuity: a two-entry `.fai` (`a\t6\t4\t4\t6\n`, `b\t4\t20\t4\t6\n`, the index of the C04 example file) -/
def twoEntries : List (Str × FastaInfo) :=
  [(['a'], { length := 6, fileOffset := 4, rpl := 4, mll := 6 }),
   (['b'], { length := 4, fileOffset := 20, rpl := 4, mll := 6 })]
example : (∀ e ∈ twoEntries, NameOk e.1) ∧ (twoEntries.map Prod.fst).Pairwise (· ≠ ·) := by decide
example : twoEntries.map faiRow = ["a\t6\t4\t4\t6\n".toList, "b\t4\t20\t4\t6\n".toList] := by
  str_lits
  decide +kernel
example : loadIndex ["a\t6\t4\t4\t6\n".toList, "b\t4\t20\t4\t6\n".toList] = .ok twoEntries := by
  str_lits
  decide +kernel

/-- names with a blank and empty names round-trip (`line.split()` gives six / four fields) -/
example : loadIndex ([("a b".toList, ⟨6, 4, 4, 6⟩)].map faiRow) = .ok [("a b".toList, ⟨6, 4, 4, 6⟩)] := by
  rw [String.toList_ofList]
  decide +kernel
example : loadIndex ([([], ⟨6, 4, 4, 6⟩)].map faiRow) = .ok [([], ⟨6, 4, 4, 6⟩)] := by decide +kernel
/-- both hypotheses are needed: a tab in the name gives six columns (`ValueError`); a repeated name silently keeps
    one entry (later row wins, first position) -/
example : loadIndex ([("a\tb".toList, ⟨6, 4, 4, 6⟩)].map faiRow) = .error .value := by
  rw [String.toList_ofList]
  decide +kernel
example : loadIndex ([(['a'], ⟨6, 4, 4, 6⟩), (['a'], ⟨7, 20, 4, 6⟩)].map faiRow) = .ok [(['a'], ⟨7, 20, 4, 6⟩)] := by decide +kernel
/-- a newline in the name: the row itself would still be read, but the file no longer splits into the rows -/
example : pyLines ([("a\nb".toList, (⟨6, 4, 4, 6⟩ : FastaInfo))].map faiRow).flatten = ["a\n".toList, "b\t6\t4\t4\t6\n".toList] := by
  str_lits
  decide +kernel

/-! ## B2  rejected lines -/

/-- columns of `split("\t")` never contain a tab, so every loaded name is tab-free -/
theorem split_fai_line_no_tab (s : Str) : ∀ w ∈ splitFaiLine s, '\t' ∉ w :=
  not_mem_of_mem_splitOnChar '\t' _

/-- **B2a** after removing trailing newlines not exactly five TAB-separated fields: `ValueError` (unpacking) -/
theorem load_index_line_rejects_count (line : Str) (h : (splitFaiLine line).length ≠ 5) :
    loadIndexLine line = .error .value := by
  unfold loadIndexLine
  split
  · rename_i heq; rw [heq] at h; exact absurd rfl h
  · rfl

/-- **B2b** five fields, one of the four numeric ones is not an integer literal: `ValueError` (`int()`) -/
theorem load_index_line_rejects_number (line n a b c d : Str) (hs : splitFaiLine line = [n, a, b, c, d])
    (h : (∃ e, pyInt a = .error e) ∨ (∃ e, pyInt b = .error e) ∨ (∃ e, pyInt c = .error e) ∨ (∃ e, pyInt d = .error e)) :
    loadIndexLine line = .error .value := by
  cases hr : loadIndexLine line with
  | error e => rw [loadIndexLine_error line e hr]
  | ok v =>
    obtain ⟨a', b', c', d', hs', ha, hb, hc, hd⟩ := (loadIndexLine_ok_iff line v).1 hr
    rw [hs] at hs'
    simp only [List.cons.injEq, and_true] at hs'
    obtain ⟨_, rfl, rfl, rfl, rfl⟩ := hs'
    rcases h with ⟨e, he⟩ | ⟨e, he⟩ | ⟨e, he⟩ | ⟨e, he⟩
    · rw [ha] at he; cases he
    · rw [hb] at he; cases he
    · rw [hc] at he; cases he
    · rw [hd] at he; cases he

/-- the only exception a line can raise is `ValueError` … -/
theorem load_index_line_rejects (line : Str) (e : Err) (h : loadIndexLine line = .error e) : e = .value :=
  loadIndexLine_error line e h

/-- … and it is accepted exactly when it has five tab-separated fields of which the last four are integer literals -/
theorem load_index_line_accepts_iff (line : Str) (e : Str × FastaInfo) :
    loadIndexLine line = .ok e ↔
      ∃ a b c d, splitFaiLine line = [e.1, a, b, c, d] ∧ pyInt a = .ok e.2.length ∧ pyInt b = .ok e.2.fileOffset ∧
        pyInt c = .ok e.2.rpl ∧ pyInt d = .ok e.2.mll := loadIndexLine_ok_iff line e

/-- one bad line anywhere fails the whole `load_index` (nothing is skipped) -/
theorem load_index_rejects (lines : List Str) (l : Str) (hl : l ∈ lines) (e : Err) (he : loadIndexLine l = .error e) :
    loadIndex lines = .error .value := by
  rw [loadIndex_eq]; exact foldlM_loadStep_error [] lines l hl e he

example : loadIndexLine "a\t6\t4\t4\n".toList = .error .value := by
  rw [String.toList_ofList]
  decide +kernel
example : loadIndexLine "a\t6\t4\t4\t6\t7\n".toList = .error .value := by
  rw [String.toList_ofList]
  decide +kernel
example : loadIndexLine "a\t6\t4\tx\t6\n".toList = .error .value := by
  rw [String.toList_ofList]
  decide +kernel
example : loadIndexLine "\n".toList = .error .value := by
  rw [String.toList_ofList]
  decide +kernel
/-- blanks do not separate columns -/
example : loadIndexLine "a 6 4 4 6\n".toList = .error .value := by
  rw [String.toList_ofList]
  decide +kernel
/-- accepted although `fai_row` never writes it: `int()` takes surrounding blanks, `+`, `_`; several / no final newline -/
example : loadIndexLine "a\t 6\t4 \t+4\t1_0\n\n".toList = .ok (['a'], ⟨6, 4, 4, 10⟩) := by
  rw [String.toList_ofList]
  decide +kernel
example : loadIndexLine "a\t6\t4\t4\t10".toList = .ok (['a'], ⟨6, 4, 4, 10⟩) := by
  rw [String.toList_ofList]
  decide +kernel
example : loadIndex ["a\t6\t4\t4\t6\n".toList, "b\t4\n".toList] = .error .value := by
  str_lits
  decide +kernel

/-! ## B3  the assembly and index built by `index_fasta_file` survive their files

  `ColdOk recs` (CliWarm): every record well-formed (`Rec.WF`, C04: name token non-empty ASCII, no `bytes.isspace` byte),
  names pairwise different, **every record has ≥ 1 residue**, **no name starts with `#`**.
  `builtFrom path` = `"Built from FASTA file '" ++ path ++ "'"`, the header line of the cold assembly. -/

/-- header-line condition: `HeaderOk` (C05) holds for the "Built from …" line iff the path has no newline
    (it starts with `B`, so the `[#\s]+(.+)` header regex gives it back unchanged) -/
theorem built_from_header_ok (path : Str) (h : '\n' ∉ path) : HeaderOk (builtFrom path) := builtFrom_ok path h

/-- **B3** cold = warm for the assembly, every buffer size: indexing the FASTA file succeeds, writing the resulting
    assembly as AGP succeeds, the written text splits into the written lines, and `parse_agp` of it returns the SAME
    assembly (header line, scaffolds, rows, coordinates, strands, gap types, and even the object ids). -/
theorem warm_eq_cold_assembly (bs : Int) (path : Str) (recs : List Rec) (hne : recs ≠ []) (hp : '\n' ∉ path)
    (hok : ColdOk recs) :
    ∃ st lines, indexFasta (bLines (fileOf recs)) bs = .ok st ∧
      formatAgp { header := [builtFrom path], scaffolds := st.scaffolds } = .ok lines ∧
      pyLines lines.flatten = lines ∧
      parseAgp (pyLines lines.flatten) = .ok { header := [builtFrom path], scaffolds := st.scaffolds } := by
  obtain ⟨st, hst, _, hsc⟩ := indexFasta_spec bs recs hne hok.wf hok.nodup
  obtain ⟨hwf, hnl, hcanon⟩ := cold_assembly_wf path recs hp hok
  obtain ⟨lines, h1, h2, h3⟩ := agp_roundtrip_text' _ hwf hnl
  refine ⟨st, lines, hst, ?_, h2, ?_⟩
  · rw [hsc]; exact h1
  · rw [hsc, h3, hcanon]

/-- cold = warm for the index, every buffer size, NO condition on the names beyond C04's: the `.fai` written for
    the built index — even read back from its text — loads as exactly that index. -/
theorem warm_eq_cold_index (bs : Int) (recs : List Rec) (hne : recs ≠ []) (hwf : ∀ r ∈ recs, r.WF)
    (hnd : (recs.map Rec.name).Nodup) :
    ∃ st, indexFasta (bLines (fileOf recs)) bs = .ok st ∧ loadIndex (st.idx.map faiRow) = .ok st.idx ∧
      loadIndex (pyLines (st.idx.map faiRow).flatten) = .ok st.idx := by
  obtain ⟨st, hst, hidx, _⟩ := indexFasta_spec bs recs hne hwf hnd
  refine ⟨st, hst, ?_⟩
  have hkeys : st.idx.map Prod.fst = recs.map Rec.name := by
    rw [hidx]; have := foldl_addRec_keys recs {}; simpa using this
  have hok : ∀ e ∈ st.idx, NameOk e.1 := by
    intro e he
    have : e.1 ∈ recs.map Rec.name := by rw [← hkeys]; exact List.mem_map.2 ⟨e, he, rfl⟩
    obtain ⟨r, hr, hre⟩ := List.mem_map.1 this
    rw [← hre]
    -- names come from `bytes.split()`, which cuts at ASCII white space: no tab, no newline
    exact ⟨(rec_name r (hwf r hr)).2.1, (rec_name r (hwf r hr)).2.2.1⟩
  have hd : (st.idx.map Prod.fst).Pairwise (· ≠ ·) := by rw [hkeys]; exact hnd
  exact ⟨load_index_roundtrip _ (fun e he => (hok e he).1) hd, (load_index_roundtrip_text _ hok hd).2⟩

/-- names of well-formed records: non-empty ASCII, no tab, no newline; the only `str.isspace` characters they can
    contain are U+001C … U+001F -/
theorem rec_name_space (r : Rec) (h : r.WF) :
    r.name ≠ [] ∧ '\t' ∉ r.name ∧ '\n' ∉ r.name ∧
      ∀ c ∈ r.name, c.toNat < 128 ∧ (isSpace c = true → 28 ≤ c.toNat ∧ c.toNat ≤ 31) := rec_name r h

/-- non-vacuity: `>a\nACGTNN\nAC\n>b x\r\nnnAC\r\n` -/
def recA : Rec := { hdr := [97], le := [10], lines := [[65, 67, 71, 84, 78, 78], [65, 67]] }
def recB : Rec := { hdr := [98, 32, 120], le := [13, 10], lines := [[110, 110, 65, 67]] }
theorem coldOk_demo : ColdOk [recA, recB] := by
  refine ⟨?_, by decide, ?_, ?_⟩
  · intro r hr
    simp only [List.mem_cons, List.not_mem_nil, or_false] at hr
    rcases hr with rfl | rfl
    · exact ⟨Or.inl ⟨rfl, by decide⟩, by decide, by decide, by decide, by decide⟩
    · exact ⟨Or.inr rfl, by decide, by decide, by decide, by decide⟩
  · intro r hr
    simp only [List.mem_cons, List.not_mem_nil, or_false] at hr
    rcases hr with rfl | rfl <;> decide
  · intro r hr
    simp only [List.mem_cons, List.not_mem_nil, or_false] at hr
    rcases hr with rfl | rfl <;> decide
example : ([recA, recB].foldl addRec {}).scaffolds =
    [{ name := ['a'], rows := [fragRow 0 ['a'] 0 4, gapRow 2, fragRow 1 ['a'] 6 8] },
     { name := ['b'], rows := [gapRow 2, fragRow 2 ['b'] 2 4] }] := by decide +kernel

/-! ### findings: each extra hypothesis of `ColdOk` is needed -/

def coldOf (recs : List Rec) : Assembly := { header := [builtFrom "x.fa".toList], scaffolds := (recs.foldl addRec {}).scaffolds }
def warmOf (recs : List Rec) : R Assembly := formatAgp (coldOf recs) >>= parseAgp

/-- FINDING 1: a record named `#x` (`>#x\nAC\n`).  Its AGP line starts with `#`, so `parse_agp` reads it as a header
    comment: the warm assembly has NO scaffold and a second header line, the cold one has the scaffold `#x`. -/
def recHash : Rec := { hdr := [35, 120], le := [10], lines := [[65, 67]] }
example : recHash.WF := ⟨Or.inl ⟨rfl, by decide⟩, by decide, by decide, by decide, by decide⟩
example : (coldOf [recHash]).scaffolds = [{ name := "#x".toList, rows := [fragRow 0 "#x".toList 0 2] }] ∧
    (warmOf [recHash]).map (fun a => (a.header.length, a.scaffolds)) = .ok (2, []) := by decide +kernel

/-- FINDING 2: a record without residues (`>e\n>a\nAC\n`): the cold assembly has the empty scaffold `e`, its AGP has no
    line for it, the warm assembly lacks it (the `.fai` still lists `e` with length 0). -/
def recEmpty : Rec := { hdr := [101], le := [10], lines := [] }
def recAC : Rec := { hdr := [97], le := [10], lines := [[65, 67]] }
example : recEmpty.WF := ⟨Or.inl ⟨rfl, by decide⟩, by decide, by decide, by decide, by decide⟩
example : (coldOf [recEmpty, recAC]).scaffolds.map (·.name) = [['e'], ['a']] ∧
    (warmOf [recEmpty, recAC]).map (fun a => a.scaffolds.map (·.name)) = .ok [['a']] ∧
    ([recEmpty, recAC].foldl addRec {}).idx.map Prod.fst = [['e'], ['a']] := by decide +kernel

/-! ### a name with a `str.isspace` character that is not `bytes.isspace` (the defect fix f770cde repairs) -/

/-- a name containing U+001C (`>a\x1cb\nAC\n`).  `bytes.split()` keeps the byte inside the name (it is not
    `bytes.isspace`) and the `.fai` row is written with it.  The reader `line.split()` (`splitWords`) cuts there:
    six words, `ValueError` on every warm start.  The reader `line.rstrip("\n").split("\t")` gives the index back. -/
def recFs : Rec := { hdr := [97, 28, 98], le := [10], lines := [[65, 67]] }
example : recFs.WF := ⟨Or.inl ⟨rfl, by decide⟩, by decide, by decide, by decide, by decide⟩
example : ([recFs].foldl addRec {}).idx = [(['a', Char.ofNat 28, 'b'], ⟨2, 5, 2, 3⟩)] ∧
    loadIndex (([recFs].foldl addRec {}).idx.map faiRow) = .ok ([recFs].foldl addRec {}).idx := by decide +kernel
/-- the defect: `line.split()` on that row -/
example : splitWords (faiRow (['a', Char.ofNat 28, 'b'], ⟨2, 5, 2, 3⟩)) =
    [['a'], ['b'], ['2'], ['5'], ['2'], ['3']] := by
  rw [splitWords_fuel 16 _ (by decide)]; rfl

end AgpTpf.C17
