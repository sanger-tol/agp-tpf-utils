/-
  C10 (part) — the chromosome report `<output>.chr_report.csv` (`AssemblyStats.chromosomes_report_csv`).

  Model: Model/CliPlan.lean (`chromosomesReport`, `chromosomesReportAsm`, `reportLabel`, `ReportRow` = the CSV columns
  assembly, seq_name, chromosome, localised, pretext_scaffold, length, length_minus_gaps; CSV quoting not modelled).
  Helpers: Proofs/CliPlanReport.lean (the report loop and the `chromosome_name_csv` loop run in lock step),
  Proofs/C10Csv.lean + Properties/C10.lean (`csvLine`, `chromosome_name_csv`).

   R1  `chromosomes_report_eq`        the rows, completely: per assembly one row per rank-1/2 scaffold, in order
       `chromosomes_report_rows`      row by row: columns, and when `localised` is `false`
       `report_agrees_with_chr_list`  the `(name, chr_name, localised)` triples are those of `chromosome_name_csv`
       `report_empty_iff`             when the report (and each chromosome list) is not written at all
  Both functions start every assembly with a fresh `orig_chr_name` dict, so an unloc is "not localised" only relative
  to its own assembly; the report differs from the lists only by covering ALL assemblies (also non-curated ones) and
  by the four extra columns.
-/
import AgpTpf.Proofs.CliPlanReport
import AgpTpf.Properties.C10
namespace AgpTpf.C10
open AgpTpf
open scoped AgpTpf.ImpEval

/-- **R1 (whole report)** assemblies in dict order; inside an assembly the rank-1/2 scaffolds in order, each paired
    with its line of `chromosome_name_csv`; the label is the dict key, `Primary` for a falsy key. -/
theorem chromosomes_report_eq (prefix_ : Str) (asms : List NamedAsm) :
    chromosomesReport prefix_ asms =
      asms.flatMap (fun a =>
        ((a.scaffolds.filter isChrRank).zip (chromosomeNameCsv prefix_ a.scaffolds)).map (fun p =>
          ({ assembly := if truthy a.key then a.key.getD [] else sPrimary
             seqName := p.2.1, chromosome := p.2.2.1, localised := p.2.2.2
             pretextScaffold := p.1.originalName, length := p.1.length, lengthMinusGaps := p.1.fragmentsLength } : ReportRow))) := by
  unfold chromosomesReport
  congr 1
  funext a
  rw [chromosomesReportAsm_spec]
  rfl

/-- **R1 (row by row)** for one assembly with label `hap`: as many rows as rank-1/2 scaffolds `rs`; the row of `s`
    (preceded by `pre` in `rs`) has `seq_name = s.name`, `pretext_scaffold = s.original_name`, `length = s.length`,
    `length_minus_gaps = s.fragments_length`, and `(chromosome, localised)` as in the chromosome list:
    `localised = false` exactly when `s` has a truthy Pretext name that an EARLIER rank-1/2 scaffold OF THIS ASSEMBLY
    has too — then `chromosome` is that of the first such scaffold — otherwise `chromosome` is `s.name` with the first
    occurrence of the prefix removed. -/
theorem chromosomes_report_rows (prefix_ hap : Str) (scs : List Scaffold) :
    let rs := scs.filter isChrRank
    let rows := chromosomesReportAsm prefix_ hap scs
    rows.length = rs.length ∧
    ∀ pre s post, rs = pre ++ s :: post →
      rows[pre.length]? = some
        { assembly := hap, seqName := s.name, chromosome := (csvLine prefix_ pre s).2.1,
          localised := (csvLine prefix_ pre s).2.2, pretextScaffold := s.originalName, length := s.length,
          lengthMinusGaps := s.fragmentsLength } ∧
      ((csvLine prefix_ pre s).2.2 = false ↔
        (truthy s.originalName = true ∧ ∃ e ∈ pre, e.originalName = s.originalName)) ∧
      ((csvLine prefix_ pre s).2.2 = true → (csvLine prefix_ pre s).2.1 = replaceFirst prefix_ [] s.name) ∧
      ((csvLine prefix_ pre s).2.2 = false →
        ∃ e, pre.find? (fun e => e.originalName = s.originalName) = some e ∧
          (csvLine prefix_ pre s).2.1 = replaceFirst prefix_ [] e.name) := by
  intro rs rows
  obtain ⟨hlen, hnames, hrow⟩ := chromosome_name_csv prefix_ scs
  have hrows : rows = (rs.zip (chromosomeNameCsv prefix_ scs)).map (fun p => mkRow hap p.1 p.2) :=
    chromosomesReportAsm_spec prefix_ hap scs
  refine ⟨by rw [hrows, List.length_map, List.length_zip, hlen]; exact Nat.min_self _, ?_⟩
  intro pre s post hrs
  obtain ⟨h1, h2, h3, h4⟩ := hrow pre s post hrs
  refine ⟨?_, h2, h3, h4⟩
  rw [hrows, List.getElem?_map]
  have hz : (rs.zip (chromosomeNameCsv prefix_ scs))[pre.length]? = some (s, csvLine prefix_ pre s) := by
    rw [List.getElem?_zip_eq_some]
    refine ⟨?_, h1⟩
    show rs[pre.length]? = some s
    rw [hrs, List.getElem?_append_right (Nat.le_refl _), Nat.sub_self]; rfl
  rw [hz]
  have hn : (csvLine prefix_ pre s).1 = s.name := by unfold csvLine; split <;> rfl
  simp only [Option.map_some, mkRow, hn]

/-- **`report_agrees_with_chr_list`**: per assembly the report carries exactly the `(name, chr_name, localised)`
    triples of `chromosome_name_csv`, in the same order; so does the whole report, assembly after assembly. -/
theorem report_agrees_with_chr_list (prefix_ : Str) (asms : List NamedAsm) :
    (∀ hap scs, (chromosomesReportAsm prefix_ hap scs).map (fun r => (r.seqName, r.chromosome, r.localised)) =
      chromosomeNameCsv prefix_ scs) ∧
    (chromosomesReport prefix_ asms).map (fun r => (r.seqName, r.chromosome, r.localised)) =
      asms.flatMap (fun a => chromosomeNameCsv prefix_ a.scaffolds) := by
  have one : ∀ hap scs, (chromosomesReportAsm prefix_ hap scs).map (fun r => (r.seqName, r.chromosome, r.localised)) =
      chromosomeNameCsv prefix_ scs := by
    intro hap scs
    rw [chromosomesReportAsm_spec, List.map_map]
    have : ((fun r : ReportRow => (r.seqName, r.chromosome, r.localised)) ∘ fun p : Scaffold × Str × Str × Bool => mkRow hap p.1 p.2) =
        Prod.snd := by funext p; rfl
    rw [this]
    exact List.map_snd_zip (by rw [(chromosome_name_csv prefix_ scs).1]; exact Nat.le_refl _)
  refine ⟨one, ?_⟩
  unfold chromosomesReport
  rw [List.map_flatMap]
  congr 1
  funext a
  exact one _ _

/-- every row of an assembly carries that assembly's label -/
theorem report_label (prefix_ hap : Str) (scs : List Scaffold) :
    ∀ r ∈ chromosomesReportAsm prefix_ hap scs, r.assembly = hap := by
  intro r hr
  rw [chromosomesReportAsm_spec] at hr
  obtain ⟨p, _, rfl⟩ := List.mem_map.1 hr
  rfl

/-- the report has no data row (`chromosomes_report_csv` returns `None`, no `.chr_report.csv` is written) iff no
    assembly has a rank-1/2 scaffold; an assembly's chromosome list is empty iff that assembly has none. -/
theorem report_empty_iff (prefix_ : Str) (asms : List NamedAsm) :
    ((chromosomesReport prefix_ asms).isEmpty = true ↔ ∀ a ∈ asms, ∀ s ∈ a.scaffolds, isChrRank s = false) ∧
    (∀ scs, (chromosomeNameCsv prefix_ scs).isEmpty = true ↔ ∀ s ∈ scs, isChrRank s = false) := by
  have one : ∀ scs, (chromosomeNameCsv prefix_ scs).isEmpty = true ↔ ∀ s ∈ scs, isChrRank s = false := by
    intro scs
    rw [List.isEmpty_iff, ← List.length_eq_zero_iff, (chromosome_name_csv prefix_ scs).1, List.length_eq_zero_iff,
      List.filter_eq_nil_iff]
    simp
  refine ⟨?_, one⟩
  have hlen : ∀ hap scs, (chromosomesReportAsm prefix_ hap scs).length = (chromosomeNameCsv prefix_ scs).length := by
    intro hap scs
    rw [← (report_agrees_with_chr_list prefix_ []).1 hap scs, List.length_map]
  rw [List.isEmpty_iff]
  unfold chromosomesReport
  rw [List.flatMap_eq_nil_iff]
  constructor
  · intro h a ha
    have := h a ha
    rw [← one, List.isEmpty_iff, ← List.length_eq_zero_iff, ← hlen (reportLabel a.key), this]; rfl
  · intro h a ha
    have := (one a.scaffolds).2 (h a ha)
    rw [List.isEmpty_iff] at this
    rw [← List.length_eq_zero_iff, hlen, this]; rfl

/-! ### non-vacuity -/

private def tsc (n : String) (rank : Int) (orig : Option String) (L : Int) : Scaffold :=
  { name := n.toList, rank := rank, originalName := orig.map (·.toList),
    rows := [Row.frag { name := ['c'], start := 1, stop := L, strand := 1 }, Row.gap { length := 10, gapType := "scaffold".toList }] }

/-- chromosome, an unplaced scaffold in between, its unloc, a second chromosome without Pretext name -/
private def demoScs : List Scaffold :=
  [tsc "SUPER_1" 1 (some "Sc1") 30, tsc "scaffold_7" 3 (some "Sc1") 4, tsc "SUPER_1_unloc_1" 1 (some "Sc1") 8,
   tsc "SUPER_X" 2 none 20]

private def demoScsC : Decoded demoScs := ⟨_, by simp only [demoScs, tsc, Option.map_some]; str_lits; exact rfl⟩

example : demoScs.filter isChrRank = [] ++ tsc "SUPER_1" 1 (some "Sc1") 30 ::
    [tsc "SUPER_1_unloc_1" 1 (some "Sc1") 8, tsc "SUPER_X" 2 none 20] := by
  rw [demoScsC.2]; simp only [tsc, Option.map_some]; str_lits; decide +kernel
example : demoScs.filter isChrRank = [tsc "SUPER_1" 1 (some "Sc1") 30] ++ tsc "SUPER_1_unloc_1" 1 (some "Sc1") 8 ::
    [tsc "SUPER_X" 2 none 20] := by rw [demoScsC.2]; simp only [tsc, Option.map_some]; str_lits; decide +kernel
example : chromosomesReportAsm "SUPER_".toList sPrimary demoScs =
    [{ assembly := sPrimary, seqName := "SUPER_1".toList, chromosome := ['1'], localised := true,
       pretextScaffold := some "Sc1".toList, length := 40, lengthMinusGaps := 30 },
     { assembly := sPrimary, seqName := "SUPER_1_unloc_1".toList, chromosome := ['1'], localised := false,
       pretextScaffold := some "Sc1".toList, length := 18, lengthMinusGaps := 8 },
     { assembly := sPrimary, seqName := "SUPER_X".toList, chromosome := ['X'], localised := true,
       pretextScaffold := none, length := 30, lengthMinusGaps := 20 }] := by
  rw [demoScsC.2]; str_lits; decide +kernel
/-- fresh dict per assembly: the same Pretext name in a second assembly is "localised" there -/
example : (chromosomesReport "SUPER_".toList
      [{ key := none, name := ['p'], curated := true, scaffolds := [tsc "SUPER_1" 1 (some "Sc1") 30] },
       { key := some "Hap2".toList, name := ['q'], curated := true, scaffolds := [tsc "SUPER_2" 1 (some "Sc1") 8] }]).map
      (fun r => (r.assembly, r.seqName, r.localised)) =
    [(sPrimary, "SUPER_1".toList, true), ("Hap2".toList, "SUPER_2".toList, true)] := by
  simp only [tsc, Option.map_some]; str_lits; decide +kernel

end AgpTpf.C10
