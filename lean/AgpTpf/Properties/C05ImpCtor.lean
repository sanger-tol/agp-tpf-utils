/-
  C05 / T1c — CONSTRUCTOR GUARDS for `Gap`, `Fragment` and `FastaInfo` (see `Properties/C20ImpCtor.lean` for the idea): the translated kernels
  emit constructor calls as the model's literals / `mkFragment`; here the `__init__` bodies of the current source, as translated, are proved to
  build exactly those (with the signature's default `tags=()`), including the two ValueErrors of `Fragment.__init__` and their order.
-/
import AgpTpf.Gen.Imp3
import AgpTpf.Proofs.ImpEval
namespace AgpTpf.C05
open AgpTpf AgpTpf.ImpEval

theorem gap_init_is_source (n : Int) (t : Str) : Gen.Imp.Gap___init__ n t = .ok { length := n, gapType := t } := rfl

/-- `Fragment.__init__` = the model's `mkFragment`: strand outside {0, 1, -1} is a ValueError, then start > end is a ValueError -/
theorem fragment_init_is_source (oid : Nat) (name : Str) (a b s : Int) (tags : List Str) :
    Gen.Imp.Fragment___init__ name a b s tags oid = mkFragment oid name a b s tags := by
  unfold Gen.Imp.Fragment___init__ mkFragment
  by_cases h0 : s = 0
  · subst h0; by_cases h : a > b <;> simp [h]
  · by_cases h1 : s = 1
    · subst h1; by_cases h : a > b <;> simp [h]
    · by_cases h2 : s = -1
      · subst h2; by_cases h : a > b <;> simp [h]
      · simp [h0, h1, h2]

/-- the default of `tags` is the empty tuple -/
theorem fragment_defaults_are_model (oid : Nat) (name : Str) (a b s : Int) :
    Gen.Imp.Fragment___init___defaults name a b s oid = mkFragment oid name a b s [] := by
  unfold Gen.Imp.Fragment___init___defaults
  exact fragment_init_is_source oid name a b s []

theorem fastainfo_init_is_source (l o r m : Int) :
    Gen.Imp.FastaInfo___init__ l o r m = .ok { length := l, fileOffset := o, rpl := r, mll := m } := rfl

example : Gen.Imp.Fragment___init___defaults "c".toList 5 4 1 7 = .error .value := by
  str_lits
  decide +kernel
example : Gen.Imp.Fragment___init___defaults "c".toList 4 5 2 7 = .error .value := by
  str_lits
  decide +kernel
example : (Gen.Imp.Fragment___init___defaults "c".toList 4 5 (-1) 7).map (·.oid) = .ok 7 := by
  str_lits
  decide +kernel

end AgpTpf.C05
