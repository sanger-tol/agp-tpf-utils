/-
  C05 — T1c tie: the model's `parseAgp` / `parseTpf` ARE the source's `parse_agp` / `parse_tpf` (assembly/parser.py) as
  translated by `harness/translate_imp.py` into `Gen.Imp.parse_agp_imp` / `Gen.Imp.parse_tpf_imp`.

  The translated source keeps the Scaffold objects it creates in an arena and returns
  `(heap_sc, nextOid, asm_header, asm_scaffolds)`; `srcAssembly` (Proofs/ImpParse.lean) reads the parsed assembly off these four
  components (header + the referenced scaffolds).  Both sides start object ids at 0 and return header + scaffolds, so the tie is an
  equation in `R Assembly`: same assembly (header, scaffold names, rows with their object ids), same exception class
  (IndexError for a missing column, AttributeError for a row before any scaffold exists, KeyError for an unknown strand,
  ValueError from `int()` / `Fragment.__init__` / the explicit `raise ValueError`s of `parse_tpf`) otherwise.
  The source's `str.maketrans` table (`lowercase_and_dash_to_underscore()`, a parameter of the translated function) is
  instantiated with the model's own per-character table `modelTrLower` (the extracted alphabets `Gen.lowerFrom/lowerTo`).

  The loop and the `return asm` are the same in both parsers and are tied once, for any line reader (`parse_loop`, with the arena
  lemmas in Proofs/ImpParse.lean); what is proved here is its hypothesis, that ONE pass of the loop refines the model's line reader.
  The two programs are walked down in step with the rules of Proofs/ImpRef.lean (`Ref.bind_same`: the same fallible operation on
  both sides, `Ref.ite`: the same test, `Ref.bind_src`: the joined `if` that switches scaffolds, `Ref.bind_ok`: the code after a
  joined `if` in which the model has already finished its step) and `stepSim_needObj` (attribute access on `scaffold`); no step
  mentions a generated sub-term.

  Corollaries: C05 for the SOURCE in both directions — the source's reader applied to the text the source's writer wrote
  (split into lines the way file iteration does) returns the assembly (`source_agp_roundtrip`, `source_tpf_roundtrip`).
-/
import AgpTpf.Proofs.ImpParse
import AgpTpf.Proofs.ImpEval
import AgpTpf.Properties.C05
import AgpTpf.Properties.C05Imp
import AgpTpf.Properties.C06Imp
namespace AgpTpf.C05
open AgpTpf AgpTpf.ImpEval
open AgpTpf.ImpFound (Ref)

/-- the character map of the source's translation table, as the model has it: `translate Gen.lowerFrom Gen.lowerTo`
    (what `tpfGapTypeOfText` applies when the dictionary has no entry) is `List.map` of this function -/
def modelTrLower : Char → Char :=
  fun c => match dGet? (Gen.lowerFrom.zip Gen.lowerTo) c with | some d => d | none => c

/-- `modelTrLower` is the model's table: `tpfGapTypeOfText t` is `gap_type_dict.get(t, t.translate(tr))` -/
theorem modelTrLower_is_model (t : Str) :
    tpfGapTypeOfText t = (dGet? Gen.tpfGapParseDict t).getD (t.map modelTrLower) :=
  tpfGapTypeOfText_eq_getD t

/-- the table, run: upper-case letters to lower case, `-` to `_`, everything else unchanged -/
example : "SHORT-ARM z_9É".toList.map modelTrLower = "short_arm z_9É".toList := by
  str_lits
  decide +kernel

/-- `"##"`, `"#"` in `line.startswith(...)`: the model's character lists -/
private theorem lit_hash2 : ("##".toList : Str) = ['#', '#'] := rfl
private theorem lit_hash1 : ("#".toList : Str) = ['#'] := rfl

/-- the source's `parse_agp` is the model's `parseAgp`: same assembly, same exception class otherwise -/
theorem parse_agp_is_source (lines : List Str) :
    (Gen.Imp.parse_agp_imp 0 lines).map srcAssembly = parseAgp lines := by
  unfold Gen.Imp.parse_agp_imp
  str_lits
  refine parse_loop parseAgpLine _ _ lines (fun line hdr nm sc heap refs oid hinv => ?_) fun _ _ _ _ _ _ => rfl
  unfold parseAgpLine
  refine Ref.ite Iff.rfl (fun _ => Ref.next (parseRel_mk hinv)) fun _ => ?_
  refine Ref.ite Iff.rfl (fun _ => Ref.next (parseRel_mk hinv)) fun _ => ?_
  refine Ref.ite Iff.rfl (fun _ => ?_) fun _ => ?_
  · cases headerText line <;> exact Ref.next (parseRel_mk hinv)
  generalize splitOnChar '\t' (rstripBy isSpace line) = fields
  refine Ref.bind_same fun f0 h0 => ?_
  -- `if fields[0] != scaffold_name:`
  refine Ref.bind_src (Q := SwitchRel hdr oid) ⟨_, ?_, switchRel_ite (nm := nm) hinv f0⟩ ?_
  · by_cases hn : f0 = nm <;> simp [hn, h0, ok_bind]
  rintro _ ⟨sc', heap', refs', nm', rfl, hst, hI⟩
  rw [hst]
  refine Ref.bind_same fun f4 h4 => ?_
  -- what follows the joined `if` cannot fail: it packs the variables for the next pass
  refine Ref.bind_ok ?_ fun _ _ h => h
  refine Ref.ite Iff.rfl (fun hc => ?_) (fun hc => ?_)
  · -- a gap row
    refine stepSim_needObj _ _ _ _ _ fun r hr => ?_
    cases hr
    refine Ref.bind_same fun f5 h5 => ?_
    refine Ref.bind_same fun f6 h6 => ?_
    refine Ref.bind_same fun len hlen => ?_
    rw [srcState_addRow_some _ _ _ _ _ _ _ hI]
    exact Ref.ok (Ref.next (parseRel_mk (arenaInv_addRow hI _ _)))
  · -- a fragment row
    refine stepSim_needObj _ _ _ _ _ fun r hr => ?_
    cases hr
    refine Ref.bind_same fun f5 h5 => ?_
    refine Ref.bind_same fun f6 h6 => ?_
    refine Ref.bind_same fun f7 h7 => ?_
    refine Ref.bind_same fun f8 h8 => ?_
    refine Ref.bind_same fun strand hstrand => ?_
    refine Ref.bind_same fun s hs => ?_
    refine Ref.bind_same fun e he => ?_
    rw [slice_from_9]
    refine Ref.bind_same fun f hf => ?_
    rw [srcState_addRow_some _ _ _ _ _ _ _ hI]
    exact Ref.ok (Ref.next (parseRel_mk (arenaInv_addRow hI _ _)))

/-- a small AGP file: a `##` line, a header line, a blank line, a tagged fragment row, a gap row, a minus-strand row,
    a second scaffold with strand `?` and a stray tab at the end of the line -/
def agpDemoLines : List Str := pyLines (
  "## agp-version 2.1\n# DESCRIPTION: test\n\n" ++
  "s1\t1\t10\t1\tW\tctg1\t1\t10\t+\tPainted\tX\n" ++
  "s1\t11\t210\t2\tU\t200\tscaffold\tyes\tproximity_ligation\n" ++
  "s1\t211\t215\t3\tW\tctg2\t5\t9\t-\n" ++
  "s2\t1\t20\t1\tW\tctg3\t1\t20\t?\t\n").toList

set_option maxRecDepth 8000 in
/-- the generated function, run on `agpDemoLines` (once; the two examples below read it) -/
theorem parse_agp_demo_run : Gen.Imp.parse_agp_imp 0 agpDemoLines = .ok
    ([{ name := "s1".toList, rows :=
          [.frag { oid := 0, name := "ctg1".toList, start := 1, stop := 10, strand := 1,
                   tags := ["Painted".toList, "X".toList] },
           .gap { length := 200, gapType := "scaffold".toList },
           .frag { oid := 1, name := "ctg2".toList, start := 5, stop := 9, strand := -1 }] },
      { name := "s2".toList, rows :=
          [.frag { oid := 2, name := "ctg3".toList, start := 1, stop := 20, strand := 0 }] }],
     3, ["DESCRIPTION: test".toList], [0, 1]) := by
  simp only [agpDemoLines, String.toList_append]
  str_lits
  decide +kernel

set_option maxRecDepth 8000 in
/-- the generated function, run: the arena with two scaffolds, three object ids handed out, the header text, the
    references `[0, 1]` -/
example : Gen.Imp.parse_agp_imp 0 agpDemoLines = .ok
    ([{ name := "s1".toList, rows :=
          [.frag { oid := 0, name := "ctg1".toList, start := 1, stop := 10, strand := 1,
                   tags := ["Painted".toList, "X".toList] },
           .gap { length := 200, gapType := "scaffold".toList },
           .frag { oid := 1, name := "ctg2".toList, start := 5, stop := 9, strand := -1 }] },
      { name := "s2".toList, rows :=
          [.frag { oid := 2, name := "ctg3".toList, start := 1, stop := 20, strand := 0 }] }],
     3, ["DESCRIPTION: test".toList], [0, 1]) :=
  parse_agp_demo_run

set_option maxRecDepth 8000 in
example : (Gen.Imp.parse_agp_imp 0 agpDemoLines).map srcAssembly = .ok
    { header := ["DESCRIPTION: test".toList],
      scaffolds :=
        [{ name := "s1".toList, rows :=
            [.frag { oid := 0, name := "ctg1".toList, start := 1, stop := 10, strand := 1,
                     tags := ["Painted".toList, "X".toList] },
             .gap { length := 200, gapType := "scaffold".toList },
             .frag { oid := 1, name := "ctg2".toList, start := 5, stop := 9, strand := -1 }] },
         { name := "s2".toList, rows :=
            [.frag { oid := 2, name := "ctg3".toList, start := 1, stop := 20, strand := 0 }] }] } := by
  rw [parse_agp_demo_run]
  rfl

/-- AttributeError: an empty first column equals the initial `scaffold_name`, so `scaffold` is still `None` -/
example : Gen.Imp.parse_agp_imp 0 ["\t1\t5\t1\tW\tc\t1\t5\t+\n".toList] = .error .attribute := by
  str_lits
  decide +kernel
/-- … and it is raised before the columns are looked at (`scaffold.add_row` is evaluated first) -/
example : Gen.Imp.parse_agp_imp 0 ["\t1\t5\t1\tW\n".toList] = .error .attribute := by
  str_lits
  decide +kernel
/-- KeyError: an unknown strand, after a scaffold that was read fine -/
example : Gen.Imp.parse_agp_imp 0 ["s\t1\t5\t1\tU\t5\tcontig\n".toList, "s\t1\t5\t1\tW\tc\t1\t5\tx\n".toList] =
    .error .key := by
  str_lits
  decide +kernel
/-- IndexError: a missing column; ValueError: `int("9x")`, `start > end` -/
example : Gen.Imp.parse_agp_imp 0 ["s\t1\t5\t1\tW\tc\t5\n".toList] = .error .index := by
  str_lits
  decide +kernel
example : Gen.Imp.parse_agp_imp 0 ["s\t1\t5\t1\tW\tc\t5\t9x\t+\n".toList] = .error .value := by
  str_lits
  decide +kernel
example : Gen.Imp.parse_agp_imp 0 ["s\t1\t5\t1\tW\tc\t9\t5\t+\n".toList] = .error .value := by
  str_lits
  decide +kernel

/-- the source's `parse_tpf` is the model's `parseTpf`: same assembly, same exception class otherwise -/
theorem parse_tpf_is_source (lines : List Str) :
    (Gen.Imp.parse_tpf_imp 0 lines modelTrLower).map srcAssembly = parseTpf lines := by
  unfold Gen.Imp.parse_tpf_imp
  str_lits
  refine parse_loop parseTpfLine _ _ lines (fun line hdr nm sc heap refs oid hinv => ?_) fun _ _ _ _ _ _ => rfl
  unfold parseTpfLine
  refine Ref.ite Iff.rfl (fun _ => Ref.next (parseRel_mk hinv)) fun _ => ?_
  refine Ref.ite Iff.rfl (fun _ => ?_) fun _ => ?_
  · cases headerText line <;> exact Ref.next (parseRel_mk hinv)
  rw [isCrLf_eq_contains]
  generalize splitOnChar '\t' (rstripBy isCrLf line) = fields
  refine Ref.bind_same fun f0 h0 => ?_
  refine Ref.ite (by simp [Gen.tpfGapWord]) (fun hg => ?_) (fun hg => ?_)
  · -- a GAP line: `if scaffold:` (a reference is never falsy)
    cases sc with
    | none => exact Ref.error _
    | some r =>
      refine Ref.bind_same fun f2 h2 => ?_
      refine Ref.bind_same fun f1 hf1 => ?_
      simp only [hf1, ok_bind, tpfGapTypeOfText_eq_getD]
      refine Ref.bind_same fun len hlen => ?_
      rw [srcState_addRow_some _ _ _ _ _ _ _ hinv]
      exact Ref.next (parseRel_mk (arenaInv_addRow hinv _ _))
  · refine Ref.ite (by simp; omega) (fun h4 => ?_) (fun h4 => ?_)
    · -- a fragment line; `if fields[2] != scaffold_name:` joined as in `parse_agp`
      refine Ref.bind_same fun f2 h2 => ?_
      refine Ref.bind_src (Q := SwitchRel hdr oid) ⟨_, ?_, switchRel_ite (nm := nm) hinv f2⟩ ?_
      · by_cases hn : f2 = nm <;> simp [hn, h2, ok_bind]
      rintro _ ⟨sc', heap', refs', nm', rfl, hst, hI⟩
      rw [hst]
      refine Ref.bind_same fun f1 hf1 => ?_
      cases hm : tpfNameMatch f1 with
      | none => exact Ref.error _
      | some m =>
        obtain ⟨name, d1, d2⟩ := m
        refine stepSim_needObj _ _ _ _ _ fun r hr => ?_
        cases hr
        refine Ref.bind_same fun f3 h3 => ?_
        refine Ref.bind_same fun strand hstrand => ?_
        refine Ref.bind_same fun s hs => ?_
        refine Ref.bind_same fun e he => ?_
        refine Ref.bind_same fun f hf => ?_
        rw [srcState_addRow_some _ _ _ _ _ _ _ hI]
        exact Ref.next (parseRel_mk (arenaInv_addRow hI _ _))
    · exact Ref.error _

/-- a small TPF file: header line, blank line, a name with a colon in it, a dictionary gap type, a translated gap type
    on a `\r\n` line, a minus-strand fragment, a second scaffold, no newline at the end of the file -/
def tpfDemoLines : List Str := pyLines (
  "## hdr\n\n" ++
  "?\tctg:1:1-10\ts1\tPLUS\n" ++
  "GAP\tTYPE-2\t200\n" ++
  "GAP\tSHORT-ARM\t7\r\n" ++
  "?\tctg2:5-9\ts1\tMINUS\n" ++
  "?\tctg3:11-20\ts2\tPLUS").toList

set_option maxRecDepth 8000 in
example : Gen.Imp.parse_tpf_imp 0 tpfDemoLines modelTrLower = .ok
    ([{ name := "s1".toList, rows :=
          [.frag { oid := 0, name := "ctg:1".toList, start := 1, stop := 10, strand := 1 },
           .gap { length := 200, gapType := "scaffold".toList },
           .gap { length := 7, gapType := "short_arm".toList },
           .frag { oid := 1, name := "ctg2".toList, start := 5, stop := 9, strand := -1 }] },
      { name := "s2".toList, rows :=
          [.frag { oid := 2, name := "ctg3".toList, start := 11, stop := 20, strand := 1 }] }],
     3, ["hdr".toList], [0, 1]) := by
  simp only [tpfDemoLines, String.toList_append]
  str_lits
  decide +kernel

/-- ValueError: a GAP line before the first fragment; a wrong field count; a name that is not `name:start-end` -/
example : Gen.Imp.parse_tpf_imp 0 ["GAP\tTYPE-2\t200\n".toList] modelTrLower = .error .value := by
  str_lits
  decide +kernel
example : Gen.Imp.parse_tpf_imp 0 ["?\tc:5-9\ts\n".toList] modelTrLower = .error .value := by
  str_lits
  decide +kernel
example : Gen.Imp.parse_tpf_imp 0 ["?\tc:5_9\ts\tPLUS\n".toList] modelTrLower = .error .value := by
  str_lits
  decide +kernel
/-- AttributeError: an empty scaffold column equals the initial `scaffold_name`, so `scaffold` is still `None` -/
example : Gen.Imp.parse_tpf_imp 0 ["?\tc:5-9\t\tPLUS\n".toList] modelTrLower = .error .attribute := by
  str_lits
  decide +kernel
/-- KeyError: strand UNKNOWN (what `format_tpf` writes for strand 0), after a scaffold that was read fine -/
example : Gen.Imp.parse_tpf_imp 0 ["?\tc:5-9\ts\tPLUS\n".toList, "?\tc:5-9\ts\tUNKNOWN\n".toList] modelTrLower =
    .error .key := by
  str_lits
  decide +kernel
/-- IndexError: a GAP line without a length column -/
example : Gen.Imp.parse_tpf_imp 0 ["?\tc:5-9\ts\tPLUS\n".toList, "GAP\tTYPE-2\n".toList] modelTrLower =
    .error .index := by
  str_lits
  decide +kernel

/-! ## C05 for the SOURCE, both directions -/

/-- AGP: the source's `parse_agp`, applied to the lines of the text the source's `format_agp` wrote for a well-formed
    assembly, returns that assembly (everything but Python object identity, `canonAssembly`) -/
theorem source_agp_roundtrip (a : Assembly) (h : WFAgp a) (hnl : NoNewlines a) :
    ∃ text, Gen.Imp.format_agp_imp a.header a.scaffolds = .ok text ∧
      (Gen.Imp.parse_agp_imp 0 (pyLines text)).map srcAssembly = .ok (canonAssembly a) := by
  obtain ⟨lines, h1, _, h3⟩ := agp_roundtrip_text' a h hnl
  refine ⟨lines.flatten, ?_, ?_⟩
  · rw [C06.format_agp_is_source, h1]; rfl
  · rw [parse_agp_is_source]; exact h3

/-- …line by line, without the hypothesis on newlines: the source's reader on the LINES the model's writer produces,
    whose concatenation is the text the source's writer writes -/
theorem source_agp_roundtrip_lines (a : Assembly) (h : WFAgp a) :
    ∃ lines, Gen.Imp.format_agp_imp a.header a.scaffolds = .ok lines.flatten ∧
      (Gen.Imp.parse_agp_imp 0 lines).map srcAssembly = .ok (canonAssembly a) := by
  obtain ⟨lines, h1, h2⟩ := agp_roundtrip a h
  refine ⟨lines, ?_, ?_⟩
  · rw [C06.format_agp_is_source, h1]; rfl
  · rw [parse_agp_is_source]; exact h2

/-- TPF: the same, everything but the tags (which a TPF file does not carry) -/
theorem source_tpf_roundtrip (a : Assembly) (h : WFTpf a) (hnl : NoNewlines a) :
    ∃ text, Gen.Imp.format_tpf_imp a.header a.scaffolds modelTr = .ok text ∧
      (Gen.Imp.parse_tpf_imp 0 (pyLines text) modelTrLower).map srcAssembly =
        .ok (canonAssembly (dropTagsAssembly a)) := by
  obtain ⟨lines, h1, _, h3⟩ := tpf_roundtrip_text' a h hnl
  refine ⟨lines.flatten, ?_, ?_⟩
  · rw [format_tpf_is_source, h1]; rfl
  · rw [parse_tpf_is_source]; exact h3

theorem source_tpf_roundtrip_lines (a : Assembly) (h : WFTpf a) :
    ∃ lines, Gen.Imp.format_tpf_imp a.header a.scaffolds modelTr = .ok lines.flatten ∧
      (Gen.Imp.parse_tpf_imp 0 lines modelTrLower).map srcAssembly = .ok (canonAssembly (dropTagsAssembly a)) := by
  obtain ⟨lines, h1, h2⟩ := tpf_roundtrip a h
  refine ⟨lines, ?_, ?_⟩
  · rw [format_tpf_is_source, h1]; rfl
  · rw [parse_tpf_is_source]; exact h2

/-- the hypotheses are satisfiable: `demo` of `Properties/C05.lean` (two scaffolds, a gap, a minus strand, tags, a header) -/
example : WFAgp C05.demo ∧ WFTpf C05.demo ∧ NoNewlines C05.demo := by
  unfold C05.demo
  str_lits
  decide +kernel

end AgpTpf.C05
