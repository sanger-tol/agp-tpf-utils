/-
  C11 — Curation statistics count the real cuts, breaks and joins.

  An adjacency is the UNORDERED pair of the two contig ends that face each other across a junction; a contig end is
  `End = (name, coordinate, isTail)` (`Proofs/C11Order.lean`: `leftFacing`, `rightFacing`, `facingEnds`, `SameAdj`,
  `encodeAdj`).

  PROVED, all at full strength (no `_partial` theorem in this file):
    0  `str_lt_*`, `end_le_*`            `strLt` is a strict total order, `endLe` a total order on (name, coordinate)
    1  `junction_tuple_reverse(_any)`    `junctionTuple b.reverse a.reverse = junctionTuple a b`, for ALL strand values
    2  `junction_tuple_spec`             for strands ±1 the tuple is `encodeAdj (facingEnds a b)`
       `junction_tuple_eq_iff`           same tuple ⇔ same unordered pair of facing ends (BOTH directions)
    3  `junction_set_reverse`            a scaffold and its reverse have the same junction set (membership, `Perm`,
       `junction_set_reverse_ok/_error`  both duplicate-free); without strand hypotheses: same set or same error
    4  `strand0_rejected`, `strand_rejected`   a strand ∉ {1,−1} next to another fragment ⇒ `ValueError`
    5  `make_stats_counts`               breaks = |sDiff inputSet outputSet|, joins = |sDiff outputSet inputSet|, the sets
                                         being duplicate-free with membership = "tuple of two consecutive fragments of an
                                         input scaffold / of a scaffold of some output assembly"
       `make_stats_breaks_joins`         the same as cardinalities of the two set differences
       `make_stats_counts_adjacencies`   the same in terms of unordered contig-end adjacencies (the property as worded)
       `make_stats_reversal_invariant`   reversing (and reordering) whole scaffolds in the input and/or the outputs keeps
                                         `make_stats` succeeding and changes neither count
    6  `cut_fragments_counter`, `cut_remaining_counter`   the cut counter grows by (pieces − 1) per cut contig
  Elsewhere: the end-to-end equation cuts = #output fragments − #input contigs over the whole of `remap`
  (`Properties/C11EndToEnd.lean`, on top of C01), and the haplotig-removal count (`Properties/C11Info.lean`).
  Only property theorems + non-vacuity examples live here; helper lemmas are in `Proofs/C11*.lean`.
-/
import AgpTpf.Proofs.C11Extra
import AgpTpf.Proofs.C11Cuts
namespace AgpTpf.C11
open AgpTpf

/-! ## test values for the non-vacuity examples -/

def fA (strand : Int) : Fragment := { name := ['a'], start := 1, stop := 10, strand := strand }
/-- contig `b`, a 1-bp piece: head and tail coordinates coincide -/
def fB (strand : Int) : Fragment := { name := ['b'], start := 5, stop := 5, strand := strand }
/-- a cut piece of the same contig as `fA` -/
def fA2 (strand : Int) : Fragment := { name := ['a'], start := 11, stop := 20, strand := strand }
def gap100 : Row := .gap { length := 100, gapType := ['s'] }

/-! ## 0. `strLt` / `endLe` order contig ends totally (what makes `sorted(...)` a canonical choice) -/

theorem str_lt_irrefl (a : Str) : strLt a a = false :=
  Bool.eq_false_iff.2 fun h => List.lt_irrefl a ((strLt_iff a a).1 h)
theorem str_lt_asymm (a b : Str) (h : strLt a b = true) : strLt b a = false :=
  Bool.eq_false_iff.2 fun h' => List.lt_asymm ((strLt_iff a b).1 h) ((strLt_iff b a).1 h')
theorem str_lt_total (a b : Str) (h : a ≠ b) : strLt a b = true ∨ strLt b a = true := strLt_linear.total a b h
theorem str_lt_trans (a b c : Str) (h1 : strLt a b = true) (h2 : strLt b c = true) : strLt a c = true :=
  strLt_linear.trans a b c h1 h2
theorem end_le_refl (x : Str × Int) : endLe x x = true := endLe_order.refl x
theorem end_le_total (x y : Str × Int) : endLe x y = true ∨ endLe y x = true := endLe_order.total x y
theorem end_le_antisymm (x y : Str × Int) (h1 : endLe x y = true) (h2 : endLe y x = true) : x = y :=
  endLe_order.antisymm x y h1 h2
theorem end_le_trans (x y z : Str × Int) (h1 : endLe x y = true) (h2 : endLe y z = true) : endLe x z = true :=
  endLe_order.trans x y z h1 h2

example : strLt ['a', 'b'] ['a', 'c'] = true ∧ strLt ['a'] ['a', 'c'] = true := by decide +kernel
example : endLe (['a'], 7) (['a'], 7) = true ∧ endLe (['a'], 9) (['b'], 2) = true ∧
    endLe (['b'], 2) (['a'], 9) = false := by decide +kernel

/-! ## 1. reversing a scaffold maps the junction `a b` to `b.reverse a.reverse`: same tuple -/

theorem junction_tuple_reverse (a b : Fragment) (_ha : a.strand = 1 ∨ a.strand = -1)
    (_hb : b.strand = 1 ∨ b.strand = -1) : junctionTuple b.reverse a.reverse = junctionTuple a b :=
  junctionTuple_reverse_any a b

/-- … and in fact for every strand value (then both sides are the same `ValueError`). -/
theorem junction_tuple_reverse_any (a b : Fragment) : junctionTuple b.reverse a.reverse = junctionTuple a b :=
  junctionTuple_reverse_any a b

-- the four strand combinations, on concrete fragments (with the 1-bp fragment `fB`)
example : junctionTuple (fA 1) (fB 1) = .ok (.s ['a'], .i 10, .s ['b'], .i 5) ∧
    junctionTuple (fB 1).reverse (fA 1).reverse = .ok (.s ['a'], .i 10, .s ['b'], .i 5) := by decide +kernel
example : junctionTuple (fA 1) (fB (-1)) = .ok (.s ['a'], .i 10, .i 5, .s ['b']) ∧
    junctionTuple (fB (-1)).reverse (fA 1).reverse = .ok (.s ['a'], .i 10, .i 5, .s ['b']) := by decide +kernel
example : junctionTuple (fA (-1)) (fB 1) = .ok (.i 5, .s ['b'], .s ['a'], .i 1) ∧
    junctionTuple (fB 1).reverse (fA (-1)).reverse = .ok (.i 5, .s ['b'], .s ['a'], .i 1) := by decide +kernel
example : junctionTuple (fA (-1)) (fB (-1)) = .ok (.s ['b'], .i 5, .s ['a'], .i 1) ∧
    junctionTuple (fB (-1)).reverse (fA (-1)).reverse = .ok (.s ['b'], .i 5, .s ['a'], .i 1) := by decide +kernel
-- the 1-bp fragment: head and tail have the same coordinate, yet the two orientations give different tuples
example : junctionTuple (fA 1) (fB 1) ≠ junctionTuple (fA 1) (fB (-1)) ∧
    junctionTuple (fA (-1)) (fB 1) ≠ junctionTuple (fA (-1)) (fB (-1)) ∧
    junctionTuple (fB 1) (fA 1) ≠ junctionTuple (fB (-1)) (fA 1) ∧
    junctionTuple (fB 1) (fA (-1)) ≠ junctionTuple (fB (-1)) (fA (-1)) := by decide +kernel

/-! ## 2. the junction tuple is an injective encoding of the adjacency -/

/-- `junction_tuple` succeeds exactly for strands ±1 … -/
theorem junction_tuple_ok_iff (a b : Fragment) :
    (∃ t, junctionTuple a b = .ok t) ↔ ((a.strand = 1 ∨ a.strand = -1) ∧ (b.strand = 1 ∨ b.strand = -1)) :=
  junctionTuple_ok_iff a b

/-- … and is then the encoding `encodeAdj` (a function of the pair of facing ends, symmetric in the two ends). -/
theorem junction_tuple_spec (a b : Fragment) (ha : a.strand = 1 ∨ a.strand = -1) (hb : b.strand = 1 ∨ b.strand = -1) :
    junctionTuple a b = .ok (encodeAdj (facingEnds a b)) := junctionTuple_eq_encodeAdj a b ha hb

theorem encode_adj_eq_iff (p q : End × End) : encodeAdj p = encodeAdj q ↔ SameAdj p q :=
  ⟨encodeAdj_inj, encodeAdj_congr⟩

/-- FULL STRENGTH, both directions: two junctions get the same tuple iff they are the same unordered pair of facing
    contig ends.  (Success of `junctionTuple` already forces all four strands to be ±1.) -/
theorem junction_tuple_eq_iff (a b c d : Fragment) (t t' : Junction)
    (h : junctionTuple a b = .ok t) (h' : junctionTuple c d = .ok t') :
    t = t' ↔ SameAdj (facingEnds a b) (facingEnds c d) := by
  obtain ⟨ha, hb⟩ := (junctionTuple_ok_iff a b).mp ⟨t, h⟩
  obtain ⟨hc, hd⟩ := (junctionTuple_ok_iff c d).mp ⟨t', h'⟩
  rw [junctionTuple_eq_encodeAdj a b ha hb] at h
  rw [junctionTuple_eq_encodeAdj c d hc hd] at h'
  rw [← Except.ok.inj h, ← Except.ok.inj h']
  exact encode_adj_eq_iff _ _

example : junctionTuple (fA 1) (fB (-1)) = .ok (.s ['a'], .i 10, .i 5, .s ['b']) ∧
    junctionTuple (fB 1) (fA (-1)) = .ok (.s ['a'], .i 10, .i 5, .s ['b']) ∧
    SameAdj (facingEnds (fA 1) (fB (-1))) (facingEnds (fB 1) (fA (-1))) := by decide +kernel
example : facingEnds (fA 1) (fB (-1)) = ((['a'], 10, true), (['b'], 5, true)) ∧
    facingEnds (fA 1) (fB 1) = ((['a'], 10, true), (['b'], 5, false)) ∧
    ¬ SameAdj (facingEnds (fA 1) (fB (-1))) (facingEnds (fA 1) (fB 1)) := by decide +kernel

/-! ## 3. a scaffold and its reverse have the same junction set -/

/-- as the task states it: all strands ±1 ⇒ both succeed, with the same elements (and so the same size) -/
theorem junction_set_reverse (s : Scaffold) (h : ∀ f ∈ s.fragments, f.strand = 1 ∨ f.strand = -1) :
    ∃ js js', s.junctionSet = .ok js ∧ s.reverse.junctionSet = .ok js' ∧
      (∀ j, j ∈ js' ↔ j ∈ js) ∧ js.Nodup ∧ js'.Nodup ∧ js'.Perm js := by
  obtain ⟨S, hS⟩ := (junctionSet_ok_pairsOk s).2 ((pairsOk_iff _).2 fun pre a b post e =>
    ⟨h a (by rw [e]; simp), h b (by rw [e]; simp)⟩)
  obtain ⟨S', hS', hperm, hmem⟩ := junctionSet_reverse_ok s _ hS
  exact ⟨S, S', hS, hS', hmem, junctionSet_nodup _ _ hS, junctionSet_nodup _ _ hS', hperm⟩

/-- without any strand hypothesis: success is preserved with the same set … -/
theorem junction_set_reverse_ok (s : Scaffold) (js : List Junction) (h : s.junctionSet = .ok js) :
    ∃ js', s.reverse.junctionSet = .ok js' ∧ js'.Perm js ∧ ∀ j, j ∈ js' ↔ j ∈ js :=
  junctionSet_reverse_ok s js h

/-- … and so is failure. -/
theorem junction_set_reverse_error (s : Scaffold) (e : Err) (h : s.junctionSet = .error e) :
    s.reverse.junctionSet = .error e := by
  rw [junctionSet_eq_map] at h
  rw [junctionSet_reverse]
  cases hj : junctionsOfFrags s.fragments <;> rw [hj] at h <;> cases h
  rfl

/-- what the elements are: the tuples of the consecutive fragment pairs (gaps skipped) -/
theorem mem_junction_set (s : Scaffold) (js : List Junction) (h : s.junctionSet = .ok js) (j : Junction) :
    j ∈ js ↔ ∃ pre a b post, s.fragments = pre ++ a :: b :: post ∧ junctionTuple a b = .ok j := by
  rw [junctionSet_eq] at h
  split at h
  · next hok => cases h; exact mem_junctionSetOf hok j
  · cases h

def scEx : Scaffold :=
  { name := ['s'], rows := [.frag (fA 1), gap100, .frag (fB (-1)), gap100, .frag (fA2 (-1)), .frag (fB 1)] }

example : (∀ f ∈ scEx.fragments, f.strand = 1 ∨ f.strand = -1) := by decide +kernel
example : scEx.junctionSet = .ok
      [(.s ['a'], .i 10, .i 5, .s ['b']), (.s ['a'], .i 20, .s ['b'], .i 5), (.i 5, .s ['b'], .s ['a'], .i 11)] ∧
    scEx.reverse.junctionSet = .ok
      [(.i 5, .s ['b'], .s ['a'], .i 11), (.s ['a'], .i 20, .s ['b'], .i 5), (.s ['a'], .i 10, .i 5, .s ['b'])] := by
  decide +kernel

/-! ## 4. strand 0 (or any strand other than ±1) next to another fragment is rejected -/

theorem strand_rejected (s : Scaffold) (pre post : List Fragment) (a b : Fragment)
    (hs : s.fragments = pre ++ a :: b :: post)
    (h0 : ¬ (a.strand = 1 ∨ a.strand = -1) ∨ ¬ (b.strand = 1 ∨ b.strand = -1)) :
    s.junctionSet = .error .value := by
  rw [junctionSet_eq, if_neg]
  intro hok
  have := (pairsOk_iff _).1 hok pre a b post hs
  exact h0.elim (absurd this.1) (absurd this.2)

theorem strand0_rejected (s : Scaffold) (pre post : List Fragment) (a b : Fragment)
    (hs : s.fragments = pre ++ a :: b :: post) (h0 : a.strand = 0 ∨ b.strand = 0) :
    s.junctionSet = .error .value := by
  apply strand_rejected s pre post a b hs
  rcases h0 with h0 | h0
  · left; omega
  · right; omega

example : ({ name := ['s'], rows := [.frag (fA 1), gap100, .frag (fB 0), .frag (fA2 1)] } : Scaffold).fragments
      = [fA 1] ++ fB 0 :: fA2 1 :: [] ∧
    ({ name := ['s'], rows := [.frag (fA 1), gap100, .frag (fB 0), .frag (fA2 1)] } : Scaffold).junctionSet
      = .error .value := by decide +kernel
/-- (a lone strand-0 fragment has no junction and is not rejected — as in the Python) -/
example : ({ name := ['s'], rows := [.frag (fB 0)] } : Scaffold).junctionSet = .ok [] := by decide +kernel

/-! ## 5. `make_stats`: breaks = |input \ output|, joins = |output \ input| -/

/-- The statistics as computed: `inputSet` / `outputSet` are duplicate-free lists whose members are exactly the
    junction tuples of consecutive fragment pairs of the input scaffolds / of the scaffolds of all output
    assemblies; `cuts` is passed through. -/
theorem make_stats_counts (input : List Scaffold) (outs : List OutAsm) (cuts : Int) (st : Stats)
    (h : makeStats input outs cuts = .ok st) :
    ∃ inputSet outputSet : List Junction,
      inputSet.Nodup ∧ outputSet.Nodup ∧
      (∀ j, j ∈ inputSet ↔ JunctionIn input j) ∧
      (∀ j, j ∈ outputSet ↔ JunctionInOuts outs j) ∧
      st.cuts = cuts ∧
      st.breaks = ((sDiff inputSet outputSet).length : Int) ∧
      st.joins = ((sDiff outputSet inputSet).length : Int) := by
  obtain ⟨hok, rfl⟩ := makeStats_ok' h
  exact ⟨_, _, unionOf_nodup _, unionOf_nodup _, mem_inputSet hok.1, mem_outputSet hok.2, rfl, rfl, rfl⟩

/-- `sDiff` is set difference on duplicate-free lists -/
theorem s_diff_spec {α : Type} [DecidableEq α] (s t : List α) (hs : s.Nodup) :
    (sDiff s t).Nodup ∧ ∀ x, x ∈ sDiff s t ↔ x ∈ s ∧ x ∉ t :=
  ⟨nodup_sDiff t hs, fun _ => mem_sDiff⟩
theorem s_add_spec {α : Type} [DecidableEq α] (s : List α) (x : α) (hs : s.Nodup) :
    (sAdd s x).Nodup ∧ ∀ y, y ∈ sAdd s x ↔ y ∈ s ∨ y = x :=
  ⟨nodup_sAdd x hs, fun _ => mem_sAdd⟩
theorem s_union_spec {α : Type} [DecidableEq α] (s t : List α) (hs : s.Nodup) :
    (sUnion s t).Nodup ∧ ∀ y, y ∈ sUnion s t ↔ y ∈ s ∨ y ∈ t :=
  ⟨nodup_sUnion t hs, fun _ => mem_sUnion⟩

/-- set reading: `breaks` is the cardinality of {junction tuples in the input, in no output assembly},
    `joins` of {junction tuples in some output assembly, not in the input}. -/
theorem make_stats_breaks_joins (input : List Scaffold) (outs : List OutAsm) (cuts : Int) (st : Stats)
    (h : makeStats input outs cuts = .ok st) :
    ∃ breaks joins : List Junction,
      breaks.Nodup ∧ joins.Nodup ∧
      (∀ j, j ∈ breaks ↔ JunctionIn input j ∧ ¬ JunctionInOuts outs j) ∧
      (∀ j, j ∈ joins ↔ JunctionInOuts outs j ∧ ¬ JunctionIn input j) ∧
      st.breaks = (breaks.length : Int) ∧ st.joins = (joins.length : Int) ∧ st.cuts = cuts := by
  obtain ⟨I, O, hI, hO, mI, mO, hc, hb, hj⟩ := make_stats_counts input outs cuts st h
  refine ⟨sDiff I O, sDiff O I, nodup_sDiff _ hI, nodup_sDiff _ hO, ?_, ?_, hb, hj, hc⟩
  · intro j; rw [mem_sDiff, mI, mO]
  · intro j; rw [mem_sDiff, mI, mO]

def AdjacencyInOuts (outs : List OutAsm) (p : End × End) : Prop := ∃ a ∈ outs, AdjacencyIn a.scaffolds p

/-- ADJACENCY reading (the property as stated): there are `breaks` pairwise different unordered adjacencies that
    are in the input and in no output assembly, and every such adjacency is one of them; likewise `joins`. -/
theorem make_stats_counts_adjacencies (input : List Scaffold) (outs : List OutAsm) (cuts : Int) (st : Stats)
    (h : makeStats input outs cuts = .ok st) :
    ∃ broken joined : List (End × End),
      st.breaks = (broken.length : Int) ∧ st.joins = (joined.length : Int) ∧
      broken.Pairwise (fun p q => ¬ SameAdj p q) ∧ joined.Pairwise (fun p q => ¬ SameAdj p q) ∧
      (∀ p, (∃ q ∈ broken, SameAdj q p) ↔ AdjacencyIn input p ∧ ¬ AdjacencyInOuts outs p) ∧
      (∀ p, (∃ q ∈ joined, SameAdj q p) ↔ AdjacencyInOuts outs p ∧ ¬ AdjacencyIn input p) := by
  obtain ⟨sIn, sOut⟩ := (makeStats_ok' h).1
  obtain ⟨B, J, hB, hJ, mB, mJ, eb, ej, -⟩ := make_stats_breaks_joins input outs cuts st h
  have hI : ∀ p, JunctionIn input (encodeAdj p) ↔ AdjacencyIn input p := junctionIn_encode_iff input sIn
  have hO : ∀ p, JunctionInOuts outs (encodeAdj p) ↔ AdjacencyInOuts outs p := by
    intro p
    unfold JunctionInOuts AdjacencyInOuts
    constructor
    · rintro ⟨a, ha, hj⟩; exact ⟨a, ha, (junctionIn_encode_iff _ (sOut a ha) p).mp hj⟩
    · rintro ⟨a, ha, hj⟩; exact ⟨a, ha, (junctionIn_encode_iff _ (sOut a ha) p).mpr hj⟩
  have preI : ∀ j, JunctionIn input j → encodeAdj (decodeAdj j) = j := junctionIn_encoded input sIn
  have preO : ∀ j, JunctionInOuts outs j → encodeAdj (decodeAdj j) = j := by
    rintro j ⟨a, ha, hj⟩; exact junctionIn_encoded _ (sOut a ha) j hj
  obtain ⟨broken, lb, pb, mb⟩ := count_adjacencies _ _ _ _ hI hO preI B hB mB
  obtain ⟨joined, lj, pj, mj⟩ := count_adjacencies _ _ _ _ hO hI preO J hJ mJ
  exact ⟨broken, joined, by rw [eb, lb], by rw [ej, lj], pb, pj, mb, mj⟩

/-- Reversing whole scaffolds (any of them, in the input and/or in any output assembly; also reordering them)
    keeps `make_stats` succeeding and changes neither count. -/
theorem make_stats_reversal_invariant (input input' : List Scaffold) (outs outs' : List OutAsm) (cuts : Int)
    (st : Stats) (h : makeStats input outs cuts = .ok st)
    (hin : RevEquiv input input')
    (hout : (∀ a ∈ outs, ∃ a' ∈ outs', RevEquiv a.scaffolds a'.scaffolds) ∧
            (∀ a' ∈ outs', ∃ a ∈ outs, RevEquiv a.scaffolds a'.scaffolds)) :
    ∃ st', makeStats input' outs' cuts = .ok st' ∧
      st'.breaks = st.breaks ∧ st'.joins = st.joins ∧ st'.cuts = st.cuts := by
  obtain ⟨hok, rfl⟩ := makeStats_ok' h
  have hok' : AllOk input' ∧ ∀ a' ∈ outs', AllOk a'.scaffolds :=
    ⟨allOk_revEquiv hin hok.1, fun a' ha' => let ⟨a, ha, hr⟩ := hout.2 a' ha'; allOk_revEquiv hr (hok.2 a ha)⟩
  have eI : ∀ j, j ∈ unionOf (inSets input') ↔ j ∈ unionOf (inSets input) := fun j => by
    rw [mem_inputSet hok'.1, mem_inputSet hok.1]; exact junctionIn_revEquiv input input' hin j
  have eO : ∀ j, j ∈ unionOf (outSets outs') ↔ j ∈ unionOf (outSets outs) := fun j => by
    rw [mem_outputSet hok'.2, mem_outputSet hok.2]
    constructor
    · rintro ⟨a', ha', hj⟩
      obtain ⟨a, ha, hr⟩ := hout.2 a' ha'
      exact ⟨a, ha, (junctionIn_revEquiv _ _ hr j).mp hj⟩
    · rintro ⟨a, ha, hj⟩
      obtain ⟨a', ha', hr⟩ := hout.1 a ha
      exact ⟨a', ha', (junctionIn_revEquiv _ _ hr j).mpr hj⟩
  exact ⟨statsOf (inSets input') (outSets outs') cuts, by rw [makeStats_eq_statsOf, if_pos hok'],
    congrArg Int.ofNat (sDiff_length_congr (unionOf_nodup _) (unionOf_nodup _) eI eO),
    congrArg Int.ofNat (sDiff_length_congr (unionOf_nodup _) (unionOf_nodup _) eO eI), rfl⟩

/-! ### a worked curation: input scaffold `a+ b+ a2+`; the output keeps `a|b` (written reversed), and moves `a2` -/

def inEx : List Scaffold :=
  [{ name := ['s', '1'], rows := [.frag (fA 1), gap100, .frag (fB 1), gap100, .frag (fA2 1)] }]
def outEx : List OutAsm :=
  [{ key := none, curated := true, scaffolds :=
      [{ name := ['r', '1'], rows := [.frag (fB (-1)), gap100, .frag (fA (-1))] },
       { name := ['r', '2'], rows := [.frag (fA2 1)] }] }]

/-- one break (`b|a2`), no join; the kept junction `a|b` is recognised although it is now written reversed -/
example : ∃ st, makeStats inEx outEx 0 = .ok st ∧ st.breaks = 1 ∧ st.joins = 0 := by
  refine ⟨{ cuts := 0, breaks := 1, joins := 0, perAssembly := [(sPrimary, 1, 0)] }, ?_, rfl, rfl⟩
  decide +kernel

example : RevEquiv inEx (inEx.map Scaffold.reverse) := by
  unfold RevEquiv RevRel inEx
  simp

/-! ## 6. the cut counter

  `make_stats` passes the counter through (`st.cuts = cuts` above, and `assembliesFused` calls it with `b.cuts`).
  The only place that changes the counter is `cut_fragments`: +(pieces − 1) per cut contig, one piece per Pretext
  scaffold holding the contig; `cut_remaining_overhangs` sums this over the multiply-found contigs.
  The end-to-end equation "cuts = number of output fragments − number of input contigs" over the whole of `remap` is
  `remap_cuts_count` in `Properties/C11EndToEnd.lean` (it needs the conservation theorem C01 end to end: every input
  contig not cut appears as exactly one output fragment, every cut one as exactly its pieces). -/

theorem cut_fragments_counter (b b' : Build) (fnd : Found) (h : cutFragments b fnd = .ok b') :
    b'.cuts = b.cuts + ((fnd.scaffolds.length : Int) - 1) ∧ b'.found = b.found :=
  have f := Pipeline.cutFragments_frame h
  ⟨f.2.2.2.2, f.2.1⟩

theorem cut_remaining_counter (b b' : Build) (h : cutRemaining b = .ok b') :
    b'.cuts = b.cuts + sumInts (b.multi.map (cutsOfKey b.found)) :=
  cutRemaining_cuts b b' h

/-- contig `c` 1..100, found in two Pretext scaffolds (baits 1..40 and 41..100): one cut -/
def tC : Fragment := { oid := 7, name := ['c'], start := 1, stop := 100, strand := 1 }
def bEx : Build :=
  { namer := { autosomePrefix := [] }, nextOid := 9, joinGap := none, err := 0,
    store := [{ o := { bait := { name := ['s'], start := 1, stop := 40, strand := 1 }, start := 1, stop := 100,
                       rows := [.frag tC] } },
              { o := { bait := { name := ['s'], start := 41, stop := 100, strand := 1 }, start := 1, stop := 100,
                       rows := [.frag tC] } }],
    found := [(tC.keyTuple, { fragment := tC, scaffolds := [0, 1] })],
    multi := [tC.keyTuple] }

example : (cutRemaining bEx).map (fun b' => (b'.cuts, b'.store.map (fun r => r.o.rows))) =
    .ok (1, [[.frag { oid := 9, name := ['c'], start := 1, stop := 40, strand := 1, tags := [['C', 'u', 't']] }],
             [.frag { oid := 10, name := ['c'], start := 41, stop := 100, strand := 1,
                      tags := [['C', 'u', 't']] }]]) := by
  decide +kernel

end AgpTpf.C11
