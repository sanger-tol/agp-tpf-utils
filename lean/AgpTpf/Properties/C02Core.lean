/-
  C02 (first sentence) — the 3·err margin, for ALL maps with non-overlapping pieces: THE CORE OF EVERY PIECE SURVIVES.

  `err = 1 + ⌊bp per texel⌋`, margin `M = 3·err`.  For a Pretext fragment `p` (bait) the CORE is the interval
  `[p.start + M, p.stop − M]` in the coordinates of the input scaffold `p` names.

  PROVED here, all at full strength (no `_partial` theorem in this file):

    K1  `ops_keep_core`, `ops_keep_core_rows`      one `OverlapResult`: along ANY sequence of operations each applied under
        its guard (`GStep`: `trim_large_overhangs(err)`; `discard_start` / `discard_end` under guard (a) — sub-texel rule —
        or guard (b) — `improves`; `trim_fragment` of a terminal row) starting from a lookup result, the invariant `KInv`
        holds: C18's `Inv` (the rows are a contiguous run of the source scaffold, gaps included, only terminal fragments
        shortened) + every contig base of the lookup span lying in the core is still inside `[start, stop]` + each end of
        the result is a row boundary of the source or lies exactly at the bait coordinate.  Row form: a contig row with a
        base in the core is still a row of the result, at its scaffold position; inner rows are the source rows
        themselves; a shortened terminal row was cut exactly at the bait coordinate (so the clipped part lies outside the
        bait, hence outside the core).
    K2  `remap_keeps_core`      build level: `remap_to_input_assembly` returning ⇒ the `sid`-th stored result belongs to the
        `sid`-th piece (`C09.pieces`) and satisfies `KInv` w.r.t. that piece's bait and input scaffold; EVERY contig base
        of that scaffold lying in the core is inside the result's span (`lookup_covers_bait`: the lookup covers the bait),
        and the row form.  All rounds of the resolver are covered (no "at most one row per end" restriction).
    K3  `remap_core_in_one_scaffold`   output level: a piece whose core holds a contig base is written (`toScaffoldRows`:
        reversed and strand-negated iff its Pretext orientation is `−`) as ONE contiguous block of rows of ONE scaffold of
        the output assembly `C09.routeKey tag haplotype`; any output fragment sharing a contig base with it lies in that
        same scaffold of that same assembly.
    K2b `deep_row_survives`     the complement for SHORT pieces (whose core may be empty): a contig that shares `≥ err`
        (and `≥ 1`) bases with a piece and reaches deeper than `M` from BOTH ends of the piece is never taken away from
        it — neither guard can fire: (a) / `trim_large_overhangs` need an overlap `< err`, (b) would have to move the
        result's end past the contig, more than `M` beyond the bait's end (`SafeKept`).
    K4  `deep_cut_exact_any_map`, `deep_cut_exact_any_map_output`   a piece boundary `c | c+1` falling deeper than `M`
        inside a contig, between two non-empty pieces of at least `err` bases each, splits the contig exactly at the
        designated coordinate: the first piece's result ends with a part of the
        contig, the second's begins with one, the results end/begin at `c` / `c+1`, and the two parts meet exactly there
        (`deep_cut_position`'s arithmetic: forward contig `…-(stop − (ce − c))`, `(that+1)-…`; reverse contig mirrored).
        This is the FULL statement ("two fragments meeting exactly at the designated coordinate") — obtained without analysing `cut_fragments`: both parts survive (K2b), two stored rows never share a
        base (C01), so both were shortened, and a shortened end lies at the bait coordinate (K1, `EdgeOK`).

  HYPOTHESES of K2–K4 (all decidable; the examples at the end discharge them by `decide`):
    `C01.WFInput input`   distinct scaffold names / Fragment objects / keys, disjoint contigs, `start ≤ end`  (as C01);
    `InputNonNeg input`   no gap row of negative length (C12's hypothesis: the cumulative index is monotone);
    `PtxDisjoint ptx`     the Pretext fragments (baits) are pairwise disjoint intervals per input scaffold name;
    `0 ≤ err`.

  FINDINGS (each with a kernel-checked witness below):
    F-K1  K1 with the guards alone ("discardStart … applied under guard (a)") is FALSE: guard (a) — the terminal
          row shares `< err` bases with the bait — does not keep a row out of the core when the row lies wholly INSIDE the
          bait (a contig shorter than `err`).  `guard_a_alone_is_not_enough`.  `GStep.startA/endA` therefore carry the
          side condition "the row is not wholly inside the bait"; in the pipeline it holds because the row is shared with
          a second result whose bait is disjoint (`sticks_out_start/_end`).
    F-K2  "for EVERY Pretext file for which remap succeeds" is FALSE: with OVERLAPPING baits a contig deep inside the
          core of one piece is taken away from it by the sub-texel rule and handed to the other piece; `remap` succeeds.
          `overlapping_baits_lose_core`.  (Outside C02's quantifier — the pieces of a Pretext map tile their scaffolds —
          so not a defect of the code with respect to C02; it is the reason for the hypothesis `PtxDisjoint`.)
    F-K4  K4 carries a side condition the clause's wording omits: each of the two pieces has at least `err` bases.  A piece
          shorter than `err` lying inside the contig is emptied by `trim_large_overhangs` right after the lookup; the
          remaining holders then do not tile the contig, `qc_sub_fragments` raises and `remap` does not complete — so the
          statement without the side condition is presumably still true (vacuously in that case), but proving that
          needs the converse analysis of the cut QC, which is not done here.
  No statement about the unchanged code was found false.

  Helper files: `Proofs/C02KPos` (positions, geometry of the discards), `C02KOps` (K1: `KInv`, `GStep`),
  `C02KRows` (row form), `C02KRes` (`Slice`, `MeetsBait`, sticking out), `C02KSafe` (lookup covers the bait, deep rows),
  `C02KResolve` (lookup stage, resolver), `C02KCut` (cutting, whole pipeline; `added`), `C02KOut`,
  `C02KDeep` (K4).
-/
import AgpTpf.Proofs.C02KDeep
import AgpTpf.Proofs.C02DeepDemo
import AgpTpf.Properties.C02
import AgpTpf.Properties.C09Route
namespace AgpTpf.C02
open AgpTpf OverlapResult
open AgpTpf.C18 (Inv Short ids)
open AgpTpf.C01 (WFInput)

/-! ## the notions, spelled out (definitions in `Proofs/C02KPos.lean`, `C02KOps.lean`, `C02KRows.lean`, `C02KSafe.lean`) -/

/-- `rowAt src x`: the row covering scaffold position `x` (1-based): the first row whose cumulative end is `≥ x` -/
theorem rowAt_eq (r : Row) (rs : List Row) (x : Int) :
    rowAt [] x = none ∧ rowAt (r :: rs) x = if x ≤ r.length then some r else rowAt rs (x - r.length) := ⟨rfl, rfl⟩

/-- `ContigAt src x`: position `x ≥ 1` of the scaffold lies in a fragment row -/
theorem contigAt_iff (src : List Row) (x : Int) : ContigAt src x ↔ 1 ≤ x ∧ ∃ f, rowAt src x = some (.frag f) := Iff.rfl

/-- … equivalently (non-negative row lengths): `x` lies in the span of a fragment row of the scaffold -/
theorem contigAt_iff_span {src : List Row} (hlen : NonNeg src) (x : Int) :
    ContigAt src x ↔ ∃ X f Y, src = X ++ .frag f :: Y ∧ rowsLength X < x ∧ x ≤ rowsLength X + f.length := by
  constructor
  · rintro ⟨h1, f, hf⟩
    obtain ⟨X, Y, hs, q1, q2⟩ := rowAt_some_decomp src hlen x _ h1 hf
    exact ⟨X, f, Y, hs, q1, q2⟩
  · rintro ⟨X, f, Y, hs, q1, q2⟩
    exact contigAt_of_row hs hlen q1 q2

theorem coreKept_iff (src : List Row) (M s0 e0 : Int) (o : OverlapResult) :
    CoreKept src M s0 e0 o ↔
      ∀ x, s0 ≤ x → x ≤ e0 → ContigAt src x → o.bait.start + M ≤ x → x ≤ o.bait.stop - M → o.start ≤ x ∧ x ≤ o.stop :=
  Iff.rfl

theorem boundary_iff (src : List Row) (y : Int) : Boundary src y ↔ ∃ X Y, src = X ++ Y ∧ y = rowsLength X := Iff.rfl

theorem edgeOK_iff (src : List Row) (o : OverlapResult) :
    EdgeOK src o ↔
      o.rows = [] ∨ ((Boundary src (o.start - 1) ∨ o.start = o.bait.start) ∧ (Boundary src o.stop ∨ o.stop = o.bait.stop)) :=
  Iff.rfl

theorem kinv_iff (src : List Row) (M s0 e0 : Int) (p : Fragment) (o : OverlapResult) :
    KInv src M s0 e0 p o ↔ Inv src o ∧ o.bait = p ∧ CoreKept src M s0 e0 o ∧ EdgeOK src o :=
  ⟨fun h => ⟨h.inv, h.bait, h.core, h.edge⟩, fun ⟨a, b, c, d⟩ => ⟨a, b, c, d⟩⟩

/-- the `Inv` part of `KInv` in index form (C18 `content_index_form`): the rows of `o` are rows `i … i+n−1` of the source
    scaffold — every inner row `k` IS `src[i+k]` (gap rows included), the first / last row is `src[i]` / `src[i+n−1]`
    shortened only at its outer end, and `start` / `stop` are the prefix sums of `src` corrected by the shortening:
    the result is ONE contiguous run of the source scaffold. -/
theorem kinv_index_form {src : List Row} {M s0 e0 : Int} {p : Fragment} {o : OverlapResult} (h : KInv src M s0 e0 p o)
    (hne : o.rows ≠ []) :
    ∃ (i n : Nat) (dl dr : Int),
      o.rows.length = n ∧ 0 < n ∧ i + n ≤ src.length ∧ 0 ≤ dl ∧ 0 ≤ dr ∧
      (∀ k, 0 < k → k + 1 < n → o.rows[k]? = src[i + k]?) ∧
      (∃ r s, o.rows[0]? = some r ∧ src[i]? = some s ∧ Short r s dl (if n = 1 then dr else 0)) ∧
      (∃ r s, o.rows[n - 1]? = some r ∧ src[i + n - 1]? = some s ∧ Short r s (if n = 1 then dl else 0) dr) ∧
      o.start = 1 + rowsLength (src.take i) + dl ∧
      o.stop = rowsLength (src.take (i + n)) - dr :=
  C18.content_index_form h.inv.content hne

/-- the guarded steps (`GStep err o o'`), one constructor per line:
    `trim_large_overhangs(err)`; `discard_start` under guard (a) for a first row not wholly inside the bait; under guard (b);
    the same two for `discard_end`; `trim_fragment` of the first or last row with a fresh object id -/
theorem gstep_iff (err : Int) (o o' : OverlapResult) :
    GStep err o o' ↔
      trimLargeOverhangs o err = .ok o' ∨
      (∃ ov r t, o.rows = r :: t ∧ startRowBaitOverlap o = .ok ov ∧ ov < err ∧
        (o.start < o.bait.start ∨ o.bait.stop < o.start + r.length - 1) ∧ discardStart o = .ok o') ∨
      (∃ a, overhangIfStartRemoved o = .ok a ∧ a > -3 * err ∧ discardStart o = .ok o') ∨
      (∃ ov r t, o.rows = t ++ [r] ∧ endRowBaitOverlap o = .ok ov ∧ ov < err ∧
        (o.stop - r.length + 1 < o.bait.start ∨ o.bait.stop < o.stop) ∧ discardEnd o = .ok o') ∨
      (∃ a, overhangIfEndRemoved o = .ok a ∧ a > -3 * err ∧ discardEnd o = .ok o') ∨
      (∃ f new ks ke oid, ((∃ t, o.rows = .frag f :: t) ∨ (∃ t, o.rows = t ++ [.frag f])) ∧ oid ∉ ids o.rows ∧
        trimFragment o f ks ke oid = .ok (o', new)) := by
  constructor
  · intro h
    cases h with
    | trimLarge h => exact Or.inl h
    | startA a b c d e => exact Or.inr (Or.inl ⟨_, _, _, a, b, c, d, e⟩)
    | startB a b c => exact Or.inr (Or.inr (Or.inl ⟨_, a, b, c⟩))
    | endA a b c d e => exact Or.inr (Or.inr (Or.inr (Or.inl ⟨_, _, _, a, b, c, d, e⟩)))
    | endB a b c => exact Or.inr (Or.inr (Or.inr (Or.inr (Or.inl ⟨_, a, b, c⟩))))
    | trim a b c => exact Or.inr (Or.inr (Or.inr (Or.inr (Or.inr ⟨_, _, _, _, _, a, b, c⟩))))
  · rintro (h | ⟨_, _, _, a, b, c, d, e⟩ | ⟨_, a, b, c⟩ | ⟨_, _, _, a, b, c, d, e⟩ | ⟨_, a, b, c⟩ | ⟨_, _, _, _, _, a, b, c⟩)
    · exact .trimLarge h
    · exact .startA a b c d e
    · exact .startB a b c
    · exact .endA a b c d e
    · exact .endB a b c
    · exact .trim a b c

theorem grun_iff (err : Int) (o o' : OverlapResult) :
    GRun err o o' ↔ o' = o ∨ ∃ o1, GRun err o o1 ∧ GStep err o1 o' := by
  constructor
  · intro h
    cases h with
    | refl => exact Or.inl rfl
    | step h1 h2 => exact Or.inr ⟨_, h1, h2⟩
  · rintro (rfl | ⟨o1, h1, h2⟩)
    · exact .refl
    · exact .step h1 h2

/-- `RowKept o f xs L r R dl dr` — what the row form says about the row `r` of the result that stands for the source
    contig row `f` lying at scaffold positions `xs+1 … xs+f.length` -/
theorem rowKept_iff (o : OverlapResult) (f : Fragment) (xs : Int) (L : List Row) (r : Row) (R : List Row) (dl dr : Int) :
    RowKept o f xs L r R dl dr ↔
      o.rows = L ++ r :: R ∧ Short r (.frag f) dl dr ∧ 0 ≤ dl ∧ 0 ≤ dr ∧
      (L ≠ [] → R ≠ [] → r = .frag f) ∧ (L ≠ [] → dl = 0) ∧ (R ≠ [] → dr = 0) ∧
      (dl ≠ 0 → o.start = o.bait.start) ∧ (dr ≠ 0 → o.stop = o.bait.stop) ∧
      o.start + rowsLength L = xs + 1 + dl ∧ o.stop - rowsLength R = xs + f.length - dr :=
  ⟨fun h => ⟨h.rows, h.short, h.dl0, h.dr0, h.inner, h.left, h.right, h.cutL, h.cutR, h.pos, h.posR⟩,
   fun ⟨a, b, c, d, e, f, g, h, i, j, k⟩ => ⟨a, b, c, d, e, f, g, h, i, j, k⟩⟩

/-- `SafeKept src err M o`: for every contig row `f` of `src` (at scaffold positions `|X|+1 … |X|+|f|`) sharing `≥ err`
    and `≥ 1` bases with the bait and reaching deeper than `M` from both ends of the bait, the part of `f` inside the
    bait lies inside `[o.start, o.stop]` -/
theorem safeKept_iff (src : List Row) (err M : Int) (o : OverlapResult) :
    SafeKept src err M o ↔
      ∀ X f Y, src = X ++ .frag f :: Y →
        err ≤ min (rowsLength X + f.length) o.bait.stop - max (rowsLength X + 1) o.bait.start + 1 →
        1 ≤ min (rowsLength X + f.length) o.bait.stop - max (rowsLength X + 1) o.bait.start + 1 →
        o.bait.start + M ≤ rowsLength X + f.length → rowsLength X + 1 ≤ o.bait.stop - M →
        o.start ≤ max (rowsLength X + 1) o.bait.start ∧ min (rowsLength X + f.length) o.bait.stop ≤ o.stop := Iff.rfl

/-! ## K1 — one result, any sequence of guarded operations -/

/-- **K1.**  `src` any scaffold with non-negative row lengths and pairwise distinct Fragment objects, `bait` any query,
    `o0` the lookup result, `o` obtained from it by any finite sequence of guarded operations (`GRun`): then `KInv` holds
    of `o` with margin `3·err`, relative to the span of `o0` — the C18 invariant, the bait is unchanged, every contig
    base of the lookup span in the core `[bait.start + 3·err, bait.stop − 3·err]` is still inside `[o.start, o.stop]`,
    and each end of `o` is a row boundary of `src` or lies exactly at the bait coordinate. -/
theorem ops_keep_core {src : List Row} {bait : Fragment} {o0 o : OverlapResult} {err : Int}
    (hlen : NonNeg src) (hd : (ids src).Nodup) (herr : 0 ≤ err)
    (hl : findOverlaps src bait = .ok (some o0)) (hrun : GRun err o0 o) :
    KInv src (3 * err) o0.start o0.stop bait o :=
  kinv_run hlen herr (kinv_lookup (3 * err) hd hl) hrun

/-- … with the lookup covering the bait, the reference to the lookup span can be dropped: EVERY contig base of the
    scaffold lying in the core is inside the result -/
theorem ops_keep_core_positions {src : List Row} {bait : Fragment} {o0 o : OverlapResult} {err : Int}
    (hlen : NonNeg src) (hd : (ids src).Nodup) (herr : 0 ≤ err)
    (hl : findOverlaps src bait = .ok (some o0)) (hrun : GRun err o0 o)
    {x : Int} (hc : ContigAt src x) (h1 : bait.start + 3 * err ≤ x) (h2 : x ≤ bait.stop - 3 * err) :
    o.start ≤ x ∧ x ≤ o.stop :=
  coreKept_all hlen (by omega) hl (ops_keep_core hlen hd herr hl hrun) hc h1 h2

/-- **K1, row form.**  A contig row `f` of the scaffold (`src = X ++ f :: Y`) that has a base `x` in the core is still a
    row of `o` (`RowKept`, see `rowKept_iff`): at its scaffold position; the source row itself if it is an inner row;
    shortened by `dl` / `dr` only if it is the first / last row, and then the result begins / ends exactly at the bait
    coordinate — so what was clipped lies left of `bait.start` / right of `bait.stop`, outside the core.  Together with
    `Inv` (all rows of `o` are a contiguous run of `src`, gaps included) the part of `o` inside the core is exactly the
    part of the source scaffold inside the core, as one contiguous run. -/
theorem ops_keep_core_rows {src : List Row} {bait : Fragment} {o0 o : OverlapResult} {err : Int}
    (hlen : NonNeg src) (hd : (ids src).Nodup) (herr : 0 ≤ err)
    (hl : findOverlaps src bait = .ok (some o0)) (hrun : GRun err o0 o)
    {X Y : List Row} {f : Fragment} (hs : src = X ++ .frag f :: Y) {x : Int}
    (hx1 : rowsLength X < x) (hx2 : x ≤ rowsLength X + f.length)
    (h1 : bait.start + 3 * err ≤ x) (h2 : x ≤ bait.stop - 3 * err) :
    ∃ L r R dl dr, RowKept o f (rowsLength X) L r R dl dr :=
  coreRow_all hlen (by omega) hl (ops_keep_core hlen hd herr hl hrun) hs hx1 hx2 h1 h2

/-- what a `Short` row is (C18): same contig name and strand, coordinates moved in by `dl` at the scaffold-left side and
    `dr` at the scaffold-right side (left = `start` on a plus-strand contig, `end` otherwise) -/
theorem short_def (r s : Row) (dl dr : Int) :
    Short r s dl dr ↔
      ∃ f g, r = .frag f ∧ s = .frag g ∧ f.name = g.name ∧ f.strand = g.strand ∧
        (if g.strand = 1 then f.start = g.start + dl ∧ f.stop = g.stop - dr
         else f.start = g.start + dr ∧ f.stop = g.stop - dl) := Iff.rfl

/-! ### K1, non-vacuity and the finding F-K1 -/

instance (rows : List Row) : Decidable (NonNeg rows) := by unfold NonNeg; infer_instance

private def kfr (oid : Nat) (n : String) (s e st : Int) : Fragment :=
  { oid := oid, name := n.toList, start := s, stop := e, strand := st }
private def kgp (n : Int) : Row := .gap ⟨n, "scaffold".toList⟩
private def kbait (s e st : Int) : Fragment :=
  { name := "s".toList, start := s, stop := e, strand := st, tags := ["Painted".toList] }

/-- scaffold: a:1-100 at 1..100, gap 101..110, b:1-50(−) at 111..160, c:1-40 at 161..200 -/
private def ksrc : List Row := [.frag (kfr 1 "a" 1 100 1), kgp 10, .frag (kfr 2 "b" 1 50 (-1)), .frag (kfr 3 "c" 1 40 1)]
private def ko0 : OverlapResult :=
  { bait := kbait 98 196 1, start := 1, stop := 200, rows := ksrc, name := "matches".toList }
private theorem klookup : findOverlaps ksrc (kbait 98 196 1) = .ok (some ko0) := by decide +kernel
/-- `trim_large_overhangs(5)` throws `a` away (3 bases shared, 97 out) with the gap behind it; then `trim_fragment` cuts
    `c` to the bait's end 196 -/
private def ko1 : OverlapResult := { ko0 with start := 111, rows := [.frag (kfr 2 "b" 1 50 (-1)), .frag (kfr 3 "c" 1 40 1)] }
private def kcnew : Fragment := { oid := 9, name := "c".toList, start := 1, stop := 36, strand := 1, tags := ["Cut".toList] }
private def ko2 : OverlapResult := { ko1 with stop := 196, rows := [.frag (kfr 2 "b" 1 50 (-1)), .frag kcnew] }
private theorem krun : GRun 5 ko0 ko2 :=
  .step (.step .refl (.trimLarge (show trimLargeOverhangs ko0 5 = .ok ko1 by decide +kernel)))
    (.trim (f := kfr 3 "c" 1 40 1) (new := kcnew) (ks := false) (ke := false) (oid := 9)
      (Or.inr ⟨[.frag (kfr 2 "b" 1 50 (-1))], rfl⟩) (by decide +kernel) (by decide +kernel))
example : NonNeg ksrc ∧ (ids ksrc).Nodup := by constructor <;> decide
/-- the instance of K1: core `[113, 181]`; `a` (1..100) and the gap are gone, `b`, `c` stay, `c` cut at the bait's end -/
example : KInv ksrc 15 1 200 (kbait 98 196 1) ko2 :=
  ops_keep_core (err := 5) (by decide +kernel) (by decide +kernel) (by decide +kernel) klookup krun
example : ∃ L r R dl dr, RowKept ko2 (kfr 3 "c" 1 40 1) 160 L r R dl dr :=
  ops_keep_core_rows (err := 5) (X := [.frag (kfr 1 "a" 1 100 1), kgp 10, .frag (kfr 2 "b" 1 50 (-1))]) (Y := [])
    (x := 170) (by decide +kernel) (by decide +kernel) (by decide +kernel) klookup krun rfl (by decide +kernel) (by decide +kernel) (by decide +kernel) (by decide +kernel)

/-- **F-K1.**  Guard (a) alone does not protect the core: scaffold `gap(100), d:1-5, e:1-200`, bait `s:1-305`, `err = 10`
    (core `[31, 275]`).  The lookup starts at the contig `d` (positions 101..105, deep inside the core); `d` shares
    5 < 10 bases with the bait, so guard (a) holds; `discard_start` removes it: position 101 is a contig base in the core
    that is no longer inside the result.  (`d` lies wholly inside the bait — the case `GStep.startA` excludes.) -/
private def ksrcF : List Row := [kgp 100, .frag (kfr 1 "d" 1 5 1), .frag (kfr 2 "e" 1 200 1)]
private def koF0 : OverlapResult :=
  { bait := kbait 1 305 1, start := 101, stop := 305, rows := [.frag (kfr 1 "d" 1 5 1), .frag (kfr 2 "e" 1 200 1)],
    name := "matches".toList }
private def koF1 : OverlapResult := { koF0 with start := 106, rows := [.frag (kfr 2 "e" 1 200 1)] }
theorem guard_a_alone_is_not_enough :
    findOverlaps ksrcF (kbait 1 305 1) = .ok (some koF0) ∧
    startRowBaitOverlap koF0 = .ok 5 ∧ (5 : Int) < 10 ∧ discardStart koF0 = .ok koF1 ∧
    ContigAt ksrcF 101 ∧ (kbait 1 305 1).start + 3 * 10 ≤ 101 ∧ 101 ≤ (kbait 1 305 1).stop - 3 * 10 ∧
    ¬ CoreKept ksrcF (3 * 10) koF0.start koF0.stop koF1 := by
  have hc : ContigAt ksrcF 101 := ⟨by decide +kernel, kfr 1 "d" 1 5 1, by decide +kernel⟩
  refine ⟨by decide +kernel, by decide +kernel, by decide +kernel, by decide +kernel, hc, by decide +kernel, by decide +kernel, ?_⟩
  intro h
  have := (h 101 (by decide +kernel) (by decide +kernel) hc (by decide +kernel) (by decide +kernel)).1
  exact absurd this (by decide +kernel)

/-! ## K2 — the build returned by `remap_to_input_assembly` -/

theorem inputNonNeg_iff (input : List Scaffold) : InputNonNeg input ↔ ∀ sc ∈ input, ∀ r ∈ sc.rows, 0 ≤ r.length := Iff.rfl

theorem ptxDisjoint_iff (ptx : List Scaffold) :
    PtxDisjoint ptx ↔
      (ptx.flatMap Scaffold.fragments).Pairwise (fun p q => p.name = q.name → p.stop < q.start ∨ q.stop < p.start) :=
  Iff.rfl

/-- **K2.**  Well-formed input without negative gap lengths, pairwise disjoint baits, `err ≥ 0`,
    `remap_to_input_assembly` returns `b`.  Then the stored results correspond one to one, in order, to the pieces
    `C09.pieces input false ptx` (the Pretext fragments whose lookup finds something, file order), and for the `sid`-th
    piece `c = (seen, S, p)` with result `r = b.store[sid]`:
    * `r.o.bait = p`; `p` names the input scaffold `sc`, whose lookup of `p` gave `o0`;
    * `KInv sc.rows (3·err) o0.start o0.stop p r.o` — C18's `Inv` w.r.t. `sc` (contiguous run of `sc`'s rows, gaps
      included, only terminal fragments shortened), and both ends on a row boundary or exactly at the bait coordinate;
    * EVERY contig base of `sc` in the core `[p.start + 3·err, p.stop − 3·err]` lies inside `[r.o.start, r.o.stop]`;
    * row form: every contig row of `sc` with a base in the core is still a row of `r.o`, unshortened unless terminal and
      then cut exactly at the bait coordinate (`RowKept`). -/
theorem remap_keeps_core (input ptx : List Scaffold) (prefix_ : Str) (joinGap : Option Gap) (err : Int) (b : Build)
    (hwf : WFInput input) (hnn : InputNonNeg input) (hdis : PtxDisjoint ptx) (herr : 0 ≤ err)
    (h : remapToInput input ptx prefix_ joinGap err = .ok b) :
    b.store.length = (C09.pieces input false ptx).length ∧
    ∀ (sid : Nat) (c : Bool × Scaffold × Fragment), (C09.pieces input false ptx)[sid]? = some c →
      ∃ r sc o0, b.store[sid]? = some r ∧ r.o.bait = c.2.2 ∧
        sc ∈ input ∧ sc.name = c.2.2.name ∧ findOverlaps sc.rows c.2.2 = .ok (some o0) ∧
        KInv sc.rows (3 * err) o0.start o0.stop c.2.2 r.o ∧
        (∀ x, ContigAt sc.rows x → c.2.2.start + 3 * err ≤ x → x ≤ c.2.2.stop - 3 * err → r.o.start ≤ x ∧ x ≤ r.o.stop) ∧
        (∀ (X Y : List Row) (f : Fragment) (x : Int), sc.rows = X ++ .frag f :: Y →
          rowsLength X < x → x ≤ rowsLength X + f.length → c.2.2.start + 3 * err ≤ x → x ≤ c.2.2.stop - 3 * err →
          ∃ L row R dl dr, RowKept r.o f (rowsLength X) L row R dl dr) := by
  obtain ⟨hview, hpiece, _⟩ := C09.piece_tag input ptx prefix_ joinGap err b h
  have hcore := remapToInput_core input ptx prefix_ joinGap err b hwf hnn hdis herr h
  refine ⟨by simpa using congrArg List.length hview, ?_⟩
  intro sid c hc
  obtain ⟨r, hr, _, _, _, hb⟩ := hpiece sid c hc
  obtain ⟨sc, o0, hsc, hname, hl, hK, _⟩ := hcore r (List.mem_of_getElem? hr)
  rw [hb] at hname hl hK
  have hlen := hnn sc hsc
  refine ⟨r, sc, o0, hr, hb, hsc, hname, hl, hK, ?_, ?_⟩
  · intro x hx h1 h2
    exact coreKept_all hlen (by omega) hl hK hx h1 h2
  · intro X Y f x hs hx1 hx2 h1 h2
    exact coreRow_all hlen (by omega) hl hK hs hx1 hx2 h1 h2

/-- **K2b — deep rows survive.**  Same hypotheses.  `r` a stored result, `sc` the input scaffold its bait `p` names, `f` a
    contig row of `sc` at scaffold positions `[fs, fe] = [|X|+1, |X|+|f|]` that shares at least `err` and at least one
    base with `p` and reaches deeper than `3·err` from both ends of `p` (`p.start + 3·err ≤ fe`, `fs ≤ p.stop − 3·err`).
    Then the part of `f` inside the bait is inside `[r.o.start, r.o.stop]`, and `f` is still a row of `r.o`, unshortened
    unless terminal and then cut exactly at the bait coordinate (`RowKept`).  No condition on the length of the piece. -/
theorem deep_row_survives (input ptx : List Scaffold) (prefix_ : Str) (joinGap : Option Gap) (err : Int) (b : Build)
    (hwf : WFInput input) (hnn : InputNonNeg input) (hdis : PtxDisjoint ptx) (herr : 0 ≤ err)
    (h : remapToInput input ptx prefix_ joinGap err = .ok b) {r : Res} (hr : r ∈ b.store)
    {sc : Scaffold} (hsc : sc ∈ input) (hn : sc.name = r.o.bait.name)
    {X Y : List Row} {f : Fragment} (hs : sc.rows = X ++ .frag f :: Y)
    (h1 : err ≤ min (rowsLength X + f.length) r.o.bait.stop - max (rowsLength X + 1) r.o.bait.start + 1)
    (h2 : 1 ≤ min (rowsLength X + f.length) r.o.bait.stop - max (rowsLength X + 1) r.o.bait.start + 1)
    (h3 : r.o.bait.start + 3 * err ≤ rowsLength X + f.length) (h4 : rowsLength X + 1 ≤ r.o.bait.stop - 3 * err) :
    (r.o.start ≤ max (rowsLength X + 1) r.o.bait.start ∧ min (rowsLength X + f.length) r.o.bait.stop ≤ r.o.stop) ∧
    ∃ L row R dl dr, RowKept r.o f (rowsLength X) L row R dl dr := by
  obtain ⟨o0, hK, hS⟩ := remapToInput_core_at input ptx prefix_ joinGap err b hwf hnn hdis herr h hr hsc hn
  obtain ⟨q1, q2⟩ := hS X f Y hs h1 h2 h3 h4
  refine ⟨⟨q1, q2⟩, ?_⟩
  exact row_kept_at (hnn sc hsc) hK.inv hK.edge hs (x := max (rowsLength X + 1) r.o.bait.start) (by omega) (by omega) q1
    (by omega)

/-! ### K2: the finding F-K2 — overlapping baits -/

private def kjg : Gap := { length := 200, gapType := "scaffold".toList }
private def kpc (n : Str) (s e st : Int) : Row := .frag { name := n, start := s, stop := e, strand := st }
private def kview (b : Build) : List (Int × Int × Int × Int × List Key) :=
  b.store.map (fun r => (r.o.bait.start, r.o.bait.stop, r.o.start, r.o.stop, C01.keysOf r.o.rows))

/-- input scaffold `s`: a:1-50 at 1..50, gap 51..150, d:1-5 at 151..155, y:1-200 at 156..355 -/
private def kinO : List Scaffold :=
  [{ name := "s".toList, rows := [.frag (kfr 1 "a" 1 50 1), kgp 100, .frag (kfr 2 "d" 1 5 1), .frag (kfr 3 "y" 1 200 1)] }]
/-- two OVERLAPPING Pretext fragments: `s:151-155` (exactly the contig `d`) and `s:60-355` -/
private def kptxO : List Scaffold :=
  [{ name := "P1".toList, rows := [kpc "s".toList 151 155 1] }, { name := "P2".toList, rows := [kpc "s".toList 60 355 1] }]

set_option synthInstance.maxSize 1024 in
/-- **F-K2.**  `err = 10`: the piece `s:60-355` has the core `[90, 325]`; the contig `d` at 151..155 lies deep inside it.
    Both pieces hold `d`, both share `5 < err` bases with it, the tie goes to the second premise: `d` is removed from the
    piece `s:60-355`, whose result then begins at 156.  `remap_to_input_assembly` completes.  All hypotheses of K2 hold
    except `PtxDisjoint`. -/
theorem overlapping_baits_lose_core :
    WFInput kinO ∧ InputNonNeg kinO ∧ ¬ PtxDisjoint kptxO ∧
    (remapToInput kinO kptxO [] (some kjg) 10).toOption.map kview =
      some [(151, 155, 151, 155, [("d".toList, 1, 5)]), (60, 355, 156, 355, [("y".toList, 1, 200)])] ∧
    ContigAt (kinO.flatMap (·.rows)) 151 ∧ (60 : Int) + 3 * 10 ≤ 151 ∧ (151 : Int) ≤ 355 - 3 * 10 ∧ ¬ ((156 : Int) ≤ 151) := by
  refine ⟨by decide +kernel, by decide +kernel, by decide +kernel, by decide +kernel, ⟨by decide +kernel, kfr 2 "d" 1 5 1, by decide +kernel⟩, by decide +kernel, by decide +kernel,
    by decide +kernel⟩

/-! ## K3 — the output -/

/-- a fragment row of a result appears in `to_scaffold()` with the same contig interval (strand negated for a `−` piece) -/
theorem frag_mem_toScaffoldRows {o : OverlapResult} {g : Fragment} (h : Row.frag g ∈ o.rows) :
    ∃ g', Row.frag g' ∈ o.toScaffoldRows ∧ g'.keyTuple = g.keyTuple := by
  unfold toScaffoldRows
  split
  · exact ⟨g.reverse, List.mem_map.mpr ⟨.frag g, List.mem_reverse.mpr h, rfl⟩, rfl⟩
  · exact ⟨g, h, rfl⟩

/-- **K3.**  Hypotheses of K2 and `remap` completes with `(outs, stats)`.  With `b` the build `remap_to_input_assembly`
    returned: for the `sid`-th piece `c = (seen, S, p)`, its stored result `r` and input scaffold `sc` — IF the core of
    the piece holds a contig base `x` of `sc`, THEN
    * the result still has rows and was appended, and there is an output assembly `a` with key
      `C09.routeKey r.o.tag r.o.haplotype` and a scaffold `s` of it (carrying the result's tag and haplotype) such that
      `r.o.toScaffoldRows` is a contiguous block of `s.rows` — the core's rows (K2, row form) therefore appear there as
      one contiguous run with the input's gap rows between them;
    * orientation: for `p.strand = ±1`, `toScaffoldRows` is `rows` (reversed iff `p.strand = −1`) with every fragment's
      strand multiplied by `p.strand` — input orientation × piece orientation;
    * exactly one: ANY fragment of ANY scaffold `s'` of ANY output assembly `a'` that shares a contig base with a fragment
      of the piece forces `a' = a` and `s' = s`. -/
theorem remap_core_in_one_scaffold (input ptx : List Scaffold) (prefix_ : Str) (joinGap : Option Gap) (err : Int)
    (outs : List OutAsm) (stats : Stats)
    (hwf : WFInput input) (hnn : InputNonNeg input) (hdis : PtxDisjoint ptx) (herr : 0 ≤ err)
    (h : remap input ptx prefix_ joinGap err = .ok (outs, stats)) :
    ∃ b, remapToInput input ptx prefix_ joinGap err = .ok b ∧
      ∀ (sid : Nat) (c : Bool × Scaffold × Fragment), (C09.pieces input false ptx)[sid]? = some c →
        ∃ r sc, b.store[sid]? = some r ∧ r.o.bait = c.2.2 ∧ sc ∈ input ∧ sc.name = c.2.2.name ∧
          ∀ x, ContigAt sc.rows x → c.2.2.start + 3 * err ≤ x → x ≤ c.2.2.stop - 3 * err →
            r.o.rows ≠ [] ∧ r.added = true ∧
            ∃ a ∈ outs, a.key = C09.routeKey r.o.tag r.o.haplotype ∧
              ∃ s ∈ a.scaffolds, s.tag = r.o.tag ∧ s.haplotype = r.o.haplotype ∧ r.o.toScaffoldRows <:+: s.rows ∧
                ((c.2.2.strand = 1 ∨ c.2.2.strand = -1) →
                  r.o.toScaffoldRows =
                    (if c.2.2.strand = -1 then r.o.rows.reverse else r.o.rows).map (orientRow c.2.2.strand)) ∧
                (∀ a' ∈ outs, ∀ s' ∈ a'.scaffolds, ∀ g f', Row.frag g ∈ r.o.toScaffoldRows → Row.frag f' ∈ s'.rows →
                  f'.name = g.name → (∃ y, g.start ≤ y ∧ y ≤ g.stop ∧ f'.start ≤ y ∧ y ≤ f'.stop) →
                  a' = a ∧ s' = s) := by
  obtain ⟨b, hb, _, hroute, _, _⟩ := C09.remap_routes_store input ptx prefix_ joinGap err outs stats h
  refine ⟨b, hb, ?_⟩
  obtain ⟨_, hk2⟩ := remap_keeps_core input ptx prefix_ joinGap err b hwf hnn hdis herr hb
  have hadd := remapToInput_addedOK input ptx prefix_ joinGap err b hb
  intro sid c hc
  obtain ⟨r, sc, o0, hr, hbait, hsc, hname, _, hK, hpos, _⟩ := hk2 sid c hc
  refine ⟨r, sc, hr, hbait, hsc, hname, ?_⟩
  intro x hx h1 h2
  obtain ⟨p1, p2⟩ := hpos x hx h1 h2
  have hne : r.o.rows ≠ [] := by
    intro he
    have := hK.inv.span
    rw [he, rowsLength_nil] at this
    omega
  have hra := hadd.added (List.mem_of_getElem? hr) hne
  obtain ⟨a, ha, hkey, s, hs, htag, hhap, hinf⟩ := hroute r (List.mem_of_getElem? hr) hra hne
  refine ⟨hne, hra, a, ha, hkey, s, hs, htag, hhap, hinf, fun hst => ?_,
    order_unique input ptx prefix_ joinGap err outs stats hwf h a ha s hs _ hinf⟩
  rw [← hbait] at hst ⊢
  exact (to_scaffold_orientation hst).1

/-! ## K4 — a deep cut splits the contig exactly at the Pretext coordinate, for any map -/

/-- **K4 (stored results).**  Hypotheses of K2.  Two stored results `r1 = b.store[i]`, `r2 = b.store[j]`, `i ≠ j`, whose
    baits lie on the same input scaffold `sc` and meet at `c | c+1` (`r1.bait.stop = c`, `r2.bait.start = c+1`); the
    boundary falls inside the contig row `f` of `sc` (`sc.rows = X ++ f :: Y`, scaffold span `[cs, ce] =
    [|X|+1, |X|+|f|]`) deeper than the margin: `cs + 3·err < c < ce − 3·err`; each piece is non-empty and has at least `err`
    bases.  Then `r1.o.rows` ends with a part `g1` of `f`,
    `r2.o.rows` begins with a part `g2` of `f`, `r1.o.stop = c`, `r2.o.start = c+1`, and the parts meet exactly at the
    designated coordinate: forward contig — `g1.stop = f.stop − (ce − c)`, `g2.start = g1.stop + 1`; reverse contig —
    `g1.start = f.start + (ce − c)`, `g2.stop + 1 = g1.start`. -/
theorem deep_cut_exact_any_map (input ptx : List Scaffold) (prefix_ : Str) (joinGap : Option Gap) (err : Int) (b : Build)
    (hwf : WFInput input) (hnn : InputNonNeg input) (hdis : PtxDisjoint ptx) (herr : 0 ≤ err)
    (h : remapToInput input ptx prefix_ joinGap err = .ok b)
    {i j : Nat} {r1 r2 : Res} (hne : i ≠ j) (hi : b.store[i]? = some r1) (hj : b.store[j]? = some r2)
    {c : Int} (hc1 : r1.o.bait.stop = c) (hc2 : r2.o.bait.start = c + 1)
    {sc : Scaffold} (hsc : sc ∈ input) (hn1 : sc.name = r1.o.bait.name) (hn2 : sc.name = r2.o.bait.name)
    {X Y : List Row} {f : Fragment} (hs : sc.rows = X ++ .frag f :: Y)
    (hd1 : rowsLength X + 1 + 3 * err < c) (hd2 : c < rowsLength X + f.length - 3 * err)
    (hp1 : r1.o.bait.start ≤ c) (hl1 : r1.o.bait.start + err ≤ c + 1)
    (hp2 : c + 1 ≤ r2.o.bait.stop) (hl2 : c + err ≤ r2.o.bait.stop) :
    ∃ L g1 g2 R, r1.o.rows = L ++ [.frag g1] ∧ r2.o.rows = .frag g2 :: R ∧ r1.o.stop = c ∧ r2.o.start = c + 1 ∧
      g1.name = f.name ∧ g2.name = f.name ∧ g1.strand = f.strand ∧ g2.strand = f.strand ∧
      (if f.strand = 1 then g1.stop = f.stop - (rowsLength X + f.length - c) ∧ g2.start = g1.stop + 1
       else g1.start = f.start + (rowsLength X + f.length - c) ∧ g2.stop + 1 = g1.start) :=
  deep_cut_rows input ptx prefix_ joinGap err b hwf hnn hdis herr h hne hi hj hc1 hc2 hsc hn1 hn2 hs hd1 hd2 hp1 hl1 hp2 hl2

/-- **K4 (output).**  … and when `remap` completes, the output contains two fragments `h1`, `h2` of that contig — in
    scaffolds of the assemblies the two pieces are routed to — meeting exactly at the designated coordinate.
    NOTE (F-K4): the side conditions "each piece is non-empty and has at least `err` bases" are not in the clause's
    wording of K4; see the header. -/
theorem deep_cut_exact_any_map_output (input ptx : List Scaffold) (prefix_ : Str) (joinGap : Option Gap) (err : Int)
    (outs : List OutAsm) (stats : Stats)
    (hwf : WFInput input) (hnn : InputNonNeg input) (hdis : PtxDisjoint ptx) (herr : 0 ≤ err)
    (h : remap input ptx prefix_ joinGap err = .ok (outs, stats)) :
    ∃ b, remapToInput input ptx prefix_ joinGap err = .ok b ∧
      ∀ (i j : Nat) (r1 r2 : Res) (c : Int) (sc : Scaffold) (X Y : List Row) (f : Fragment),
        i ≠ j → b.store[i]? = some r1 → b.store[j]? = some r2 → r1.o.bait.stop = c → r2.o.bait.start = c + 1 →
        sc ∈ input → sc.name = r1.o.bait.name → sc.name = r2.o.bait.name → sc.rows = X ++ .frag f :: Y →
        rowsLength X + 1 + 3 * err < c → c < rowsLength X + f.length - 3 * err →
        r1.o.bait.start ≤ c → r1.o.bait.start + err ≤ c + 1 → c + 1 ≤ r2.o.bait.stop → c + err ≤ r2.o.bait.stop →
        ∃ a1 ∈ outs, ∃ s1 ∈ a1.scaffolds, ∃ a2 ∈ outs, ∃ s2 ∈ a2.scaffolds, ∃ h1 h2,
          a1.key = C09.routeKey r1.o.tag r1.o.haplotype ∧ a2.key = C09.routeKey r2.o.tag r2.o.haplotype ∧
          Row.frag h1 ∈ s1.rows ∧ Row.frag h2 ∈ s2.rows ∧ h1.name = f.name ∧ h2.name = f.name ∧
          (if f.strand = 1 then h1.stop = f.stop - (rowsLength X + f.length - c) ∧ h2.start = h1.stop + 1
           else h1.start = f.start + (rowsLength X + f.length - c) ∧ h2.stop + 1 = h1.start) := by
  obtain ⟨b, hb, _, hroute, _, _⟩ := C09.remap_routes_store input ptx prefix_ joinGap err outs stats h
  refine ⟨b, hb, ?_⟩
  have hadd := remapToInput_addedOK input ptx prefix_ joinGap err b hb
  intro i j r1 r2 c sc X Y f hne hi hj hc1 hc2 hsc hn1 hn2 hs hd1 hd2 hp1 hl1 hp2 hl2
  obtain ⟨L, g1, g2, R, e1, e2, _, _, n1, n2, _, _, hco⟩ :=
    deep_cut_rows input ptx prefix_ joinGap err b hwf hnn hdis herr hb hne hi hj hc1 hc2 hsc hn1 hn2 hs hd1 hd2 hp1 hl1 hp2 hl2
  have out : ∀ (r : Res) (g : Fragment), r ∈ b.store → Row.frag g ∈ r.o.rows →
      ∃ a ∈ outs, ∃ s ∈ a.scaffolds, ∃ g', a.key = C09.routeKey r.o.tag r.o.haplotype ∧ Row.frag g' ∈ s.rows ∧
        g'.keyTuple = g.keyTuple := by
    intro r g hr hg
    have hne' : r.o.rows ≠ [] := fun he => by rw [he] at hg; cases hg
    have hra := hadd.added hr hne'
    obtain ⟨a, ha, hkey, s, hs', _, _, hinf⟩ := hroute r hr hra hne'
    obtain ⟨g', hg', hk⟩ := frag_mem_toScaffoldRows hg
    exact ⟨a, ha, s, hs', g', hkey, hinf.subset hg', hk⟩
  obtain ⟨a1, ha1, s1, hs1, h1, k1, m1, t1⟩ := out r1 g1 (List.mem_of_getElem? hi) (by rw [e1]; simp)
  obtain ⟨a2, ha2, s2, hs2, h2, k2, m2, t2⟩ := out r2 g2 (List.mem_of_getElem? hj) (by rw [e2]; simp)
  simp only [Fragment.keyTuple, Prod.mk.injEq] at t1 t2
  refine ⟨a1, ha1, s1, hs1, a2, ha2, s2, hs2, h1, h2, k1, k2, m1, m2, t1.1.trans n1, t2.1.trans n2, ?_⟩
  rw [t1.2.1, t1.2.2, t2.2.1, t2.2.2]
  exact hco

/-! ## non-vacuity of K2–K4 -/

/-! ### (1) the map of `C02Deep`'s example: two deep cuts (one forward, one reverse contig), pieces swapped and reversed -/

private def kg10 : Gap := { length := 10, gapType := "scaffold".toList }
private def kg5 : Gap := { length := 5, gapType := "scaffold".toList }
private def ka1 : Fragment := { oid := 1, name := "ctgA1".toList, start := 1, stop := 100, strand := 1 }
private def ka2 : Fragment := { oid := 2, name := "ctgA2".toList, start := 1, stop := 80, strand := -1 }
private def ka3 : Fragment := { oid := 3, name := "ctgA3".toList, start := 1, stop := 40, strand := 1 }
private def kb1 : Fragment := { oid := 4, name := "ctgB1".toList, start := 1, stop := 80, strand := 1 }
private def kb2 : Fragment := { oid := 5, name := "ctgB2".toList, start := 1, stop := 60, strand := 1 }
/-- 240 bp: a1 1-100, gap, a2 111-190 (reverse contig), gap, a3 201-240 -/
private def ksA : Scaffold := { name := "scaffold_1".toList, rows := [.frag ka1, .gap kg10, .frag ka2, .gap kg10, .frag ka3] }
/-- 145 bp: b1 1-80, gap, b2 86-145 -/
private def ksB : Scaffold := { name := "scaffold_2".toList, rows := [.frag kb1, .gap kg5, .frag kb2] }
private def kinp : List Scaffold := [ksA, ksB]
/-- `scaffold_1` cut at 48 | 49 (inside the forward contig a1) and at 150 | 151 (inside the reverse contig a2, 111..190);
    `scaffold_2` cut at 82 | 83 (inside its gap) -/
private def kptx : List Scaffold :=
  [{ name := "Scaffold_1".toList, rows := [kpc ksA.name 49 150 (-1), .gap kjg, kpc ksB.name 1 82 1] },
   { name := "Scaffold_2".toList,
     rows := [kpc ksB.name 83 145 1, .gap kjg, kpc ksA.name 151 240 1, .gap kjg, kpc ksA.name 1 48 (-1)] }]

/-- it is the demo map of `Proofs/C02DeepDemo`, where its runs are evaluated -/
private theorem kdemo : kinp = DeepDemo.inp ∧ kptx = DeepDemo.ptx ∧ kjg = DeepDemo.jg := ⟨rfl, rfl, rfl⟩

private theorem kdeep_hyps : WFInput kinp ∧ InputNonNeg kinp ∧ PtxDisjoint kptx := by
  rw [kdemo.1, kdemo.2.1]; exact DeepDemo.hyps

/-- the hypotheses of K2–K4 hold (decided), with `err = 5` (margin 15) -/
example : WFInput kinp ∧ InputNonNeg kinp ∧ PtxDisjoint kptx ∧ (0 : Int) ≤ 5 :=
  ⟨kdeep_hyps.1, kdeep_hyps.2.1, kdeep_hyps.2.2, by decide⟩

/-- what `remap_to_input_assembly` returns, evaluated by the kernel: bait, span and rows of the five stored results -/
private theorem kdeep_store :
    (remapToInput kinp kptx "SUPER_".toList (some kjg) 5).toOption.map kview =
      some [(49, 150, 49, 150, [("ctgA1".toList, 49, 100), ("ctgA2".toList, 41, 80)]),
            (1, 82, 1, 80, [("ctgB1".toList, 1, 80)]),
            (83, 145, 86, 145, [("ctgB2".toList, 1, 60)]),
            (151, 240, 151, 240, [("ctgA2".toList, 1, 40), ("ctgA3".toList, 1, 40)]),
            (1, 48, 1, 48, [("ctgA1".toList, 1, 48)])] := by
  rw [kdemo.1, kdemo.2.1, kdemo.2.2]
  exact map_view_of DeepDemo.store5 (fun v => (v.bait.2.1, v.bait.2.2, v.start, v.stop, v.keys))

/-- K2 applied: there IS a build, and every piece's result satisfies `KInv` (here only the existence is displayed) -/
example : ∃ b, remapToInput kinp kptx "SUPER_".toList (some kjg) 5 = .ok b ∧
    b.store.length = (C09.pieces kinp false kptx).length := by
  obtain ⟨b, hr, -⟩ := ok_of_view kdeep_store
  exact ⟨b, hr, (remap_keeps_core kinp kptx _ _ 5 b kdeep_hyps.1 kdeep_hyps.2.1 kdeep_hyps.2.2 (by decide) hr).1⟩

private def kbaits (b : Build) : List (Str × Int × Int) :=
  b.store.map (fun r => (r.o.bait.name, r.o.bait.start, r.o.bait.stop))

private theorem kdeep_baits :
    (remapToInput kinp kptx "SUPER_".toList (some kjg) 5).toOption.map kbaits =
      some [(ksA.name, 49, 150), (ksB.name, 1, 82), (ksB.name, 83, 145), (ksA.name, 151, 240), (ksA.name, 1, 48)] := by
  rw [kdemo.1, kdemo.2.1, kdemo.2.2]
  exact map_view_of DeepDemo.store5 (·.bait)

/-- **K4 applied** to the cut 48 | 49 inside the forward contig a1 (`X = []`, `[cs, ce] = [1, 100]`, `c = 48`): result 4
    (piece `1..48`) ends with a part of a1 ending at 48, result 0 (piece `49..150`) begins with a part beginning at 49 —
    all hypotheses of `deep_cut_exact_any_map` discharged -/
example : ∃ b r1 r2, remapToInput kinp kptx "SUPER_".toList (some kjg) 5 = .ok b ∧
    b.store[4]? = some r1 ∧ b.store[0]? = some r2 ∧
    ∃ L g1 g2 R, r1.o.rows = L ++ [.frag g1] ∧ r2.o.rows = .frag g2 :: R ∧ r1.o.stop = 48 ∧ r2.o.start = 49 ∧
      g1.name = ka1.name ∧ g2.name = ka1.name ∧ g1.stop = 48 ∧ g2.start = 49 := by
  obtain ⟨b, hr, hv⟩ := ok_of_view kdeep_baits
  obtain ⟨r1, h1, e1⟩ := entry_of_map_eq hv (i := 4) rfl
  obtain ⟨r2, h2, e2⟩ := entry_of_map_eq hv (i := 0) rfl
  simp only [Prod.mk.injEq] at e1 e2
  obtain ⟨L, g1, g2, R, a1, a2, a3, a4, a5, a6, _, _, a9⟩ :=
    deep_cut_exact_any_map kinp kptx _ _ 5 b kdeep_hyps.1 kdeep_hyps.2.1 kdeep_hyps.2.2 (by decide +kernel) hr
      (i := 4) (j := 0) (by decide +kernel) h1 h2 (c := 48) e1.2.2 (by rw [e2.2.1]; decide +kernel) (sc := ksA) (List.mem_cons_self ..) e1.1.symm e2.1.symm
      (X := []) (Y := [.gap kg10, .frag ka2, .gap kg10, .frag ka3]) (f := ka1) rfl (by decide +kernel) (by decide +kernel)
      (by rw [e1.2.1]; decide +kernel) (by rw [e1.2.1]; decide +kernel) (by rw [e2.2.2]; decide +kernel) (by rw [e2.2.2]; decide +kernel)
  rw [if_pos (by decide +kernel)] at a9
  have e : ka1.stop - (rowsLength [] + ka1.length - 48) = 48 := by decide +kernel
  rw [e] at a9
  exact ⟨b, r1, r2, hr, h1, h2, L, g1, g2, R, a1, a2, a3, a4, a5, a6, a9.1, by rw [a9.2, a9.1]; decide +kernel⟩

private theorem kdeep_baits9 :
    (remapToInput kinp kptx "SUPER_".toList (some kjg) 9).toOption.map kbaits =
      some [(ksA.name, 49, 150), (ksB.name, 1, 82), (ksB.name, 83, 145), (ksA.name, 151, 240), (ksA.name, 1, 48)] := by
  rw [kdemo.1, kdemo.2.1, kdemo.2.2]
  exact map_view_of (DeepDemo.store9.trans DeepDemo.store5) (·.bait)

/-- **K2b applied**, `err = 9` (margin 27): the piece `scaffold_1:1-48` is shorter than `2·27`, its core `[28, 21]` is
    empty and K2 says nothing about it — but the contig a1 (1..100) shares 48 ≥ 9 bases with it and reaches deeper than
    27 from both of its ends (`1 + 27 ≤ 100`, `1 ≤ 48 − 27`), so it stays: positions 1..48 are inside the result -/
example : ∃ b r, remapToInput kinp kptx "SUPER_".toList (some kjg) 9 = .ok b ∧ b.store[4]? = some r ∧
    r.o.start ≤ 1 ∧ 48 ≤ r.o.stop ∧ ∃ L row R dl dr, RowKept r.o ka1 0 L row R dl dr := by
  obtain ⟨b, hr, hv⟩ := ok_of_view kdeep_baits9
  obtain ⟨r, h1, e1⟩ := entry_of_map_eq hv (i := 4) rfl
  simp only [Prod.mk.injEq] at e1
  obtain ⟨⟨q1, q2⟩, hrow⟩ := deep_row_survives kinp kptx _ _ 9 b kdeep_hyps.1 kdeep_hyps.2.1 kdeep_hyps.2.2 (by decide +kernel) hr
    (List.mem_of_getElem? h1) (sc := ksA) (List.mem_cons_self ..) e1.1.symm
    (X := []) (Y := [.gap kg10, .frag ka2, .gap kg10, .frag ka3]) (f := ka1) rfl
    (by rw [e1.2.1, e1.2.2]; decide +kernel) (by rw [e1.2.1, e1.2.2]; decide +kernel) (by rw [e1.2.1]; decide +kernel) (by rw [e1.2.2]; decide +kernel)
  rw [e1.2.1] at q1
  rw [e1.2.2] at q2
  have c1 : max (rowsLength [] + 1) (1 : Int) = 1 := by decide +kernel
  have c2 : min (rowsLength [] + ka1.length) (48 : Int) = 48 := by decide +kernel
  rw [c1] at q1
  rw [c2] at q2
  exact ⟨b, r, hr, h1, q1, q2, hrow⟩

/-- the instances of K4's numeric hypotheses for the two cuts: a1 at `[cs, ce] = [1, 100]`, `c = 48`, pieces `1..48` and
    `49..150`; a2 (reverse) at `[111, 190]`, `c = 150`, pieces `49..150` and `151..240`; margin 15 -/
example : (0 + 1 + 3 * 5 < (48 : Int)) ∧ ((48 : Int) < 0 + 100 - 3 * 5) ∧ ((1 : Int) + 5 ≤ 48 + 1) ∧
    ((48 : Int) + 5 ≤ 150) := by decide +kernel
example : (110 + 1 + 3 * 5 < (150 : Int)) ∧ ((150 : Int) < 110 + 80 - 3 * 5) ∧ ((49 : Int) + 5 ≤ 150 + 1) ∧
    ((150 : Int) + 5 ≤ 240) := by decide +kernel
/-- … and what K4 then asserts is what the kernel computed above: forward contig a1: `1-48` | `49-100`
    (`48 = 100 − (100 − 48)`); reverse contig a2: the part at 111..150 is `41-80` (`41 = 1 + (190 − 150)`), the part at
    151..190 is `1-40` (`40 + 1 = 41`) -/
example : ka1.stop - (0 + ka1.length - 48) = 48 ∧ ka2.start + (110 + ka2.length - 150) = 41 := by decide +kernel

/-! ### (2) a small contig near a cut, sharing between `err` and `3·err` bases with each piece, moved wholly to the
    neighbour: the cores are intact, the moved contig lies outside both cores -/

private def kc1 : Fragment := { oid := 1, name := "c1".toList, start := 1, stop := 100, strand := 1 }
private def kc2 : Fragment := { oid := 2, name := "c2".toList, start := 1, stop := 20, strand := 1 }
private def kc3 : Fragment := { oid := 3, name := "c3".toList, start := 1, stop := 100, strand := 1 }
/-- scaffold `s`: c1 at 1..100, c2 at 101..120, c3 at 121..220 -/
private def kin2 : List Scaffold := [{ name := "s".toList, rows := [.frag kc1, .frag kc2, .frag kc3] }]
/-- cut at 108 | 109: c2 shares 8 bases with the first piece and 12 with the second (`err = 5`: both between 5 and 15) -/
private def kptx2 : List Scaffold :=
  [{ name := "P1".toList, rows := [kpc "s".toList 1 108 1] }, { name := "P2".toList, rows := [kpc "s".toList 109 220 (-1)] }]

private theorem kmoved_hyps : WFInput kin2 ∧ InputNonNeg kin2 ∧ PtxDisjoint kptx2 := by decide +kernel

example : WFInput kin2 ∧ InputNonNeg kin2 ∧ PtxDisjoint kptx2 := kmoved_hyps

set_option synthInstance.maxSize 1024 in
/-- the resolver (guard (b): removing c2 from the first piece leaves its bait uncovered by 8 < 15 bases and improves it)
    moves c2 wholly to the second piece; nothing is cut -/
private theorem kmoved_store :
    (remapToInput kin2 kptx2 [] (some kjg) 5).toOption.map kview =
      some [(1, 108, 1, 100, [("c1".toList, 1, 100)]),
            (109, 220, 101, 220, [("c2".toList, 1, 20), ("c3".toList, 1, 100)])] := by decide +kernel

/-- the cores `[16, 93]` and `[124, 205]` are inside the spans `[1, 100]` and `[101, 220]` of the two results (intact),
    and the moved contig c2 (101..120) lies outside both cores -/
example : ((1 : Int) ≤ 1 + 3 * 5 ∧ (108 : Int) - 3 * 5 ≤ 100) ∧ ((101 : Int) ≤ 109 + 3 * 5 ∧ (220 : Int) - 3 * 5 ≤ 220) ∧
    ((108 : Int) - 3 * 5 < 101) ∧ ((120 : Int) < 109 + 3 * 5) := by decide +kernel

/-- K2 applied to this map: the conclusion for a base of the first piece's core (position 50, in c1) -/
example : ∃ b, remapToInput kin2 kptx2 [] (some kjg) 5 = .ok b ∧
    ∃ r, b.store[0]? = some r ∧ r.o.start ≤ 50 ∧ 50 ≤ r.o.stop := by
  obtain ⟨b, hr, -⟩ := ok_of_view kmoved_store
  refine ⟨b, hr, ?_⟩
  obtain ⟨_, hk⟩ := remap_keeps_core kin2 kptx2 _ _ 5 b kmoved_hyps.1 kmoved_hyps.2.1 kmoved_hyps.2.2 (by decide) hr
  obtain ⟨r, sc, o0, h0, _, hsc, _, _, _, hpos, _⟩ :=
    hk 0 (false, { name := "P1".toList, rows := [kpc "s".toList 1 108 1] },
      { name := "s".toList, start := 1, stop := 108, strand := 1 }) (by decide +kernel)
  have hsc' : sc = { name := "s".toList, rows := [.frag kc1, .frag kc2, .frag kc3] } := by
    simpa [kin2] using hsc
  subst hsc'
  exact ⟨r, h0, hpos 50 ⟨by decide, kc1, by decide +kernel⟩ (by decide) (by decide)⟩

/-- `remap` completes on both maps (so K3 / K4 (output) are not vacuous either) -/
example : ((remap kinp kptx "SUPER_".toList (some kjg) 5).toOption.map (fun r => r.2.cuts) = some 2) ∧
    ((remap kin2 kptx2 [] (some kjg) 5).toOption.map (fun r => r.2.cuts) = some 0) := by
  refine ⟨?_, by decide +kernel⟩
  rw [kdemo.1, kdemo.2.1, kdemo.2.2]; exact DeepDemo.cuts5

end AgpTpf.C02
