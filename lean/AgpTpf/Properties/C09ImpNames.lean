/-
  C09 / C16 / C03 (T1c) — `name_assemblies` and `merge_assemblies` of the Python source (pretext_to_asm.py), as translated, ARE the
  model's `nameAssemblies` (Model/Cli.lean).

  Source side: `Gen.Imp.merge_assemblies_imp asm_list`, `Gen.Imp.name_assemblies_imp asm_dict root version` in `AgpTpf/Gen/Imp.lean`
  (generated by `harness/translate_imp.py`; each definition carries the Python text it came from).  `asm_dict` is the
  insertion-ordered dict returned by `assemblies_with_scaffolds_fused` as a list of `(key, Assembly)`; `ret_asm[key] = asm` is `dSet`:
  an existing key is OVERWRITTEN in place.
  Model side: `nameAssemblies (asms : List OutAsm) root version : R (List NamedAsm)` — the assignments `ret_asm[na.key] = na` as a LIST, in
  the order the code makes them (`Model/CliPlan.lean: namedDict` is the dict of that list).

   1  `merge_assemblies_is_source`         `merge_assemblies(l)` = an Assembly "merge", not curated, scaffolds `l.flatMap (·.scaffolds)`
   2a `name_assemblies_is_source_dict`     NO hypothesis: the source returns the model's assignments stored one after the other into a
                                           dict (`foldl dSet`), and raises exactly when and what the model raises
   2a' `name_assemblies_is_source_named_dict`  the same through the model's `namedDict` (Model/CliPlan.lean, what `cliOutputPlan` uses)
   2b `name_assemblies_is_source`          list form (the source's dict lists the model's `NamedAsm`s in order) for a dict input
                                           (`hkeys`) under the no-clash hypotheses `hadd`, `hall`
   2c `name_assemblies_is_source_iff`      the list form holds iff the keys of the model's result are pairwise different
   2d `name_assemblies_is_source_weakest`  … which for a dict input is EXACTLY `hadd ∧ hall`: no weaker hypothesis will do
  and the concrete clash inputs (`nmClashSingle`, `nmClashPrimary`) with what each side returns.

  Proofs: `AgpTpf/Proofs/ImpNames.lean`.
-/
import AgpTpf.Proofs.ImpNames
import AgpTpf.Proofs.ImpEval
namespace AgpTpf.C09
open AgpTpf AgpTpf.CliNames
open scoped AgpTpf.ImpEval

/-! ## 1  `merge_assemblies` -/

/-- `merge_assemblies(asm_list)` never raises; the new Assembly is named "merge", is not curated, and holds the scaffolds of the
    assemblies of the list, in order -/
theorem merge_assemblies_is_source (l : List Assembly) :
    Gen.Imp.merge_assemblies_imp l =
      .ok ({ name := "merge".toList, curated := false, scaffolds := l.flatMap (·.scaffolds) } : Assembly) :=
  ImpNames.merge_tie l

def nmSc (n : String) : Scaffold := { name := n.toList }

example : Gen.Imp.merge_assemblies_imp
    [{ name := "a".toList, curated := true, scaffolds := [nmSc "S1"] }, { name := "b".toList, scaffolds := [] },
     { name := "c".toList, curated := true, scaffolds := [nmSc "S2", nmSc "S3"] }]
    = .ok { name := "merge".toList, curated := false, scaffolds := [nmSc "S1", nmSc "S2", nmSc "S3"] } := by rfl

/-! ## 2  `name_assemblies` -/

/-- **2a** (no hypothesis, not even that the keys differ).  `asm_dict` = the assemblies `asms` as `(key, Assembly object)` pairs, the
    objects carrying any name `n0`.  The source raises exactly the exception the model raises; otherwise it returns the dict obtained by
    storing the model's `NamedAsm`s one after the other: `ret_asm[na.key] = Assembly(na.name, na.curated, na.scaffolds)`. -/
theorem name_assemblies_is_source_dict (asms : List OutAsm) (n0 root version : Str) :
    Gen.Imp.name_assemblies_imp
        (asms.map (fun a => (a.key, ({ name := n0, curated := a.curated, scaffolds := a.scaffolds } : Assembly)))) root version =
      (nameAssemblies asms root version).map (fun named =>
        named.foldl (fun d na => dSet d na.key ({ name := na.name, curated := na.curated, scaffolds := na.scaffolds } : Assembly)) []) :=
  ImpNames.name_tie_dict asms n0 root version

/-- **2a'**  the same with the model's own dict of its result: `namedDict` (Model/CliPlan.lean), which is what `cliOutputPlan` — hence
    every C16 theorem about the files of a run — goes through.  No hypothesis. -/
theorem name_assemblies_is_source_named_dict (asms : List OutAsm) (n0 root version : Str) :
    Gen.Imp.name_assemblies_imp
        (asms.map (fun a => (a.key, ({ name := n0, curated := a.curated, scaffolds := a.scaffolds } : Assembly)))) root version =
      (nameAssemblies asms root version).map (fun named =>
        (namedDict named).map (fun na => (na.key, ({ name := na.name, curated := na.curated, scaffolds := na.scaffolds } : Assembly)))) := by
  rw [name_assemblies_is_source_dict]
  cases nameAssemblies asms root version with
  | error e => rfl
  | ok named => exact congrArg Except.ok (ImpNames.toDict_eq_namedDict named)

/-- **2b**  `asms` comes from a dict (`hkeys`) and no GENERATED key is also the key of an assembly that keeps its own entry:
    * `hadd`  single-haplotype branch (a `None` key, no `Primary`) with a `Haplotig` assembly: no key is `additional_haplotigs`,
    * `hall`  `Primary` branch when something is merged into `all_haplotigs`: a key `all_haplotigs` belongs to a curated assembly
              (which is merged itself and so leaves no entry).
    Then the source returns the dict whose entries, in order, are the model's `NamedAsm`s; same exception otherwise.
    They cannot be weakened (`name_assemblies_is_source_weakest`).  They are NOT the hypotheses of the same name of
    `C16.named_assembly_names_nodup`: those exclude the tags `additional_haplotig` / `all_haplotig` (no final `s`, up to case), which
    make two NAMES equal; these exclude the tags `additional_haplotigs` / `all_haplotigs` (exact spelling), which make two dict KEYS
    equal.  Neither pair implies the other. -/
theorem name_assemblies_is_source (asms : List OutAsm) (n0 root version : Str)
    (hkeys : (asms.map (·.key)).Nodup)
    (hadd : ¬ HasKey asms (some sPrimary) → HasKey asms none → HasKey asms (some sHaplotig) →
      ¬ HasKey asms (some "additional_haplotigs".toList))
    (hall : HasKey asms (some sPrimary) → (∃ a ∈ asms, a.key ≠ some sPrimary ∧ a.curated = true) →
      ∀ a ∈ asms, a.key = some "all_haplotigs".toList → a.curated = true) :
    Gen.Imp.name_assemblies_imp
        (asms.map (fun a => (a.key, ({ name := n0, curated := a.curated, scaffolds := a.scaffolds } : Assembly)))) root version =
      (nameAssemblies asms root version).map (fun named =>
        named.map (fun na => (na.key, ({ name := na.name, curated := na.curated, scaffolds := na.scaffolds } : Assembly)))) := by
  cases h : nameAssemblies asms root version with
  | error e => rw [name_assemblies_is_source_dict, h]; rfl
  | ok named =>
    exact ((ImpNames.name_tie_iff asms n0 root version named h).2
      ((CliNames.named_keys_nodup_iff asms root version named hkeys h).2 ⟨hadd, hall⟩)).trans rfl

/-- **2c**  whatever the input: when the model returns `named`, the source returns `named` as a dict in list form exactly when the
    keys of `named` are pairwise different -/
theorem name_assemblies_is_source_iff (asms : List OutAsm) (n0 root version : Str) (named : List NamedAsm)
    (h : nameAssemblies asms root version = .ok named) :
    Gen.Imp.name_assemblies_imp
        (asms.map (fun a => (a.key, ({ name := n0, curated := a.curated, scaffolds := a.scaffolds } : Assembly)))) root version =
      .ok (named.map (fun na => (na.key, ({ name := na.name, curated := na.curated, scaffolds := na.scaffolds } : Assembly)))) ↔
    (named.map (·.key)).Nodup :=
  ImpNames.name_tie_iff asms n0 root version named h

/-- **2d**  for a dict input on which the model returns `named`, the list form holds IF AND ONLY IF `hadd ∧ hall` -/
theorem name_assemblies_is_source_weakest (asms : List OutAsm) (n0 root version : Str) (named : List NamedAsm)
    (hkeys : (asms.map (·.key)).Nodup) (h : nameAssemblies asms root version = .ok named) :
    Gen.Imp.name_assemblies_imp
        (asms.map (fun a => (a.key, ({ name := n0, curated := a.curated, scaffolds := a.scaffolds } : Assembly)))) root version =
      .ok (named.map (fun na => (na.key, ({ name := na.name, curated := na.curated, scaffolds := na.scaffolds } : Assembly)))) ↔
    ((¬ HasKey asms (some sPrimary) → HasKey asms none → HasKey asms (some sHaplotig) →
        ¬ HasKey asms (some "additional_haplotigs".toList)) ∧
     (HasKey asms (some sPrimary) → (∃ a ∈ asms, a.key ≠ some sPrimary ∧ a.curated = true) →
        ∀ a ∈ asms, a.key = some "all_haplotigs".toList → a.curated = true)) :=
  (ImpNames.name_tie_iff asms n0 root version named h).trans
    (CliNames.named_keys_nodup_iff asms root version named hkeys h)

/-! ### the source on concrete maps (`root = "xyz"`, `version = "1"`, objects named "n0" on entry) -/

/-- the dict handed to the source -/
def nmDict (asms : List OutAsm) : List (Option Str × Assembly) :=
  asms.map (fun a => (a.key, ({ name := "n0".toList, curated := a.curated, scaffolds := a.scaffolds } : Assembly)))
/-- what is looked at of a result: key, name, curated, scaffold names -/
def nmView (r : R (List (Option Str × Assembly))) : R (List (Option Str × Str × Bool × List Str)) :=
  r.map (·.map (fun e => (e.1, e.2.name, e.2.curated, e.2.scaffolds.map (·.name))))
/-- the three hypotheses of `name_assemblies_is_source` -/
def NmNoClash (asms : List OutAsm) : Prop :=
  (asms.map (·.key)).Nodup ∧
  (¬ HasKey asms (some sPrimary) → HasKey asms none → HasKey asms (some sHaplotig) →
    ¬ HasKey asms (some "additional_haplotigs".toList)) ∧
  (HasKey asms (some sPrimary) → (∃ a ∈ asms, a.key ≠ some sPrimary ∧ a.curated = true) →
    ∀ a ∈ asms, a.key = some "all_haplotigs".toList → a.curated = true)
instance (asms : List OutAsm) : Decidable (NmNoClash asms) := by unfold NmNoClash; exact inferInstance
/-- found in one step, so that the instance search for `R (List …)` stays small -/
local instance : DecidableEq (Option Str × Str × Bool × List Str) := inferInstance

/-- the translated function with the string constants of its text (`"additional_haplotigs"`, …) read off, once for the runs below -/
def nameImpC : Decoded Gen.Imp.name_assemblies_imp := ⟨_, by unfold Gen.Imp.name_assemblies_imp; str_lits; exact rfl⟩

/-- a single-haplotype map: primary + Haplotig + Contaminant -/
def nmSingle : List OutAsm :=
  [{ key := none, curated := true, scaffolds := [nmSc "S1", nmSc "S2"] },
   { key := some sHaplotig, curated := false, scaffolds := [nmSc "H_1"] },
   { key := some sContaminant, curated := false, scaffolds := [nmSc "c1"] }]
example : NmNoClash nmSingle := by decide +kernel
example : nmView (Gen.Imp.name_assemblies_imp (nmDict nmSingle) "xyz".toList "1".toList) =
    .ok [(none, "xyz.1.primary".toList, true, ["S1".toList, "S2".toList]),
         (some "additional_haplotigs".toList, "xyz.1.additional_haplotigs".toList, true, ["H_1".toList]),
         (some sContaminant, "xyz.1.contaminants".toList, false, ["c1".toList])] := by
  rw [nameImpC.2]; str_lits
  decide +kernel

/-- a map curated in `Primary` mode: two other curated haplotypes ⇒ merged into `all_haplotigs`; the contaminants keep their entry -/
def nmPrimary : List OutAsm :=
  [{ key := some "Hap2".toList, curated := true, scaffolds := [nmSc "B1"] },
   { key := some sPrimary, curated := true, scaffolds := [nmSc "A1", nmSc "A2"] },
   { key := some sContaminant, curated := false, scaffolds := [nmSc "c1"] },
   { key := some "Hap3".toList, curated := true, scaffolds := [nmSc "C1", nmSc "C2"] }]
example : NmNoClash nmPrimary := by decide +kernel
example : nmView (Gen.Imp.name_assemblies_imp (nmDict nmPrimary) "xyz".toList "1".toList) =
    .ok [(some sPrimary, "xyz.1.primary".toList, true, ["A1".toList, "A2".toList]),
         (some sContaminant, "xyz.1.contaminants".toList, false, ["c1".toList]),
         (some "all_haplotigs".toList, "xyz.1.all_haplotigs".toList, true, ["B1".toList, "C1".toList, "C2".toList])] := by
  rw [nameImpC.2]; str_lits
  decide +kernel

/-- a two-haplotype map -/
def nmMulti : List OutAsm :=
  [{ key := some "Hap1".toList, curated := true, scaffolds := [nmSc "S1"] },
   { key := some "Hap2".toList, curated := true, scaffolds := [nmSc "S2"] },
   { key := some sContaminant, curated := false, scaffolds := [nmSc "c1"] }]
example : NmNoClash nmMulti := by decide +kernel
example : nmView (Gen.Imp.name_assemblies_imp (nmDict nmMulti) "xyz".toList "1".toList) =
    .ok [(some "Hap1".toList, "xyz.hap1.1.primary".toList, true, ["S1".toList]),
         (some "Hap2".toList, "xyz.hap2.1.primary".toList, true, ["S2".toList]),
         (some sContaminant, "xyz.1.contaminants".toList, false, ["c1".toList])] := by
  rw [nameImpC.2]; str_lits
  decide +kernel

/-- `None.lower()`: a NON-curated assembly keyed `None` next to a `Primary` one ⇒ AttributeError, on both sides.  (This is the only
    way to reach it: `asm_dict.get(None)` being truthy selects the single-haplotype branch, which never calls `.lower()` on `None`, so
    in the multi-haplotype branch no key is `None` — `C09.name_multi_haplotype`, and by 2a the same holds of the source.) -/
def nmNoneNext : List OutAsm :=
  [{ key := some sPrimary, curated := true, scaffolds := [nmSc "A1"] },
   { key := none, curated := false, scaffolds := [nmSc "u1"] }]
example : NmNoClash nmNoneNext := by decide +kernel
example : Gen.Imp.name_assemblies_imp (nmDict nmNoneNext) "xyz".toList "1".toList = .error .attribute := by
  rw [nameImpC.2]; str_lits; decide +kernel
example : nameAssemblies nmNoneNext "xyz".toList "1".toList = .error .attribute := by rfl
/-- a non-curated `None` assembly WITHOUT a `Primary` one is the single-haplotype branch: no exception -/
example : nmView (Gen.Imp.name_assemblies_imp
      (nmDict [{ key := some "Hap1".toList, curated := true, scaffolds := [nmSc "S1"] },
               { key := none, curated := false, scaffolds := [nmSc "u1"] }]) "xyz".toList "1".toList) =
    .ok [(some "Hap1".toList, "xyz.1.hap1s".toList, true, ["S1".toList]),
         (none, "xyz.1.primary".toList, false, ["u1".toList])] := by
  rw [nameImpC.2]; str_lits
  decide +kernel

/-! ### the clashes: the list form is FALSE without `hadd` / `hall` -/

/-- `hadd` fails: a tag `additional_haplotigs` next to `Haplotig` in a single-haplotype map.  The model lists three assignments; in
    the source the third one OVERWRITES the entry of the first (at its position): the scaffold `X1` is in no output. -/
def nmClashSingle : List OutAsm :=
  [{ key := none, curated := true, scaffolds := [nmSc "S1"] },
   { key := some "additional_haplotigs".toList, curated := false, scaffolds := [nmSc "X1"] },
   { key := some sHaplotig, curated := false, scaffolds := [nmSc "H1"] }]
example : (nmClashSingle.map (·.key)).Nodup ∧ ¬ NmNoClash nmClashSingle := by decide +kernel
example : nmView (Gen.Imp.name_assemblies_imp (nmDict nmClashSingle) "xyz".toList "1".toList) =
    .ok [(none, "xyz.1.primary".toList, true, ["S1".toList]),
         (some "additional_haplotigs".toList, "xyz.1.additional_haplotigs".toList, true, ["H1".toList])] := by
  rw [nameImpC.2]; str_lits
  decide +kernel
example : (nameAssemblies nmClashSingle "xyz".toList "1".toList).map (·.map (fun na => (na.key, na.name, na.curated, na.scaffolds.map (·.name)))) =
    .ok [(none, "xyz.1.primary".toList, true, ["S1".toList]),
         (some "additional_haplotigs".toList, "xyz.1.additional_haplotigss".toList, false, ["X1".toList]),
         (some "additional_haplotigs".toList, "xyz.1.additional_haplotigs".toList, true, ["H1".toList])] := by
  str_lits
  decide +kernel

/-- `hall` fails: a non-curated assembly tagged `all_haplotigs` in a `Primary`-mode map with another curated haplotype -/
def nmClashPrimary : List OutAsm :=
  [{ key := some sPrimary, curated := true, scaffolds := [nmSc "S1"] },
   { key := some "all_haplotigs".toList, curated := false, scaffolds := [nmSc "X1"] },
   { key := some "Hap2".toList, curated := true, scaffolds := [nmSc "H1"] }]
example : (nmClashPrimary.map (·.key)).Nodup ∧ ¬ NmNoClash nmClashPrimary := by decide +kernel
example : nmView (Gen.Imp.name_assemblies_imp (nmDict nmClashPrimary) "xyz".toList "1".toList) =
    .ok [(some sPrimary, "xyz.1.primary".toList, true, ["S1".toList]),
         (some "all_haplotigs".toList, "xyz.1.all_haplotigs".toList, true, ["H1".toList])] := by
  rw [nameImpC.2]; str_lits
  decide +kernel
example : (nameAssemblies nmClashPrimary "xyz".toList "1".toList).map (·.map (fun na => (na.key, na.name, na.curated, na.scaffolds.map (·.name)))) =
    .ok [(some sPrimary, "xyz.1.primary".toList, true, ["S1".toList]),
         (some "all_haplotigs".toList, "xyz.1.all_haplotigss".toList, false, ["X1".toList]),
         (some "all_haplotigs".toList, "xyz.1.all_haplotigs".toList, true, ["H1".toList])] := by
  str_lits
  decide +kernel
/-- … but a CURATED assembly tagged `all_haplotigs` is merged like the others and clashes with nothing (why `hall` asks less than
    "no key is `all_haplotigs`") -/
def nmNoClashPrimary : List OutAsm :=
  [{ key := some sPrimary, curated := true, scaffolds := [nmSc "S1"] },
   { key := some "all_haplotigs".toList, curated := true, scaffolds := [nmSc "X1"] },
   { key := some "Hap2".toList, curated := true, scaffolds := [nmSc "H1"] }]
example : NmNoClash nmNoClashPrimary := by decide +kernel
example : nmView (Gen.Imp.name_assemblies_imp (nmDict nmNoClashPrimary) "xyz".toList "1".toList) =
    .ok [(some sPrimary, "xyz.1.primary".toList, true, ["S1".toList]),
         (some "all_haplotigs".toList, "xyz.1.all_haplotigs".toList, true, ["X1".toList, "H1".toList])] := by
  rw [nameImpC.2]; str_lits
  decide +kernel

end AgpTpf.C09
