/-
  C09 (part) — "Pieces tagged Haplotig, Contaminant or FalseDuplicate are written to the haplotig, contaminant or
  false-duplicate assembly … everything else goes to the primary assembly": the assembly key → FILE NAME table of
  `name_assemblies` (pretext_to_asm.py) and the file stem of `write_assemblies`.

  Model: Model/Cli.lean (`nameAssemblies`, `outputFileName`), input `OutAsm` (key, curated, scaffolds) as produced by
  `assembliesFused` (keys: C09.assembly_key*).  Helpers: Proofs/CliNames.lean.

  The three branches as pure functions (defined in CliNames, each with one record equation there: `singleName_rec`,
  `primaryName_rec`, `multiName_rec`; the name is `root.v.<keyLabel of the effective lower-cased key>`):
    singleName   root v a        single-haplotype branch  (a `none` key, no `Primary` key)
    primaryName  root v a        `Primary` branch, assemblies that keep their own file; `mergedPart` = the `all_haplotigs` one
    multiName    root v a        multi-haplotype branch   (neither key)
  `HasKey asms k`  :=  ∃ a ∈ asms, a.key = k.

   A1 `name_single_haplotype` (+ `single_file_name`, `primary_file_name`, `contaminants_file_name`, …)
   A2 `name_primary_branch` (+ `merged_part_table`, `name_primary_branch_perm`, `name_primary_branch_fails_iff`)
   A3 `name_multi_haplotype`
   A4 `name_assemblies_conserves`, `name_assemblies_curated_origin`, `name_assemblies_keys_distinct`
-/
import AgpTpf.Proofs.CliNames
import AgpTpf.Proofs.ImpEval
namespace AgpTpf.C09
open AgpTpf AgpTpf.CliNames AgpTpf.CliPlan
open scoped AgpTpf.ImpEval

/-! ## A1  single-haplotype branch -/

/-- **A1** a `none` key present, no `Primary` key: never fails, the result lists the assemblies in the same order,
    each renamed by `singleName` (table below).  (Needs no distinctness of keys.) -/
theorem name_single_haplotype (asms : List OutAsm) (root v : Str)
    (hp : ¬ HasKey asms (some sPrimary)) (hn : HasKey asms none) :
    nameAssemblies asms root v = .ok (asms.map (singleName root v)) :=
  nameAssemblies_single asms root v hp hn

/-- the file of an assembly in the single-haplotype branch: `root.v.<label>` (`None` ↦ `primary`, `Haplotig` ↦
    `additional_haplotigs`, other `k` ↦ `<lower k>s`), then `.curated` for a curated assembly and for `Haplotig` -/
theorem single_file_name (root v suffix : Str) (a : OutAsm) :
    outputFileName (singleName root v a) suffix =
      root ++ '.' :: (v ++ '.' :: keyLabel (singleLow a)) ++
        (if (decide (a.key = some sHaplotig) || a.curated) = true then ".curated".toList else []) ++ suffix := by
  rw [singleName_rec]; rfl

/-- file written for the primary assembly (key `None`; it is curated: `C09.assembly_key_primary`) -/
theorem primary_file_name (root v suffix : Str) (a : OutAsm) (hk : a.key = none) (hc : a.curated = true) :
    outputFileName (singleName root v a) suffix = root ++ '.' :: (v ++ ".primary.curated".toList ++ suffix) := by
  rw [single_file_name]
  unfold singleLow lowerKey keyLabel sPrimaryLc
  str_lits
  simp [hk, hc]

/-- `Haplotig`-tagged pieces: `root.v.additional_haplotigs.curated<suffix>` whatever the input flag was -/
theorem additional_haplotigs_file_name (root v suffix : Str) (a : OutAsm) (hk : a.key = some sHaplotig) :
    outputFileName (singleName root v a) suffix =
      root ++ '.' :: (v ++ ".additional_haplotigs.curated".toList ++ suffix) := by
  rw [single_file_name]
  unfold singleLow keyLabel sAddHap
  str_lits
  simp [hk]

/-- any other key `k`, not curated: `root.v.<lower k>s<suffix>` -/
theorem tagged_file_name (root v suffix : Str) (a : OutAsm) (k : Str) (hk : a.key = some k) (hne : k ≠ sHaplotig)
    (hc : a.curated = false) :
    outputFileName (singleName root v a) suffix = root ++ '.' :: (v ++ '.' :: (lowerStr k ++ 's' :: suffix)) := by
  rw [single_file_name]
  unfold singleLow lowerKey keyLabel
  simp [hk, hne, hc]

/-- `Contaminant` / `FalseDuplicate`-tagged pieces (not curated): `root.v.contaminants<suffix>`,
    `root.v.falseduplicates<suffix>` -/
theorem contaminants_file_name (root v suffix : Str) (a : OutAsm) (hk : a.key = some sContaminant)
    (hc : a.curated = false) :
    outputFileName (singleName root v a) suffix = root ++ '.' :: (v ++ ".contaminants".toList ++ suffix) := by
  rw [tagged_file_name root v suffix a sContaminant hk (by decide) hc,
    show lowerStr sContaminant = "contaminant".toList by str_lits; decide +kernel]
  str_lits
  simp

theorem false_duplicates_file_name (root v suffix : Str) (a : OutAsm) (hk : a.key = some sFalseDuplicate)
    (hc : a.curated = false) :
    outputFileName (singleName root v a) suffix = root ++ '.' :: (v ++ ".falseduplicates".toList ++ suffix) := by
  rw [tagged_file_name root v suffix a sFalseDuplicate hk (by decide) hc,
    show lowerStr sFalseDuplicate = "falseduplicate".toList by str_lits; decide +kernel]
  str_lits
  simp

/-! non-vacuity: primary + haplotigs + contaminants, `root = "xyz"`, `v = "1"` -/

def sc (n : String) : Scaffold := { name := n.toList }
def singleDemo : List OutAsm :=
  [{ key := none, curated := true, scaffolds := [sc "S1", sc "S2"] },
   { key := some sHaplotig, curated := false, scaffolds := [sc "H_1"] },
   { key := some sContaminant, curated := false, scaffolds := [sc "c1"] }]
example : ¬ HasKey singleDemo (some sPrimary) ∧ HasKey singleDemo none := by decide
example : (nameAssemblies singleDemo "xyz".toList "1".toList).map (·.map (fun n => (n.key, outputFileName n ".fa".toList, n.scaffolds.length))) =
    .ok [(none, "xyz.1.primary.curated.fa".toList, 2),
         (some "additional_haplotigs".toList, "xyz.1.additional_haplotigs.curated.fa".toList, 1),
         (some sContaminant, "xyz.1.contaminants.fa".toList, 1)] := by
  str_lits
  decide +kernel

/-! ## A3  multi-haplotype branch -/

/-- **A3** neither a `Primary` nor a `None` key: never fails (the `None.lower()` AttributeError is unreachable here),
    same order, each renamed by `multiName`. -/
theorem name_multi_haplotype (asms : List OutAsm) (root v : Str)
    (hp : ¬ HasKey asms (some sPrimary)) (hn : ¬ HasKey asms none) :
    nameAssemblies asms root v = .ok (asms.map (multiName root v)) :=
  nameAssemblies_multi asms root v hp hn

def sHap1 : Str := "Hap1".toList
def sHap2 : Str := "Hap2".toList
def multiDemo : List OutAsm :=
  [{ key := some sHap1, curated := true, scaffolds := [sc "S1"] },
   { key := some sHap2, curated := true, scaffolds := [sc "S2"] },
   { key := some sContaminant, curated := false, scaffolds := [sc "c1"] }]
example : ¬ HasKey multiDemo (some sPrimary) ∧ ¬ HasKey multiDemo none := by decide
example : (nameAssemblies multiDemo "xyz".toList "1".toList).map (·.map (fun n => (n.key, outputFileName n ".fa".toList, n.scaffolds.length))) =
    .ok [(some sHap1, "xyz.hap1.1.primary.curated.fa".toList, 1),
         (some sHap2, "xyz.hap2.1.primary.curated.fa".toList, 1),
         (some sContaminant, "xyz.1.contaminants.fa".toList, 1)] := by
  str_lits
  decide +kernel

/-! ## A2  `Primary` branch -/

/-- **A2** a `Primary` key present and no non-curated assembly keyed `None` (none exists: `None` is curated,
    `C09.assembly_key_primary`): never fails; first the assemblies that keep their own file, in order
    (`primaryName`), then — iff there is any other curated assembly — ONE merged assembly `all_haplotigs`. -/
theorem name_primary_branch (asms : List OutAsm) (root v : Str)
    (hp : HasKey asms (some sPrimary)) (hc : ∀ a ∈ asms, a.key = none → a.curated = true) :
    nameAssemblies asms root v = .ok (asms.filterMap (primaryName root v) ++ mergedPart root v asms) :=
  nameAssemblies_primary asms root v hp hc

/-- the merged assembly: all curated assemblies other than `Primary`, scaffolds concatenated in dict order -/
theorem merged_part_table (root v : Str) (asms : List OutAsm) :
    let os := asms.filter (fun a => a.key ≠ some sPrimary ∧ a.curated)
    (os = [] → mergedPart root v asms = []) ∧
    (os ≠ [] → mergedPart root v asms =
      [{ key := some "all_haplotigs".toList, name := root ++ '.' :: (v ++ ".all_haplotigs".toList), curated := true,
         scaffolds := os.flatMap (·.scaffolds) }]) := by
  intro os
  have : os = others asms := rfl
  rw [this]
  unfold mergedPart allHaplotigs
  str_lits
  constructor
  · intro h; rw [h]; rfl
  · intro h; rw [if_neg (by simpa using h)]; rfl

/-- no scaffold is lost or duplicated by the merge -/
theorem name_primary_branch_perm (asms : List OutAsm) (root v : Str)
    (hc : ∀ a ∈ asms, a.key = none → a.curated = true) :
    (allNamedScaffolds (asms.filterMap (primaryName root v) ++ mergedPart root v asms)).Perm (allScaffolds asms) :=
  primary_perm root v asms hc

/-- the branch fails exactly when a NON-curated assembly keyed `None` exists (`None.lower()`), with AttributeError -/
theorem name_primary_branch_fails_iff (asms : List OutAsm) (root v : Str) (hp : HasKey asms (some sPrimary)) (e : Err) :
    nameAssemblies asms root v = .error e ↔ e = .attribute ∧ ∃ a ∈ asms, a.key = none ∧ a.curated = false := by
  by_cases hc : ∃ a ∈ asms, a.key = none ∧ a.curated = false
  · rw [nameAssemblies_primary_fails asms root v hp hc]
    constructor
    · intro h; cases h; exact ⟨rfl, hc⟩
    · intro h; rw [h.1]
  · have hc' : ∀ a ∈ asms, a.key = none → a.curated = true := by
      intro a ha hk
      cases hcur : a.curated with
      | true => rfl
      | false => exact absurd ⟨a, ha, hk, hcur⟩ hc
    rw [nameAssemblies_primary asms root v hp hc']
    constructor
    · intro h; cases h
    · intro h; exact absurd h.2 hc

def primaryDemo : List OutAsm :=
  [{ key := some sPrimary, curated := true, scaffolds := [sc "S1"] },
   { key := some sHap2, curated := true, scaffolds := [sc "S2"] },
   { key := some sContaminant, curated := false, scaffolds := [sc "c1"] },
   { key := none, curated := true, scaffolds := [sc "u1"] }]
example : HasKey primaryDemo (some sPrimary) ∧ ∀ a ∈ primaryDemo, a.key = none → a.curated = true := by decide
example : (nameAssemblies primaryDemo "xyz".toList "1".toList).map (·.map (fun n => (n.key, outputFileName n ".fa".toList, n.scaffolds.map (·.name)))) =
    .ok [(some sPrimary, "xyz.1.primary.curated.fa".toList, ["S1".toList]),
         (some sContaminant, "xyz.1.contaminants.fa".toList, ["c1".toList]),
         (some "all_haplotigs".toList, "xyz.1.all_haplotigs.curated.fa".toList, ["S2".toList, "u1".toList])] := by
  str_lits
  decide +kernel
/-- nothing to merge: no `all_haplotigs` assembly -/
example : (nameAssemblies (primaryDemo.take 1) "xyz".toList "1".toList).map (·.map (·.key)) = .ok [some sPrimary] := by rfl
/-- the failing case -/
example : nameAssemblies [{ key := some sPrimary, curated := true, scaffolds := [] }, { key := none, curated := false, scaffolds := [] }]
    "xyz".toList "1".toList = .error .attribute := by rfl

/-! ## A4  conservation -/

/-- **A4a** in all branches: if `name_assemblies` returns, the scaffolds of the result are those of the input
    (as a multiset; in the two non-`Primary` branches even as a list). -/
theorem name_assemblies_conserves (asms : List OutAsm) (root v : Str) (l : List NamedAsm)
    (h : nameAssemblies asms root v = .ok l) :
    (allNamedScaffolds l).Perm (allScaffolds asms) ∧
    (¬ HasKey asms (some sPrimary) → allNamedScaffolds l = allScaffolds asms) := by
  rcases nameAssemblies_cases asms root v l h with ⟨hp, hc, rfl⟩ | ⟨_, _, rfl⟩ | ⟨_, hn, rfl⟩
  · exact ⟨primary_perm root v asms hc, fun h' => absurd hp h'⟩
  · have := flatMap_map_scaffolds (singleName root v) asms fun a _ => by rw [singleName_rec]
    exact ⟨by rw [this], fun _ => this⟩
  · have := flatMap_map_scaffolds (multiName root v) asms fun a ha => by
      obtain ⟨k, hk⟩ := key_some_of_not_none asms hn a ha
      rw [multiName_rec root v a k hk]
    exact ⟨by rw [this], fun _ => this⟩

/-- **A4b** where the content of each written assembly comes from, exactly:
    * a NON-curated output is one non-curated input assembly, key and scaffolds unchanged;
    * a curated output is (i) one curated input assembly (scaffolds unchanged), or
      (ii) in the `Primary` branch the merged `all_haplotigs` = all curated non-`Primary` input assemblies, or
      (iii) — the only place where tagged, non-curated material becomes "curated" — in the single-haplotype branch
      the `Haplotig` input assembly, renamed `additional_haplotigs`. -/
theorem name_assemblies_curated_origin (asms : List OutAsm) (root v : Str) (l : List NamedAsm)
    (h : nameAssemblies asms root v = .ok l) :
    ∀ n ∈ l,
      (n.curated = false → ∃ a ∈ asms, a.curated = false ∧ a.key = n.key ∧ n.scaffolds = a.scaffolds) ∧
      (n.curated = true →
        (∃ a ∈ asms, a.curated = true ∧ n.scaffolds = a.scaffolds) ∨
        (HasKey asms (some sPrimary) ∧ n.key = some "all_haplotigs".toList ∧
          n.scaffolds = (asms.filter (fun a => a.key ≠ some sPrimary ∧ a.curated)).flatMap (·.scaffolds)) ∨
        (¬ HasKey asms (some sPrimary) ∧ HasKey asms none ∧ n.key = some "additional_haplotigs".toList ∧
          ∃ a ∈ asms, a.key = some sHaplotig ∧ n.scaffolds = a.scaffolds)) := by
  intro n hn
  rcases nameAssemblies_cases asms root v l h with ⟨hp, hc, rfl⟩ | ⟨hp, hnk, rfl⟩ | ⟨hp, hnk, rfl⟩
  · rcases List.mem_append.1 hn with hn | hn
    · obtain ⟨a, ha, hna⟩ := List.mem_filterMap.1 hn
      obtain ⟨_, rfl⟩ := primaryName_some root v a n (hc a ha) hna
      exact ⟨fun hcur => ⟨a, ha, hcur, rfl, rfl⟩, fun hcur => .inl ⟨a, ha, hcur, rfl⟩⟩
    · obtain ⟨_, rfl⟩ := mem_mergedPart.1 hn
      exact ⟨fun h' => (by cases h'), fun _ => .inr (.inl ⟨hp, rfl, rfl⟩)⟩
  · obtain ⟨a, ha, rfl⟩ := List.mem_map.1 hn
    rw [singleName_rec]
    by_cases hk : a.key = some sHaplotig
    · simp only [hk, decide_true, Bool.true_or]
      exact ⟨fun h => (by cases h), fun _ => .inr (.inr ⟨hp, hnk, singleKey_haplotig, a, ha, hk, rfl⟩)⟩
    · simp only [hk, decide_false, Bool.false_or]
      exact ⟨fun h => ⟨a, ha, h, (if_neg hk).symm, rfl⟩, fun h => .inl ⟨a, ha, h, rfl⟩⟩
  · obtain ⟨a, ha, rfl⟩ := List.mem_map.1 hn
    obtain ⟨k, hk⟩ := key_some_of_not_none asms hnk a ha
    rw [multiName_rec root v a k hk]
    exact ⟨fun h => ⟨a, ha, h, rfl, rfl⟩, fun h => .inl ⟨a, ha, h, rfl⟩⟩

/-- scaffold-level corollary: a scaffold in a curated output assembly comes from a curated input assembly, EXCEPT
    the documented `Haplotig ↦ additional_haplotigs` of the single-haplotype branch. -/
theorem name_assemblies_no_tagged_in_curated (asms : List OutAsm) (root v : Str) (l : List NamedAsm)
    (h : nameAssemblies asms root v = .ok l) (n : NamedAsm) (hn : n ∈ l) (hcur : n.curated = true)
    (s : Scaffold) (hs : s ∈ n.scaffolds) :
    (∃ a ∈ asms, a.curated = true ∧ s ∈ a.scaffolds) ∨
    (¬ HasKey asms (some sPrimary) ∧ HasKey asms none ∧ n.key = some "additional_haplotigs".toList ∧
      ∃ a ∈ asms, a.key = some sHaplotig ∧ s ∈ a.scaffolds) := by
  rcases (name_assemblies_curated_origin asms root v l h n hn).2 hcur with ⟨a, ha, hc, e⟩ | ⟨_, _, e⟩ | ⟨h1, h2, h3, a, ha, hk, e⟩
  · exact .inl ⟨a, ha, hc, e ▸ hs⟩
  · rw [e] at hs
    obtain ⟨a, ha, hsa⟩ := List.mem_flatMap.1 hs
    obtain ⟨ha1, ha2⟩ := List.mem_filter.1 ha
    exact .inl ⟨a, ha1, by simpa using (of_decide_eq_true ha2).2, hsa⟩
  · exact .inr ⟨h1, h2, h3, a, ha, hk, e ▸ hs⟩

/-- **keys of the result** — the result is a `dict` in Python: with pairwise different input keys the output keys are
    pairwise different PROVIDED no input assembly is already keyed `additional_haplotigs` / `all_haplotigs`
    (the key the branch invents).  Otherwise the model's list has that key twice — the Python dict then silently keeps
    only one of the two assemblies (see the `example` below). -/
theorem name_assemblies_keys_distinct (asms : List OutAsm) (root v : Str) (l : List NamedAsm)
    (h : nameAssemblies asms root v = .ok l) (hd : (asms.map (·.key)).Pairwise (· ≠ ·))
    (h1 : ¬ HasKey asms (some "additional_haplotigs".toList)) (h2 : ¬ HasKey asms (some "all_haplotigs".toList)) :
    (l.map (·.key)).Pairwise (· ≠ ·) :=
  (named_keys_nodup_iff asms root v l hd h).2
    ⟨fun _ _ _ => h1, fun _ _ a ha hk => absurd ⟨a, ha, hk⟩ h2⟩

/-- the side condition is needed: a haplotype/tag literally named `additional_haplotigs` next to `Haplotig`
    gives two assemblies with the same key (in Python the second assignment to `ret_asm[new_key]` replaces the first) -/
example : (nameAssemblies
      [{ key := none, curated := true, scaffolds := [sc "S1"] },
       { key := some "additional_haplotigs".toList, curated := true, scaffolds := [sc "x"] },
       { key := some sHaplotig, curated := false, scaffolds := [sc "H_1"] }] "xyz".toList "1".toList).map (·.map (·.key)) =
    .ok [none, some "additional_haplotigs".toList, some "additional_haplotigs".toList] := by
  str_lits
  decide +kernel

example : (singleDemo.map (·.key)).Pairwise (· ≠ ·) ∧ ¬ HasKey singleDemo (some "additional_haplotigs".toList) ∧
    ¬ HasKey singleDemo (some "all_haplotigs".toList) := by
  str_lits
  decide +kernel

end AgpTpf.C09
