/-
  C02, first clause, LAST STAGE — `remap` RETURNS for every well-formed PretextView script.

  `C02NoError.lean` (N2): `remap_to_input_assembly` never raises on a well-formed script.  Here: the FORWARD lemmas for
  `assemblies_with_scaffolds_fused`, and the composition of the two.

  Python: `BuildAssembly.assemblies_with_scaffolds_fused`, `scaffolds_fused_by_name` (build_assembly.py),
  `ChrNamer.build_groups / check_groups / name_chromosomes` (build_utils.py), `Assembly.smart_sort_scaffolds`
  (assembly.py), `AssemblyStats.make_stats`, `Scaffold.fragment_junction_set`, `Fragment.junction_tuple` (assembly_stats.py,
  scaffold.py, fragment.py), `ScaffoldNamer.make_scaffold_name / label_scaffold`.
  Helpers: `Proofs/C02RTail` (on the closed form of `assemblies_with_scaffolds_fused`, `Proofs/Remap/Phase2`: when the statistics
  exist; `haplotypes_seen` under one `ChrNamer` key), `C02RMain` (T3: strands), `C02RLabel` (label fields of the
  stored results of a map of untagged / `Painted` scaffolds), `C02RMain` (labels of fused scaffolds; scripts).

  `assemblies_with_scaffolds_fused` can raise only at (1) `build_groups` (an `original_name` missing), (2) `check_groups`
  (`ChrNamerError`), (3) `length_of_first_haplotype` (same shapes as 2), (4) `smart_sort_scaffolds` (total: C20),
  (5) `make_stats` (a strand ∉ {1, −1} next to another fragment).

  PROVED, all at full strength for the stated hypotheses (no `_partial` theorem in this file):

    T1  `assemblies_fused_returns_unranked`          ANY build: no fused scaffold of rank 1 (so `haplotypes_seen = []`,
                                                     `ChrNamer` is skipped) and all strands of fused and input fragments ±1
                                                     ⇒ `assemblies_with_scaffolds_fused` returns.
    T2  `assemblies_fused_returns_single_haplotype`  ANY build: all rank-1 fused scaffolds have ONE `ChrNamer` key
                                                     `pyStrOpt (routeKey tag haplotype)` and a non-empty `original_name`
                                                     (T1 is the case "no rank-1 scaffold"), strands ±1 ⇒ it returns.
        `assemblies_fused_missing_original_name_raises`   the hypothesis on `original_name` is necessary: one haplotype
                                                     key and a rank-1 scaffold without `original_name` ⇒ `ValueError`.
    T3  `fused_fragment_origin`                      ANY build: a fragment row of a fused scaffold is a row of
                                                     `to_scaffold()` of an added, non-empty stored result or of a left-over;
        `fused_fragments_strands`                    the build of `remap_to_input_assembly` on a well-formed input: every
                                                     fragment of every fused scaffold lies inside an input fragment of
                                                     the same contig, with that fragment's strand or its negation —
                                                     hence strand ±1 when the input has.
    L   `stored_result_labels`                       ANY map whose Pretext scaffolds carry no tag, or just `Painted`
                                                     (`plainScaffold_iff`): every stored result is untagged and has a
                                                     non-empty `original_name`; rank 3 if no scaffold is painted;
                                                     haplotype `h0` if every first row names a scaffold whose name
                                                     yields `h0` (`none`: no haplotype shape).
    T4  **`script_remap_ok`**                        `wfScript`, the input hypotheses of N2, join gap configured, and
                                                     EITHER no group painted OR no input scaffold NAME of the shape
                                                     `<hap>_…_<digits>` (then painted, unpainted and MIXED maps: T5 is
                                                     included) ⇒ `remap input (ptxOf input s) prefix (some jg) errLen`
                                                     returns.
    T4' `script_remap_ok_uniform`                    more generally: … OR all input scaffold names yield ONE haplotype
                                                     `h0` (`hapPrefixOfName sc.name = h0` for all; `h0 = none` is T4,
                                                     `h0 = some "HAP1"` a single named haplotype) — sharp: one name with
                                                     and two without haplotype shape can raise
                                                     (`painted_none_none_hap_raises`).
        `tiling_remap_ok`                            the same for ANY tiling map of plain scaffolds (not only scripts).
    D   `script_ptx_disjoint`                        the pieces of a well-formed script are pairwise disjoint.
    C   **`script_c02`**                             the first clause of C02 with hypotheses on input and script only
                                                     (those of T4'):
                                                     `remap` completes, AND K2 (`remap_keeps_core`), K3
                                                     (`remap_core_in_one_scaffold`), O2 (`remap_pretext_order`), K4
                                                     (`deep_cut_exact_any_map`) hold of its result.

  FINDINGS.  No statement was found false of the model.
    F1  The hypothesis of the painted case is about input SCAFFOLD names only.  Left-over scaffolds take their haplotype
        from the first CONTIG name (`make_scaffold_name` on the left-over's rows: `first_row.name` is a contig there), so
        a haplotype-shaped contig name sends a left-over to another assembly — but left-overs have rank 3 and never reach
        `ChrNamer`, so this cannot make `remap` raise (checked on the real code: 6 000 random scripts, mixed painting,
        haplotype-shaped contig names, 0 errors).
    F1' A map mixing scaffold names with and without the haplotype shape is rejected by `check_groups` just like two
        haplotypes are (haplotype keys `None`, `None`, `B`): `painted_none_none_hap_raises`; by design — the real code
        raises `ChrNamerError` on that very input, and on 41 of about 1 300 random painted scripts over such inputs; none
        over inputs whose names all carry one haplotype.  (On the real code this also holds when the spellings differ
        in case only — `HAP1`, `Hap1`: the namer registers the first spelling; T4' is proved for equal spellings.)
    F2  Unpainted maps never raise whatever the names (rank 3 everywhere: `ChrNamer` is not entered), e.g. the input of
        `painted_two_haplotypes_raises` with the paint removed: `unpainted_two_haplotypes_returns`.
-/
import AgpTpf.Proofs.C02RMain
import AgpTpf.Properties.C02NoError
import AgpTpf.Properties.C02Order
import AgpTpf.Properties.C10
namespace AgpTpf.C02
open AgpTpf AgpTpf.Pretext OverlapResult
open AgpTpf.C01 (WFInput inputFrags)
open AgpTpf.C09 (routeKey)

/-! ## T1, T2 — any build -/

/-- **T2.**  If all fused scaffolds of rank 1 — the ones handed to `ChrNamer` — have the same key
    `h = str(tag or haplotype or None)` and each has a non-empty `original_name`, and every fragment of every fused
    scaffold and of the input has strand ±1, then `assemblies_with_scaffolds_fused` returns. -/
theorem assemblies_fused_returns_single_haplotype (input : List Scaffold) (b : Build) (h : Str)
    (hk : ∀ s ∈ fuseByName b, s.rank = 1 →
      pyStrOpt (routeKey s.tag s.haplotype) = h ∧ truthy s.originalName = true)
    (hfs : ∀ s ∈ fuseByName b, ∀ f ∈ s.fragments, f.strand = 1 ∨ f.strand = -1)
    (hin : ∀ sc ∈ input, ∀ f ∈ sc.fragments, f.strand = 1 ∨ f.strand = -1) :
    ∃ outs stats, assembliesFused input b = .ok (outs, stats) :=
  C02R.assembliesFused_ok_single input b h hk
    (fun s hs f hf => hfs s hs f (Scaffold.mem_fragments.2 hf))
    (fun sc hsc f hf => hin sc hsc f (Scaffold.mem_fragments.2 hf))

/-- **T1.**  No fused scaffold of rank 1, all strands ±1 ⇒ `assemblies_with_scaffolds_fused` returns. -/
theorem assemblies_fused_returns_unranked (input : List Scaffold) (b : Build)
    (hrank : ∀ s ∈ fuseByName b, s.rank ≠ 1)
    (hfs : ∀ s ∈ fuseByName b, ∀ f ∈ s.fragments, f.strand = 1 ∨ f.strand = -1)
    (hin : ∀ sc ∈ input, ∀ f ∈ sc.fragments, f.strand = 1 ∨ f.strand = -1) :
    ∃ outs stats, assembliesFused input b = .ok (outs, stats) :=
  assemblies_fused_returns_single_haplotype input b [] (fun s hs hr => absurd hr (hrank s hs)) hfs hin

/-- `routeKey` (C09) is the key the split loop computes: the tag if truthy, else the haplotype if truthy, else `None` -/
theorem routeKey_def (tag hap : Option Str) :
    routeKey tag hap = if truthy tag then tag else if truthy hap then hap else none := rfl

/-- the hypothesis on `original_name` cannot be dropped: with one haplotype key, a rank-1 fused scaffold without
    `original_name` makes `build_groups` raise `ValueError` -/
theorem assemblies_fused_missing_original_name_raises (input : List Scaffold) (b : Build) (h : Str)
    (hk : ∀ s ∈ fuseByName b, s.rank = 1 → pyStrOpt (routeKey s.tag s.haplotype) = h)
    (hbad : ∃ s ∈ fuseByName b, s.rank = 1 ∧ truthy s.originalName = false) :
    assembliesFused input b = .error .value := by
  rw [C09.assembliesFused_eq', C09.splitLoop_eq]
  generalize fuseByName b = fs at hk hbad
  generalize b.namer.autosomePrefix = p
  obtain ⟨s, hs, hr, hbad⟩ := hbad
  obtain ⟨j, hj, rfl⟩ := List.mem_iff_getElem.1 hs
  have hmem : (h, j) ∈ (List.range fs.length).filterMap fun j => C09.entryOf (fs.getD j default) j :=
    List.mem_filterMap.2 ⟨j, List.mem_range.2 hj, by
      rw [List.getD_eq_getElem?_getD, List.getElem?_eq_getElem hj]
      show C09.entryOf fs[j] j = _
      unfold C09.entryOf; rw [if_pos hr, C09.asmKey_fst, hk _ hs hr]⟩
  have hne := List.ne_nil_of_mem ((mem_foldl_sAdd (s := [])).2 (.inr (List.mem_map_of_mem (f := (·.1)) hmem)))
  unfold C09.nameChromosomes
  rw [if_neg (mt List.isEmpty_iff.1 hne), (C10.buildGroups_any _ _ _).2
    ⟨(h, j), hmem, by rw [C02R.pfx_getD_originalName p fs hj]; exact hbad⟩]
  rfl

/-! ### T1 / T2, non-vacuity: C02Order's build (two scaffolds of rank 3) and a painted variant (rank 1, key "None") -/

private def rjg : Gap := { length := 200, gapType := "scaffold".toList }
private def rfa : Fragment := { oid := 1, name := ['a'], start := 1, stop := 10, strand := 1 }
private def rfb : Fragment := { oid := 2, name := ['b'], start := 1, stop := 20, strand := -1 }
private def rfc : Fragment := { oid := 3, name := ['c'], start := 1, stop := 5, strand := 1 }
private def rbx (rank : Int) (orig : Bool) : Build :=
  { namer := { autosomePrefix := "SUPER_".toList }, nextOid := 5, joinGap := some rjg, err := 1,
    store := [ { o := { bait := { rfa with strand := -1 }, start := 1, stop := 10, rows := [.frag rfa], name := ['S'],
                        rank := rank, originalName := if orig then some ['S'] else none }, added := true },
               { o := { bait := rfb, start := 1, stop := 20, rows := [.frag rfb], name := ['T'],
                        rank := rank, originalName := if orig then some ['T'] else none }, added := true } ],
    extra := [ ({ name := ['S'], rows := [.frag rfc], rank := 3 }, none) ] }
private def rinp : List Scaffold := [{ name := ['i'], rows := [.frag rfa, .gap rjg, .frag rfb, .frag rfc] }]

example : ∃ outs stats, assembliesFused rinp (rbx 3 false) = .ok (outs, stats) :=
  assemblies_fused_returns_unranked rinp (rbx 3 false) (by decide +kernel) (by decide +kernel) (by decide +kernel)
example : ∃ outs stats, assembliesFused rinp (rbx 1 true) = .ok (outs, stats) :=
  assemblies_fused_returns_single_haplotype rinp (rbx 1 true) sNone (by decide +kernel) (by decide +kernel) (by decide +kernel)
/-- … and the kernel's view of the second one: the two painted scaffolds are numbered by size (`T`, 20 bp, before `S`,
    15 bp with its left-over) -/
example : (assembliesFused rinp (rbx 1 true)).toOption.map
      (fun r => r.1.map (fun a => (a.key, a.scaffolds.map (·.name)))) =
    some [(none, ["SUPER_1".toList, "SUPER_2".toList])] := by decide +kernel
example : assembliesFused rinp (rbx 1 false) = .error .value :=
  assemblies_fused_missing_original_name_raises rinp (rbx 1 false) sNone (by decide +kernel) (by decide +kernel)

/-! ## T3 — the fragments of the fused scaffolds -/

/-- **T3, structural (ANY build).**  A fragment row of a fused scaffold is a row of `to_scaffold()` of an added,
    non-empty stored result, or a row of a left-over scaffold (separators are gap rows). -/
theorem fused_fragment_origin (b : Build) : ∀ s ∈ fuseByName b, ∀ f, Row.frag f ∈ s.rows →
    (∃ r ∈ b.store, r.added = true ∧ r.o.rows ≠ [] ∧ Row.frag f ∈ r.o.toScaffoldRows) ∨
    (∃ e ∈ b.extra, Row.frag f ∈ e.1.rows) :=
  C02R.fused_fragment_origin b

theorem to_scaffold_fragment (o : OverlapResult) (f : Fragment) (h : Row.frag f ∈ o.toScaffoldRows) :
    Row.frag f ∈ o.rows ∨ ∃ g, Row.frag g ∈ o.rows ∧ f = g.reverse := by
  rcases mem_toScaffoldRows h with h | ⟨y, hy, e⟩
  · exact .inl h
  · cases y with
    | gap g => cases e
    | frag g => exact .inr ⟨g, hy, Row.frag.inj e⟩

/-- **T3.**  `input` well-formed, `b` the build `remap_to_input_assembly` returned (ANY map).  Every fragment `f` of every
    fused scaffold lies inside an input fragment `F` of the same contig and has `F`'s strand or its negation (rows of
    results are source rows, terminal ones re-created by `trim_fragment` with the same strand; `to_scaffold` negates the
    strands of a minus piece); hence strand ±1 when the input has. -/
theorem fused_fragments_strands (input ptx : List Scaffold) (prefix_ : Str) (joinGap : Option Gap) (err : Int) (b : Build)
    (hwf : WFInput input) (h : remapToInput input ptx prefix_ joinGap err = .ok b) :
    (∀ s ∈ fuseByName b, ∀ f ∈ s.fragments, ∃ F ∈ inputFrags input, f.name = F.name ∧ F.start ≤ f.start ∧
      f.stop ≤ F.stop ∧ f.start ≤ f.stop ∧ (f.strand = F.strand ∨ f.strand = -1 * F.strand)) ∧
    ((∀ f ∈ inputFrags input, f.strand = 1 ∨ f.strand = -1) →
      ∀ s ∈ fuseByName b, ∀ f ∈ s.fragments, f.strand = 1 ∨ f.strand = -1) := by
  have key := C02R.fused_fromInput input ptx prefix_ joinGap err b hwf h
  refine ⟨fun s hs f hf => key s hs f (Scaffold.mem_fragments.1 hf), ?_⟩
  intro hstr s hs f hf
  exact C02R.strOK_of_fromInput input s.rows hstr (key s hs) f (Scaffold.mem_fragments.1 hf)

/-! ## L — the labels of the stored results -/

/-- `C02R.ScOK unp hp S` (`Proofs/C02RLabel.lean`): a Pretext scaffold with a name, whose tag set is empty or
    `{Painted}` (empty when `unp`), whose fragments carry no tag or just `Painted`, and whose first row is a fragment —
    naming, when `hp = some h0`, something whose name yields the haplotype `h0` (`h0 = none`: not of the haplotype shape
    `<hap>_…_<digits>`) -/
theorem plainScaffold_iff (unp : Bool) (hp : Option (Option Str)) (S : Scaffold) :
    C02R.ScOK unp hp S ↔
      S.name ≠ [] ∧ (S.fragmentTags = [] ∨ S.fragmentTags = [sPainted]) ∧ (unp = true → S.fragmentTags = []) ∧
      (∀ p ∈ S.fragments, p.tags = [] ∨ p.tags = [sPainted]) ∧
      ∃ nm, firstRowName S.rows = .ok nm ∧ (∀ h0, hp = some h0 → hapPrefixOfName nm = h0) :=
  ⟨fun h => ⟨h.name, h.stags, h.unp, h.ptags, h.first⟩, fun ⟨a, b, c, d, e⟩ => ⟨a, b, c, d, e⟩⟩

/-- **L.**  ANY map of plain scaffolds for which `remap_to_input_assembly` returns `b`: every stored result has no tag
    and a non-empty `original_name`; its rank is 3 when no scaffold is painted (`unp`); its haplotype is `h0` when every
    first row's name yields `h0` (`hp = some h0`). -/
theorem stored_result_labels (unp : Bool) (hp : Option (Option Str)) (input ptx : List Scaffold) (prefix_ : Str)
    (joinGap : Option Gap) (err : Int) (b : Build) (hsc : ∀ S ∈ ptx, C02R.ScOK unp hp S)
    (h : remapToInput input ptx prefix_ joinGap err = .ok b) :
    ∀ r ∈ b.store, r.o.tag = none ∧ truthy r.o.originalName = true ∧ (unp = true → r.o.rank = 3) ∧
      (∀ h0, hp = some h0 → r.o.haplotype = h0) :=
  fun r hr => (C02R.labOK_iff unp hp r).1 (C02R.remapToInput_labOK unp hp input ptx prefix_ joinGap err b hsc h r hr)

/-! ## T4 — `remap` returns -/

/-- **T4 for any tiling map of plain scaffolds** (hypotheses of N2g `remap_to_input_ok_for_tiling`, plus: every Pretext
    scaffold is plain, and either none is painted or all first rows name scaffolds of one haplotype `h0`). -/
theorem tiling_remap_ok (input ptx : List Scaffold) (prefix_ : Str) (jg : Gap) (err : Int)
    (hwf : WFInput input) (hnn : InputNonNeg input) (hstr : ∀ f ∈ inputFrags input, f.strand = 1 ∨ f.strand = -1)
    (hrows : ∀ sc ∈ input, sc.rows ≠ []) (hut : ∀ sc ∈ input, ∀ f ∈ sc.fragments, f.tags = [])
    (herr : 0 ≤ err) (hT : Tiling err ptx) (hp : ∀ S ∈ ptx, PtxScafOk input S)
    (unp : Bool) (hap : Option (Option Str)) (hmode : unp = true ∨ ∃ h0, hap = some h0)
    (hplain : ∀ S ∈ ptx, C02R.ScOK unp hap S) :
    ∃ outs stats, remap input ptx prefix_ (some jg) err = .ok (outs, stats) := by
  obtain ⟨b, hb⟩ := remap_to_input_ok_for_tiling input ptx prefix_ jg err hwf hnn hstr hrows hut herr hT hp
  obtain ⟨outs, stats, hres⟩ := C02R.assembliesFused_ok_of_remapToInput input ptx prefix_ (some jg) err b unp hap hmode
    hwf hstr hplain hb
  exact ⟨outs, stats, Pipeline.remap_ok_iff.2 ⟨b, hb, hres⟩⟩

/-- **T4' — `remap` returns for every well-formed script, one haplotype.**  As T4 below, with the second alternative
    generalised: ALL input scaffold names yield the same haplotype `h0` (`hapPrefixOfName sc.name = h0`: all without the
    shape `<hap>_…_<digits>`, or all with the same `<hap>`). -/
theorem script_remap_ok_uniform {input : List Scaffold} {s : Script} (hw : wfScript input s = true)
    (hwf : WFInput input) (hnn : InputNonNeg input) (hstr : ∀ f ∈ inputFrags input, f.strand = 1 ∨ f.strand = -1)
    (hrows : ∀ sc ∈ input, sc.rows ≠ []) (hut : ∀ sc ∈ input, ∀ f ∈ sc.fragments, f.tags = [])
    (hmode : (∀ g ∈ s.groups, g.painted = false) ∨ ∃ h0, ∀ sc ∈ input, hapPrefixOfName sc.name = h0)
    (prefix_ : Str) (jg : Gap) :
    ∃ outs stats, remap input (ptxOf input s) prefix_ (some jg) (errLen s.p s.q : Int) = .ok (outs, stats) := by
  have hW := wfScript_spec hw
  rcases hmode with hu | ⟨h0, hn⟩
  · exact tiling_remap_ok input _ prefix_ jg _ hwf hnn hstr hrows hut (by omega) (script_map_is_tiling hw hwf.1)
      (script_ptx_ok hW) true none (Or.inl rfl)
      (C02R.script_scOK hW true none (fun _ => hu) (fun _ h => by cases h))
  · exact tiling_remap_ok input _ prefix_ jg _ hwf hnn hstr hrows hut (by omega) (script_map_is_tiling hw hwf.1)
      (script_ptx_ok hW) false (some h0) (Or.inr ⟨h0, rfl⟩)
      (C02R.script_scOK hW false (some h0) (fun h => by cases h) (fun h1 e => by cases e; exact hn))

/-- **T4 — for every well-formed PretextView script `remap` RETURNS.**  `wfScript input s`; the input hypotheses of N2
    (`WFInput`, no gap of negative length, contigs forward or reverse, every scaffold has a row, contigs untagged); a join
    gap; and EITHER no group of the script is painted, OR no input scaffold name has the haplotype shape
    `<hap>_…_<digits>` (`hapPrefixOfName = none`: a single, empty haplotype) — then groups may be painted, unpainted, or
    mixed (T5).  Any texel size, any cuts, any order / orientation / grouping of the pieces. -/
theorem script_remap_ok {input : List Scaffold} {s : Script} (hw : wfScript input s = true)
    (hwf : WFInput input) (hnn : InputNonNeg input) (hstr : ∀ f ∈ inputFrags input, f.strand = 1 ∨ f.strand = -1)
    (hrows : ∀ sc ∈ input, sc.rows ≠ []) (hut : ∀ sc ∈ input, ∀ f ∈ sc.fragments, f.tags = [])
    (hmode : (∀ g ∈ s.groups, g.painted = false) ∨ (∀ sc ∈ input, hapPrefixOfName sc.name = none))
    (prefix_ : Str) (jg : Gap) :
    ∃ outs stats, remap input (ptxOf input s) prefix_ (some jg) (errLen s.p s.q : Int) = .ok (outs, stats) :=
  script_remap_ok_uniform hw hwf hnn hstr hrows hut (hmode.imp id (fun h => ⟨none, h⟩)) prefix_ jg

/-! ## D — the pieces of a script are disjoint -/

/-- **D.**  The pieces of a well-formed script over an input with pairwise different scaffold names are pairwise
    disjoint (the `disjoint` clause of `script_map_is_tiling`, itself from `spansFrom_pairwise`). -/
theorem script_ptx_disjoint {input : List Scaffold} {s : Script} (hw : wfScript input s = true)
    (hn : (input.map (·.name)).Nodup) : PtxDisjoint (ptxOf input s) :=
  (script_map_is_tiling hw hn).disjoint

/-! ## C — the first clause of C02, hypotheses on the input and the script only -/

/-- **C02, first clause.**  For every well-formed script `s` over a well-formed input (hypotheses of T4'), with
    `ptx = ptxOf input s` and `err = errLen s.p s.q = 1 + ⌊bp per texel⌋`:
    `remap` COMPLETES with some `(outs, stats)`, `remap_to_input_assembly` having returned `b`, and
    * K2 (`remap_keeps_core`): the `sid`-th stored result belongs to the `sid`-th piece; it satisfies `KInv` (a contiguous
      run of the input scaffold's rows, only terminal fragments shortened, ends on a row boundary or at the bait
      coordinate); every contig base in the core `[start + 3·err, stop − 3·err]` of the piece is inside the result, and
      every contig row with a base in the core is still a row of it (`RowKept`);
    * K3 (`remap_core_in_one_scaffold`): a piece whose core holds a contig base is written as ONE contiguous block of rows
      of ONE scaffold of the output assembly `routeKey tag haplotype`, oriented by the piece's strand, and no other place
      of the output holds sequence of it;
    * O2 (`remap_pretext_order`): output keys are pairwise different, and two pieces `i < j` (Pretext order) with the same
      destination key lie in one output scaffold, all rows of `i` before all rows of `j`;
    * K4 (`deep_cut_exact_any_map`): a cut deeper than `3·err` inside a contig, between two pieces of at least `err`
      bases, splits the contig exactly at the designated coordinate. -/
theorem script_c02 {input : List Scaffold} {s : Script} (hw : wfScript input s = true)
    (hwf : WFInput input) (hnn : InputNonNeg input) (hstr : ∀ f ∈ inputFrags input, f.strand = 1 ∨ f.strand = -1)
    (hrows : ∀ sc ∈ input, sc.rows ≠ []) (hut : ∀ sc ∈ input, ∀ f ∈ sc.fragments, f.tags = [])
    (hmode : (∀ g ∈ s.groups, g.painted = false) ∨ ∃ h0, ∀ sc ∈ input, hapPrefixOfName sc.name = h0)
    (prefix_ : Str) (jg : Gap) :
    ∃ outs stats b,
      remap input (ptxOf input s) prefix_ (some jg) (errLen s.p s.q : Int) = .ok (outs, stats) ∧
      remapToInput input (ptxOf input s) prefix_ (some jg) (errLen s.p s.q : Int) = .ok b ∧
      -- K2
      (b.store.length = (C09.pieces input false (ptxOf input s)).length ∧
       ∀ (sid : Nat) (c : Bool × Scaffold × Fragment), (C09.pieces input false (ptxOf input s))[sid]? = some c →
        ∃ r sc o0, b.store[sid]? = some r ∧ r.o.bait = c.2.2 ∧
          sc ∈ input ∧ sc.name = c.2.2.name ∧ findOverlaps sc.rows c.2.2 = .ok (some o0) ∧
          KInv sc.rows (3 * (errLen s.p s.q : Int)) o0.start o0.stop c.2.2 r.o ∧
          (∀ x, ContigAt sc.rows x → c.2.2.start + 3 * (errLen s.p s.q : Int) ≤ x →
            x ≤ c.2.2.stop - 3 * (errLen s.p s.q : Int) → r.o.start ≤ x ∧ x ≤ r.o.stop) ∧
          (∀ (X Y : List Row) (f : Fragment) (x : Int), sc.rows = X ++ .frag f :: Y →
            rowsLength X < x → x ≤ rowsLength X + f.length → c.2.2.start + 3 * (errLen s.p s.q : Int) ≤ x →
            x ≤ c.2.2.stop - 3 * (errLen s.p s.q : Int) →
            ∃ L row R dl dr, RowKept r.o f (rowsLength X) L row R dl dr)) ∧
      -- K3
      (∀ (sid : Nat) (c : Bool × Scaffold × Fragment), (C09.pieces input false (ptxOf input s))[sid]? = some c →
        ∃ r sc, b.store[sid]? = some r ∧ r.o.bait = c.2.2 ∧ sc ∈ input ∧ sc.name = c.2.2.name ∧
          ∀ x, ContigAt sc.rows x → c.2.2.start + 3 * (errLen s.p s.q : Int) ≤ x →
            x ≤ c.2.2.stop - 3 * (errLen s.p s.q : Int) →
            r.o.rows ≠ [] ∧ r.added = true ∧
            ∃ a ∈ outs, a.key = routeKey r.o.tag r.o.haplotype ∧
              ∃ sf ∈ a.scaffolds, sf.tag = r.o.tag ∧ sf.haplotype = r.o.haplotype ∧ r.o.toScaffoldRows <:+: sf.rows ∧
                ((c.2.2.strand = 1 ∨ c.2.2.strand = -1) →
                  r.o.toScaffoldRows =
                    (if c.2.2.strand = -1 then r.o.rows.reverse else r.o.rows).map (orientRow c.2.2.strand)) ∧
                (∀ a' ∈ outs, ∀ s' ∈ a'.scaffolds, ∀ g f', Row.frag g ∈ r.o.toScaffoldRows → Row.frag f' ∈ s'.rows →
                  f'.name = g.name → (∃ y, g.start ≤ y ∧ y ≤ g.stop ∧ f'.start ≤ y ∧ y ≤ f'.stop) →
                  a' = a ∧ s' = sf)) ∧
      -- O2
      ((outs.map (·.key)).Nodup ∧
       ∀ (i j : Nat) (ri rj : Res), i < j → b.store[i]? = some ri → b.store[j]? = some rj →
        ri.added = true → ri.o.rows ≠ [] → rj.added = true → rj.o.rows ≠ [] →
        (ri.o.tag, ri.o.haplotype, ri.o.name) = (rj.o.tag, rj.o.haplotype, rj.o.name) →
        ∃ s0 ∈ fuseByName b, C09.triple s0 = (ri.o.tag, ri.o.haplotype, ri.o.name) ∧
          (∀ s1 ∈ fuseByName b, C09.triple s1 = (ri.o.tag, ri.o.haplotype, ri.o.name) → s1 = s0) ∧
          ∃ a ∈ outs, a.key = routeKey ri.o.tag ri.o.haplotype ∧
            ∃ sf ∈ a.scaffolds, C09.noName sf = C09.noName s0 ∧ sf.tag = ri.o.tag ∧ sf.haplotype = ri.o.haplotype ∧
              ∃ A B C, sf.rows = A ++ ri.o.toScaffoldRows ++ B ++ rj.o.toScaffoldRows ++ C) ∧
      -- K4
      (∀ (i j : Nat) (r1 r2 : Res) (c : Int) (sc : Scaffold) (X Y : List Row) (f : Fragment),
        i ≠ j → b.store[i]? = some r1 → b.store[j]? = some r2 → r1.o.bait.stop = c → r2.o.bait.start = c + 1 →
        sc ∈ input → sc.name = r1.o.bait.name → sc.name = r2.o.bait.name → sc.rows = X ++ .frag f :: Y →
        rowsLength X + 1 + 3 * (errLen s.p s.q : Int) < c → c < rowsLength X + f.length - 3 * (errLen s.p s.q : Int) →
        r1.o.bait.start ≤ c → r1.o.bait.start + (errLen s.p s.q : Int) ≤ c + 1 → c + 1 ≤ r2.o.bait.stop →
        c + (errLen s.p s.q : Int) ≤ r2.o.bait.stop →
        ∃ L g1 g2 R, r1.o.rows = L ++ [.frag g1] ∧ r2.o.rows = .frag g2 :: R ∧ r1.o.stop = c ∧ r2.o.start = c + 1 ∧
          g1.name = f.name ∧ g2.name = f.name ∧ g1.strand = f.strand ∧ g2.strand = f.strand ∧
          (if f.strand = 1 then g1.stop = f.stop - (rowsLength X + f.length - c) ∧ g2.start = g1.stop + 1
           else g1.start = f.start + (rowsLength X + f.length - c) ∧ g2.stop + 1 = g1.start)) := by
  obtain ⟨outs, stats, hres⟩ := script_remap_ok_uniform hw hwf hnn hstr hrows hut hmode prefix_ jg
  have hdis := script_ptx_disjoint hw hwf.1
  have herr : (0 : Int) ≤ (errLen s.p s.q : Int) := by omega
  obtain ⟨b, hb, _⟩ := Pipeline.remap_ok_iff.1 hres
  refine ⟨outs, stats, b, hres, hb, ?_, ?_, ?_, ?_⟩
  · exact remap_keeps_core input _ prefix_ (some jg) _ b hwf hnn hdis herr hb
  · obtain ⟨b', hb', h3⟩ := remap_core_in_one_scaffold input _ prefix_ (some jg) _ outs stats hwf hnn hdis herr hres
    have e : b' = b := Except.ok.inj (hb'.symm.trans hb)
    subst e
    exact h3
  · obtain ⟨b', hb', hnd, hord⟩ := remap_pretext_order input _ prefix_ (some jg) _ outs stats hres
    have e : b' = b := Except.ok.inj (hb'.symm.trans hb)
    subst e
    exact ⟨hnd, hord⟩
  · intro i j r1 r2 c sc X Y f hne hi hj hc1 hc2 hsc hn1 hn2 hs hd1 hd2 hp1 hl1 hp2 hl2
    exact deep_cut_exact_any_map input _ prefix_ (some jg) _ b hwf hnn hdis herr hb hne hi hj hc1 hc2 hsc hn1 hn2 hs
      hd1 hd2 hp1 hl1 hp2 hl2

/-! ## non-vacuity: the 170 bp example of `C02NoError.lean`, unpainted / painted / mixed -/

private def g10 : Gap := { length := 10, gapType := "scaffold".toList }
private def jg : Gap := { length := 200, gapType := "scaffold".toList }
private def f1 : Fragment := { oid := 1, name := "ctgF".toList, start := 1, stop := 100, strand := 1 }
private def f2 : Fragment := { oid := 2, name := "ctgG".toList, start := 1, stop := 60, strand := -1 }
/-- 170 bp: F 1-100 (forward), gap, G 111-170 (reverse) -/
private def sN : Scaffold := { name := "scaffold_1".toList, rows := [.frag f1, .gap g10, .frag f2] }
/-- texel 8 bp (`errLen = 9`), 21 texels, cut after texels 3, 6, 17: pieces `[1,24]`, `[25,48]`, `[49,136]`, `[137,168]`;
    shuffled, two reversed, regrouped into two Pretext scaffolds; `pa`, `pb` = the groups are painted -/
private def scr (pa pb : Bool) : Script :=
  { p := 8, q := 1, scafs := [{ T := 21, cuts := [3, 6, 17] }],
    groups := [{ items := [{ sc := 0, k := 2, minus := true }, { sc := 0, k := 0 }], painted := pa },
               { items := [{ sc := 0, k := 3 }, { sc := 0, k := 1, minus := true }], painted := pb }] }

open scoped AgpTpf.ImpEval

private def sNC : Decoded sN := ⟨_, by unfold sN f1 f2 g10; str_lits; exact rfl⟩

private theorem scr_wf : ∀ pa pb, wfScript [sN] (scr pa pb) = true := by decide +kernel

private theorem sN_hyps : WFInput [sN] ∧ InputNonNeg [sN] ∧ (∀ f ∈ inputFrags [sN], f.strand = 1 ∨ f.strand = -1) ∧
    (∀ sc ∈ [sN], sc.rows ≠ []) ∧ (∀ sc ∈ [sN], ∀ f ∈ sc.fragments, f.tags = []) ∧
    (∀ sc ∈ [sN], hapPrefixOfName sc.name = none) := by decide +kernel

example : ∀ pa pb, wfScript [sN] (scr pa pb) = true := scr_wf
example : WFInput [sN] ∧ InputNonNeg [sN] ∧ (∀ f ∈ inputFrags [sN], f.strand = 1 ∨ f.strand = -1) ∧
    (∀ sc ∈ [sN], sc.rows ≠ []) ∧ (∀ sc ∈ [sN], ∀ f ∈ sc.fragments, f.tags = []) ∧
    (∀ sc ∈ [sN], hapPrefixOfName sc.name = none) := sN_hyps

/-- T4 instantiated, unpainted: first alternative of `hmode` -/
example : ∃ outs stats, remap [sN] (ptxOf [sN] (scr false false)) "SUPER_".toList (some jg)
    (errLen (scr false false).p (scr false false).q : Int) = .ok (outs, stats) :=
  script_remap_ok (s := scr false false) (scr_wf _ _) sN_hyps.1 sN_hyps.2.1 sN_hyps.2.2.1 sN_hyps.2.2.2.1 sN_hyps.2.2.2.2.1
    (Or.inl (by decide +kernel)) _ jg

/-- T4 instantiated, painted / mixed: second alternative (`scaffold_1` is not haplotype-shaped) -/
example : ∀ pa pb, ∃ outs stats, remap [sN] (ptxOf [sN] (scr pa pb)) "SUPER_".toList (some jg)
    (errLen (scr pa pb).p (scr pa pb).q : Int) = .ok (outs, stats) :=
  fun pa pb => script_remap_ok (s := scr pa pb) (scr_wf pa pb) sN_hyps.1 sN_hyps.2.1 sN_hyps.2.2.1 sN_hyps.2.2.2.1
    sN_hyps.2.2.2.2.1 (Or.inr sN_hyps.2.2.2.2.2) _ jg

set_option synthInstance.maxSize 1024 in
/-- the kernel's view, independently of the theorems: unpainted — the two Pretext scaffolds become `scaffold_1` (both
    first rows name it: fused), 3 cuts; painted — two chromosomes `SUPER_1`, `SUPER_2` -/
private theorem evalR :
    (remap [sN] (ptxOf [sN] (scr false false)) "SUPER_".toList (some jg) 9).toOption.map
        (fun r => (r.1.map (fun a => (a.key, a.scaffolds.map (·.name))), r.2.cuts)) =
      some ([(none, ["scaffold_1".toList])], 3) ∧
    (remap [sN] (ptxOf [sN] (scr true true)) "SUPER_".toList (some jg) 9).toOption.map
        (fun r => (r.1.map (fun a => (a.key, a.scaffolds.map (·.name))), r.2.cuts)) =
      some ([(none, ["SUPER_1".toList, "SUPER_2".toList])], 3) ∧
    (remap [sN] (ptxOf [sN] (scr true false)) "SUPER_".toList (some jg) 9).toOption.map
        (fun r => (r.1.map (fun a => (a.key, a.scaffolds.map (·.name))), r.2.cuts)) =
      some ([(none, ["SUPER_1".toList, "scaffold_1".toList])], 3) := by
  refine ⟨?_, ?_, ?_⟩
  all_goals rw [sNC.2]; str_lits; decide +kernel

/-- `script_c02` instantiated (painted): its K2 clause gives the four stored results, one per piece -/
example : ∃ outs stats b, remap [sN] (ptxOf [sN] (scr true true)) "SUPER_".toList (some jg) 9 = .ok (outs, stats) ∧
    remapToInput [sN] (ptxOf [sN] (scr true true)) "SUPER_".toList (some jg) 9 = .ok b ∧
    b.store.length = (C09.pieces [sN] false (ptxOf [sN] (scr true true))).length ∧ (outs.map (·.key)).Nodup := by
  obtain ⟨outs, stats, b, h1, h2, ⟨k2, _⟩, _, ⟨o2, _⟩, _⟩ :=
    script_c02 (input := [sN]) (s := scr true true) (scr_wf _ _) sN_hyps.1 sN_hyps.2.1 sN_hyps.2.2.1 sN_hyps.2.2.2.1
      sN_hyps.2.2.2.2.1 (Or.inr ⟨none, sN_hyps.2.2.2.2.2⟩) "SUPER_".toList jg
  exact ⟨outs, stats, b, h1, h2, k2, o2⟩

/-- T3 on this example: the build exists (N2) and all its fused fragments have strand ±1 -/
example : ∃ b, remapToInput [sN] (ptxOf [sN] (scr true false)) "SUPER_".toList (some jg) 9 = .ok b ∧
    ∀ s ∈ fuseByName b, ∀ f ∈ s.fragments, f.strand = 1 ∨ f.strand = -1 := by
  obtain ⟨b, hb⟩ := script_remap_to_input_ok (input := [sN]) (s := scr true false) (scr_wf _ _) sN_hyps.1 sN_hyps.2.1
    sN_hyps.2.2.1 sN_hyps.2.2.2.1 sN_hyps.2.2.2.2.1 "SUPER_".toList jg
  exact ⟨b, hb, (fused_fragments_strands [sN] _ _ _ _ b sN_hyps.1 hb).2 sN_hyps.2.2.1⟩

/-- L on this example (mixed painting, no haplotype) -/
example : ∃ b, remapToInput [sN] (ptxOf [sN] (scr true false)) "SUPER_".toList (some jg) 9 = .ok b ∧
    ∀ r ∈ b.store, r.o.tag = none ∧ truthy r.o.originalName = true ∧ r.o.haplotype = none := by
  obtain ⟨b, hb⟩ := script_remap_to_input_ok (input := [sN]) (s := scr true false) (scr_wf _ _) sN_hyps.1 sN_hyps.2.1
    sN_hyps.2.2.1 sN_hyps.2.2.2.1 sN_hyps.2.2.2.2.1 "SUPER_".toList jg
  refine ⟨b, hb, fun r hr => ?_⟩
  obtain ⟨a1, a2, _, a4⟩ := stored_result_labels false (some none) [sN] _ _ _ _ b
    (C02R.script_scOK (wfScript_spec (scr_wf true false)) false (some none)
      (fun h => by cases h) (fun h0 e => by cases e; exact sN_hyps.2.2.2.2.2)) hb r hr
  exact ⟨a1, a2, a4 none rfl⟩

/-! ### F2: the input of `painted_two_haplotypes_raises`, unpainted -/

private def hA1 : Scaffold := { name := "A_x_1".toList, rows := [.frag { oid := 1, name := "c1".toList, start := 1, stop := 100, strand := 1 }] }
private def hA2 : Scaffold := { name := "A_x_2".toList, rows := [.frag { oid := 2, name := "c2".toList, start := 1, stop := 100, strand := 1 }] }
private def hB1 : Scaffold := { name := "B_x_1".toList, rows := [.frag { oid := 3, name := "c3".toList, start := 1, stop := 100, strand := 1 }] }
private def scrHU : Script :=
  { p := 10, q := 1, scafs := [{ T := 10 }, { T := 10 }, { T := 10 }],
    groups := [{ items := [{ sc := 0, k := 0 }] }, { items := [{ sc := 1, k := 0 }] }, { items := [{ sc := 2, k := 0 }] }] }

/-- haplotype-shaped names `A_x_1`, `A_x_2`, `B_x_1` (the painted map of these raises `ChrNamerError`): unpainted, `remap`
    returns — by T4's first alternative; the second one is not available -/
theorem unpainted_two_haplotypes_returns :
    (∃ sc ∈ [hA1, hA2, hB1], hapPrefixOfName sc.name ≠ none) ∧
    ∃ outs stats, remap [hA1, hA2, hB1] (ptxOf [hA1, hA2, hB1] scrHU) "SUPER_".toList (some jg)
      (errLen scrHU.p scrHU.q : Int) = .ok (outs, stats) :=
  ⟨by decide +kernel, script_remap_ok (s := scrHU) (by decide +kernel) (by decide +kernel) (by decide +kernel) (by decide +kernel) (by decide +kernel) (by decide +kernel)
    (Or.inl (by decide +kernel)) _ jg⟩

/-! ### T4': one named haplotype; and F1': names with and without the haplotype shape -/

private def hS1 : Scaffold := { name := "s_1".toList, rows := [.frag { oid := 1, name := "c1".toList, start := 1, stop := 100, strand := 1 }] }
private def hS2 : Scaffold := { name := "s_2".toList, rows := [.frag { oid := 2, name := "c2".toList, start := 1, stop := 100, strand := 1 }] }
/-- three whole scaffolds (10 texels of 10 bp each), uncut, each painted as its own Pretext scaffold, in input order -/
private def scrHP : Script :=
  { p := 10, q := 1, scafs := [{ T := 10 }, { T := 10 }, { T := 10 }],
    groups := [{ items := [{ sc := 0, k := 0 }], painted := true }, { items := [{ sc := 1, k := 0 }], painted := true },
               { items := [{ sc := 2, k := 0 }], painted := true }] }

private def scrHP2 : Script :=
  { p := 10, q := 1, scafs := [{ T := 10 }, { T := 10 }],
    groups := [{ items := [{ sc := 0, k := 0 }], painted := true }, { items := [{ sc := 1, k := 0 }], painted := true }] }

/-- all names of haplotype `A`: painted, `remap` returns (T4' with `h0 = some "A"`) -/
example : ∃ outs stats, remap [hA1, hA2] (ptxOf [hA1, hA2] scrHP2) "SUPER_".toList (some jg) 11 = .ok (outs, stats) :=
  script_remap_ok_uniform (input := [hA1, hA2]) (s := scrHP2)
    (by decide +kernel) (by decide +kernel) (by decide +kernel) (by decide +kernel) (by decide +kernel) (by decide +kernel) (Or.inr ⟨some ['A'], by decide +kernel⟩) _ jg

set_option synthInstance.maxSize 1024 in
/-- … the two chromosomes go to the assembly keyed `A` -/
example : (remap [hA1, hA2] (ptxOf [hA1, hA2] scrHP2) "SUPER_".toList (some jg) 11).toOption.map
      (fun r => r.1.map (fun a => (a.key, a.scaffolds.map (·.name)))) =
    some [(some ['A'], ["SUPER_1".toList, "SUPER_2".toList])] := by decide +kernel

set_option synthInstance.maxSize 1024 in
/-- **F1', by design**: two names without and one with the haplotype shape, painted in this order: haplotype keys `None`,
    `None`, `B` — `check_groups` rejects the map exactly as it rejects `A`, `A`, `B`.  So "all names yield ONE haplotype"
    cannot be weakened to "at most one named haplotype". -/
theorem painted_none_none_hap_raises :
    wfScript [hS1, hS2, hB1] scrHP = true ∧
    (∀ sc ∈ [hS1, hS2], hapPrefixOfName sc.name = none) ∧ hapPrefixOfName hB1.name = some ['B'] ∧
    remap [hS1, hS2, hB1] (ptxOf [hS1, hS2, hB1] scrHP) "SUPER_".toList (some jg) 11 = .error .chrNamer := by
  refine ⟨by decide +kernel, by decide +kernel, by decide +kernel, by decide +kernel⟩

end AgpTpf.C02
