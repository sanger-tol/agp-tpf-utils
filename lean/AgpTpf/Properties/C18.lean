/-
  C18 — Overlap results keep span and content consistent under every edit sequence.

  Python: `OverlapResult` (src/tola/assembly/overlap_result.py), obtained from
  `IndexedAssembly.find_overlaps` (indexed_assembly.py).  Model: `AgpTpf/Model/Lookup.lean`.

  The invariant `Inv src o` (defined in `AgpTpf/Proofs/C18.lean`, with its index form `content_index_form`; restated in full by
  `inv_iff` below) has four parts:
    (1) `span`          : `o.stop - o.start + 1 = rowsLength o.rows`
    (2) `noTerminalGap` : `o.rows = []`, or the first and the last row are fragments
    (3)+(4) `content`   : `Content src o` — the rows are a contiguous run of the source scaffold `src`; the inner rows
                          are the source rows themselves; only the terminal fragments may have been shortened, and
                          only at their outer end (both ends when a single row is left); `o.start` / `o.stop` are the
                          scaffold coordinates, computed from `src`, of what is left (strand-aware, `Short`)
    (+) `distinct`      : the Fragment objects in `o.rows` are pairwise distinct objects (distinct `oid`s).

  Why (+) is there: `trim_fragment` finds its row by object identity (`rows[0] is trim`, `rows[-1] is trim`).  If the
  SAME Fragment object is both the first and the last row of a result with ≥ 2 rows, `trim_fragment(rows[0])` moves
  `start`, leaves row 0 untouched and cuts the last row at both ends: (3)/(4) are then false (see `dup_object_breaks_content`
  below; reproduced on the real code: rows [F,G,F], F = a:1-10(+), G = b:1-5, bait 3..23 ⇒ start 3, end 23, rows
  [a:1-10, b:1-5, a:3-8]).  So the property needs "a scaffold does not contain the same Fragment object twice", which is
  hypothesis `(ids src).Nodup` of `inv_lookup`, and new fragments must get fresh object ids (as `Fragment(...)` does).
-/
import AgpTpf.Proofs.C18
import AgpTpf.Proofs.ImpEval
namespace AgpTpf.C18
open AgpTpf OverlapResult
open scoped AgpTpf.ImpEval

/-! ## The invariant, spelled out -/

/-- `Short r s dl dr`: row `r` is the source fragment `s` with `dl` scaffold positions removed at its scaffold-left
    side and `dr` at its scaffold-right side; plus strand: left = `fragment.start`; any other strand (−1 and, as the code
    treats it, 0): left = `fragment.end`.  Name and strand are kept. -/
theorem short_iff (r s : Row) (dl dr : Int) :
    Short r s dl dr ↔
      ∃ f g, r = .frag f ∧ s = .frag g ∧ f.name = g.name ∧ f.strand = g.strand ∧
        (if g.strand = 1 then f.start = g.start + dl ∧ f.stop = g.stop - dr
         else f.start = g.start + dr ∧ f.stop = g.stop - dl) := Iff.rfl

/-- a shortened row covers a sub-interval of the source fragment's interval (for `dl, dr ≥ 0`) and is shorter by `dl + dr` -/
theorem short_contained {r s : Row} {dl dr : Int} (h : Short r s dl dr) (h0 : 0 ≤ dl) (h1 : 0 ≤ dr) :
    ∃ f g, r = .frag f ∧ s = .frag g ∧ g.start ≤ f.start ∧ f.stop ≤ g.stop ∧ r.length = s.length - dl - dr := by
  have hl := h.length
  obtain ⟨f, g, rfl, rfl, _, _, hc⟩ := h
  refine ⟨f, g, rfl, rfl, ?_, ?_, hl⟩ <;> (split at hc <;> omega)

/-- the content part of the invariant in full -/
theorem content_iff (src : List Row) (o : OverlapResult) :
    Content src o ↔
      (o.rows = [] ∧ o.stop = o.start - 1) ∨
      (∃ (A B : List Row) (s r : Row) (dl dr : Int),
        src = A ++ s :: B ∧ o.rows = [r] ∧ Short r s dl dr ∧ 0 ≤ dl ∧ 0 ≤ dr ∧
        o.start = 1 + rowsLength A + dl ∧ o.stop = rowsLength A + s.length - dr) ∨
      (∃ (A B mid : List Row) (s0 s1 r0 r1 : Row) (dl dr : Int),
        src = A ++ s0 :: mid ++ s1 :: B ∧ o.rows = r0 :: mid ++ [r1] ∧ Short r0 s0 dl 0 ∧ Short r1 s1 0 dr ∧
        0 ≤ dl ∧ 0 ≤ dr ∧
        o.start = 1 + rowsLength A + dl ∧
        o.stop = rowsLength A + s0.length + rowsLength mid + s1.length - dr) := by
  constructor
  · intro h
    cases h with
    | empty h1 h2 => exact Or.inl ⟨h1, h2⟩
    | one A B s r dl dr a b c d e f g => exact Or.inr (Or.inl ⟨A, B, s, r, dl, dr, a, b, c, d, e, f, g⟩)
    | many A B mid s0 s1 r0 r1 dl dr a b c d e f g h =>
      exact Or.inr (Or.inr ⟨A, B, mid, s0, s1, r0, r1, dl, dr, a, b, c, d, e, f, g, h⟩)
  · rintro (⟨h1, h2⟩ | ⟨A, B, s, r, dl, dr, a, b, c, d, e, f, g⟩ | ⟨A, B, mid, s0, s1, r0, r1, dl, dr, a, b, c, d, e, f, g, h⟩)
    · exact Content.empty h1 h2
    · exact Content.one A B s r dl dr a b c d e f g
    · exact Content.many A B mid s0 s1 r0 r1 dl dr a b c d e f g h

theorem inv_iff (src : List Row) (o : OverlapResult) :
    Inv src o ↔
      o.stop - o.start + 1 = rowsLength o.rows ∧
      (o.rows = [] ∨ ((∃ f t, o.rows = .frag f :: t) ∧ (∃ f t, o.rows = t ++ [.frag f]))) ∧
      Content src o ∧
      ((fragmentsOf o.rows).map (·.oid)).Nodup :=
  ⟨fun h => ⟨h.span, h.noTerminalGap, h.content, h.distinct⟩, fun ⟨a, b, c, d⟩ => ⟨a, b, c, d⟩⟩

/-- (1) and (2) are consequences of (3)+(4): -/
theorem content_span {src o} (h : Content src o) : o.stop - o.start + 1 = rowsLength o.rows := h.span
theorem content_noTerminalGap {src o} (h : Content src o) : NoTerminalGap o.rows := h.noTerminalGap

/-! ## Established by the lookup -/

/-- Every result of `find_overlaps` satisfies the invariant — for every scaffold and every bait, with no condition on
    lengths or coordinates; only: no Fragment object occurs twice in the scaffold. -/
theorem inv_lookup {src : List Row} {bait : Fragment} {o : OverlapResult}
    (hd : (ids src).Nodup) (h : findOverlaps src bait = .ok (some o)) : Inv src o :=
  inv_lookup' hd h

/-- a fresh lookup result has unshortened rows: it is exactly a slice of the source, `start`/`stop` are prefix sums -/
theorem lookup_slice {src : List Row} {bait : Fragment} {o : OverlapResult}
    (h : findOverlaps src bait = .ok (some o)) :
    ∃ i j : Nat, i ≤ j ∧ j < src.length ∧ o.rows = (src.drop i).take (j + 1 - i) ∧
      o.start = 1 + rowsLength (src.take i) ∧ o.stop = rowsLength (src.take (j + 1)) ∧ o.bait = bait := by
  obtain ⟨i, j, a, b, _, _, c, d, e, f⟩ := findOverlaps_fields h
  exact ⟨i, j, a, b, c, d, e, congrArg (·.bait) f⟩

/-! ## Preserved by every operation -/

/-- `needsId op`: the operation creates a new Fragment object (`trim_fragment`). -/
theorem needsId_iff (op : OvOp) : needsId op = true ↔ ∃ ks ke, op = .trimFirst ks ke ∨ op = .trimLast ks ke := by
  cases op <;> simp [needsId]

/-- One accepted operation preserves the invariant.  For the two `trim_fragment` operations the object id of the
    Fragment they create must be fresh with respect to the rows of the result. -/
theorem inv_step {src : List Row} {o o' : OverlapResult} {op : OvOp} {oid : Nat} (hI : Inv src o)
    (hfresh : needsId op = true → oid ∉ ids o.rows) (h : applyOp o op oid = .ok o') : Inv src o' :=
  inv_step' hI hfresh h

/-- the three operations that never create objects need no side condition -/
theorem inv_step_discardStart {src o o'} (hI : Inv src o) (h : discardStart o = .ok o') : Inv src o' :=
  inv_discardStart hI h
theorem inv_step_discardEnd {src o o'} (hI : Inv src o) (h : discardEnd o = .ok o') : Inv src o' :=
  inv_discardEnd hI h
theorem inv_step_trimLarge {src o o'} {e : Int} (hI : Inv src o) (h : trimLargeOverhangs o e = .ok o') : Inv src o' :=
  inv_trimLarge hI h
/-- `trim_fragment(trim, …)` called directly with the first or the last row -/
theorem inv_step_trimFragment_first {src o o'} {f new : Fragment} {t : List Row} {ks ke : Bool} {oid : Nat}
    (hI : Inv src o) (hr : o.rows = .frag f :: t) (hfresh : oid ∉ ids o.rows)
    (h : trimFragment o f ks ke oid = .ok (o', new)) : Inv src o' :=
  inv_trimFragment_first hI hr hfresh h
theorem inv_step_trimFragment_last {src o o'} {f new : Fragment} {t : List Row} {ks ke : Bool} {oid : Nat}
    (hI : Inv src o) (hr : o.rows = t ++ [.frag f]) (hfresh : oid ∉ ids o.rows)
    (h : trimFragment o f ks ke oid = .ok (o', new)) : Inv src o' :=
  inv_trimFragment_last hI hr hfresh h

/-- `runOps o ops`: apply the operations in order (each paired with the id of the object it may create); the first
    rejected operation ends the run. -/
theorem runOps_nil (o : OverlapResult) : runOps o [] = .ok o := rfl
theorem runOps_cons (o : OverlapResult) (op : OvOp) (oid : Nat) (rest : List (OvOp × Nat)) :
    runOps o ((op, oid) :: rest) = (applyOp o op oid >>= fun o1 => runOps o1 rest) := rfl

/-- Any finite sequence of accepted operations preserves the invariant (new objects get pairwise distinct ids that
    are not ids of rows of the starting result). -/
theorem inv_ops {src : List Row} (ops : List (OvOp × Nat)) {o o' : OverlapResult} (hI : Inv src o)
    (hnd : (ops.map (·.2)).Nodup) (hfresh : ∀ x ∈ ops.map (·.2), x ∉ ids o.rows)
    (h : runOps o ops = .ok o') : Inv src o' := by
  induction ops generalizing o with
  | nil => simp only [runOps, Except.ok.injEq] at h; subst h; exact hI
  | cons p rest ih =>
    obtain ⟨op, oid⟩ := p
    simp only [runOps, bind, Except.bind] at h
    cases h1 : applyOp o op oid with
    | error e => rw [h1] at h; cases h
    | ok o1 =>
      rw [h1] at h
      simp only [List.map_cons, List.nodup_cons] at hnd
      have hI1 : Inv src o1 := inv_step' hI (fun _ => hfresh oid (by simp)) h1
      refine ih hI1 hnd.2 ?_ h
      intro x hx hx1
      rcases ids_step h1 x hx1 with h2 | h2
      · exact hfresh x (by simp [hx]) h2
      · subst h2; exact hnd.1 hx

/-- lookup followed by any accepted edit sequence -/
theorem inv_lookup_ops {src : List Row} {bait : Fragment} (ops : List (OvOp × Nat)) {o o' : OverlapResult}
    (hd : (ids src).Nodup) (hl : findOverlaps src bait = .ok (some o))
    (hnd : (ops.map (·.2)).Nodup) (hfresh : ∀ x ∈ ops.map (·.2), x ∉ ids src)
    (h : runOps o ops = .ok o') :
    Inv src o' ∧ o'.stop - o'.start + 1 = rowsLength o'.rows ∧ NoTerminalGap o'.rows := by
  have hI := inv_lookup hd hl
  have hsub : ∀ x ∈ ids o.rows, x ∈ ids src := by
    obtain ⟨i, j, hij, hj, hfi, hfj, rfl⟩ := C12.findOverlaps_some hl
    obtain ⟨A, B, hs, -⟩ := C12.slice_decomp hij hj hfi hfj
    intro x hx
    rw [hs, ids_append, ids_append]
    exact List.mem_append_left _ (List.mem_append_right _ hx)
  have := inv_ops ops hI hnd (fun x hx hx' => hfresh x hx (hsub x hx')) h
  exact ⟨this, this.span, this.noTerminalGap⟩

/-! ## Derived figures = plain interval arithmetic -/

theorem startOverhang_eq (o : OverlapResult) : o.startOverhang = o.bait.start - o.start := rfl
theorem endOverhang_eq (o : OverlapResult) : o.endOverhang = o.stop - o.bait.stop := rfl
theorem length_eq (o : OverlapResult) : o.length = o.stop - o.start + 1 := rfl

/-! ## Rejections -/

/-- the discards are rejected ONLY on an empty result -/
theorem discardStart_ok_iff (o : OverlapResult) : (∃ o', discardStart o = .ok o') ↔ o.rows ≠ [] := by
  constructor
  · rintro ⟨o', h⟩ he; rw [discardStart_empty he] at h; cases h
  · intro h
    unfold discardStart
    split
    · rename_i he; exact absurd he h
    · exact ⟨_, rfl⟩
theorem discardEnd_ok_iff (o : OverlapResult) : (∃ o', discardEnd o = .ok o') ↔ o.rows ≠ [] := by
  constructor
  · rintro ⟨o', h⟩ he; rw [discardEnd_empty he] at h; cases h
  · intro h
    unfold discardEnd
    split
    · rename_i he; exact absurd (by simpa using he) h
    · exact ⟨_, rfl⟩

/-- `trim_fragment` of a fragment that is neither the first nor the last row: ValueError -/
theorem trimFragment_reject {o : OverlapResult} {f : Fragment} {r0 r1 : Row} {t t' : List Row} (ks ke : Bool) (oid : Nat)
    (h0 : o.rows = r0 :: t) (h1 : o.rows = t' ++ [r1]) (n0 : rowIs r0 f = false) (n1 : rowIs r1 f = false) :
    trimFragment o f ks ke oid = .error .value := by
  rw [trimFragment_eq, firstIs_cons o f r0 t h0, lastIs_concat o f r1 t' h1, n0, n1]
  rfl

/-! ## Non-vacuity: a concrete scaffold, baits, operation sequences (all checked by evaluation) -/

def fr (oid : Nat) (n : String) (s e st : Int) : Row :=
  .frag { oid := oid, name := n.toList, start := s, stop := e, strand := st }
def gp (n : Int) : Row := .gap ⟨n, "scaffold".toList⟩
def mkBait (s e : Int) : Fragment :=
  { name := "s".toList, start := s, stop := e, strand := 1, tags := ["Painted".toList, "Hap1".toList] }
def cutTags : List Str := [Gen.cutTag, "Hap1".toList]

/-- rows: a:11-20(+) at 1..10, gap 11..15, b:1-10(−) at 16..25, gap 26..30, c:101-120(+) at 31..50 -/
def src5 : List Row := [fr 1 "a" 11 20 1, gp 5, fr 2 "b" 1 10 (-1), gp 5, fr 3 "c" 101 120 1]
def o5 : OverlapResult := { bait := mkBait 4 33, start := 1, stop := 50, rows := src5, name := "matches".toList }

example : (ids src5).Nodup := by decide +kernel
theorem lookup5 : findOverlaps src5 (mkBait 4 33) = .ok (some o5) := by decide +kernel
example : Inv src5 o5 := inv_lookup (by decide +kernel) lookup5

/-- cut both terminal fragments to the bait: a:11-20 → a:14-20, c:101-120 → c:101-103; span 4..33 -/
def o5a : OverlapResult :=
  { o5 with start := 4, stop := 33,
            rows := [.frag { oid := 10, name := "a".toList, start := 14, stop := 20, strand := 1, tags := cutTags },
                     gp 5, fr 2 "b" 1 10 (-1), gp 5,
                     .frag { oid := 11, name := "c".toList, start := 101, stop := 103, strand := 1, tags := cutTags }] }
theorem run5a : runOps o5 [(.trimFirst false false, 10), (.trimLast false false, 11)] = .ok o5a := by decide +kernel
example : Inv src5 o5a ∧ o5a.stop - o5a.start + 1 = rowsLength o5a.rows ∧ NoTerminalGap o5a.rows :=
  inv_lookup_ops _ (by decide +kernel) lookup5 (by decide +kernel) (by decide +kernel) run5a
example : Inv src5 o5a := inv_ops _ (inv_lookup (by decide +kernel) lookup5) (by decide +kernel) (by decide +kernel) run5a

/-- `trim_large_overhangs(5)` on the lookup for bait 9..33 discards at both ends (and the gaps next to them) -/
def o5b0 : OverlapResult := { o5 with bait := mkBait 9 33 }
def o5b : OverlapResult := { o5b0 with start := 16, stop := 25, rows := [fr 2 "b" 1 10 (-1)] }
theorem lookup5b : findOverlaps src5 (mkBait 9 33) = .ok (some o5b0) := by decide +kernel
theorem run5b : runOps o5b0 [(.trimLarge 5, 20)] = .ok o5b := by decide +kernel
example : Inv src5 o5b := inv_ops _ (inv_lookup (by decide +kernel) lookup5b) (by decide +kernel) (by decide +kernel) run5b
example : applyOp o5b0 (.trimLarge 5) 0 = .ok o5b := by decide +kernel
example : Inv src5 o5b := inv_step (inv_lookup (by decide +kernel) lookup5b) (by decide +kernel) (show applyOp o5b0 (.trimLarge 5) 0 = .ok o5b by decide)

/-- a minus-strand first row is cut at its `end`: b:1-10(−) → b:1-8(−); then the last row is discarded -/
def o5c0 : OverlapResult :=
  { o5 with bait := mkBait 18 50, start := 16, rows := [fr 2 "b" 1 10 (-1), gp 5, fr 3 "c" 101 120 1] }
def o5c : OverlapResult :=
  { o5c0 with start := 18, stop := 25,
              rows := [.frag { oid := 30, name := "b".toList, start := 1, stop := 8, strand := -1, tags := cutTags }] }
theorem lookup5c : findOverlaps src5 (mkBait 18 50) = .ok (some o5c0) := by decide +kernel
theorem run5c : runOps o5c0 [(.trimFirst false false, 30), (.discardEnd, 31)] = .ok o5c := by decide +kernel
example : Inv src5 o5c := inv_ops _ (inv_lookup (by decide +kernel) lookup5c) (by decide +kernel) (by decide +kernel) run5c

/-- discarding everything, then once more: IndexError -/
example : runOps o5 [(.discardStart, 40), (.discardEnd, 41), (.discardStart, 42)] =
    .ok { o5 with start := 26, stop := 25, rows := [] } := by decide +kernel
example : runOps o5 [(.discardStart, 40), (.discardEnd, 41), (.discardStart, 42), (.discardEnd, 43)] = .error .index := by
  decide +kernel
/-- trimming a fragment that is not terminal: ValueError -/
example : trimFragment o5 { oid := 2, name := "b".toList, start := 1, stop := 10, strand := -1 } false false 50 = .error .value :=
  trimFragment_reject false false 50 (r0 := fr 1 "a" 11 20 1) (r1 := fr 3 "c" 101 120 1)
    (t := [gp 5, fr 2 "b" 1 10 (-1), gp 5, fr 3 "c" 101 120 1]) (t' := [fr 1 "a" 11 20 1, gp 5, fr 2 "b" 1 10 (-1), gp 5])
    rfl rfl (by decide +kernel) (by decide +kernel)
/-- a trim that would leave nothing of the fragment (the bait starts beyond the first row 1..10): rejected with
    ValueError by `Fragment.__init__` (`start > end`) -/
example : applyOp { o5 with bait := mkBait 12 33 } (.trimFirst false false) 60 = .error .value := by decide +kernel

/-- derived figures on the example -/
example : startRowBaitOverlap o5 = .ok 7 := by decide +kernel
example : endRowBaitOverlap o5 = .ok 3 := by decide +kernel
example : overhangIfStartRemoved o5 = .ok (-12) := by decide +kernel
example : overhangIfEndRemoved o5 = .ok (-8) := by decide +kernel
example : ∃ o', discardStart o5 = .ok o' ∧ (-12 : Int) = o'.startOverhang := overhangIfStartRemoved_eq (by decide +kernel)
example : ∃ o', discardEnd o5 = .ok o' ∧ (-8 : Int) = o'.endOverhang := overhangIfEndRemoved_eq (by decide +kernel)

/-! ## Why distinct objects are required: the same Fragment object as first and last row -/

/-- F = a:1-10(+) (object 1) is both row 0 and row 2. -/
def srcDup : List Row := [fr 1 "a" 1 10 1, fr 2 "b" 1 5 1, fr 1 "a" 1 10 1]
def baitDup : Fragment := { name := "s".toList, start := 3, stop := 23, strand := 1 }
def oDup : OverlapResult := { bait := baitDup, start := 1, stop := 25, rows := srcDup, name := "matches".toList }
/-- after `trim_fragment(rows[0])`: `start` moved to 3 but row 0 is still a:1-10, and the LAST row was cut at both ends -/
def oDup' : OverlapResult :=
  { oDup with start := 3, stop := 23,
              rows := [fr 1 "a" 1 10 1, fr 2 "b" 1 5 1,
                       .frag { oid := 9, name := "a".toList, start := 3, stop := 8, strand := 1, tags := [Gen.cutTag] }] }
theorem lookupDup : findOverlaps srcDup baitDup = .ok (some oDup) := by decide +kernel
theorem stepDup : applyOp oDup (.trimFirst false false) 9 = .ok oDup' := by decide +kernel
/-- the span arithmetic (1) survives, the content (3)/(4) does not -/
theorem dup_object_breaks_content :
    oDup'.stop - oDup'.start + 1 = rowsLength oDup'.rows ∧ ¬ Content srcDup oDup' := by
  refine ⟨by decide, fun h => ?_⟩
  obtain ⟨i, n, dl, dr, hn, _, hb, _, _, _, ⟨r, s, hr0, hs0, hsh⟩, _, hst, _⟩ := content_index_form h (by decide +kernel)
  have hn3 : n = 3 := by rw [← hn]; rfl
  subst hn3
  have hi : i = 0 := by simp [srcDup] at hb; omega
  subst hi
  have hr : r = fr 1 "a" 1 10 1 := by simpa [oDup'] using hr0.symm
  have hs : s = fr 1 "a" 1 10 1 := by simpa [srcDup] using hs0.symm
  subst hr hs
  have hdl : dl = 2 := by
    have : oDup'.start = 3 := rfl
    rw [this] at hst; simp [rowsLength_nil] at hst; omega
  obtain ⟨f, g, hf, hg, _, _, hc⟩ := hsh
  simp only [fr, Row.frag.injEq] at hf hg
  subst hf hg
  simp at hc
  omega
end AgpTpf.C18
