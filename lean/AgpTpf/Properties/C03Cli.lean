/-
  C03, last two sentences, END TO END for `pretext-to-asm --output x.fa`:
    "The record set and order equal the scaffold set and order, record names are unique within a file, and the AGP
     written beside the FASTA lists the same rows with the same lengths, so that each AGP object length equals the
     record length."

  Model (Proofs/C03CliFiles.lean): `writeAssemblyFasta` = the FASTA branch of `write_assembly` (open
  `{asm.name}{.curated}{suffix}`, `FastaStream.write_assembly`, `with_suffix(".agp")`, `format_agp` of the SAME assembly
  object), `writtenFiles` = the loop of `write_assemblies` over the dict values, `cliWrittenFiles` = `name_assemblies` (as a
  dict: `namedDict`) + `writtenFiles`.  A written file is a pair (file NAME, `FileContent`): `.bytes` for the binary
  `.fa`, `.text lines` for the `.agp`.  The assembly objects the CLI writes carry NO header lines (`cliHeader = []`:
  `Assembly(self.name, curated=…)` in `assemblies_with_scaffolds_fused`, `Assembly("merge")` in `merge_assemblies`), so the
  `.agp` beside the `.fa` starts directly with the first object line.
  Restrictions of the model: names are written with `Char.toNat` per character (`str.encode()` is UTF-8: the same for
  ASCII names); file NAMES only (the directory is passed through); which files exist when an error is raised is not
  modelled (F0 shows there is none).

  Hypotheses, bundled in `FastaRun` (each field is a hypothesis of the theorems below):
    remapped   `remap input ptx prefix joinGap err = .ok (outs, stats)`     (any Pretext assembly, prefix, texel size)
    renamed    `nameAssemblies outs root version = .ok named`
    wf         `C01.WFInput input`                                           (C01's decidable well-formedness of the input)
    within     `InputWithin file idx resOf input`: every contig fragment of the input names an indexed record of the
               FASTA `file` (index `idx`, residues `resOf name`) and lies within it  ("any input whose rows lie within the records")
    strict     input rows are `StrandOk ∧ RowStrict` (as in `C06.written_agp_valid`), `gapStrict` the same for the join gap
    suffixOk   `SuffixOk .FASTA suffix` — what `parse_output_file` returns (`CliPlan.parseOutputFile_suffix`)
  ALL of `wf`, `within`, `strict`, `gapStrict` are DISCHARGED for the only input the FASTA branch can have — the assembly
  `index_fasta_file` derives from a well-formed FASTA (records with distinct names, uniform line width; LF / CRLF; any
  buffer size) and the CLI's join gap: `fasta_input_run`, `fasta_cli_end_to_end` (helper Proofs/C03CliFasta.lean).

  PROVED (all at full strength, no `_partial`):
    F0  `cli_written_files`                  the run writes exactly `(namedDict named).flatMap specFilesOf`: per named assembly,
                                             in dict order, `{name}{.curated}{suffix}` holding `fastaOf` (one `recordBytes`
                                             per scaffold) and right after it `{name}{.curated}.agp` holding `format_agp` of the
                                             same scaffolds; never fails; the file names are `CliPlan.assemblyFiles` (C16).
    F1  `cli_fasta_records_are_scaffolds`    every written FASTA = per scaffold, in scaffold order, `>name LF` + the body
                                             (the AGP rows applied to the input FASTA) in lines of `w`; read back with a
                                             line reader (`fastaRecordNames`) the record names ARE the scaffold names in order.
    F2  `cli_fasta_record_names_unique`      … and pairwise different, under the hypotheses of `C10.remap_names_unique`
        `…_named`                            + for the merged `all_haplotigs` file of the `Primary` branch: names do not
                                             repeat ACROSS the merged assemblies (`MergeDisjoint`; automatic when at most
                                             one assembly is merged: `mergeDisjoint_of_le_one`).
        FINDING `merged_all_haplotigs_duplicate_names`: without `MergeDisjoint` the statement is FALSE, of the model and of
                                             the real CLI (two `>SUPER_1` records in `x.1.all_haplotigs.curated.fa`, object
                                             `SUPER_1` twice in the `.agp`, the tool's own `FastaIndex` rejects the file).
    F3  `cli_agp_beside_fasta_same_rows`     the `.agp` beside each `.fa`: `format_agp` succeeds, no header line, the text is
                                             per scaffold of the SAME list the lines of `agpCols scaffold.rows` (one line per
                                             row: same names / coordinates / strands / gap lengths), tiling the object from 1,
                                             the LAST END of each object = the residue count of the record in the `.fa`
                                             = `Scaffold.length` ≥ 1; no scaffold without rows.
        `cli_agp_parses_back`                under `C05.WFAgp` (no tabs etc.) `parse_agp` of that text gives back the scaffolds.
    F4  `cli_every_base_of_every_record`     across ALL FASTA files written: the fragment rows behind the records cover every
                                             base of every input contig fragment exactly once and nothing else
        `cli_record_holds_residue`           and base `x` of such a row IS byte `offset` of the record body: itself for a
                                             forward row, its IUPAC complement for a minus row.
    F5  `cli_fasta_reindexes`                the tool's own indexer on a written FASTA (plain names): with pairwise different
                                             names it succeeds and lists the scaffold names in order with the AGP object
                                             lengths; with a repeated name it raises `ValueError`.
    non-vacuity: `exRecs` (2 records, LF + CRLF), `exMap` (one cut, one minus piece, one haplotig): the run evaluated in two
    steps by `decide +kernel`, `ex_index` (the derived assembly and the index) and `ex_written_files` (on these: the assemblies
    and the four files; same records / rows / lengths as the real CLI wrote); `ex_run` (a `FastaRun` exists).
-/
import AgpTpf.Proofs.C03CliRecords
import AgpTpf.Proofs.C03CliFasta
import AgpTpf.Proofs.C03CliReindex
import AgpTpf.Properties.C10Unique
import AgpTpf.Properties.C09Route
import AgpTpf.Properties.C05
import AgpTpf.Proofs.ImpEval
namespace AgpTpf.C03
open AgpTpf AgpTpf.StreamProofs AgpTpf.WrapProofs AgpTpf.CliNames AgpTpf.CliPlan AgpTpf.C05 AgpTpf.C04

/-- one `pretext-to-asm -a in.fa -p map.agp -o out.fa` run up to `write_assemblies` (see the file comment) -/
structure FastaRun (file : Bytes) (idx : List (Str × FastaInfo)) (resOf : Str → Bytes)
    (input ptx : List Scaffold) (prefix_ : Str) (joinGap : Option Gap) (err : Int)
    (outs : List OutAsm) (stats : Stats) (root version suffix : Str) (named : List NamedAsm) : Prop where
  remapped : remap input ptx prefix_ joinGap err = .ok (outs, stats)
  renamed : nameAssemblies outs root version = .ok named
  wf : C01.WFInput input
  within : InputWithin file idx resOf input
  strict : ∀ sc ∈ input, ∀ r ∈ sc.rows, C06.StrandOk r ∧ C06.RowStrict r
  gapStrict : ∀ g, joinGap = some g → C06.RowStrict (.gap g)
  suffixOk : SuffixOk .FASTA suffix

section
variable {file : Bytes} {idx : List (Str × FastaInfo)} {resOf : Str → Bytes}
  {input ptx : List Scaffold} {prefix_ : Str} {joinGap : Option Gap} {err : Int}
  {outs : List OutAsm} {stats : Stats} {root version suffix : Str} {named : List NamedAsm}

theorem FastaRun.rows (R : FastaRun file idx resOf input ptx prefix_ joinGap err outs stats root version suffix named) :
    ∀ n ∈ named, ∀ sc ∈ n.scaffolds, (∀ r ∈ sc.rows, RowOK file idx resOf r) ∧ C06.RowsGood sc.rows := by
  intro n hn sc hsc
  obtain ⟨a, ha, hsa⟩ := named_scaffold_origin outs root version named R.renamed n hn sc hsc
  exact ⟨remap_rows_ok file idx resOf input ptx prefix_ joinGap err outs stats R.wf R.remapped R.within a ha sc hsa,
    C06.remap_rows_strict input ptx prefix_ joinGap err outs stats R.strict R.gapStrict R.remapped a ha sc hsa⟩

theorem FastaRun.dictRows (R : FastaRun file idx resOf input ptx prefix_ joinGap err outs stats root version suffix named) :
    ∀ n ∈ namedDict named, ∀ sc ∈ n.scaffolds, (∀ r ∈ sc.rows, RowOK file idx resOf r) ∧ C06.RowsGood sc.rows :=
  fun n hn => R.rows n (namedDict_mem named n hn)

/-- the bodies of all records contain neither `>` nor LF when the input fragments address no such byte -/
theorem FastaRun.cleanBodies (R : FastaRun file idx resOf input ptx prefix_ joinGap err outs stats root version suffix named)
    (hclean : ∀ F ∈ C01.inputFrags input, CleanBytes (slice (resOf F.name) F.start F.stop)) :
    ∀ n ∈ namedDict named, ∀ sc ∈ n.scaffolds, CleanBytes (rowsBody resOf sc.rows) := by
  intro n hn sc hsc
  apply cleanBytes_rowsBody
  intro f hf
  obtain ⟨a, ha, hsa⟩ := named_scaffold_origin outs root version named R.renamed n (namedDict_mem named n hn) sc hsc
  obtain ⟨F, hF, hFn, b1, _, b3⟩ :=
    remap_frag_origin input ptx prefix_ joinGap err outs stats R.wf R.remapped a ha sc hsa f hf
  rw [← hFn]
  exact fun x hx => hclean F hF x (slice_subset _ _ _ _ _ b1 b3 x hx)

/-! ## F0  the files written -/

/-- **F0.**  The FASTA branch of `write_assemblies` never fails and writes, for every named assembly in dict order, the
    `.fa` file holding one record per scaffold and right after it the `.agp` file holding `format_agp` of the same
    scaffolds — nothing else; the file names are those of the output plan (`CliPlan.assemblyFiles`, C16). -/
theorem cli_written_files {bs w : Int} (hbs : 1 ≤ bs) (hw : 1 ≤ w)
    (R : FastaRun file idx resOf input ptx prefix_ joinGap err outs stats root version suffix named) :
    cliWrittenFiles file idx bs w outs root version suffix =
      .ok ((namedDict named).flatMap (specFilesOf w resOf suffix)) ∧
    assemblyFiles .FASTA suffix (namedDict named) =
      .ok (((namedDict named).flatMap (specFilesOf w resOf suffix)).map (·.1)) := by
  obtain ⟨c, x, e, hd, _⟩ := R.suffixOk
  subst e
  have hends : ∀ n ∈ namedDict named, EndsSY n.name :=
    fun n hn => named_ends outs root version named R.renamed n (namedDict_mem named n hn)
  constructor
  · unfold cliWrittenFiles
    rw [R.renamed]
    exact writtenFiles_spec hbs hw file idx resOf (c :: x) (by simp) hd (namedDict named)
      (fun n hn sc hsc => (R.dictRows n hn sc hsc).1) (fun n hn sc hsc => (R.dictRows n hn sc hsc).2) hends
  · rw [specFiles_names, assemblyFiles_ok .FASTA (c :: x) (by simp) hd (namedDict named) hends]

theorem spec_files_of (w : Int) (n : NamedAsm) :
    specFilesOf w resOf suffix n =
      [(n.name ++ (if n.curated then ".curated".toList else []) ++ suffix,
          .bytes ((n.scaffolds.map (fun sc => recordBytes w sc.name (rowsBody resOf sc.rows))).flatten)),
       (n.name ++ (if n.curated then ".curated".toList else []) ++ ".agp".toList, .text (agpLinesOf n))] := rfl

/-! ## F1  records = scaffolds, in order -/

/-- **F1.**  For every named assembly `n` (its FASTA file is `outputFileName n suffix`, content `fastaOf w resOf n.scaffolds`
    by F0):
    (a) the file is, scaffold by scaffold IN SCAFFOLD ORDER, the header line `>` + scaffold name + LF followed by the
        body `rowsBody resOf rows` — the scaffold's rows applied to the input FASTA — cut into lines of `w` bytes
        (last one 1..w), each ended by LF; one record per scaffold, nothing else;
    (b) read back line by line (`fastaRecordNames`: the lines that start with `>`), the record names are exactly the
        scaffold names, in order — for scaffold names without LF and input contig fragments that address no `>` / LF byte
        of their record (`CleanBytes (slice …)`; automatic for a FASTA-derived input, whose fragments are `ACGTacgt` runs:
        `fasta_input_run`). -/
theorem cli_fasta_records_are_scaffolds {bs w : Int} (hbs : 1 ≤ bs) (hw : 1 ≤ w)
    (R : FastaRun file idx resOf input ptx prefix_ joinGap err outs stats root version suffix named) :
    cliWrittenFiles file idx bs w outs root version suffix =
      .ok ((namedDict named).flatMap (specFilesOf w resOf suffix)) ∧
    ∀ n ∈ namedDict named,
      fastaOf w resOf n.scaffolds =
        (n.scaffolds.map (fun sc => [62] ++ strToBytes sc.name ++ [10] ++
          ((linesOf w.toNat (rowsBody resOf sc.rows)).map (· ++ [10])).flatten)).flatten ∧
      ((∀ sc ∈ n.scaffolds, '\n' ∉ sc.name) →
        (∀ F ∈ C01.inputFrags input, CleanBytes (slice (resOf F.name) F.start F.stop)) →
        fastaRecordNames (fastaOf w resOf n.scaffolds) = n.scaffolds.map (fun sc => strToBytes sc.name)) := by
  refine ⟨(cli_written_files hbs hw R).1, fun n hn => ?_⟩
  obtain ⟨w, rfl⟩ := Int.eq_ofNat_of_zero_le (Int.le_trans (by decide) hw)
  rw [Int.toNat_natCast]
  refine ⟨?_, fun hnl hclean =>
    fastaRecordNames_fastaOf w (by omega) resOf n.scaffolds hnl (R.cleanBodies hclean n hn)⟩
  unfold fastaOf
  congr 1
  apply List.map_congr_left
  intro sc _
  rw [recordBytes, wrapBody_eq_lines w (by omega)]

/-! ## F2  record names are unique within a file -/

/-- the extra hypothesis for the merged `all_haplotigs` assembly of the `Primary` branch: the curated assemblies other
    than `Primary` — which `merge_assemblies` concatenates — have no scaffold name in common -/
def MergeDisjoint (outs : List OutAsm) : Prop :=
  (outs.filter (fun a => a.key ≠ some sPrimary ∧ a.curated)).Pairwise
    (fun a b => ∀ s ∈ a.scaffolds, ∀ t ∈ b.scaffolds, s.name ≠ t.name)

instance (outs : List OutAsm) : Decidable (MergeDisjoint outs) := by unfold MergeDisjoint; infer_instance

/-- nothing to check when at most one assembly is merged (the documented use: ONE other haplotype) -/
theorem mergeDisjoint_of_le_one (outs : List OutAsm)
    (h : (outs.filter (fun a => a.key ≠ some sPrimary ∧ a.curated)).length ≤ 1) : MergeDisjoint outs := by
  unfold MergeDisjoint
  generalize outs.filter (fun a => a.key ≠ some sPrimary ∧ a.curated) = l at h
  match l, h with
  | [], _ => exact List.Pairwise.nil
  | [a], _ => exact List.pairwise_singleton _ _
  | _ :: _ :: _, h => simp at h

theorem named_names_unique (outs : List OutAsm) (root version : Str) (named : List NamedAsm)
    (hn : nameAssemblies outs root version = .ok named)
    (hu : ∀ a ∈ outs, (a.scaffolds.map (·.name)).Nodup) (hm : HasKey outs (some sPrimary) → MergeDisjoint outs) :
    ∀ n ∈ named, (n.scaffolds.map (·.name)).Nodup := by
  intro n hnm
  have ho := C09.name_assemblies_curated_origin outs root version named hn n hnm
  cases hc : n.curated with
  | false =>
    obtain ⟨a, ha, _, _, e⟩ := ho.1 hc
    rw [e]; exact hu a ha
  | true =>
    rcases ho.2 hc with ⟨a, ha, _, e⟩ | ⟨hp, _, e⟩ | ⟨_, _, _, a, ha, _, e⟩
    · rw [e]; exact hu a ha
    · rw [e]
      exact nodup_flatMap_names _ (fun a ha => hu a (List.mem_filter.mp ha).1) (hm hp)
    · rw [e]; exact hu a ha

/-- **F2.**  Under the hypotheses of `C10.remap_names_unique` (`NamesOutsideGenerated`, `TaggedOneHaplotype`) and, in the
    `Primary` branch, `MergeDisjoint`: in every written FASTA file the scaffold names — which by F1 are the record
    names, in order — are pairwise different; so are the record names read back from the file. -/
theorem cli_fasta_record_names_unique {w : Int} (hw : 1 ≤ w)
    (R : FastaRun file idx resOf input ptx prefix_ joinGap err outs stats root version suffix named)
    (H : C10.NamesOutsideGenerated input ptx prefix_) (HT : C10.TaggedOneHaplotype input ptx)
    (hm : HasKey outs (some sPrimary) → MergeDisjoint outs) :
    ∀ n ∈ namedDict named,
      (n.scaffolds.map (·.name)).Nodup ∧
      ((∀ sc ∈ n.scaffolds, '\n' ∉ sc.name) →
        (∀ F ∈ C01.inputFrags input, CleanBytes (slice (resOf F.name) F.start F.stop)) →
        (fastaRecordNames (fastaOf w resOf n.scaffolds)).Nodup) := by
  intro n hn
  have hu := C10.remap_names_unique input ptx prefix_ joinGap err outs stats R.remapped H HT
  have hnd := named_names_unique outs root version named R.renamed hu hm n (namedDict_mem named n hn)
  refine ⟨hnd, fun hnl hclean => ?_⟩
  have := ((cli_fasta_records_are_scaffolds (bs := 1) (Int.le_refl 1) hw R).2 n hn).2 hnl hclean
  rw [this]
  have e : n.scaffolds.map (fun sc => strToBytes sc.name) = (n.scaffolds.map (·.name)).map strToBytes := by
    rw [List.map_map]; rfl
  rw [e]; exact nodup_map_strToBytes _ hnd

/-- the same with the other two forms of clause 7 of C10: haplotypes allowed on Contaminant / FalseDuplicate scaffolds
    when the name determines them -/
theorem cli_fasta_record_names_unique_named
    (R : FastaRun file idx resOf input ptx prefix_ joinGap err outs stats root version suffix named)
    (H : C10.NamesOutsideGenerated input ptx prefix_) (HN : C10.TaggedNamesGiveHaplotype input ptx)
    (hm : HasKey outs (some sPrimary) → MergeDisjoint outs) :
    ∀ n ∈ namedDict named, (n.scaffolds.map (·.name)).Nodup := fun n hn =>
  named_names_unique outs root version named R.renamed
    (C10.remap_names_unique_named input ptx prefix_ joinGap err outs stats R.remapped H HN) hm n
    (namedDict_mem named n hn)

/-! ## F3  the AGP beside the FASTA -/

/-- **F3.**  For every named assembly `n`: `format_agp` of the assembly object succeeds; the text written to
    `{name}{.curated}.agp` (`agpLinesOf n`, by F0) has no header line and is `AgpOf resOf n.scaffolds`: for the SAME scaffold list
    that was streamed to the `.fa`, in the same order, one line per row with the columns `agpCols` computes (object =
    scaffold name, component name / start / end / strand or gap length / type), tiling the object from 1 with parts
    1, 2, …, no empty span — and the LAST END of the object is the number of residues of the record written for that
    scaffold (`rowsBody resOf rows`).  So each AGP object length equals the record length; no scaffold is without rows,
    so every record has its AGP object (at least one line) and at least one residue. -/
theorem cli_agp_beside_fasta_same_rows
    (R : FastaRun file idx resOf input ptx prefix_ joinGap err outs stats root version suffix named) :
    ∀ n ∈ namedDict named,
      formatAgp { name := n.name, header := [], scaffolds := n.scaffolds, curated := n.curated } = .ok (agpLinesOf n) ∧
      AgpOf resOf n.scaffolds (agpLinesOf n) ∧
      ∀ sc ∈ n.scaffolds,
        ((rowsBody resOf sc.rows).length : Int) = sc.length ∧ sc.rows ≠ [] ∧ 1 ≤ sc.length := by
  intro n hn
  have h := agpLinesOf_spec file idx resOf n (fun sc hsc => (R.dictRows n hn sc hsc).1)
    (fun sc hsc => (R.dictRows n hn sc hsc).2)
  refine ⟨h.1, h.2, fun sc hsc => ?_⟩
  obtain ⟨a, ha, hsa⟩ := named_scaffold_origin outs root version named R.renamed n (namedDict_mem named n hn) sc hsc
  have hne := remap_rows_nonempty input ptx prefix_ joinGap err outs stats R.remapped a ha sc hsa
  refine ⟨?_, hne, rowsLength_pos sc.rows (fun r hr => ((R.dictRows n hn sc hsc).2 r hr).2) hne⟩
  exact record_length_eq_agp_length file idx resOf sc.rows (R.dictRows n hn sc hsc).1
    (fun g hg => by have := ((R.dictRows n hn sc hsc).2 _ hg).2; simp only [C06.RowStrict] at this; omega)

theorem agpOf_iff (scs : List Scaffold) (txt : List Str) :
    AgpOf resOf scs txt ↔
      ∃ bodies : List (List (List Str)),
        txt = (bodies.map (List.map C06.lineOfCols)).flatten ∧
        Forall2 (fun (s : Scaffold) colss => C06.agpCols s.name 0 0 s.rows = .ok colss ∧ colss.length = s.rows.length ∧
                    C06.ValidAgpLines true s.name 0 0 colss ((rowsBody resOf s.rows).length : Int)) scs bodies := Iff.rfl

/-- … and the text parses back (`parse_agp`) to the same scaffolds — names, rows, coordinates, strands, tags, gap lengths
    and types (`canonAssembly`: everything but Python object identity) — whenever the assembly is `WFAgp` (no tab in a
    name / tag / gap type, names non-empty and not starting with `#`, consecutive scaffolds differently named — which F2
    gives —, no scaffold without rows): `C05.agp_roundtrip` for the written file. -/
theorem cli_agp_parses_back
    (R : FastaRun file idx resOf input ptx prefix_ joinGap err outs stats root version suffix named)
    (n : NamedAsm) (hn : n ∈ namedDict named) (hwfa : WFAgp (asmOfNamed n)) :
    parseAgp (agpLinesOf n) = .ok (canonAssembly (asmOfNamed n)) := by
  obtain ⟨lines, h1, h2⟩ := C05.agp_roundtrip (asmOfNamed n) hwfa
  have := (cli_agp_beside_fasta_same_rows R n hn).1
  change formatAgp (asmOfNamed n) = _ at this
  rw [this] at h1
  cases h1
  exact h2

/-! ## F5  the written FASTA read back by the tool's own indexer -/

/-- **F5.**  `FastaIndex` (the model's `indexFasta`, any buffer size `bs'`) run on a written FASTA file whose scaffold
    names are plain (`PlainName`: non-empty, ASCII, no whitespace — what a header line carries unchanged):
    * if the names are pairwise different (F2) and there is at least one scaffold, indexing SUCCEEDS and the index lists,
      in order, exactly the scaffold names, each with the scaffold length the AGP beside the file ends the object at
      (`Scaffold.length`): record set, order and lengths as the tool itself reads them;
    * if two scaffolds share a name (the finding below), indexing FAILS with `ValueError` — the tool cannot read the
      file it wrote. -/
theorem cli_fasta_reindexes {w : Int} (hw : 1 ≤ w) (bs' : Int)
    (R : FastaRun file idx resOf input ptx prefix_ joinGap err outs stats root version suffix named)
    (hclean : ∀ F ∈ C01.inputFrags input, CleanBytes (slice (resOf F.name) F.start F.stop))
    (n : NamedAsm) (hn : n ∈ namedDict named) (hplain : ∀ sc ∈ n.scaffolds, PlainName sc.name) :
    (n.scaffolds ≠ [] → (n.scaffolds.map (·.name)).Nodup →
      ∃ st, indexFasta (bLines (fastaOf w resOf n.scaffolds)) bs' = .ok st ∧
        st.idx.map (fun e => (e.1, e.2.length)) = n.scaffolds.map (fun sc => (sc.name, sc.length))) ∧
    (¬ (n.scaffolds.map (·.name)).Nodup →
      indexFasta (bLines (fastaOf w resOf n.scaffolds)) bs' = .error .value) := by
  obtain ⟨w, rfl⟩ := Int.eq_ofNat_of_zero_le (Int.le_trans (by decide) hw)
  have hb := R.cleanBodies hclean n hn
  refine ⟨fun hne hnd => ?_, fun hdup => fastaOf_reindex_fails bs' w (by omega) resOf n.scaffolds hplain hdup hb⟩
  obtain ⟨st, e, hi⟩ := fastaOf_reindexes bs' w (by omega) resOf n.scaffolds hne hplain hnd hb
  refine ⟨st, e, ?_⟩
  rw [hi]
  apply List.map_congr_left
  intro sc hsc
  rw [((cli_agp_beside_fasta_same_rows R n hn).2.2 sc hsc).1]

/-! ## F4  every base of every input record, across all files -/

/-- the `(contig name, start, end)` triples of the fragment rows behind all records of all FASTA files -/
def writtenTriples (l : List NamedAsm) : List Key :=
  (l.flatMap (·.scaffolds)).flatMap (fun s => C01.keysOf s.rows)

/-- **F4.**  When no assembly is lost in the `name_assemblies` dict (no output key is literally `additional_haplotigs` /
    `all_haplotigs`: otherwise an assembly is replaced — finding recorded in `Properties/C16Plan.lean`):
    the dict holds every named assembly, and over ALL FASTA files written the fragment rows behind the records contain
    base `x` of contig `n` exactly as often as the input's contig fragments do: once for every base of every input
    fragment, never otherwise. -/
theorem cli_every_base_of_every_record
    (R : FastaRun file idx resOf input ptx prefix_ joinGap err outs stats root version suffix named)
    (hadd : ¬ HasKey outs (some "additional_haplotigs".toList)) (hall : ¬ HasKey outs (some "all_haplotigs".toList)) :
    namedDict named = named ∧
    (∀ n x, (writtenTriples (namedDict named)).countP (C01.coversK n x) =
        ((C01.inputFrags input).map Fragment.keyTuple).countP (C01.coversK n x)) ∧
    (∀ F ∈ C01.inputFrags input, ∀ x, F.start ≤ x → x ≤ F.stop →
        (writtenTriples (namedDict named)).countP (C01.coversK F.name x) = 1) ∧
    (∀ n x, (∀ F ∈ C01.inputFrags input, ¬ (F.name = n ∧ F.start ≤ x ∧ x ≤ F.stop)) →
        (writtenTriples (namedDict named)).countP (C01.coversK n x) = 0) := by
  obtain ⟨_, _, hkeys, _⟩ := C09.remap_routes_store input ptx prefix_ joinGap err outs stats R.remapped
  have hd : namedDict named = named :=
    namedDict_of_nodup named (C09.name_assemblies_keys_distinct outs root version named R.renamed hkeys hadd hall)
  have hperm : (writtenTriples named).Perm (C01.outputTriples outs) :=
    List.Perm.flatMap_right _ (C09.name_assemblies_conserves outs root version named R.renamed).1
  have hcount : ∀ n x, (writtenTriples named).countP (C01.coversK n x) =
      ((C01.inputFrags input).map Fragment.keyTuple).countP (C01.coversK n x) := by
    intro n x
    rw [hperm.countP_eq]
    exact (C01.remap_partitions input ptx prefix_ joinGap err outs stats R.wf R.remapped).1 n x
  rw [hd]
  refine ⟨rfl, hcount, ?_, ?_⟩
  · intro F hF x h1 h2
    rw [hperm.countP_eq]
    exact C01.remap_exactly_once input ptx prefix_ joinGap err outs stats R.wf R.remapped F hF x h1 h2
  · intro n x hno
    rw [hcount, List.countP_eq_zero]
    intro k hk
    obtain ⟨F, hF, rfl⟩ := List.mem_map.mp hk
    intro hc
    simp only [C01.coversK, decide_eq_true_eq] at hc
    exact hno F hF hc

/-- **F4, byte level.**  Take any record of any written FASTA: scaffold `sc` of the named assembly `n`, rows
    `pre ++ [f] ++ post` with `f` a fragment row.  Base `x` of `f` (`f.start ≤ x ≤ f.stop`, 1-based position in the input
    record called `f.name`) is the byte at offset `|body of pre| + offsetInRow f x` of the record's sequence — as itself when
    `f` is a forward row, as its IUPAC complement when `f` is a minus row.  (`offsetInRow f x` = `x - f.start`, resp.
    `f.stop - x`.)  Together with `cli_every_base_of_every_record`: every residue of every input record appears in
    exactly one record. -/
theorem cli_record_holds_residue
    (R : FastaRun file idx resOf input ptx prefix_ joinGap err outs stats root version suffix named)
    (n : NamedAsm) (hn : n ∈ namedDict named) (sc : Scaffold) (hsc : sc ∈ n.scaffolds)
    (pre post : List Row) (f : Fragment) (hrows : sc.rows = pre ++ Row.frag f :: post)
    (x : Int) (h1 : f.start ≤ x) (h2 : x ≤ f.stop) :
    (∃ F ∈ C01.inputFrags input, F.name = f.name ∧ F.start ≤ f.start ∧ f.stop ≤ F.stop) ∧
    1 ≤ x ∧ x ≤ (resOf f.name).length ∧
    (rowsBody resOf sc.rows)[(rowsBody resOf pre).length + offsetInRow f x]? =
      if f.strand = -1 then ((resOf f.name)[(x - 1).toNat]?).map comp else (resOf f.name)[(x - 1).toNat]? := by
  have hmem : Row.frag f ∈ sc.rows := by rw [hrows]; simp
  obtain ⟨info, _, _, a0, _, a3⟩ := (R.dictRows n hn sc hsc).1 _ hmem
  obtain ⟨a, ha, hsa⟩ := named_scaffold_origin outs root version named R.renamed n (namedDict_mem named n hn) sc hsc
  obtain ⟨F, hF, hFn, b1, _, b2⟩ :=
    remap_frag_origin input ptx prefix_ joinGap err outs stats R.wf R.remapped a ha sc hsa f hmem
  refine ⟨⟨F, hF, hFn, b1, b2⟩, by omega, by omega, ?_⟩
  rw [hrows]
  exact rowsBody_residue resOf pre post f x a0 h1 h2 a3

end

/-! ## FASTA in: the input hypotheses discharged

  `pretext-to-asm` writes FASTA only when the input assembly was read from a FASTA (`if not fai: … sys.exit(1)`), so
  the input is always the assembly `index_fasta_file` derives.  For a file of well-formed records (`Rec.WF`, C04) with
  distinct names and a uniform line width per record (`Uniform`, what `sequence_bytes` needs, C04 `random_access`) that
  assembly satisfies `wf`, `within` and `strict` (Proofs/C03CliFasta.lean), and the join gap is the CLI's. -/

/-- `Gap(200, "scaffold")`, the `default_gap` of the CLI's `BuildAssembly` -/
def cliJoinGap : Gap := { length := Gen.joinGapLength, gapType := Gen.joinGapType }

/-- **FASTA in.**  Indexing succeeds (any buffer size) and EVERY completed run on the derived assembly — any Pretext
    assembly, prefix, texel size, output root / version, any suffix `parse_output_file` can return — is a `FastaRun`;
    moreover the derived fragments address only `ACGTacgt` bytes (hypothesis of F1 (b) / F2). -/
theorem fasta_input_run (bs : Int) (recs : List Rec) (hne : recs ≠ []) (hwf : ∀ r ∈ recs, r.WF)
    (hnd : (recs.map Rec.name).Nodup) (hu : ∀ r ∈ recs, ∃ w, Uniform w r.lines) :
    ∃ st, indexFasta (bLines (fileOf recs)) bs = .ok st ∧
      (∀ F ∈ C01.inputFrags st.scaffolds, CleanBytes (slice (resOfRecs recs F.name) F.start F.stop)) ∧
      ∀ (ptx : List Scaffold) (prefix_ : Str) (err : Int) (outs : List OutAsm) (stats : Stats)
        (root version suffix : Str) (named : List NamedAsm),
        remap st.scaffolds ptx prefix_ (some cliJoinGap) err = .ok (outs, stats) →
        nameAssemblies outs root version = .ok named → SuffixOk .FASTA suffix →
        FastaRun (fileOf recs) st.idx (resOfRecs recs) st.scaffolds ptx prefix_ (some cliJoinGap) err outs stats
          root version suffix named := by
  obtain ⟨st, e, h1, h2, h3, h4, _⟩ := fasta_input_ok bs recs hne hwf hnd hu
  refine ⟨st, e, h4, ?_⟩
  intro ptx prefix_ err outs stats root version suffix named hr hn hs
  exact ⟨hr, hn, h1, h2, h3, fun g hg => by cases hg; exact C06.cli_join_gap_strict, hs⟩

/-- **FASTA in, FASTA + AGP out** (F0, F1, F3 composed; no hypothesis on rows left).  For such a FASTA, any Pretext
    assembly, prefix and texel size, an `--output` name that `parse_output_file` accepts as FASTA: whenever remapping
    and `name_assemblies` complete, `write_assemblies` never fails and writes exactly, per named assembly in dict order,
    the `.fa` with one record per scaffold in scaffold order and beside it the header-less `.agp` of the same scaffolds
    whose objects end at the residue counts of the records; record names read back from the `.fa` are the scaffold names
    (when these contain no LF). -/
theorem fasta_cli_end_to_end (bs : Int) (recs : List Rec) (hne : recs ≠ []) (hwf : ∀ r ∈ recs, r.WF)
    (hnd : (recs.map Rec.name).Nodup) (hu : ∀ r ∈ recs, ∃ w, Uniform w r.lines) (hbs : 1 ≤ bs)
    {w : Int} (hw : 1 ≤ w) :
    ∃ st, indexFasta (bLines (fileOf recs)) bs = .ok st ∧
      ∀ (ptx : List Scaffold) (prefix_ : Str) (err : Int) (outs : List OutAsm) (stats : Stats)
        (outName root version suffix : Str) (named : List NamedAsm),
        remap st.scaffolds ptx prefix_ (some cliJoinGap) err = .ok (outs, stats) →
        parseOutputFile outName = .ok (.FASTA, root, version, suffix) →
        nameAssemblies outs root version = .ok named →
        cliWrittenFiles (fileOf recs) st.idx bs w outs root version suffix =
          .ok ((namedDict named).flatMap (specFilesOf w (resOfRecs recs) suffix)) ∧
        ∀ n ∈ namedDict named,
          ((∀ sc ∈ n.scaffolds, '\n' ∉ sc.name) →
            fastaRecordNames (fastaOf w (resOfRecs recs) n.scaffolds) = n.scaffolds.map (fun sc => strToBytes sc.name)) ∧
          formatAgp { name := n.name, header := [], scaffolds := n.scaffolds, curated := n.curated } = .ok (agpLinesOf n) ∧
          AgpOf (resOfRecs recs) n.scaffolds (agpLinesOf n) := by
  obtain ⟨st, e, hclean, hrun⟩ := fasta_input_run bs recs hne hwf hnd hu
  refine ⟨st, e, ?_⟩
  intro ptx prefix_ err outs stats outName root version suffix named hr hp hn
  have R := hrun ptx prefix_ err outs stats root version suffix named hr hn
    (parseOutputFile_suffix outName .FASTA root version suffix hp).1
  have h1 := cli_fasta_records_are_scaffolds hbs hw R
  refine ⟨h1.1, fun n hnm => ⟨fun hnl => (h1.2 n hnm).2 hnl hclean, ?_, ?_⟩⟩
  · exact (cli_agp_beside_fasta_same_rows R n hnm).1
  · exact (cli_agp_beside_fasta_same_rows R n hnm).2.1

/-! ## non-vacuity: a 2-record FASTA, a map with one cut and one haplotig

  `>a LF AACCGG LF TTACGA LF` and `>b desc CRLF GGGTTTAA CRLF`; Pretext: `Scaffold_1` = a:1-7 (+), `Scaffold_2` =
  a:8-12 (−) — the contig `a` is cut between bases 7 and 8 —, both painted; `Scaffold_3` = b:1-8 tagged `Haplotig`.
  Texel size 1, buffer size 3, line width 4, `--output x.fa`.
  REAL CLI (scratch run, line width 60): `x.1.primary.curated.fa` = `>SUPER_1 / AACCGGT / >SUPER_2 / TCGTA`,
  `x.1.primary.curated.agp` = the two lines below, `x.1.additional_haplotigs.curated.fa` = `>H_1 / GGGTTTAA`, `….agp` =
  `H_1 1 8 1 W b 1 8 +` — the same records, rows and lengths. -/

open scoped AgpTpf.ImpEval

private def bytesOf (s : String) : Bytes := s.toList.map Char.toNat

def exRecA : Rec := { hdr := [97], le := [10], lines := [[65, 65, 67, 67, 71, 71], [84, 84, 65, 67, 71, 65]] }
def exRecB : Rec := { hdr := [98, 32, 100, 101, 115, 99], le := [13, 10], lines := [[71, 71, 71, 84, 84, 84, 65, 65]] }
def exRecs : List Rec := [exRecA, exRecB]
def exMap : List Scaffold :=
  [{ name := "Scaffold_1".toList,
     rows := [.frag { oid := 50, name := ['a'], start := 1, stop := 7, strand := 1, tags := [sPainted] }] },
   { name := "Scaffold_2".toList,
     rows := [.frag { oid := 51, name := ['a'], start := 8, stop := 12, strand := -1, tags := [sPainted] }] },
   { name := "Scaffold_3".toList,
     rows := [.frag { oid := 52, name := ['b'], start := 1, stop := 8, strand := 1, tags := [sHaplotig] }] }]

theorem exRecs_ok : exRecs ≠ [] ∧ (∀ r ∈ exRecs, r.WF) ∧ (exRecs.map Rec.name).Nodup ∧
    (∀ r ∈ exRecs, ∃ w, Uniform w r.lines) := by
  refine ⟨by simp [exRecs], ?_, by decide, ?_⟩
  · intro r hr
    simp only [exRecs, List.mem_cons, List.not_mem_nil, or_false] at hr
    rcases hr with rfl | rfl
    · exact ⟨Or.inl ⟨rfl, by decide⟩, by decide, by decide, by decide, by decide⟩
    · exact ⟨Or.inr rfl, by decide, by decide, by decide, by decide⟩
  · intro r hr
    simp only [exRecs, List.mem_cons, List.not_mem_nil, or_false] at hr
    rcases hr with rfl | rfl
    · exact ⟨6, Or.inr ⟨[[65, 65, 67, 67, 71, 71]], [84, 84, 65, 67, 71, 65], rfl, by decide, by decide, by decide⟩⟩
    · exact ⟨8, Or.inr ⟨[], [71, 71, 71, 84, 84, 84, 65, 65], rfl, by decide, by decide, by decide⟩⟩

theorem ex_parse : parseOutputFile "x.fa".toList = .ok (.FASTA, ['x'], ['1'], ".fa".toList) := by
  str_lits
  decide

example : parseOutputFile "x.fa".toList = .ok (.FASTA, ['x'], ['1'], ".fa".toList) := ex_parse

/-- the assembly `index_fasta_file` derives from the two records -/
def exInput : List Scaffold :=
  [{ name := ['a'], rows := [.frag { oid := 0, name := ['a'], start := 1, stop := 12, strand := 1 }] },
   { name := ['b'], rows := [.frag { oid := 1, name := ['b'], start := 1, stop := 8, strand := 1 }] }]

def exRecsIdx : List (Str × FastaInfo) :=
  [(['a'], { length := 12, fileOffset := 3, rpl := 6, mll := 7 }), (['b'], { length := 8, fileOffset := 26, rpl := 8, mll := 10 })]

theorem ex_index :
    (indexFasta (bLines (fileOf exRecs)) 3).toOption.map (fun st => (st.scaffolds, st.idx)) = some (exInput, exRecsIdx) := by
  decide +kernel

-- instance search does not find `DecidableEq` of the pair of views below on its own (it runs into its size limit)
local instance : DecidableEq (List (Str × FileContent)) := inferInstance

/-- the rest of the run evaluated on them — remap, `name_assemblies`, `write_assemblies`: the assemblies (no `Primary`
    key) and the four files written -/
theorem ex_written_files :
    (remap exInput exMap "SUPER_".toList (some cliJoinGap) 1).toOption.map (fun r =>
      (r.1.map (fun a => (a.key, a.scaffolds.map (·.name))),
       (cliWrittenFiles (fileOf exRecs) exRecsIdx 3 4 r.1 ['x'] ['1'] ".fa".toList).toOption)) =
    some ([(none, ["SUPER_1".toList, "SUPER_2".toList]), (some sHaplotig, ["H_1".toList])],
      some [("x.1.primary.curated.fa".toList, .bytes (bytesOf ">SUPER_1\nAACC\nGGT\n>SUPER_2\nTCGT\nA\n")),
            ("x.1.primary.curated.agp".toList,
               .text ["SUPER_1\t1\t7\t1\tW\ta\t1\t7\t+\tCut\n".toList, "SUPER_2\t1\t5\t1\tW\ta\t8\t12\t-\tCut\n".toList]),
            ("x.1.additional_haplotigs.curated.fa".toList, .bytes (bytesOf ">H_1\nGGGT\nTTAA\n")),
            ("x.1.additional_haplotigs.curated.agp".toList, .text ["H_1\t1\t8\t1\tW\tb\t1\t8\t+\n".toList])]) := by
  simp only [exMap, bytesOf]
  str_lits
  decide +kernel

/-- the hypotheses of all theorems above hold for this run: a `FastaRun` exists, on `exInput`, and no assembly has the
    key `Primary` -/
theorem ex_run : ∃ st outs stats named,
    indexFasta (bLines (fileOf exRecs)) 3 = .ok st ∧ st.scaffolds = exInput ∧ outs.map (·.key) = [none, some sHaplotig] ∧
    FastaRun (fileOf exRecs) st.idx (resOfRecs exRecs) st.scaffolds exMap "SUPER_".toList (some cliJoinGap) 1 outs stats
      ['x'] ['1'] ".fa".toList named := by
  obtain ⟨h1, h2, h3, h4⟩ := exRecs_ok
  obtain ⟨st, e, _, hrun⟩ := fasta_input_run 3 exRecs h1 h2 h3 h4
  obtain ⟨st', e', hv⟩ := ok_of_view ex_index
  obtain rfl : st = st' := Except.ok.inj (e.symm.trans e')
  obtain ⟨hsc, -⟩ := Prod.mk.inj hv
  -- the evaluated run shows that `remap` and `name_assemblies` complete
  obtain ⟨r, hr, hw⟩ := ok_of_view ex_written_files
  obtain ⟨hk, hf⟩ := Prod.mk.inj hw
  have hk := congrArg (List.map Prod.fst) hk
  rw [List.map_map] at hk
  cases hn : nameAssemblies r.1 ['x'] ['1'] with
  | error err => rw [cliWrittenFiles, hn] at hf; cases hf
  | ok named =>
    exact ⟨st, r.1, r.2, named, e, hsc, hk, hrun exMap "SUPER_".toList 1 r.1 r.2 ['x'] ['1'] ".fa".toList named
      (by rw [hsc, hr]) hn (parseOutputFile_suffix "x.fa".toList .FASTA ['x'] ['1'] ".fa".toList ex_parse).1⟩

/-- the name hypotheses of F2 hold for this run as well -/
theorem ex_name_hypotheses :
    C10.NamesOutsideGenerated exInput exMap "SUPER_".toList ∧ C10.TaggedOneHaplotype exInput exMap := by
  rw [C10.namesOutsideGenerated_iff, C10.taggedOneHaplotype_iff]
  decide +kernel

/-- F2 instantiated: all its hypotheses hold together for the example run (no `Primary` key: `MergeDisjoint` is not asked for) -/
theorem ex_names_unique : ∃ st outs stats named,
    indexFasta (bLines (fileOf exRecs)) 3 = .ok st ∧
    FastaRun (fileOf exRecs) st.idx (resOfRecs exRecs) st.scaffolds exMap "SUPER_".toList (some cliJoinGap) 1 outs stats
      ['x'] ['1'] ".fa".toList named ∧
    ∀ n ∈ namedDict named, (n.scaffolds.map (·.name)).Nodup := by
  obtain ⟨st, outs, stats, named, e, hsc, hk, R⟩ := ex_run
  refine ⟨st, outs, stats, named, e, R, fun n hn => ?_⟩
  have H := ex_name_hypotheses
  rw [← hsc] at H
  refine (cli_fasta_record_names_unique (w := 4) (by decide) R H.1 H.2 ?_ n hn).1
  rintro ⟨a, ha, hka⟩
  have hm : a.key ∈ outs.map (·.key) := List.mem_map_of_mem ha
  rw [hk, hka] at hm
  exact absurd hm (by decide)

example : PlainName "SUPER_1".toList ∧ PlainName "H_1".toList ∧ ¬ PlainName "a b".toList ∧ ¬ PlainName [] := by
  str_lits
  decide

/-- no `Primary` assembly in this run: `MergeDisjoint` is not asked for -/
example : (remap exInput exMap "SUPER_".toList (some cliJoinGap) 1).toOption.map
    (fun r => r.1.map (fun a => (a.key, a.scaffolds.map (·.name)))) =
    some [(none, ["SUPER_1".toList, "SUPER_2".toList]), (some sHaplotig, ["H_1".toList])] :=
  (views_of_pair ex_written_files).1

/-! ## FINDING: `all_haplotigs` can hold two records with the same name

  F2 without `MergeDisjoint` is FALSE.  `name_assemblies`' `Primary` branch concatenates ALL other curated assemblies
  (`merge_assemblies`) into one `all_haplotigs` assembly; scaffold names are unique only WITHIN each of them (C10): every
  haplotype numbers its chromosomes `SUPER_1, SUPER_2, …` and homologous chromosomes share their name tag.  With two or
  more merged assemblies (a third haplotype, or painted scaffolds without haplotype next to a second haplotype) the
  merged FASTA gets several records called `SUPER_1`, and the AGP beside it lists the object `SUPER_1` twice, each time
  from position 1 / part 1 — which `parse_agp` reads back as ONE scaffold.

  Witness (three haplotypes named in the FASTA headers, `Scaffold_1` tagged `Primary`, all three painted):
  every other hypothesis of F2 holds.  REAL CLI (scratch run of `/venv/bin/pretext-to-asm -a in.fa -p ptx.agp -o x.fa` on
  exactly this input): exit 0, no warning, `x.1.all_haplotigs.curated.fa` = `>SUPER_1 / GGGTTTAAC / >SUPER_1 / TTGGCCAA`,
  `x.1.all_haplotigs.curated.agp` = the two lines below — the model's output up to the line width.  Also reproduced with
  two haplotypes + a painted scaffold without haplotype (`HAP1_…` Primary, `HAP2_…`, `scaffold_3`). -/

def dupRecs : List Rec :=
  [{ hdr := bytesOf "HAP1_SCAFFOLD_1", le := [10], lines := [bytesOf "ACGTACGTAC"] },
   { hdr := bytesOf "HAP2_SCAFFOLD_1", le := [10], lines := [bytesOf "GGGTTTAAC"] },
   { hdr := bytesOf "HAP3_SCAFFOLD_1", le := [10], lines := [bytesOf "TTGGCCAA"] }]

def dupInput : List Scaffold :=
  [{ name := "HAP1_SCAFFOLD_1".toList,
     rows := [.frag { oid := 0, name := "HAP1_SCAFFOLD_1".toList, start := 1, stop := 10, strand := 1 }] },
   { name := "HAP2_SCAFFOLD_1".toList,
     rows := [.frag { oid := 1, name := "HAP2_SCAFFOLD_1".toList, start := 1, stop := 9, strand := 1 }] },
   { name := "HAP3_SCAFFOLD_1".toList,
     rows := [.frag { oid := 2, name := "HAP3_SCAFFOLD_1".toList, start := 1, stop := 8, strand := 1 }] }]

def dupMap : List Scaffold :=
  [{ name := "Scaffold_1".toList,
     rows := [.frag { oid := 50, name := "HAP1_SCAFFOLD_1".toList, start := 1, stop := 10, strand := 1,
                      tags := [sPainted, sPrimary] }] },
   { name := "Scaffold_2".toList,
     rows := [.frag { oid := 51, name := "HAP2_SCAFFOLD_1".toList, start := 1, stop := 9, strand := 1, tags := [sPainted] }] },
   { name := "Scaffold_3".toList,
     rows := [.frag { oid := 52, name := "HAP3_SCAFFOLD_1".toList, start := 1, stop := 8, strand := 1, tags := [sPainted] }] }]

def dupAgpLines : List Str :=
  ["SUPER_1\t1\t9\t1\tW\tHAP2_SCAFFOLD_1\t1\t9\t+\n".toList, "SUPER_1\t1\t8\t1\tW\tHAP3_SCAFFOLD_1\t1\t8\t+\n".toList]

private def dupRecsC : Decoded dupRecs := ⟨_, by unfold dupRecs; simp only [bytesOf]; str_lits; exact rfl⟩
private def dupMapC : Decoded dupMap := ⟨_, by unfold dupMap; str_lits; exact rfl⟩
private def dupInputC : Decoded dupInput := ⟨_, by unfold dupInput; str_lits; exact rfl⟩
private def dupAgpC : Decoded dupAgpLines := ⟨_, by unfold dupAgpLines; str_lits; exact rfl⟩

/-- **finding.**  (i) the files the run writes: `x.1.all_haplotigs.curated.fa` has two records `>SUPER_1`, the AGP beside
    it two objects `SUPER_1`; (ii) read back, the record names are `SUPER_1, SUPER_1`, and the tool's own `FastaIndex`
    rejects the file (`ValueError: More than one sequence named 'SUPER_1'`; real code: the same); (iii) `parse_agp` of the written
    AGP yields ONE scaffold `SUPER_1` with two rows; (iv) the input is the FASTA-derived assembly and satisfies `WFInput`,
    `NamesOutsideGenerated`, `TaggedOneHaplotype` — every hypothesis of F2 but `MergeDisjoint`, which fails. -/
theorem merged_all_haplotigs_duplicate_names :
    (indexFasta (bLines (fileOf dupRecs)) 3).toOption.bind (fun st =>
      (remap st.scaffolds dupMap "SUPER_".toList (some cliJoinGap) 1).toOption.bind (fun r =>
        (cliWrittenFiles (fileOf dupRecs) st.idx 3 4 r.1 ['x'] ['1'] ".fa".toList).toOption)) =
      some [("x.1.primary.curated.fa".toList, .bytes (bytesOf ">SUPER_1\nACGT\nACGT\nAC\n")),
            ("x.1.primary.curated.agp".toList, .text ["SUPER_1\t1\t10\t1\tW\tHAP1_SCAFFOLD_1\t1\t10\t+\n".toList]),
            ("x.1.all_haplotigs.curated.fa".toList, .bytes (bytesOf ">SUPER_1\nGGGT\nTTAA\nC\n>SUPER_1\nTTGG\nCCAA\n")),
            ("x.1.all_haplotigs.curated.agp".toList, .text dupAgpLines)] ∧
    fastaRecordNames (bytesOf ">SUPER_1\nGGGT\nTTAA\nC\n>SUPER_1\nTTGG\nCCAA\n") = [bytesOf "SUPER_1", bytesOf "SUPER_1"] ∧
    indexFasta (bLines (bytesOf ">SUPER_1\nGGGT\nTTAA\nC\n>SUPER_1\nTTGG\nCCAA\n")) 3 = .error .value ∧
    (parseAgp dupAgpLines).toOption.map (fun a => a.scaffolds.map (fun s => (s.name, s.rows.length))) =
      some [("SUPER_1".toList, 2)] ∧
    (indexFasta (bLines (fileOf dupRecs)) 3).toOption.map (·.scaffolds) = some dupInput ∧
    C01.WFInput dupInput ∧ C10.NamesOutsideGenerated dupInput dupMap "SUPER_".toList ∧
    C10.TaggedOneHaplotype dupInput dupMap ∧
    (remap dupInput dupMap "SUPER_".toList (some cliJoinGap) 1).toOption.map
        (fun r => r.1.map (fun a => (a.key, a.scaffolds.map (·.name)))) =
      some [(some sPrimary, ["SUPER_1".toList]), (some "HAP2".toList, ["SUPER_1".toList]),
            (some "HAP3".toList, ["SUPER_1".toList])] ∧
    (remap dupInput dupMap "SUPER_".toList (some cliJoinGap) 1).toOption.map (fun r => decide (MergeDisjoint r.1)) =
      some false := by
  rewrite [dupRecsC.2, dupMapC.2, dupInputC.2, dupAgpC.2]
  simp only [bytesOf]
  str_lits
  -- the last two are views of one run of `remap`
  refine ⟨by decide +kernel, by decide +kernel, by rfl, by decide +kernel, by decide +kernel, by decide +kernel, ?_, ?_,
    views_of_pair (by decide +kernel)⟩
  · rw [C10.namesOutsideGenerated_iff]; decide +kernel
  · rw [C10.taggedOneHaplotype_iff]; decide +kernel

/-- … while with ONE merged assembly (the documented use of the `Primary` tag) `MergeDisjoint` is automatic -/
example : MergeDisjoint [{ key := some sPrimary, curated := true, scaffolds := [{ name := "SUPER_1".toList }] },
                         { key := some "HAP2".toList, curated := true, scaffolds := [{ name := "SUPER_1".toList }] },
                         { key := some sContaminant, curated := false, scaffolds := [{ name := "c".toList }] }] :=
  mergeDisjoint_of_le_one _ (by decide)

end AgpTpf.C03
