/-
  C01 — Remapping conserves sequence: the outputs exactly partition the input contigs.

  The end-to-end theorem `remap_partitions` (for an input satisfying the decidable well-formedness predicate `WFInput`,
  and ANY Pretext assembly: whenever `remap` completes, the `(name,start,end)` triples of all output scaffolds cover
  every base of every input contig exactly once, nothing else, and each is a sub-interval of an input fragment) is
  proved in stages, each stated at full strength here:

    S1  `qc_tiles`               the cut QC (`qc_sub_fragments`) passing ⇒ the sub-fragments, sorted, abut consecutively on
                                 one contig, their lengths sum to the original's, and — when they lie inside the original
                                 (S2) — every base of the original is in exactly one sub-fragment, no base outside is covered.
    S2  `trim_within`            `trim_fragment` only ever shrinks: the new fragment is a valid sub-interval of the trimmed
                                 one, same contig name and strand, for ARBITRARY overhang values.
    S1+S2 `cut_fragments_tiles`  whenever `cut_fragments` returns, the pieces it made tile the cut contig fragment exactly.
    S3  `fuse_fragments`         `scaffolds_fused_by_name` conserves the multiset of `(name,start,end)` triples
        `fuse_gaps`              and only inserts the join gap / the input gap rows recorded with a left-over scaffold.
    S4  `missing_rows_exact`     the left-over scaffold holds exactly the input fragments not in `found`, in order, each once;
                                 separators are input gap rows out of the run of gaps in front of the fragment (all of them
                                 when only gaps separate two left-over contigs) or the join gap; no new adjacency.
    S5  `store_found_registers`  `store_fragments_found`: holder lists grow by exactly the occurrences, `multi` = keys with ≥ 2
                                 holders is an invariant.

    L1  `find_assembly_overlaps_registry`, `reg_after_find`   after `find_assembly_overlaps`: stored rows are contiguous
                                 runs of input rows, holder lists = exactly the stored results containing the key: the
                                 registry invariant `Reg` holds.
    L2  `reg_resolver_round`, `reg_discard_overhanging`   every round of the overhang resolver and the whole loop keep it
                                 (premises never go stale within a round: `Valid` in Proofs/C01MiddleResolve.lean).  This
                                 is where `WFInput` is needed: the registry is keyed by the triple, the resolver compares
                                 object identity.
    L3  `reg_cut`                `cutRemaining` turns "as many rows as holders" into "exactly one row per base".
    L4  `outputs_hold_store_and_leftovers`   whenever `remap` completes, the triples over all scaffolds of all output
                                 assemblies = triples of (stored results ∪ left-over scaffolds) of the build returned by
                                 `remap_to_input_assembly` (fusing / splitting / naming / sorting conserve).
-/
import AgpTpf.Proofs.C01Qc
import AgpTpf.Proofs.C01Store
import AgpTpf.Proofs.C01Missing
import AgpTpf.Proofs.C01Fuse
import AgpTpf.Proofs.C01Cut
import AgpTpf.Proofs.C07Lemmas
import AgpTpf.Proofs.C01Pipeline
import AgpTpf.Proofs.C01MiddleFinal
import AgpTpf.Proofs.Remap.Rows
namespace AgpTpf.C01
open AgpTpf
open AgpTpf.C07 (adjPairs)

/-! ## S1 — the cut QC implies an exact tiling -/

/-- `qc_sub_fragments` passing, for valid sub-fragments (which `Fragment.__init__` guarantees):
    * there is at least one sub-fragment; sorted by `(start, end)` they are a permutation of `subs` in which every
      element starts on the base after its predecessor ends, on the same contig;
    * the lengths sum to the original's length; all sub-fragments have one name;
    * IF every sub-fragment lies within `[f.start, f.stop]` (S2), then every base of `f` lies in exactly one
      sub-fragment and no base outside `f` lies in any. -/
theorem qc_tiles (f : Fragment) (subs : List Fragment) (hv : ∀ s ∈ subs, s.start ≤ s.stop)
    (h : qcPasses f subs = true) :
    subs ≠ [] ∧
    (sortedSubs subs).Perm subs ∧ AdjRel Follows (sortedSubs subs) ∧
    sumInts (subs.map Fragment.length) = f.length ∧
    (∀ s ∈ subs, ∀ t ∈ subs, s.name = t.name) ∧
    ((∀ s ∈ subs, f.start ≤ s.start ∧ s.stop ≤ f.stop) →
      ∀ x, coverCount subs x = if f.start ≤ x ∧ x ≤ f.stop then 1 else 0) :=
  qc_tiles_aux f subs hv h

/-- "exactly one" spelled out: inside `f` some sub-fragment contains the base, and any two sub-fragments (by position
    in `subs`) containing it are the same one -/
theorem qc_tiles_unique (f : Fragment) (subs : List Fragment) (hv : ∀ s ∈ subs, s.start ≤ s.stop)
    (h : qcPasses f subs = true) (hin : ∀ s ∈ subs, f.start ≤ s.start ∧ s.stop ≤ f.stop)
    (x : Int) (hx : f.start ≤ x ∧ x ≤ f.stop) :
    (∃ s ∈ subs, s.start ≤ x ∧ x ≤ s.stop) ∧
    ∀ (i j : Nat) (s t : Fragment), subs[i]? = some s → subs[j]? = some t →
      (s.start ≤ x ∧ x ≤ s.stop) → (t.start ≤ x ∧ x ≤ t.stop) → i = j :=
  coverCount_one_unique subs x (by rw [(qc_tiles f subs hv h).2.2.2.2.2 hin x, if_pos hx])

private def q0 : Fragment := { name := ['c'], start := 1, stop := 30, strand := 1 }
private def q1 : Fragment := { name := ['c'], start := 11, stop := 20, strand := 1 }
private def q2 : Fragment := { name := ['c'], start := 1, stop := 10, strand := 1 }
private def q3 : Fragment := { name := ['c'], start := 21, stop := 30, strand := 1 }
example : qcPasses q0 [q1, q2, q3] = true ∧ (∀ s ∈ [q1, q2, q3], s.start ≤ s.stop) ∧
    (∀ s ∈ [q1, q2, q3], q0.start ≤ s.start ∧ s.stop ≤ q0.stop) := by decide +kernel
/-- the QC does reject an overlap, a hole, and a piece that is too short -/
example : qcPasses q0 [q1, q2, { q3 with start := 20 }] = false ∧ qcPasses q0 [q2, q3] = false ∧
    qcPasses q0 [q1, q2, { q3 with stop := 29 }] = false := by decide +kernel

/-! ## S2 — trimming only shrinks -/

/-- `trim_fragment(trim, keep_start, keep_end)` returning: the fragment it creates lies within `trim`, is valid, and
    keeps contig name and strand — whatever `o.startOverhang` / `o.endOverhang` are (no hypothesis on `o`). -/
theorem trim_within (o : OverlapResult) (trim : Fragment) (ks ke : Bool) (oid : Nat)
    (o' : OverlapResult) (new : Fragment) (h : o.trimFragment trim ks ke oid = .ok (o', new)) :
    trim.start ≤ new.start ∧ new.stop ≤ trim.stop ∧ new.start ≤ new.stop ∧
    new.name = trim.name ∧ new.strand = trim.strand ∧ new.oid = oid :=
  trim_within_aux o trim ks ke oid o' new h

private def t0 : Fragment := { oid := 7, name := ['c'], start := 1, stop := 100, strand := 1 }
private def o0 : OverlapResult :=
  { bait := { name := ['c'], start := 41, stop := 80, strand := 1 }, start := 1, stop := 100, rows := [.frag t0] }
example : (o0.trimFragment t0 false false 9).toOption.map (fun p => (p.2.start, p.2.stop, p.2.oid)) = some (41, 80, 9) := by
  decide +kernel

/-! ## S1 + S2 — `cut_fragments` -/

/-- Whenever `cut_fragments` returns for a registry entry, the sub-fragments it created (one per holding result,
    exposed by the specification function `cutSubs`) tile the cut fragment exactly: each is a valid sub-interval of it
    on the same contig and strand, and every base of the fragment is in exactly one of them. -/
theorem cut_fragments_tiles (b b' : Build) (fnd : Found) (h : cutFragments b fnd = .ok b') :
    ∃ subs, cutSubs b fnd = .ok subs ∧ subs.length = fnd.scaffolds.length ∧
      b'.cuts = b.cuts + ((subs.length : Int) - 1) ∧
      (∀ s ∈ subs, fnd.fragment.start ≤ s.start ∧ s.stop ≤ fnd.fragment.stop ∧ s.start ≤ s.stop ∧
        s.name = fnd.fragment.name ∧ s.strand = fnd.fragment.strand) ∧
      ∀ x, coverCount subs x = if fnd.fragment.start ≤ x ∧ x ≤ fnd.fragment.stop then 1 else 0 := by
  obtain ⟨ordered, b1, subs, n, ho, hf, hq, rfl⟩ := Pipeline.cutFragments_ok h
  obtain ⟨hlen, hcuts, hall⟩ := cutLoop_pieces hf
  refine ⟨subs, ?_, ?_, ?_, hall, ?_⟩
  · unfold cutSubs
    rw [cutOrder_eq, cutStep_eq]
    simp only [bind, Except.bind, ho, hf]; rfl
  · rw [hlen]; exact Pipeline.holderOrder_length ho
  · simp only [hcuts]
  · exact (qc_tiles_aux fnd.fragment subs (fun s hs => (hall s hs).2.2.1) hq).2.2.2.2.2
      (fun s hs => ⟨(hall s hs).1, (hall s hs).2.1⟩)

/-! ## S3 — fusing conserves fragments -/

/-- The multiset of `(name, start, end)` triples over all fused scaffolds equals that of the rows of all results that
    were added to the build (`storeKeys`) together with all left-over scaffolds (`extraKeys`).
    (`to_scaffold` reverses row order and negates strands, so conservation is on triples.) -/
theorem fuse_fragments (b : Build) :
    ((fuseByName b).flatMap (fun s => keysOf s.rows)).Perm (storeKeys b.store ++ extraKeys b.extra) := by
  refine (Fuse.fuseByName_content keysOf rfl b fun it hit built => ?_).trans ?_
  · rcases Fuse.mem_fuseItems.1 hit with ⟨r, _, _, _, rfl⟩ | ⟨e, _, _, rfl⟩
    · exact (keysOf_appendRows built _ _).symm ▸ List.Perm.refl _
    · exact (keysOf_leftover_add _ built _ _).symm ▸ List.Perm.refl _
  · -- an empty part holds no triple; a stored result's rows come out reversed when its bait is on the minus strand
    rw [C09.fuseItems, List.flatMap_append, List.flatMap_map, List.flatMap_map]
    refine List.Perm.append ((flatMap_perm_mem _ _ _ fun r _ => keysOf_toScaffoldRows r.o).trans (List.Perm.of_eq ?_))
      (List.Perm.of_eq ?_)
    · refine flatMap_filter_eq _ (fun r : Res => keysOf r.o.rows) _ b.store fun r _ => ?_
      cases r.added <;> cases hr : r.o.rows <;> simp [keysOf, fragmentsOf]
    · refine flatMap_filter_eq _ (fun e : Scaffold × Option (Fragment × List Gap) => keysOf e.1.rows) _ b.extra fun e _ => ?_
      cases hr : e.1.rows <;> simp [keysOf, fragmentsOf]

/-- where a gap row of a fused scaffold can come from (a left-over scaffold records the LIST of input gap rows between
    its first contig and the predecessor contig; any of them may be re-inserted) -/
def GapSrc (b : Build) (g : Gap) : Prop :=
  (∃ r ∈ b.store, r.added = true ∧ Row.gap g ∈ r.o.rows) ∨
  (∃ e ∈ b.extra, Row.gap g ∈ e.1.rows) ∨
  b.joinGap = some g ∨
  (∃ e ∈ b.extra, ∃ prev gaps, e.2 = some (prev, gaps) ∧ g ∈ gaps)

/-- every gap row of a fused scaffold is a gap row of one of its parts, the join gap, or one of the input gap rows
    recorded with a left-over scaffold's predecessor; and no fused scaffold is empty -/
theorem fuse_gaps (b : Build) : ∀ s ∈ fuseByName b, (∀ g, Row.gap g ∈ s.rows → GapSrc b g) ∧ s.rows ≠ [] := by
  intro s hs
  refine ⟨fun g hg => ?_, (Fuse.fuseByName_all (fun _ => True) b (fun _ _ _ _ => ⟨trivial, fun _ _ _ => trivial⟩)
    (fun _ _ _ => ⟨trivial, fun _ _ _ => trivial⟩) s hs).2⟩
  generalize hx : Row.gap g = x at hg
  cases RemapRows.fuseByName_rows b s hs x hg with
  | stored hr ha _ h => subst hx; exact .inl ⟨_, hr, ha, (gap_mem_toScaffoldRows _ _).mp h⟩
  | leftover he h => subst hx; exact .inr (.inl ⟨_, he, h⟩)
  | join e => cases hx; exact .inr (.inr (.inl e))
  | pred he hp hg' => cases hx; exact .inr (.inr (.inr ⟨_, he, _, _, hp, hg'⟩))

private def jg : Gap := { length := 200, gapType := "scaffold".toList }
private def fa : Fragment := { oid := 1, name := ['a'], start := 1, stop := 10, strand := 1 }
private def fb : Fragment := { oid := 2, name := ['b'], start := 1, stop := 20, strand := 1 }
private def fc : Fragment := { oid := 3, name := ['c'], start := 1, stop := 5, strand := 1 }
private def bx : Build :=
  { namer := { autosomePrefix := [] }, nextOid := 4, joinGap := some jg, err := 1,
    store := [ { o := { bait := { fa with strand := -1 }, start := 1, stop := 10, rows := [.frag fa], name := ['S'] }, added := true },
               { o := { bait := fb, start := 1, stop := 20, rows := [.frag fb], name := ['S'] }, added := true } ],
    extra := [ ({ name := ['S'], rows := [.frag fc] }, none) ] }
/-- three parts with the same `(tag, haplotype, name)` key are fused into one scaffold with two join gaps -/
example : (fuseByName bx).map (·.rows) = [[.frag fa.reverse, .gap jg, .frag fb, .gap jg, .frag fc]] := by decide +kernel

/-! ## S4 — left-over rows -/

/-- `missingRows` returning `(out, first)` for one input scaffold's `rows`:
    * the fragments of `out` are exactly the fragments of `rows` whose key is not in `found`, in order, each once;
    * every gap row of `out` is an input gap row out of the run of gap rows directly in front of such a fragment, or the
      join gap (`GapOK`; when only gap rows separate two left-over contigs, ALL of them are kept);
    * no new adjacency: fragments directly adjacent in `out` were directly adjacent rows of `rows`;
    * `out` neither starts nor ends with a gap;
    * `first` is the row index of the first left-over fragment. -/
theorem missing_rows_exact (b : Build) (rows out : List Row) (first : Option Nat)
    (h : missingRows b rows = .ok (out, first)) :
    fragmentsOf out = (fragmentsOf rows).filter (fun f => !dHas b.found f.keyTuple) ∧
    (∀ g, Row.gap g ∈ out → GapOK b rows g) ∧
    (∀ pr ∈ adjPairs out, pr ∈ adjPairs rows) ∧
    (∀ g, out.head? ≠ some (.gap g)) ∧ (∀ g, out.getLast? ≠ some (.gap g)) ∧
    first = (((List.range rows.length).zip rows).find? (isMissing b)).map Prod.fst :=
  missingRows_spec b rows out first h

/-- every gap of `out` is in particular a gap row of `rows` or the join gap -/
theorem missing_rows_gaps (b : Build) (rows out : List Row) (first : Option Nat)
    (h : missingRows b rows = .ok (out, first)) (g : Gap) (hg : Row.gap g ∈ out) :
    Row.gap g ∈ rows ∨ b.joinGap = some g := by
  rcases (missing_rows_exact b rows out first h).2.1 g hg with ⟨j, _, _, _, _, _, h3, _⟩ | h
  · exact Or.inl (List.mem_of_getElem? h3)
  · exact Or.inr h

private def g5 : Gap := { length := 5, gapType := ['u'] }
private def bm : Build :=
  { namer := { autosomePrefix := [] }, nextOid := 4, joinGap := some jg, err := 1,
    found := [(fb.keyTuple, { fragment := fb, scaffolds := [0] })] }
example : missingRows bm [.frag fa, .gap g5, .frag fb, .frag fc] = .ok ([.frag fa, .gap jg, .frag fc], some 0) := by decide +kernel
/-- fix 9be92a2: a contig placed elsewhere lay between the two left-overs, so the join gap is used, not the input gap in front of `fc` -/
example : missingRows bm [.frag fb, .frag fa, .frag fb, .gap g5, .frag fc] = .ok ([.frag fa, .gap jg, .frag fc], some 1) := by
  decide +kernel
/-- when only gap rows separate two left-over contigs, every one of them is kept -/
example : missingRows bm [.frag fa, .gap g5, .gap jg, .gap g5, .frag fc] =
    .ok ([.frag fa, .gap g5, .gap jg, .gap g5, .frag fc], some 0) := by decide +kernel
/-- without a join gap a needed separator is an error, not a silent gapless join -/
example : missingRows { bm with joinGap := none } [.frag fa, .frag fb, .frag fc] = .error .attribute := by decide +kernel

/-! ## S5 — the registry of found fragments -/

/-- `store_fragments_found(sid, frags)`:
    * the holder list of every key grows by exactly one `sid` per occurrence of the key in `frags` (appended, in order);
    * afterwards a key is registered iff it was before or occurs in `frags` — so every fragment of `frags` is registered;
    * the registry invariant (registered keys have ≥ 1 holder; `multi` = exactly the keys with ≥ 2 holders) is preserved;
    * nothing else of the build changes. -/
theorem store_found_registers (b : Build) (sid : Nat) (frags : List Fragment) :
    let b' := storeFragmentsFound b sid frags
    (∀ k, holders b' k = holders b k ++ List.replicate (frags.countP (fun f => decide (f.keyTuple = k))) sid) ∧
    (∀ k, dHas b'.found k = (dHas b.found k || frags.any (fun f => decide (f.keyTuple = k)))) ∧
    (∀ f ∈ frags, dHas b'.found f.keyTuple = true ∧ sid ∈ holders b' f.keyTuple) ∧
    (RegistryInv b → RegistryInv b') ∧
    (b'.store = b.store ∧ b'.extra = b.extra ∧ b'.namer = b.namer ∧ b'.cuts = b.cuts ∧ b'.nextOid = b.nextOid ∧
      b'.joinGap = b.joinGap ∧ b'.err = b.err) := by
  intro b'
  have hb' : b' = frags.foldl (storeOne sid) b := rfl
  have hreg : ∀ k, dHas b'.found k = (dHas b.found k || frags.any (fun f => decide (f.keyTuple = k))) := by
    intro k; unfold dHas; rw [hb']; exact foldl_storeOne_registered sid frags b k
  have hhold : ∀ k, holders b' k = holders b k ++ List.replicate (frags.countP (fun f => decide (f.keyTuple = k))) sid := by
    intro k; rw [hb']; exact foldl_storeOne_holders sid frags b k
  refine ⟨hhold, hreg, ?_, ?_, ?_⟩
  · intro f hf
    constructor
    · rw [hreg]
      have : frags.any (fun f' => decide (f'.keyTuple = f.keyTuple)) = true :=
        List.any_eq_true.mpr ⟨f, hf, by simp⟩
      rw [this]; simp
    · rw [hhold]
      apply List.mem_append_right
      have : 0 < frags.countP (fun f' => decide (f'.keyTuple = f.keyTuple)) :=
        List.countP_pos_iff.mpr ⟨f, hf, by simp⟩
      rw [List.mem_replicate]
      exact ⟨by omega, rfl⟩
  · intro h; rw [hb']; exact foldl_storeOne_inv sid frags b h
  · rw [hb']; exact foldl_storeOne_other_fields sid frags b

private def b0 : Build := { namer := { autosomePrefix := [] }, nextOid := 4, joinGap := some jg, err := 1 }
example : (storeFragmentsFound (storeFragmentsFound b0 0 [fa, fb]) 1 [fb, fc]).multi = [fb.keyTuple] ∧
    holders (storeFragmentsFound (storeFragmentsFound b0 0 [fa, fb]) 1 [fb, fc]) fb.keyTuple = [0, 1] := by decide +kernel

/-! ## L1 + S5 at pipeline level — what `find_assembly_overlaps` establishes -/

/-- After `find_assembly_overlaps` on a fresh build (any input, any Pretext assembly):
    * every stored result's rows are a contiguous run of the rows of an input scaffold with the bait's name (L1);
    * the registry invariant holds (S5), and for EVERY key the recorded holder list is exactly the list of stored
      results (appended to the build) whose rows contain a fragment with that key, in store order, once per occurrence;
    * results appended to the build are non-empty; no left-over scaffolds exist yet, configuration fields are unchanged. -/
theorem find_assembly_overlaps_registry (input ptx : List Scaffold) (b b' : Build)
    (h0 : b.store = [] ∧ b.found = [] ∧ b.multi = [])
    (h : findAssemblyOverlaps input ptx b = .ok b') :
    RegistryInv b' ∧
    (∀ k, holders b' k = holdersSpec b'.store k) ∧
    (∀ r ∈ b'.store, ∃ sc ∈ input, r.o.rows <:+: sc.rows ∧ sc.name = r.o.bait.name) ∧
    (∀ r ∈ b'.store, r.added = true → r.o.rows ≠ []) ∧
    b'.extra = b.extra ∧ b'.joinGap = b.joinGap ∧ b'.err = b.err ∧ b'.cuts = b.cuts := by
  obtain ⟨p, c1, c2, c3, c4⟩ := findAssemblyOverlaps_inv input ptx b b' (.of_empty input h0) h
  exact ⟨p.registry, p.holders_eq, p.slices, p.added_iff, c1, c2, c3, c4⟩

private def inA : Scaffold := { name := ['A'], rows := [.frag fa, .gap g5, .frag { fb with name := ['a'], start := 11 }] }
private def inB : Scaffold := { name := ['B'], rows := [.frag fc] }
private def ptx1 : Scaffold :=
  { name := ['S','1'], rows := [.frag { oid := 10, name := ['A'], start := 1, stop := 25, strand := 1, tags := [sPainted] }] }
/-- the hypotheses are satisfiable: a fresh build, and the search completes (one stored result holding two contigs) -/
example : (b0.store = [] ∧ b0.found = [] ∧ b0.multi = []) ∧
    (findAssemblyOverlaps [inA, inB] [ptx1] b0).toOption.map (fun b => b.store.length) = some 1 ∧
    (findAssemblyOverlaps [inA, inB] [ptx1] b0).toOption.map (fun b => b.found.map (·.1)) =
      some [fa.keyTuple, (['a'], 11, 20)] ∧
    (findAssemblyOverlaps [inA, inB] [ptx1] b0).toOption.map (fun b => b.multi) = some [] := by
  refine ⟨⟨rfl, rfl, rfl⟩, ?_⟩
  decide +kernel

/-! ## S3 + L4 — the back half of the pipeline conserves fragments -/

/-- Whenever `remap` completes: there is the build `b` that `remap_to_input_assembly` returned, and the multiset of
    `(name, start, end)` triples over ALL scaffolds of ALL output assemblies equals the triples held by the stored
    results that were appended to the build together with the left-over scaffolds.  Fusing, the split into assemblies,
    chromosome naming and sorting lose, duplicate and invent nothing. -/
theorem outputs_hold_store_and_leftovers (input ptx : List Scaffold) (prefix_ : Str) (joinGap : Option Gap) (err : Int)
    (outs : List OutAsm) (stats : Stats) (h : remap input ptx prefix_ joinGap err = .ok (outs, stats)) :
    ∃ b, remapToInput input ptx prefix_ joinGap err = .ok b ∧
      (((outs.flatMap (·.scaffolds)).flatMap (fun s => keysOf s.rows)).Perm (storeKeys b.store ++ extraKeys b.extra)) := by
  obtain ⟨b, hb, h⟩ := Pipeline.remap_ok_iff.1 h
  refine ⟨b, hb, ?_⟩
  have h1 := C09.assembliesFused_perm input b outs stats h
  have h2 : ((outs.flatMap (·.scaffolds)).flatMap (fun s => keysOf s.rows)) =
      ((outs.flatMap (·.scaffolds)).map (·.rows)).flatMap keysOf := by rw [List.flatMap_map]
  have h3 : ((fuseByName b).flatMap (fun s => keysOf s.rows)) = ((fuseByName b).map (·.rows)).flatMap keysOf := by
    rw [List.flatMap_map]
  rw [h2]
  exact (h1.flatMap_right keysOf).trans (h3 ▸ fuse_fragments b)

/-- remapping completes on a small example: contig `c` is left over and comes out as its own scaffold -/
example : (remap [inA, inB] [ptx1] [] (some jg) 1).toOption.map
      (fun r => (r.1.flatMap (·.scaffolds)).flatMap (fun s => keysOf s.rows)) =
    some [fa.keyTuple, (['a'], 11, 20), fc.keyTuple] := by decide +kernel

/-! ## L1–L4 — the middle of `remap_to_input_assembly` and the end-to-end theorem

  Definitions (in `Proofs/C01MiddleBase.lean`, restated by `wfInput_iff` / `reg_iff` below):
  * `inputFrags input` — all contig fragments of the input, in order;
  * `WFInput input` (decidable) — scaffold names pairwise different, Fragment objects (`oid`) pairwise different over
    the whole input, keys `(name,start,end)` pairwise different, fragments pairwise disjoint, `start ≤ end`;
  * `Reg input b` — the registry invariant that holds from `find_assembly_overlaps` until cutting starts;
  * `covers n x f` — fragment `f` contains base `x` of the contig called `n`;
  * `storeFrags store` — the fragments held by the stored results that were appended to the build. -/

theorem wfInput_iff (input : List Scaffold) :
    WFInput input ↔
      (input.map (·.name)).Nodup ∧
      ((inputFrags input).map (·.oid)).Nodup ∧
      ((inputFrags input).map Fragment.keyTuple).Nodup ∧
      (inputFrags input).Pairwise (fun f g => f.name = g.name → f.stop < g.start ∨ g.stop < f.start) ∧
      ∀ f ∈ inputFrags input, f.start ≤ f.stop := Iff.rfl

/-- The registry invariant (before cutting no cut piece exists yet, so part (a) is simply "rows are input rows"). -/
abbrev Reg (input : List Scaffold) (b : Build) : Prop := Mid input b

/-- `Reg` spelled out:
    (c) every registered key has ≥ 1 holder and `multi` = the keys with ≥ 2 holders, without duplicates;
    (b) for every key and every result id, the id occurs in the key's holder list exactly as often as the rows of that
        result (if it was appended to the build) contain a fragment with that key — see `reg_holders_by_object` for the
        object-identity form and `reg_holder_once` for "at most once"; and in total: #holders = #stored rows with the key;
    (a) every stored result's rows are a contiguous run of the rows of an input scaffold;
    the Fragment object recorded for key `k` is a fragment of the input and has key `k`.
    (d) follows: `reg_unregistered_absent`. -/
theorem reg_iff (input : List Scaffold) (b : Build) :
    Reg input b ↔
      (RegistryInv b ∧ b.multi.Nodup) ∧
      (∀ k sid, (holders b k).count sid = holdCount b.store k sid) ∧
      (∀ k, (holders b k).length = (storeFrags b.store).countP (hasKey k)) ∧
      (∀ r ∈ b.store, ∃ sc ∈ input, r.o.rows <:+: sc.rows) ∧
      (∀ k fnd, dGet? b.found k = some fnd → fnd.fragment.keyTuple = k ∧ fnd.fragment ∈ inputFrags input) :=
  ⟨fun h => ⟨⟨h.registry, h.multiNodup⟩, h.counts, h.total, h.slices, h.foundOK⟩,
   fun ⟨⟨a, b⟩, c, d, e, f⟩ => ⟨a, b, c, d, e, f⟩⟩

/-- (b) in terms of object identity: the holder list of a registered key lists exactly the stored results (appended to
    the build) whose rows contain the recorded Fragment OBJECT, once per occurrence … -/
theorem reg_holders_by_object (input : List Scaffold) (hwf : WFInput input) (b : Build) (h : Reg input b)
    (k : Key) (fnd : Found) (hf : dGet? b.found k = some fnd) (sid : Nat) :
    (holders b k).count sid =
      match b.store[sid]? with
      | some r => (resFrags r).countP (fun g => g.oid == fnd.fragment.oid)
      | none => 0 := by
  rw [h.counts]
  unfold holdCount
  cases hs : b.store[sid]? with
  | none => rfl
  | some r =>
    simp only
    obtain ⟨hkey, hin⟩ := h.foundOK k fnd hf
    apply List.countP_congr
    intro g hg
    have hgin : g ∈ inputFrags input := by
      unfold resFrags at hg
      split at hg
      · exact mem_inputFrags_of_slice (h.slices r (List.mem_of_getElem? hs)) (mem_fragmentsOf.mp hg)
      · cases hg
    constructor
    · intro h'
      have : g = fnd.fragment := hwf.key_inj hgin hin (by rw [hkey]; simpa [hasKey] using h')
      subst this; simp
    · intro h'
      have : g = fnd.fragment := hwf.oid_inj hgin hin (by simpa using h')
      subst this; simp [hasKey, hkey]

/-- … and a result holds a key at most once, so every holder list is duplicate-free -/
theorem reg_holder_once (input : List Scaffold) (hwf : WFInput input) (b : Build) (h : Reg input b) (k : Key) (sid : Nat) :
    (holders b k).count sid ≤ 1 := by
  rw [h.counts]; exact h.holdCount_le_one hwf k sid

/-- (d): an input fragment whose key is not registered is in no stored result (it will be a left-over, S4) -/
theorem reg_unregistered_absent (input : List Scaffold) (b : Build) (h : Reg input b) (k : Key)
    (hf : dGet? b.found k = none) : ∀ g ∈ storeFrags b.store, g.keyTuple ≠ k := by
  have h0 : (storeFrags b.store).countP (hasKey k) = 0 := by
    rw [← h.total]; simp [holders, hf]
  rw [List.countP_eq_zero] at h0
  intro g hg e
  exact h0 g hg (by simp [hasKey, e])

/-- L1 — `find_assembly_overlaps` on a fresh build establishes `Reg` (any input, any Pretext assembly). -/
theorem reg_after_find (input ptx : List Scaffold) (b b' : Build)
    (h0 : b.store = [] ∧ b.found = [] ∧ b.multi = [])
    (h : findAssemblyOverlaps input ptx b = .ok b') :
    Reg input b' ∧ b'.nextOid = b.nextOid ∧ b'.extra = b.extra ∧ b'.joinGap = b.joinGap ∧ b'.err = b.err ∧
    b'.cuts = b.cuts := by
  obtain ⟨a, c1, c2, c3, c4⟩ := reg_after_find_aux input ptx b b' h0 h
  exact ⟨a, (Pipeline.findAssemblyOverlaps_frame h).2.2.2.2, c1, c2, c3, c4⟩

/-- L2 — a productive round of the overhang resolver keeps `Reg`; in particular (`RegistryInv` inside `Reg`) every
    registered key keeps at least one holder — a contig is never removed from its last holder — and holder lists stay
    in step with the rows that `discard_start` / `discard_end` removed.  No key is added to or dropped from `found`,
    the recorded objects stay, no Fragment object is created. -/
theorem reg_resolver_round (input : List Scaffold) (hwf : WFInput input) (b b' : Build) (hr : Reg input b)
    (h : resolverRound b = .ok (some b')) :
    Reg input b' ∧
    (∀ k, (dGet? b'.found k).map (·.fragment) = (dGet? b.found k).map (·.fragment)) ∧
    (∀ k fnd', dGet? b'.found k = some fnd' → fnd'.scaffolds ≠ []) ∧
    b'.nextOid = b.nextOid ∧ b'.extra = b.extra ∧ b'.cuts = b.cuts := by
  obtain ⟨a, c1, c2, c3, _, _, c6, _⟩ := reg_resolver_round_aux input hwf b b' hr h
  exact ⟨a, c1, a.registry.1, c2, c3, c6⟩

/-- L2, the loop `discard_overhanging_fragments` (any fuel). -/
theorem reg_discard_overhanging (input : List Scaffold) (hwf : WFInput input) (fuel : Nat) (b b' : Build)
    (hr : Reg input b) (h : discardOverhanging fuel b = .ok b') :
    Reg input b' ∧
    (∀ k, (dGet? b'.found k).map (·.fragment) = (dGet? b.found k).map (·.fragment)) ∧
    b'.nextOid = b.nextOid ∧ b'.extra = b.extra ∧ b'.cuts = b.cuts := by
  obtain ⟨a, c1, c2, c3, _, _, c6, _⟩ := discardOverhanging_mid input hwf fuel b b' hr h
  exact ⟨a, c1, c2, c3, c6⟩

/-- L3 — `cutRemaining` on a build satisfying `Reg` (new objects get ids above the input's):
    * every row of the store is then an input fragment or a piece (sub-interval, same contig name and strand, fresh
      object id) of one;
    * every base of a contig fragment that was left in `multi` is held by exactly ONE row of the store afterwards
      (before: by as many rows as the key had holders);
    * the number of rows holding any other base is unchanged;
    * `multi` is empty, `found` untouched. -/
theorem reg_cut (input : List Scaffold) (hwf : WFInput input) (b b' : Build) (hr : Reg input b)
    (hoid : ∀ f ∈ inputFrags input, f.oid < b.nextOid) (h : cutRemaining b = .ok b') :
    b'.multi = [] ∧ b'.found = b.found ∧
    (∀ r ∈ b'.store, ∀ g ∈ fragmentsOf r.o.rows,
      g ∈ inputFrags input ∨ (b.nextOid ≤ g.oid ∧ ∃ F ∈ inputFrags input,
        F.start ≤ g.start ∧ g.stop ≤ F.stop ∧ g.start ≤ g.stop ∧ g.name = F.name ∧ g.strand = F.strand)) ∧
    (∀ k ∈ b.multi, ∀ fnd, dGet? b.found k = some fnd → ∀ x, fnd.fragment.start ≤ x → x ≤ fnd.fragment.stop →
      (storeFrags b'.store).countP (covers fnd.fragment.name x) = 1) ∧
    (∀ n x, (∀ k ∈ b.multi, ∀ fnd, dGet? b.found k = some fnd → covers n x fnd.fragment = false) →
      (storeFrags b'.store).countP (covers n x) = (storeFrags b.store).countP (covers n x)) := by
  obtain ⟨hfrom, hcov⟩ := cutRemaining_cover hwf hr hoid h
  obtain ⟨_, hfound, hmulti⟩ := Pipeline.cutRemaining_frame h
  refine ⟨hmulti, hfound, fun r hr' g hg => ?_, fun k hk fnd hf x h1 h2 => ?_, fun n x hall => ?_⟩
  · obtain ⟨hin, hpc⟩ := hfrom r hr' g (mem_fragmentsOf.mp hg)
    by_cases hlt : g.oid < b.nextOid
    · exact .inl (hin hlt)
    · exact .inr ⟨Nat.le_of_not_lt hlt, hpc⟩
  · obtain ⟨hkey, hFin⟩ := hr.foundOK k fnd hf
    rw [hcov _ x _ hFin (by simp [covers, h1, h2]), hkey, if_pos hk]
  · by_cases hex : ∃ F ∈ inputFrags input, covers n x F = true
    · -- the contig of the base is not in `multi`: it keeps its rows
      obtain ⟨F, hF, hcF⟩ := hex
      rw [hcov n x F hF hcF, hr.cover_eq_holders hwf F hF n x hcF, if_neg]
      intro hk
      obtain ⟨fnd, hf, -⟩ := hr.registry.of_multi hk
      obtain ⟨hkey, hFin⟩ := hr.foundOK _ fnd hf
      have := hall _ hk fnd hf
      rw [hwf.key_inj hFin hF hkey, hcF] at this
      cases this
    · rw [countP_covers_pieces_zero (storeFrags_pieces hfrom) hex, countP_covers_pieces_zero
        (fun g hg => ⟨g, hr.store_input g hg, .self (hwf.2.2.2.2 g (hr.store_input g hg))⟩) hex]

/-- base `x` of contig `n` lies in the interval of the triple `t` -/
def coversK (n : Str) (x : Int) (t : Key) : Bool := decide (t.1 = n ∧ t.2.1 ≤ x ∧ x ≤ t.2.2)

/-- all `(name,start,end)` triples of all scaffolds of all output assemblies -/
def outputTriples (outs : List OutAsm) : List Key := (outs.flatMap (·.scaffolds)).flatMap (fun s => keysOf s.rows)

/-- L4, END-TO-END — for a well-formed input and ANY Pretext assembly, prefix, join gap and texel size: whenever
    `remap` completes,
    * for every contig name `n` and position `x`, the number of output fragments (over all output assemblies: primary,
      haplotypes, haplotigs, contaminants, false duplicates) containing base `x` of `n` equals the number of input
      fragments containing it — which is 1 on the input contigs and 0 elsewhere (`remap_exactly_once`,
      `remap_nothing_invented`);
    * every output fragment is a non-empty sub-interval of a fragment of the input with the same contig name. -/
theorem remap_partitions (input ptx : List Scaffold) (prefix_ : Str) (joinGap : Option Gap) (err : Int)
    (outs : List OutAsm) (stats : Stats) (hwf : WFInput input)
    (h : remap input ptx prefix_ joinGap err = .ok (outs, stats)) :
    (∀ n x, (outputTriples outs).countP (coversK n x) = ((inputFrags input).map Fragment.keyTuple).countP (coversK n x)) ∧
    (∀ t ∈ outputTriples outs, t.2.1 ≤ t.2.2 ∧
      ∃ F ∈ inputFrags input, F.name = t.1 ∧ F.start ≤ t.2.1 ∧ t.2.2 ≤ F.stop) := by
  obtain ⟨b, hb, hperm⟩ := outputs_hold_store_and_leftovers input ptx prefix_ joinGap err outs stats h
  obtain ⟨p1, p2⟩ := remapToInput_partition input ptx prefix_ joinGap err b hwf hb
  have hkeys : storeKeys b.store ++ extraKeys b.extra =
      (storeFrags b.store ++ extraFrags b.extra).map Fragment.keyTuple := by
    rw [storeKeys_eq, extraKeys_eq, List.map_append]
  have hcov : ∀ n x, (coversK n x ∘ Fragment.keyTuple) = covers n x := by
    intro n x; funext f; rfl
  constructor
  · intro n x
    unfold outputTriples
    rw [hperm.countP_eq, hkeys, List.countP_map, List.countP_map, hcov]
    exact p1 n x
  · intro t ht
    have : t ∈ storeKeys b.store ++ extraKeys b.extra := hperm.subset ht
    rw [hkeys] at this
    obtain ⟨g, hg, rfl⟩ := List.mem_map.mp this
    obtain ⟨F, hF, q1, q2, q3, q4, _⟩ := p2 g hg
    exact ⟨q3, F, hF, q4.symm, q1, q2⟩

/-- nothing is lost or duplicated: every base of every input contig fragment lies in exactly one output fragment -/
theorem remap_exactly_once (input ptx : List Scaffold) (prefix_ : Str) (joinGap : Option Gap) (err : Int)
    (outs : List OutAsm) (stats : Stats) (hwf : WFInput input)
    (h : remap input ptx prefix_ joinGap err = .ok (outs, stats))
    (F : Fragment) (hF : F ∈ inputFrags input) (x : Int) (h1 : F.start ≤ x) (h2 : x ≤ F.stop) :
    (outputTriples outs).countP (coversK F.name x) = 1 := by
  rw [(remap_partitions input ptx prefix_ joinGap err outs stats hwf h).1, List.countP_map]
  have hcov : (coversK F.name x ∘ Fragment.keyTuple) = covers F.name x := by funext f; rfl
  rw [hcov]
  exact hwf.cover_count hF (by simp [covers, h1, h2])

/-- nothing is invented: a base that is in no input fragment is in no output fragment -/
theorem remap_nothing_invented (input ptx : List Scaffold) (prefix_ : Str) (joinGap : Option Gap) (err : Int)
    (outs : List OutAsm) (stats : Stats) (hwf : WFInput input)
    (h : remap input ptx prefix_ joinGap err = .ok (outs, stats))
    (n : Str) (x : Int) (hno : ∀ F ∈ inputFrags input, ¬ (F.name = n ∧ F.start ≤ x ∧ x ≤ F.stop)) :
    ∀ t ∈ outputTriples outs, ¬ (t.1 = n ∧ t.2.1 ≤ x ∧ x ≤ t.2.2) := by
  have h0 : (outputTriples outs).countP (coversK n x) = 0 := by
    rw [(remap_partitions input ptx prefix_ joinGap err outs stats hwf h).1, List.countP_eq_zero]
    intro k hk
    obtain ⟨F, hF, rfl⟩ := List.mem_map.mp hk
    intro hc
    simp only [coversK, decide_eq_true_eq] at hc
    exact hno F hF hc
  rw [List.countP_eq_zero] at h0
  intro t ht hc
  exact h0 t ht (by simpa [coversK] using hc)

/-! ### non-vacuity: an input where the resolver discards a sliver and a contig is cut in two

  Scaffold `A` = c1:1-100, c2:1-4, c3:1-100 (no gaps), scaffold `B` = d1:1-50(−), texel size 5.
  Pretext pieces A:1-102, A:103-150, A:151-204: the sliver `c2` is found by the first two pieces, `c3` by the last two.
  The resolver removes `c2` from the second piece (2 bp of bait on either side: the tie goes to the second premise);
  `c3` stays in `multi` and is cut into c3:1-46 / c3:47-100; `d1` is left over. -/

private def xc1 : Fragment := { oid := 1, name := "c1".toList, start := 1, stop := 100, strand := 1 }
private def xc2 : Fragment := { oid := 2, name := "c2".toList, start := 1, stop := 4, strand := 1 }
private def xc3 : Fragment := { oid := 3, name := "c3".toList, start := 1, stop := 100, strand := 1 }
private def xd1 : Fragment := { oid := 4, name := "d1".toList, start := 1, stop := 50, strand := -1 }
private def xIn : List Scaffold :=
  [{ name := ['A'], rows := [.frag xc1, .frag xc2, .frag xc3] }, { name := ['B'], rows := [.frag xd1] }]
private def xpf (oid : Nat) (s e : Int) : Row :=
  .frag { oid := oid, name := ['A'], start := s, stop := e, strand := 1, tags := [sPainted] }
private def xPtx : List Scaffold :=
  [{ name := "S1".toList, rows := [xpf 10 1 102] }, { name := "S2".toList, rows := [xpf 11 103 150] },
   { name := "S3".toList, rows := [xpf 12 151 204] }]

/-- the input is well-formed (decided), an input with an object used twice is not -/
example : WFInput xIn := by decide +kernel
example : ¬ WFInput [{ name := ['A'], rows := [.frag xc1, .frag xc1] }] := by decide +kernel

/-- find → resolver loop → cutting, as `remap_to_input_assembly` chains them -/
private def xRun : R (Build × Build × Build) := do
  let b1 ← findAssemblyOverlaps xIn xPtx (freshBuild xIn [] (some jg) 5)
  let b2 ← discardOverhanging (totalRows b1.store + 2) b1
  let b3 ← cutRemaining b2
  pure (b1, b2, b3)

set_option synthInstance.maxSize 1024 in
private theorem xRun_values :
    xRun.toOption.map (fun t =>
      ((t.1.multi, t.1.found.map (fun e => (e.1, e.2.scaffolds))),
       (t.2.1.multi, t.2.1.found.map (fun e => (e.1, e.2.scaffolds))),
       t.2.1.store.map (fun r => keysOf r.o.rows), t.2.2.store.map (fun r => keysOf r.o.rows))) =
    some (([xc2.keyTuple, xc3.keyTuple], [(xc1.keyTuple, [0]), (xc2.keyTuple, [0, 1]), (xc3.keyTuple, [1, 2])]),
          ([xc3.keyTuple], [(xc1.keyTuple, [0]), (xc2.keyTuple, [0]), (xc3.keyTuple, [1, 2])]),
          [[xc1.keyTuple, xc2.keyTuple], [xc3.keyTuple], [xc3.keyTuple]],
          [[xc1.keyTuple, xc2.keyTuple], [("c3".toList, 1, 46)], [("c3".toList, 47, 100)]]) := by
  decide +kernel

/-- `Reg` holds after the search (two keys in `multi`), after the resolver (one left: two pieces share contig `c3`), and
    cutting then leaves every base of `c3` in exactly one stored row -/
example : ∃ b1 b2 b3,
    findAssemblyOverlaps xIn xPtx (freshBuild xIn [] (some jg) 5) = .ok b1 ∧
    discardOverhanging (totalRows b1.store + 2) b1 = .ok b2 ∧ cutRemaining b2 = .ok b3 ∧
    Reg xIn b1 ∧ b1.multi = [xc2.keyTuple, xc3.keyTuple] ∧
    Reg xIn b2 ∧ b2.multi = [xc3.keyTuple] ∧ holders b2 xc3.keyTuple = [1, 2] ∧
    (∀ x, 1 ≤ x → x ≤ 100 → (storeFrags b3.store).countP (covers "c3".toList x) = 1) := by
  have hv := xRun_values
  cases hx : xRun with
  | error e => rw [hx] at hv; cases hv
  | ok t =>
    rw [hx] at hv
    unfold xRun at hx
    obtain ⟨b1, hb1, hx⟩ := bind_eq_ok.mp hx
    obtain ⟨b2, hb2, hx⟩ := bind_eq_ok.mp hx
    obtain ⟨b3, hb3, hx⟩ := bind_eq_ok.mp hx
    cases hx
    simp only [Except.toOption, Option.map_some, Option.some.injEq, Prod.mk.injEq] at hv
    obtain ⟨⟨m1, _⟩, ⟨m2, f2⟩, _, _⟩ := hv
    have hwf : WFInput xIn := by decide +kernel
    obtain ⟨r1, n1, _⟩ := reg_after_find xIn xPtx _ b1 ⟨rfl, rfl, rfl⟩ hb1
    obtain ⟨r2, _, n2, _⟩ := reg_discard_overhanging xIn hwf _ b1 b2 r1 hb2
    have hoid : ∀ f ∈ inputFrags xIn, f.oid < b2.nextOid := by
      rw [n2, n1]; decide +kernel
    have hf3 : ∃ fnd, dGet? b2.found xc3.keyTuple = some fnd ∧ fnd.scaffolds = [1, 2] := by
      have h2 := (r2.registry.2 _).mp (show xc3.keyTuple ∈ b2.multi by rw [m2]; exact List.mem_singleton_self _)
      cases hd : dGet? b2.found xc3.keyTuple with
      | none => simp [holders, hd] at h2
      | some fnd =>
        refine ⟨fnd, rfl, ?_⟩
        have : (xc3.keyTuple, fnd.scaffolds) ∈ b2.found.map (fun e => (e.1, e.2.scaffolds)) :=
          List.mem_map.mpr ⟨_, dGet?_mem hd, rfl⟩
        rw [f2] at this
        simp [Fragment.keyTuple, xc1, xc2, xc3] at this
        exact this
    obtain ⟨fnd, hd, hsc⟩ := hf3
    have hfr : fnd.fragment = xc3 := by
      obtain ⟨a1, a2⟩ := r2.foundOK _ _ hd
      exact hwf.key_inj a2 (by decide +kernel) a1
    refine ⟨b1, b2, b3, hb1, hb2, hb3, r1, m1, r2, m2, by simp [holders, hd, hsc], ?_⟩
    intro x h1 h2
    have := (reg_cut xIn hwf b2 b3 r2 hoid hb3).2.2.2.1 xc3.keyTuple (by rw [m2]; simp) fnd hd x
      (by rw [hfr]; exact h1) (by rw [hfr]; exact h2)
    rw [hfr] at this; exact this

/-- end to end on the same input: the output triples, and the instance of `remap_exactly_once` for base 46/47 of `c3` -/
private theorem xRemap_triples :
    (remap xIn xPtx [] (some jg) 5).toOption.map (fun r => outputTriples r.1) =
      some [xc1.keyTuple, xc2.keyTuple, ("c3".toList, 47, 100), ("c3".toList, 1, 46), xd1.keyTuple] := by
  decide +kernel

example : ∃ outs stats, remap xIn xPtx [] (some jg) 5 = .ok (outs, stats) ∧
    (outputTriples outs).countP (coversK "c3".toList 46) = 1 ∧ (outputTriples outs).countP (coversK "c3".toList 47) = 1 := by
  have hv := xRemap_triples
  cases hr : remap xIn xPtx [] (some jg) 5 with
  | error e => rw [hr] at hv; simp [Except.toOption] at hv
  | ok r =>
    obtain ⟨outs, stats⟩ := r
    have once := remap_exactly_once xIn xPtx [] (some jg) 5 outs stats (by decide +kernel) hr xc3 (by decide +kernel)
    exact ⟨outs, stats, rfl, once 46 (by decide) (by decide), once 47 (by decide) (by decide)⟩

set_option synthInstance.maxSize 1024 in
/-- L2 is not vacuous: on the input above the first resolver round is productive (it removes the sliver `c2` from the
    second piece) and leaves one key in `multi` -/
example : ((findAssemblyOverlaps xIn xPtx (freshBuild xIn [] (some jg) 5)) >>= resolverRound).toOption.map
    (fun (o : Option Build) => o.map (fun b => (b.multi, holders b xc2.keyTuple))) = some (some ([xc3.keyTuple], [0])) := by
  decide +kernel

/-! ### why the key-distinctness part of `WFInput` is needed (a finding, not a proof obligation)

  The registry is keyed by `(name,start,end)`.  If the input lists the same contig interval twice (here: scaffolds `A`
  and `B` both consist of c:1-10, as two different Fragment objects) and the Pretext assembly places only `A`, the copy
  in `B` counts as "found" and is neither placed nor left over: `remap` completes and the output holds c:1-10 ONCE.
  No error is raised.  Such an input violates `WFInput` (duplicate key / overlapping fragments). -/
private def yIn : List Scaffold :=
  [{ name := ['A'], rows := [.frag { oid := 1, name := ['c'], start := 1, stop := 10, strand := 1 }] },
   { name := ['B'], rows := [.frag { oid := 2, name := ['c'], start := 1, stop := 10, strand := 1 }] }]
private def yPtx : List Scaffold := [{ name := "S1".toList, rows := [xpf 10 1 10] }]
example : ¬ WFInput yIn := by decide
example : (remap yIn yPtx [] (some jg) 5).toOption.map (fun r => outputTriples r.1) = some [(['c'], 1, 10)] ∧
    ((inputFrags yIn).map Fragment.keyTuple) = [(['c'], 1, 10), (['c'], 1, 10)] := by
  constructor <;> decide +kernel

end AgpTpf.C01
