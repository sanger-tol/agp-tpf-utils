/-
  C18 over the SOURCE: "the reported overhangs and bait overlaps equal the plain interval arithmetic between span,
  first/last row and bait" — stated for the five derived figures AS TRANSLATED from the current
  /repo/src/tola/assembly/overlap_result.py (`Gen/Kernels.lean`), for all integers.
-/
import AgpTpf.Proofs.Kernels
namespace AgpTpf.C18
open AgpTpf

/-- `OverlapResult.length / start_overhang / end_overhang` of the source = span arithmetic -/
theorem source_span_figures (bs be s e : Int) :
    Gen.K.OverlapResult_length (self_start := s) (self_end := e) = e - s + 1 ∧
    Gen.K.OverlapResult_start_overhang (self_bait_start := bs) (self_start := s) = bs - s ∧
    Gen.K.OverlapResult_end_overhang (self_bait_end := be) (self_end := e) = e - be := by
  unfold Gen.K.OverlapResult_length Gen.K.OverlapResult_start_overhang Gen.K.OverlapResult_end_overhang
  refine ⟨by omega, by omega, by omega⟩

/-- the source's `start_row_bait_overlap` = size of `[bait.start, bait.end] ∩ [start, start + len(first row) − 1]`
    (0 when they do not meet) -/
theorem source_start_row_bait_overlap (bs be s l0 : Int) :
    Gen.K.OverlapResult_start_row_bait_overlap (self_bait_start := bs) (self_bait_end := be) (self_start := s)
        (self_rows_0_length := l0) = max 0 (min be (s + l0 - 1) - max bs s + 1) := by
  unfold Gen.K.OverlapResult_start_row_bait_overlap
  simp only [decide_eq_true_eq]
  split <;> omega

/-- the source's `end_row_bait_overlap` = size of `[bait.start, bait.end] ∩ [end − len(last row) + 1, end]` -/
theorem source_end_row_bait_overlap (bs be e ll : Int) :
    Gen.K.OverlapResult_end_row_bait_overlap (self_bait_start := bs) (self_bait_end := be) (self_end := e)
        (self_rows_m1_length := ll) = max 0 (min be e - max bs (e - ll + 1) + 1) := by
  unfold Gen.K.OverlapResult_end_row_bait_overlap
  simp only [decide_eq_true_eq]
  split <;> omega

/-- … and the model's figures are these translated functions applied to the result's fields (`Proofs/Kernels.lean`),
    so every theorem of `C18.lean` about `startOverhang`, `endOverhang`, `length`, `startRowBaitOverlap`,
    `endRowBaitOverlap` is a theorem about the source's arithmetic -/
theorem model_figures_are_source (o : OverlapResult) :
    o.length = Gen.K.OverlapResult_length (self_end := o.stop) (self_start := o.start) ∧
    o.startOverhang = Gen.K.OverlapResult_start_overhang (self_bait_start := o.bait.start) (self_start := o.start) ∧
    o.endOverhang = Gen.K.OverlapResult_end_overhang (self_bait_end := o.bait.stop) (self_end := o.stop) ∧
    o.startRowBaitOverlap = (pyGet o.rows 0).map (fun r0 =>
      Gen.K.OverlapResult_start_row_bait_overlap (self_bait_start := o.bait.start) (self_bait_end := o.bait.stop)
        (self_start := o.start) (self_rows_0_length := r0.length)) ∧
    o.endRowBaitOverlap = (pyGet o.rows (-1)).map (fun rl =>
      Gen.K.OverlapResult_end_row_bait_overlap (self_bait_start := o.bait.start) (self_bait_end := o.bait.stop)
        (self_end := o.stop) (self_rows_m1_length := rl.length)) :=
  ⟨Kernels.overlap_length_eq o, Kernels.start_overhang_eq o, Kernels.end_overhang_eq o,
   Kernels.start_row_bait_overlap_eq o, Kernels.end_row_bait_overlap_eq o⟩

example : Gen.K.OverlapResult_start_row_bait_overlap (self_bait_start := 4) (self_bait_end := 33) (self_start := 1)
    (self_rows_0_length := 10) = 7 := by decide

end AgpTpf.C18
