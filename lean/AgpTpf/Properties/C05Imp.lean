/-
  C05 — T1c tie: the model's `formatTpf` IS the source's `format_tpf` (assembly/format.py) as translated by
  `harness/translate_imp.py` into `Gen.Imp.format_tpf_imp`.

  The model produces the list of written lines, the translated source the text written to `file`
  (every `file.write(...)` appended); the tie is "text = concatenation of the lines", with the same exception
  (`IndexError` from `STRAND_STR[row.strand]`) otherwise.  The source's `str.maketrans` table
  (`uppercase_and_underscore_to_dash()`, a parameter of the translated function) is instantiated with the model's
  own per-character table `modelTr` (the extracted alphabets `Gen.upperFrom` / `Gen.upperTo`).
  Loop lemmas: Proofs/Lib/PyRt.lean.
-/
import AgpTpf.Proofs.Lib.PyRt
import AgpTpf.Proofs.ImpParse
import AgpTpf.Proofs.ImpEval
namespace AgpTpf.C05
open AgpTpf AgpTpf.ImpEval

/-- the character map of the source's translation table, as the model has it: `translate Gen.upperFrom Gen.upperTo`
    (what `tpfGapTypeToText` applies when the dictionary has no entry) is `List.map` of this function -/
def modelTr : Char → Char :=
  fun c => match dGet? (Gen.upperFrom.zip Gen.upperTo) c with | some d => d | none => c

/-- `modelTr` is the model's table: `tpfGapTypeToText g` is `gap_type_dict.get(g, g.translate(tr))` -/
theorem modelTr_is_model (g : Str) :
    tpfGapTypeToText g = (dGet? Gen.tpfGapFormatDict g).getD (g.map modelTr) :=
  tpfGapTypeToText_eq_getD g

/-- the table, run: lower-case letters to upper case, `_` to `-`, everything else unchanged -/
example : "short_arm Z-9é".toList.map modelTr = "SHORT-ARM Z-9é".toList := by
  str_lits
  decide +kernel

/-- the text the source's `format_tpf` writes is the concatenation of the model's lines (same exception otherwise) -/
theorem format_tpf_is_source (a : Assembly) :
    Gen.Imp.format_tpf_imp a.header a.scaffolds modelTr = (formatTpf a).map List.flatten := by
  unfold Gen.Imp.format_tpf_imp formatTpf
  dsimp only
  str_lits
  -- `for line in asm.header`
  rw [PyRt.forIn_foldl (fun file line => file ++ (Gen.tpfHeaderPrefix ++ line ++ ['\n']))]
  rotate_left
  · intro line _ file; simp [Gen.tpfHeaderPrefix]
  simp only [bind, Except.bind]
  -- `for scffld in asm.scaffolds`
  rw [PyRt.forIn_append_mapM (fun s : Scaffold => s.rows.mapM (formatTpfRow s.name)) List.flatten]
  rotate_left
  · intro s _ file
    -- `for row in scffld.rows`
    rw [PyRt.forIn_append_mapM (formatTpfRow s.name) id]
    · simp only [List.map_id]
      cases s.rows.mapM (formatTpfRow s.name) <;> rfl
    · intro row _ file
      cases row with
      | gap g =>
        simp [formatTpfRow, modelTr_is_model, PyRt.asGap, Row.isGap, Row.length, Except.map,
          Gen.tpfGapWord, Gen.tpfGapFormatDict]
      | frag f =>
        simp [formatTpfRow, strandStr, PyRt.asFrag, Row.isGap, Except.map, Gen.tpfFragCol1, Gen.tpfStrandStr]
        generalize pyGet _ f.strand = ss
        cases ss <;> simp [Functor.map, Except.map]
  cases List.mapM (fun s : Scaffold => s.rows.mapM (formatTpfRow s.name)) a.scaffolds <;>
    simp [Except.map, pure, Except.pure, List.flatten_flatten]

set_option maxRecDepth 8000 in
/-- the generated function, run: header line, a dictionary gap type, a translated gap type (`short_arm ↦ SHORT-ARM`),
    `-1 ↦ "MINUS"`, the scaffold name in column 3, second scaffold -/
example : Gen.Imp.format_tpf_imp ["hdr".toList]
    [{ name := "scaffold_1".toList, rows :=
        [.frag { name := "ctg:1".toList, start := 1, stop := 1000000000000, strand := 1 },
         .gap { length := 200, gapType := "scaffold".toList },
         .gap { length := 7, gapType := "short_arm".toList },
         .frag { name := "ctg2".toList, start := 5, stop := 9, strand := -1 }] },
     { name := "scaffold_2".toList, rows :=
        [.frag { name := "ctg3".toList, start := 11, stop := 20, strand := 0 }] }] modelTr = .ok
    ("## hdr\n".toList ++
     "?\tctg:1:1-1000000000000\tscaffold_1\tPLUS\n".toList ++
     "GAP\tTYPE-2\t200\n".toList ++
     "GAP\tSHORT-ARM\t7\n".toList ++
     "?\tctg2:5-9\tscaffold_1\tMINUS\n".toList ++
     "?\tctg3:11-20\tscaffold_2\tUNKNOWN\n".toList) := by
  str_lits
  decide +kernel

/-- …and the exception: `STRAND_STR[3]` is an IndexError in the source, after a scaffold that was written fine
    (indices -3 … 2 are all accepted by the tuple lookup, in the source and in the model alike) -/
example : Gen.Imp.format_tpf_imp [] [{ name := "a".toList, rows := [.gap { length := 3, gapType := "contig".toList }] },
      { name := "b".toList, rows := [.frag { name := "c".toList, start := 1, stop := 2, strand := 3 }] }] modelTr =
    .error .index := by
  str_lits
  decide +kernel

end AgpTpf.C05
