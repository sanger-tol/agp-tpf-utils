/-
  C10 — Chromosome, unloc and haplotig names are unique and ranked by size.

  PROVED HERE (each at full strength for the model function named):
    * `rename_by_size`            [ScaffoldNamer.rename_by_size]   the names of the scaffolds in `ids` are permuted among
                                   them; the k-th name (in the original hand-out order) goes to the k-th longest, ties in
                                   hand-out order (stable); nothing else in the store changes.
    * `haplotig_names`            [label_scaffold / haplotig_name] along ANY sequence of make_scaffold_name / label_scaffold
                                   calls the Haplotig pieces are named H_(c+1), H_(c+2), … without holes, `c` the counter
                                   at the start (0 for a fresh namer), and are recorded in `haplotigScaffolds` in that order;
                                   hence pairwise different (`haplotig_names_nodup`, `unloc_names_nodup`).
    * `unloc_names`               [label_scaffold / unloc_name]    between two make_scaffold_name calls the Unloc pieces are
                                   named <current>_unloc_1..m; `make_scaffold_name_resets` restarts the counter.
    * `chromosome_name_csv`       [chromosome_name_csv]            one line per rank-1/2 scaffold, in order;
                                   `localised = false` exactly when the Pretext scaffold name was already seen.

  The trace theorems are about the namer operations; that `findAssemblyOverlaps` / `processBait` drive the namer only
  through these two operations is by inspection of the model, not a theorem here.

  Second half of the file ("single-haplotype chromosome numbering", helpers in Proofs/C10Groups*.lean, C10Runs.lean) — for ONE
  haplotype key in `haplotypes_seen`:
    * `replace_all_head`, `replace_all_absent`, `name_group_single`   [str.replace / ChrGroup.name_chromosome]
    * `build_groups_single`                                            [ChrNamer.build_groups]
    * `numbering_single`, `assemblies_fused_single`                    [ChrNamer.name_chromosomes inside
                                                                        assemblies_with_scaffolds_fused]
    * `generated_names_unique`, `chr_numbers_nodup`, `names_unique_autosomes`
    * `output_order`, `unloc_directly_after`                           [smart_sort_scaffolds on every output assembly]
  FINDING recorded there: `name.replace(orig, chr)` replaces EVERY occurrence of the Pretext scaffold name, so the
  "<chr>_unloc_<k>" shape needs the side condition that the Pretext name does not occur inside "_unloc_<k>"
  (counterexample `name_group_replace_counterexample`: Pretext scaffold called "c").
  Several haplotype keys (Singleton tag, consecutive-haplotype errors, A/B/C suffixes): Properties/C10Multi.lean.
  Uniqueness across rank-2 / rank-3 / haplotig names inside one assembly: Properties/C10Unique.lean.
  The full statement of C10 is in /verif/lean/tasks/C09.md.
-/
import AgpTpf.Model.Remap
import AgpTpf.Proofs.C10
import AgpTpf.Proofs.C10Csv
import AgpTpf.Proofs.C10Rename
import AgpTpf.Proofs.C10Groups
import AgpTpf.Proofs.C10Runs
import AgpTpf.Proofs.C10GroupsNumber
import AgpTpf.Proofs.C10GroupsNames
import AgpTpf.Proofs.C10Number
import AgpTpf.Proofs.ImpEval
import AgpTpf.Properties.C20
namespace AgpTpf.C10
open AgpTpf
open scoped AgpTpf.ImpEval

/-! ## `rename_by_size` -/

def lenOf (st : List Res) (i : Nat) : Int := (st.getD i default).o.length
def nameOf (st : List Res) (i : Nat) : Str := (st.getD i default).o.name

/-- `bs` is `ids` sorted longest first (stable).  After `renameBySize`, the scaffold `bs[k]` carries the name that
    `ids[k]` had before; all names stay within `ids`; lengths and every other field of every store entry are unchanged. -/
theorem rename_by_size (store : List Res) (ids : List Nat) (hne : ids ≠ []) (hnd : ids.Nodup)
    (hlt : ∀ i ∈ ids, i < store.length) :
    let st' := renameBySize store ids
    let bs := sortByIntKeyDesc (lenOf store) ids
    bs.Perm ids ∧
    bs.Pairwise (fun a b => lenOf store a ≥ lenOf store b) ∧
    (∀ L : Int, bs.filter (fun i => lenOf store i = L) = ids.filter (fun i => lenOf store i = L)) ∧
    bs.map (nameOf st') = ids.map (nameOf store) ∧
    (bs.map (lenOf st')).Pairwise (· ≥ ·) ∧
    (ids.map (nameOf st')).Perm (ids.map (nameOf store)) ∧
    st'.length = store.length ∧
    (∀ j, j ∉ ids → st'.getD j default = store.getD j default) ∧
    (∀ j, ∃ x, st'.getD j default = withName (store.getD j default) x) ∧
    (∀ j, lenOf st' j = lenOf store j) := by
  intro st' bs
  have hperm : bs.Perm ids := sortByIntKeyDesc_perm _ ids
  have hsorted : bs.Pairwise (fun a b => lenOf store a ≥ lenOf store b) := sortByIntKeyDesc_sorted _ ids
  have hst' : st' = (bs.zip (ids.map (nameOf store))).foldl setName store := renameBySize_eq store ids hne
  have hlen : bs.length = (ids.map (nameOf store)).length := by rw [List.length_map]; exact hperm.length_eq
  obtain ⟨a1, a2, a3⟩ := foldl_updAt Prod.fst (fun p r => withName r p.2) (bs.zip (ids.map (nameOf store))) store
  have a4 := foldl_setName_shape (bs.zip (ids.map (nameOf store))) store
  rw [← hst'] at a1 a2 a3 a4
  rw [List.map_fst_zip (Nat.le_of_eq hlen)] at a2 a3
  have hlenOf : ∀ j, lenOf st' j = lenOf store j := by
    intro j; obtain ⟨x, hx⟩ := a4 j; unfold lenOf; rw [hx]; rfl
  have hnames : bs.map (nameOf st') = ids.map (nameOf store) := by
    apply map_eq_of_zip _ _ _ hlen
    intro p hp
    unfold nameOf
    rw [a3 (hperm.nodup_iff.2 hnd) p hp (hlt p.1 (hperm.mem_iff.1 (List.of_mem_zip hp).1))]; rfl
  refine ⟨hperm, hsorted, sortByIntKeyDesc_stable _ ids, hnames, ?_, ?_, a1, ?_, a4, hlenOf⟩
  · rw [List.pairwise_map]
    exact hsorted.imp (fun h => by rw [hlenOf, hlenOf]; exact h)
  · rw [← hnames]; exact (hperm.map _).symm
  · intro j hj; exact a2 j (fun h => hj (hperm.mem_iff.1 h))

/-! ## haplotig and unloc names -/

/-- **Haplotig names are H_(c+1) … H_(c+m) without holes**, whatever sequence of `make_scaffold_name` and
    `label_scaffold` calls is run (`outs` lists the `label_scaffold` results in call order; `isHapPiece` = the piece is
    tagged Haplotig and not FalseDuplicate, i.e. takes the `haplotig_name()` branch). -/
theorem haplotig_names (evs : List Ev) (n n' : Namer) (outs : List (Nat × Fragment × OverlapResult))
    (h : runEvs n evs = .ok (n', outs)) :
    let hs := outs.filter (fun p => isHapPiece p.2.1)
    hs.map (·.2.2.name) = (List.range' (n.haplotigN + 1) hs.length).map hapName ∧
    n'.haplotigN = n.haplotigN + hs.length ∧
    n'.haplotigScaffolds = n.haplotigScaffolds ++ hs.map (·.1) := by
  obtain ⟨a, b, c, _⟩ := runEvs_counter isHapPiece (·.haplotigN) (·.haplotigScaffolds) (fun _ => ()) (fun _ => hapName)
    (fun n n' o o' sid frag scTags orig h => ⟨rfl, (label_counters n n' o o' sid frag scTags orig h).2.2.1⟩) evs
    (fun sc rows tags _ n n' h => ⟨rfl, (makeScaffoldName_counters n n' sc rows tags h).1.1,
      (makeScaffoldName_counters n n' sc rows tags h).1.2.1⟩) n n' outs h
  exact ⟨a, b, c⟩

/-- **Unloc names are <current>_unloc_(c+1) … (c+m)** along the `label_scaffold` calls made for one Pretext scaffold. -/
theorem unloc_names (evs : List Ev) (hl : ∀ ev ∈ evs, ev.isLabel = true) (n n' : Namer)
    (outs : List (Nat × Fragment × OverlapResult)) (h : runEvs n evs = .ok (n', outs)) :
    let us := outs.filter (fun p => isUnlocPiece p.2.1)
    us.map (·.2.2.name) = (List.range' (n.unlocN + 1) us.length).map (unlocName n.currentScaffoldName) ∧
    n'.unlocN = n.unlocN + us.length ∧
    n'.unlocScaffolds = n.unlocScaffolds ++ us.map (·.1) ∧
    n'.currentScaffoldName = n.currentScaffoldName := by
  exact runEvs_counter isUnlocPiece (·.unlocN) (·.unlocScaffolds) (·.currentScaffoldName) unlocName
    (fun n n' o o' sid frag scTags orig h =>
      have hc := label_counters n n' o o' sid frag scTags orig h
      ⟨hc.1, hc.2.2.2.1⟩) evs
    (fun sc rows tags hm => nomatch hl _ hm) n n' outs h

/-- `make_scaffold_name` restarts the unloc counter (so numbering is 1..m per Pretext scaffold) and does not touch the
    haplotig counter, the haplotig list or the autosome prefix. -/
theorem make_scaffold_name_resets (n n' : Namer) (scName : Str) (rows : List Row) (tags : List Str)
    (h : makeScaffoldName n scName rows tags = .ok n') :
    n'.unlocN = 0 ∧ n'.unlocScaffolds = [] ∧ n'.haplotigN = n.haplotigN ∧
    n'.haplotigScaffolds = n.haplotigScaffolds ∧ n'.autosomePrefix = n.autosomePrefix := by
  obtain ⟨⟨a, b, c⟩, d, e⟩ := makeScaffoldName_counters n n' scName rows tags h
  exact ⟨d, e, a, b, c⟩

/-- every other piece keeps the current scaffold name -/
theorem plain_piece_name (n n' : Namer) (o o' : OverlapResult) (sid : Nat) (frag : Fragment) (scTags : List Str)
    (orig : Str) (h : labelScaffold n o sid frag scTags orig = .ok (n', o'))
    (h1 : isHapPiece frag = false) (h2 : isUnlocPiece frag = false) :
    o'.name = n.currentScaffoldName.getD sNone :=
  (label_counters n n' o o' sid frag scTags orig h).2.2.2.2 h1 h2

/-- **Haplotig names are pairwise different** (before and — by `rename_by_size`, a permutation — after renaming). -/
theorem haplotig_names_nodup (evs : List Ev) (n n' : Namer) (outs : List (Nat × Fragment × OverlapResult))
    (h : runEvs n evs = .ok (n', outs)) :
    ((outs.filter (fun p => isHapPiece p.2.1)).map (·.2.2.name)).Nodup := by
  rw [(haplotig_names evs n n' outs h).1]
  exact List.Pairwise.map hapName (fun a b hne hab => hne (hapName_inj a b hab)) List.nodup_range'

/-- **Unloc names of one Pretext scaffold are pairwise different.** -/
theorem unloc_names_nodup (evs : List Ev) (hl : ∀ ev ∈ evs, ev.isLabel = true) (n n' : Namer)
    (outs : List (Nat × Fragment × OverlapResult)) (h : runEvs n evs = .ok (n', outs)) :
    ((outs.filter (fun p => isUnlocPiece p.2.1)).map (·.2.2.name)).Nodup := by
  rw [(unloc_names evs hl n n' outs h).1]
  exact List.Pairwise.map _ (fun a b hne hab => hne (unlocName_inj _ a b hab)) List.nodup_range'

/-! ## `chromosome_name_csv` -/

/-- **The chromosome-list CSV.**  With `rs` the rank-1/2 scaffolds of the assembly in order:
    one line per element of `rs`, first column its name; the line of `s` (preceded by `pre` in `rs`) is
    `csvLine prefix pre s`, whose `localised` flag is `false` exactly when `s` has a (truthy) Pretext-scaffold name that
    an earlier rank-1/2 scaffold also has — and then the chromosome name is that of the FIRST such scaffold — and
    otherwise the chromosome name is the scaffold's own name with the first occurrence of the prefix removed. -/
theorem chromosome_name_csv (prefix_ : Str) (scs : List Scaffold) :
    let rs := scs.filter isChrRank
    let csv := chromosomeNameCsv prefix_ scs
    csv.length = rs.length ∧ csv.map (·.1) = rs.map (·.name) ∧
    ∀ pre s post, rs = pre ++ s :: post →
      csv[pre.length]? = some (csvLine prefix_ pre s) ∧
      ((csvLine prefix_ pre s).2.2 = false ↔
        (truthy s.originalName = true ∧ ∃ e ∈ pre, e.originalName = s.originalName)) ∧
      ((csvLine prefix_ pre s).2.2 = true → (csvLine prefix_ pre s).2.1 = replaceFirst prefix_ [] s.name) ∧
      ((csvLine prefix_ pre s).2.2 = false →
        ∃ e, pre.find? (fun e => e.originalName = s.originalName) = some e ∧
          (csvLine prefix_ pre s).2.1 = replaceFirst prefix_ [] e.name) := by
  intro rs csv
  have hcsv : csv = csvSpec prefix_ [] rs := chromosomeNameCsv_spec prefix_ scs
  obtain ⟨h1, h2⟩ := csvSpec_length prefix_ rs []
  refine ⟨by rw [hcsv, h1], by rw [hcsv, h2], ?_⟩
  intro pre s post hrs
  obtain ⟨l1, l2⟩ := csvLine_localised prefix_ pre s
  refine ⟨?_, l1, l2, ?_⟩
  · rw [hcsv, hrs, csvSpec_append, List.nil_append]
    have hl : (csvSpec prefix_ [] pre).length = pre.length := (csvSpec_length prefix_ pre []).1
    rw [List.getElem?_append_right (Nat.le_of_eq hl), hl, Nat.sub_self]
    rfl
  · intro hfalse
    unfold csvLine at hfalse ⊢
    unfold earlierSame at hfalse ⊢
    by_cases ht : truthy s.originalName = true
    · simp only [if_pos ht] at hfalse ⊢
      cases hf : pre.find? (fun e => e.originalName = s.originalName) with
      | some e => exact ⟨e, rfl, rfl⟩
      | none => rw [hf] at hfalse; cases hfalse
    · simp only [if_neg ht] at hfalse; cases hfalse

/-! ### non-vacuity -/

def mkRes (nm : Str) (start stop : Int) : Res :=
  { o := { bait := { name := ['c'], start := start, stop := stop, strand := 1 }, start := start, stop := stop,
           rows := [], name := nm }, added := true }

/-- three haplotigs of lengths 10, 30, 30 named H_1, H_2, H_3: afterwards H_1, H_2 are the two long ones (in their
    original order) and H_3 is the short one; the entry outside `ids` is untouched -/
example :
    (renameBySize [mkRes ['H','_','1'] 1 10, mkRes ['x'] 1 99, mkRes ['H','_','2'] 1 30, mkRes ['H','_','3'] 101 130]
        [0, 2, 3]).map (fun r => (r.o.name, r.o.length)) =
      [(['H','_','3'], 10), (['x'], 99), (['H','_','1'], 30), (['H','_','2'], 30)] := by decide +kernel

example : [0, 2, 3] ≠ [] ∧ [0, 2, 3].Nodup ∧ ∀ i ∈ [0, 2, 3], i < 4 := by decide +kernel

def hapFrag : Fragment := { name := ['c'], start := 1, stop := 9, strand := 1, tags := [sHaplotig] }
def unlocFrag : Fragment := { name := ['c'], start := 1, stop := 9, strand := 1, tags := [sUnloc] }
def plainFrag : Fragment := { name := ['c'], start := 1, stop := 9, strand := 1, tags := [sPainted] }
def someO : OverlapResult := { bait := plainFrag, start := 1, stop := 9, rows := [] }
def n0 : Namer := { autosomePrefix := ['S','U','P','E','R','_'] }
def ctg : Row := .frag { name := ['c','t','g','1'], start := 1, stop := 100, strand := 1 }

/-- a trace with two Pretext scaffolds, haplotigs in both and unlocs in the first: names as stated -/
example :
    (runEvs n0
      [.name ['S','1'] [ctg] [sPainted], .label someO 0 hapFrag [sPainted] ['S','1'],
       .label someO 1 unlocFrag [sPainted] ['S','1'], .label someO 2 plainFrag [sPainted] ['S','1'],
       .label someO 3 unlocFrag [sPainted] ['S','1'],
       .name ['S','2'] [ctg] [sPainted], .label someO 4 hapFrag [sPainted] ['S','2']]).toOption.map
      (fun p => (p.1.haplotigN, p.1.haplotigScaffolds, p.2.map (·.2.2.name))) =
    some (2, [0, 4], [['H','_','1'], "S1_unloc_1".toList, ['S','1'], "S1_unloc_2".toList, ['H','_','2']]) := by
  str_lits; decide +kernel

/-- CSV: chromosome, its unloc (same Pretext scaffold → `localised = false`, chromosome name of the chromosome),
    an unplaced scaffold (no line), a second chromosome -/
example :
    chromosomeNameCsv ['S','_']
      [{ name := "S_1".toList, rank := 1, originalName := some ['A'] },
       { name := "S_1_unloc_1".toList, rank := 1, originalName := some ['A'] },
       { name := "scaffold_9".toList, rank := 3, originalName := some ['B'] },
       { name := "S_X".toList, rank := 2, originalName := some ['C'] }] =
      [("S_1".toList, "1".toList, true), ("S_1_unloc_1".toList, "1".toList, false), ("S_X".toList, "X".toList, true)] := by
  str_lits; decide +kernel


/-! # Single-haplotype chromosome numbering (`ChrGroup`, `ChrNamer`)

Everything below is for ONE haplotype key `h` in `haplotypes_seen` (`haps = [h]`), the case of an ordinary
single-haplotype curation.  Vocabulary (definitions in `Proofs/C10Runs.lean`, `Proofs/C10Groups*.lean`):
  * `origOf fs sid`       Pretext scaffold name (`original_name`) of the fused scaffold `sid`, `[]` if absent
  * `origPairs fs es`     the `ChrNamer.scaffolds` list as `(original_name, id)` pairs
  * `Run = Str × List Nat`, `groupRuns`  decomposition into maximal runs of equal names (`groupRuns_spec`)
  * `mkGroup h (o, ids) = [(h, [(o, ids)])]`   the `ChrGroup.data` dict `{h: {o: ids}}`
  * `runLength fs r`      summed `fragments_length` of the scaffolds of a run (chromosome + its unlocs)
  * `sortedRuns fs rs`    `rs` stably sorted by `runLength`, longest first
  * `nameChromosomes`     the `name_chromosomes` block of `assembliesFused`, verbatim (`finishAssemblies_eq_name`)
  * `occursIn old s`      Python `old in s` (`occurs_in_iff`)
-/

/-! ## G2  `str.replace` and `ChrGroup.name_chromosome` on a one-name group -/

theorem occurs_in_iff (old s : Str) : occursIn old s = true ↔ ∃ pre post, s = pre ++ old ++ post := occursIn_iff old s

/-- `(old ++ rest).replace(old, new) = new ++ rest.replace(old, new)` (non-empty `old`) -/
theorem replace_all_head (old new rest : Str) (hne : old ≠ []) (fuel : Nat) :
    replaceAll old new (fuel + 1) (old ++ rest) = new ++ replaceAll old new fuel rest :=
  replaceAll_prefix old new hne fuel rest

/-- `s.replace(old, new) = s` when `old` does not occur in `s` -/
theorem replace_all_absent (old new s : Str) (fuel : Nat) (h : occursIn old s = false) :
    replaceAll old new fuel s = s := replaceAll_noOcc old new fuel s h

/-- the fuel the model passes (`len(name) + 1`) is enough: any two sufficient amounts give the same result -/
theorem replace_all_fuel (old new s : Str) (fuel fuel' : Nat) (h : s.length ≤ fuel) (h' : s.length ≤ fuel') :
    replaceAll old new fuel s = replaceAll old new fuel' s := replaceAll_fuel old new fuel fuel' s h h'

example : replaceAll "ab".toList "X".toList 8 "abcabab".toList = "XcXX".toList := by str_lits; decide +kernel
example : occursIn "ab".toList "ba".toList = false ∧ occursIn "ab".toList "cab".toList = true := by
  str_lits; decide +kernel

/-- **G2.**  `name_chromosome(prefix, n)` on the group `{h: {orig: ids}}`: exactly the scaffolds `ids` are touched; in
    each of them every occurrence of `orig` in the name is replaced by `prefix ++ str(n)` and no other attribute
    changes; a scaffold called `orig` becomes `prefix ++ str(n)`; a scaffold called `orig ++ suf` in whose `suf` the
    Pretext name does not occur again becomes `prefix ++ str(n) ++ suf`. -/
theorem name_group_single (fs : List Scaffold) (h orig : Str) (ids : List Nat) (prefix_ : Str) (n : Nat)
    (hnd : ids.Nodup) :
    let fs' := nameGroup fs [(h, [(orig, ids)])] prefix_ n
    let chr := prefix_ ++ natToStr n
    fs'.length = fs.length ∧
    (∀ j, j ∉ ids → fs'.getD j default = fs.getD j default) ∧
    (∀ j ∈ ids, fs'.getD j default =
      { fs.getD j default with
        name := replaceAll orig chr ((fs.getD j default).name.length + 1) (fs.getD j default).name }) ∧
    (orig ≠ [] → ∀ j ∈ ids, (fs.getD j default).name = orig → (fs'.getD j default).name = chr) ∧
    (orig ≠ [] → ∀ j ∈ ids, ∀ suf, (fs.getD j default).name = orig ++ suf → occursIn orig suf = false →
      (fs'.getD j default).name = chr ++ suf) := by
  intro fs' chr
  have hfs' : fs' = ids.foldl (renameAt orig chr) fs := nameGroup_single_eq fs h orig ids prefix_ n
  obtain ⟨a, b, c⟩ := foldl_renameAt orig chr ids fs
  rw [← hfs'] at a b c
  have c := c hnd
  refine ⟨a, b, c, ?_, ?_⟩
  · intro hne j hj hn
    rw [c j hj]; unfold renameScaffold; simp only; rw [hn]
    exact replaceAll_self orig chr hne _
  · intro hne j hj suf hn ho
    rw [c j hj]; unfold renameScaffold; simp only; rw [hn]
    exact replaceAll_prefix_noOcc orig chr hne _ suf ho

/-- without `ids.Nodup` (an id listed twice is renamed twice) the frame part still holds -/
theorem name_group_single_frame (fs : List Scaffold) (h orig : Str) (ids : List Nat) (prefix_ : Str) (n : Nat) :
    let fs' := nameGroup fs [(h, [(orig, ids)])] prefix_ n
    fs'.length = fs.length ∧ (∀ j, j ∉ ids → fs'.getD j default = fs.getD j default) := by
  intro fs'
  have hfs' : fs' = ids.foldl (renameAt orig (prefix_ ++ natToStr n)) fs := nameGroup_single_eq fs h orig ids prefix_ n
  rw [hfs']
  exact ⟨(foldl_renameAt orig _ ids fs).1, (foldl_renameAt orig _ ids fs).2.1⟩

/-- the unloc shape: `orig ++ "_unloc_" ++ str(k)` becomes `prefix ++ str(n) ++ "_unloc_" ++ str(k)` provided the
    Pretext name has a character that is neither a digit nor one of `_ u n l o c` (true of every `Scaffold_<i>`). -/
theorem name_group_single_unloc (fs : List Scaffold) (h orig : Str) (ids : List Nat) (prefix_ : Str) (n k : Nat)
    (hnd : ids.Nodup) (c : Char) (hc : c ∈ orig) (hd : isDigit c = false) (hu : c ∉ ['_', 'u', 'n', 'l', 'o', 'c'])
    (j : Nat) (hj : j ∈ ids) (hn : (fs.getD j default).name = orig ++ "_unloc_".toList ++ natToStr k) :
    ((nameGroup fs [(h, [(orig, ids)])] prefix_ n).getD j default).name
      = prefix_ ++ natToStr n ++ "_unloc_".toList ++ natToStr k := by
  have hne : orig ≠ [] := by intro e; rw [e] at hc; cases hc
  have := (name_group_single fs h orig ids prefix_ n hnd).2.2.2.2 hne j hj (unlocSuffix k)
    (by rw [hn, List.append_assoc]; rfl) (not_occurs_unloc orig k c hc hd hu)
  rw [this]; simp [unlocSuffix]

/-- non-vacuity of G2: chromosome, its unloc, an untouched scaffold -/
example :
    (nameGroup [{ name := "Scaffold_7".toList }, { name := "other".toList }, { name := "Scaffold_7_unloc_1".toList }]
        [("None".toList, [("Scaffold_7".toList, [0, 2])])] "SUPER_".toList 3).map (·.name)
      = ["SUPER_3".toList, "other".toList, "SUPER_3_unloc_1".toList] := by str_lits; decide +kernel
example : 'S' ∈ "Scaffold_7".toList ∧ isDigit 'S' = false ∧ 'S' ∉ ['_', 'u', 'n', 'l', 'o', 'c'] ∧ [0, 2].Nodup := by
  str_lits; decide +kernel

/-- **FINDING (the side condition of the unloc shape cannot be dropped).**  `str.replace` replaces every occurrence:
    a Pretext scaffold called `c` with one unloc `c_unloc_1` is named `SUPER_1` / `SUPER_1_unloSUPER_1_1`, not
    `SUPER_1_unloc_1`.  (Pretext itself calls its scaffolds `Scaffold_<n>`, for which `name_group_single_unloc`
    applies; the model — like the Python — accepts any name.) -/
theorem name_group_replace_counterexample :
    (nameGroup [{ name := "c".toList }, { name := "c_unloc_1".toList }]
        [("None".toList, [("c".toList, [0, 1])])] "SUPER_".toList 1).map (·.name)
      = ["SUPER_1".toList, "SUPER_1_unloSUPER_1_1".toList] := by str_lits; decide +kernel

/-! ## G1  `ChrNamer.build_groups` with one haplotype -/

example (h o : Str) (ids : List Nat) : mkGroup h (o, ids) = [(h, [(o, ids)])] := rfl

/-- what `groupRuns` means: concatenating the runs gives the list back, no run is empty, neighbouring runs have
    different names — i.e. the runs are the maximal blocks of equal names -/
theorem group_runs_spec (l : List (Str × Nat)) :
    flattenRuns (groupRuns l) = l ∧ (∀ r ∈ groupRuns l, r.2 ≠ []) ∧ AdjDistinct (groupRuns l) := groupRuns_spec l

/-- **G1.**  With `haplotypes_seen = [h]` and a non-empty scaffold list all under `h`:
    if every scaffold has a non-empty `original_name`, `build_groups` returns — in order — one group
    `{h: {orig: ids}}` per maximal run of consecutive scaffolds with the same `original_name` (a chromosome followed by
    its unlocs), and `check_groups` finds no error; if some scaffold has an empty or absent `original_name`, it raises
    `ValueError`.  (The two cases are exhaustive, so it fails exactly in the second.) -/
theorem build_groups_single (fs : List Scaffold) (h : Str) (entries : List (Str × Nat)) (hne : entries ≠ [])
    (hh : ∀ e ∈ entries, e.1 = h) :
    ((∀ e ∈ entries, truthy (fs.getD e.2 default).originalName = true) →
        buildGroups fs [h] entries = .ok ((groupRuns (origPairs fs entries)).map (mkGroup h)) ∧
        groupsHaveErrors ((groupRuns (origPairs fs entries)).map (mkGroup h)) = false) ∧
    ((∃ e ∈ entries, truthy (fs.getD e.2 default).originalName = false) →
        buildGroups fs [h] entries = .error .value) :=
  ⟨fun hg => ⟨buildGroups_single_ok fs h entries hne hh hg, groupsHaveErrors_single h _⟩,
   (buildGroups_any fs [h] entries).2⟩

theorem build_groups_single_fails_iff (fs : List Scaffold) (h : Str) (entries : List (Str × Nat)) (hne : entries ≠ [])
    (hh : ∀ e ∈ entries, e.1 = h) :
    (∃ err, buildGroups fs [h] entries = .error err) ↔
      ∃ e ∈ entries, truthy (fs.getD e.2 default).originalName = false :=
  ⟨fun ⟨err, herr⟩ => ((buildGroups_error_iff fs _ entries err).1 herr).2,
    fun hb => ⟨_, (buildGroups_error_iff fs _ entries _).2 ⟨rfl, hb⟩⟩⟩

/-- four fused scaffolds: chromosome A (100 bp), its unloc (50 bp), chromosome B (300 bp), chromosome C (120 bp) -/
def exFs : List Scaffold :=
  [{ name := "Scaffold_1".toList, rank := 1, originalName := some "Scaffold_1".toList,
     rows := [.frag { name := "a".toList, start := 1, stop := 100, strand := 1 }] },
   { name := "Scaffold_1_unloc_1".toList, rank := 1, originalName := some "Scaffold_1".toList,
     rows := [.frag { name := "b".toList, start := 1, stop := 50, strand := 1 }] },
   { name := "Scaffold_2".toList, rank := 1, originalName := some "Scaffold_2".toList,
     rows := [.frag { name := "c".toList, start := 1, stop := 300, strand := 1 }] },
   { name := "Scaffold_3".toList, rank := 1, originalName := some "Scaffold_3".toList,
     rows := [.frag { name := "d".toList, start := 1, stop := 120, strand := 1 }] }]
def exEntries : List (Str × Nat) := [(sNone, 0), (sNone, 1), (sNone, 2), (sNone, 3)]

def exFsC : Decoded exFs := ⟨_, by unfold exFs; str_lits; exact rfl⟩

example : buildGroups exFs [sNone] exEntries =
    .ok [[(sNone, [("Scaffold_1".toList, [0, 1])])], [(sNone, [("Scaffold_2".toList, [2])])],
         [(sNone, [("Scaffold_3".toList, [3])])]] := by rw [exFsC.2]; str_lits; rfl
example : exEntries ≠ [] ∧ (∀ e ∈ exEntries, e.1 = sNone) ∧
    (∀ e ∈ exEntries, truthy (exFs.getD e.2 default).originalName = true) ∧ (exEntries.map (·.2)).Nodup := by
  rw [exFsC.2]; str_lits; decide +kernel
example : (match buildGroups [{ name := "x".toList, rank := 1 }] [sNone] [(sNone, 0)] with
    | .error e => some e | .ok _ => none) = some Err.value := by str_lits; decide +kernel

/-! ## G3  numbering 1..n by size -/

/-- **G3.**  `name_chromosomes` with one haplotype never fails once every scaffold has an `original_name`, and:
    the runs (chromosome + unlocs) are put in `sorted` order = non-increasing total fragments length, runs of equal
    length staying in Pretext order (stable); the run at position `k` (0-based) gets the number `k+1` — so the numbers
    used are exactly `1..n`, `n` the number of runs, each run being non-empty —: in every scaffold of that run the
    Pretext name is replaced by `prefix ++ str(k+1)`; every `ChrNamer` scaffold lies in one of the runs, under its own
    Pretext name; scaffolds not handed to `ChrNamer` are untouched. -/
theorem numbering_single (prefix_ : Str) (fs : List Scaffold) (h : Str) (entries : List (Str × Nat))
    (hne : entries ≠ []) (hh : ∀ e ∈ entries, e.1 = h)
    (hg : ∀ e ∈ entries, truthy (fs.getD e.2 default).originalName = true) (hnd : (entries.map (·.2)).Nodup) :
    let runs := groupRuns (origPairs fs entries)
    let sorted := sortedRuns fs runs
    ∃ fs', nameChromosomes prefix_ fs [h] entries = .ok fs' ∧
      sorted.Perm runs ∧
      sorted.Pairwise (fun a b => runLength fs a ≥ runLength fs b) ∧
      (∀ L : Int, sorted.filter (fun r => runLength fs r = L) = runs.filter (fun r => runLength fs r = L)) ∧
      (∀ r ∈ sorted, r.2 ≠ []) ∧
      fs'.length = fs.length ∧
      (∀ j, j ∉ entries.map (·.2) → fs'.getD j default = fs.getD j default) ∧
      (∀ k (hk : k < sorted.length), ∀ j ∈ sorted[k].2,
        fs'.getD j default =
          { fs.getD j default with
            name := replaceAll sorted[k].1 (prefix_ ++ natToStr (k + 1)) ((fs.getD j default).name.length + 1)
                      (fs.getD j default).name }) ∧
      (∀ e ∈ entries, ∃ k, ∃ hk : k < sorted.length, e.2 ∈ sorted[k].2 ∧ sorted[k].1 = origOf fs e.2) := by
  intro runs sorted
  refine ⟨_, nameChromosomes_single prefix_ fs h entries hne hh hg, sortedRuns_perm fs runs, sortedRuns_sorted fs runs,
    sortedRuns_stable fs runs, ?_, ?_⟩
  · intro r hr
    exact (groupRuns_spec _).2.1 r ((sortedRuns_perm fs runs).mem_iff.1 hr)
  · obtain ⟨a, b, c⟩ := numbering_core prefix_ fs entries hnd
    refine ⟨a, b, c, ?_⟩
    intro e he
    obtain ⟨r, hr, hr1, hr2⟩ := runs_cover fs entries e he
    have hrs : r ∈ sorted := (sortedRuns_perm fs _).mem_iff.2 hr
    obtain ⟨k, hk, hkr⟩ := List.mem_iff_getElem.1 hrs
    exact ⟨k, hk, by rw [hkr]; exact hr2, by rw [hkr]; exact hr1⟩

/-- the example: Scaffold_2 (300 bp) becomes SUPER_1; Scaffold_1 WITH its unloc (100 + 50 bp) SUPER_2 / SUPER_2_unloc_1;
    Scaffold_3 (120 bp, longer than Scaffold_1 alone) SUPER_3 -/
example : (nameChromosomes "SUPER_".toList exFs [sNone] exEntries).toOption.map (fun fs => fs.map (·.name)) =
    some ["SUPER_2".toList, "SUPER_2_unloc_1".toList, "SUPER_1".toList, "SUPER_3".toList] := by
  rw [exFsC.2]; str_lits; decide +kernel
example : sortedRuns exFs (groupRuns (origPairs exFs exEntries)) =
    [("Scaffold_2".toList, [2]), ("Scaffold_1".toList, [0, 1]), ("Scaffold_3".toList, [3])] := by
  rw [exFsC.2]; str_lits; decide +kernel

/-- **G3 inside `assemblies_with_scaffolds_fused`.**  If the split loop saw exactly one haplotype key `h` among the
    painted (rank 1) scaffolds and each of them has an `original_name`, then `assembliesFused` is: number the runs as in
    `numbering_single`, then sort / count (`outsTail`).  The side conditions of `numbering_single` (entries non-empty,
    all under `h`, ids pairwise different) are facts about the split loop, proved here (`splitLoop_entries`). -/
theorem assemblies_fused_single (input : List Scaffold) (b : Build) (asms : C09.Asms) (entries : List (Str × Nat))
    (h : Str) (fs : List Scaffold)
    (hsplit : C09.splitLoop b.namer.autosomePrefix (fuseByName b) = (asms, entries, [h], fs))
    (hg : ∀ e ∈ entries, truthy (fs.getD e.2 default).originalName = true) :
    entries ≠ [] ∧ (∀ e ∈ entries, e.1 = h) ∧ (entries.map (·.2)).Nodup ∧
    assembliesFused input b =
      C09.outsTail input b asms
        (nameRuns b.namer.autosomePrefix
          ((List.range (sortedRuns fs (groupRuns (origPairs fs entries))).length).zip
            (sortedRuns fs (groupRuns (origPairs fs entries)))) fs) := by
  have hinv := splitLoop_entries b.namer.autosomePrefix (fuseByName b)
  rw [hsplit] at hinv
  obtain ⟨i1, i2, i3⟩ := hinv
  have hh : ∀ e ∈ entries, e.1 = h := fun e he => by simpa using i2 e he
  have hne : entries ≠ [] := by
    intro hnil
    have := splitLoop_haps_nil b.namer.autosomePrefix (fuseByName b)
    rw [hsplit] at this
    cases this hnil
  refine ⟨hne, hh, i1, ?_⟩
  rw [C09.assembliesFused_eq, hsplit, finishAssemblies_eq_name]
  simp only [List.isEmpty_cons, Bool.false_eq_true, if_false]
  rw [nameChromosomes_single _ fs h entries hne hh hg]
  rfl

/-! ## G4  the new names are unique -/

theorem chr_name_injective (p : Str) (i j : Nat) (e : p ++ natToStr i = p ++ natToStr j) : i = j :=
  natToStr_inj (List.append_cancel_left e)

/-- the numbers `1..n` give `n` different chromosome names -/
theorem chr_numbers_nodup (p : Str) (n : Nat) : ((List.range n).map (fun k => p ++ natToStr (k + 1))).Nodup := by
  refine List.Pairwise.map _ ?_ List.nodup_range
  intro a b hne hab
  exact hne (Nat.succ.inj (chr_name_injective p _ _ hab))

/-- generated names are read back uniquely: `<prefix><i><s> = <prefix><j><s'>` forces `i = j` and `s = s'` whenever
    the remainders do not start with a digit (`[]` for a chromosome, `_unloc_<k>` for an unloc): so chromosomes of
    different groups, unlocs of different groups, and a chromosome and any unloc never share a name, and within a
    group `_unloc_<k>` = `_unloc_<k'>` only for `k = k'`. -/
theorem generated_names_unique (p s s' : Str) (i j : Nat) (hs : C20.NoDigitHead s) (hs' : C20.NoDigitHead s')
    (e : p ++ natToStr i ++ s = p ++ natToStr j ++ s') : i = j ∧ s = s' :=
  chr_name_inj p s s' i j hs hs' e

theorem unloc_suffix_facts (k k' : Nat) :
    unlocSuffix k = "_unloc_".toList ++ natToStr k ∧ C20.NoDigitHead (unlocSuffix k) ∧ unlocSuffix k ≠ [] ∧
    (unlocSuffix k = unlocSuffix k' → k = k') :=
  ⟨rfl, noDigitHd_unloc k, by simp [unlocSuffix], unlocSuffix_inj k k'⟩

/-- **G4.**  Let every `ChrNamer` scaffold be called `<its Pretext name> ++ suf` with `suf` empty or not starting with
    a digit and not containing the Pretext name again (`PieceShape`: the chromosome itself and `_unloc_<k>` pieces —
    this is what `unloc_names` / `plain_piece_name` above establish for `label_scaffold`), and let two different
    scaffolds of the same Pretext scaffold have different names (`unloc_names_nodup`).  Then after `name_chromosomes`
    all of them carry pairwise different names, each of the form `prefix ++ str(k+1) ++ suf`. -/
theorem names_unique_autosomes (prefix_ : Str) (fs : List Scaffold) (h : Str) (entries : List (Str × Nat))
    (hne : entries ≠ []) (hh : ∀ e ∈ entries, e.1 = h)
    (hg : ∀ e ∈ entries, truthy (fs.getD e.2 default).originalName = true) (hnd : (entries.map (·.2)).Nodup)
    (hshape : ∀ e ∈ entries, PieceShape fs e.2)
    (hdist : ∀ e ∈ entries, ∀ e' ∈ entries, e.2 ≠ e'.2 → origOf fs e.2 = origOf fs e'.2 →
      (fs.getD e.2 default).name ≠ (fs.getD e'.2 default).name) :
    ∃ fs', nameChromosomes prefix_ fs [h] entries = .ok fs' ∧
      (entries.map (fun e => (fs'.getD e.2 default).name)).Nodup ∧
      (∀ e ∈ entries, ∀ suf, (fs.getD e.2 default).name = origOf fs e.2 ++ suf → occursIn (origOf fs e.2) suf = false →
        ∃ k, k < (groupRuns (origPairs fs entries)).length ∧
          fs'.getD e.2 default = { fs.getD e.2 default with name := prefix_ ++ natToStr (k + 1) ++ suf }) := by
  have hcut := segsOf_isCut fs [h] entries
  have hm : ∀ e ∈ entries, e.1 ∈ [h] := fun e he => by simp [hh e he]
  have hbr := groups_single fs h entries hne hh
  have hok : groupsHaveErrors ((segsOf fs [h] entries).map (segGroup fs [h])) = false := by
    rw [hbr]; exact groupsHaveErrors_single h _
  -- the one haplotype key is the first one: one chromosome per group, hence no letter
  have hone := first_hap_one fs h [] _ hok
  have hnc := (nameChromosomes_of_groups prefix_ fs [h] entries _ ((buildGroups_any fs [h] entries).1 hg)
    (fun g hgm => by obtain ⟨seg, _, rfl⟩ := List.mem_map.1 hgm; exact segGroup_ne_nil fs h [] seg)).2 hok
  refine ⟨_, hnc, ?_, ?_⟩
  · have := (named prefix_ fs h [] entries _ (by simp) hnd hm (· = h)
      (fun _ e seg hseg => by rw [e, hone seg hseg]; decide) hnc).pairwise hnd hshape hdist h rfl
    rwa [List.filter_eq_self.2 (fun e he => by simpa using hh e he)] at this
  · intro e he suf hn ho
    obtain ⟨seg, hseg, hes⟩ := hcut.cover e he
    obtain ⟨k, hk, _, hren⟩ := piece_numbered prefix_ fs [h] (by simp) hcut hm hnd seg hseg
    refine ⟨k, ?_, ?_⟩
    · have := congrArg List.length hbr
      rw [List.length_map, List.length_map] at this
      rw [← this, ← List.length_map (f := segGroup fs [h]), ← (sortedGroups_perm fs _).length_eq]; exact hk
    · rw [hren e hes, renameScaffold_piece fs e.2 _ (hg e he) suf hn ho]
      have : chrCount fs seg e = 1 := by unfold chrCount; rw [hh e he]; exact hone seg hseg
      simp [chrLabel, chrLetter, this]

/-- the hypotheses of G4 on the example -/
example : (∀ e ∈ exEntries, PieceShape exFs e.2) := by
  rw [exFsC.2]; str_lits
  intro e he
  simp only [exEntries, List.mem_cons, List.not_mem_nil, or_false] at he
  rcases he with rfl | rfl | rfl | rfl
  · exact ⟨[], by decide +kernel, noDigitHd_nil, by decide +kernel⟩
  · exact ⟨unlocSuffix 1, by decide +kernel, noDigitHd_unloc 1, by decide +kernel⟩
  · exact ⟨[], by decide +kernel, noDigitHd_nil, by decide +kernel⟩
  · exact ⟨[], by decide +kernel, noDigitHd_nil, by decide +kernel⟩
example : ∀ e ∈ exEntries, ∀ e' ∈ exEntries, e.2 ≠ e'.2 → origOf exFs e.2 = origOf exFs e'.2 →
    (exFs.getD e.2 default).name ≠ (exFs.getD e'.2 default).name := by rw [exFsC.2]; str_lits; decide +kernel

/-! ## G5  order of the scaffolds inside every output assembly -/

/-- **G5.**  Every assembly returned by `assemblies_with_scaffolds_fused` lists its scaffolds in `smart_sort_scaffolds`
    order: ranks non-decreasing (1 autosomes, 2 named chromosomes, 3 unplaced) and, inside one rank, non-decreasing
    natural key of the name. -/
theorem output_order (input : List Scaffold) (b : Build) (outs : List OutAsm) (stats : Stats)
    (h : assembliesFused input b = .ok (outs, stats)) :
    ∀ o ∈ outs,
      o.scaffolds.Pairwise (fun x y => x.rank ≤ y.rank) ∧
      o.scaffolds.Pairwise (fun x y => x.rank = y.rank → keyLe (C20.keyOf x.name) (C20.keyOf y.name) = true) := by
  rw [C09.assembliesFused_eq] at h
  generalize C09.splitLoop b.namer.autosomePrefix (fuseByName b) = st at h
  obtain ⟨asms, entries, haps, fs⟩ := st
  obtain ⟨fs', _, htail⟩ := finishAssemblies_named input b asms entries haps fs _ h
  intro o ho
  obtain ⟨a, _, _, _, hsc⟩ := outsTail_mem input b asms fs' outs stats htail o ho
  have hs : smartSort (a.2.2.map (fun sid => fs'.getD sid default)) = .ok o.scaffolds := by
    rw [hsc]; exact C20.smartSort_total _
  exact ⟨C20.rank_first _ _ hs, C20.smartSort_sorted_within_rank _ _ hs⟩

/-- in such an assembly a scaffold with a strictly smaller natural key and the same rank stands strictly earlier -/
theorem output_position (input : List Scaffold) (b : Build) (outs : List OutAsm) (stats : Stats)
    (h : assembliesFused input b = .ok (outs, stats)) (o : OutAsm) (ho : o ∈ outs)
    (i j : Nat) (hi : i < o.scaffolds.length) (hj : j < o.scaffolds.length)
    (hr : o.scaffolds[i].rank = o.scaffolds[j].rank)
    (hlt : C20.keyLt (C20.keyOf o.scaffolds[i].name) (C20.keyOf o.scaffolds[j].name)) : i < j :=
  sorted_position o.scaffolds (output_order input b outs stats h o ho).2 i j hi hj hr hlt

/-- **G5, names of the shape produced by G2/G3.**  With a prefix satisfying `C20.PrefixOk` (e.g. `SUPER_`): if an
    output assembly contains, with equal rank, chromosome `prefix n` at position `i`, its unloc
    `prefix n _unloc_ k` at position `j` and a later chromosome `prefix n'` (`n < n'`) at position `l`, then
    `i < j < l`: the unlocs of an autosome come after it and before the next autosome. -/
theorem unloc_directly_after (input : List Scaffold) (b : Build) (outs : List OutAsm) (stats : Stats)
    (h : assembliesFused input b = .ok (outs, stats)) (o : OutAsm) (ho : o ∈ outs) (p : Str) (hp : C20.PrefixOk p)
    (n n' k : Nat) (hn : n < n') (i j l : Nat) (hi : i < o.scaffolds.length) (hj : j < o.scaffolds.length)
    (hl : l < o.scaffolds.length)
    (hri : o.scaffolds[i].rank = o.scaffolds[j].rank) (hrl : o.scaffolds[j].rank = o.scaffolds[l].rank)
    (ni : o.scaffolds[i].name = p ++ natToStr n)
    (nj : o.scaffolds[j].name = p ++ natToStr n ++ C20.unlocInfix ++ natToStr k)
    (nl : o.scaffolds[l].name = p ++ natToStr n') : i < j ∧ j < l := by
  obtain ⟨h1, h2⟩ := C20.unloc_between p n n' k hp hn
  exact ⟨output_position input b outs stats h o ho i j hi hj hri (by rw [ni, nj]; exact h1),
         output_position input b outs stats h o ho j l hj hl hrl (by rw [nj, nl]; exact h2)⟩

/-- the unlocs of one chromosome stand in the order of their own numbers -/
theorem unlocs_in_order (input : List Scaffold) (b : Build) (outs : List OutAsm) (stats : Stats)
    (h : assembliesFused input b = .ok (outs, stats)) (o : OutAsm) (ho : o ∈ outs) (p : Str)
    (n k k' : Nat) (hk : k < k') (i j : Nat) (hi : i < o.scaffolds.length) (hj : j < o.scaffolds.length)
    (hr : o.scaffolds[i].rank = o.scaffolds[j].rank)
    (ni : o.scaffolds[i].name = p ++ natToStr n ++ C20.unlocInfix ++ natToStr k)
    (nj : o.scaffolds[j].name = p ++ natToStr n ++ C20.unlocInfix ++ natToStr k') : i < j :=
  output_position input b outs stats h o ho i j hi hj hr (by rw [ni, nj]; exact C20.unloc_order p n k k' hk)

/-! ## non-vacuity: `assemblies_with_scaffolds_fused` end to end -/

def exFrag (nm : Str) (stop : Int) : Fragment := { name := nm, start := 1, stop := stop, strand := 1 }
def exPiece (nm orig ctg : Str) (len : Int) : Res :=
  { o := { bait := exFrag orig len, start := 1, stop := len, rows := [.frag (exFrag ctg len)], name := nm, rank := 1,
           originalName := some orig, originalTags := some [sPainted] }, added := true }
/-- Pretext scaffolds Scaffold_1 (100 bp) with one unloc (50 bp), Scaffold_2 (300 bp), Scaffold_3 (120 bp), all painted -/
def exBuild : Build :=
  { namer := { autosomePrefix := "SUPER_".toList },
    store := [exPiece "Scaffold_1".toList "Scaffold_1".toList "ctgA".toList 100,
              exPiece "Scaffold_1_unloc_1".toList "Scaffold_1".toList "ctgB".toList 50,
              exPiece "Scaffold_2".toList "Scaffold_2".toList "ctgC".toList 300,
              exPiece "Scaffold_3".toList "Scaffold_3".toList "ctgD".toList 120],
    nextOid := 0, joinGap := none, err := 1 }
def exBuildC : Decoded exBuild := ⟨_, by unfold exBuild; str_lits; exact rfl⟩

/-- the largest Pretext scaffold becomes SUPER_1; Scaffold_1 counts with its unloc (150 bp > 120 bp) and becomes SUPER_2,
    its unloc follows it directly and precedes SUPER_3 -/
example : (assembliesFused [] exBuild).toOption.map
      (fun r => r.1.map (fun a => (a.key, a.scaffolds.map (fun s => (s.name, s.fragmentsLength))))) =
    some [(none, [("SUPER_1".toList, 300), ("SUPER_2".toList, 100), ("SUPER_2_unloc_1".toList, 50),
                  ("SUPER_3".toList, 120)])] := by
  rw [exBuildC.2]; str_lits; decide +kernel
example : (assembliesFused [] exBuild).toOption.map (fun r => r.1.map (fun a => a.scaffolds.map (·.rank))) =
    some [[1, 1, 1, 1]] := by rw [exBuildC.2]; str_lits; decide +kernel

/-- … which is the situation of `unloc_directly_after` with `n = 2`, `k = 1`, `n' = 3` at positions 1, 2, 3 -/
example : "SUPER_2".toList = "SUPER_".toList ++ natToStr 2 ∧
    "SUPER_2_unloc_1".toList = "SUPER_".toList ++ natToStr 2 ++ C20.unlocInfix ++ natToStr 1 ∧
    "SUPER_3".toList = "SUPER_".toList ++ natToStr 3 := by str_lits; decide +kernel

/-- the split loop of the example has the single haplotype key `"None"` (hypothesis of `assemblies_fused_single`) -/
example :
    let st := C09.splitLoop exBuild.namer.autosomePrefix (fuseByName exBuild)
    st = (st.1, st.2.1, [sNone], st.2.2.2) ∧
    ∀ e ∈ st.2.1, truthy (st.2.2.2.getD e.2 default).originalName = true := by
  rw [exBuildC.2]; str_lits; decide +kernel

example : C20.PrefixOk "SUPER_".toList := by str_lits; decide +kernel

end AgpTpf.C10
