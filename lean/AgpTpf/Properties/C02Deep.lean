/-
  C02 (end-to-end, maps that cut DEEP INSIDE contigs) — extends `Properties/C02Aligned.lean`.

  Python: `BuildAssembly.remap_to_input_assembly`, `find_assembly_overlaps`, `discard_overhanging_fragments`,
  `cut_remaining_overhangs` / `cut_fragments`, `add_missing_scaffolds_from_input`, `scaffolds_fused_by_name`,
  `assemblies_with_scaffolds_fused` (build_assembly.py); `OverhangResolver`, `OverhangPremise` (build_utils.py);
  `OverlapResult.trim_large_overhangs / trim_fragment` (overlap_result.py).  Helpers: `Proofs/C02D*.lean`.

  CLASS — `DeepCut input ptx err` (`Proofs/C02DHyp.lean`; Bool checker `deepCutB`, `deepCut_of_check` in `Proofs/C02DCheck.lean`), stated like
  `Aligned` on the lookup results `pieceO input p` of the pieces (untagged, unpainted Pretext scaffolds):
    * `names`, `lens`  input scaffold names pairwise different; no row of negative length;
    * `oids`           no input scaffold holds the same Fragment object twice (`trim_fragment` finds its row by identity);
    * `errPos`         `1 ≤ err` (`err = 1 + ⌊bp per texel⌋`);
    * `scaffolds`      every Pretext scaffold begins with a fragment row whose name is not shaped `<hap>_…_<digits>`; every
                       piece `p` has a lookup result, no tags, `p.start ≤ p.stop`, and each terminal row of the result
                       sticks out by `≤ err` or shares `≥ err` bases with `p` (nothing for `trim_large_overhangs` to discard);
    * `two`            every contig claimed more than once is claimed by exactly TWO pieces (one cut per contig)
                       — `sharedKeys` = the keys `find_assembly_overlaps` puts into `fragments_found_more_than_once`, in that
                       order; `holdersOf k` = the ids of the results holding `k` (spec: `shared_keys_spec`, `holders_spec`);
    * `sitesOk`        for each such contig `F` (`Site`: pieces `a`, `b`): `F` is the LAST row of `a`'s result and the FIRST
                       row of `b`'s; the pieces abut — `a` ends at `c`, `b` begins at `c + 1` (a PretextView cut); both
                       results place `F` at the same scaffold coordinates; each piece shares MORE THAN `3·err` bases with
                       `F` (the cut is deeper than the margin), or lies wholly inside `F` (single-row result) and shares
                       `≥ err` bases; `F` is a forward or reverse contig;
    * `unclaimed`      contigs claimed by no piece carry no tags and have names not shaped `<hap>_…_<digits>`.
  `NoClashDeep`: the names of the fused scaffolds are pairwise different (as `NoClash` for aligned maps).

  FULL CLASS — `DeepCutN input ptx err` (`Proofs/C02DNHyp.lean`; checker `deepCutNB`, `deepCutN_of_check` in `Proofs/C02DNCheck.lean`): the clauses of
  `DeepCut` without `two`: a contig may be cut ANY number of times.  The holders of a shared contig, sorted by where their
  baits begin, form its `chain` (`SiteN`, `sitesN`, `site_of_n_def`); EVERY TWO CONSECUTIVE holders `a`, `b` of a chain
  must satisfy the site conditions `SiteOk` listed above (`ChainOk`): one PretextView cut each.  (The holders in the
  middle of a chain then lie wholly inside the contig.)

  PROVED
    `deep_map_rearranges`          FULL STRENGTH for the untagged / unpainted class, forward and reverse contigs, any
                                   number of cuts per contig: `remap = .ok (primaryOnly (expectedScaffoldsDeepN …), stats)`,
                                   `stats.cuts = (piece, shared contig) incidences − shared contigs`.
    `remap_to_input_deep_full`     the build for that class: `store = expectedStoreDeepN` (`cutPieceN`), no error.
    `remap_to_input_deep`,
    `deep_map_rearranges_partial`  the same for `DeepCut` (one cut per contig), with the simpler specification functions
                                   `sites` / `cutPiece` (pairs instead of chains); `deep_cut_position` is stated for it.
    `deep_cut_position`            the cut is exactly where the Pretext coordinate designates: the contig `name:s..e` at
                                   scaffold coordinates `cs..ce`, cut by `c | c+1`, becomes `name:s..s+(c−cs)` (last row of
                                   piece `a`) and `name:s+(c−cs)+1..e` (first row of piece `b`); mirrored for a reverse
                                   contig: `name:e−(c−cs)..e` and `name:s..e−(c−cs)−1`.  (Stated for `DeepCut`; for
                                   `DeepCutN` the same arithmetic is in `cutPieceN` — `cut_piece_n_def` — and is evaluated
                                   on a contig cut twice below.)
    `cut_fragments_chain`, `qc_accepts_chain`   `cut_fragments` for any number of holders; the QC accepts `n` abutting pieces.
    `resolver_idle`                `discard_overhanging_fragments` changes nothing on these maps.
  NOT COVERED (restriction of the class, not a `_partial` proof): tagged / painted pieces.
-/
import AgpTpf.Proofs.C02DCheck
import AgpTpf.Proofs.Remap.Registry
import AgpTpf.Proofs.C02DChain
import AgpTpf.Proofs.C02DNCheck
import AgpTpf.Proofs.C02DTwo
import AgpTpf.Proofs.ImpEval
namespace AgpTpf.C02
open AgpTpf

/-! ## the specification functions, unfolded -/

/-- cutting at the scaffold-left side of a contig, in contig coordinates: a forward contig loses its first `d` bases, a
    reverse contig its last `d` bases; the new Fragment is tagged `Cut` -/
theorem cut_frag_start_def (F : Fragment) (d : Int) (oid : Nat) :
    cutFragStart F d oid =
      { oid := oid, name := F.name, start := if F.strand = 1 then F.start + d else F.start,
        stop := if F.strand = 1 then F.stop else F.stop - d, strand := F.strand, tags := ["Cut".toList] } := by
  -- the tag's characters are read off the literal: unifying it with `Gen.cutTag` as it stands runs the UTF-8 decoder
  rw [String.toList_ofList]; rfl

/-- cutting at the scaffold-right side: a forward contig loses its last `d` bases, a reverse contig its first `d` -/
theorem cut_frag_end_def (F : Fragment) (d : Int) (oid : Nat) :
    cutFragEnd F d oid =
      { oid := oid, name := F.name, start := if F.strand = 1 then F.start else F.start + d,
        stop := if F.strand = 1 then F.stop - d else F.stop, strand := F.strand, tags := ["Cut".toList] } := by
  rw [String.toList_ofList]; rfl

/-- a result whose first row `F` is shared with the piece in front: it then begins where the bait begins, and `F` loses the
    `bait.start − start` bases in front of the bait -/
theorem trim_start_spec_def (oid : Nat) (o : OverlapResult) (F : Fragment) (r : List Row) (h : o.rows = .frag F :: r) :
    trimStartSpec oid o =
      { o with start := o.bait.start, rows := .frag (cutFragStart F (o.bait.start - o.start) oid) :: r } :=
  trimStartSpec_cons oid o F r h

/-- a result whose last row `F` is shared with the piece behind: it then ends where the bait ends -/
theorem trim_end_spec_def (oid : Nat) (o : OverlapResult) (F : Fragment) (t : List Row) (h : o.rows = t ++ [.frag F]) :
    trimEndSpec oid o =
      { o with stop := o.bait.stop, rows := t ++ [.frag (cutFragEnd F (o.stop - o.bait.stop) oid)] } :=
  trimEndSpec_concat oid o F t h

/-- the lookup result of piece number `i` after cutting: start cut iff the piece is the `b` of a site, end cut iff it is
    the `a` of a site (`startCutIn` / `endCutIn` look the piece up in the numbered site list and return the new object id) -/
theorem cut_piece_def (input ptx : List Scaffold) (i : Nat) (p : Fragment) :
    cutPiece input ptx i p =
      (let o1 := match startCutIn (oid0 input) (sites input ptx).zipIdx i with
         | some oid => trimStartSpec oid (pieceO input p)
         | none => pieceO input p
       match endCutIn (oid0 input) (sites input ptx).zipIdx i with
         | some oid => trimEndSpec oid o1
         | none => o1) := by
  unfold cutPiece cutPieceIn cutO
  rfl

theorem expected_scaffolds_deep_def (input ptx : List Scaffold) (jg : Gap) :
    expectedScaffoldsDeep input ptx jg =
      (groupsFrom 0 ptx).map (fun g =>
        ({ name := outName g.1,
           rows := g.2.foldl (fun built q =>
             Scaffold.appendRows built (cutPiece input ptx q.2 q.1).toScaffoldRows (some jg)) [],
           rank := 3, originalName := some g.1.name, originalTags := some [] } : Scaffold)) ++
      (input.filterMap (leftoverEntry (claimedKeys input ptx) jg)).map (·.1) := rfl

/-- `groupsFrom 0 ptx`: every Pretext scaffold with its pieces numbered consecutively through the whole map -/
theorem groups_from_def (n : Nat) (S : Scaffold) (r : List Scaffold) :
    groupsFrom n [] = [] ∧
    groupsFrom n (S :: r) = (S, S.fragments.zipIdx n) :: groupsFrom (n + S.fragments.length) r := ⟨rfl, rfl⟩

theorem registered_iff_claimed (input ptx : List Scaffold) (k : Key) :
    dHas (regOf input ptx).1 k = (claimedKeys input ptx).contains k := regOf_has input ptx k

theorem shared_keys_nodup (input ptx : List Scaffold) : (sharedKeys input ptx).Nodup := (regOf_ok input ptx).multiNodup

/-- `holdersOf k`: for every piece, in Pretext order, its number — once per occurrence of `k` among the contigs of its
    lookup result; as many as `k` is claimed -/
theorem holders_spec (input ptx : List Scaffold) (k : Key) :
    holdersOf input ptx k =
      (allPieces ptx).zipIdx.flatMap (fun x => List.replicate ((pieceKeys input x.1.2).count k) x.2) ∧
    (holdersOf input ptx k).length = (claimedKeys input ptx).count k :=
  ⟨holdersOf_spec input ptx k, holdersOf_length input ptx k⟩

/-- `sharedKeys`: exactly the contigs claimed at least twice (so clause `two` of `DeepCut` says: exactly twice) -/
theorem shared_keys_spec (input ptx : List Scaffold) (k : Key) :
    k ∈ sharedKeys input ptx ↔ 2 ≤ (claimedKeys input ptx).count k := by
  rw [sharedKeys_spec, holdersOf_length]

/-- the site of a shared key `k` held by the pieces `s < t` (Pretext order): key, the registered Fragment object, and the
    two pieces ordered so that `a` is the one whose bait ends where the other's begins -/
theorem site_of_def (ptx : List Scaffold) (found : List (Key × Found)) (k : Key) (fnd : Found) (s t : Nat)
    (h : dGet? found k = some fnd) (hst : fnd.scaffolds = [s, t]) :
    siteOf ptx found k =
      if (pieceAt ptx s).2.stop + 1 = (pieceAt ptx t).2.start then ⟨k, fnd.fragment, s, t⟩ else ⟨k, fnd.fragment, t, s⟩ := by
  unfold siteOf; rw [h]; simp only [hst]

/-! ## the build -/

/-- **`remap_to_input_assembly` on a deep-cut map** -/
theorem remap_to_input_deep (input ptx : List Scaffold) (prefix_ : Str) (jg : Gap) (err : Int)
    (hd : DeepCut input ptx err) :
    ∃ b, remapToInput input ptx prefix_ (some jg) err = .ok b ∧
      b.store = expectedStoreDeep input ptx ∧
      b.extra = expectedExtra (claimedKeys input ptx) jg input ∧
      b.multi = [] ∧ b.cuts = (sites input ptx).length ∧ b.joinGap = some jg ∧ b.namer.autosomePrefix = prefix_ := by
  have h := remapToInput_deepN input ptx prefix_ jg err hd.toN
  rwa [expectedStoreDeepN_eq hd, cutsN_eq_sites hd] at h

/-- what is stored for piece `p` (number `i`) of Pretext scaffold `S`: `cutPiece`, labelled as for aligned maps -/
theorem expected_store_deep_def (input ptx : List Scaffold) :
    expectedStoreDeep input ptx =
      (allPieces ptx).zipIdx.map (fun x => ({ o := labelled x.1.1 (cutPiece input ptx x.2 x.1.2), added := true } : Res)) := by
  unfold expectedStoreDeep storeDeepIn
  apply List.map_congr_left
  intro x _
  unfold resDeepIn
  rw [cutO_labelled]
  rfl

/-- the resolver has nothing to do on such a map (`discard_overhanging_fragments` returns the build unchanged) -/
theorem resolver_idle {input ptx : List Scaffold} {err : Int} (hd : DeepCut input ptx err) (b : Build)
    (hstore : b.store = expectedStore input ptx) (hfound : b.found = (regOf input ptx).1)
    (hmulti : b.multi = sharedKeys input ptx) (herr : b.err = err) (fuel : Nat) :
    discardOverhanging (fuel + 1) b = .ok b :=
  discardOverhanging_deepN hd.toN b hstore hfound hmulti herr fuel

/-! ## the output -/

/-- number of (piece, shared contig) incidences -/
def incidences (input ptx : List Scaffold) : Nat :=
  ((sharedKeys input ptx).map (fun k => (holdersOf input ptx k).length)).sum

/-- **C02, maps cutting deep inside contigs — the special case of `deep_map_rearranges` below in which each contig is
    shared by at most two pieces (clause `two` of `DeepCut`)**, with the simpler specification `sites` / `cutPiece`.

    `remap` does not fail; it returns one primary, curated assembly whose scaffolds are, in `smart_sort_scaffolds` order,
    `expectedScaffoldsDeep input ptx jg`: for every Pretext scaffold the rows of its pieces in Pretext order — each piece
    its lookup result with the shared terminal contigs cut at the bait (`cutPiece`), reversed with strands negated iff the
    piece is on the minus strand, the join gap between consecutive pieces — followed by the left-over scaffolds; the
    statistics count one cut per shared contig. -/
theorem deep_map_rearranges_partial (input ptx : List Scaffold) (prefix_ : Str) (jg : Gap) (err : Int)
    (hd : DeepCut input ptx err) (hnc : NoClashDeep input ptx jg)
    (hstr : ∀ sc ∈ input, ∀ f ∈ sc.fragments, f.strand = 1 ∨ f.strand = -1) :
    ∃ stats, remap input ptx prefix_ (some jg) err = .ok (primaryOnly (expectedScaffoldsDeep input ptx jg), stats) ∧
      stats.cuts = (incidences input ptx : Int) - ((sharedKeys input ptx).length : Int) := by
  have hnc' : NoClashDeepN input ptx jg := by unfold NoClashDeepN; rw [expectedScaffoldsDeepN_eq hd]; exact hnc
  obtain ⟨st, h1, h2⟩ := remap_deepN input ptx prefix_ jg err hd.toN hnc' hstr
  exact ⟨st, by rw [← expectedScaffoldsDeepN_eq hd]; exact h1, by rw [h2]; exact cutsN_eq input ptx⟩

/-! ## the full class: any number of cuts per contig -/

/-- the chain of a shared contig: its holders sorted (stably) by where their baits begin -/
theorem site_of_n_def (ptx : List Scaffold) (found : List (Key × Found)) (k : Key) (fnd : Found)
    (h : dGet? found k = some fnd) :
    siteOfN ptx found k = ⟨k, fnd.fragment, sortByIntKey (fun s => (pieceAt ptx s).2.start) fnd.scaffolds⟩ := by
  unfold siteOfN; rw [h]

/-- `DeepCutN`: the base clauses, and every two consecutive holders of every chain form a cut site -/
theorem deep_cut_n_def (input ptx : List Scaffold) (err : Int) :
    DeepCutN input ptx err ↔
      DeepBase input ptx err ∧
      ∀ x ∈ sitesN input ptx, Adj (fun a b => SiteOk input ptx err ⟨x.key, x.frag, a, b⟩) x.chain :=
  ⟨fun h => ⟨h.base, h.chains⟩, fun h => ⟨h.1, h.2⟩⟩

/-- the start of result `i` is cut iff `i` stands in some chain but not first, its end iff not last; the new Fragment of
    the holder at chain position `p` gets object id `oid0 + (ids used by earlier chains) + p` for a forward contig and
    `… + (len − 1 − p)` for a reverse one (holders are visited in contig order); a holder in the middle of a chain is cut
    at both ends into ONE new Fragment -/
theorem cut_piece_n_def (input ptx : List Scaffold) (i : Nat) (p : Fragment) :
    cutPieceN input ptx i p =
      (let l := withOffsets 0 (sitesN input ptx)
       let o1 := match startCutN (oid0 input) l i with
         | some oid => trimStartSpec oid (pieceO input p)
         | none => pieceO input p
       match endCutN (oid0 input) l i with
         | some oid => trimEndSpec oid o1
         | none => o1) := by
  unfold cutPieceN cutO
  rfl

theorem start_end_cut_n_def (base : Nat) (l : List (SiteN × Nat)) (i : Nat) :
    startCutN base l i = l.findSome? (fun y =>
      if 0 < y.1.chain.idxOf i ∧ y.1.chain.idxOf i < y.1.chain.length then some (oidAt base y (y.1.chain.idxOf i)) else none) ∧
    endCutN base l i = l.findSome? (fun y =>
      if y.1.chain.idxOf i + 1 < y.1.chain.length then some (oidAt base y (y.1.chain.idxOf i)) else none) ∧
    (∀ y p, oidAt base y p = base + y.2 + (if y.1.frag.strand = 1 then p else y.1.chain.length - 1 - p)) :=
  ⟨rfl, rfl, fun _ _ => rfl⟩

/-- **`remap_to_input_assembly` on a deep-cut map, any number of cuts per contig** -/
theorem remap_to_input_deep_full (input ptx : List Scaffold) (prefix_ : Str) (jg : Gap) (err : Int)
    (hd : DeepCutN input ptx err) :
    ∃ b, remapToInput input ptx prefix_ (some jg) err = .ok b ∧
      b.store = expectedStoreDeepN input ptx ∧
      b.extra = expectedExtra (claimedKeys input ptx) jg input ∧
      b.multi = [] ∧ b.cuts = cutsN input ptx ∧ b.joinGap = some jg ∧ b.namer.autosomePrefix = prefix_ :=
  remapToInput_deepN input ptx prefix_ jg err hd

/-- **C02, maps that cut deep inside contigs — full strength for untagged / unpainted maps.**
    `remap` does not fail; it returns one primary, curated assembly whose scaffolds are, in `smart_sort_scaffolds` order,
    `expectedScaffoldsDeepN input ptx jg`: for every Pretext scaffold the rows of its pieces in Pretext order — each piece
    its lookup result with the shared terminal contigs cut at the bait (`cutPieceN`: by plain arithmetic on the bait
    coordinates, `trimStartSpec` / `trimEndSpec`), reversed with strands negated iff the piece is on the minus strand, the
    join gap between consecutive pieces — followed by the left-over scaffolds; `stats.cuts` is the number of (piece,
    shared contig) incidences minus the number of shared contigs. -/
theorem deep_map_rearranges (input ptx : List Scaffold) (prefix_ : Str) (jg : Gap) (err : Int)
    (hd : DeepCutN input ptx err) (hnc : NoClashDeepN input ptx jg)
    (hstr : ∀ sc ∈ input, ∀ f ∈ sc.fragments, f.strand = 1 ∨ f.strand = -1) :
    ∃ stats, remap input ptx prefix_ (some jg) err = .ok (primaryOnly (expectedScaffoldsDeepN input ptx jg), stats) ∧
      stats.cuts = (incidencesN input ptx : Int) - ((sharedKeys input ptx).length : Int) := by
  obtain ⟨st, h1, h2⟩ := remap_deepN input ptx prefix_ jg err hd hnc hstr
  exact ⟨st, h1, by rw [h2]; exact cutsN_eq input ptx⟩

theorem expected_scaffolds_deep_n_def (input ptx : List Scaffold) (jg : Gap) :
    expectedScaffoldsDeepN input ptx jg =
      (groupsFrom 0 ptx).map (fun g =>
        ({ name := outName g.1,
           rows := g.2.foldl (fun built q =>
             Scaffold.appendRows built (cutPieceN input ptx q.2 q.1).toScaffoldRows (some jg)) [],
           rank := 3, originalName := some g.1.name, originalTags := some [] } : Scaffold)) ++
      (input.filterMap (leftoverEntry (claimedKeys input ptx) jg)).map (·.1) := rfl

/-- the number of (piece, shared contig) incidences -/
theorem incidences_n_def (input ptx : List Scaffold) :
    incidencesN input ptx = ((sharedKeys input ptx).map (fun k => (holdersOf input ptx k).length)).sum := rfl

/-! ## where the cut falls -/

/-- the arithmetic of a cut: a contig `F` lying at scaffold coordinates `cs..ce` loses, for the piece ending at `c`, the
    `ce − c` positions right of the cut, and for the piece beginning at `c + 1` the `c + 1 − cs` positions left of it -/
theorem cut_pair_coords (F : Fragment) (c cs ce : Int) (ea sb : Nat) (hlen : ce - cs = F.stop - F.start) :
    (F.strand = 1 →
      (cutFragEnd F (ce - c) ea).start = F.start ∧ (cutFragEnd F (ce - c) ea).stop = F.start + (c - cs) ∧
      (cutFragStart F (c + 1 - cs) sb).start = F.start + (c - cs) + 1 ∧ (cutFragStart F (c + 1 - cs) sb).stop = F.stop) ∧
    (F.strand = -1 →
      (cutFragEnd F (ce - c) ea).start = F.stop - (c - cs) ∧ (cutFragEnd F (ce - c) ea).stop = F.stop ∧
      (cutFragStart F (c + 1 - cs) sb).start = F.start ∧ (cutFragStart F (c + 1 - cs) sb).stop = F.stop - (c - cs) - 1) := by
  refine ⟨fun h1 => ?_, fun h1 => ?_⟩
  · simp only [cutFragEnd, cutFragStart, h1, if_true]
    exact ⟨trivial, by omega, by omega, trivial⟩
  · have hn : ¬ F.strand = 1 := by omega
    simp only [cutFragEnd, cutFragStart, hn, if_false]
    exact ⟨by omega, trivial, trivial, by omega⟩

/-- **A cut deeper than the margin splits the contig exactly at the position the Pretext coordinate designates.**
    Site `x`: contig `F = name:s..e`; piece `a` ends at scaffold coordinate `c`, piece `b` begins at `c + 1`; the contig
    occupies scaffold coordinates `cs..ce` (`cs ≤ c < ce`, `ce − cs = e − s`).  After the remap the LAST row of piece `a`
    is `fa` and the FIRST row of piece `b` is `fb`, both tagged `Cut`, with
      forward contig:  `fa = name:s..s+(c−cs)`,     `fb = name:s+(c−cs)+1..e`;
      reverse contig:  `fa = name:e−(c−cs)..e`,     `fb = name:s..e−(c−cs)−1`
    (a reverse contig's LAST bases lie at the scaffold-left side). -/
theorem deep_cut_position {input ptx : List Scaffold} {err : Int} (hd : DeepCut input ptx err) (x : Site)
    (hx : x ∈ sites input ptx) :
    let pa := (pieceAt ptx x.a).2
    let pb := (pieceAt ptx x.b).2
    let c := pa.stop
    let cs := (pieceO input pb).start
    let ce := (pieceO input pa).stop
    pb.start = c + 1 ∧ cs ≤ c ∧ c < ce ∧ ce - cs = x.frag.stop - x.frag.start ∧
    ∃ fa fb ta rb, (cutPiece input ptx x.a pa).rows = ta ++ [.frag fa] ∧ (cutPiece input ptx x.b pb).rows = .frag fb :: rb ∧
      fa.name = x.frag.name ∧ fb.name = x.frag.name ∧ fa.strand = x.frag.strand ∧ fb.strand = x.frag.strand ∧
      fa.tags = ["Cut".toList] ∧ fb.tags = ["Cut".toList] ∧
      (x.frag.strand = 1 → fa.start = x.frag.start ∧ fa.stop = x.frag.start + (c - cs) ∧
        fb.start = x.frag.start + (c - cs) + 1 ∧ fb.stop = x.frag.stop) ∧
      (x.frag.strand = -1 → fa.start = x.frag.stop - (c - cs) ∧ fa.stop = x.frag.stop ∧
        fb.start = x.frag.start ∧ fb.stop = x.frag.stop - (c - cs) - 1) := by
  intro pa pb c cs ce
  have hok := hd.sitesOk x hx
  obtain ⟨hda, hdb, -⟩ : 0 < ce - c ∧ 0 < pb.start - cs ∧ _ := site_arith hd.base x hok
  obtain ⟨⟨ta, e, hra⟩, ⟨rb, s, hrb⟩⟩ := cut_rows_of_site hd x hx
  have habut : c + 1 = pb.start := hok.abut
  have hpos : ce - x.frag.length + 1 = cs := hok.samePos
  have hl : x.frag.length = x.frag.stop - x.frag.start + 1 := rfl
  have hlen : ce - cs = x.frag.stop - x.frag.start := by omega
  rw [← habut] at hrb
  obtain ⟨hf, hr⟩ := cut_pair_coords x.frag c cs ce e s hlen
  exact ⟨habut.symm, by omega, by omega, hlen, _, _, ta, rb, hra, hrb, rfl, rfl, rfl, rfl,
    congrArg Fragment.tags (cut_frag_end_def _ _ _), congrArg Fragment.tags (cut_frag_start_def _ _ _), hf, hr⟩

/-- every (cut) piece is one contiguous run of the rows of its Pretext scaffold's output: `toScaffoldRows` — the rows of
    `cutPiece`, reversed with strands negated iff the piece is on the minus strand -/
theorem cut_piece_is_contiguous_run (input ptx : List Scaffold) (jg : Gap) (g : Scaffold × List (Fragment × Nat))
    (q : Fragment × Nat) (hq : q ∈ g.2) :
    (cutPiece input ptx q.2 q.1).toScaffoldRows <:+: (pretextOutDeep input ptx jg g).rows ∧
    (cutPiece input ptx q.2 q.1).bait = (pieceO input q.1).bait :=
  ⟨cut_piece_infix input ptx jg g.2 q hq, cutO_bait _ _ _⟩

/-! ## the ingredient for more than one cut per contig -/

/-- **`cut_fragments` for a contig with ANY number of holders** (the mechanism behind `deep_map_rearranges`).
    `T` lists, in visiting order, each holder's id, the result and the new Fragment `trim_fragment` makes of it.  If
    * the ids arranged like that are a permutation of the registered holder list with strictly increasing
      `fragment_start_if_trimmed` (so this IS the visiting order),
    * `trim_fragment` succeeds on the `j`-th with `(keep_start, keep_end) = cutFlags strand j (len − 1)` and object id
      `nextOid + j`,
    * the new Fragments form a chain `Adj Follows'` — same contig name, each non-empty, each beginning one base after its
      predecessor ends — from the contig's first base to its last,
    then `cut_fragments` succeeds (the QC passes), every holder gets its trimmed result, `len − 1` cuts are counted and
    `len` object ids are used. -/
theorem cut_fragments_chain (b : Build) (fnd : Found) (T : List (Nat × OverlapResult × Fragment)) (κ : Nat → Int)
    (hκ : ∀ h ∈ fnd.scaffolds, (getRes b.store h).fragmentStartIfTrimmed fnd.fragment = .ok (κ h))
    (hperm : (T.map (·.1)).Perm fnd.scaffolds) (hsorted : (T.map (·.1)).Pairwise (fun a c => κ a < κ c))
    (htrim : ∀ j t, T[j]? = some t →
      (b.store.getD t.1 default).o.trimFragment fnd.fragment (cutFlags fnd.fragment.strand j (T.length - 1)).1
        (cutFlags fnd.fragment.strand j (T.length - 1)).2 (b.nextOid + j) = .ok (t.2.1, t.2.2))
    (x : Fragment) (ts : List Fragment) (hnews : T.map (·.2.2) = x :: ts) (hadj : Adj Follows' (x :: ts))
    (hstart : x.start = fnd.fragment.start) (hstop : ((x :: ts).getLast (by simp)).stop = fnd.fragment.stop) :
    cutFragments b fnd = .ok { applyCuts b T with cuts := b.cuts + ((T.length : Int) - 1) } :=
  cutFragments_chain b fnd T κ hκ hperm hsorted htrim x ts hnews hadj hstart hstop

theorem apply_cuts_def (b : Build) (T : List (Nat × OverlapResult × Fragment)) :
    applyCuts b T =
      { b with store := T.foldl (fun st t => setAt st t.1 { st.getD t.1 default with o := t.2.1 }) b.store,
               nextOid := b.nextOid + T.length } := rfl

theorem adj_follows_def (a c : Fragment) (t : List Fragment) :
    (Adj Follows' (a :: c :: t) ↔
      (a.name = c.name ∧ a.start ≤ a.stop ∧ c.start ≤ c.stop ∧ a.stop + 1 = c.start) ∧ Adj Follows' (c :: t)) ∧
    Adj Follows' [a] := ⟨Iff.rfl, trivial⟩

/-- the QC of `n` abutting pieces tiling the contig passes (the converse of C01 `qc_tiles`) -/
theorem qc_accepts_chain (F x : Fragment) (t : List Fragment) (hadj : Adj Follows' (x :: t)) (hstart : x.start = F.start)
    (hstop : ((x :: t).getLast (by simp)).stop = F.stop) : qcPasses F (x :: t) = true :=
  qc_chain F x t hadj hstart hstop

/-! ## non-vacuity: one forward and one reverse contig cut deep inside, pieces swapped and reversed -/

private def g10 : Gap := { length := 10, gapType := "scaffold".toList }
private def g5 : Gap := { length := 5, gapType := "scaffold".toList }
private def jg : Gap := { length := 200, gapType := "scaffold".toList }
private def a1 : Fragment := { oid := 1, name := "ctgA1".toList, start := 1, stop := 100, strand := 1 }
private def a2 : Fragment := { oid := 2, name := "ctgA2".toList, start := 1, stop := 80, strand := -1 }
private def a3 : Fragment := { oid := 3, name := "ctgA3".toList, start := 1, stop := 40, strand := 1 }
private def b1 : Fragment := { oid := 4, name := "ctgB1".toList, start := 1, stop := 80, strand := 1 }
private def b2 : Fragment := { oid := 5, name := "ctgB2".toList, start := 1, stop := 60, strand := 1 }
/-- 240 bp: a1 1-100, gap, a2 111-190 (reverse contig), gap, a3 201-240 -/
private def sA : Scaffold := { name := "scaffold_1".toList, rows := [.frag a1, .gap g10, .frag a2, .gap g10, .frag a3] }
/-- 145 bp: b1 1-80, gap, b2 86-145 -/
private def sB : Scaffold := { name := "scaffold_2".toList, rows := [.frag b1, .gap g5, .frag b2] }
private def inp : List Scaffold := [sA, sB]
private def pc (n : Str) (s e st : Int) : Row := .frag { name := n, start := s, stop := e, strand := st }
/-- texel 8 bp (`err = 9`, margin 27).  `scaffold_1` is cut at 48 | 49 — inside the forward contig a1, 48 resp. 52 bases from
    its ends — and at 150 | 151 — inside the reverse contig a2 (111..190), 40 bases from either end; `scaffold_2` is cut at
    82 | 83, inside its gap.  The middle piece of `scaffold_1` is reversed and put in front of the head of `scaffold_2`; the
    tail of `scaffold_2` is followed by the tail of `scaffold_1` and the reversed head of `scaffold_1`. -/
private def ptx : List Scaffold :=
  [{ name := "Scaffold_1".toList, rows := [pc sA.name 49 150 (-1), .gap jg, pc sB.name 1 82 1] },
   { name := "Scaffold_2".toList,
     rows := [pc sB.name 83 145 1, .gap jg, pc sA.name 151 240 1, .gap jg, pc sA.name 1 48 (-1)] }]

open scoped AgpTpf.ImpEval

private def inpC : Decoded inp := ⟨_, by unfold inp sA sB a1 a2 a3 b1 b2 g10 g5; str_lits; exact rfl⟩
private def ptxC : Decoded ptx := ⟨_, by unfold ptx sA sB jg; str_lits; exact rfl⟩
private def jgC : Decoded jg := ⟨_, by unfold jg; str_lits; exact rfl⟩

example : DeepCut inp ptx 9 := by rw [inpC.2, ptxC.2]; exact deepCut_of_check _ _ _ (by decide +kernel)
example : NoClashDeep inp ptx jg := by unfold NoClashDeep; rw [inpC.2, ptxC.2, jgC.2]; decide +kernel
example : ∀ sc ∈ inp, ∀ f ∈ sc.fragments, f.strand = 1 ∨ f.strand = -1 := by decide

/-- the two cut sites, in the order `cut_remaining_overhangs` visits them: the reverse contig a2 (piece 0 ends in it, piece
    3 begins in it), then the forward contig a1 (piece 4 ends in it, piece 0 begins in it) -/
example : sites inp ptx = [⟨a2.keyTuple, a2, 0, 3⟩, ⟨a1.keyTuple, a1, 4, 0⟩] := by rw [inpC.2, ptxC.2]; decide +kernel

private def cut (f : Fragment) (oid : Nat) (s e : Int) : Fragment := { f with oid := oid, start := s, stop := e, tags := ["Cut".toList] }

/-- the specification, evaluated.  a1 (forward, at 1..100, cut 48 | 49) becomes `ctgA1:1-48` and `ctgA1:49-100`;
    a2 (reverse, at 111..190, cut 150 | 151: 40 scaffold positions on either side) becomes `ctgA2:41-80` (the part at
    111..150) and `ctgA2:1-40` (the part at 151..190).  Object ids 6, 7 (site 0: reverse contig, piece `b` first) and 8, 9. -/
example : (expectedScaffoldsDeep inp ptx jg).map (fun s => (s.name, s.rows)) =
    [(sA.name, [.frag (cut a2 7 41 80).reverse, .gap g10, .frag (cut a1 9 49 100).reverse, .gap jg, .frag b1]),
     (sB.name, [.frag b2, .gap jg, .frag (cut a2 6 1 40), .gap g10, .frag a3, .gap jg, .frag (cut a1 8 1 48).reverse])] := by
  rw [inpC.2, ptxC.2, jgC.2]; decide +kernel

/-- … and `remap` evaluated by the kernel, independently of the theorems, returns exactly the specified output, 2 cuts -/
private theorem remap_inp : (remap inp ptx "SUPER_".toList (some jg) 9).toOption.map (fun r => (r.1, r.2.cuts)) =
    some (primaryOnly (expectedScaffoldsDeep inp ptx jg), 2) := by
  rw [inpC.2, ptxC.2, jgC.2]; str_lits; decide +kernel

example : (remap inp ptx "SUPER_".toList (some jg) 9).toOption.map (·.1) =
    some (primaryOnly (expectedScaffoldsDeep inp ptx jg)) :=
  (views_of_pair remap_inp).1

example : (remap inp ptx "SUPER_".toList (some jg) 9).toOption.map (fun r => r.2.cuts) = some 2 :=
  (views_of_pair remap_inp).2
example : incidences inp ptx = 4 ∧ (sharedKeys inp ptx).length = 2 := by rw [inpC.2, ptxC.2]; decide +kernel

/-- `deep_cut_position` on the two sites: a1 at `cs..ce = 1..100`, `c = 48`; a2 (reverse) at `111..190`, `c = 150` -/
example : (cutPiece inp ptx 4 (pieceAt ptx 4).2).rows.getLast? = some (.frag (cut a1 8 1 48)) ∧
    (cutPiece inp ptx 0 (pieceAt ptx 0).2).rows.head? = some (.frag (cut a1 9 49 100)) ∧
    (cutPiece inp ptx 0 (pieceAt ptx 0).2).rows.getLast? = some (.frag (cut a2 7 41 80)) ∧
    (cutPiece inp ptx 3 (pieceAt ptx 3).2).rows.head? = some (.frag (cut a2 6 1 40)) := by
  rw [inpC.2, ptxC.2]; decide +kernel

/-! ## non-vacuity of `cut_fragments_chain`: a forward contig held by three results (cuts 30 | 31 and 70 | 71) -/

private def fa : Fragment := { oid := 1, name := "a".toList, start := 1, stop := 100, strand := 1 }
private def oQ (s e : Int) : OverlapResult :=
  { bait := { name := "s".toList, start := s, stop := e, strand := 1 }, start := 1, stop := 100, rows := [.frag fa],
    name := "matches".toList }
private def bQ : Build :=
  { namer := { autosomePrefix := [] }, nextOid := 20, joinGap := none, err := 9,
    store := [{ o := oQ 31 70, added := true }, { o := oQ 1 30, added := true }, { o := oQ 71 100, added := true }] }
private def fndQ : Found := { fragment := fa, scaffolds := [0, 1, 2] }
private def newQ (oid : Nat) (s e : Int) : Fragment := { fa with oid := oid, start := s, stop := e, tags := ["Cut".toList] }
private def TQ : List (Nat × OverlapResult × Fragment) :=
  [(1, { oQ 1 30 with stop := 30, rows := [.frag (newQ 20 1 30)] }, newQ 20 1 30),
   (0, { oQ 31 70 with start := 31, stop := 70, rows := [.frag (newQ 21 31 70)] }, newQ 21 31 70),
   (2, { oQ 71 100 with start := 71, rows := [.frag (newQ 22 71 100)] }, newQ 22 71 100)]
private def kQ (h : Nat) : Int := [31, 1, 71].getD h 0

example : (∀ h ∈ fndQ.scaffolds, (getRes bQ.store h).fragmentStartIfTrimmed fndQ.fragment = .ok (kQ h)) ∧
    (TQ.map (·.1)).Perm fndQ.scaffolds ∧ (TQ.map (·.1)).Pairwise (fun a c => kQ a < kQ c) ∧
    (∀ j t, TQ[j]? = some t →
      (bQ.store.getD t.1 default).o.trimFragment fndQ.fragment (cutFlags fndQ.fragment.strand j (TQ.length - 1)).1
        (cutFlags fndQ.fragment.strand j (TQ.length - 1)).2 (bQ.nextOid + j) = .ok (t.2.1, t.2.2)) ∧
    TQ.map (·.2.2) = [newQ 20 1 30, newQ 21 31 70, newQ 22 71 100] ∧
    Adj Follows' [newQ 20 1 30, newQ 21 31 70, newQ 22 71 100] := by
  refine ⟨by decide +kernel, by decide +kernel, by decide +kernel, ?_, by decide +kernel,
    ⟨⟨rfl, by decide, by decide, by decide⟩, ⟨rfl, by decide, by decide, by decide⟩, trivial⟩⟩
  intro j t ht
  match j, ht with
  | 0, ht => cases ht; decide +kernel
  | 1, ht => cases ht; decide +kernel
  | 2, ht => cases ht; decide +kernel
  | j + 3, ht => simp [TQ] at ht

/-- … and evaluated: three pieces, two cuts -/
example : (cutFragments bQ fndQ).toOption.map (fun b => b.cuts) = some 2 ∧
    (cutFragments bQ fndQ).toOption.map (fun b => b.nextOid) = some 23 ∧
    (cutFragments bQ fndQ).toOption.map (fun b => b.store.map (fun r => r.o.rows)) =
      some [[.frag (newQ 21 31 70)], [.frag (newQ 20 1 30)], [.frag (newQ 22 71 100)]] := by
  decide +kernel

/-! ## non-vacuity of the full theorem: a forward contig cut TWICE and a reverse contig cut once -/

private def b3 : Fragment := { oid := 6, name := "ctgB3".toList, start := 1, stop := 30, strand := 1 }
/-- 180 bp: b1 1-80, gap, b2 86-145 (reverse here), gap, b3 151-180 -/
private def sB' : Scaffold :=
  { name := "scaffold_2".toList, rows := [.frag b1, .gap g5, .frag b2.reverse, .gap g5, .frag b3] }
private def inpN : List Scaffold := [sA, sB']
/-- `scaffold_1` (a1 1-100, gap, a2 111-190 reverse, gap, a3 201-240) is cut at 30 | 31 and 70 | 71 — both inside a1, the
    middle piece 31..70 lies wholly inside a1 — and at 150 | 151 inside a2; `scaffold_2` is cut at 115 | 116 inside its
    reverse contig b2 (86..145). -/
private def ptxN : List Scaffold :=
  [{ name := "Scaffold_1".toList,
     rows := [pc sA.name 31 70 (-1), .gap jg, pc sB'.name 116 180 1, .gap jg, pc sA.name 151 240 1] },
   { name := "Scaffold_2".toList,
     rows := [pc sB'.name 1 115 1, .gap jg, pc sA.name 71 150 (-1), .gap jg, pc sA.name 1 30 1] }]

private def inpNC : Decoded inpN :=
  ⟨_, by unfold inpN sA sB' a1 a2 a3 b1 b2 b3 g10 g5; str_lits; exact rfl⟩
private def ptxNC : Decoded ptxN := ⟨_, by unfold ptxN sA sB' jg; str_lits; exact rfl⟩

example : DeepCutN inpN ptxN 9 := by rw [inpNC.2, ptxNC.2]; exact deepCutN_of_check _ _ _ (by decide +kernel)
example : NoClashDeepN inpN ptxN jg := by unfold NoClashDeepN; rw [inpNC.2, ptxNC.2, jgC.2]; decide +kernel
example : ∀ sc ∈ inpN, ∀ f ∈ sc.fragments, f.strand = 1 ∨ f.strand = -1 := by decide

/-- the chains: a1 is held by the pieces 5 (1..30), 0 (31..70), 4 (71..150) in scaffold order -/
example : (sitesN inpN ptxN).map (fun x => (x.frag.name, x.chain)) =
    [(b2.name, [3, 1]), (a1.name, [5, 0, 4]), (a2.name, [4, 2])] := by rw [inpNC.2, ptxNC.2]; decide +kernel

/-- `remap`, evaluated by the kernel independently of the theorems, returns the specified output; 4 cuts
    = 7 incidences − 3 shared contigs -/
private theorem remap_inpN : (remap inpN ptxN "SUPER_".toList (some jg) 9).toOption.map (fun r => (r.1, r.2.cuts)) =
    some (primaryOnly (expectedScaffoldsDeepN inpN ptxN jg), 4) := by
  rw [inpNC.2, ptxNC.2, jgC.2]; str_lits; decide +kernel

example : (remap inpN ptxN "SUPER_".toList (some jg) 9).toOption.map (·.1) =
    some (primaryOnly (expectedScaffoldsDeepN inpN ptxN jg)) :=
  (views_of_pair remap_inpN).1
example : (remap inpN ptxN "SUPER_".toList (some jg) 9).toOption.map (fun r => r.2.cuts) = some 4 :=
  (views_of_pair remap_inpN).2
example : incidencesN inpN ptxN = 7 ∧ (sharedKeys inpN ptxN).length = 3 := by rw [inpNC.2, ptxNC.2]; decide +kernel

/-- the three parts of a1, in the output: `ctgA1:31-70` (reversed piece), `ctgA1:71-100`, `ctgA1:1-30` -/
example : ((expectedScaffoldsDeepN inpN ptxN jg).map (fun s => (fragmentsOf s.rows).filter (fun f => f.name = a1.name))).flatten.map
      (fun f => (f.start, f.stop, f.strand)) = [(31, 70, -1), (71, 100, -1), (1, 30, 1)] := by
  rw [inpNC.2, ptxNC.2, jgC.2]; decide +kernel

end AgpTpf.C02
