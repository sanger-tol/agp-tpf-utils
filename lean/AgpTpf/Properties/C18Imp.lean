/-
  C18 (T1c) — the model's `OverlapResult` operations ARE the Python source as translated.

  Source side: `Gen.Imp.OverlapResult_*` in `AgpTpf/Gen/Imp.lean`, generated by `harness/translate_imp.py` from
  `src/tola/assembly/overlap_result.py` (each definition carries the Python text it came from).
  Model side: `OverlapResult.*` in `AgpTpf/Model/Lookup.lean`, which every C18 / C02 / C07 / C10 theorem is about.

  Each theorem is an equality of functions into `R = Except Err`: same value, same exception class, for ALL inputs
  (including `rows = []`, where both sides raise `IndexError`).  The two `while` loops are run with explicit `fuel`; the ties
  hold for every `fuel > len(rows)` (and in fact for every `fuel ≥ len(rows)`: `ImpOverlap.discard_start_tie` / `discard_end_tie`).

  Proofs: `AgpTpf/Proofs/ImpOverlap.lean`.
-/
import AgpTpf.Proofs.ImpOverlap
import AgpTpf.Proofs.ImpEval
namespace AgpTpf.C18
open AgpTpf
open scoped AgpTpf.ImpEval

/-! ### the input the `example`s run on: `[s1:1-100(+), gap 10, gap 5, s2:1-200(-)]` at 101..415, bait c1:195-400 -/

def impF1 : Fragment := { oid := 1, name := ['s', '1'], start := 1, stop := 100, strand := 1 }
def impF2 : Fragment := { oid := 2, name := ['s', '2'], start := 1, stop := 200, strand := -1 }
def impG1 : Gap := ⟨10, ['s', 'c', 'a', 'f', 'f', 'o', 'l', 'd']⟩
def impG2 : Gap := ⟨5, ['s', 'c', 'a', 'f', 'f', 'o', 'l', 'd']⟩
def impBait : Fragment :=
  { oid := 9, name := ['c', '1'], start := 195, stop := 400, strand := 1,
    tags := [['P', 'a', 'i', 'n', 't', 'e', 'd'], ['H', 'a', 'p', '1']] }
def impEx : OverlapResult :=
  { bait := impBait, start := 101, stop := 415, rows := [.frag impF1, .gap impG1, .gap impG2, .frag impF2] }

/-! ### `discard_start`, `discard_end`

  `Gen.Imp.OverlapResult_discard_start` takes a `fuel` argument exactly when the source's `discard_start` contains a `while` loop
  (pristine source: it does).  `ImpOverlap.withFuel f fuel` is `f fuel` for a generated function with a fuel parameter and `f` for
  one without (reducible instances chosen by the type of `f`; `ImpOverlap.withFuel_fuel` / `withFuel_noFuel` are `rfl`), so for the
  pristine source the statement below is literally
  `Gen.Imp.OverlapResult_discard_start fuel o = o.discardStart`, and for a loop-free / `for`-loop rewrite it is
  `Gen.Imp.OverlapResult_discard_start o = o.discardStart`. -/

theorem discard_start_is_source (o : OverlapResult) (fuel : Nat) (h : o.rows.length < fuel) :
    ImpOverlap.withFuel Gen.Imp.OverlapResult_discard_start fuel o = o.discardStart :=
  ImpOverlap.discard_start_tie o fuel (Nat.le_of_lt h)

example : impEx.rows.length < 5 := by decide
example : ImpOverlap.withFuel Gen.Imp.OverlapResult_discard_start 5 impEx
    = .ok { impEx with rows := [.frag impF2], start := 216 } := by
  rfl
/-- with too little fuel the translated `while` loop reports `Err.other` (so the fuel hypothesis is not idle) — or the source has
    no `while` loop, the generated function takes no fuel and `withFuel` ignores it -/
example : ImpOverlap.withFuel Gen.Imp.OverlapResult_discard_start 2 impEx = .error .other
    ∨ ∀ fuel, ImpOverlap.withFuel Gen.Imp.OverlapResult_discard_start fuel impEx
        = ImpOverlap.withFuel Gen.Imp.OverlapResult_discard_start 0 impEx := by
  first
  | exact .inl rfl
  | exact .inr fun _ => rfl

theorem discard_end_is_source (o : OverlapResult) (fuel : Nat) (h : o.rows.length < fuel) :
    Gen.Imp.OverlapResult_discard_end fuel o = o.discardEnd :=
  ImpOverlap.discard_end_tie o fuel (Nat.le_of_lt h)

example : Gen.Imp.OverlapResult_discard_end 5 impEx = .ok { impEx with rows := [.frag impF1], stop := 200 } := by
  rfl
example : Gen.Imp.OverlapResult_discard_end 5 { impEx with rows := [] } = .error .index := by decide +kernel

/-! ### `overhang_if_start_removed`, `overhang_if_end_removed` -/

theorem overhang_if_start_removed_is_source (o : OverlapResult) :
    Gen.Imp.OverlapResult_overhang_if_start_removed o = o.overhangIfStartRemoved :=
  ImpOverlap.overhang_if_start_removed_tie o

example : Gen.Imp.OverlapResult_overhang_if_start_removed impEx = .ok (-21) := by decide +kernel

theorem overhang_if_end_removed_is_source (o : OverlapResult) :
    Gen.Imp.OverlapResult_overhang_if_end_removed o = o.overhangIfEndRemoved :=
  ImpOverlap.overhang_if_end_removed_tie o

example : Gen.Imp.OverlapResult_overhang_if_end_removed impEx = .ok (-200) := by decide +kernel

/-! ### `trim_large_overhangs` (its calls of `discard_start` / `discard_end` are the model's, tied above) -/

theorem trim_large_overhangs_is_source (o : OverlapResult) (err : Int) :
    Gen.Imp.OverlapResult_trim_large_overhangs_imp o err = o.trimLargeOverhangs err :=
  ImpOverlap.trim_large_overhangs_tie o err

example : Gen.Imp.OverlapResult_trim_large_overhangs_imp impEx 10
    = .ok { impEx with rows := [.frag impF2], start := 216 } := by decide +kernel

/-! ### `fragment_start_if_trimmed` -/

theorem fragment_start_if_trimmed_is_source (o : OverlapResult) (f : Fragment) :
    Gen.Imp.OverlapResult_fragment_start_if_trimmed o f = o.fragmentStartIfTrimmed f :=
  ImpOverlap.fragment_start_if_trimmed_tie o f

example : Gen.Imp.OverlapResult_fragment_start_if_trimmed impEx impF1 = .ok 95 := by decide +kernel
example : Gen.Imp.OverlapResult_fragment_start_if_trimmed impEx impF2 = .ok 16 := by decide +kernel

/-! ### `trim_fragment` (the source's `"Cut"` / `"Painted"` are the model's `Gen.cutTag` / `Gen.paintedTag`) -/

theorem trim_fragment_is_source (o : OverlapResult) (trim : Fragment) (ks ke : Bool) (newOid : Nat) :
    Gen.Imp.OverlapResult_trim_fragment o trim ks ke newOid = o.trimFragment trim ks ke newOid :=
  ImpOverlap.trim_fragment_tie o trim ks ke newOid

example : Gen.Imp.OverlapResult_trim_fragment impEx impF2 false false 77
    = .ok ({ impEx with stop := 400, rows := [.frag impF1, .gap impG1, .gap impG2,
              .frag { oid := 77, name := ['s', '2'], start := 16, stop := 200, strand := -1,
                      tags := [['C', 'u', 't'], ['H', 'a', 'p', '1']] }] },
           { oid := 77, name := ['s', '2'], start := 16, stop := 200, strand := -1,
             tags := [['C', 'u', 't'], ['H', 'a', 'p', '1']] }) := by decide +kernel
example : Gen.Imp.OverlapResult_trim_fragment impEx impBait false false 77 = .error .value := by decide +kernel
example : Gen.Imp.OverlapResult_trim_fragment { impEx with rows := [] } impBait false false 77 = .error .index := by
  rfl

end AgpTpf.C18
