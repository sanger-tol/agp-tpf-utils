/-
  C02 core: the row-level reading of `KInv`.
  A contig row of the source scaffold that has a base in the core (and in the lookup span) is still a row of the result,
  at its scaffold position; an inner row is the source row itself; a terminal row may have been shortened, and then only
  outside the bait: the result then begins / ends exactly at the bait coordinate.
-/
import AgpTpf.Proofs.C02KOps
namespace AgpTpf.C02
open AgpTpf OverlapResult
open AgpTpf.C18 (Inv Short)

theorem boundary_not_inside {src A B : List Row} {s : Row} (hlen : NonNeg src) (hs : src = A ++ s :: B) {y : Int}
    (hb : Boundary src y) (h1 : rowsLength A < y) (h2 : y < rowsLength A + s.length) : False := by
  obtain ⟨X', Y', hs', rfl⟩ := hb
  rcases List.append_eq_append_iff.mp (hs'.symm.trans hs) with ⟨C, hA, _⟩ | ⟨C, hX, hB⟩
  · have := rowsLength_nonneg (l := C) (fun z hz => hlen z (by rw [hs, hA]; simp [hz]))
    rw [hA, rowsLength_append] at h1
    omega
  · cases C with
    | nil => rw [hX] at h1; simp at h1
    | cons c C' =>
      obtain ⟨rfl, hY⟩ := List.cons.inj hB
      have := rowsLength_nonneg (l := C') (fun z hz => hlen z (by rw [hs, hY]; simp [hz]))
      rw [hX, rowsLength_append, rowsLength_cons] at h2
      omega

/-- the row `r` of the result stands for the source contig row `f` (which lies at scaffold positions
    `xs + 1 … xs + f.length`): `r` is `f` shortened by `dl` positions at its scaffold-left side and `dr` at its right side;
    a shortened side was cut exactly at the bait coordinate, so what was clipped lies outside the bait -/
structure RowKept (o : OverlapResult) (f : Fragment) (xs : Int) (L : List Row) (r : Row) (R : List Row) (dl dr : Int) :
    Prop where
  rows : o.rows = L ++ r :: R
  short : Short r (.frag f) dl dr
  dl0 : 0 ≤ dl
  dr0 : 0 ≤ dr
  inner : L ≠ [] → R ≠ [] → r = .frag f
  left : L ≠ [] → dl = 0
  right : R ≠ [] → dr = 0
  cutL : dl ≠ 0 → o.start = o.bait.start
  cutR : dr ≠ 0 → o.stop = o.bait.stop
  pos : o.start + rowsLength L = xs + 1 + dl
  posR : o.stop - rowsLength R = xs + f.length - dr

theorem row_kept_at {src : List Row} {o : OverlapResult} (hlen : NonNeg src) (hI : Inv src o) (hedge : EdgeOK src o)
    {X Y : List Row} {f : Fragment} (hs : src = X ++ .frag f :: Y) {x : Int}
    (hx1 : rowsLength X < x) (hx2 : x ≤ rowsLength X + f.length) (hlo : o.start ≤ x) (hhi : x ≤ o.stop) :
    ∃ L r R dl dr, RowKept o f (rowsLength X) L r R dl dr := by
  have hfl : (Row.frag f).length = f.length := rfl
  have loc : ∃ L r R dl dr, o.rows = L ++ r :: R ∧ Short r (.frag f) dl dr ∧ 0 ≤ dl ∧ 0 ≤ dr ∧
      (L ≠ [] → R ≠ [] → r = .frag f) ∧ (L ≠ [] → dl = 0) ∧ (R ≠ [] → dr = 0) ∧
      o.start + rowsLength L = rowsLength X + 1 + dl := by
    cases hI.content with
    | empty hr he => omega
    | one A B s r dl dr hs' hr hsh d0 d1 hst hen =>
      obtain ⟨rfl, rfl, rfl⟩ := pos_unique hlen hs hs' hx1 hx2 (by omega) (by omega)
      exact ⟨[], r, [], dl, dr, hr, hsh, d0, d1, fun h => absurd rfl h, fun h => absurd rfl h, fun h => absurd rfl h,
        by rw [rowsLength_nil]; omega⟩
    | many A B mid s0 s1 r0 r1 dl dr hs' hr hs0 hs1 d0 d1 hst hen =>
      have hl0 := hs0.length
      have hl1 := hs1.length
      -- `x` lies in one of the source rows `s0 :: mid ++ [s1]` of the run: that row is `f`
      obtain ⟨S1, S2, eS, rfl, -⟩ := pos_in_run hlen hs hx1 hx2 A (s0 :: mid ++ [s1]) B (by rw [hs']; simp) (by omega)
        (by rw [List.cons_append, rowsLength_cons, rowsLength_append, rowsLength_singleton]; omega)
      cases S1 with
      | nil =>
        obtain ⟨rfl, _⟩ := List.cons_eq_cons.mp eS
        exact ⟨[], r0, mid ++ [r1], dl, 0, hr, hs0, d0, Int.le_refl _, fun h => absurd rfl h, fun h => absurd rfl h,
          fun _ => rfl, by rw [rowsLength_nil, List.append_nil]; omega⟩
      | cons a S1' =>
        rw [List.cons_append] at eS
        obtain ⟨rfl, eS'⟩ := List.cons_eq_cons.mp eS
        have hp : o.start + rowsLength (r0 :: S1') = rowsLength (A ++ s0 :: S1') + 1 + 0 := by
          rw [rowsLength_cons, rowsLength_append, rowsLength_cons]; omega
        rcases C18.append_cons_eq_concat eS'.symm with ⟨rfl, rfl, rfl⟩ | ⟨S2', rfl, rfl⟩
        · -- the last row
          exact ⟨r0 :: S1', r1, [], 0, dr, hr, hs1, Int.le_refl _, d1, fun _ h => absurd rfl h, fun _ => rfl,
            fun h => absurd rfl h, hp⟩
        · -- an inner row
          exact ⟨r0 :: S1', .frag f, S2' ++ [r1], 0, 0, by rw [hr]; simp, Short.refl f, Int.le_refl _, Int.le_refl _,
            fun _ _ => rfl, fun _ => rfl, fun _ => rfl, hp⟩
  obtain ⟨L, r, R, dl, dr, hrows, hsh, d0, d1, hin, hl, hr, hp⟩ := loc
  have hpR : o.stop - rowsLength R = rowsLength X + f.length - dr := by
    have := hI.span
    rw [hrows, rowsLength_append, rowsLength_cons, hsh.length] at this
    omega
  -- a shortened end is not a row boundary of the scaffold, so it lies at the bait coordinate
  rcases hedge with he | ⟨eL, eR⟩
  · rw [hrows] at he; simp at he
  refine ⟨L, r, R, dl, dr, hrows, hsh, d0, d1, hin, hl, hr, ?_, ?_, hp, hpR⟩
  · intro hne
    rw [Classical.byContradiction (fun h => hne (hl h)), rowsLength_nil] at hp
    exact eL.resolve_left fun hb => boundary_not_inside hlen hs hb (by omega) (by rw [hfl]; omega)
  · intro hne
    rw [Classical.byContradiction (fun h => hne (hr h)), rowsLength_nil] at hpR
    exact eR.resolve_left fun hb => boundary_not_inside hlen hs hb (by omega) (by rw [hfl]; omega)

theorem core_row_kept {src : List Row} {M s0 e0 : Int} {p : Fragment} {o : OverlapResult} (hlen : NonNeg src)
    (hk : KInv src M s0 e0 p o) {X Y : List Row} {f : Fragment} (hs : src = X ++ .frag f :: Y) {x : Int}
    (hx1 : rowsLength X < x) (hx2 : x ≤ rowsLength X + f.length) (h0 : s0 ≤ x) (h1 : x ≤ e0)
    (hc1 : p.start + M ≤ x) (hc2 : x ≤ p.stop - M) :
    ∃ L r R dl dr, RowKept o f (rowsLength X) L r R dl dr := by
  obtain ⟨hlo, hhi⟩ := hk.core x h0 h1 (contigAt_of_row hs hlen hx1 hx2) (by rw [hk.bait]; exact hc1)
    (by rw [hk.bait]; exact hc2)
  exact row_kept_at hlen hk.inv hk.edge hs hx1 hx2 hlo hhi

end AgpTpf.C02
