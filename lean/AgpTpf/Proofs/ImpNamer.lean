/-
  Helper lemmas for `Properties/C09Imp.lean`: the translated Python source of `ScaffoldNamer` (`Gen.Imp.ScaffoldNamer_*`, generated
  from `build_utils.py`) against the hand-written model (`Model/Remap.lean`: `Namer.getSetHaplotype`, `scanTag`,
  `makeScaffoldName`, `labelScaffold`, `renameBySize`).

  The source works on `PyRt.SrcNamer` (attributes with their Python types), the model on `Namer`; the ties are refinements through
  `absG cH cU` (`absNamer = absG Int.toNat Int.toNat`).  `make_scaffold_name` is tied for EVERY pair of counter abstractions
  `cH cU : Int → Nat` with `cU 0 = 0`; instantiating them with indicator functions gives "the haplotig counter is not touched, the
  unloc counter is 0 afterwards" (well-formedness is preserved) from the model-level `makeScaffoldName_frame`, without a
  second pass over the generated text.

  `make_scaffold_name` is tied against the model in the stages of `makeScaffoldName_eq` (tag loop, haplotype, Primary block, name
  and rank, final assignments): one `bind_abs` per stage, so the case analyses of the stages add up instead of multiplying.

  What depends on the generated text: the ORDER of the tuple components of the loop state of `make_scaffold_name`
  (`absScan`) and of the `(haplotype, self)` pair after `haplotype_from_first_row_name`, and that the stages after the Primary block
  are emitted twice, once inside the block and once for the case that it is skipped (the second copy is proved, the first is that
  statement at the namer the block has just updated); the names of the generated locals do not matter.
  The translator emits these tuples sorted by the Lean text of the variable's type, then by name, so re-ordering assignments /
  `elif` branches in the Python (or renaming a local) does not permute them; the order of the loop state is known to the pattern
  macro `scanSt⟨…⟩` only; the per-tag step of the loop is proved by case analysis on the MODEL-level conditions (`tag = sPainted`, …) with the
  pairwise distinctness of the three literal tags given to `simp`, so the order of the `if … elif` chain does not matter either.
  Everything else goes through unfolding by name, case analysis on model-level quantities and `simp`.  Truthiness tests on
  `str`-or-None values are handled by splitting the VALUE into `none` / `some []` / `some (c :: cs)`, so the proofs do not care
  whether the translator writes `PyRt.strTruthy x` or the narrowed `match x with | none => … | some v => if !v.isEmpty …`.
-/
import AgpTpf.Gen.Imp
import AgpTpf.Proofs.ImpRef
import AgpTpf.Proofs.Lib.Arena
import AgpTpf.Proofs.Lib.Namer
import AgpTpf.Proofs.Lib.Text
set_option linter.unusedSimpArgs false
set_option linter.unusedVariables false
set_option linter.unusedSectionVars false
namespace AgpTpf.C09
open AgpTpf

/-- the Python object ↦ the model's `Namer`: a `None` rank reads 0, the counters are read as naturals -/
def absNamer (s : PyRt.SrcNamer) : Namer :=
  { autosomePrefix := s.autosome_prefix, currentScaffoldName := s.current_scaffold_name,
    currentRank := s.current_rank.getD 0, currentHaplotype := s.current_haplotype,
    haplotigN := s.haplotig_n.toNat, haplotigScaffolds := s.haplotig_scaffolds,
    primaryHaplotype := s.primary_haplotype, targetTags := s.target_tags,
    unlocN := s.unloc_n.toNat, unlocScaffolds := s.unloc_scaffolds, haplotypeLc := s.haplotype_lc_dict }

/-- well-formedness: the two counters are not negative (`__init__` sets them to 0, the kernels only assign 0 and add 1) -/
def WfNamer (s : PyRt.SrcNamer) : Prop := 0 ≤ s.haplotig_n ∧ 0 ≤ s.unloc_n

/-- the tags `make_scaffold_name` iterates over: the argument when it is a non-empty list, else `scaffold.fragment_tags()`
    (`if not fragment_tags: fragment_tags = scaffold.fragment_tags()`) -/
def tagsOf (sc : Scaffold) (ft : Option (List Str)) : List Str :=
  match ft with
  | some (t :: ts) => t :: ts
  | _ => sc.fragmentTags

/-- the model's text of `haplotype_from_first_row_name` (the `else` branch of "haplotype from the first row" in `makeScaffoldName`) -/
def hapFromFirstRow (rows : List Row) (n : Namer) : R (Namer × Option Str) := do
  let nm ← firstRowName rows
  match hapPrefixOfName nm with
  | some g => let (n', h) := n.getSetHaplotype g; pure (n', some h)
  | none => pure (n, none)

end AgpTpf.C09

namespace AgpTpf.ImpNamer
open AgpTpf
open AgpTpf.C09 (absNamer WfNamer tagsOf hapFromFirstRow)
open AgpTpf.ImpFound (forIn_ref_fin ref_next_abs_iff bind_abs ctlNext)

/-! ### the abstraction -/

/-- `SrcNamer ↦ Namer` with the two counters read through `cH`, `cU` -/
def absG (cH cU : Int → Nat) (s : PyRt.SrcNamer) : Namer :=
  { autosomePrefix := s.autosome_prefix, currentScaffoldName := s.current_scaffold_name,
    currentRank := s.current_rank.getD 0, currentHaplotype := s.current_haplotype,
    haplotigN := cH s.haplotig_n, haplotigScaffolds := s.haplotig_scaffolds,
    primaryHaplotype := s.primary_haplotype, targetTags := s.target_tags,
    unlocN := cU s.unloc_n, unlocScaffolds := s.unloc_scaffolds, haplotypeLc := s.haplotype_lc_dict }

/-! ### `Except` plumbing -/

theorem ok_bind {α β : Type} (a : α) (f : α → R β) : ((Except.ok a : R α) >>= f) = f a := rfl

/-! ### run-time support -/

theorem truthy_eq : truthy = PyRt.strTruthy := truthy_eq_strTruthy

theorem truthy_none : truthy none = false := rfl
theorem truthy_nil : truthy (some []) = false := rfl
theorem truthy_cons (c : Char) (cs : Str) : truthy (some (c :: cs)) = true := rfl

theorem optStrText_eq (o : Option Str) : PyRt.optStrText o = o.getD sNone := by
  cases o <;> rfl

theorem toNat_succ {i : Int} (h : 0 ≤ i) : (i + 1).toNat = i.toNat + 1 := by omega

theorem getRes_updRes (store : List Res) (sid : Nat) (a : OverlapResult) (h : sid < store.length) :
    getRes (PyRt.updRes store sid a) sid = a := by
  rw [getRes, Arena.updRes_eq_modify, Arena.getD_modify, if_pos ⟨rfl, h⟩]

theorem updRes_of_ge (store : List Res) (sid : Nat) (a : OverlapResult) (h : store.length ≤ sid) :
    PyRt.updRes store sid a = store := by
  rw [Arena.updRes_eq_modify, Arena.modify_of_none _ (List.getElem?_eq_none h)]

/-- two writes through the same reference are one -/
theorem setLabel_setLabel (store : List Res) (sid : Nat) (f g : OverlapResult → OverlapResult) :
    PyRt.setLabel (PyRt.setLabel store sid f) sid g = PyRt.setLabel store sid (fun o => g (f o)) := by
  rw [Arena.setLabel_eq_modify, Arena.setLabel_eq_modify, Arena.setLabel_eq_modify, List.modify_modify_eq]
  rfl

theorem strLits :
    ("Contaminant".toList : Str) = sContaminant ∧ ("Target".toList : Str) = sTarget ∧
    ("FalseDuplicate".toList : Str) = sFalseDuplicate ∧ ("Haplotig".toList : Str) = sHaplotig ∧
    ("Unloc".toList : Str) = sUnloc ∧ ("Painted".toList : Str) = sPainted ∧ ("Primary".toList : Str) = sPrimary ∧
    ("H_".toList : Str) = ['H', '_'] :=
  ⟨String.toList_ofList, String.toList_ofList, String.toList_ofList, String.toList_ofList, String.toList_ofList, String.toList_ofList,
    String.toList_ofList, String.toList_ofList⟩

theorem get_set_haplotype_eq (s : PyRt.SrcNamer) (h : Str) :
    Gen.Imp.ScaffoldNamer_get_set_haplotype s h
      = .ok ({ s with haplotype_lc_dict := (dSetDefault s.haplotype_lc_dict (lowerStr h) h).1 },
             (dSetDefault s.haplotype_lc_dict (lowerStr h) h).2) := rfl

/-! ### the small kernels -/

theorem get_set_haplotype_abs (cH cU : Int → Nat) (s : PyRt.SrcNamer) (h : Str) :
    (Gen.Imp.ScaffoldNamer_get_set_haplotype s h).map (fun p => (absG cH cU p.1, p.2))
      = .ok ((absG cH cU s).getSetHaplotype h) := by
  simp [get_set_haplotype_eq, Except.map, Namer.getSetHaplotype, absG]

theorem haplotig_name_abs (s : PyRt.SrcNamer) (h : 0 ≤ s.haplotig_n) :
    Gen.Imp.ScaffoldNamer_haplotig_name s
      = .ok ({ s with haplotig_n := s.haplotig_n + 1 }, ['H', '_'] ++ natToStr ((absNamer s).haplotigN + 1)) := by
  simp [Gen.Imp.ScaffoldNamer_haplotig_name, absNamer, absG, intToStr_of_nonneg (show 0 ≤ s.haplotig_n + 1 by omega),
    toNat_succ h]

theorem unloc_name_abs (s : PyRt.SrcNamer) (h : 0 ≤ s.unloc_n) :
    Gen.Imp.ScaffoldNamer_unloc_name s
      = .ok ({ s with unloc_n := s.unloc_n + 1 },
             (absNamer s).currentScaffoldName.getD sNone ++ "_unloc_".toList ++ natToStr ((absNamer s).unlocN + 1)) := by
  simp [Gen.Imp.ScaffoldNamer_unloc_name, absNamer, absG, intToStr_of_nonneg (show 0 ≤ s.unloc_n + 1 by omega),
    toNat_succ h, optStrText_eq]

theorem absG_primaryHaplotype (cH cU : Int → Nat) (s : PyRt.SrcNamer) : (absG cH cU s).primaryHaplotype = s.primary_haplotype := rfl

theorem abs_haplotig_succ (s : PyRt.SrcNamer) (h : 0 ≤ s.haplotig_n) :
    absNamer { s with haplotig_n := s.haplotig_n + 1 } = { absNamer s with haplotigN := (absNamer s).haplotigN + 1 } := by
  simp [absNamer, absG, toNat_succ h]

theorem abs_unloc_succ (s : PyRt.SrcNamer) (h : 0 ≤ s.unloc_n) :
    absNamer { s with unloc_n := s.unloc_n + 1 } = { absNamer s with unlocN := (absNamer s).unlocN + 1 } := by
  simp [absNamer, absG, toNat_succ h]

/-! ### `rename_by_size` -/

theorem rename_by_size_tie (store : List Res) (ids : List Nat) :
    Gen.Imp.ScaffoldNamer_rename_by_size store ids = .ok (renameBySize store ids) := by
  unfold Gen.Imp.ScaffoldNamer_rename_by_size renameBySize
  cases hids : ids.isEmpty with
  | true => simp
  | false =>
    have hlen : (sortByIntKeyDesc (fun s => (getRes store s).length) ids).length
        = (ids.map (fun s => (getRes store s).name)).length := by
      simp [sortByIntKeyDesc, stableSort_length]
    simp only [PyRt.zipStrict, hlen, if_true]
    simp only [bind, Except.bind, Bool.not_false, Bool.not_true, Bool.false_eq_true, if_false]
    rw [PyRt.forIn_foldl _ (fun _ _ _ => rfl)]
    simp [Except.map, PyRt.setLabel, PyRt.updRes, getRes, PyRt.optStrText]

/-! ### `label_scaffold` -/

/-- what `label_scaffold` returns against what `labelScaffold` returns: the namers correspond, the labelled result is written back through the
    reference, the counters are still not negative -/
def LabelQ (store : List Res) (sid : Nat) (p : PyRt.SrcNamer × List Res) (q : Namer × OverlapResult) : Prop :=
  absNamer p.1 = q.1 ∧ p.2 = PyRt.updRes store sid q.2 ∧ WfNamer p.1

open AgpTpf.ImpFound (Ref) in
/-- the source's `if … elif` chain is the model's (FalseDuplicate, Haplotig, Unloc — painted or not —, none of them): test by test,
    once for each outcome of the Contaminant / Target test; the writes through the reference are one write -/
theorem label_scaffold_ref (store : List Res) (s : PyRt.SrcNamer) (sid : Nat) (frag : Fragment) (scTags : List Str)
    (on : Str) (hw : WfNamer s) :
    Ref (LabelQ store sid) (Gen.Imp.ScaffoldNamer_label_scaffold store s sid frag scTags on)
      (labelScaffold (absNamer s) (getRes store sid) sid frag scTags on) := by
  obtain ⟨hh, hu⟩ := hw
  obtain ⟨l1, l2, l3, l4, l5, l6, l7, l8⟩ := strLits
  unfold Gen.Imp.ScaffoldNamer_label_scaffold labelScaffold
  have hcond : ∀ a b c : Bool, (a = true ∨ (c = true ∧ ¬ b = true)) ↔ ((a || c && !b) = true) := by
    intro a b c; cases a <;> cases b <;> cases c <;> decide
  simp only [l1, l2, l3, l4, l5, l6, hcond, haplotig_name_abs s hh, unloc_name_abs s hu, ok_bind, setLabel_setLabel, optStrText_eq,
    show (absNamer s).targetTags = s.target_tags from rfl]
  cases frag.tags.contains sContaminant || s.target_tags && !scTags.contains sTarget
  all_goals
    simp only [if_true, Bool.false_eq_true, if_false, ok_bind, setLabel_setLabel]
    refine Ref.ite Iff.rfl (fun _ => ?_) fun _ => ?_
    · exact .ok ⟨rfl, rfl, hh, hu⟩
    refine Ref.ite Iff.rfl (fun _ => ?_) fun _ => ?_
    · exact .ok ⟨by simp [absNamer, absG, toNat_succ hh], rfl, by show 0 ≤ s.haplotig_n + 1; omega, hu⟩
    refine Ref.ite Iff.rfl (fun _ => ?_) fun _ => ?_
    · exact Ref.ite (by simp) (fun _ => rfl) fun _ =>
        .ok ⟨by simp [absNamer, absG, toNat_succ hu], rfl, hh, by show 0 ≤ s.unloc_n + 1; omega⟩
    · exact .ok ⟨rfl, rfl, hh, hu⟩

theorem label_scaffold_tie (store : List Res) (s : PyRt.SrcNamer) (sid : Nat) (frag : Fragment) (scTags : List Str)
    (on : Str) (hw : WfNamer s) :
    (Gen.Imp.ScaffoldNamer_label_scaffold store s sid frag scTags on).map (fun p => (absNamer p.1, p.2))
      = (labelScaffold (absNamer s) (getRes store sid) sid frag scTags on).map
          (fun q => (q.1, PyRt.updRes store sid q.2)) := by
  refine (label_scaffold_ref store s sid frag scTags on hw).elim_src (P := fun src => src.map _ = _) (fun e he => he ▸ rfl) ?_
  rintro p q hq ⟨h1, h2, -⟩
  exact hq ▸ congrArg Except.ok (Prod.ext h1 h2)

theorem label_scaffold_wf (store store' : List Res) (s s' : PyRt.SrcNamer) (sid : Nat) (frag : Fragment) (scTags : List Str)
    (on : Str) (hw : WfNamer s)
    (h : Gen.Imp.ScaffoldNamer_label_scaffold store s sid frag scTags on = .ok (s', store')) : WfNamer s' := by
  obtain ⟨_, _, _, _, h3⟩ := ImpFound.ref_iff_src.1 (h ▸ label_scaffold_ref store s sid frag scTags on hw)
  exact h3

/-! ### `make_scaffold_name` -/

/-- THE place that knows the order of the generated loop-state tuple of `make_scaffold_name` (the translator sorts the carried
    variables by the Lean text of their type, then by name): a pattern / constructor with the components in a fixed, named order.
    `absScan` and every `intro` that destructures a loop state go through it. -/
local macro "scanSt⟨" hap:term ", " ip:term ", " pt:term ", " rk:term ", " sn:term ", " self:term "⟩" : term =>
  `(($rk, $hap, $sn, $ip, $pt, $self))

/-- the loop state of `make_scaffold_name` (in the order of the generated tuple) ↦ the model's `(Namer, TagScan)` -/
def absScan (cH cU : Int → Nat) : Option Int × Option Str × Option Str × Bool × Bool × PyRt.SrcNamer → Namer × TagScan
  | scanSt⟨haplotype, is_painted, primary_tag, rank, scaffold_name, self⟩ =>
    (absG cH cU self,
     { scaffoldName := scaffold_name, haplotype := haplotype, isPainted := is_painted, rank := rank, primaryTag := primary_tag })

theorem firstRow_src (rows : List Row) :
    (pyGet rows (0 : Int) >>= fun (t : Row) => (PyRt.asFrag t).map (·.name)) = firstRowName rows := by
  unfold firstRowName
  cases pyGet rows 0 with
  | error e => rfl
  | ok r => cases r <;> rfl

theorem hffrn_eq (s : PyRt.SrcNamer) (sc : Scaffold) :
    Gen.Imp.ScaffoldNamer_haplotype_from_first_row_name s sc
      = firstRowName sc.rows >>= fun nm =>
          match hapPrefixOfName nm with
          | none => .ok (s, none)
          | some g => .ok ({ s with haplotype_lc_dict := (dSetDefault s.haplotype_lc_dict (lowerStr g) g).1 },
                           some (dSetDefault s.haplotype_lc_dict (lowerStr g) g).2) := by
  unfold Gen.Imp.ScaffoldNamer_haplotype_from_first_row_name firstRowName
  cases pyGet sc.rows 0 with
  | error e => rfl
  | ok r =>
    cases r with
    | gap g => rfl
    | frag f =>
      simp only [ok_bind, PyRt.asFrag, Except.map, bind, Except.bind, pure, Except.pure]
      cases hapPrefixOfName f.name <;> simp [get_set_haplotype_eq]

theorem hffrn_abs (cH cU : Int → Nat) (s : PyRt.SrcNamer) (sc : Scaffold) :
    (Gen.Imp.ScaffoldNamer_haplotype_from_first_row_name s sc).map (fun p => (absG cH cU p.1, p.2))
      = hapFromFirstRow sc.rows (absG cH cU s) := by
  rw [hffrn_eq]
  unfold hapFromFirstRow
  cases firstRowName sc.rows with
  | error e => rfl
  | ok nm =>
    cases hpn : hapPrefixOfName nm <;>
      simp [hpn, Except.map, bind, Except.bind, pure, Except.pure, absG, Namer.getSetHaplotype]

theorem hffrn_counters (s s' : PyRt.SrcNamer) (sc : Scaffold) (v : Option Str)
    (h : Gen.Imp.ScaffoldNamer_haplotype_from_first_row_name s sc = .ok (s', v)) :
    s'.haplotig_n = s.haplotig_n ∧ s'.unloc_n = s.unloc_n := by
  rw [hffrn_eq] at h
  cases hf : firstRowName sc.rows with
  | error e => simp [hf, bind, Except.bind] at h
  | ok nm =>
    cases hpn : hapPrefixOfName nm <;> simp [hf, hpn, bind, Except.bind] at h <;> obtain ⟨rfl, _⟩ := h <;> exact ⟨rfl, rfl⟩

theorem ite_ok_bind {α β : Type} (c : Prop) [Decidable c] (a b : α) (f : α → R β) :
    ((if c then (Except.ok a : R α) else .ok b) >>= f) = f (if c then a else b) := by
  split <;> rfl

set_option hygiene false in
/-- the part of `make_scaffold_name` after the Primary block (it occurs twice in the generated text); `p` = the primary haplotype
    at that point, in constructor form (`none` / `some []` / `some (c :: cs)`), `h` = the haplotype -/
macro "namer_tail " p:term " , " h:term : tactic => `(tactic| (
  try simp only [mkTail3_eq, nameStage, finalStage]
  by_cases hE : $h = $p
  all_goals rcases sn with _ | _ | ⟨c', cs'⟩
  all_goals simp only [truthy_none, truthy_nil, truthy_cons, Bool.not_false, Bool.not_true, if_true, if_false,
    Bool.false_eq_true, ok_bind]
  all_goals first
    | done
    | (cases ip
       · rcases hg : pyGet sc.rows 0 with _ | _ | _ <;>
           simp [truthy_none, truthy_nil, truthy_cons, ← truthy_eq, hE, hg, firstRowName, PyRt.asFrag, Except.map, bind,
             Except.bind, pure, Except.pure, absG, hU, Namer.getSetHaplotype, throw, throwThe, MonadExceptOf.throw]
       · rcases rk with _ | r
         · simp [truthy_none, truthy_nil, truthy_cons, ← truthy_eq, hE, Except.map, bind, Except.bind, pure, Except.pure,
             absG, hU, Namer.getSetHaplotype]
         · by_cases hr : r = 0 <;>
             simp [truthy_none, truthy_nil, truthy_cons, ← truthy_eq, hE, hr, Except.map, bind, Except.bind, pure,
               Except.pure, absG, hU, Namer.getSetHaplotype])
    | simp [truthy_none, truthy_nil, truthy_cons, ← truthy_eq, hE, Except.map, bind, Except.bind, pure, Except.pure, absG,
        hU, Namer.getSetHaplotype]))

/-- `finishName` with the scaffold name as the source holds it (`str`-or-None) -/
def finish (n : Namer) (hap : Option Str) (q : Option Str × Int) : Namer :=
  { n with currentHaplotype := if truthy n.primaryHaplotype then (if hap = n.primaryHaplotype then some sPrimary else hap) else hap,
           currentScaffoldName := q.1, currentRank := q.2, unlocN := 0, unlocScaffolds := [] }

theorem nameStage_finish (s : TagScan) (scName : Str) (rows : List Row) (n : Namer) (hap : Option Str) :
    (nameStage s scName rows >>= fun p => pure (finishName n hap p))
      = ((nameStage s scName rows).map (fun p => (some p.1, p.2)) >>= fun q => pure (finish n hap q)) := by
  cases nameStage s scName rows <;> rfl

/-- a statement about a flag, proved for `false` first and for `true` from that -/
theorem bool_false_first {motive : Bool → Prop} (f : motive false) (t : motive false → motive true) (b : Bool) :
    motive b := by
  cases b
  · exact f
  · exact t f

open AgpTpf.ImpFound (Ref ref_abs_iff) in
/-- `make_scaffold_name` against `makeScaffoldName`, for every reading `cH`, `cU` of the two counters with `cU 0 = 0` -/
theorem make_scaffold_name_tieG (cH cU : Int → Nat) (hU : cU 0 = 0) (s : PyRt.SrcNamer) (sc : Scaffold)
    (ft : Option (List Str)) :
    (Gen.Imp.ScaffoldNamer_make_scaffold_name s sc ft).map (absG cH cU)
      = makeScaffoldName (absG cH cU s) sc.name sc.rows (tagsOf sc ft) := by
  obtain ⟨l1, l2, l3, l4, l5, l6, l7, l8⟩ := strLits
  rw [makeScaffoldName_eq]
  unfold Gen.Imp.ScaffoldNamer_make_scaffold_name
  refine Eq.trans (congrArg (Except.map (absG cH cU)) (bind_eq_of_ok (a := some (tagsOf sc ft)) ?hpre rfl)) ?_
  case hpre => rcases ft with _ | _ | ⟨t, ts⟩ <;> rfl
  simp only [ok_bind, PyRt.needIter, l2, l6, l7]
  refine forIn_ref_fin (fun st t => absScan cH cU st = t) scanTag _ _ _ _ _ (absG cH cU) _ rfl ?hstep ?hK
  case hstep =>
    intro tag _ scanSt⟨hap, ip, pt, rk, sn, self⟩ _ e
    subst e
    rw [ref_next_abs_iff]
    simp only [absScan, scanTag, get_set_haplotype_eq, Namer.getSetHaplotype, ← truthy_eq_strTruthy]
    -- the three literal tags are pairwise different, so the order in which the source tests them does not matter
    obtain ⟨d1, d2, d3, d4, d5, d6⟩ : sPainted ≠ sTarget ∧ sPainted ≠ sPrimary ∧ sTarget ≠ sPainted ∧ sTarget ≠ sPrimary ∧
        sPrimary ≠ sPainted ∧ sPrimary ≠ sTarget := by decide
    by_cases h1 : tag = sPainted
    · subst h1; simp [d1, d2, d3, d4, d5, d6, Except.map, ctlNext, absScan, absG, hU]
    by_cases h2 : tag = sTarget
    · subst h2; simp [d1, d2, d3, d4, d5, d6, Except.map, ctlNext, absScan, absG, hU]
    by_cases h3 : tag = sPrimary
    · subst h3; simp [d1, d2, d3, d4, d5, d6, Except.map, ctlNext, absScan, absG, hU]
    by_cases h4 : isChrNameTag tag = true
    · by_cases h5 : sn = some tag
      · subst h5; simp [h1, h2, h3, h4, Except.map, ctlNext, absScan, absG, hU]
      · have h5' : ¬ some tag = sn := fun h => h5 h.symm
        rcases sn with _ | _ | ⟨c, cs⟩ <;>
          simp [h1, h2, h3, h4, h5, h5', truthy_none, truthy_nil, truthy_cons, Except.map, ctlNext, absScan, absG, hU]
    cases h5 : Gen.otherKnownTags.contains tag
    · rcases hap with _ | _ | ⟨c, cs⟩ <;>
        simp [h1, h2, h3, h4, h5, truthy_none, truthy_nil, truthy_cons, Except.map, ctlNext, absScan, absG, hU, bind,
          Except.bind]
    · simp [h1, h2, h3, h4, h5, Except.map, ctlNext, absScan, absG, hU]
  case hK =>
    intro scanSt⟨hap, ip, pt, rk, sn, self⟩ _ e
    subst e
    simp only [absScan]
    refine bind_abs (fun p => (absG cH cU p.2, p.1)) (absG cH cU) ?h1 ?hT1
    case h1 =>
      simp only [hapStage, ← truthy_eq_strTruthy]
      rcases hap with _ | _ | ⟨c, cs⟩
      case some.cons => simp [truthy_cons, Except.map, pure, Except.pure]
      -- no haplotype from the tags: the `else` arm of the stage is `haplotype_from_first_row_name`
      all_goals
        simp only [truthy_none, truthy_nil, Bool.not_false, if_true, Bool.false_eq_true, if_false]
        refine Eq.trans ?_ (hffrn_abs cH cU self sc)
        cases Gen.Imp.ScaffoldNamer_haplotype_from_first_row_name self sc <;> rfl
    case hT1 =>
      -- without a Primary tag the Primary block is skipped: that instance of the statement is the statement about the stages after
      -- the block, for every namer; with the tag, the block only decides which namer they run on
      induction pt using bool_false_first with
      | f =>
        intro ⟨hap', self'⟩
        simp only [primStage, Bool.false_and, Bool.false_eq_true, false_and, if_false, pure_bind, nameStage_finish]
        refine bind_abs (fun j => (j.2, j.1.getD 0)) (absG cH cU) ?hname ?hfin
        case hname =>
          simp only [nameStage, ← truthy_eq_strTruthy]
          rcases sn with _ | _ | ⟨c, cs⟩
          case some.cons => rfl
          all_goals
            simp only [truthy_none, truthy_nil, Bool.not_false, if_true, Bool.false_eq_true, if_false]
            cases ip
            · rcases hg : pyGet sc.rows 0 with _ | _ | _ <;>
                simp [hg, firstRowName, PyRt.asFrag, Except.map, bind, Except.bind, pure, Except.pure, throw, throwThe,
                  MonadExceptOf.throw]
            · rcases rk with _ | r
              · rfl
              · by_cases hr : r = 0 <;> simp [hr, Except.map, bind, Except.bind, pure, Except.pure]
        case hfin =>
          intro j
          rcases hp : self'.primary_haplotype with _ | _ | ⟨pc, pcs⟩ <;>
            simp [hp, finish, absG, hU, truthy_none, truthy_nil, truthy_cons, Except.map, pure, Except.pure]
      | t tail =>
        intro ⟨hap', self'⟩
        refine (ref_abs_iff _).1 ?_
        unfold primStage
        -- the stages after `primStage` go into its two branches; then the source's test is the model's, and each branch is `tail`
        refine (congrArg _ (ite_bind _ _ _ _)).mpr ?_
        refine Ref.ite ?hc (fun _ => ?_) fun _ => (ref_abs_iff _).2 (tail (hap', self'))
        case hc =>
          rcases hp : self'.primary_haplotype with _ | _ | ⟨pc, pcs⟩ <;>
            simp [hp, absG_primaryHaplotype, truthy_none, truthy_nil, truthy_cons, ← truthy_eq_strTruthy]
        rcases hap' with _ | _ | ⟨c, cs⟩
        · rfl
        · rfl
        · exact (ref_abs_iff _).2 (tail (some (c :: cs),
            { ({ self' with haplotype_lc_dict := (dSetDefault self'.haplotype_lc_dict (lowerStr (c :: cs)) (c :: cs)).1 } :
                PyRt.SrcNamer) with
              primary_haplotype := some (dSetDefault self'.haplotype_lc_dict (lowerStr (c :: cs)) (c :: cs)).2 }))

theorem make_scaffold_name_tie (s : PyRt.SrcNamer) (sc : Scaffold) (ft : Option (List Str)) :
    (Gen.Imp.ScaffoldNamer_make_scaffold_name s sc ft).map absNamer
      = makeScaffoldName (absNamer s) sc.name sc.rows (tagsOf sc ft) :=
  make_scaffold_name_tieG Int.toNat Int.toNat rfl s sc ft

/-- `make_scaffold_name` does not touch the haplotig counter and leaves the unloc counter at 0 -/
theorem make_scaffold_name_counters (s s' : PyRt.SrcNamer) (sc : Scaffold) (ft : Option (List Str))
    (h : Gen.Imp.ScaffoldNamer_make_scaffold_name s sc ft = .ok s') :
    s'.haplotig_n = s.haplotig_n ∧ s'.unloc_n = 0 := by
  have t := make_scaffold_name_tieG (fun i => if i = s.haplotig_n then 0 else 1) (fun i => if i = 0 then 0 else 1)
    (by simp) s sc ft
  rw [h] at t
  have c := makeScaffoldName_frame t.symm
  have c1 := congrArg Namer.haplotigN c
  have c2 := congrArg Namer.unlocN c
  simp only [absG, if_true] at c1 c2
  constructor
  · by_cases hh : s'.haplotig_n = s.haplotig_n
    · exact hh
    · simp [hh] at c1
  · by_cases hh : s'.unloc_n = 0
    · exact hh
    · simp [hh] at c2

end AgpTpf.ImpNamer
