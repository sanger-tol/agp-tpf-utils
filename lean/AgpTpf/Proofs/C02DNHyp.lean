/-
  C02 (deep cuts, any number of cuts per contig), part 1: the hypothesis `DeepCutN`, facts about chains, and the resolver.
-/
import AgpTpf.Proofs.C02DNSpec
import AgpTpf.Proofs.C02DHyp
namespace AgpTpf.C02
open AgpTpf OverlapResult

def ChainOk (input ptx : List Scaffold) (err : Int) (x : SiteN) : Prop :=
  Adj (fun a b => SiteOk input ptx err ⟨x.key, x.frag, a, b⟩) x.chain

/-- **maps that cut deep inside contigs — any number of cuts per contig** -/
structure DeepCutN (input ptx : List Scaffold) (err : Int) : Prop where
  base : DeepBase input ptx err
  chains : ∀ x ∈ sitesN input ptx, ChainOk input ptx err x

theorem site_casesN (input ptx : List Scaffold) (k : Key) (hk : k ∈ sharedKeys input ptx) :
    ∃ fnd, dGet? (regOf input ptx).1 k = some fnd ∧ fnd.fragment.keyTuple = k ∧ 2 ≤ fnd.scaffolds.length ∧
      siteOfN ptx (regOf input ptx).1 k =
        ⟨k, fnd.fragment, sortByIntKey (fun s => (pieceAt ptx s).2.start) fnd.scaffolds⟩ := by
  have h2 := (sharedKeys_spec input ptx k).1 hk
  unfold holdersOf at h2
  cases hd : dGet? (regOf input ptx).1 k with
  | none => rw [hd] at h2; simp at h2
  | some fnd =>
    rw [hd] at h2
    refine ⟨fnd, rfl, (regOf_ok input ptx).keyOk k fnd hd, h2, ?_⟩
    unfold siteOfN
    rw [hd]

theorem siteOfN_key (ptx : List Scaffold) (found : List (Key × Found)) (k : Key) : (siteOfN ptx found k).key = k := by
  unfold siteOfN; split <;> rfl

structure SiteNFacts (input ptx : List Scaffold) (x : SiteN) (fnd : Found) : Prop where
  get : dGet? (regOf input ptx).1 x.key = some fnd
  frag : x.frag = fnd.fragment
  fkey : x.frag.keyTuple = x.key
  perm : x.chain.Perm fnd.scaffolds
  len : 2 ≤ x.chain.length

theorem siteOfN_facts {input ptx : List Scaffold} {k : Key} (hk : k ∈ sharedKeys input ptx) {fnd : Found}
    (hget : dGet? (regOf input ptx).1 k = some fnd) : SiteNFacts input ptx (siteOfN ptx (regOf input ptx).1 k) fnd := by
  obtain ⟨fnd', hget', hkey, hlen, he⟩ := site_casesN input ptx k hk
  cases hget.symm.trans hget'
  have hperm : (sortByIntKey (fun s => (pieceAt ptx s).2.start) fnd.scaffolds).Perm fnd.scaffolds := stableSort_perm _ _
  rw [he]
  exact ⟨hget, rfl, hkey, hperm, hperm.length_eq ▸ hlen⟩

theorem siteN_facts (input ptx : List Scaffold) (x : SiteN) (hx : x ∈ sitesN input ptx) :
    ∃ fnd, SiteNFacts input ptx x fnd := by
  obtain ⟨k, hk, rfl⟩ := List.mem_map.1 hx
  obtain ⟨fnd, hget, -⟩ := site_casesN input ptx k hk
  exact ⟨fnd, siteOfN_facts hk hget⟩

theorem fragN_eq_key_eq (input ptx : List Scaffold) (x y : SiteN) (hx : x ∈ sitesN input ptx) (hy : y ∈ sitesN input ptx)
    (h : y.frag = x.frag) : y.key = x.key := by
  obtain ⟨_, fx⟩ := siteN_facts input ptx x hx
  obtain ⟨_, fy⟩ := siteN_facts input ptx y hy
  rw [← fx.fkey, ← fy.fkey, h]

/-- the baits of a chain begin at strictly increasing coordinates: the chain has no duplicates -/
theorem chain_nodup {input ptx : List Scaffold} {err : Int} (hd : DeepCutN input ptx err) (x : SiteN)
    (hx : x ∈ sitesN input ptx) : x.chain.Nodup := by
  have hadj := hd.chains x hx
  have h1 : Adj (fun a b => (pieceAt ptx a).2.start < (pieceAt ptx b).2.start) x.chain := by
    apply adj_mono _ _ _ _ hadj
    intro a b hok
    have := (hd.base.piece a hok.inA).1.valid
    have := hok.abut
    simp only at *
    omega
  have h2 := adj_pairwise (fun a b => (pieceAt ptx a).2.start < (pieceAt ptx b).2.start)
    (fun a b c h1 h2 => Int.lt_trans h1 h2) _ h1
  exact h2.imp (fun h e => by subst e; omega)

/-- every holder of a shared contig is the `a` or the `b` of a cut site, and the premise formed for either is quiet -/
theorem discardOverhanging_deepN {input ptx : List Scaffold} {err : Int} (hd : DeepCutN input ptx err) (b : Build)
    (hstore : b.store = expectedStore input ptx) (hfound : b.found = (regOf input ptx).1)
    (hmulti : b.multi = sharedKeys input ptx) (herr : b.err = err) (fuel : Nat) :
    discardOverhanging (fuel + 1) b = .ok b := by
  subst herr
  refine discardOverhanging_quiet (fun k hk fnd hfk sid hsid => ?_) fuel
  rw [hmulti] at hk
  rw [hfound] at hfk
  have hf := siteOfN_facts hk hfk
  rw [hstore, ← hf.frag]
  rcases adj_mem (hd.chains _ (List.mem_map_of_mem hk)) hf.len sid (hf.perm.mem_iff.2 hsid) with ⟨c, h⟩ | ⟨a, h⟩
  · exact quiet_a hd.base _ h
  · exact quiet_b hd.base _ h

end AgpTpf.C02
