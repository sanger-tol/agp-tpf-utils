/-
  C02 "remapping never fails": THE OVERHANG RESOLVER NEVER RAISES.
  Every operation of a resolver round succeeds on a non-empty result; under the registry invariant `Mid` every premise
  points at a non-empty result for as long as it is pending (`FInv.valid`), and the bookkeeping finds the holder it
  removes.
-/
import AgpTpf.Proofs.Remap.Rounds
import AgpTpf.Proofs.C02KPos
import AgpTpf.Proofs.Lib.Py
import AgpTpf.Proofs.Lib.Pipeline
namespace AgpTpf.C02
open AgpTpf OverlapResult
open AgpTpf.C01 (WFInput Mid FInv Valid holders_of_found)

theorem startRowBaitOverlap_returns {o : OverlapResult} (h : o.rows ≠ []) : ∃ v, o.startRowBaitOverlap = .ok v := by
  cases hr : o.rows with
  | nil => exact absurd hr h
  | cons x t => exact ⟨_, OverlapResult.startRowBaitOverlap_ok hr⟩

theorem endRowBaitOverlap_returns {o : OverlapResult} (h : o.rows ≠ []) : ∃ v, o.endRowBaitOverlap = .ok v := by
  rcases list_nil_or_concat o.rows with hr | ⟨t, x, hr⟩
  · exact absurd hr h
  · exact ⟨_, OverlapResult.endRowBaitOverlap_ok hr⟩

theorem baitOverlap_returns {p : Premise} {store : List Res} (h : (getRes store p.sid).rows ≠ []) :
    ∃ v, p.baitOverlap store = .ok v := by
  unfold Premise.baitOverlap
  cases p.kind
  · exact startRowBaitOverlap_returns h
  · exact endRowBaitOverlap_returns h

theorem apply_returns {p : Premise} {store : List Res} (h : (getRes store p.sid).rows ≠ []) :
    ∃ s, p.apply store = .ok s := by
  rw [Pipeline.apply_eq]
  refine bind_returns ?_ fun _ _ => ⟨_, rfl⟩
  unfold Premise.discard
  cases p.kind
  · exact discardStart_returns h
  · exact discardEnd_returns h

theorem improves_returns {p : Premise} {store : List Res} {err : Int} (h : (getRes store p.sid).rows ≠ []) :
    ∃ v, p.improves store err = .ok v := by
  obtain ⟨a, _, hv⟩ := improves_value (err := err) h
  exact ⟨_, hv⟩

theorem fixChoice_returns {err : Int} {store : List Res} {ps : List Premise}
    (h : ∀ p ∈ ps, (getRes store p.sid).rows ≠ []) : ∃ c, Pipeline.fixChoice err store ps = .ok c := by
  unfold Pipeline.fixChoice
  refine bind_returns ?_ fun two _ => ?_
  · unfold Pipeline.subTexelChoice
    split
    · next frst scnd =>
      exact bind_returns (baitOverlap_returns (h frst (by simp))) fun fo _ =>
        ite_ok (bind_returns (baitOverlap_returns (h scnd (by simp))) fun so _ => ite_ok ⟨_, rfl⟩ ⟨_, rfl⟩) ⟨_, rfl⟩
    · exact ⟨_, rfl⟩
  · cases two with
    | some p => exact ⟨_, rfl⟩
    | none =>
      unfold Pipeline.generalChoice
      refine ite_ok (bind_returns (sortPrems_returns h) fun sorted hs => ?_) ⟨_, rfl⟩
      have hmem := (sortedByKeyM_ok hs).1.subset
      split
      · next bst nxt t =>
        exact bind_returns (improves_returns (h bst (hmem (by simp)))) fun _ _ =>
          ite_ok (bind_returns (improves_returns (h nxt (hmem (by simp)))) fun _ _ => ite_ok ⟨_, rfl⟩ ⟨_, rfl⟩) ⟨_, rfl⟩
      · exact ⟨_, rfl⟩

theorem fixOne_returns {err : Int} {store : List Res} {fixes ps : List Premise}
    (h : ∀ p ∈ ps, (getRes store p.sid).rows ≠ []) : ∃ st', fixOne err (store, fixes) ps = .ok st' := by
  rw [Pipeline.fixOne_eq]
  refine bind_returns (fixChoice_returns h) fun c hc => ?_
  cases c with
  | none => exact ⟨_, rfl⟩
  | some p => exact bind_returns (apply_returns (h p (Pipeline.fixChoice_some hc).mem)) fun _ _ => ⟨_, rfl⟩

theorem valid_rows_ne {store : List Res} {p : Premise} (h : Valid store p) : (getRes store p.sid).rows ≠ [] := by
  obtain ⟨r, hr, _, hk⟩ := h
  have : getRes store p.sid = r.o := by unfold getRes; rw [C01.getD_of_getElem? hr]
  rw [this]
  intro e
  rw [e] at hk
  cases hkind : p.kind <;> rw [hkind] at hk <;> simp at hk

theorem foldlM_ok_mem {α β} (f : β → α → R β) : ∀ (l : List α), (∀ a, ∀ x ∈ l, ∃ a', f a x = .ok a') →
    ∀ a0, ∃ a', l.foldlM f a0 = .ok a'
  | [], _, a0 => ⟨a0, rfl⟩
  | x :: t, h, a0 => by
    obtain ⟨a1, h1⟩ := h a0 x (by simp)
    obtain ⟨a', h'⟩ := foldlM_ok_mem f t (fun a y hy => h a y (by simp [hy])) a1
    exact ⟨a', by rw [List.foldlM_cons]; simp only [h1, bind, Except.bind]; exact h'⟩

theorem holder_rows_ne {input : List Scaffold} {b : Build} (hm : Mid input b) (hwf : WFInput input) {k : Key} {fnd : Found}
    (hf : dGet? b.found k = some fnd) {sid : Nat} (h : sid ∈ fnd.scaffolds) : (getRes b.store sid).rows ≠ [] := by
  obtain ⟨r, hr, _, hF⟩ := (hm.mem_holders_iff hwf hf).1 h
  unfold getRes; rw [C01.getD_of_getElem? hr]
  exact List.ne_nil_of_mem hF

theorem bookkeeping_returns (found0 : List (Key × Found)) (fixes : List Premise) (bc : Build)
    (hnd : (fixes.map (fun p => p.fragment.keyTuple)).Nodup)
    (hsame : ∀ p ∈ fixes, dGet? bc.found p.fragment.keyTuple = dGet? found0 p.fragment.keyTuple)
    (hmem : ∀ p ∈ fixes, ∀ fnd, dGet? found0 p.fragment.keyTuple = some fnd → p.sid ∈ fnd.scaffolds) :
    ∃ b', fixes.foldlM applyFixBookkeeping bc = .ok b' := by
  refine (foldlM_ok_rest (fun (fixes : List Premise) (bc : Build) =>
    (fixes.map (fun p => p.fragment.keyTuple)).Nodup ∧
    (∀ p ∈ fixes, dGet? bc.found p.fragment.keyTuple = dGet? found0 p.fragment.keyTuple) ∧
    ∀ p ∈ fixes, ∀ fnd, dGet? found0 p.fragment.keyTuple = some fnd → p.sid ∈ fnd.scaffolds)
    ?_ fixes bc ⟨hnd, hsame, hmem⟩).imp fun _ h => h.1
  intro p t bc ⟨hnd, hsame, hmem⟩
  rw [List.map_cons, List.nodup_cons] at hnd
  have hrest : ∀ q ∈ t, ∀ fnd, dGet? found0 q.fragment.keyTuple = some fnd → q.sid ∈ fnd.scaffolds :=
    fun q hq => hmem q (by simp [hq])
  have hkeep : ∀ q ∈ t, dGet? bc.found q.fragment.keyTuple = dGet? found0 q.fragment.keyTuple :=
    fun q hq => hsame q (by simp [hq])
  rw [Pipeline.applyFixBookkeeping_eq]
  split
  · cases hf : dGet? bc.found p.fragment.keyTuple with
    | none => exact ⟨bc, rfl, hnd.2, hkeep, hrest⟩
    | some fnd =>
      dsimp only
      rw [if_pos (hmem p (by simp) fnd (by rw [← hsame p (by simp)]; exact hf))]
      refine ⟨_, rfl, hnd.2, fun q hq => ?_, hrest⟩
      -- the entry rewritten is under the key of `p`, which no later fix has
      have hne : p.fragment.keyTuple ≠ q.fragment.keyTuple := fun e =>
        hnd.1 (by rw [e]; exact List.mem_map_of_mem (f := fun p : Premise => p.fragment.keyTuple) hq)
      rw [dGet?_dSet_ne _ _ hne]; exact hkeep q hq
  · exact ⟨bc, rfl, hnd.2, hkeep, hrest⟩

theorem apply_fewer_rows {store store1 : List Res} {p : Premise} (hv : Valid store p) (happ : p.apply store = .ok store1) :
    totalRows store1 < totalRows store := by
  obtain ⟨r, o', A, B, hr, -, rfl, hrows, hAB⟩ := C01.apply_spec hv happ
  have hpos : 0 < (A ++ B).length := List.length_pos_iff.2 fun e => by rw [e] at hAB; cases hAB
  have hlen := congrArg List.length hrows
  have := Pipeline.totalRows_set store p.sid r { r with o := o' } hr
  rw [List.length_append] at hpos
  rw [List.length_append, List.length_append] at hlen
  dsimp only at this
  omega

/-- the inequality: every fix the loop records has taken at least one row out of the store -/
theorem fixFold_returns (input : List Scaffold) (b : Build) (err : Int) (rest : List (Key × List Premise)) (store : List Res)
    (fixes : List Premise) (hF : FInv input b rest store fixes) :
    ∃ st', rest.foldlM (fun st e => fixOne err st e.2) (store, fixes) = .ok st' ∧ FInv input b [] st'.1 st'.2 ∧
      totalRows st'.1 + st'.2.length ≤ totalRows store + fixes.length := by
  refine foldlM_ok_rest
    (fun rest st => FInv input b rest st.1 st.2 ∧ totalRows st.1 + st.2.length ≤ totalRows store + fixes.length)
    ?_ rest (store, fixes) ⟨hF, Nat.le_refl _⟩
  intro e rest ⟨s, f⟩ ⟨hF, hle⟩
  obtain ⟨⟨s1, f1⟩, h1⟩ := fixOne_returns (err := err) (store := s) (fixes := f) (ps := e.2)
    (fun p hp => valid_rows_ne (hF.valid e (List.mem_cons_self ..) p hp).1)
  refine ⟨_, h1, hF.step h1, ?_⟩
  rcases Pipeline.fixOne_ok' h1 with ⟨rfl, rfl⟩ | ⟨p, hc, happ, hfx⟩
  · exact hle
  · have := apply_fewer_rows (hF.valid e (List.mem_cons_self ..) p hc.mem).1 happ
    dsimp only at hle this ⊢
    rw [hfx, List.length_append, List.length_singleton]
    omega

theorem resolverRound_returns {input : List Scaffold} (hwf : WFInput input) {b : Build} (hm : Mid input b) :
    ∃ r, resolverRound b = .ok r ∧ ∀ b', r = some b' → totalRows b'.store < totalRows b.store := by
  rw [Pipeline.resolverRound_eq]
  obtain ⟨prems, hprems⟩ := Pipeline.roundPremises_total fun _ _ _ hf _ hsid => holder_rows_ne hm hwf hf hsid
  obtain ⟨⟨store, fixes⟩, hfold, hF', hrows⟩ := fixFold_returns input b b.err prems b.store [] (C01.FInv.init hwf hm hprems)
  dsimp only at hF' hrows
  simp only [hprems, bind, Except.bind]
  rw [List.foldlM_map, hfold]
  simp only
  by_cases hemp : fixes.isEmpty = true
  · rw [if_pos hemp]
    exact ⟨none, rfl, fun b' h => by cases h⟩
  · rw [if_neg hemp]
    have hbk : ∃ b2, fixes.foldlM applyFixBookkeeping { b with store := store } = .ok b2 := by
      apply bookkeeping_returns b.found fixes { b with store := store } hF'.fixNodup (fun p _ => rfl)
      intro p hp fnd hf
      have hc := hF'.counts p.fragment.keyTuple p.sid
      have hpos : 0 < fixes.countP (C01.fixAt p.fragment.keyTuple p.sid) :=
        List.countP_pos_iff.mpr ⟨p, hp, by simp [C01.fixAt]⟩
      have hcnt := hm.counts p.fragment.keyTuple p.sid
      rw [holders_of_found hf] at hcnt
      exact List.count_pos_iff.mp (by omega)
    obtain ⟨b2, hb2⟩ := hbk
    simp only [hb2, pure, Except.pure]
    refine ⟨some b2, rfl, ?_⟩
    intro b' hb'
    cases hb'
    rw [(Pipeline.bookkeeping_frame hb2).2.1]
    show totalRows store < _
    have hlen : 0 < fixes.length := by
      cases fixes with
      | nil => simp at hemp
      | cons _ _ => simp
    simp only [List.length_nil] at hrows
    omega

/-- the pipeline gives `discard_overhanging_fragments` the fuel `totalRows + 2` -/
theorem discardOverhanging_returns {input : List Scaffold} (hwf : WFInput input) :
    ∀ (fuel : Nat) (b : Build), Mid input b → totalRows b.store < fuel → ∃ b', discardOverhanging fuel b = .ok b'
  | 0, _, _, h => by omega
  | fuel + 1, b, hm, hlt => by
    unfold discardOverhanging
    split
    · exact ⟨b, rfl⟩
    · obtain ⟨r, hr, hdec⟩ := resolverRound_returns hwf hm
      simp only [hr, bind, Except.bind]
      cases r with
      | none => exact ⟨b, rfl⟩
      | some b1 =>
        simp only
        have hlt1 := hdec b1 rfl
        obtain ⟨hm1, _⟩ := C01.reg_resolver_round_aux input hwf b b1 hm hr
        exact discardOverhanging_returns hwf fuel b1 hm1 (by omega)

end AgpTpf.C02
