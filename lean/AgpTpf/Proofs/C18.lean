/-
  C18 — helper definitions and lemmas (overlap results: span / content invariant).
  Definitions used by the statements in `Properties/C18.lean`:
    `ids`, `Short`, `Content`, `Inv`, `needsId`, `runOps`.
  What the single operations do is proved in `Proofs/Lib/Overlap.lean`; here: that each of them keeps `Inv`.
-/
import AgpTpf.Proofs.Lib.Overlap
namespace AgpTpf.C18
open AgpTpf OverlapResult

theorem append_cons_eq_concat {α} {G T M : List α} {x y : α} (h : G ++ x :: T = M ++ [y]) :
    (T = [] ∧ G = M ∧ x = y) ∨ ∃ T', T = T' ++ [y] ∧ M = G ++ x :: T' := by
  rcases list_nil_or_concat T with rfl | ⟨T', z, rfl⟩
  · obtain ⟨rfl, e⟩ := List.append_inj' h rfl
    cases e; exact .inl ⟨rfl, rfl, rfl⟩
  · rw [← List.cons_append, ← List.append_assoc] at h
    obtain ⟨rfl, e⟩ := List.append_inj' h rfl
    cases e; exact .inr ⟨T', rfl, rfl⟩

theorem nodup_replace {α} {a b : List α} {x y : α} (hd : (a ++ x :: b).Nodup) (hy : y ∉ a ++ x :: b) :
    (a ++ y :: b).Nodup := by
  rw [List.perm_middle.nodup_iff, List.nodup_cons] at hd ⊢
  rw [List.perm_middle.mem_iff, List.mem_cons, not_or] at hy
  exact ⟨hy.2, hd.2⟩

/-- object identities of the fragments in a row list -/
def ids (rows : List Row) : List Nat := (fragmentsOf rows).map (·.oid)

theorem ids_append (a b : List Row) : ids (a ++ b) = ids a ++ ids b := by
  simp [ids, fragmentsOf_append]
theorem ids_cons_frag (f : Fragment) (l : List Row) : ids (.frag f :: l) = f.oid :: ids l := rfl
theorem ids_cons_gap (g : Gap) (l : List Row) : ids (.gap g :: l) = ids l := rfl
theorem ids_nil : ids [] = [] := rfl


/-- `r` is the source row `s` (a fragment) with `dl` scaffold positions removed at its left (scaffold-start) side
    and `dr` at its right side.  Strand-aware exactly as the code is: on a plus-strand fragment the left side is
    `fragment.start`; on any other strand (−1 and, as the code treats it, 0) the left side is `fragment.end`.
    Name and strand are kept; identity and tags may differ (a trimmed fragment is a new object tagged `Cut`). -/
def Short (r s : Row) (dl dr : Int) : Prop :=
  ∃ f g, r = .frag f ∧ s = .frag g ∧ f.name = g.name ∧ f.strand = g.strand ∧
    (if g.strand = 1 then f.start = g.start + dl ∧ f.stop = g.stop - dr
     else f.start = g.start + dr ∧ f.stop = g.stop - dl)

/-- content part of the invariant (items (2),(3),(4) of the property):
    * no rows left and the span is empty (`stop = start − 1`), or
    * one row: the source is `A ++ s :: B`, the row is `s` shortened by `dl ≥ 0` / `dr ≥ 0` at its two ends,
      `start = 1 + |A| + dl`, `stop = |A| + |s| − dr`, or
    * several rows: the source is `A ++ s0 :: mid ++ s1 :: B`, the rows are `r0 :: mid ++ [r1]` (the inner rows are the
      source rows themselves), `r0` is `s0` shortened only at its outer (left) end by `dl`, `r1` is `s1` shortened only at
      its outer (right) end by `dr`, and `start`/`stop` are the scaffold coordinates of what is left.
    (`|·|` = `rowsLength`; `A.length` is the index `i` of the first remaining row in the source.) -/
inductive Content (src : List Row) (o : OverlapResult) : Prop
  | empty : o.rows = [] → o.stop = o.start - 1 → Content src o
  | one (A B : List Row) (s r : Row) (dl dr : Int) :
      src = A ++ s :: B → o.rows = [r] → Short r s dl dr → 0 ≤ dl → 0 ≤ dr →
      o.start = 1 + rowsLength A + dl → o.stop = rowsLength A + s.length - dr → Content src o
  | many (A B mid : List Row) (s0 s1 r0 r1 : Row) (dl dr : Int) :
      src = A ++ s0 :: mid ++ s1 :: B → o.rows = r0 :: mid ++ [r1] → Short r0 s0 dl 0 → Short r1 s1 0 dr →
      0 ≤ dl → 0 ≤ dr →
      o.start = 1 + rowsLength A + dl →
      o.stop = rowsLength A + s0.length + rowsLength mid + s1.length - dr → Content src o

def NoTerminalGap (rows : List Row) : Prop :=
  rows = [] ∨ ((∃ f t, rows = .frag f :: t) ∧ (∃ f t, rows = t ++ [.frag f]))

/-- The invariant of C18. -/
structure Inv (src : List Row) (o : OverlapResult) : Prop where
  /-- (1) reported span = total length of the rows -/
  span : o.stop - o.start + 1 = rowsLength o.rows
  /-- (2) no terminal gap -/
  noTerminalGap : NoTerminalGap o.rows
  /-- (3)+(4) contiguous run of the source, only terminal fragments shortened, span = source coordinates -/
  content : Content src o
  /-- the fragment objects in the result are pairwise distinct objects -/
  distinct : (ids o.rows).Nodup

theorem Short.length {r s : Row} {dl dr : Int} (h : Short r s dl dr) : r.length = s.length - dl - dr := by
  obtain ⟨f, g, rfl, rfl, _, _, h⟩ := h
  simp only [Row.length, Fragment.length]
  split at h <;> omega

theorem Short.refl (f : Fragment) : Short (.frag f) (.frag f) 0 0 :=
  ⟨f, f, rfl, rfl, rfl, rfl, by simp⟩

theorem Content.span {src o} (h : Content src o) : o.stop - o.start + 1 = rowsLength o.rows := by
  cases h with
  | empty h h' => rw [h, rowsLength_nil]; omega
  | one A B s r dl dr hs hr hsh h0 h1 hst hen =>
    rw [hr, rowsLength_singleton, hsh.length]; omega
  | many A B mid s0 s1 r0 r1 dl dr hs hr h0 h1 _ _ hst hen =>
    rw [hr, List.cons_append, rowsLength_cons, rowsLength_append, rowsLength_singleton, h0.length, h1.length]; omega


theorem Content.noTerminalGap {src o} (h : Content src o) : NoTerminalGap o.rows := by
  cases h with
  | empty h h' => exact Or.inl h
  | one A B s r dl dr hs hr hsh h0 h1 hst hen =>
    obtain ⟨f, g, rfl, _⟩ := hsh
    exact Or.inr ⟨⟨f, [], hr⟩, ⟨f, [], hr⟩⟩
  | many A B mid s0 s1 r0 r1 dl dr hs hr h0 h1 _ _ hst hen =>
    obtain ⟨f0, g0, rfl, _⟩ := h0
    obtain ⟨f1, g1, rfl, _⟩ := h1
    exact Or.inr ⟨⟨f0, _, hr⟩, ⟨f1, .frag f0 :: mid, by rw [hr]⟩⟩

theorem Inv.mk' {src o} (h : Content src o) (hd : (ids o.rows).Nodup) : Inv src o :=
  ⟨h.span, h.noTerminalGap, h, hd⟩

theorem Content.congr {src : List Row} {o o' : OverlapResult} (h : Content src o) (hr : o'.rows = o.rows)
    (hs : o'.start = o.start) (he : o'.stop = o.stop) : Content src o' := by
  cases h with
  | empty a b => exact .empty (hr.trans a) (by rw [he, hs]; exact b)
  | one A B s r dl dr a b c d e f g => exact .one A B s r dl dr a (hr.trans b) c d e (hs.trans f) (he.trans g)
  | many A B mid s0 s1 r0 r1 dl dr a b c d e f g k =>
    exact .many A B mid s0 s1 r0 r1 dl dr a (hr.trans b) c d e f (hs.trans g) (he.trans k)

theorem Inv.congr {src : List Row} {o o' : OverlapResult} (h : Inv src o) (hr : o'.rows = o.rows) (hs : o'.start = o.start)
    (he : o'.stop = o.stop) : Inv src o' :=
  Inv.mk' (h.content.congr hr hs he) (hr ▸ h.distinct)

theorem eq_of_oid_eq {rows : List Row} (hd : (ids rows).Nodup) {f g : Fragment} (hf : Row.frag f ∈ rows)
    (hg : Row.frag g ∈ rows) (e : f.oid = g.oid) : f = g :=
  inj_of_nodup_map (fun x : Fragment => x.oid) (show ((fragmentsOf rows).map (·.oid)).Nodup from hd) f (mem_fragmentsOf.2 hf) g
    (mem_fragmentsOf.2 hg) e

theorem ids_gaps {G : List Row} (h : ∀ r ∈ G, r.isGap = true) : ids G = [] := by
  rw [ids, fragmentsOf_eq_nil h]; rfl

theorem content_discardStart {src o o'} (hc : Content src o) (h : discardStart o = .ok o') : Content src o' := by
  obtain ⟨d, G, T, hrows, hG, hT, rfl⟩ := discardStart_ok h
  cases hc with
  | empty hr _ => rw [hr] at hrows; cases hrows
  | one A B s r dl dr hs hr hsh h0 h1 hst hen =>
    rw [hr] at hrows
    obtain ⟨rfl, hGT⟩ := List.cons.inj hrows
    obtain ⟨rfl, rfl⟩ := List.append_eq_nil_iff.mp hGT.symm
    refine Content.empty rfl ?_
    have := hsh.length
    simp only [rowsLength_nil]; omega
  | many A B mid s0 s1 r0 r1 dl dr hs hr hs0 hs1 h0 h1 hst hen =>
    rw [hr] at hrows
    obtain ⟨rfl, hL⟩ := List.cons.inj (show r0 :: (mid ++ [r1]) = d :: (G ++ T) from hrows)
    have hl0 := hs0.length
    obtain ⟨f1, g1, hr1, hg1, _⟩ := id hs1
    rcases hT with rfl | ⟨f, T', rfl⟩
    · -- impossible: the last row is a fragment
      exfalso
      have : r1 ∈ G := by
        have : r1 ∈ mid ++ [r1] := by simp
        rw [hL] at this; simpa using this
      have := hG r1 this
      rw [hr1] at this; simp [Row.isGap] at this
    · rcases append_cons_eq_concat hL.symm with ⟨rfl, rfl, hx⟩ | ⟨T'', rfl, rfl⟩
      · -- only the last row is left
        refine Content.one (A ++ s0 :: G) B s1 r1 0 dr (by simp [hs]) (by simp [hx]) hs1 (by omega) h1 ?_ ?_
        · simp only [rowsLength_append, rowsLength_cons]; omega
        · simp only [rowsLength_append, rowsLength_cons]; omega
      · refine Content.many (A ++ s0 :: G) B T'' (.frag f) s1 (.frag f) r1 0 dr (by simp [hs]) (by simp)
          (Short.refl f) hs1 (by omega) h1 ?_ ?_
        · simp only [rowsLength_append, rowsLength_cons]; omega
        · simp only [rowsLength_append, rowsLength_cons] at hen ⊢; omega

theorem ids_discardStart {o o' : OverlapResult} (h : discardStart o = .ok o') : (ids o'.rows).Sublist (ids o.rows) := by
  obtain ⟨d, G, T, hrows, -, -, rfl⟩ := discardStart_ok h
  rw [hrows, ← List.cons_append, ids_append]; exact List.sublist_append_right _ _

theorem inv_discardStart {src o o'} (hI : Inv src o) (h : discardStart o = .ok o') : Inv src o' :=
  Inv.mk' (content_discardStart hI.content h) (hI.distinct.sublist (ids_discardStart h))

theorem content_discardEnd {src o o'} (hc : Content src o) (h : discardEnd o = .ok o') : Content src o' := by
  obtain ⟨d, G, T, hrows, hG, hT, rfl⟩ := discardEnd_ok h
  cases hc with
  | empty hr _ => rw [hr] at hrows; simp at hrows
  | one A B s r dl dr hs hr hsh h0 h1 hst hen =>
    rw [hr] at hrows
    obtain ⟨hTG, hd⟩ := List.append_inj' (show [] ++ [r] = (T ++ G) ++ [d] from hrows) rfl
    obtain ⟨rfl, rfl⟩ := List.append_eq_nil_iff.mp hTG.symm
    cases hd
    refine Content.empty rfl ?_
    have := hsh.length
    simp only [rowsLength_nil]; omega
  | many A B mid s0 s1 r0 r1 dl dr hs hr hs0 hs1 h0 h1 hst hen =>
    rw [hr] at hrows
    obtain ⟨hTG, hd⟩ := List.append_inj' (show (r0 :: mid) ++ [r1] = (T ++ G) ++ [d] from hrows) rfl
    cases hd
    have hl1 := hs1.length
    obtain ⟨f0, g0, rfl, -⟩ := id hs0
    rcases hT with rfl | ⟨f, T', rfl⟩
    · -- nothing left: then the first row would be one of the gap rows
      cases hG (.frag f0) (by rw [← List.nil_append G, ← hTG]; simp)
    · cases T' with
      | nil =>
        -- only the first row is left
        obtain ⟨hf, rfl⟩ := List.cons.inj (show Row.frag f0 :: mid = .frag f :: G from hTG)
        cases hf
        refine Content.one A (mid ++ s1 :: B) s0 (.frag f0) dl 0 (by simp [hs]) rfl hs0 h0 (by omega) hst ?_
        simp only; omega
      | cons x T'' =>
        obtain ⟨rfl, rfl⟩ := List.cons.inj (show Row.frag f0 :: mid = x :: (T'' ++ .frag f :: G) by simpa using hTG)
        refine Content.many A (G ++ s1 :: B) T'' s0 (.frag f) (.frag f0) (.frag f) dl 0 (by simp [hs]) (by simp)
          hs0 (Short.refl f) h0 (by omega) hst ?_
        simp only [rowsLength_append, rowsLength_cons] at hen ⊢; omega

theorem ids_discardEnd {o o' : OverlapResult} (h : discardEnd o = .ok o') : (ids o'.rows).Sublist (ids o.rows) := by
  obtain ⟨d, G, T, hrows, -, -, rfl⟩ := discardEnd_ok h
  rw [hrows, List.append_assoc, ids_append]; exact List.sublist_append_left _ _

theorem inv_discardEnd {src o o'} (hI : Inv src o) (h : discardEnd o = .ok o') : Inv src o' :=
  Inv.mk' (content_discardEnd hI.content h) (hI.distinct.sublist (ids_discardEnd h))

/-- every Fragment object in `rows` has an id below `n`, and one with an id below `N0` is one of the objects `F` -/
def OidsOK (F : List Fragment) (N0 n : Nat) (rows : List Row) : Prop :=
  ∀ g, Row.frag g ∈ rows → g.oid < n ∧ (g.oid < N0 → g ∈ F)

/-- `trim_fragment(f, …)` finds its row by identity: with `f` one of the distinct objects `F` (ids below `N0 ≤ n`) the row
    found IS `f`. -/
theorem trimFragment_by_identity {F : List Fragment} {N0 n : Nat} {o o' : OverlapResult} {f new : Fragment} {ks ke : Bool}
    (hF : (F.map (·.oid)).Nodup) (hlt : ∀ g ∈ F, g.oid < N0) (hn : N0 ≤ n) (hf : f ∈ F)
    (ho : OidsOK F N0 n o.rows) (ht : o.trimFragment f ks ke n = .ok (o', new)) :
    ((∃ t, o.rows = .frag f :: t) ∨ (∃ t, o.rows = t ++ [.frag f])) ∧ n ∉ ids o.rows ∧ new.oid = n ∧
      OidsOK F N0 (n + 1) o'.rows := by
  have same : ∀ g, Row.frag g ∈ o.rows → g.oid = f.oid → g = f := fun g hg e =>
    inj_of_nodup_map (·.oid) hF g ((ho g hg).2 (by rw [e]; exact hlt f hf)) f hf e
  have hnew := trimFragment_oid ht
  refine ⟨?_, fun hmem => ?_, hnew, fun g hg => ?_⟩
  · rcases trimFragment_rows ht with ⟨t, g, hr, hg, -⟩ | ⟨t, g, hr, hg, -⟩
    · obtain rfl := same g (by rw [hr]; simp) hg
      exact .inr ⟨t, hr⟩
    · obtain rfl := same g (by rw [hr]; simp) hg
      exact .inl ⟨t, hr⟩
  · obtain ⟨g, hg, e⟩ := List.mem_map.mp hmem
    have := (ho g (mem_fragmentsOf.mp hg)).1
    omega
  · rcases mem_trimFragment_rows ht hg with m | m
    · exact ⟨Nat.lt_succ_of_lt (ho g m).1, (ho g m).2⟩
    · cases m
      rw [hnew]
      exact ⟨Nat.lt_succ_self _, fun h => by omega⟩

theorem Short.update {f new : Fragment} {s : Row} {dl dr d1 d2 : Int} (h : Short (.frag f) s dl dr)
    (hn : new.name = f.name) (hst : new.strand = f.strand)
    (hc : if f.strand = 1 then new.start = f.start + d1 ∧ new.stop = f.stop - d2
          else new.start = f.start + d2 ∧ new.stop = f.stop - d1) :
    Short (.frag new) s (dl + d1) (dr + d2) := by
  obtain ⟨f', g, hf, rfl, hname, hstrand, hcoord⟩ := h
  cases hf
  refine ⟨new, g, rfl, rfl, by rw [hn, hname], by rw [hst, hstrand], ?_⟩
  rw [hstrand] at hc
  split at hcoord <;> simp_all <;> omega

theorem Short.trimPiece {f : Fragment} {s : Row} {dl dr : Int} (h : Short (.frag f) s dl dr) (o : OverlapResult) (oid : Nat)
    (d1 d2 : Int) : Short (.frag (trimPiece o f oid d1 d2)) s (dl + d1) (dr + d2) :=
  h.update rfl rfl (trimPiece_coords ..)

/-- the shape both `trim_fragment(rows[0], …)` and `trim_fragment(rows[-1], …)` of `applyOp` have -/
theorem trimAt_ok {g : R Row} {k : Fragment → R (OverlapResult × Fragment)} {o' : OverlapResult}
    (h : (do match (← g) with
            | .frag f => let (o', _) ← k f; pure o'
            | .gap _ => .error .attribute) = .ok o') :
    ∃ f new, g = .ok (.frag f) ∧ k f = .ok (o', new) := by
  cases g with
  | error e => cases h
  | ok r =>
    cases r with
    | gap x => cases h
    | frag f =>
      simp only [bind, Except.bind] at h
      cases hk : k f with
      | error e => rw [hk] at h; cases h
      | ok p => rw [hk] at h; cases h; exact ⟨f, p.2, rfl, hk⟩

theorem applyOp_trimFirst {o o' : OverlapResult} {ks ke : Bool} {oid : Nat}
    (h : applyOp o (.trimFirst ks ke) oid = .ok o') :
    ∃ f t new, o.rows = .frag f :: t ∧ trimFragment o f ks ke oid = .ok (o', new) := by
  obtain ⟨f, new, hg, hk⟩ := trimAt_ok h
  obtain ⟨t, ht⟩ := pyGet_zero_ok hg
  exact ⟨f, t, new, ht, hk⟩

theorem applyOp_trimLast {o o' : OverlapResult} {ks ke : Bool} {oid : Nat}
    (h : applyOp o (.trimLast ks ke) oid = .ok o') :
    ∃ f t new, o.rows = t ++ [.frag f] ∧ trimFragment o f ks ke oid = .ok (o', new) := by
  obtain ⟨f, new, hg, hk⟩ := trimAt_ok h
  obtain ⟨t, ht⟩ := pyGet_neg_one_ok hg
  exact ⟨f, t, new, ht, hk⟩

theorem trimFragment_nodup {o o' : OverlapResult} {f new : Fragment} {ks ke : Bool} {oid : Nat} (hd : (ids o.rows).Nodup)
    (hfresh : oid ∉ ids o.rows) (h : trimFragment o f ks ke oid = .ok (o', new)) : (ids o'.rows).Nodup := by
  rw [← trimFragment_oid h] at hfresh
  rcases trimFragment_rows h with ⟨t, g, hr, -, hr'⟩ | ⟨t, g, hr, -, hr'⟩
  · rw [hr, ids_append, ids_cons_frag] at hd hfresh
    rw [hr', ids_append, ids_cons_frag]
    exact nodup_replace hd hfresh
  · rw [hr, ids_cons_frag] at hd hfresh
    rw [hr', ids_cons_frag]
    exact nodup_replace (a := []) hd hfresh

theorem inv_trimFragment {src o o'} {trim new : Fragment} {ks ke : Bool} {oid : Nat}
    (hI : Inv src o) (hmem : Row.frag trim ∈ o.rows) (hfresh : oid ∉ ids o.rows)
    (h : trimFragment o trim ks ke oid = .ok (o', new)) : Inv src o' := by
  refine Inv.mk' ?_ (trimFragment_nodup hI.distinct hfresh h)
  obtain ⟨a, b, ha, hb, hab, -, rfl, -, rfl⟩ := trimFragment_ok_iff.mp h
  -- the cuts `d1`, `d2`: nothing is cut at an end where `trim` is not the terminal row
  have p1 := startCut_nonneg o a ks
  have p2 := endCut_nonneg o b ke
  have q1 : a = false → startCut o a ks = 0 := fun e => e ▸ startCut_false o ks
  have q2 : b = false → endCut o b ke = 0 := fun e => e ▸ endCut_false o ke
  generalize startCut o a ks = d1 at p1 q1 ⊢
  generalize endCut o b ke = d2 at p2 q2 ⊢
  cases hI.content with
  | empty hr _ => rw [hr] at hmem; cases hmem
  | one A B s r dl dr hs hr hsh h0 h1 hst hen =>
    -- the one row is `trim`; it is the last row, so that is the row replaced
    rw [hr] at hmem
    cases List.mem_singleton.1 hmem
    rw [lastIs_concat o trim _ [] hr, rowIs_self] at hb
    cases hb
    exact .one A B s (.frag (trimPiece o trim oid d1 d2)) (dl + d1) (dr + d2) hs (by rw [if_pos rfl, hr]; rfl)
      (hsh.trimPiece ..) (Int.add_nonneg h0 p1) (Int.add_nonneg h1 p2) (hst ▸ Int.add_assoc ..) (hen ▸ Int.sub_sub ..)
  | many A B mid s0 s1 r0 r1 dl dr hs hr hs0 hs1 h0 h1 hst hen =>
    obtain ⟨f0, g0, rfl, -⟩ := id hs0
    obtain ⟨f1, g1, rfl, -⟩ := id hs1
    rw [firstIs_cons o trim _ _ hr] at ha
    rw [lastIs_concat o trim _ (.frag f0 :: mid) hr] at hb
    cases ha; cases hb
    -- the terminal rows are two objects, and `trim` is the one with its id: only that row's outer end is cut
    have hne : f0.oid ≠ f1.oid := by
      have := hI.distinct
      rw [hr, List.cons_append, ids_cons_frag, ids_append, ids_cons_frag, List.nodup_cons] at this
      exact fun e => this.1 (List.mem_append_right _ (e ▸ List.mem_cons_self))
    have hid : ∀ {f}, Row.frag f ∈ o.rows → f.oid = trim.oid → f = trim := fun hf e => eq_of_oid_eq hI.distinct hf hmem e
    simp only [rowIs_frag, beq_iff_eq, beq_eq_false_iff_ne] at hab q1 q2 ⊢
    by_cases e : f1.oid = trim.oid
    · cases hid (by rw [hr]; simp) e
      cases q1 hne
      exact .many A B mid s0 s1 _ (.frag (trimPiece o trim oid 0 d2)) dl (dr + d2) hs
        (by rw [if_pos rfl, hr]; exact setLast_concat (.frag f0 :: mid) _ _) hs0 (hs1.trimPiece ..) h0 (Int.add_nonneg h1 p2)
        ((Int.add_zero _).trans hst) (hen ▸ Int.sub_sub ..)
    · cases hid (by rw [hr]; simp) (hab.resolve_right e)
      cases q2 e
      exact .many A B mid s0 s1 (.frag (trimPiece o trim oid d1 0)) _ (dl + d1) dr hs (by rw [if_neg e, hr]; rfl)
        (hs0.trimPiece ..) hs1 (Int.add_nonneg h0 p1) h1 (hst ▸ Int.add_assoc ..) ((Int.sub_zero _).trans hen)

theorem inv_trimFragment_first {src o o'} {f new : Fragment} {t : List Row} {ks ke : Bool} {oid : Nat}
    (hI : Inv src o) (hr : o.rows = .frag f :: t) (hfresh : oid ∉ ids o.rows)
    (h : trimFragment o f ks ke oid = .ok (o', new)) : Inv src o' :=
  inv_trimFragment hI (by rw [hr]; exact List.mem_cons_self) hfresh h

theorem inv_trimFragment_last {src o o'} {f new : Fragment} {t : List Row} {ks ke : Bool} {oid : Nat}
    (hI : Inv src o) (hr : o.rows = t ++ [.frag f]) (hfresh : oid ∉ ids o.rows)
    (h : trimFragment o f ks ke oid = .ok (o', new)) : Inv src o' :=
  inv_trimFragment hI (by rw [hr]; simp) hfresh h

theorem cumEnds_length (acc : Int) (rows : List Row) : (cumEnds acc rows).length = rows.length :=
  AgpTpf.cumEnds_length acc rows

theorem Content.of_run {src A B : List Row} {o : OverlapResult} (hs : src = A ++ o.rows ++ B)
    (hst : o.start = 1 + rowsLength A) (hen : o.stop = rowsLength A + rowsLength o.rows)
    (hr : (∃ f, o.rows = [.frag f]) ∨ ∃ f m g, o.rows = .frag f :: m ++ [.frag g]) : Content src o := by
  rcases hr with ⟨f, hr⟩ | ⟨f, m, g, hr⟩
  · rw [hr] at hs hen
    exact .one A B _ _ 0 0 (by simpa using hs) hr (Short.refl f) (Int.le_refl _) (Int.le_refl _) (by omega)
      (by rw [rowsLength_singleton] at hen; omega)
  · rw [hr] at hs hen
    refine .many A B m _ _ _ _ 0 0 (by simpa using hs) hr (Short.refl f) (Short.refl g) (Int.le_refl _) (Int.le_refl _)
      (by omega) ?_
    simp only [List.cons_append, rowsLength_cons, rowsLength_append, rowsLength_nil] at hen
    omega

theorem inv_lookup' {src : List Row} {bait : Fragment} {o : OverlapResult}
    (hd : (ids src).Nodup) (h : findOverlaps src bait = .ok (some o)) : Inv src o := by
  obtain ⟨i, j, hij, hj, hfi, hfj, rfl⟩ := C12.findOverlaps_some h
  obtain ⟨A, B, hs, hA, hAB, hr⟩ := C12.slice_decomp hij hj hfi hfj
  refine Inv.mk' (Content.of_run hs (by rw [hA]; rfl) hAB.symm hr) ?_
  rw [hs, ids_append, ids_append] at hd
  exact (List.nodup_append.1 (List.nodup_append.1 hd).1).2.1

/-- the operations that create a new Fragment object (and so consume a fresh object id) -/
def needsId : OvOp → Bool
  | .trimFirst _ _ => true
  | .trimLast _ _ => true
  | _ => false

theorem inv_trimLarge {src o o'} {e : Int} (hI : Inv src o) (h : trimLargeOverhangs o e = .ok o') : Inv src o' := by
  rcases trimLarge_cases h with rfl | h1 | h1 | ⟨o1, h1, h2⟩
  · exact hI
  · exact inv_discardStart hI h1
  · exact inv_discardEnd hI h1
  · exact inv_discardEnd (inv_discardStart hI h1) h2

theorem inv_step' {src o o'} {op : OvOp} {oid : Nat} (hI : Inv src o)
    (hfresh : needsId op = true → oid ∉ ids o.rows) (h : applyOp o op oid = .ok o') : Inv src o' := by
  cases op with
  | discardStart => exact inv_discardStart hI h
  | discardEnd => exact inv_discardEnd hI h
  | trimLarge e => exact inv_trimLarge hI h
  | trimFirst ks ke =>
    obtain ⟨f, t, new, hr, ht⟩ := applyOp_trimFirst h
    exact inv_trimFragment_first hI hr (hfresh rfl) ht
  | trimLast ks ke =>
    obtain ⟨f, t, new, hr, ht⟩ := applyOp_trimLast h
    exact inv_trimFragment_last hI hr (hfresh rfl) ht

theorem trimFragment_ids {o o' : OverlapResult} {f new : Fragment} {ks ke : Bool} {oid : Nat}
    (h : trimFragment o f ks ke oid = .ok (o', new)) : ∀ x ∈ ids o'.rows, x ∈ ids o.rows ∨ x = oid := by
  have ho := trimFragment_oid h
  rcases trimFragment_rows h with ⟨t, g, hr, -, hr'⟩ | ⟨t, g, hr, -, hr'⟩ <;>
    simp only [hr, hr', ids_append, ids_cons_frag, ids_nil, List.mem_append, List.mem_cons, List.not_mem_nil, or_false, ho] <;>
    grind

theorem ids_step {o o' : OverlapResult} {op : OvOp} {oid : Nat} (h : applyOp o op oid = .ok o') :
    ∀ x ∈ ids o'.rows, x ∈ ids o.rows ∨ x = oid := by
  cases op with
  | discardStart => exact fun x hx => Or.inl ((ids_discardStart h).subset hx)
  | discardEnd => exact fun x hx => Or.inl ((ids_discardEnd h).subset hx)
  | trimLarge e =>
    intro x hx
    left
    rcases trimLarge_cases h with rfl | h1 | h1 | ⟨o1, h1, h2⟩
    · exact hx
    · exact (ids_discardStart h1).subset hx
    · exact (ids_discardEnd h1).subset hx
    · exact (ids_discardStart h1).subset ((ids_discardEnd h2).subset hx)
  | trimFirst ks ke =>
    obtain ⟨f, t, new, hr, ht⟩ := applyOp_trimFirst h
    exact trimFragment_ids ht
  | trimLast ks ke =>
    obtain ⟨f, t, new, hr, ht⟩ := applyOp_trimLast h
    exact trimFragment_ids ht

/-- run a sequence of operations; each comes with the object id of the Fragment it may create.
    The first rejected operation ends the run with its error. -/
def runOps (o : OverlapResult) : List (OvOp × Nat) → R OverlapResult
  | [] => .ok o
  | (op, oid) :: rest => do
    let o1 ← applyOp o op oid
    runOps o1 rest

/-- Index form of (3)+(4). -/
theorem content_index_form {src o} (h : Content src o) (hne : o.rows ≠ []) :
    ∃ (i n : Nat) (dl dr : Int),
      o.rows.length = n ∧ 0 < n ∧ i + n ≤ src.length ∧ 0 ≤ dl ∧ 0 ≤ dr ∧
      (∀ k, 0 < k → k + 1 < n → o.rows[k]? = src[i + k]?) ∧
      (∃ r s, o.rows[0]? = some r ∧ src[i]? = some s ∧ Short r s dl (if n = 1 then dr else 0)) ∧
      (∃ r s, o.rows[n - 1]? = some r ∧ src[i + n - 1]? = some s ∧ Short r s (if n = 1 then dl else 0) dr) ∧
      o.start = 1 + rowsLength (src.take i) + dl ∧
      o.stop = rowsLength (src.take (i + n)) - dr := by
  cases h with
  | empty h1 _ => exact absurd h1 hne
  | one A B s r dl dr hs hr hsh h0 h1 hst hen =>
    subst hs
    have hi := getElem?_append_cons_length A s B
    refine ⟨A.length, 1, dl, dr, by rw [hr]; rfl, Nat.one_pos, ?_, h0, h1, fun k hk hk' => by omega,
      ⟨r, s, by rw [hr]; rfl, hi, hsh⟩, ⟨r, s, by rw [hr]; rfl, hi, hsh⟩, ?_, ?_⟩
    · rw [List.length_append, List.length_cons]; omega
    · rw [List.take_left]; exact hst
    · rw [List.take_length_add_append, rowsLength_append]
      show o.stop = rowsLength A + rowsLength [s] - dr
      rw [rowsLength_cons, rowsLength_nil]; omega
  | many A B mid s0 s1 r0 r1 dl dr hs hr hs0 hs1 h0 h1 hst hen =>
    have hs' : src = A ++ (s0 :: (mid ++ s1 :: B)) := by rw [hs, List.append_assoc]; rfl
    have hr' : o.rows = r0 :: (mid ++ [r1]) := hr
    subst hs'
    refine ⟨A.length, mid.length + 2, dl, dr, ?_, Nat.succ_pos _, ?_, h0, h1, ?_,
      ⟨r0, s0, by rw [hr']; rfl, getElem?_append_cons_length A s0 _, hs0⟩, ⟨r1, s1, ?_, ?_, hs1⟩, ?_, ?_⟩
    · rw [hr', List.length_cons, List.length_append]; rfl
    · rw [List.length_append, List.length_cons, List.length_append, List.length_cons]; omega
    · intro k hk hk'
      obtain ⟨k, rfl⟩ : ∃ k', k = k' + 1 := ⟨k - 1, by omega⟩
      have hk2 : k < mid.length := by omega
      rw [hr', getElem?_append_add, List.getElem?_cons_succ, List.getElem?_cons_succ, List.getElem?_append_left hk2,
        List.getElem?_append_left hk2]
    · rw [hr']; exact getElem?_append_cons_length mid r1 []
    · rw [show A.length + (mid.length + 2) - 1 = A.length + (mid.length + 1) from rfl, getElem?_append_add]
      exact getElem?_append_cons_length mid s1 B
    · rw [List.take_left]; exact hst
    · rw [List.take_length_add_append, rowsLength_append]
      show o.stop = rowsLength A + rowsLength (s0 :: ((mid ++ s1 :: B).take (mid.length + 1))) - dr
      rw [List.take_length_add_append, rowsLength_cons, rowsLength_append]
      show o.stop = rowsLength A + (s0.length + (rowsLength mid + rowsLength [s1])) - dr
      rw [rowsLength_cons, rowsLength_nil]; omega

end AgpTpf.C18
