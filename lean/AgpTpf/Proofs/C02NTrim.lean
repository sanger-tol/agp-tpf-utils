/-
  C02 "remapping never fails": `trim_fragment` for ANY holder of a contig — first
  and/or last row, any flags, forward or reverse contig, any bait tags — in contig coordinates; and what it leaves
  alone: every other contig of the result stays the first / last row it was, with its overhang.
-/
import AgpTpf.Proofs.Lib.Overlap
namespace AgpTpf.C02
open AgpTpf OverlapResult

/-- how many bases `trim_fragment` takes off the contig at its LOW end (contig coordinates): the cut at the result's
    start for a forward contig (`a`: it is the first row), the cut at its end for a reverse one (`c`: the last row) -/
def trimLow (o : OverlapResult) (F : Fragment) (a c ks ke : Bool) : Int :=
  if F.strand = 1 then startCut o a ks else endCut o c ke

/-- … and at its HIGH end -/
def trimHigh (o : OverlapResult) (F : Fragment) (a c ks ke : Bool) : Int :=
  if F.strand = 1 then endCut o c ke else startCut o a ks

theorem rowIs_other {x : Row} {F0 F : Fragment} (hne : F.oid ≠ F0.oid) (hx : rowIs x F0 = true) : rowIs x F = false := by
  obtain ⟨g, rfl, hg⟩ := rowIs_true hx
  simpa [rowIs] using fun e => hne (e.symm.trans hg)

theorem firstIs_other {o : OverlapResult} {F0 F : Fragment} {a : Bool} (hne : F.oid ≠ F0.oid)
    (h0 : firstIs o F0 = .ok true) (h : firstIs o F = .ok a) : a = false := by
  obtain ⟨r, t, hr, h1⟩ := firstIs_ok_iff.mp h0
  rw [firstIs_cons o F r t hr] at h
  exact (Except.ok.inj h).symm.trans (rowIs_other hne h1.symm)

theorem lastIs_other {o : OverlapResult} {F0 F : Fragment} {c : Bool} (hne : F.oid ≠ F0.oid)
    (h0 : lastIs o F0 = .ok true) (h : lastIs o F = .ok c) : c = false := by
  obtain ⟨t, r, hr, h1⟩ := lastIs_ok_iff.mp h0
  rw [lastIs_concat o F r t hr] at h
  exact (Except.ok.inj h).symm.trans (rowIs_other hne h1.symm)

theorem pyGet_map {α β} (f : α → β) (l : List α) (i : Int) : pyGet (l.map f) i = (pyGet l i).map f := by
  unfold pyGet
  simp only [List.length_map, List.getElem?_map]
  generalize (if i < 0 then i + (l.length : Int) else i) = j
  by_cases h : j < 0 ∨ (l.length : Int) ≤ j
  · rw [if_pos h, if_pos h]; rfl
  · rw [if_neg h, if_neg h]; cases l[j.toNat]? <;> rfl

theorem firstIs_lastIs_congr {o o' : OverlapResult} {F : Fragment}
    (h : o'.rows.map (rowIs · F) = o.rows.map (rowIs · F)) : firstIs o' F = firstIs o F ∧ lastIs o' F = lastIs o F := by
  have e : ∀ (o : OverlapResult) (i : Int),
      (do let r ← pyGet o.rows i; pure (rowIs r F) : R Bool) = pyGet (o.rows.map (rowIs · F)) i := fun o i => by
    rw [pyGet_map]; cases pyGet o.rows i <;> rfl
  exact ⟨by unfold firstIs; rw [e, e, h], by unfold lastIs; rw [e, e, h]⟩

/-- `trim_fragment` of the contig `F0` swaps one row that is not `F` for another that is not `F`, and moves only the end
    of the result where `F0` stands -/
theorem trimFragment_other {o o' : OverlapResult} {F0 new F : Fragment} {ks ke : Bool} {oid : Nat} {a c : Bool}
    (ht : o.trimFragment F0 ks ke oid = .ok (o', new)) (hs : firstIs o F = .ok a) (he : lastIs o F = .ok c)
    (hne : F.oid ≠ F0.oid) (hoid : oid ≠ F.oid) :
    firstIs o' F = .ok a ∧ lastIs o' F = .ok c ∧ (a = true → o'.startOverhang = o.startOverhang) ∧
      (c = true → o'.endOverhang = o.endOverhang) := by
  obtain ⟨a0, c0, hs0, he0, hac, -, hpiece, -, ho'⟩ := trimFragment_ok_iff.mp ht
  have hnew : rowIs (.frag new) F = false := by
    have : new.oid = oid := by rw [hpiece]; rfl
    simpa [rowIs, this] using hoid
  have hmap : o'.rows.map (rowIs · F) = o.rows.map (rowIs · F) := by
    rw [ho']
    cases c0 with
    | true =>
      obtain ⟨t, r, hr, h1⟩ := lastIs_ok_iff.mp he0
      simp only [if_true]
      rw [hr, setLast_concat, List.map_append, List.map_append, List.map_singleton, List.map_singleton,
        hnew, rowIs_other hne h1.symm]
    | false =>
      obtain ⟨r, t, hr, h1⟩ := firstIs_ok_iff.mp hs0
      simp only [Bool.false_eq_true, if_false]
      rw [hr, setFirst_cons, List.map_cons, List.map_cons, hnew,
        rowIs_other hne (h1.symm.trans (hac.resolve_right (by simp)))]
  obtain ⟨e1, e2⟩ := firstIs_lastIs_congr hmap
  refine ⟨e1.trans hs, e2.trans he, fun hat => ?_, fun hct => ?_⟩
  · cases a0 with
    | false => rw [ho']; simp [startOverhang]
    | true => exact absurd (firstIs_other hne hs0 hs) (by simp [hat])
  · cases c0 with
    | false => rw [ho']; simp [endOverhang]
    | true => exact absurd (lastIs_other hne he0 he) (by simp [hct])

end AgpTpf.C02
