/-
  C10, chromosome numbering: `nameChromosomes`, the `name_chromosomes` block of `assembliesFused`; for one haplotype key the runs
  sorted by length (descending, stable) and the effect of renaming run k to <prefix>(k+1) (`numbering_core`); then the block inside
  `assembliesFused`: what the split loop hands to `ChrNamer` (`splitLoop_entries`), and from `name_chromosomes` to the output
  assemblies (`finishAssemblies_named`, `outsTail_mem`).
-/
import AgpTpf.Model.Remap
import AgpTpf.Proofs.C10Rename
import AgpTpf.Proofs.C10Groups
import AgpTpf.Proofs.C10Runs
import AgpTpf.Proofs.C20
import AgpTpf.Proofs.Remap.Phase2
import AgpTpf.Proofs.C20Sort
namespace AgpTpf.C10
open AgpTpf

/-- `ChrNamer.name_chromosomes` for a non-empty `haplotypes_seen` (verbatim middle block of `assembliesFused`) -/
def nameChromosomes (prefix_ : Str) (fs : List Scaffold) (haps : List Str) (entries : List (Str × Nat)) :
    R (List Scaffold) := do
  let groups ← buildGroups fs haps entries
  if groupsHaveErrors groups then throw .chrNamer
  let keyed ← groups.mapM (fun g => do let l ← groupFirstLength fs g; pure (l, g))
  let sorted := (stableSort (fun (a c : Int × GroupData) => a.1 ≥ c.1) keyed).map (·.2)
  pure (((List.range sorted.length).zip sorted).foldl (fun fs (p : Nat × GroupData) => nameGroup fs p.2 prefix_ (p.1 + 1)) fs)

theorem finishAssemblies_eq_name (input : List Scaffold) (b : Build) (asms : C09.Asms) (entries : List (Str × Nat))
    (haps : List Str) (fs : List Scaffold) :
    C09.finishAssemblies input b (asms, entries, haps, fs) =
      (if haps.isEmpty then pure fs else nameChromosomes b.namer.autosomePrefix fs haps entries)
        >>= C09.outsTail input b asms :=
  C09.finishAssemblies_eq input b (asms, entries, haps, fs)

/-- total fragments length of a chromosome with its unlocs -/
def runLength (fs : List Scaffold) (r : Run) : Int := sumInts (r.2.map (fun i => (fs.getD i default).fragmentsLength))

def sortedRuns (fs : List Scaffold) (rs : List Run) : List Run :=
  stableSort (fun a c => decide (runLength fs a ≥ runLength fs c)) rs

/-- renaming of the runs `ps = [(k, (orig, ids)), …]` in sequence -/
def nameRuns (prefix_ : Str) (ps : List (Nat × Run)) (fs : List Scaffold) : List Scaffold :=
  ps.foldl (fun fs p => p.2.2.foldl (renameAt p.2.1 (prefix_ ++ natToStr (p.1 + 1))) fs) fs

theorem zip_range_map {α β} (f : α → β) (l : List α) :
    (List.range (l.map f).length).zip (l.map f) = ((List.range l.length).zip l).map (fun p => (p.1, f p.2)) := by
  rw [List.length_map, List.zip_map_right]; rfl

theorem nameRuns_eq_jobs (prefix_ : Str) (ps : List (Nat × Run)) (fs : List Scaffold) :
    nameRuns prefix_ ps fs = runJobs (ps.map fun p => (p.2.1, prefix_ ++ natToStr (p.1 + 1), p.2.2)) fs := by
  unfold nameRuns runJobs; rw [List.foldl_map]

theorem mem_zip_range {α} (l : List α) (k : Nat) (hk : k < l.length) : (k, l[k]) ∈ (List.range l.length).zip l := by
  rw [List.mem_iff_getElem]
  refine ⟨k, by simpa using hk, ?_⟩
  simp

theorem zip_range_flatMap {α β} (f : α → List β) (l : List α) :
    ((List.range l.length).zip l).flatMap (fun p => f p.2) = l.flatMap f := by
  rw [← List.flatMap_map (f := Prod.snd), List.map_snd_zip (by rw [List.length_range]; exact Nat.le_refl _)]

theorem flatMap_ids_runs (l : List (Str × Nat)) : (groupRuns l).flatMap (fun r => r.2) = l.map (·.2) := by
  have h := (groupRuns_spec l).1
  have := congrArg (List.map (fun p : Str × Nat => p.2)) h
  rw [← this]
  unfold flattenRuns
  rw [List.map_flatMap]
  congr 1
  funext r
  simp [Function.comp_def]

theorem runs_orig (fs : List Scaffold) (entries : List (Str × Nat)) :
    ∀ r ∈ groupRuns (origPairs fs entries), ∀ i ∈ r.2, r.1 = origOf fs i ∧ i ∈ entries.map (·.2) := by
  intro r hr i hi
  have hmem : (r.1, i) ∈ flattenRuns (groupRuns (origPairs fs entries)) :=
    List.mem_flatMap.2 ⟨r, hr, List.mem_map.2 ⟨i, hi, rfl⟩⟩
  rw [(groupRuns_spec _).1] at hmem
  obtain ⟨e, he, heq⟩ := List.mem_map.1 hmem
  simp only [Prod.mk.injEq] at heq
  exact ⟨by rw [← heq.1, heq.2], List.mem_map.2 ⟨e, he, heq.2⟩⟩

theorem runs_cover (fs : List Scaffold) (entries : List (Str × Nat)) :
    ∀ e ∈ entries, ∃ r ∈ groupRuns (origPairs fs entries), r.1 = origOf fs e.2 ∧ e.2 ∈ r.2 := by
  intro e he
  have hmem : (origOf fs e.2, e.2) ∈ flattenRuns (groupRuns (origPairs fs entries)) := by
    rw [(groupRuns_spec _).1]; exact List.mem_map.2 ⟨e, he, rfl⟩
  obtain ⟨r, hr, hm⟩ := List.mem_flatMap.1 hmem
  obtain ⟨i, hi, heq⟩ := List.mem_map.1 hm
  simp only [Prod.mk.injEq] at heq
  exact ⟨r, hr, heq.1, heq.2 ▸ hi⟩

theorem sortedRuns_perm (fs : List Scaffold) (rs : List Run) : (sortedRuns fs rs).Perm rs :=
  sortByIntKeyDesc_perm _ rs

theorem sortedRuns_sorted (fs : List Scaffold) (rs : List Run) :
    (sortedRuns fs rs).Pairwise (fun a b => runLength fs a ≥ runLength fs b) := sortByIntKeyDesc_sorted _ rs

theorem sortedRuns_stable (fs : List Scaffold) (rs : List Run) (L : Int) :
    (sortedRuns fs rs).filter (fun r => runLength fs r = L) = rs.filter (fun r => runLength fs r = L) :=
  sortByIntKeyDesc_stable _ rs L

theorem sortedRuns_ids_nodup (fs : List Scaffold) (entries : List (Str × Nat)) (hnd : (entries.map (·.2)).Nodup) :
    ((sortedRuns fs (groupRuns (origPairs fs entries))).flatMap (fun r => r.2)).Nodup := by
  have hp := (sortedRuns_perm fs (groupRuns (origPairs fs entries))).flatMap_right (fun r => r.2)
  rw [hp.nodup_iff, flatMap_ids_runs]
  simpa [origPairs, List.map_map, Function.comp_def] using hnd

theorem numbering_core (prefix_ : Str) (fs : List Scaffold) (entries : List (Str × Nat))
    (hnd : (entries.map (·.2)).Nodup) :
    let sorted := sortedRuns fs (groupRuns (origPairs fs entries))
    let fs' := nameRuns prefix_ ((List.range sorted.length).zip sorted) fs
    fs'.length = fs.length ∧
    (∀ j, j ∉ entries.map (·.2) → fs'.getD j default = fs.getD j default) ∧
    (∀ k (hk : k < sorted.length), ∀ j ∈ sorted[k].2,
        fs'.getD j default = renameScaffold sorted[k].1 (prefix_ ++ natToStr (k + 1)) (fs.getD j default)) := by
  intro sorted fs'
  obtain ⟨a, b, c⟩ := runJobs_spec
    (((List.range sorted.length).zip sorted).map fun p => (p.2.1, prefix_ ++ natToStr (p.1 + 1), p.2.2)) fs
  rw [← nameRuns_eq_jobs] at a b c
  rw [List.flatMap_map, zip_range_flatMap (fun r : Run => r.2) sorted] at b c
  refine ⟨a, fun j hj => b j fun hmem => ?_, fun k hk j hj =>
    c (sortedRuns_ids_nodup fs entries hnd) _ (List.mem_map.2 ⟨_, mem_zip_range sorted k hk, rfl⟩) j hj⟩
  obtain ⟨r, hr, hjr⟩ := List.mem_flatMap.1 hmem
  exact hj (runs_orig fs entries r ((sortedRuns_perm fs _).mem_iff.1 hr) j hjr).2

theorem outsTail_mem (input : List Scaffold) (b : Build) (asms : C09.Asms) (fs : List Scaffold) (outs : List OutAsm)
    (stats : Stats) (h : C09.outsTail input b asms fs = .ok (outs, stats)) :
    ∀ o ∈ outs, ∃ a ∈ asms, o.key = a.1 ∧ o.curated = a.2.1 ∧
      o.scaffolds = C20.smartSorted (a.2.2.map (fun sid => fs.getD sid default)) := by
  obtain ⟨rfl, _⟩ := C09.outsTail_ok h
  intro o ho
  obtain ⟨a, ha, rfl⟩ := List.mem_map.1 ho
  exact ⟨a, ha, rfl, rfl, rfl⟩

theorem finishAssemblies_named (input : List Scaffold) (b : Build) (asms : C09.Asms) (entries : List (Str × Nat))
    (haps : List Str) (fs : List Scaffold) (res : List OutAsm × Stats)
    (h : C09.finishAssemblies input b (asms, entries, haps, fs) = .ok res) :
    ∃ fs', (if haps.isEmpty then pure fs else nameChromosomes b.namer.autosomePrefix fs haps entries) = .ok fs' ∧
      C09.outsTail input b asms fs' = .ok res := by
  rw [finishAssemblies_eq_name, bind_eq_ok] at h
  exact h

/-- what the split loop hands to `ChrNamer`: entry ids are pairwise different, every entry's haplotype key is in
    `haplotypes_seen`, and `haplotypes_seen` is empty only if there are no entries -/
def EntriesInv (acc : C09.SplitSt) : Prop :=
  (acc.2.1.map (·.2)).Nodup ∧ (∀ e ∈ acc.2.1, e.1 ∈ acc.2.2.1) ∧ (acc.2.2.1 = [] → acc.2.1 = [])

theorem splitLoop_entries (prefix_ : Str) (fs : List Scaffold) : EntriesInv (C09.splitLoop prefix_ fs) := by
  unfold EntriesInv
  rw [C09.splitLoop_haps_eq]
  refine ⟨?_, fun e he => mem_foldl_sAdd.2 (Or.inr (List.mem_map.2 ⟨e, he, rfl⟩)), fun hnil => ?_⟩
  · -- the ids are those of the rank-1 scaffolds, in order
    have : (fun j => (C09.entryOf (fs.getD j default) j).map (·.2)) =
        Option.guard (fun j => decide ((fs.getD j default).rank = 1)) := by
      funext j
      unfold C09.entryOf
      by_cases h : (fs.getD j default).rank = 1
      · rw [if_pos h, Option.guard, if_pos (decide_eq_true h)]; rfl
      · rw [if_neg h, Option.guard, if_neg (by simpa using h)]; rfl
    rw [C09.splitLoop_entries_eq, List.map_filterMap, this, List.filterMap_eq_filter]
    exact List.nodup_range.filter _
  · cases he : (C09.splitLoop prefix_ fs).2.1 with
    | nil => rfl
    | cons e r =>
      have : e.1 ∈ ((C09.splitLoop prefix_ fs).2.1.map (·.1)).foldl sAdd [] :=
        mem_foldl_sAdd.2 (Or.inr (by rw [he]; simp))
      rw [hnil] at this; cases this

theorem splitLoop_haps_nil (prefix_ : Str) (fs : List Scaffold) :
    (C09.splitLoop prefix_ fs).2.1 = [] → (C09.splitLoop prefix_ fs).2.2.1 = [] := by
  rw [C09.splitLoop_haps_eq]; intro h; rw [h]; rfl

theorem splitLoop_haps_nodup (prefix_ : Str) (fs : List Scaffold) : (C09.splitLoop prefix_ fs).2.2.1.Nodup := by
  rw [C09.splitLoop_haps_eq]; exact nodup_foldl_sAdd _ List.nodup_nil

end AgpTpf.C10
