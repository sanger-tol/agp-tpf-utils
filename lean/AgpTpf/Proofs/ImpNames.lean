/-
  T1c / C09 — helper lemmas for the tie between the model's `nameAssemblies` (Model/Cli.lean) and the translated source
  (`Gen.Imp.name_assemblies_imp`, `Gen.Imp.merge_assemblies_imp`, pretext_to_asm.py).

  The loop lemmas (`PyRt.forIn_mapM` of Lib/PyRt, `primLoop`) take the loop body through a hypothesis `∀ x s, body x s = …` and do not mention the
  generated text; the hypotheses are discharged in `name_tie_dict` by `simp` after unfolding the generated definition.
  The source stores its results into a dict, where a later assignment to the same key overwrites the earlier one (`toDict`, a `dSetAll` of Lib/Py); the
  list the model returns is that dict exactly when its keys are pairwise different (`toDict_eq_iff`); `CliNames.named_keys_nodup_iff`
  says for which inputs that is.
-/
import AgpTpf.Model.PyRt
import AgpTpf.Gen.Imp
import AgpTpf.Proofs.CliNames
import AgpTpf.Model.CliPlan
import AgpTpf.Proofs.Lib.PyRt
namespace AgpTpf.ImpNames
open AgpTpf.CliNames

theorem foldl_addScaffold (l : List Scaffold) (acc : Assembly) :
    l.foldl (fun (acc : Assembly) sc => { acc with scaffolds := acc.scaffolds ++ [sc] }) acc
      = { acc with scaffolds := acc.scaffolds ++ l } := by
  induction l generalizing acc with
  | nil => simp
  | cons x xs ih => rw [List.foldl_cons, ih]; simp

theorem foldl_addScaffolds (l : List Assembly) (acc : Assembly) :
    l.foldl (fun (acc : Assembly) (asm : Assembly) => { acc with scaffolds := acc.scaffolds ++ asm.scaffolds }) acc
      = { acc with scaffolds := acc.scaffolds ++ l.flatMap (·.scaffolds) } := by
  induction l generalizing acc with
  | nil => simp
  | cons x xs ih => rw [List.foldl_cons, ih]; simp

theorem merge_tie (l : List Assembly) :
    Gen.Imp.merge_assemblies_imp l = .ok { name := "merge".toList, scaffolds := l.flatMap (·.scaffolds) } := by
  unfold Gen.Imp.merge_assemblies_imp
  dsimp only
  rw [PyRt.forIn_foldl (fun (acc : Assembly) (asm : Assembly) => { acc with scaffolds := acc.scaffolds ++ asm.scaffolds })]
  · rw [foldl_addScaffolds]; simp [bind, Except.bind]
  · intro asm _ acc
    rw [PyRt.forIn_foldl (fun (acc : Assembly) sc => { acc with scaffolds := acc.scaffolds ++ [sc] }) (fun _ _ _ => rfl)]
    rw [foldl_addScaffold]; rfl

/-- the source's view of one input assembly: `(key, Assembly object)`; `n0` = whatever name the object had -/
def item (n0 : Str) (a : OutAsm) : Option Str × Assembly :=
  (a.key, ({ name := n0, curated := a.curated, scaffolds := a.scaffolds } : Assembly))
/-- the dict entry of one of the model's `NamedAsm`s -/
def entry (na : NamedAsm) : Option Str × Assembly :=
  (na.key, ({ name := na.name, curated := na.curated, scaffolds := na.scaffolds } : Assembly))
/-- `ret_asm[na.key] = na` -/
def put (d : List (Option Str × Assembly)) (na : NamedAsm) : List (Option Str × Assembly) :=
  dSet d na.key (entry na).2
/-- the model's assignments stored one after the other: a later one with the same key OVERWRITES the earlier one in place -/
def toDict (named : List NamedAsm) : List (Option Str × Assembly) := named.foldl put []

theorem dGet_item_isSome (n0 : Str) (asms : List OutAsm) (k : Option Str) :
    (dGet? (asms.map (item n0)) k).isSome = asms.any (fun a => a.key = k) := by
  rw [Bool.eq_iff_iff, dGet?_isSome_iff, List.map_map]
  simp [item]

theorem primStep_none (root version : Str) (a : OutAsm) (h : primStep root version a = .ok none) :
    (a.key ≠ some sPrimary ∧ a.curated = true) := by
  unfold primStep at h
  by_cases hp : a.key = some sPrimary
  · simp [hp, pure, Except.pure] at h
  · cases hc : a.curated with
    | true => exact ⟨hp, rfl⟩
    | false =>
      cases hk : a.key with
      | none => simp [hc, hk, lowerS, bind, Except.bind] at h
      | some k =>
        have hp' : k ≠ sPrimary := by intro e; exact hp (by rw [hk, e])
        simp [hp', hc, hk, lowerS, pure, Except.pure, bind, Except.bind] at h

theorem primStep_some (root version : Str) (a : OutAsm) (na : NamedAsm) (h : primStep root version a = .ok (some na)) :
    ¬ (a.key ≠ some sPrimary ∧ a.curated = true) := by
  rintro ⟨hp, hc⟩
  unfold primStep at h
  simp [hp, hc, pure, Except.pure] at h

/-- THE place that knows the order of the loop state of the `Primary` loop of `name_assemblies` (the translator sorts the carried
    variables by the Lean text of their type, then by name): `other_asm`, `ret_asm` ↦ the generated tuple -/
abbrev primSt (oth : List Assembly) (ret : List (Option Str × Assembly)) :
    List (Option Str × Assembly) × List Assembly := (ret, oth)

theorem primLoop {σ ρ : Type} (pk : List Assembly → List (Option Str × Assembly) → σ) (n0 root version : Str)
    (body : Option Str × Assembly → σ → R (PyRt.Ctl σ ρ))
    (hbody : ∀ a oth ret, body (item n0 a) (pk oth ret) =
      match primStep root version a with
      | .error e => .error e
      | .ok none => .ok (.next (pk (oth ++ [(item n0 a).2]) ret))
      | .ok (some na) => .ok (.next (pk oth (put ret na))))
    (asms : List OutAsm) (oth : List Assembly) (ret : List (Option Str × Assembly)) :
    PyRt.forIn (asms.map (item n0)) (pk oth ret) body =
      match asms.filterMapM (primStep root version) with
      | .error e => .error e
      | .ok named => .ok (.fell (pk (oth ++ (others asms).map (fun a => (item n0 a).2)) (named.foldl put ret))) := by
  induction asms generalizing oth ret with
  | nil => simp [others]; rfl
  | cons x xs ih =>
    rw [List.map_cons, PyRt.forIn, hbody, List.filterMapM_cons]
    cases hx : primStep root version x with
    | error e => rfl
    | ok o =>
      cases o with
      | none =>
        have := primStep_none root version x hx
        simp only [ih]
        have ho : others (x :: xs) = x :: others xs := by
          unfold others; rw [List.filter_cons, if_pos (by simpa using this)]
        rw [ho]
        cases hxs : xs.filterMapM (primStep root version) with
        | error e => rfl
        | ok bs => simp [bind, Except.bind]
      | some na =>
        have := primStep_some root version x na hx
        simp only [ih]
        have ho : others (x :: xs) = others xs := by
          unfold others; rw [List.filter_cons, if_neg (by simpa using this)]
        rw [ho]
        cases hxs : xs.filterMapM (primStep root version) with
        | error e => rfl
        | ok bs => simp [bind, Except.bind, pure, Except.pure]

theorem sPrimary_eq : "Primary".toList = sPrimary := String.toList_ofList
theorem sHaplotig_eq : "Haplotig".toList = sHaplotig := String.toList_ofList

theorem toDict_append_one (named : List NamedAsm) (na : NamedAsm) :
    toDict (named ++ [na]) = dSet (toDict named) na.key (entry na).2 := by
  unfold toDict; rw [List.foldl_append]; rfl

/-- the source returns `toDict` of the model's assignments, for ALL inputs (no hypothesis; the same exception otherwise) -/
theorem name_tie_dict (asms : List OutAsm) (n0 root version : Str) :
    Gen.Imp.name_assemblies_imp (asms.map (item n0)) root version
      = (nameAssemblies asms root version).map toDict := by
  unfold Gen.Imp.name_assemblies_imp
  dsimp only
  rw [nameAssemblies_eq, dGet_item_isSome, dGet_item_isSome, sPrimary_eq]
  by_cases hP : (asms.any fun a => a.key = some sPrimary) = true
  · rw [if_pos hP, if_pos hP]
    rw [primLoop primSt n0 root version]
    · cases hm : List.filterMapM (primStep root version) asms with
      | error e => rfl
      | ok named =>
        cases ho : others asms with
        | nil => simp [bind, Except.bind, Except.map, pure, Except.pure, toDict]
        | cons o os =>
          simp only [bind, Except.bind, Except.map, pure, Except.pure, merge_tie, List.nil_append, List.map_cons,
            List.isEmpty_cons, Bool.not_false, if_true, Bool.false_eq_true, if_false, toDict_append_one]
          simp [allHaplotigs, entry, ho, dotJoin3, item, toDict, List.flatMap_map]
    · intro a oth ret
      obtain ⟨k, c, sc⟩ := a
      unfold primStep
      by_cases hk : k = some sPrimary
      · simp [hk, item, put, entry, dotJoin3, pure, Except.pure]
      · cases c with
        | true => simp [hk, item, pure, Except.pure]
        | false =>
          cases k with
          | none => simp [item, lowerS, PyRt.needObj, bind, Except.bind]
          | some k =>
            simp [hk, item, lowerS, PyRt.needObj, bind, Except.bind, pure, Except.pure, put, entry, dotJoin3]
  · rw [if_neg hP, if_neg hP]
    by_cases hN : (asms.any fun a => a.key = none) = true
    · rw [if_pos hN, if_pos hN]
      rw [PyRt.forIn_map, PyRt.forIn_mapM (singleStep root version) put]
      · cases hm : List.mapM (singleStep root version) asms with
        | error e => rfl
        | ok named => rfl
      · intro a _ ret
        obtain ⟨k, c, sc⟩ := a
        unfold singleStep
        cases k with
        | none => simp [item, put, entry, dotJoin3, pure, Except.pure, Except.map]
        | some k =>
          by_cases hk : k = sHaplotig
          · simp [hk, sHaplotig_eq, item, put, entry, dotJoin3, pure, Except.pure, bind, Except.bind, Except.map]
          · simp [hk, sHaplotig_eq, item, put, entry, dotJoin3, pure, Except.pure, bind, Except.bind, Except.map]
    · rw [if_neg hN, if_neg hN]
      rw [PyRt.forIn_map, PyRt.forIn_mapM (multiStep root version) put]
      · cases hm : List.mapM (multiStep root version) asms with
        | error e => rfl
        | ok named => rfl
      · intro a _ ret
        obtain ⟨k, c, sc⟩ := a
        unfold multiStep
        cases k with
        | none => cases c <;> simp [item, PyRt.needObj, bind, Except.bind, Except.map]
        | some k =>
          cases c <;> simp [item, put, entry, dotJoin3, dotJoin4, PyRt.needObj, pure, Except.pure, bind, Except.bind, Except.map]

theorem toDict_eq (named : List NamedAsm) : toDict named = dSetAll [] (named.map entry) := by
  unfold toDict dSetAll; rw [List.foldl_map]; rfl

/-- storing pairwise different keys one after the other, and only that, gives the dictionary that lists them in order -/
theorem toDict_eq_iff (named : List NamedAsm) : toDict named = named.map entry ↔ (named.map (·.key)).Nodup := by
  rw [toDict_eq, dSetAll_nil_eq_iff, List.map_map]; rfl

/-- the dict of the model's result, as `Model/CliPlan.lean` defines it: the same assignments under a change of the values -/
theorem toDict_eq_namedDict (named : List NamedAsm) : toDict named = (namedDict named).map entry := by
  have hd : namedDict named = (dSetAll [] (named.map fun n => (n.key, n))).map (·.2) := by
    unfold namedDict dSetAll; rw [List.foldl_map]
  rw [hd, List.map_map, toDict_eq]
  have := dSetAll_mapVal (fun n => (entry n).2) (named.map fun n => (n.key, n)) []
  rw [List.map_map] at this
  refine Eq.trans this.symm (List.map_congr_left fun e he => ?_)
  -- every entry is filed under its own key
  rcases mem_dSetAll he with h | h
  · cases h
  · obtain ⟨n, _, rfl⟩ := List.mem_map.1 h; rfl

theorem name_tie_iff (asms : List OutAsm) (n0 root version : Str) (named : List NamedAsm)
    (h : nameAssemblies asms root version = .ok named) :
    Gen.Imp.name_assemblies_imp (asms.map (item n0)) root version = .ok (named.map entry) ↔
      (named.map (·.key)).Nodup := by
  rw [name_tie_dict, h, ← toDict_eq_iff]
  simp [Except.map]

end AgpTpf.ImpNames
