/-
  The FASTA indexer (`FastaIndex.index_fasta_file`, fasta/index.py; model `indexFasta`): memory bound of the
  sequence buffer — helper for C13.
-/
import AgpTpf.Proofs.C04Step
import AgpTpf.Proofs.C04Runs
namespace AgpTpf.IndexProofs
open AgpTpf

theorem keepOf_length_le (leb : Int) (line : Bytes) : (keepOf leb line).length ≤ line.length := by
  unfold keepOf
  split
  · simp only [List.length_take]; omega
  · exact Nat.le_refl _

/-- invariant of the line loop: after every line the buffer holds at most `bs` residues, and it never held more
    than `bs` plus one line. -/
def BufInv (bs : Int) (m : Nat) (st : IdxState) : Prop :=
  (st.buffer.length : Int) ≤ bs ∧ st.maxBuffered ≤ bs.toNat + m

theorem indexLine_inv (bs : Int) (hbs : 0 ≤ bs) (m : Nat) (st st' : IdxState) (line : Bytes) (hl : line.length ≤ m)
    (hI : BufInv bs m st) (h : indexLine bs st line = .ok st') : BufInv bs m st' := by
  obtain ⟨hI1, hI2⟩ := hI
  match line with
  | [] => cases h
  | b0 :: tl =>
    by_cases hb : b0 = 62
    · subst hb
      rw [indexLine_header] at h
      obtain ⟨v, hs, h⟩ := bind_eq_ok.1 h
      obtain ⟨nm, b2, _, rfl⟩ := hdrTail_ok h
      obtain ⟨hv1, hv2, _⟩ := finish_ok hs
      show (v.buffer.length : Int) ≤ bs ∧ v.maxBuffered ≤ bs.toNat + m
      rw [hv2]
      rcases hv1 with hv1 | hv1 <;> rw [hv1]
      · exact ⟨hI1, hI2⟩
      · exact ⟨hbs, hI2⟩
    · rw [indexLine_seq bs st tl hb] at h
      have hk := keepOf_length_le st.lineEndBytes (b0 :: tl)
      obtain ⟨r, ⟨rfl, hle⟩ | ⟨rfl, _⟩⟩ := seqLine_ok h
      · simp only [BufInv, addKeep, List.length_append] at hle ⊢
        constructor <;> omega
      · simp only [BufInv, addKeep, processSeqBuffer, List.length_nil, List.length_append]
        constructor <;> omega

theorem indexFasta_maxBuffered (lines : List Bytes) (bs : Int) (hbs : 0 ≤ bs) (m : Nat)
    (hm : ∀ l ∈ lines, l.length ≤ m) (st : IdxState) (h : indexFasta lines bs = .ok st) :
    st.maxBuffered ≤ bs.toNat + m := by
  rw [indexFasta_eq] at h
  obtain ⟨s2, h, h2⟩ := bind_eq_ok.1 h
  obtain ⟨s1, hf, hs⟩ := bind_eq_ok.1 h
  have hi : BufInv bs m s1 :=
    foldlM_inv (BufInv bs m) hf ⟨by simpa using hbs, by simp⟩
      (fun a x hx b ha hab => indexLine_inv bs hbs m a b x (hm x hx) ha hab)
  split at h2
  · cases h2
  · cases h2
    rw [(finish_ok hs).2.1]; exact hi.2

end AgpTpf.IndexProofs

/-! The FASTA indexer gives the same index for every buffer size — helper for C13.
(`FastaIndex.index_fasta_file` / `process_seq_buffer`, fasta/index.py; model `indexFasta`, `processSeqBuffer`.)
`norm` processes the pending buffer and forgets the memory observation; one line commutes with it (`indexLine_norm`), so
a run that starts with a header line is a function of the lines alone (`indexFasta_strip`). -/
namespace AgpTpf.IndexProofs
open AgpTpf AgpTpf.C04

def strip (s : IdxState) : IdxState := { s with maxBuffered := 0 }
def norm (s : IdxState) : IdxState := strip (processSeqBuffer s)

theorem flush_strip (s : IdxState) : processSeqBuffer (strip s) = strip (processSeqBuffer s) := rfl
theorem strip_bump (s : IdxState) (n : Nat) : strip (bumpPos s n) = bumpPos (strip s) n := rfl
theorem norm_name (a : IdxState) : (norm a).name = a.name := rfl
theorem norm_rpl (a : IdxState) : (norm a).rpl = a.rpl := rfl
theorem norm_leb (a : IdxState) : (norm a).lineEndBytes = a.lineEndBytes := rfl

theorem flush_nil (s : IdxState) (h : s.buffer = []) : processSeqBuffer s = s := by
  cases s
  simp only at h
  subst h
  simp [processSeqBuffer, acgtRuns]

theorem norm_nil (s : IdxState) (h : s.buffer = []) : norm s = strip s := by
  unfold norm; rw [flush_nil s h]

/-- the core: residues appended to an unprocessed buffer, or to the processed state -/
theorem norm_addKeep (s : IdxState) (n : Nat) (keep : Bytes) (r : Int) :
    norm (addKeep s n keep r) = norm (addKeep (norm s) n keep r) := by
  cases s with
  | mk name seqLength fileOffset rpl regionStart regionEnd seqRegions lineEndBytes buffer idx scaffolds pos nextOid maxBuffered =>
  simp only [norm, strip, addKeep, processSeqBuffer, List.nil_append]
  rw [← foldl_mergeRun_append seqLength buffer keep]
  simp only [List.length_append, Int.natCast_add, Int.add_assoc]

theorem norm_flush (s : IdxState) : norm (processSeqBuffer s) = norm s := by
  unfold norm; rw [flush_nil _ rfl]

theorem storeK_strip (z : IdxState) : storeK (strip z) = Except.map strip (storeK z) :=
  storeK_comm id (fun _ => 0) z

theorem hdrTail_strip (line : Bytes) (v : IdxState) : hdrTail line (strip v) = Except.map strip (hdrTail line v) := by
  rcases hdrTail_cases line with ⟨e, he⟩ | ⟨nm, b2, _, hok⟩
  · rw [he, he]; rfl
  · rw [hok, hok]; rfl

theorem hdrTail_norm (line : Bytes) (v : IdxState) (hv : v.buffer = []) :
    Except.map norm (hdrTail line v) = Except.map strip (hdrTail line v) := by
  rcases hdrTail_cases line with ⟨e, he⟩ | ⟨nm, b2, _, hok⟩
  · rw [he]; rfl
  · rw [hok, map_ok, map_ok, norm_nil _ (show (resetHdr v nm b2).buffer = [] from hv)]

/-- one line on normal forms, once a header has been seen — no buffer size in sight -/
def absLine (c : IdxState) (line : Bytes) : R IdxState :=
  match line with
  | [] => .error .index
  | b0 :: _ =>
    if b0 = 62 then storeK (bumpPos c line.length) >>= hdrTail line
    else if c.rpl = none ∧ line.getLast? = some 10 then .error .type
    else .ok (norm (addKeep c line.length (keepOf c.lineEndBytes line) (c.rpl.getD 0)))

theorem absLine_seq (c : IdxState) {b0 : Nat} (tl : Bytes) (hb : b0 ≠ 62) :
    absLine c (b0 :: tl) = if c.rpl = none ∧ (b0 :: tl).getLast? = some 10 then .error .type
      else .ok (norm (addKeep c (b0 :: tl).length (keepOf c.lineEndBytes (b0 :: tl)) (c.rpl.getD 0))) := if_neg hb

theorem finish_seen {a : IdxState} (hI : a.name ≠ none) : finish a = storeK (processSeqBuffer a) := by
  obtain ⟨nm, hn⟩ := Option.ne_none_iff_exists'.mp hI
  simp only [finish, hn, Option.isSome_some, if_true, storeInfo_eq]

theorem indexLine_norm (bs : Int) (a : IdxState) (line : Bytes) (hI : a.name ≠ none) :
    Except.map norm (indexLine bs a line) = absLine (norm a) line := by
  match line with
  | [] => rfl
  | b0 :: tl =>
    by_cases hb : b0 = 62
    · subst hb
      rw [indexLine_header, map_bind, finish_seen (a := bumpPos a _) hI]
      show _ = (storeK (strip (processSeqBuffer (bumpPos a _))) >>= _)
      rw [storeK_strip]
      cases hs : storeK (processSeqBuffer (bumpPos a (62 :: tl).length)) with
      | error e => rfl
      | ok v =>
        show Except.map norm (hdrTail _ v) = hdrTail _ (strip v)
        rw [hdrTail_norm _ v (storeK_ok hs).1, hdrTail_strip]
    · rw [indexLine_seq bs a tl hb, seqLine_seen bs _ hI, absLine_seq _ tl hb, norm_rpl, norm_leb, ← norm_addKeep]
      by_cases hc : a.rpl = none ∧ (b0 :: tl).getLast? = some 10
      · rw [if_pos hc, if_pos hc]; rfl
      · rw [if_neg hc, if_neg hc]
        split
        · exact congrArg Except.ok (norm_flush _)
        · rfl

theorem indexLine_name (bs : Int) {a a' : IdxState} {line : Bytes} (hI : a.name ≠ none) (h : indexLine bs a line = .ok a') :
    a'.name ≠ none := by
  match line with
  | [] => cases h
  | b0 :: tl =>
    by_cases hb : b0 = 62
    · subst hb
      rw [indexLine_header] at h
      obtain ⟨v, _, h⟩ := bind_eq_ok.1 h
      obtain ⟨nm, b2, _, rfl⟩ := hdrTail_ok h
      exact Option.some_ne_none nm
    · rw [indexLine_seq bs a tl hb] at h
      obtain ⟨r, ⟨rfl, _⟩ | ⟨rfl, _⟩⟩ := seqLine_ok h <;> exact hI

theorem fold_norm (bs : Int) : ∀ (lines : List Bytes) (a : IdxState), a.name ≠ none →
    Except.map norm (lines.foldlM (indexLine bs) a) = lines.foldlM absLine (norm a) ∧
    ∀ a', lines.foldlM (indexLine bs) a = .ok a' → a'.name ≠ none
  | [], a, hI => ⟨rfl, fun a' h => by cases h; exact hI⟩
  | x :: rest, a, hI => by
    have hk := indexLine_norm bs a x hI
    simp only [List.foldlM_cons, bind]
    cases hx : indexLine bs a x with
    | error e =>
      rw [hx] at hk
      refine ⟨?_, fun a' h => by cases h⟩
      rw [← hk]; rfl
    | ok a1 =>
      rw [hx] at hk
      have ih := fold_norm bs rest a1 (indexLine_name bs hI hx)
      refine ⟨?_, ih.2⟩
      rw [← hk]
      exact ih.1

def absFinal (c : IdxState) : R IdxState :=
  storeK c >>= fun v => if v.idx.isEmpty then .error .value else .ok v

theorem finish_strip (st : IdxState) (hI : st.name ≠ none) :
    Except.map strip (finish st >>= fun v => if v.idx.isEmpty then .error .value else .ok v) = absFinal (norm st) := by
  rw [finish_seen hI, map_bind]
  show _ = (storeK (strip (processSeqBuffer st)) >>= _)
  rw [storeK_strip]
  cases storeK (processSeqBuffer st) with
  | error e => rfl
  | ok v =>
    show Except.map strip (if v.idx.isEmpty = true then _ else _) = (if v.idx.isEmpty = true then _ else _)
    split <;> rfl

theorem indexFasta_strip (bs : Int) (l0 : Bytes) (rest : List Bytes) (h0 : l0.head? = some 62) :
    Except.map strip (indexFasta (l0 :: rest) bs) =
      hdrTail l0 (bumpPos {} l0.length) >>= fun a1 => rest.foldlM absLine (norm a1) >>= absFinal := by
  match l0, h0 with
  | _ :: tl, rfl =>
    rw [indexFasta_eq, List.foldlM_cons, indexLine_header]
    show Except.map strip ((hdrTail _ _ >>= _) >>= _ >>= _) = _
    cases hh : hdrTail (62 :: tl) (bumpPos {} (62 :: tl).length) with
    | error e => rfl
    | ok a1 =>
      have hI : a1.name ≠ none := by obtain ⟨nm, b2, _, rfl⟩ := hdrTail_ok hh; exact Option.some_ne_none nm
      have ⟨hf, hinv⟩ := fold_norm bs rest a1 hI
      show Except.map strip ((rest.foldlM (indexLine bs) a1 >>= finish) >>= _) = (rest.foldlM absLine (norm a1) >>= absFinal)
      rw [← hf]
      cases hfold : rest.foldlM (indexLine bs) a1 with
      | error e => rfl
      | ok st => exact finish_strip st (hinv st hfold)

theorem indexFasta_bs_independent (lines : List Bytes) (bs bs' : Int)
    (hhead : lines.head?.bind (·.head?) = some 62) :
    Except.map strip (indexFasta lines bs) = Except.map strip (indexFasta lines bs') := by
  cases lines with
  | nil => cases hhead
  | cons l0 rest =>
    have h0 : l0.head? = some 62 := by simpa using hhead
    rw [indexFasta_strip bs l0 rest h0, indexFasta_strip bs' l0 rest h0]

end AgpTpf.IndexProofs
