/-
  C02 (deep cuts, any number of cuts per contig), part 3: `remap_to_input_assembly`, fusing, output, for the store
  `expectedStoreDeepN`.
-/
import AgpTpf.Proofs.C02DNCut
namespace AgpTpf.C02
open AgpTpf OverlapResult
open AgpTpf.C08 (PlainSc junctionSet_ok_of_strands)

theorem remapToInput_deepN (input ptx : List Scaffold) (prefix_ : Str) (jg : Gap) (err : Int)
    (hd : DeepCutN input ptx err) :
    ∃ b, remapToInput input ptx prefix_ (some jg) err = .ok b ∧
      b.store = expectedStoreDeepN input ptx ∧
      b.extra = expectedExtra (claimedKeys input ptx) jg input ∧
      b.multi = [] ∧ b.cuts = cutsN input ptx ∧ b.joinGap = some jg ∧ b.namer.autosomePrefix = prefix_ := by
  obtain ⟨b1, e1, hstore, hreg, hplain, hpre⟩ := Run.findAssemblyOverlaps_kept false input ptx
    (Pipeline.initBuild input prefix_ (some jg) err) (fun S hS => (hd.base.scaffolds S hS).kept) ⟨rfl, rfl, rfl⟩
  obtain ⟨hextra, hcuts, hjg, herr, hoid⟩ := Pipeline.findAssemblyOverlaps_frame e1
  have hs1 : b1.store = expectedStore input ptx := by rw [hstore]; rfl
  have hreg' : (b1.found, b1.multi) = regOf input ptx := hreg
  have hf1 : b1.found = (regOf input ptx).1 := by rw [← hreg']
  have hm1 : b1.multi = sharedKeys input ptx := by unfold sharedKeys; rw [← hreg']
  obtain ⟨b3, e3, hstore3, hmulti3, hcuts3, hfound3, hnamer3, hextra3, hjg3, herr3⟩ :=
    cutRemaining_deepN hd b1 hs1 hf1 hm1 hoid
  obtain ⟨b4, e4, gextra, gstore, gmulti, gcuts, gjg, gpre⟩ :=
    addMissing_aligned (claimedKeys input ptx) jg input b3 (by rw [hnamer3]; exact hplain) (hjg3.trans hjg)
      (fun k => by rw [hfound3, hf1]; exact regOf_has input ptx k) hd.base.unclaimed
  refine ⟨b4, Pipeline.remapToInput_of hd.base.names e1 (discardOverhanging_deepN hd b1 hs1 hf1 hm1 herr _) e3 ?_,
    gstore.trans hstore3, ?_, gmulti.trans hmulti3, ?_, gjg.trans (hjg3.trans hjg), gpre.trans ?_⟩
  · rw [show b3.namer.haplotigScaffolds = [] by rw [hnamer3]; exact hplain.haplotig, Pipeline.renameBySize_nil]
    exact e4
  · rw [gextra, hextra3, hextra]; rfl
  · rw [gcuts, hcuts3, hcuts]; exact Int.zero_add _
  · rw [hnamer3, hpre]; rfl

def NoClashDeepN (input ptx : List Scaffold) (jg : Gap) : Prop :=
  ((expectedScaffoldsDeepN input ptx jg).map (·.name)).Nodup

theorem fuseByName_deepN (input ptx : List Scaffold) (jg : Gap) (err : Int) (hd : DeepCutN input ptx err)
    (hnc : NoClashDeepN input ptx jg) (b : Build) (hj : b.joinGap = some jg)
    (hstore : b.store = expectedStoreDeepN input ptx)
    (hextra : b.extra = expectedExtra (claimedKeys input ptx) jg input) :
    fuseByName b = expectedScaffoldsDeepN input ptx jg := by
  have h := Run.fuseByName_groups b
    ((groupsFrom 0 ptx).map fun g => ⟨outName g.1, 3, g.1.name, [], g.2.map fun q => cutPieceN input ptx q.2 q.1⟩)
    (by
      rw [hstore, List.flatMap_map]
      unfold expectedStoreDeepN storeDeepN
      rw [allPieces_zipIdx, List.map_flatMap]
      refine flatMap_congr_mem _ _ _ fun g _ => ?_
      simp only [Run.FGroup.store, List.map_map]
      refine List.map_congr_left fun q _ => ?_
      simp only [Function.comp]
      unfold resDeepN cutPieceN
      rw [cutO_labelled]; rfl)
    (by
      intro g hg
      obtain ⟨g0, hg0, rfl⟩ := List.mem_map.1 hg
      obtain ⟨hS, m, hm⟩ := groupsFrom_mem hg0
      obtain ⟨f0, r0, hrows⟩ := (hd.base.scaffolds _ hS).head
      refine ⟨by simp [hm, Scaffold.fragments, hrows, fragmentsOf], fun o ho => ?_⟩
      obtain ⟨q, hq, rfl⟩ := List.mem_map.1 ho
      exact cutO_rows_ne _ _ _
        (pieceO_rows_ne ((hd.base.scaffolds _ hS).pieces q.1 (groupsFrom_piece hg0 hq).2).found))
    (by
      intro e he
      rw [hextra] at he
      obtain ⟨sc, -, hsc⟩ := expectedExtra_mem he
      obtain ⟨-, -, h3, h4, h5, -⟩ := leftoverEntry_fields hsc
      exact ⟨h3, h4, h5⟩)
    (by
      rw [hextra]
      unfold NoClashDeepN expectedScaffoldsDeepN at hnc
      simpa [List.map_map, Function.comp_def, pretextOutDeepN] using hnc)
  rw [h, hj, hextra, List.map_map]
  unfold expectedScaffoldsDeepN
  congr 1
  exact List.map_congr_left fun g _ => by
    simp only [Function.comp, Run.FGroup.scaffold, pretextOutDeepN, expectedRowsDeepN, Run.fusedRows, List.foldl_map]

theorem expectedScaffoldsDeepN_plain (input ptx : List Scaffold) (jg : Gap) :
    ∀ s ∈ expectedScaffoldsDeepN input ptx jg, PlainSc s := by
  intro s hs
  unfold expectedScaffoldsDeepN at hs
  rcases List.mem_append.1 hs with h | h
  · obtain ⟨g, -, rfl⟩ := List.mem_map.1 h; exact ⟨rfl, rfl, rfl⟩
  · obtain ⟨e, he, rfl⟩ := List.mem_map.1 h
    obtain ⟨sc, -, hsc⟩ := expectedExtra_mem he
    obtain ⟨-, -, -, h4, h5, h6⟩ := leftoverEntry_fields hsc
    exact ⟨h4, h5, h6⟩

theorem expectedScaffoldsDeepN_junctions (input ptx : List Scaffold) (jg : Gap) (err : Int) (hd : DeepCutN input ptx err)
    (hstr : ∀ sc ∈ input, ∀ f ∈ sc.fragments, f.strand = 1 ∨ f.strand = -1) :
    ∀ s ∈ expectedScaffoldsDeepN input ptx jg, ∃ J, s.junctionSet = .ok J := by
  intro s hs
  apply junctionSet_ok_of_strands
  unfold expectedScaffoldsDeepN at hs
  rcases List.mem_append.1 hs with h | h
  · obtain ⟨g, hg, rfl⟩ := List.mem_map.1 h
    intro f hf
    rw [show (pretextOutDeepN input ptx jg g).fragments = fragmentsOf (expectedRowsDeepN input ptx jg g.2) from rfl,
      expectedRowsDeepN, ← List.foldl_map (g := fun built r => Scaffold.appendRows built r (some jg)),
      Scaffold.fragmentsOf_foldl_appendRows, fragmentsOf_nil, List.nil_append, List.flatMap_map] at hf
    obtain ⟨q, hq, hfq⟩ := List.mem_flatMap.1 hf
    obtain ⟨hS, hp⟩ := groupsFrom_piece hg hq
    obtain ⟨sc, hsc, hinf⟩ :=
      (pieceFacts input q.1 hd.base.oids ((hd.base.scaffolds _ hS).pieces q.1 hp).found).slice
    exact toScaffoldRows_strands _ (cutO_strands _ _ _ fun f' hf' => hstr sc hsc f' ((fragmentsOf_infix hinf).subset hf')) f hfq
  · obtain ⟨e, he, rfl⟩ := List.mem_map.1 h
    obtain ⟨sc, hsc, hle⟩ := expectedExtra_mem he
    obtain ⟨-, hrows, -⟩ := leftoverEntry_fields hle
    intro f hf
    rw [Scaffold.fragments, hrows, (leftover_spec _ jg sc.rows).1, List.mem_filter] at hf
    exact hstr sc hsc f hf.1

theorem remap_deepN (input ptx : List Scaffold) (prefix_ : Str) (jg : Gap) (err : Int)
    (hd : DeepCutN input ptx err) (hnc : NoClashDeepN input ptx jg)
    (hstr : ∀ sc ∈ input, ∀ f ∈ sc.fragments, f.strand = 1 ∨ f.strand = -1) :
    ∃ stats, remap input ptx prefix_ (some jg) err = .ok (primaryOnly (expectedScaffoldsDeepN input ptx jg), stats) ∧
      stats.cuts = cutsN input ptx := by
  obtain ⟨b, hb, hstore, hextra, -, hcuts, hjg, -⟩ := remapToInput_deepN input ptx prefix_ jg err hd
  have hfs := fuseByName_deepN input ptx jg err hd hnc b hjg hstore hextra
  obtain ⟨st, hst, hc⟩ := assembliesFused_plain input b _ hfs (expectedScaffoldsDeepN_plain input ptx jg)
    (fun sc hsc => junctionSet_ok_of_strands sc (hstr sc hsc))
    (expectedScaffoldsDeepN_junctions input ptx jg err hd hstr)
  exact ⟨st, Pipeline.remap_ok_iff.2 ⟨b, hb, hst⟩, by rw [hc, hcuts]⟩

end AgpTpf.C02
