/-
  C08, part 5 (stage N4): from the build of an unedited map to the output assemblies and statistics.  Every stored result
  and every left-over is a fused scaffold of its own (`fuseByName_shown`, a group of one each); the statistics of an output
  with the input's row lists count nothing (`makeStats_same_rows`).
-/
import AgpTpf.Proofs.C08Remap
import AgpTpf.Proofs.Remap.Out
import AgpTpf.Proofs.C11Extra
namespace AgpTpf.C08
open AgpTpf
open AgpTpf.C11 (JunctionIn JunctionInOuts)
open AgpTpf.C20 (smartSorted)
open AgpTpf.Run (tagsOf rankOf)

def presentOut (p : Piece) : Scaffold :=
  { name := p.sc.name, rows := p.sc.rows, tag := none, haplotype := none, rank := 3,
    originalName := some p.pname, originalTags := some [] }

/-- all scaffolds of the fused build: the presented ones in Pretext order, then the absent ones in input order -/
def outScaffolds (input : List Scaffold) (pieces : List Piece) : List Scaffold :=
  pieces.map presentOut ++ (absentOf input pieces).map absentOut

/-- the fused scaffold of a painted piece, before chromosome naming: the Pretext scaffold's name, rank 1 -/
def paintedOut (p : Piece) : Scaffold :=
  { name := p.pname, rows := p.sc.rows, tag := none, haplotype := none, rank := 1,
    originalName := some p.pname, originalTags := some [sPainted] }

def paintedFused (input : List Scaffold) (pieces : List Piece) : List Scaffold :=
  pieces.map paintedOut ++ (absentOf input pieces).map absentOut

/-- `presentOut` (`painted = false`) and `paintedOut` (`true`) -/
def Piece.outOf (p : Piece) (painted : Bool) : Scaffold :=
  { name := p.shownName painted, rows := p.sc.rows, tag := none, haplotype := none, rank := rankOf painted,
    originalName := some p.pname, originalTags := some (tagsOf painted) }

/-- `outScaffolds` and `paintedFused` -/
def fusedOf (painted : Bool) (input : List Scaffold) (pieces : List Piece) : List Scaffold :=
  pieces.map (·.outOf painted) ++ (absentOf input pieces).map absentOut

theorem absentOf_mem {input : List Scaffold} {pieces : List Piece} {sc : Scaffold} (h : sc ∈ absentOf input pieces) :
    sc ∈ input ∧ isPresent pieces sc = false := by
  unfold absentOf at h
  simpa using h

theorem absentOf_names_nodup {input : List Scaffold} (pieces : List Piece) (hn : (input.map (·.name)).Nodup) :
    ((absentOf input pieces).map (·.name)).Nodup :=
  hn.sublist (List.Sublist.map _ List.filter_sublist)

theorem fuseByName_shown (painted : Bool) (input : List Scaffold) (pieces : List Piece) (err : Int)
    (hu : Unedited input pieces err) (hnd : ((fusedOf painted input pieces).map (·.name)).Nodup)
    (b : Build) (hstore : b.store = pieces.map (·.resOf painted))
    (hextra : b.extra = (absentOf input pieces).map (fun sc => (absentOut sc, none))) :
    fuseByName b = fusedOf painted input pieces := by
  have h := Run.fuseByName_groups b
    (pieces.map fun p => ⟨p.shownName painted, rankOf painted, p.pname, tagsOf painted, [(p.resOf painted).o]⟩)
    (by rw [hstore, List.flatMap_map]; exact List.map_eq_flatMap)
    (by
      intro g hg
      obtain ⟨p, hp, rfl⟩ := List.mem_map.1 hg
      refine ⟨by simp, fun o ho => ?_⟩
      cases List.mem_singleton.1 ho
      exact (hu.piecesOk p hp).wf.ne)
    (by
      intro e he
      rw [hextra] at he
      obtain ⟨sc, hsc, rfl⟩ := List.mem_map.1 he
      exact ⟨(hu.absent sc (absentOf_mem hsc).1 (absentOf_mem hsc).2).ne, rfl, rfl⟩)
    (by rw [hextra]; simpa [List.map_map, Function.comp_def, fusedOf, Piece.outOf, absentOut] using hnd)
  rw [h, hextra, List.map_map, List.map_map]
  unfold fusedOf
  congr 1
  refine List.map_congr_left fun p _ => ?_
  simp only [Function.comp, Run.FGroup.scaffold, Run.fusedRows, List.foldl_cons, List.foldl_nil, Scaffold.appendRows_nil]
  rfl

theorem junctionIn_of_fragments (A B : List Scaffold) (h : ∀ sc ∈ A, ∃ sc' ∈ B, sc'.fragments = sc.fragments)
    (j : Junction) (hj : JunctionIn A j) : JunctionIn B j := by
  obtain ⟨sc, hsc, pre, a, b, post, e, ht⟩ := hj
  obtain ⟨sc', hsc', ef⟩ := h sc hsc
  exact ⟨sc', hsc', pre, a, b, post, by rw [ef]; exact e, ht⟩

theorem junctionSet_ok_of_strands (sc : Scaffold) (h : ∀ f ∈ sc.fragments, f.strand = 1 ∨ f.strand = -1) :
    ∃ S, sc.junctionSet = .ok S := by
  obtain ⟨js, hjs⟩ := (C11.jf_ok_iff sc.fragments).2 (by
    intro pre a b post e
    exact ⟨h a (by rw [e]; simp), h b (by rw [e]; simp)⟩)
  exact ⟨_, (C11.junctionSet_ok_iff sc _).2 ⟨js, hjs, rfl⟩⟩

theorem allOk_of_junctionSets {input : List Scaffold} {outs : List OutAsm}
    (hin : ∀ sc ∈ input, ∃ S, sc.junctionSet = .ok S)
    (hout : ∀ a ∈ outs, ∀ sc ∈ a.scaffolds, ∃ S, sc.junctionSet = .ok S) :
    C11.AllOk input ∧ ∀ a ∈ outs, C11.AllOk a.scaffolds :=
  ⟨fun sc h => (C11.junctionSet_ok_pairsOk sc).1 (hin sc h), fun a ha sc h => (C11.junctionSet_ok_pairsOk sc).1 (hout a ha sc h)⟩

theorem makeStats_cuts (input : List Scaffold) (outs : List OutAsm) (cuts : Int)
    (hin : ∀ sc ∈ input, ∃ J, sc.junctionSet = .ok J)
    (hout : ∀ a ∈ outs, ∀ sc ∈ a.scaffolds, ∃ J, sc.junctionSet = .ok J) :
    ∃ st, makeStats input outs cuts = .ok st ∧ st.cuts = cuts :=
  ⟨_, by rw [C11.makeStats_eq_statsOf, if_pos (allOk_of_junctionSets hin hout)], rfl⟩

theorem sDiff_eq_nil {α} [DecidableEq α] (s t : List α) (h : ∀ x ∈ s, x ∈ t) : sDiff s t = [] := by
  unfold sDiff
  rw [List.filter_eq_nil_iff]
  intro x hx
  simp [h x hx]

theorem makeStats_same (input : List Scaffold) (outs : List OutAsm) (cuts : Int)
    (hin : ∀ sc ∈ input, ∃ S, sc.junctionSet = .ok S)
    (hout : ∀ a ∈ outs, ∀ sc ∈ a.scaffolds, ∃ S, sc.junctionSet = .ok S)
    (hsame : ∀ j, JunctionIn input j ↔ JunctionInOuts outs j) :
    ∃ st, makeStats input outs cuts = .ok st ∧ st.cuts = cuts ∧ st.breaks = 0 ∧ st.joins = 0 := by
  have hok := allOk_of_junctionSets hin hout
  refine ⟨_, by rw [C11.makeStats_eq_statsOf, if_pos hok], rfl, ?_, ?_⟩
  · exact congrArg (fun l : List Junction => (l.length : Int)) (sDiff_eq_nil _ _ fun j hj => by
      rw [C11.mem_outputSet hok.2, ← hsame, ← C11.mem_inputSet hok.1]; exact hj)
  · exact congrArg (fun l : List Junction => (l.length : Int)) (sDiff_eq_nil _ _ fun j hj => by
      rw [C11.mem_inputSet hok.1, hsame, ← C11.mem_outputSet hok.2]; exact hj)

theorem makeStats_same_rows (input fs : List Scaffold) (cuts : Int)
    (hstr : ∀ sc ∈ input, ∀ f ∈ sc.fragments, f.strand = 1 ∨ f.strand = -1)
    (hrows : ∀ rows, rows ∈ fs.map (·.rows) ↔ rows ∈ input.map (·.rows)) :
    ∃ st, makeStats input [{ key := none, curated := true, scaffolds := smartSorted fs }] cuts = .ok st ∧
      st.cuts = cuts ∧ st.breaks = 0 ∧ st.joins = 0 := by
  have hperm : (smartSorted fs).Perm fs := stableSort_perm _ _
  have hfr : ∀ sc ∈ input, ∃ s ∈ smartSorted fs, s.fragments = sc.fragments := by
    intro sc hsc
    obtain ⟨s, hs, e⟩ := List.mem_map.1 ((hrows sc.rows).2 (List.mem_map_of_mem hsc))
    exact ⟨s, hperm.symm.subset hs, by simp [Scaffold.fragments, e]⟩
  have hfr' : ∀ s ∈ smartSorted fs, ∃ sc ∈ input, sc.fragments = s.fragments := by
    intro s hs
    obtain ⟨sc, hsc, e⟩ := List.mem_map.1 ((hrows s.rows).1 (List.mem_map_of_mem (hperm.subset hs)))
    exact ⟨sc, hsc, by simp [Scaffold.fragments, e]⟩
  refine makeStats_same input _ cuts (fun sc hsc => junctionSet_ok_of_strands sc (hstr sc hsc)) ?_ ?_
  · intro a ha sc hsc
    simp only [List.mem_singleton] at ha
    subst ha
    obtain ⟨sc0, hsc0, e⟩ := hfr' sc hsc
    exact junctionSet_ok_of_strands sc (e ▸ hstr sc0 hsc0)
  · intro j
    simp only [JunctionInOuts, List.mem_singleton, exists_eq_left]
    exact ⟨junctionIn_of_fragments _ _ hfr j, junctionIn_of_fragments _ _ hfr' j⟩

theorem outScaffolds_plain (input : List Scaffold) (pieces : List Piece) : ∀ s ∈ outScaffolds input pieces, PlainSc s := by
  intro s hs
  unfold outScaffolds at hs
  rcases List.mem_append.1 hs with h | h
  · obtain ⟨p, -, rfl⟩ := List.mem_map.1 h; exact ⟨rfl, rfl, rfl⟩
  · obtain ⟨sc, -, rfl⟩ := List.mem_map.1 h; exact ⟨rfl, rfl, rfl⟩

theorem outScaffolds_mem (input : List Scaffold) (pieces : List Piece) (err : Int) (hu : Unedited input pieces err)
    (nr : Str × List Row) :
    nr ∈ (outScaffolds input pieces).map (fun s => (s.name, s.rows)) ↔ nr ∈ input.map (fun s => (s.name, s.rows)) := by
  simp only [outScaffolds, List.map_append, List.map_map, List.mem_append, List.mem_map, Function.comp]
  constructor
  · rintro (⟨p, hp, rfl⟩ | ⟨sc, hsc, rfl⟩)
    · exact ⟨p.sc, (hu.piecesOk p hp).mem, rfl⟩
    · exact ⟨sc, (absentOf_mem hsc).1, rfl⟩
  · rintro ⟨sc, hsc, rfl⟩
    cases hpr : isPresent pieces sc with
    | true =>
      obtain ⟨p, hp, hname⟩ := (isPresent_iff pieces sc).1 hpr
      have : p.sc = sc := inj_of_nodup_map (·.name) hu.names _ (hu.piecesOk p hp).mem _ hsc hname
      exact Or.inl ⟨p, hp, by rw [← this]; rfl⟩
    | false =>
      refine Or.inr ⟨sc, ?_, rfl⟩
      unfold absentOf
      simp [hsc, hpr]

theorem outScaffolds_names_nodup (input : List Scaffold) (pieces : List Piece) (err : Int) (hu : Unedited input pieces err) :
    ((outScaffolds input pieces).map (·.name)).Nodup := by
  unfold outScaffolds
  rw [List.map_append, List.nodup_append]
  refine ⟨?_, ?_, ?_⟩
  · rw [List.map_map]; exact hu.once
  · rw [List.map_map]; exact absentOf_names_nodup pieces hu.names
  · intro a ha b hb e
    simp only [List.map_map, List.mem_map, Function.comp] at ha hb
    obtain ⟨p, hp, rfl⟩ := ha
    obtain ⟨sc, hsc, rfl⟩ := hb
    have := (absentOf_mem hsc).2
    rw [(isPresent_iff pieces sc).2 ⟨p, hp, e⟩] at this
    cases this

theorem outScaffolds_perm (input : List Scaffold) (pieces : List Piece) (err : Int) (hu : Unedited input pieces err) :
    ((outScaffolds input pieces).map (fun s => (s.name, s.rows))).Perm (input.map (fun s => (s.name, s.rows))) := by
  have nd : ∀ l : List Scaffold, (l.map (·.name)).Nodup → (l.map (fun s => (s.name, s.rows))).Nodup := by
    intro l h
    have e : l.map (·.name) = (l.map (fun s => (s.name, s.rows))).map Prod.fst := by rw [List.map_map]; rfl
    rw [e] at h
    exact List.Pairwise.of_map Prod.fst (fun a b h e => h (by rw [e])) h
  exact (List.perm_ext_iff_of_nodup (nd _ (outScaffolds_names_nodup input pieces err hu)) (nd _ hu.names)).2
    (outScaffolds_mem input pieces err hu)

theorem outScaffolds_rows_perm (input : List Scaffold) (pieces : List Piece) (err : Int) (hu : Unedited input pieces err) :
    ((outScaffolds input pieces).map (·.rows)).Perm (input.map (·.rows)) := by
  simpa [List.map_map, Function.comp_def] using (outScaffolds_perm input pieces err hu).map Prod.snd

theorem outScaffolds_rows_mem (input : List Scaffold) (pieces : List Piece) (err : Int) (hu : Unedited input pieces err)
    (rows : List Row) : rows ∈ (outScaffolds input pieces).map (·.rows) ↔ rows ∈ input.map (·.rows) :=
  (outScaffolds_rows_perm input pieces err hu).mem_iff

/-- **N4 on the build.** -/
theorem assembliesFused_unedited (input : List Scaffold) (pieces : List Piece) (err : Int) (hu : Unedited input pieces err)
    (hne : input ≠ []) (hstr : ∀ sc ∈ input, ∀ f ∈ sc.fragments, f.strand = 1 ∨ f.strand = -1)
    (b : Build) (hstore : b.store = pieces.map Piece.res)
    (hextra : b.extra = (absentOf input pieces).map (fun sc => (absentOut sc, none))) :
    ∃ st, assembliesFused input b =
        .ok ([{ key := none, curated := true, scaffolds := smartSorted (outScaffolds input pieces) }], st) ∧
      st.cuts = b.cuts ∧ st.breaks = 0 ∧ st.joins = 0 := by
  have hfuse : fuseByName b = outScaffolds input pieces :=
    fuseByName_shown false input pieces err hu (outScaffolds_names_nodup input pieces err hu) b hstore hextra
  have hnil : (outScaffolds input pieces).isEmpty = false :=
    List.isEmpty_eq_false_iff.2 fun e => hne (List.map_eq_nil_iff.1
      (List.Perm.eq_nil (e ▸ (outScaffolds_rows_perm input pieces err hu).symm)))
  obtain ⟨st, hst, hc, hb, hj⟩ := makeStats_same_rows input (outScaffolds input pieces) b.cuts hstr
    (outScaffolds_rows_mem input pieces err hu)
  refine ⟨st, ?_, hc, hb, hj⟩
  rw [Run.assembliesFused_primary input b _ 0 hfuse (Run.paintedUpTo_zero (outScaffolds_plain input pieces)),
    Run.namedBySize_zero, C02.primaryOnly, hnil]
  simp only [Bool.false_eq_true, if_false, hst]
  rfl

end AgpTpf.C08
