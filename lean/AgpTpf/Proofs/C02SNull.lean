/-
  C02 (script model): the null script — no cuts, identity permutation, forward, one piece per Pretext scaffold —
  is an unedited map in the sense of `Properties/C08.lean` (S3).
-/
import AgpTpf.Proofs.C02SPieces
import AgpTpf.Proofs.C08PaintOut
import AgpTpf.Proofs.Lib.Text
namespace AgpTpf.C02
open AgpTpf AgpTpf.Pretext
open AgpTpf.C08 (Piece Unedited PaintedOk WfRows lastFragmentStart AbsentOk isPresent absentOf KeysDistinct)

/-- the `C08.Piece`s of a null script: the present scaffolds in input order, `Scaffold_<n>` numbered from `n + 1` -/
def nullPiecesFrom (p q : Nat) : Nat → List (Scaffold × Option Nat) → List Piece
  | _, [] => []
  | n, (sc, some T) :: r =>
    { pname := scaffoldName (n + 1), sc := sc, stop := (coord p q T : Int), oid := 0 } :: nullPiecesFrom p q (n + 1) r
  | n, (_, none) :: r => nullPiecesFrom p q n r

def nullPieces (input : List Scaffold) (p q : Nat) (Ts : List (Option Nat)) : List Piece :=
  nullPiecesFrom p q 0 (input.zip Ts)

theorem nullScafs_getElem? (Ts : List (Option Nat)) (i : Nat) (T : Nat) (h : Ts[i]? = some (some T)) :
    (nullScafs Ts)[i]? = some { present := true, T := T, cuts := [] } := by
  unfold nullScafs
  rw [List.getElem?_map, h]; rfl

theorem nullScafs_getElem?_none (Ts : List (Option Nat)) (i : Nat) (h : Ts[i]? = some none) :
    (nullScafs Ts)[i]? = some { present := false, T := 0, cuts := [] } := by
  unfold nullScafs
  rw [List.getElem?_map, h]; rfl

theorem null_groupFrags (input : List Scaffold) (p q : Nat) (Ts : List (Option Nat)) (b : Bool) (i T : Nat)
    (sc : Scaffold) (hsc : input[i]? = some sc) (hT : Ts[i]? = some (some T)) :
    groupFrags input (nullScript p q Ts b) { items := [{ sc := i, k := 0, minus := false }], painted := b } =
      [{ oid := 0, name := sc.name, start := 1, stop := (coord p q T : Int), strand := 1,
         tags := if b then [sPainted] else [] }] := by
  have h2 : (nullScript p q Ts b).scafs[i]? = some { present := true, T := T, cuts := [] } :=
    nullScafs_getElem? Ts i T hT
  unfold groupFrags
  simp only [List.filterMap_cons, List.filterMap_nil]
  rw [pieceFrag_of (ab := (coord p q 0 + 1, coord p q T)) hsc h2 rfl, coord_zero]
  rfl

/-- the scaffold `ptxOf` makes of a group -/
def groupScaffold (input : List Scaffold) (s : Script) (x : Pretext.Group × Nat) : Scaffold :=
  { name := scaffoldName (x.2 + 1), rows := joinRows s.gap (groupFrags input s x.1) }

def nullGroup (b : Bool) (i : Nat) : Pretext.Group := { items := [{ sc := i, k := 0, minus := false }], painted := b }

/-- walking along the scaffolds from number `o`, with `n` pieces made so far: all that is asked of the script is the
    fragment of the one-piece group of each shown scaffold -/
theorem null_ptx_from (input : List Scaffold) (s : Script) (p q : Nat) (b : Bool) :
    ∀ (L : List (Scaffold × Option Nat)) (o n : Nat),
      (∀ j sc T, L[j]? = some (sc, some T) → groupFrags input s (nullGroup b (o + j)) =
        [{ oid := 0, name := sc.name, start := 1, stop := (coord p q T : Int), strand := 1,
           tags := if b then [sPainted] else [] }]) →
      (((((L.map Prod.snd).zipIdx o).filterMap (fun x => if x.1.isSome then some x.2 else none)).map
          (nullGroup b)).zipIdx n).map (groupScaffold input s) =
        (nullPiecesFrom p q n L).map (·.ptxOf b)
  | [], _, _, _ => rfl
  | (sc, none) :: L, o, n, H => by
    have ih := null_ptx_from input s p q b L (o + 1) n fun j sc T h => by
      rw [Nat.add_assoc, Nat.add_comm 1 j]; exact H (j + 1) sc T h
    simpa [nullPiecesFrom] using ih
  | (sc, some T) :: L, o, n, H => by
    have ih := null_ptx_from input s p q b L (o + 1) (n + 1) fun j sc T h => by
      rw [Nat.add_assoc, Nat.add_comm 1 j]; exact H (j + 1) sc T h
    have h0 : groupFrags input s (nullGroup b o) = _ := H 0 sc T rfl
    simp only [List.map_cons, List.zipIdx_cons, List.filterMap_cons, Option.isSome_some, if_true, nullPiecesFrom]
    rw [ih]
    congr 1
    show ({ name := scaffoldName (n + 1), rows := joinRows s.gap (groupFrags input s (nullGroup b o)) } : Scaffold) = _
    rw [h0]
    cases b <;> rfl

theorem ptxOf_null (input : List Scaffold) (p q : Nat) (Ts : List (Option Nat)) (b : Bool)
    (hl : input.length = Ts.length) :
    ptxOf input (nullScript p q Ts b) = (nullPieces input p q Ts).map (·.ptxOf b) := by
  have := null_ptx_from input (nullScript p q Ts b) p q b (input.zip Ts) 0 0 fun j sc T h => by
    obtain ⟨h1, h2⟩ := List.getElem?_zip_eq_some.1 h
    rw [Nat.zero_add]
    exact null_groupFrags input p q Ts b j T sc h1 h2
  rw [List.map_snd_zip (Nat.le_of_eq hl.symm)] at this
  exact this

theorem mem_nullPiecesFrom {p q : Nat} {n : Nat} {l : List (Scaffold × Option Nat)} {pc : Piece}
    (h : pc ∈ nullPiecesFrom p q n l) :
    ∃ sc T m, (sc, some T) ∈ l ∧ pc = { pname := scaffoldName (m + 1), sc := sc, stop := (coord p q T : Int), oid := 0 } := by
  induction l generalizing n with
  | nil => cases h
  | cons a r ih =>
    obtain ⟨sc, t⟩ := a
    cases t with
    | none =>
      obtain ⟨sc', T, m, hm, e⟩ := ih (n := n) h
      exact ⟨sc', T, m, by simp [hm], e⟩
    | some T =>
      rcases List.mem_cons.1 h with rfl | h
      · exact ⟨sc, T, n, by simp, rfl⟩
      · obtain ⟨sc', T', m, hm, e⟩ := ih (n := n + 1) h
        exact ⟨sc', T', m, by simp [hm], e⟩

theorem nullPiecesFrom_mem {p q : Nat} {n : Nat} {l : List (Scaffold × Option Nat)} {sc : Scaffold} {T : Nat}
    (h : (sc, some T) ∈ l) : ∃ pc ∈ nullPiecesFrom p q n l, pc.sc = sc := by
  induction l generalizing n with
  | nil => cases h
  | cons a r ih =>
    obtain ⟨sc', t⟩ := a
    cases t with
    | none =>
      rcases List.mem_cons.1 h with e | h
      · cases e
      · exact ih h
    | some T' =>
      rcases List.mem_cons.1 h with e | h
      · cases e
        exact ⟨{ pname := scaffoldName (n + 1), sc := sc, stop := (coord p q T : Int), oid := 0 },
          by simp [nullPiecesFrom], rfl⟩
      · obtain ⟨pc, hpc, e⟩ := ih (n := n + 1) h
        exact ⟨pc, by simp [nullPiecesFrom, hpc], e⟩

theorem nullPiecesFrom_sublist (p q n : Nat) (l : List (Scaffold × Option Nat)) :
    ((nullPiecesFrom p q n l).map (·.sc)).Sublist (l.map (·.1)) := by
  induction l generalizing n with
  | nil => exact List.Sublist.slnil
  | cons a r ih =>
    obtain ⟨sc, t⟩ := a
    cases t with
    | none => exact (ih n).cons _
    | some T => exact (ih (n + 1)).cons_cons _

theorem scaffoldName_inj (a b : Nat) (h : scaffoldName a = scaffoldName b) : a = b :=
  natToStr_inj (List.append_cancel_left h)

theorem nullPiecesFrom_pnames (p q n : Nat) (l : List (Scaffold × Option Nat)) :
    ∃ k, (nullPiecesFrom p q n l).map (·.pname) = (List.range' (n + 1) k).map scaffoldName := by
  induction l generalizing n with
  | nil => exact ⟨0, rfl⟩
  | cons a r ih =>
    obtain ⟨sc, t⟩ := a
    cases t with
    | none => exact ih n
    | some T =>
      obtain ⟨k, hk⟩ := ih (n + 1)
      exact ⟨k + 1, by simp [nullPiecesFrom, hk, List.range'_succ]⟩

theorem nullPieces_pnames_nodup (p q n : Nat) (l : List (Scaffold × Option Nat)) :
    ((nullPiecesFrom p q n l).map (·.pname)).Nodup := by
  obtain ⟨k, hk⟩ := nullPiecesFrom_pnames p q n l
  rw [hk, List.nodup_iff_pairwise_ne, List.pairwise_map]
  exact List.Pairwise.imp (fun h e => h (scaffoldName_inj _ _ e)) List.nodup_range'

/-- the side conditions of `C08.Unedited` / `C08.PieceOk` / `C08.AbsentOk` on the INPUT, per scaffold:
    shown scaffolds are well-formed, not named like a haplotype scaffold, and the map reaches into their last contig;
    absent ones begin and end with a contig and carry no tags -/
structure NullInputOk (input : List Scaffold) (p q : Nat) (Ts : List (Option Nat)) : Prop where
  names : (input.map (·.name)).Nodup
  keys : KeysDistinct input
  shown : ∀ sc T, (sc, some T) ∈ input.zip Ts →
    WfRows sc.rows ∧ hapPrefixOfName sc.name = none ∧ lastFragmentStart sc.rows ≤ (coord p q T : Int)
  absent : ∀ sc, (sc, none) ∈ input.zip Ts → AbsentOk sc

theorem wf_close {p q : Nat} (hq : 1 ≤ q) (hpq : q ≤ p) {sc : Scaffold} {c : ScafScript}
    (h : c.wf p q (scafLen sc) = true) (hp : c.present = true) (hL : 1 ≤ sc.length) :
    sc.length - (coord p q c.T : Int) ≤ (errLen p q : Int) := by
  have hL1 : 1 ≤ scafLen sc := by unfold scafLen; omega
  have := sub_le_errLen hq (wf_end_lt hq hpq h hp hL1)
  unfold scafLen at this
  omega

theorem nullScript_length {input : List Scaffold} {p q : Nat} {Ts : List (Option Nat)} {b : Bool}
    (hw : WfScript input (nullScript p q Ts b)) : input.length = Ts.length := by
  have := hw.len
  simpa [nullScript, nullScafs] using this.symm

theorem absent_or_present {input : List Scaffold} {p q : Nat} {Ts : List (Option Nat)} {b : Bool}
    (hw : WfScript input (nullScript p q Ts b)) {sc : Scaffold} (hsc : sc ∈ input) :
    (sc, none) ∈ input.zip Ts ∨ isPresent (nullPieces input p q Ts) sc = true := by
  obtain ⟨i, hi⟩ := List.mem_iff_getElem?.1 hsc
  have hlt : i < Ts.length := nullScript_length hw ▸ (List.getElem?_eq_some_iff.1 hi).1
  have hz : (input.zip Ts)[i]? = some (sc, Ts[i]) :=
    List.getElem?_zip_eq_some.2 ⟨hi, List.getElem?_eq_getElem hlt⟩
  cases ht : Ts[i] with
  | none => rw [ht] at hz; exact Or.inl (List.mem_of_getElem? hz)
  | some T =>
    rw [ht] at hz
    obtain ⟨pc, hpc, e⟩ := nullPiecesFrom_mem (p := p) (q := q) (n := 0) (List.mem_of_getElem? hz)
    have : sc.name ∈ (nullPieces input p q Ts).map (·.sc.name) := List.mem_map.2 ⟨pc, hpc, by rw [e]⟩
    exact Or.inr (by unfold isPresent; simpa using this)

/-- **S3.**  The null script of a well-formed choice of texel counts is an unedited map. -/
theorem null_unedited {input : List Scaffold} {p q : Nat} {Ts : List (Option Nat)} {b : Bool}
    (hw : WfScript input (nullScript p q Ts b)) (hin : NullInputOk input p q Ts) :
    Unedited input (nullPieces input p q Ts) (errLen p q : Int) := by
  have hq : 1 ≤ q := hw.hq
  have hpq : q ≤ p := hw.hpq
  refine ⟨hin.names, hin.keys, by omega, ?_, ?_, ?_⟩
  · intro pc hpc
    obtain ⟨sc, T, m, hm, rfl⟩ := mem_nullPiecesFrom hpc
    obtain ⟨h1, h2, h3⟩ := hin.shown sc T hm
    obtain ⟨i, hi⟩ := List.mem_iff_getElem?.1 hm
    obtain ⟨hi1, hi2⟩ := List.getElem?_zip_eq_some.1 hi
    have hclose := wf_close hq hpq (hw.scaf i sc _ hi1 (nullScafs_getElem? Ts i T hi2)) rfl h1.rowsLength_pos
    exact ⟨(List.of_mem_zip hm).1, h1, h3, hclose, h2⟩
  · have hs := nullPiecesFrom_sublist p q 0 (input.zip Ts)
    have e : (input.zip Ts).map (·.1) = input := by
      rw [← List.unzip_fst, List.unzip_zip (nullScript_length hw)]
    rw [e] at hs
    have : ((nullPieces input p q Ts).map (·.sc.name)) = ((nullPieces input p q Ts).map (·.sc)).map (·.name) := by
      rw [List.map_map]; rfl
    rw [this]
    exact (hs.map _).nodup hin.names
  · intro sc hsc hnp
    rcases absent_or_present hw hsc with h | h
    · exact hin.absent sc h
    · rw [h] at hnp; cases hnp

/-- **S3, painted.**  With every Pretext scaffold painted the null script satisfies `C08.PaintedOk`, provided no absent
    input scaffold is itself called `Scaffold_<n>`. -/
theorem null_paintedOk {input : List Scaffold} {p q : Nat} {Ts : List (Option Nat)} {b : Bool}
    (hw : WfScript input (nullScript p q Ts b)) (hin : NullInputOk input p q Ts)
    (hdis : ∀ sc, (sc, none) ∈ input.zip Ts → ∀ n, sc.name ≠ scaffoldName n) :
    PaintedOk input (nullPieces input p q Ts) (errLen p q : Int) := by
  have hu := null_unedited hw hin
  refine ⟨hu, nullPieces_pnames_nodup p q 0 _, ?_, ?_⟩
  · intro pc hpc
    obtain ⟨sc, T, m, -, rfl⟩ := mem_nullPiecesFrom hpc
    unfold scaffoldName sScaffold_; simp
  · intro pc hpc sc hsc e
    obtain ⟨sc', T, m, -, rfl⟩ := mem_nullPiecesFrom hpc
    unfold absentOf at hsc
    obtain ⟨hsc1, hsc2⟩ := List.mem_filter.1 hsc
    rcases absent_or_present hw hsc1 with h | h
    · exact hdis sc h (m + 1) e.symm
    · rw [h] at hsc2; cases hsc2

end AgpTpf.C02
