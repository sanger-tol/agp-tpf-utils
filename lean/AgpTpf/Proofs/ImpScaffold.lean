/-
  The translated Python source of `Scaffold.fragment_tags`, `Scaffold.length`, `Scaffold.fragments_length` against the hand-written
  model (`Model/Basic.lean`); stated in `Properties/C17Imp.lean`.  The loop lemma (`PyRt.forIn_foldl` of `Lib/PyRt.lean`) takes the
  loop body as a parameter and asks only what one pass returns, so the proofs do not depend on the text of the generated body.
-/
import AgpTpf.Gen.Imp
import AgpTpf.Proofs.Lib.PyRt
set_option linter.unusedSimpArgs false
namespace AgpTpf.ImpScaffold

theorem fragment_tags_tie (s : Scaffold) : Gen.Imp.Scaffold_fragment_tags s = .ok s.fragmentTags := by
  unfold Gen.Imp.Scaffold_fragment_tags Scaffold.fragmentTags
  dsimp only
  rw [PyRt.forIn_foldl (fun acc (f : Fragment) => (f.tags.filter (fun t => !t.isEmpty)).foldl sAdd acc)]
  · rfl
  · intro frag _ ts
    rw [PyRt.forIn_foldl (fun acc (t : Str) => if (!t.isEmpty) = true then sAdd acc t else acc)]
    · simp only [← List.foldl_filter]; rfl
    · intro t _ acc
      by_cases ht : (!t.isEmpty) = true <;> simp only [ht, if_true, if_false] <;> rfl

theorem scaffold_length_tie (s : Scaffold) : Gen.Imp.Scaffold_length_imp s = .ok s.length := by
  simp only [Gen.Imp.Scaffold_length_imp, PyRt.sum, Scaffold.length, rowsLength]

theorem scaffold_fragments_length_tie (s : Scaffold) : Gen.Imp.Scaffold_fragments_length s = .ok s.fragmentsLength := by
  simp only [Gen.Imp.Scaffold_fragments_length, PyRt.sum, Scaffold.fragmentsLength]

end AgpTpf.ImpScaffold
