/-
  Helper lemmas for C20: `strLe`, `restLe`, `keyLe`, `smartLe` are total orders (instances of the pair and tuple
  comparisons of `Lib/Order`); `stableSort` returns a sorted permutation; sorted permutations have the same key sequence.
-/
import AgpTpf.Model.NaturalKey
import AgpTpf.Proofs.Lib.Py
import AgpTpf.Proofs.Lib.Order
namespace AgpTpf.C20
open AgpTpf

/-! `strLe` is core's `≤` on character lists (`strLe_order`, `Lib/Order`).  The rest of a key is compared as a tuple of
`(number, text)` pairs, each pair number first; a key as the pair of its leading text and that tuple; `smartLe` puts the rank
in front. -/

theorem strLe_refl (s : Str) : strLe s s = true := strLe_order.refl s

theorem strLe_append_left (t a b : Str) : strLe (t ++ a) (t ++ b) = strLe a b := by
  induction t with
  | nil => rfl
  | cons c cs ih => simp [strLe, ih]

theorem strLe_nil_right {a : Str} : strLe a [] = true ↔ a = [] := by
  cases a <;> simp [strLe]

theorem restLe_eq : ∀ a b : List (Int × Str), restLe a b = listLexB (lexB (fun x y : Int => decide (x < y)) strLe) a b
  | [], b => by cases b <;> rfl
  | _ :: _, [] => rfl
  | (n, t) :: r, (n', t') :: r' => by
    rw [restLe, listLexB_cons, restLe_eq r r', lexB]
    rcases Int.lt_trichotomy n n' with h | rfl | h
    · simp [h, Int.ne_of_lt h]
    · by_cases e : t = t' <;> simp [e]
    · simp [h, Int.lt_asymm h, Int.ne_of_gt h]

theorem restLe_order : OrderB restLe := by
  rw [show restLe = listLexB _ from funext fun a => funext (restLe_eq a)]
  exact listLexB_order (lexB_linear intLt_linear strLe_order.linear)

theorem keyLe_order : OrderB keyLe :=
  (lexB_order strLe_order.linear restLe_order).comap (fun k : NatKey => (k.first, k.rest))
    (by rintro ⟨_, _⟩ ⟨_, _⟩ h; cases h; rfl)

theorem smartLe_eq (a b : Int × NatKey) : smartLe a b = lexB (fun x y : Int => decide (x < y)) keyLe a b := by
  rw [smartLe, lexB]
  rcases Int.lt_trichotomy a.1 b.1 with h | h | h
  · simp [h, Int.ne_of_lt h]
  · simp [h]
  · simp [h, Int.lt_asymm h, Int.ne_of_gt h]

theorem smartLe_order : OrderB smartLe := by
  rw [show smartLe = lexB _ keyLe from funext fun a => funext (smartLe_eq a)]
  exact lexB_order intLt_linear keyLe_order

theorem smartLe_rank {a b : Int × NatKey} (h : smartLe a b = true) : a.1 ≤ b.1 := by
  rw [smartLe_eq, lexB] at h
  split at h
  · exact Int.le_of_eq ‹_›
  · exact Int.le_of_lt (of_decide_eq_true h)

structure TotalPreorder {α} (le : α → α → Bool) : Prop where
  total : ∀ a b, le a b = true ∨ le b a = true
  trans : ∀ a b c, le a b = true → le b c = true → le a c = true

theorem stableSort_sorted {α} {le : α → α → Bool} (h : TotalPreorder le) (l : List α) :
    (stableSort le l).Pairwise (fun a b => le a b = true) := AgpTpf.stableSort_sorted le h.total h.trans l

theorem sorted_perm_map_key_eq {α κ} {le : α → α → Bool} (_ : TotalPreorder le) (key : α → κ)
    (E : ∀ a b, le a b = true → le b a = true → key a = key b) :
    ∀ (n : Nat) (l l' : List α), l.length = n → l.Perm l' →
      l.Pairwise (fun a b => le a b = true) → l'.Pairwise (fun a b => le a b = true) →
      l.map key = l'.map key := by
  intro n l
  induction l generalizing n with
  | nil => intro l' _ hp _ _; rw [hp.nil_eq]
  | cons a t ih =>
    intro l' _ hp hs hs'
    -- `a` stands somewhere in `l'`; what stands before it there is below `a` in `l'` and above it in `l`: it has `a`'s key
    obtain ⟨s1, s2, rfl⟩ := List.append_of_mem (hp.subset List.mem_cons_self)
    rw [List.pairwise_cons] at hs
    have pt : t.Perm (s1 ++ s2) := (hp.trans List.perm_middle).cons_inv
    have hk : ∀ x ∈ s1, key x = key a := fun x hx =>
      E x a ((List.pairwise_append.mp hs').2.2 x hx a List.mem_cons_self) (hs.1 x (pt.symm.subset (List.mem_append_left _ hx)))
    rw [List.map_cons, ih _ _ rfl pt hs.2 (hs'.sublist (List.Sublist.append_left (List.sublist_cons_self a s2) s1)),
      List.map_append, List.map_append, List.map_cons, List.map_congr_left hk]
    -- `k :: (kⁿ ++ r) = kⁿ ++ k :: r`
    rw [List.map_const', ← List.cons_append, ← List.replicate_succ, List.replicate_succ', List.append_assoc]; rfl

theorem stableSort_key_perm_invariant {α κ} {le : α → α → Bool} (h : TotalPreorder le) (key : α → κ)
    (E : ∀ a b, le a b = true → le b a = true → key a = key b) {l₁ l₂ : List α} (hp : l₁.Perm l₂) :
    (stableSort le l₁).map key = (stableSort le l₂).map key :=
  sorted_perm_map_key_eq h key E _ _ _ rfl
    ((stableSort_perm le l₁).trans (hp.trans (stableSort_perm le l₂).symm))
    (stableSort_sorted h l₁) (stableSort_sorted h l₂)

/-- the sort is stable: the elements equivalent to any given `a` come out in the order they went in -/
theorem stableSort_stable {α} {le : α → α → Bool} (h : TotalPreorder le) (a : α) (l : List α) :
    (stableSort le l).filter (fun y => le a y && le y a) = l.filter (fun y => le a y && le y a) :=
  stableSort_filter le _ (fun x y hx hy => h.trans x a y (Bool.and_eq_true_iff.1 hx).2 (Bool.and_eq_true_iff.1 hy).1) l

end AgpTpf.C20
