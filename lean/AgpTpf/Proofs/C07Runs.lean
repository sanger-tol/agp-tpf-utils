/-
  The runs of gap rows between consecutive fragments of a row list.
    `gapRuns rows`   all `(a, G, b)`: fragment `a`, then exactly the gap rows `G` (possibly none), then fragment `b`;
                     a run is a decomposition `… a G b …` of the list (`mem_gapRuns_iff`), which is how the lemmas on
                     infixes, joins and reversal go
    `adjPairs`       is its gapless part (`adjPairs_eq_gapRuns`)
    `missingRows_runs`   a left-over scaffold has only runs of its input scaffold, or runs that carry the join gap
-/
import AgpTpf.Proofs.C07Adj
import AgpTpf.Proofs.Lib.Rows
import AgpTpf.Proofs.Lib.Missing
namespace AgpTpf.C07
open AgpTpf

/-- `(a, G, b)`: fragment `a`, the gap rows `G` that follow it, the next fragment `b` -/
abbrev Run := Fragment × List Gap × Fragment

/-- the leading gap rows and the first fragment of a row list -/
def nextFrag : List Row → Option (List Gap × Fragment)
  | [] => none
  | .gap g :: r => (nextFrag r).map (fun p => (g :: p.1, p.2))
  | .frag b :: _ => some ([], b)

def headRun (a : Fragment) (r : List Row) : List Run :=
  match nextFrag r with
  | some (G, b) => [(a, G, b)]
  | none => []

def gapRuns : List Row → List Run
  | [] => []
  | .gap _ :: r => gapRuns r
  | .frag a :: r => headRun a r ++ gapRuns r

theorem nextFrag_gaps (M : List Gap) (l : List Row) :
    nextFrag (M.map Row.gap ++ l) = (nextFrag l).map (fun p => (M ++ p.1, p.2)) := by
  induction M with
  | nil => cases h : nextFrag l <;> simp [h]
  | cons g M ih =>
    simp only [List.map_cons, List.cons_append, nextFrag, ih]
    cases nextFrag l <;> simp

theorem nextFrag_gaps_frag (M : List Gap) (b : Fragment) (O : List Row) :
    nextFrag (M.map Row.gap ++ .frag b :: O) = some (M, b) := by
  rw [nextFrag_gaps]; simp [nextFrag]

theorem nextFrag_spec (l : List Row) (G : List Gap) (b : Fragment) (h : nextFrag l = some (G, b)) :
    ∃ O, l = G.map Row.gap ++ .frag b :: O := by
  induction l generalizing G with
  | nil => cases h
  | cons x t ih =>
    cases x with
    | frag c =>
      simp only [nextFrag, Option.some.injEq, Prod.mk.injEq] at h
      obtain ⟨rfl, rfl⟩ := h
      exact ⟨t, rfl⟩
    | gap g =>
      obtain ⟨⟨G', b'⟩, hn, e⟩ := Option.map_eq_some_iff.1 h
      cases e
      obtain ⟨O, rfl⟩ := ih G' hn
      exact ⟨O, rfl⟩

theorem nextFrag_append_frag (B : List Row) (a : Fragment) (rest : List Row) :
    nextFrag (B ++ .frag a :: rest) = nextFrag (B ++ [.frag a]) := by
  induction B with
  | nil => rfl
  | cons x t ih =>
    cases x with
    | frag c => rfl
    | gap g => simp only [List.cons_append, nextFrag, ih]

theorem gapRuns_gaps (M : List Gap) (l : List Row) : gapRuns (M.map Row.gap ++ l) = gapRuns l := by
  induction M with
  | nil => rfl
  | cons g M ih => simpa [gapRuns] using ih

theorem gapRuns_frag_cons (a : Fragment) (r : List Row) : gapRuns (.frag a :: r) = headRun a r ++ gapRuns r := rfl
theorem gapRuns_gap_cons (g : Gap) (r : List Row) : gapRuns (.gap g :: r) = gapRuns r := rfl

theorem gapRuns_frag_gaps_frag (a b : Fragment) (M : List Gap) (O : List Row) :
    gapRuns (.frag a :: (M.map Row.gap ++ .frag b :: O)) = (a, M, b) :: gapRuns (.frag b :: O) := by
  simp only [gapRuns_frag_cons, headRun, nextFrag_gaps_frag, gapRuns_gaps, List.cons_append, List.nil_append]

theorem gapRuns_join (B O : List Row) (a b : Fragment) (M : List Gap) :
    gapRuns (B ++ .frag a :: (M.map Row.gap ++ .frag b :: O)) =
      gapRuns (B ++ [.frag a]) ++ (a, M, b) :: gapRuns (.frag b :: O) := by
  induction B with
  | nil => exact gapRuns_frag_gaps_frag a b M O
  | cons x t ih =>
    cases x with
    | gap g => simp only [List.cons_append, gapRuns_gap_cons]; exact ih
    | frag c =>
      simp only [List.cons_append, gapRuns_frag_cons, ih, List.append_assoc]
      unfold headRun
      rw [nextFrag_append_frag]

theorem gapRuns_decomp (rows : List Row) (a b : Fragment) (M : List Gap) (h : (a, M, b) ∈ gapRuns rows) :
    ∃ B O, rows = B ++ .frag a :: (M.map Row.gap ++ .frag b :: O) := by
  induction rows with
  | nil => cases h
  | cons x r ih =>
    cases x with
    | gap g =>
      obtain ⟨B, O, e⟩ := ih h
      exact ⟨.gap g :: B, O, by rw [e]; rfl⟩
    | frag c =>
      rw [gapRuns_frag_cons] at h
      rcases List.mem_append.mp h with h | h
      · unfold headRun at h
        cases hn : nextFrag r with
        | none => rw [hn] at h; cases h
        | some q =>
          obtain ⟨G, b'⟩ := q
          rw [hn] at h
          simp only [List.mem_cons, Prod.mk.injEq, List.not_mem_nil, or_false] at h
          obtain ⟨rfl, rfl, rfl⟩ := h
          obtain ⟨O, e⟩ := nextFrag_spec r _ _ hn
          exact ⟨[], O, by rw [e]; rfl⟩
      · obtain ⟨B, O, e⟩ := ih h
        exact ⟨.frag c :: B, O, by rw [e]; rfl⟩

theorem mem_gapRuns_of_decomp (B O : List Row) (a b : Fragment) (M : List Gap) :
    (a, M, b) ∈ gapRuns (B ++ .frag a :: (M.map Row.gap ++ .frag b :: O)) := by
  rw [gapRuns_join]; simp

theorem mem_gapRuns_iff (rows : List Row) (a b : Fragment) (M : List Gap) :
    (a, M, b) ∈ gapRuns rows ↔ ∃ B O, rows = B ++ .frag a :: (M.map Row.gap ++ .frag b :: O) :=
  ⟨gapRuns_decomp rows a b M, fun ⟨B, O, e⟩ => e ▸ mem_gapRuns_of_decomp B O a b M⟩

theorem gapRuns_infix {l src : List Row} (h : l <:+: src) : ∀ t ∈ gapRuns l, t ∈ gapRuns src := by
  obtain ⟨p, s, rfl⟩ := h
  rintro ⟨a, M, b⟩ ht
  obtain ⟨B, O, rfl⟩ := gapRuns_decomp _ a b M ht
  have := mem_gapRuns_of_decomp (p ++ B) (O ++ s) a b M
  simpa only [List.append_assoc, List.cons_append] using this

theorem fragmentsOf_gaps (M : List Gap) (l : List Row) : fragmentsOf (M.map Row.gap ++ l) = fragmentsOf l := by
  rw [fragmentsOf_append, fragmentsOf_map_gap, List.nil_append]

theorem gapRuns_fragmentsOf (rows : List Row) (a b : Fragment) (M : List Gap) (h : (a, M, b) ∈ gapRuns rows) :
    ∃ pre post, fragmentsOf rows = pre ++ a :: b :: post := by
  obtain ⟨B, O, rfl⟩ := gapRuns_decomp rows a b M h
  refine ⟨fragmentsOf B, fragmentsOf O, ?_⟩
  rw [fragmentsOf_append]
  simp only [fragmentsOf, fragmentsOf_gaps]

def Run.adj? (t : Run) : Option (Fragment × Fragment) := if t.2.1 = [] then some (t.1, t.2.2) else none

theorem adjPairs_eq_gapRuns (rows : List Row) : adjPairs rows = (gapRuns rows).filterMap Run.adj? := by
  induction rows with
  | nil => rfl
  | cons x t ih =>
    cases x with
    | gap g => exact ih
    | frag a =>
      rw [gapRuns_frag_cons, List.filterMap_append, ← ih]
      cases t with
      | nil => rfl
      | cons y t' =>
        cases y with
        | frag b => rfl
        | gap g =>
          rw [adjPairs_frag_gap]
          unfold headRun nextFrag
          cases nextFrag t' <;> simp [Run.adj?, adjPairs_gap_cons]

theorem gapRuns_nil_iff_adjPairs (rows : List Row) (a b : Fragment) :
    (a, [], b) ∈ gapRuns rows ↔ (a, b) ∈ adjPairs rows := by
  rw [adjPairs_eq_gapRuns, List.mem_filterMap]
  constructor
  · exact fun h => ⟨_, h, rfl⟩
  · rintro ⟨⟨a', G, b'⟩, ht, he⟩
    unfold Run.adj? at he
    split at he
    · next hG => cases he; simp only at hG; subst hG; exact ht
    · cases he

theorem mem_adjPairs_iff (rows : List Row) (a b : Fragment) :
    (a, b) ∈ adjPairs rows ↔ ∃ B O, rows = B ++ .frag a :: .frag b :: O := by
  rw [← gapRuns_nil_iff_adjPairs, mem_gapRuns_iff]; rfl

theorem infix_adjacent {l src : List Row} (h : l <:+: src) : ∀ pr ∈ adjPairs l, pr ∈ adjPairs src := by
  rintro ⟨a, b⟩ hp
  exact (gapRuns_nil_iff_adjPairs _ _ _).mp (gapRuns_infix h _ ((gapRuns_nil_iff_adjPairs _ _ _).mpr hp))

def mirrorRun (t : Run) : Run := (t.2.2.reverse, t.2.1.reverse, t.1.reverse)

theorem gapRuns_reverse_map (l : List Row) :
    ∀ t ∈ gapRuns (l.reverse.map Row.reverse), ∃ q ∈ gapRuns l, t = mirrorRun q := by
  rintro ⟨a, M, b⟩ ht
  obtain ⟨B, O, e⟩ := gapRuns_decomp _ a b M ht
  have hl : l = (O.reverse.map Row.reverse) ++ .frag b.reverse ::
      (M.reverse.map Row.gap ++ .frag a.reverse :: (B.reverse.map Row.reverse)) := by
    rw [← map_reverse_reverse_rows l, e]
    simp only [List.reverse_append, List.reverse_cons, List.map_append, List.map_cons, Row.reverse,
      List.append_assoc, List.cons_append, List.nil_append, List.map_reverse, List.map_map]
    have : (Row.reverse ∘ Row.gap) = Row.gap := by funext g; rfl
    rw [this]
  refine ⟨(b.reverse, M.reverse, a.reverse), ?_, ?_⟩
  · rw [hl]; exact mem_gapRuns_of_decomp _ _ _ _ _
  · simp [mirrorRun, Fragment.reverse_reverse]

/-- where a run of a left-over scaffold comes from: the input scaffold, or the join gap -/
def RunSrc (jg : Option Gap) (rows : List Row) (t : Run) : Prop :=
  t ∈ gapRuns rows ∨ (∃ j, jg = some j ∧ t.2.1 = [j])

/-- The rows `B` passed since the last left-over fragment `fl` are what separates it from the next one, `f`, in the
    input; `missingRows` writes them only if they are all gaps, so the run `(fl, M, f)` it writes is then a run of the
    input (a decomposition `P ++ fl :: M ++ f :: t` of its rows). -/
theorem leftoverRows_runs (found : Key → Bool) (jg : Option Gap) (rows : List Row) :
    ∀ (t : List Row) (p : Option (List Row)) (r : List Row), Pipeline.leftoverRows found jg p t = .ok r →
      (p = none → ∀ P, rows = P ++ t → ∀ q ∈ gapRuns r, RunSrc jg rows q) ∧
      (∀ B, p = some B → ∀ P fl, rows = P ++ .frag fl :: (B ++ t) → ∀ q ∈ gapRuns (.frag fl :: r), RunSrc jg rows q) := by
  refine Pipeline.leftoverRows_induct (fun _ => ⟨fun _ _ _ _ => nofun, fun _ _ _ _ _ q hq => ?_⟩)
    (fun p x t r _ ih => ⟨fun hp P e => ?_, fun B hp P fl e => ?_⟩) (fun p x t sep r hx hsep ih => ?_)
  · simp [gapRuns, headRun, nextFrag] at hq
  · exact ih.1 (by rw [hp]; rfl) (P ++ [x]) (by rw [e]; simp)
  · exact ih.2 (B ++ [x]) (by rw [hp]; rfl) P fl (by rw [e]; simp)
  · obtain ⟨f, rfl, -⟩ := Pipeline.isLeftover_iff.mp hx
    have tail := ih.2 [] rfl
    constructor
    · rintro rfl P e
      cases hsep
      exact tail P f (by rw [e]; rfl)
    · rintro B rfl P fl e q hq
      obtain ⟨M, rfl, hM⟩ := Pipeline.leftoverSep_ok hsep
      rw [gapRuns_frag_gaps_frag] at hq
      rcases List.mem_cons.mp hq with rfl | hq
      · rcases hM with rfl | hj
        · exact Or.inl (e ▸ mem_gapRuns_of_decomp P t fl f M)
        · exact Or.inr hj
      · exact tail (P ++ .frag fl :: B) f (by rw [e]; simp) q hq

theorem missingRows_runs (b : Build) (rows out : List Row) (first : Option Nat)
    (h : missingRows b rows = .ok (out, first)) : ∀ t ∈ gapRuns out, RunSrc b.joinGap rows t :=
  (leftoverRows_runs _ _ rows rows none out (Pipeline.missingRows_ok_iff.mp h).1).1 rfl [] rfl

theorem leftover_pred_run (b : Build) (rows out : List Row) (i : Nat) (c prev : Fragment) (gaps : List Gap)
    (h : missingRows b rows = .ok (out, some i)) (hc : out.head? = some (.frag c))
    (hp : inputPredecessor rows i = some (prev, gaps)) : (prev, gaps, c) ∈ gapRuns rows := by
  obtain ⟨pre, t, rfl, rfl⟩ := Pipeline.missingRows_first h hc
  obtain ⟨Q, hQ⟩ := Pipeline.inputPredecessor_ok hp
  rw [List.take_left' rfl] at hQ
  subst hQ
  have := mem_gapRuns_of_decomp Q t prev c gaps
  simpa using this

end AgpTpf.C07
