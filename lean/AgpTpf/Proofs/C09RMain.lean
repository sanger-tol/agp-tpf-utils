/-
  C09 routing, parts 5 and 6: two output fragments that share a base are in the same output assembly (from
  `C01.remap_exactly_once`: every base of every input contig is in exactly one output fragment); then the glue for the property
  file — the stages of `remap`, what `seen` means in `pieces`, the tag words, and `NoClash` of the fused scaffolds from a side
  condition on the build.
-/
import AgpTpf.Model.Remap
import AgpTpf.Properties.C09
import AgpTpf.Proofs.C09RFixed
import AgpTpf.Proofs.C09RLabel
import AgpTpf.Proofs.C09ROut
import AgpTpf.Proofs.C09RLeft
import AgpTpf.Proofs.C01Fuse
import AgpTpf.Properties.C01
namespace AgpTpf.C09
open AgpTpf

theorem mem_keysOf_of_frag (rows : List Row) (f : Fragment) (h : Row.frag f ∈ rows) : f.keyTuple ∈ C01.keysOf rows :=
  List.mem_map_of_mem (mem_fragmentsOf.2 h)

def asmTriples (a : OutAsm) : List Key := a.scaffolds.flatMap (fun s => C01.keysOf s.rows)

theorem outputTriples_eq (outs : List OutAsm) : C01.outputTriples outs = outs.flatMap asmTriples := by
  unfold C01.outputTriples asmTriples
  rw [List.flatMap_assoc]

theorem countP_pos_of_mem {α} (p : α → Bool) (l : List α) (x : α) (hx : x ∈ l) (hp : p x = true) : 1 ≤ l.countP p :=
  List.countP_pos_iff.mpr ⟨x, hx, hp⟩

/-- a contig base `x` that a fragment row `f` of the output shares with a fragment `f'` of the same contig is counted ONCE
    among the key triples of the whole output, and the keys of `f` and `f'` both cover it -/
theorem shared_base_once {input ptx : List Scaffold} {prefix_ : Str} {joinGap : Option Gap} {err : Int}
    {outs : List OutAsm} {stats : Stats} (hwf : C01.WFInput input)
    (h : remap input ptx prefix_ joinGap err = .ok (outs, stats))
    {a : OutAsm} (ha : a ∈ outs) {s : Scaffold} (hs : s ∈ a.scaffolds) {f f' : Fragment} (hf : Row.frag f ∈ s.rows)
    (hname : f.name = f'.name) {x : Int} (hx : f.start ≤ x ∧ x ≤ f.stop) (hx' : f'.start ≤ x ∧ x ≤ f'.stop) :
    (outs.flatMap asmTriples).countP (C01.coversK f.name x) = 1 ∧
      C01.coversK f.name x f.keyTuple = true ∧ C01.coversK f.name x f'.keyTuple = true := by
  have hkO : f.keyTuple ∈ C01.outputTriples outs := by
    rw [outputTriples_eq]
    exact List.mem_flatMap.mpr ⟨a, ha, List.mem_flatMap.mpr ⟨s, hs, mem_keysOf_of_frag _ _ hf⟩⟩
  obtain ⟨_, F, hF, hFn, hF1, hF2⟩ := (C01.remap_partitions input ptx prefix_ joinGap err outs stats hwf h).2 _ hkO
  have hone := C01.remap_exactly_once input ptx prefix_ joinGap err outs stats hwf h F hF x
    (by simp only [Fragment.keyTuple] at hF1; omega) (by simp only [Fragment.keyTuple] at hF2; omega)
  rw [outputTriples_eq, show F.name = f.name from hFn] at hone
  unfold C01.coversK
  exact ⟨hone, decide_eq_true ⟨rfl, hx.1, hx.2⟩, decide_eq_true ⟨hname.symm, hx'.1, hx'.2⟩⟩

/-- **One place only.**  For a well-formed input, if fragment rows `f` (in a scaffold of output assembly `a`) and `f'`
    (in a scaffold of output assembly `a'`) share a base of the same contig, then `a = a'`. -/
theorem shared_base_same_assembly (input ptx : List Scaffold) (prefix_ : Str) (joinGap : Option Gap) (err : Int)
    (outs : List OutAsm) (stats : Stats) (hwf : C01.WFInput input)
    (h : remap input ptx prefix_ joinGap err = .ok (outs, stats))
    (a a' : OutAsm) (ha : a ∈ outs) (ha' : a' ∈ outs) (s s' : Scaffold) (hs : s ∈ a.scaffolds) (hs' : s' ∈ a'.scaffolds)
    (f f' : Fragment) (hf : Row.frag f ∈ s.rows) (hf' : Row.frag f' ∈ s'.rows)
    (hname : f.name = f'.name) (x : Int) (hx : f.start ≤ x ∧ x ≤ f.stop) (hx' : f'.start ≤ x ∧ x ≤ f'.stop) :
    a = a' := by
  apply Classical.byContradiction
  intro hne
  obtain ⟨hone, hc, hc'⟩ := shared_base_once hwf h ha hs hf hname hx hx'
  have hk : f.keyTuple ∈ asmTriples a := List.mem_flatMap.mpr ⟨s, hs, mem_keysOf_of_frag _ _ hf⟩
  have hk' : f'.keyTuple ∈ asmTriples a' := List.mem_flatMap.mpr ⟨s', hs', mem_keysOf_of_frag _ _ hf'⟩
  have hperm : outs.Perm (a :: a' :: (outs.erase a).erase a') := by
    have h1 := List.perm_cons_erase ha
    have hm : a' ∈ outs.erase a := (List.mem_erase_of_ne (fun e => hne e.symm)).mpr ha'
    exact h1.trans ((List.perm_cons_erase hm).cons a)
  rw [(hperm.flatMap_right asmTriples).countP_eq] at hone
  simp only [List.flatMap_cons, List.countP_append] at hone
  have c1 := countP_pos_of_mem (C01.coversK f.name x) _ _ hk hc
  have c2 := countP_pos_of_mem (C01.coversK f.name x) _ _ hk' hc'
  omega

/-- the whole of `remap_to_input_assembly`, seen from the store: label fields as after `find_assembly_overlaps`,
    namer flag and left-overs as `add_missing` made them -/
theorem remapToInput_summary (input ptx : List Scaffold) (prefix_ : Str) (joinGap : Option Gap) (err : Int) (b : Build)
    (h : remapToInput input ptx prefix_ joinGap err = .ok b) :
    ∃ b1 b4, findAssemblyOverlaps input ptx (startBuild input prefix_ joinGap err) = .ok b1 ∧
      addMissing input b4 = .ok b ∧
      b.store.map fixedOf = b1.store.map fixedOf ∧ b4.store = b.store ∧
      b4.namer = b1.namer ∧ b4.extra = [] ∧ b1.extra = [] := by
  obtain ⟨b1, b2, b3, h1, h2, h3, h4⟩ := Pipeline.remapToInput_ok h
  obtain ⟨_, _, e1⟩ := findAssemblyOverlaps_label input ptx _ b1 h1
  have k2 := discardOverhanging_keeps _ b1 b2 h2
  have k3 := cutRemaining_keeps b2 b3 h3
  have k := k2.trans k3
  obtain ⟨s4, _, _⟩ := addMissing_store input _ b h4
  refine ⟨b1, _, h1, h4, middle_fixedOf h2 h3 h4, s4.symm, k.2.1, ?_, e1⟩
  show b3.extra = []
  rw [k.2.2.1, e1]; rfl

theorem remapToInput_leftovers (input ptx : List Scaffold) (prefix_ : Str) (joinGap : Option Gap) (err : Int) (b : Build)
    (h : remapToInput input ptx prefix_ joinGap err = .ok b) :
    ∀ e ∈ b.extra, ∃ sc ∈ input, LeftoverOK (ptx.any hasTarget) sc e := by
  obtain ⟨b1, b4, h1, h4, _, _, hn4, he4, _⟩ := remapToInput_summary input ptx prefix_ joinGap err b h
  obtain ⟨_, htt, _⟩ := findAssemblyOverlaps_label input ptx _ b1 h1
  have ht : b4.namer.targetTags = ptx.any hasTarget := by rw [hn4, htt]; rfl
  intro e he
  rcases (addMissing_leftovers input b4 b h4).2 e he with h0 | hok
  · rw [he4] at h0; cases h0
  · exact ht ▸ hok

theorem pieces_mem (input : List Scaffold) (ptx : List Scaffold) :
    ∀ (s0 : Bool) (c : Bool × Scaffold × Fragment), c ∈ pieces input s0 ptx →
      ∃ pre post, ptx = pre ++ c.2.1 :: post ∧ c.1 = (s0 || pre.any hasTarget) ∧
        c.2.2 ∈ c.2.1.fragments ∧ hits input c.2.2 = true := by
  induction ptx with
  | nil => intro s0 c hc; simp [pieces] at hc
  | cons S rest ih =>
    intro s0 c hc
    simp only [pieces, List.mem_append, List.mem_map, List.mem_filter] at hc
    rcases hc with ⟨p, ⟨hp, hh⟩, rfl⟩ | hc
    · exact ⟨[], rest, rfl, by simp, hp, hh⟩
    · obtain ⟨pre, post, e1, e2, e3, e4⟩ := ih _ c hc
      refine ⟨S :: pre, post, by rw [e1]; rfl, ?_, e3, e4⟩
      rw [e2, List.any_cons, Bool.or_assoc]

theorem pieceTag_cases (seen : Bool) (S : Scaffold) (p : Fragment) :
    pieceTag seen S p = none ∨ pieceTag seen S p = some sFalseDuplicate ∨ pieceTag seen S p = some sHaplotig ∨
    pieceTag seen S p = some sContaminant := by
  rw [pieceTag_eq]
  split
  · exact Or.inr (Or.inl rfl)
  · split
    · exact Or.inr (Or.inr (Or.inl rfl))
    · split
      · exact Or.inr (Or.inr (Or.inr rfl))
      · exact Or.inl rfl

/-- the three tag words, as assembly keys -/
def tagWords : List (Option Str) := [some sFalseDuplicate, some sHaplotig, some sContaminant]

theorem truthy_of_tagWord {t : Option Str} (h : t ∈ tagWords) : truthy t = true := by
  simp only [tagWords, List.mem_cons, List.not_mem_nil, or_false] at h
  rcases h with rfl | rfl | rfl <;> rfl

theorem tagWord_or_none_of_cases {t : Option Str}
    (h : t = none ∨ t = some sFalseDuplicate ∨ t = some sHaplotig ∨ t = some sContaminant) :
    t = none ∨ t ∈ tagWords := by
  simp only [tagWords, List.mem_cons, List.not_mem_nil, or_false]
  exact h

theorem build_tags (input ptx : List Scaffold) (prefix_ : Str) (joinGap : Option Gap) (err : Int) (b : Build)
    (h : remapToInput input ptx prefix_ joinGap err = .ok b) :
    b.store.map labelView = (pieces input false ptx).map pieceView ∧
    (∀ r ∈ b.store, r.o.tag = none ∨ r.o.tag ∈ tagWords) ∧
    (∀ e ∈ b.extra, e.1.tag = none ∨ e.1.tag ∈ tagWords) := by
  obtain ⟨b1, _, h1, _, hf, _⟩ := remapToInput_summary input ptx prefix_ joinGap err b h
  obtain ⟨hv, _, _⟩ := findAssemblyOverlaps_label input ptx _ b1 h1
  have hview : b.store.map labelView = (pieces input false ptx).map pieceView := by
    rw [labelView_of_fixedOf hf, hv]; rfl
  refine ⟨hview, ?_, ?_⟩
  · intro r hr
    have : labelView r ∈ (pieces input false ptx).map pieceView := hview ▸ List.mem_map_of_mem hr
    obtain ⟨c, _, hc⟩ := List.mem_map.mp this
    have ht : pieceTag c.1 c.2.1 c.2.2 = r.o.tag := congrArg (·.1) hc
    rw [← ht]
    exact tagWord_or_none_of_cases (pieceTag_cases _ _ _)
  · intro e he
    obtain ⟨sc, _, hok⟩ := remapToInput_leftovers input ptx prefix_ joinGap err b h e he
    rcases hok.2.2.2.1 with h0 | ⟨h0, _⟩
    · exact Or.inl h0
    · right; rw [h0]; simp [tagWords]

/-- **The F16 side condition, on the build**: no untagged part (stored result that was added and still has rows, or
    left-over scaffold) has one of the three tag words as its haplotype. -/
def NoTagWordHaplotype (b : Build) : Prop :=
  (∀ r ∈ b.store, r.added = true → r.o.rows ≠ [] → ¬ truthy r.o.tag = true → r.o.haplotype ∉ tagWords) ∧
  (∀ e ∈ b.extra, e.1.rows ≠ [] → ¬ truthy e.1.tag = true → e.1.haplotype ∉ tagWords)

theorem noClash_of_build (input ptx : List Scaffold) (prefix_ : Str) (joinGap : Option Gap) (err : Int) (b : Build)
    (h : remapToInput input ptx prefix_ joinGap err = .ok b) (hn : NoTagWordHaplotype b) : NoClash (fuseByName b) := by
  obtain ⟨_, ht1, ht2⟩ := build_tags input ptx prefix_ joinGap err b h
  obtain ⟨_, _, _, hd⟩ := fuse_keeps_tag b
  intro i j hi hj hti htj
  have hwi : ((fuseByName b).getD i default).tag ∈ tagWords := by
    rcases hd _ (Pipeline.getD_mem hi) with ⟨r, hr, _, _, e⟩ | ⟨e', he', _, e⟩
    · have e1 : ((fuseByName b).getD i default).tag = r.o.tag := congrArg (·.1) e
      rcases ht1 r hr with h0 | h0
      · rw [e1, h0] at hti; cases hti
      · rw [e1]; exact h0
    · have e1 : ((fuseByName b).getD i default).tag = e'.1.tag := congrArg (·.1) e
      rcases ht2 e' he' with h0 | h0
      · rw [e1, h0] at hti; cases hti
      · rw [e1]; exact h0
  intro heq
  rw [← heq] at hwi
  rcases hd _ (Pipeline.getD_mem hj) with ⟨r, hr, ha, hrows, e⟩ | ⟨e', he', hrows, e⟩
  · have e1 : ((fuseByName b).getD j default).tag = r.o.tag := congrArg (·.1) e
    have e2 : ((fuseByName b).getD j default).haplotype = r.o.haplotype := congrArg (·.2.1) e
    exact hn.1 r hr ha hrows (e1 ▸ htj) (e2 ▸ hwi)
  · have e1 : ((fuseByName b).getD j default).tag = e'.1.tag := congrArg (·.1) e
    have e2 : ((fuseByName b).getD j default).haplotype = e'.1.haplotype := congrArg (·.2.1) e
    exact hn.2 e' he' hrows (e1 ▸ htj) (e2 ▸ hwi)

theorem routeKey_of_truthy {tag hap : Option Str} (h : truthy tag = true) : routeKey tag hap = tag := by
  unfold routeKey; rw [if_pos h]

theorem getElem?_of_map_eq {α β γ} (g : α → γ) (g' : β → γ) (l : List α) (l' : List β) (h : l.map g = l'.map g')
    (i : Nat) (y : β) (hy : l'[i]? = some y) : ∃ x, l[i]? = some x ∧ g x = g' y := by
  have h1 : (l.map g)[i]? = (l'.map g')[i]? := by rw [h]
  simp only [List.getElem?_map, hy, Option.map_some] at h1
  cases hx : l[i]? with
  | none => rw [hx] at h1; cases h1
  | some x => rw [hx] at h1; simp only [Option.map_some, Option.some.injEq] at h1; exact ⟨x, rfl, h1⟩

instance (b : Build) : Decidable (NoTagWordHaplotype b) := by
  unfold NoTagWordHaplotype; infer_instance

/-- whatever `fuseByName` is handed — a stored result or a left-over scaffold — ends up as a block of rows of a scaffold
    with its tag and haplotype, in the assembly `routeKey` names -/
theorem item_routed {input : List Scaffold} {b : Build} {outs : List OutAsm} {stats : Stats}
    (haf : assembliesFused input b = .ok (outs, stats)) {it : Item} (hit : it ∈ fuseItems b) :
    ∃ a ∈ outs, a.key = routeKey it.key.1 it.key.2.1 ∧
      ∃ s ∈ a.scaffolds, s.tag = it.key.1 ∧ s.haplotype = it.key.2.1 ∧ it.rows <:+: s.rows := by
  obtain ⟨s, hs, ht, hinf⟩ := Fuse.fused_of_item hit
  obtain ⟨a, ha, hk, s', hs', hnn⟩ := (assembliesFused_route input b outs stats haf).2.1 s hs
  obtain ⟨q1, q2, q3, -⟩ := noName_fields hnn
  rw [← ht]
  exact ⟨a, ha, hk, s', hs', q2, q3, q1 ▸ hinf⟩

/-- the three parts of the end-to-end routing statement, for the build handed to `assemblies_with_scaffolds_fused` -/
theorem routes_of_build (input : List Scaffold) (b : Build) (outs : List OutAsm) (stats : Stats)
    (haf : assembliesFused input b = .ok (outs, stats)) :
    (outs.map (·.key)).Nodup ∧
    (∀ r ∈ b.store, r.added = true → r.o.rows ≠ [] →
      ∃ a ∈ outs, a.key = routeKey r.o.tag r.o.haplotype ∧
        ∃ s ∈ a.scaffolds, s.tag = r.o.tag ∧ s.haplotype = r.o.haplotype ∧ r.o.toScaffoldRows <:+: s.rows) ∧
    (∀ e ∈ b.extra, e.1.rows ≠ [] →
      ∃ a ∈ outs, a.key = routeKey e.1.tag e.1.haplotype ∧
        ∃ s ∈ a.scaffolds, s.tag = e.1.tag ∧ s.haplotype = e.1.haplotype ∧ e.1.rows <:+: s.rows) ∧
    (∀ a ∈ outs, ∀ s ∈ a.scaffolds, a.key = routeKey s.tag s.haplotype ∧
      ∀ f, Row.frag f ∈ s.rows →
        (∃ r ∈ b.store, r.added = true ∧ r.o.rows ≠ [] ∧ r.o.tag = s.tag ∧ r.o.haplotype = s.haplotype ∧
            Row.frag f ∈ r.o.toScaffoldRows) ∨
        (∃ e ∈ b.extra, e.1.rows ≠ [] ∧ e.1.tag = s.tag ∧ e.1.haplotype = s.haplotype ∧ Row.frag f ∈ e.1.rows)) := by
  obtain ⟨r1, -, r3⟩ := assembliesFused_route input b outs stats haf
  refine ⟨r1, fun r hr ha hrows => item_routed haf (Fuse.mem_fuseItems.2 (.inl ⟨r, hr, ha, hrows, rfl⟩)),
    fun e he hrows => item_routed haf (Fuse.mem_fuseItems.2 (.inr ⟨e, he, hrows, rfl⟩)), fun a ha s' hs' => ?_⟩
  obtain ⟨s, hs, hnn, hk⟩ := r3 a ha s' hs'
  obtain ⟨q1, q2, q3, -⟩ := noName_fields hnn
  refine ⟨by rw [hk, q2, q3], fun f hf => ?_⟩
  rw [q1] at hf
  -- a fragment row of a fused scaffold is a row of a member; the rows put between members are gap rows
  rcases Fuse.fuseByName_row hs hf with ⟨r, hr, hadd, hrows, e, hrow⟩ | ⟨e', he', hrows, e, hrow | ⟨bl, hg⟩⟩ | ⟨g, _, hg⟩
  · have t1 : r.o.tag = s.tag := congrArg (·.1) e
    have t2 : r.o.haplotype = s.haplotype := congrArg (·.2.1) e
    exact .inl ⟨r, hr, hadd, hrows, t1.trans q2.symm, t2.trans q3.symm, hrow⟩
  · have t1 : e'.1.tag = s.tag := congrArg (·.1) e
    have t2 : e'.1.haplotype = s.haplotype := congrArg (·.2.1) e
    exact .inr ⟨e', he', hrows, t1.trans q2.symm, t2.trans q3.symm, hrow⟩
  · obtain ⟨g, hg, _⟩ := C01.gapsBeforeLeftover_rows _ _ _ _ hg
    cases hg
  · cases hg

theorem tagged_item_route (input : List Scaffold) (b : Build) (outs : List OutAsm) (stats : Stats)
    (haf : assembliesFused input b = .ok (outs, stats)) (hnc : NoClash (fuseByName b))
    {it : Item} (hit : it ∈ fuseItems b) (htr : truthy it.key.1 = true) :
    ∃ a ∈ outs, a.key = it.key.1 ∧ a.curated = false ∧ ∃ s ∈ a.scaffolds, it.rows <:+: s.rows := by
  obtain ⟨s, hs, ht, hinf⟩ := Fuse.fused_of_item hit
  have t1 : s.tag = it.key.1 := congrArg (·.1) ht
  rw [← t1] at htr ⊢
  obtain ⟨a, ha, hk, s', hs', hnn⟩ := (assembliesFused_route input b outs stats haf).2.1 s hs
  refine ⟨a, ha, by rw [hk, routeKey_of_truthy htr], ?_, s', hs', (noName_fields hnn).1 ▸ hinf⟩
  rw [assembliesFused_curated input b outs stats haf hnc s hs a ha hk, htr]; rfl

theorem output_fragment_valid (input ptx : List Scaffold) (prefix_ : Str) (joinGap : Option Gap) (err : Int)
    (outs : List OutAsm) (stats : Stats) (hwf : C01.WFInput input)
    (h : remap input ptx prefix_ joinGap err = .ok (outs, stats))
    (a : OutAsm) (ha : a ∈ outs) (s : Scaffold) (hs : s ∈ a.scaffolds) (f : Fragment) (hf : Row.frag f ∈ s.rows) :
    f.start ≤ f.stop := by
  have hkO : f.keyTuple ∈ C01.outputTriples outs := by
    rw [outputTriples_eq]
    exact List.mem_flatMap.mpr ⟨a, ha, List.mem_flatMap.mpr ⟨s, hs, mem_keysOf_of_frag _ _ hf⟩⟩
  exact ((C01.remap_partitions input ptx prefix_ joinGap err outs stats hwf h).2 _ hkO).1

theorem fragment_in_one_assembly (input ptx : List Scaffold) (prefix_ : Str) (joinGap : Option Gap) (err : Int)
    (outs : List OutAsm) (stats : Stats) (hwf : C01.WFInput input)
    (h : remap input ptx prefix_ joinGap err = .ok (outs, stats))
    (a : OutAsm) (ha : a ∈ outs) (s : Scaffold) (hs : s ∈ a.scaffolds) (f : Fragment) (hf : Row.frag f ∈ s.rows) :
    f.start ≤ f.stop ∧
      ∀ a' ∈ outs, ∀ s' ∈ a'.scaffolds, ∀ f', Row.frag f' ∈ s'.rows → f'.name = f.name →
        (∃ x, f.start ≤ x ∧ x ≤ f.stop ∧ f'.start ≤ x ∧ x ≤ f'.stop) → a' = a :=
  ⟨output_fragment_valid input ptx prefix_ joinGap err outs stats hwf h a ha s hs f hf,
   fun a' ha' s' hs' f' hf' hname ⟨x, hx1, hx2, hx3, hx4⟩ =>
    (shared_base_same_assembly input ptx prefix_ joinGap err outs stats hwf h a a' ha ha' s s' hs hs' f f' hf hf'
      hname.symm x ⟨hx1, hx2⟩ ⟨hx3, hx4⟩).symm⟩

end AgpTpf.C09
