/-
  T1c phase 2 / C10 — helper lemmas for the tie between the translated `ChrNamer.new_group`,
  `ChrNamer.check_for_painted_scaffolds_missing_haplotype_tag`, `ChrNamer.check_groups`, `ChrNamer.build_groups` (`Gen/Imp2.lean`)
  and the model's `buildGroups` / `groupsHaveErrors` (`Model/Remap.lean`).

  `check_groups` is three nested loops that only ever raise a flag.  For the build loop the source's variables are a FUNCTION of the
  model's scan state (`encScan`: the groups made so far are the objects `conG g` after the arena the call found, `self.groups` the
  references to them, `group` the last one), and one pass of the translated body on the encoded state is the model's own pass `C10.bgStep`
  (`build_groups_enc`, for every list of entries).  What the pass needs to know of a state — the current group has the namer's haplotypes
  as keys, no original name is `""` — holds of every state the model's scan reaches (`C10.scanState`, `C10.bgStep_scan`); what
  `check_groups`, the sort key and `name_chromosome` need of the groups returned is read off the model's closed form
  `C10.buildGroups_any` (`buildGroups_wf`).
-/
import AgpTpf.Gen.Imp2
import AgpTpf.Proofs.ImpChrGroup
import AgpTpf.Proofs.ImpRef
import AgpTpf.Proofs.C10Build
set_option linter.unusedSimpArgs false
set_option linter.unusedVariables false
namespace AgpTpf.ImpBuildGroups
/-- one haplotype's dictionary `original name → scaffold references`: the source keys are what `Scaffold.original_name` holds
    (`Option Str`), the model's are `Str`.  `some k ↦ k`; a `None` key would map to `[]` (unreachable: `build_groups` raises ValueError
    before it stores a None / empty name — `KeysNonEmpty` says so). -/
def absHapSet (hs : PyRt.HapSet) : List (Str × List Nat) := hs.map (fun e => (e.1.getD [], e.2))

/-- `ChrGroup.data` ↦ the model's `GroupData` -/
def absG (d : PyRt.GData) : GroupData := d.map (fun kv => (kv.1, absHapSet kv.2))


/-- every original-name key of one haplotype dictionary is a NON-EMPTY string -/
def HapKeysNonEmpty (hs : PyRt.HapSet) : Prop := ∀ e ∈ hs, ∃ c r, e.1 = some (c :: r)

/-- every original-name key in `ChrGroup.data` is a NON-EMPTY string (what `build_groups` guarantees: it raises ValueError on a scaffold
    whose `original_name` is None or "") -/
def KeysNonEmpty (d : PyRt.GData) : Prop := ∀ kv ∈ d, HapKeysNonEmpty kv.2

/-- every original-name key in `ChrGroup.data` is a string (not None) -/
def KeysSome (d : PyRt.GData) : Prop := ∀ kv ∈ d, ∀ e ∈ kv.2, ∃ s, e.1 = some s

/-- the scaffold list under every original name is non-empty (`setdefault(name, []).append(scaffold)` creates a list with its first
    element): `scaffolds[name][0]` in `check_groups` does not raise -/
def ListsNonEmpty (d : PyRt.GData) : Prop := ∀ kv ∈ d, ∀ e ∈ kv.2, e.2 ≠ []

/-- some haplotype of the group has a scaffold (`new_group` is always followed by `add_scaffold_to_haplotype`) -/
def NonVoid (d : PyRt.GData) : Prop := ∃ kv ∈ d, kv.2 ≠ []

/-- what `check_groups` needs of a group: its haplotype keys are those of `haplotypes_seen`, in that order; no empty scaffold list -/
structure CheckWf (keys : List Str) (d : PyRt.GData) : Prop where
  keys : d.map (·.1) = keys
  lists : ListsNonEmpty d


end AgpTpf.ImpBuildGroups

/-! the two copies of the abstraction (`ImpChrGroup`, `ImpBuildGroups`) are the same functions -/
namespace AgpTpf.ImpNameChr

theorem absHapSet_eq : ImpBuildGroups.absHapSet = ImpChrGroup.absHapSet := rfl
theorem absG_eq : ImpBuildGroups.absG = ImpChrGroup.absG := rfl
theorem keysSome_iff (d : PyRt.GData) : ImpBuildGroups.KeysSome d ↔ ImpChrGroup.KeysSome d := Iff.rfl
theorem keysNonEmpty_iff (d : PyRt.GData) : ImpBuildGroups.KeysNonEmpty d ↔ ImpChrGroup.KeysNonEmpty d := Iff.rfl

end AgpTpf.ImpNameChr


namespace AgpTpf.ImpBuildGroups
open AgpTpf.C10 (bgStep scanState segGroup segsOf)

theorem absG_conG (g : GroupData) : absG (conG g) = g := ImpChrGroup.absG_conG g

theorem absHapSet_isEmpty (h : PyRt.HapSet) : (absHapSet h).isEmpty = h.isEmpty := by cases h <;> rfl
theorem absHapSet_length (h : PyRt.HapSet) : (absHapSet h).length = h.length := ImpChrGroup.absHapSet_length h

/-- `haplotypes_seen` is a dictionary: distinct keys.  Then `ChrGroup(haplotypes_seen).data` is the encoding of `newGroup keys`.
    (For a LIST with a repeated key the two sides would differ: the source's `data[hap] = {}` keeps one entry, `newGroup` two.) -/
theorem init_eq (hs : List (Str × Bool)) (hnd : (hs.map (·.1)).Nodup) :
    Gen.Imp.ChrGroup___init__ hs = .ok (conG (newGroup (hs.map (·.1)))) := by
  rw [ImpChrGroup.init_nf, ImpChrGroup.foldl_sAdd_nodup _ [] (by simpa using hnd)]
  simp [conG, newGroup, conHapSet]

theorem new_group_eq (heap_g : List PyRt.GData) (refs : List Nat) (hs : List (Str × Bool)) (hnd : (hs.map (·.1)).Nodup) :
    Gen.Imp.ChrNamer_new_group heap_g (some refs) hs
      = .ok (heap_g ++ [conG (newGroup (hs.map (·.1)))], some (refs ++ [heap_g.length]), heap_g.length) := by
  unfold Gen.Imp.ChrNamer_new_group
  rw [init_eq _ hnd]; rfl

theorem ok_bind {α β : Type} (a : α) (k : α → R β) : ((Except.ok a : R α) >>= k) = k a := rfl
theorem error_bind {α β : Type} (e : Err) (k : α → R β) : ((Except.error e : R α) >>= k) = .error e := rfl

/-- `max(len(hap_set) for hap_set in data.values())` -/
def rowCount (d : PyRt.GData) : Int := ((d.map (·.2)).map (fun h => Int.ofNat h.length)).foldl max 0

theorem foldl_max_mem (xs : List Int) (a : Int) : xs.foldl max a = a ∨ xs.foldl max a ∈ xs :=
  List.mem_cons.1 (ImpChrGroup.foldl_max_spec a xs).2

theorem max_count_eq (d : PyRt.GData) (hne : d ≠ []) : Gen.Imp.ChrGroup_max_hap_set_count d = .ok (rowCount d) := by
  unfold Gen.Imp.ChrGroup_max_hap_set_count rowCount
  cases d with
  | nil => exact absurd rfl hne
  | cons kv d =>
    simp only [List.map_cons, PyRt.maxList, ok_bind, List.foldl_cons]
    first | rfl | (congr 2; omega)

theorem rowCount_ge (d : PyRt.GData) (kv : Str × PyRt.HapSet) (h : kv ∈ d) : (kv.2.length : Int) ≤ rowCount d := by
  unfold rowCount
  apply (ImpChrGroup.foldl_max_spec 0 _).1 _ (List.mem_cons_of_mem _ _)
  simp only [List.map_map, List.mem_map, Function.comp_apply]
  exact ⟨kv, h, rfl⟩

theorem rowCount_pos (d : PyRt.GData) (h : NonVoid d) : 0 < rowCount d := by
  obtain ⟨kv, hkv, hne⟩ := h
  have := rowCount_ge d kv hkv
  have : 0 < kv.2.length := List.length_pos_iff.mpr hne
  omega

/-- what the cell `(i, hap)` on row `row` of group `d` adds to the error flag of the table -/
def cellMark (d : PyRt.GData) (row : Int) (ih : Int × Str) : Bool :=
  match dGet? d ih.2 with
  | some (c :: cs) => decide (row < Int.ofNat (c :: cs).length) && (decide (ih.1 = 0) && decide (row > 0))
  | _ => decide (row = 0) && decide (ih.1 = 0)

/-- the error flag one group contributes, as the source computes it -/
def srcGroupErr (keys : List Str) (d : PyRt.GData) : Bool :=
  (PyRt.rangeUp 0 (rowCount d)).any (fun row => (PyRt.enumerate keys).any (cellMark d row))

/-- … and in closed form: the first haplotype has two or more original names, or none while another haplotype has one -/
def srcGroupErr' (d : PyRt.GData) : Bool :=
  match d with
  | [] => false
  | (_, F) :: _ => decide (F.length ≥ 2) || (F.isEmpty && decide (0 < rowCount d))

theorem cellMark_ne_zero (d : PyRt.GData) (row i : Int) (hap : Str) (hi : i ≠ 0) : cellMark d row (i, hap) = false := by
  unfold cellMark
  split <;> simp [hi]

theorem any_enumerateFrom_false (d : PyRt.GData) (row : Int) (ks : List Str) (k : Int) (hk : 1 ≤ k) :
    (PyRt.enumerateFrom k ks).any (cellMark d row) = false := by
  induction ks generalizing k with
  | nil => rfl
  | cons x xs ih =>
    simp only [PyRt.enumerateFrom, List.any_cons, cellMark_ne_zero d row k x (by omega), Bool.false_or]
    exact ih (k + 1) (by omega)

theorem srcGroupErr_eq (keys : List Str) (d : PyRt.GData) (hk : d.map (·.1) = keys) : srcGroupErr keys d = srcGroupErr' d := by
  cases d with
  | nil => subst hk; simp [srcGroupErr, srcGroupErr', PyRt.enumerate, PyRt.enumerateFrom]
  | cons kv rest =>
    obtain ⟨k0, F⟩ := kv
    subst hk
    have hge : (F.length : Int) ≤ rowCount ((k0, F) :: rest) := rowCount_ge _ (k0, F) (by simp)
    simp only [srcGroupErr, srcGroupErr', List.map_cons, PyRt.enumerate, PyRt.enumerateFrom, List.any_cons,
      any_enumerateFrom_false _ _ _ (0 + 1) (by omega), Bool.or_false]
    generalize rowCount ((k0, F) :: rest) = rc at hge ⊢
    have hc : ∀ row, cellMark ((k0, F) :: rest) row (0, k0) =
        match F with
        | [] => decide (row = 0)
        | c :: cs => decide (row < Int.ofNat (c :: cs).length) && decide (row > 0) := by
      intro row
      simp only [cellMark, dGet?, if_true]
      cases F <;> simp
    simp only [hc]
    rw [Bool.eq_iff_iff]
    simp only [List.any_eq_true, PyRt.mem_rangeUp, Bool.or_eq_true, Bool.and_eq_true, decide_eq_true_eq]
    cases F with
    | nil =>
      simp only [List.length_nil, List.isEmpty_nil, decide_eq_true_eq]
      constructor
      · rintro ⟨row, ⟨h0, h1⟩, h2⟩; right; exact ⟨trivial, by omega⟩
      · rintro (h | ⟨_, h⟩)
        · omega
        · exact ⟨0, ⟨by omega, h⟩, rfl⟩
    | cons c cs =>
      simp only [List.length_cons, List.isEmpty_cons, Bool.false_eq_true, false_and, or_false, Bool.and_eq_true, decide_eq_true_eq]
      simp only [List.length_cons] at hge
      constructor
      · rintro ⟨row, ⟨h0, h1⟩, h2, h3⟩
        have : (Int.ofNat (cs.length + 1)) = (cs.length : Int) + 1 := by simp
        omega
      · intro h
        refine ⟨1, ⟨by omega, by omega⟩, ?_, by omega⟩
        have : (Int.ofNat (cs.length + 1)) = (cs.length : Int) + 1 := by simp
        omega

theorem groupsHaveErrors_cons (g : GroupData) (gs : List GroupData) :
    groupsHaveErrors (g :: gs) =
      ((match g with | [] => false | (_, firstSet) :: _ => firstSet.isEmpty || decide (firstSet.length ≥ 2)) || groupsHaveErrors gs) := by
  simp only [groupsHaveErrors, List.any_cons]
  cases g with
  | nil => rfl
  | cons kv g => rfl

/-- on the groups the build loop makes (no group without a scaffold) the model's test is the source's -/
theorem groupsHaveErrors_abs (ds : List PyRt.GData) (h : ∀ d ∈ ds, NonVoid d) :
    groupsHaveErrors (ds.map absG) = ds.any srcGroupErr' := by
  induction ds with
  | nil => rfl
  | cons d ds ih =>
    rw [List.map_cons, groupsHaveErrors_cons, ih (fun d' hd' => h d' (by simp [hd'])), List.any_cons]
    congr 1
    have hp := rowCount_pos d (h d (by simp))
    cases d with
    | nil => rfl
    | cons kv rest =>
      obtain ⟨k0, F⟩ := kv
      simp only [absG, List.map_cons, srcGroupErr', absHapSet_isEmpty, absHapSet_length, hp, decide_true, Bool.and_true]
      exact Bool.or_comm _ _

theorem any_congr_mem {α : Type} (f g : α → Bool) (xs : List α) (h : ∀ x ∈ xs, f x = g x) : xs.any f = xs.any g := by
  induction xs with
  | nil => rfl
  | cons x xs ih => simp only [List.any_cons, h x (by simp), ih (fun y hy => h y (by simp [hy]))]

theorem cell_lookup (hsd : PyRt.HapSet) (hl : ∀ e ∈ hsd, e.2 ≠ []) (row : Int) (h0 : 0 ≤ row) (h1 : row < Int.ofNat hsd.length) :
    ∃ name x xs, pyGet (hsd.map (fun kv => kv.1)) row = .ok name ∧ PyRt.dictGet hsd name = .ok (x :: xs) := by
  have hlt : row < ((hsd.map (fun kv => kv.1)).length : Int) := by simpa using h1
  obtain ⟨name, hpy, hmem⟩ : ∃ x, pyGet (hsd.map (fun kv => kv.1)) row = .ok x ∧ x ∈ hsd.map (fun kv => kv.1) :=
    ⟨_, pyGet_of_nonneg h0 hlt, List.getElem_mem _⟩
  obtain ⟨v, hv, hvm⟩ := dGet?_of_key hsd name hmem
  have := hl _ hvm
  cases v with
  | nil => exact absurd rfl this
  | cons x xs => exact ⟨name, x, xs, hpy, by simp only [PyRt.dictGet, hv]⟩

/-- the translated `check_groups`, exactly: no exception on well-formed groups; the flag is the OR over the groups of `srcGroupErr'` -/
theorem check_groups_exact (heap_b : List Scaffold) (heap_g : List PyRt.GData) (hs : List (Str × Bool)) (refs : List Nat)
    (hne : hs ≠ []) (hwf : ∀ r ∈ refs, CheckWf (hs.map (·.1)) (PyRt.gGet heap_g r)) :
    Gen.Imp.ChrNamer_check_groups heap_b heap_g hs (some refs) = .ok (refs.any (fun r => srcGroupErr' (PyRt.gGet heap_g r))) := by
  unfold Gen.Imp.ChrNamer_check_groups
  simp only [PyRt.forIn_unit _ (fun _ _ => rfl), ok_bind, PyRt.needIter]
  rw [PyRt.forIn_any (fun r => srcGroupErr (hs.map (·.1)) (PyRt.gGet heap_g r))]
  · simp only [ok_bind, Bool.false_or]
    congr 1
    exact any_congr_mem _ _ _ (fun r hr => srcGroupErr_eq _ _ (hwf r hr).keys)
  · intro grp hgrp tbl
    have hw := hwf grp hgrp
    have hdne : PyRt.gGet heap_g grp ≠ [] := by
      intro h
      have := hw.keys
      rw [h] at this
      cases hs with
      | nil => exact hne rfl
      | cons a t => simp at this
    rw [max_count_eq _ hdne]
    simp only [ok_bind]
    rw [PyRt.forIn_any (fun row => (PyRt.enumerate (hs.map (·.1))).any (cellMark (PyRt.gGet heap_g grp) row))]
    · rfl
    · intro row hrow tbl
      rw [PyRt.mem_rangeUp] at hrow
      rw [PyRt.forIn_any (cellMark (PyRt.gGet heap_g grp) row)]
      · rfl
      · rintro ⟨i, hap⟩ _ tbl
        simp only [cellMark]
        cases hg : dGet? (PyRt.gGet heap_g grp) hap with
        | none =>
          simp only [ok_bind]
          by_cases hc : (decide (row = 0) && decide (i = 0)) = true <;> simp [hc, ok_bind]
        | some hsd =>
          cases hsd with
          | nil =>
            simp only [ok_bind]
            by_cases hc : (decide (row = 0) && decide (i = 0)) = true <;> simp [hc, ok_bind]
          | cons c_ cs_ =>
            by_cases hlt : row < Int.ofNat (c_ :: cs_).length
            · obtain ⟨name, x, xs, hpy, hdg⟩ := cell_lookup (c_ :: cs_) (hw.lists _ (dGet?_mem hg)) row hrow.1 hlt
              simp only [hlt, decide_true, if_true, hpy, hdg, ok_bind, pyGet_zero_cons, ImpScaffold.scaffold_fragments_length_tie,
                mapM_pure, ite_self, PyRt.forIn_unit _ (fun _ _ => rfl), Bool.true_and]
              by_cases hc : (decide (i = 0) && decide (row > 0)) = true <;> simp [hc, ok_bind]
            · simp only [hlt, decide_false, Bool.false_eq_true, if_false, ok_bind, Bool.false_and, Bool.or_false]

theorem rowCount_newGroup (keys : List Str) : rowCount (conG (newGroup keys)) = 0 := by
  unfold rowCount conG newGroup
  induction keys with
  | nil => rfl
  | cons k ks ih => simpa [conHapSet] using ih

theorem srcGroupErr'_newGroup (keys : List Str) : srcGroupErr' (conG (newGroup keys)) = false := by
  cases keys with
  | nil => rfl
  | cons k ks =>
    have h0 := rowCount_newGroup (k :: ks)
    simp only [conG, newGroup, List.map_cons] at h0 ⊢
    simp only [srcGroupErr', h0]
    decide

/-- `check_groups` on groups none of which is without a scaffold: the model's `groupsHaveErrors` -/
theorem check_groups_tie (heap_b : List Scaffold) (heap_g : List PyRt.GData) (hs : List (Str × Bool)) (refs : List Nat)
    (hne : hs ≠ [])
    (hwf : ∀ r ∈ refs, CheckWf (hs.map (·.1)) (PyRt.gGet heap_g r))
    (hnv : ∀ r ∈ refs, NonVoid (PyRt.gGet heap_g r)) :
    Gen.Imp.ChrNamer_check_groups heap_b heap_g hs (some refs) = .ok (groupsHaveErrors (refs.map (absG ∘ PyRt.gGet heap_g))) := by
  rw [check_groups_exact heap_b heap_g hs refs hne hwf]
  have : refs.map (absG ∘ PyRt.gGet heap_g) = (refs.map (PyRt.gGet heap_g)).map absG := by simp
  rw [this, groupsHaveErrors_abs, List.any_map]
  · rfl
  · intro d hd
    obtain ⟨r, hr, rfl⟩ := List.mem_map.1 hd
    exact hnv r hr

theorem bsGet_eq (fs : List Scaffold) (i : Nat) : fs.getD i default = PyRt.bsGet fs i := rfl

/-! ### what the scan guarantees of a group, read off the model's closed form -/

/-- the namer's haplotypes as keys, in order; under each at most `n` original names, none of them `""`, none with an empty list of
    scaffolds -/
structure GroupWf (haps : List Str) (n : Nat) (g : GroupData) : Prop where
  keys : g.map (·.1) = haps
  ents : ∀ kv ∈ g, kv.2.length ≤ n ∧ ∀ e ∈ kv.2, e.1 ≠ [] ∧ e.2 ≠ []

/-- some haplotype of the group has a scaffold -/
def NonVoidM (g : GroupData) : Prop := ∃ kv ∈ g, kv.2 ≠ []

/-- the entries of a piece name haplotypes the namer knows and scaffolds that have a Pretext name -/
def SegOk (fs : List Scaffold) (haps : List Str) (seg : List (Str × Nat)) : Prop :=
  ∀ e ∈ seg, e.1 ∈ haps ∧ truthy (fs.getD e.2 default).originalName = true

theorem length_foldl_sAdd {α : Type} [DecidableEq α] (l acc : List α) : (l.foldl sAdd acc).length ≤ acc.length + l.length := by
  induction l generalizing acc with
  | nil => exact Nat.le_refl _
  | cons x l ih =>
    refine Nat.le_trans (ih (sAdd acc x)) ?_
    have : (sAdd acc x).length ≤ acc.length + 1 := by unfold sAdd; split <;> simp
    rw [List.length_cons]; omega

theorem segGroup_wf {fs : List Scaffold} {haps : List Str} (hnd : haps.Nodup) {seg : List (Str × Nat)} (hs : SegOk fs haps seg) :
    GroupWf haps seg.length (segGroup fs haps seg) := by
  rw [C10.segGroup_eq fs haps hnd seg fun e he => (hs e he).1]
  refine ⟨by simp [Function.comp_def], fun kv hkv => ?_⟩
  obtain ⟨h, -, rfl⟩ := List.mem_map.1 hkv
  refine ⟨?_, fun e he => ?_⟩
  · simp only [C10.hapChrs, List.length_map, C10.hapOrigs_eq]
    refine Nat.le_trans (length_foldl_sAdd _ _) ?_
    simp only [List.length_nil, Nat.zero_add, List.length_map, C10.hapEntries]
    exact List.length_filter_le _ _
  · obtain ⟨o, ho, rfl⟩ := List.mem_map.1 he
    obtain ⟨x, hx, -, rfl⟩ := (C10.mem_hapOrigs fs h o seg).1 ho
    refine ⟨fun e0 => ?_, C10.idsOf_ne_nil_of_mem fs h _ seg ho⟩
    rcases C10.truthy_cases (fs.getD x.2 default).originalName with ⟨-, c, r, e1⟩ | ⟨e1, -⟩
    · rw [C10.origOf, e1] at e0; cases e0
    · rw [(hs x hx).2] at e1; cases e1

theorem segGroup_nonVoid (fs : List Scaffold) (haps : List Str) {seg : List (Str × Nat)} (hne : seg ≠ []) :
    NonVoidM (segGroup fs haps seg) := by
  obtain ⟨x, hx⟩ := List.exists_mem_of_ne_nil seg hne
  have hd := C10.dGet_segGroup fs haps x.1 seg
  have hne' : C10.hapChrs fs x.1 seg ≠ [] := fun e => by
    have := C10.hapChrs_isEmpty fs x.1 seg
    rw [e, show seg.any (fun y => decide (y.1 = x.1)) = true from List.any_eq_true.2 ⟨x, hx, by simp⟩] at this
    cases this
  cases hg : dGet? (segGroup fs haps seg) x.1 with
  | none => rw [hg] at hd; exact absurd hd.symm hne'
  | some v => rw [hg] at hd; exact ⟨_, dGet?_mem hg, fun e => hne' (hd ▸ e)⟩

/-- every group `buildGroups` returns -/
theorem buildGroups_wf {fs : List Scaffold} {haps : List Str} {entries : List (Str × Nat)} {gs : List GroupData} (hnd : haps.Nodup)
    (hk : ∀ e ∈ entries, e.1 ∈ haps) (h : buildGroups fs haps entries = .ok gs) :
    ∀ g ∈ gs, GroupWf haps entries.length g ∧ (entries ≠ [] → NonVoidM g) := by
  obtain ⟨hok, hbad⟩ := C10.buildGroups_any fs haps entries
  rcases C10.all_or_some_bad fs entries with hg | hb
  · rw [hok hg] at h
    cases h
    have hcut := C10.segsOf_isCut fs haps entries
    intro g hgm
    obtain ⟨seg, hseg, rfl⟩ := List.mem_map.1 hgm
    have hlen : seg.length ≤ entries.length := hcut.1 ▸ (List.sublist_flatten_of_mem hseg).length_le
    have hw := segGroup_wf hnd (fs := fs) (seg := seg) fun e he => ⟨hk e (hcut.sub seg hseg e he), hg e (hcut.sub seg hseg e he)⟩
    refine ⟨⟨hw.keys, fun kv hkv => ⟨Nat.le_trans (hw.ents kv hkv).1 hlen, (hw.ents kv hkv).2⟩⟩, fun hne => ?_⟩
    rcases hcut.2 with hall | h1
    · exact segGroup_nonVoid fs haps (hall seg hseg)
    · rw [h1] at hcut; exact absurd hcut.1.symm hne
  · rw [hbad hb] at h; cases h

/-- the states the model's scan reaches: a pass on one of them gives another one -/
theorem scan_step {fs : List Scaffold} {haps : List Str} {st st' : GroupScan} {e : Str × Nat} (he : e.1 ∈ haps)
    (h : ∃ G seg, st = scanState fs haps G seg ∧ SegOk fs haps seg) (hs : bgStep fs haps st e = .ok st') :
    ∃ G seg, st' = scanState fs haps G seg ∧ SegOk fs haps seg := by
  obtain ⟨G, seg, rfl, hseg⟩ := h
  have hgood : truthy (fs.getD e.2 default).originalName = true := by
    cases hb : truthy (fs.getD e.2 default).originalName with
    | true => rfl
    | false => rw [C10.bgStep_bad fs haps _ e.1 e.2 hb] at hs; cases hs
  rw [C10.bgStep_scan fs haps G seg e hgood] at hs
  cases hs
  split
  · exact ⟨_, _, rfl, fun x hx => by obtain rfl := List.mem_singleton.1 hx; exact ⟨he, hgood⟩⟩
  · exact ⟨_, _, rfl, fun x hx => (List.mem_append.1 hx).elim (hseg x) fun hx => by
      obtain rfl := List.mem_singleton.1 hx; exact ⟨he, hgood⟩⟩

/-! ### the translated `build_groups` is the model's fold, through the encoding -/

/-- the loop variables of the translated `build_groups` for the model's scan `st`, over an arena that held `heap0` on entry.  The
    translator's order of the tuple (by type, then by name) is `(heap_g, self_groups, last_haplotype, last_orig, group)`: `encScan` and
    `encDec` are the only places that know it. -/
def encScan (heap0 : List PyRt.GData) (st : GroupScan) : List PyRt.GData × Option (List Nat) × Option Str × Option Str × Nat :=
  (heap0 ++ (st.groups ++ [st.cur]).map conG, some (List.range' heap0.length (st.groups.length + 1)), st.lastHap, st.lastOrig,
    heap0.length + st.groups.length)

/-- … and what the `if` block hands on: `(heap_g, self_groups, group)` -/
def encDec (heap0 : List PyRt.GData) (st : GroupScan) : List PyRt.GData × Option (List Nat) × Nat :=
  (heap0 ++ (st.groups ++ [st.cur]).map conG, some (List.range' heap0.length (st.groups.length + 1)), heap0.length + st.groups.length)

/-- the current group is the object allocated last -/
theorem gGet_cur (heap0 : List PyRt.GData) (gs : List GroupData) (cur : GroupData) :
    PyRt.gGet (heap0 ++ (gs ++ [cur]).map conG) (heap0.length + gs.length) = conG cur := by
  have e : heap0 ++ (gs ++ [cur]).map conG = (heap0 ++ gs.map conG) ++ [conG cur] := by simp
  have l : heap0.length + gs.length = (heap0 ++ gs.map conG).length := by simp
  rw [e, l]
  exact Arena.getD_length_snoc _ _ _

theorem gSet_cur (heap0 : List PyRt.GData) (gs : List GroupData) (cur g' : GroupData) :
    PyRt.gSet (heap0 ++ (gs ++ [cur]).map conG) (heap0.length + gs.length) (conG g') = heap0 ++ (gs ++ [g']).map conG := by
  have e : ∀ g, heap0 ++ (gs ++ [g]).map conG = (heap0 ++ gs.map conG) ++ [conG g] := fun g => by simp
  have l : heap0.length + gs.length = (heap0 ++ gs.map conG).length := by simp
  rw [e, e, l, Arena.gSet_eq_modify]
  exact Arena.modify_length_snoc _ _ _

/-- `group = self.new_group()` -/
def pushGroup (haps : List Str) (st : GroupScan) : GroupScan := { st with groups := st.groups ++ [st.cur], cur := newGroup haps }

/-- `self.new_group()` on an encoded state -/
theorem new_group_enc (heap0 : List PyRt.GData) (st : GroupScan) (hs : List (Str × Bool)) (hnd : (hs.map (·.1)).Nodup) :
    Gen.Imp.ChrNamer_new_group (encDec heap0 st).1 (encDec heap0 st).2.1 hs = .ok (encDec heap0 (pushGroup (hs.map (·.1)) st)) := by
  simp only [encDec, new_group_eq _ _ _ hnd, pushGroup, List.length_append, List.length_map, List.length_cons,
    List.length_nil, List.map_append, List.map_cons, List.map_nil, List.append_assoc, List.range'_concat, Nat.one_mul]

theorem singleton_eq : ("Singleton".toList : Str) = sSingleton := String.toList_ofList

theorem check_painted_eq (hs : List (Str × Bool)) :
    Gen.Imp.ChrNamer_check_for_painted_scaffolds_missing_haplotype_tag hs = .ok () := by
  simp [Gen.Imp.ChrNamer_check_for_painted_scaffolds_missing_haplotype_tag]

/-- what the `if` block of one pass hands on to `add_scaffold_to_haplotype`: the variables encode a scan state `m` whose current group
    has the haplotype, and the model's pass ends by adding the scaffold to `m` -/
def AddQ (heap0 : List PyRt.GData) (hap orig : Str) (sid : Nat) (t : List PyRt.GData × Option (List Nat) × Nat) (m' : GroupScan) : Prop :=
  ∃ m, t = encDec heap0 m ∧ hap ∈ m.cur.map (·.1) ∧
    m' = { m with cur := groupAdd m.cur hap orig sid, lastHap := some hap, lastOrig := some orig }

open AgpTpf.ImpFound (Ref ref_map_iff) in
/-- the translated `build_groups`, for every list of entries: the loop is the model's `foldlM bgStep` seen through `encScan`; then
    `check_groups` decides.  One pass is walked through in step with `bgStep`, test by test (`Ref.ite`): where the model starts a new group
    the source has called `new_group`, and both then add the scaffold to the group that is current (`AddQ`). -/
theorem build_groups_enc (heap_b : List Scaffold) (heap_g : List PyRt.GData) (hs : List (Str × Bool)) (entries : List (Str × Nat))
    (hne : hs ≠ []) (hnd : (hs.map (·.1)).Nodup) (hkeys : ∀ e ∈ entries, e.1 ∈ hs.map (·.1)) :
    Gen.Imp.ChrNamer_build_groups heap_b heap_g (some []) hs entries =
      (entries.foldlM (bgStep heap_b (hs.map (·.1))) { groups := [], cur := newGroup (hs.map (·.1)) } >>= fun st =>
        Gen.Imp.ChrNamer_check_groups heap_b (encDec heap_g st).1 hs (encDec heap_g st).2.1 >>= fun t =>
          if t = true then .error .chrNamer else .ok ((encDec heap_g st).1, (encDec heap_g st).2.1)) := by
  unfold Gen.Imp.ChrNamer_build_groups
  obtain ⟨k0, ks, hks⟩ : ∃ k0 ks, hs.map (·.1) = k0 :: ks := by
    cases hs with
    | nil => exact absurd rfl hne
    | cons a t => exact ⟨_, _, rfl⟩
  have hks' : List.map (fun kv => kv.1) hs = k0 :: ks := hks
  have hnd' : (k0 :: ks).Nodup := hks ▸ hnd
  simp only [check_painted_eq, ok_bind, hks', PyRt.unpackHead, new_group_eq _ _ _ hnd, List.nil_append]
  erw [PyRt.forIn_foldlM_inv (encScan heap_g) (fun st => ∃ G seg, st = scanState heap_b (k0 :: ks) G seg ∧ SegOk heap_b (k0 :: ks) seg)
    (bgStep heap_b (k0 :: ks)) ?hP ?hbody { groups := [], cur := newGroup (k0 :: ks) } ⟨[], [], rfl, fun _ h => (nomatch h)⟩]
  case hP => exact fun x hx t t' hp ht => scan_step (hks ▸ hkeys x hx) hp ht
  case hbody =>
    rintro ⟨hap, sid⟩ hx st ⟨G, seg, rfl, hseg⟩
    have hhap : hap ∈ k0 :: ks := hks ▸ hkeys _ hx
    have hw : GroupWf (k0 :: ks) seg.length (scanState heap_b (k0 :: ks) G seg).cur := segGroup_wf hnd' hseg
    generalize scanState heap_b (k0 :: ks) G seg = st at hw ⊢
    obtain ⟨hd, hg, hmem⟩ := dGet?_of_key st.cur hap (hw.keys ▸ hhap)
    refine (ref_map_iff _).1 ?_
    unfold bgStep
    simp only [encScan, bsGet_eq]
    cases ho : (PyRt.bsGet heap_b sid).originalName with
    | none => rfl
    | some o =>
      cases o with
      | nil => rfl
      | cons c r =>
        simp only [Gen.Imp.ChrGroup_haplotype_dict, ok_bind, List.isEmpty_cons, Bool.not_false, if_true, gGet_cur,
          ImpChrGroup.dGet?_conG, pure_bind, hg, Option.map_some, Option.getD_some, ImpChrGroup.conHapSet_isEmpty]
        refine Ref.bind_ok (Q := AddQ heap_g hap (c :: r) sid) ?dec ?add
        case add =>
          rintro _ _ ⟨m, rfl, hk1, rfl⟩
          simp only [encDec, ImpChrGroup.add_scaffold_nf, gGet_cur, ho, ImpChrGroup.gdataAppend_conG _ _ _ _ hk1, ok_bind, gSet_cur]
          exact Ref.ok rfl
        case dec =>
          have same : Ref (AddQ heap_g hap (c :: r) sid) (.ok (encDec heap_g st)) (.ok _) :=
            .ok ⟨st, rfl, hw.keys ▸ hhap, rfl⟩
          -- every joined `if` hands its three variables on as they are
          have join : ∀ {src mdl}, Ref (AddQ heap_g hap (c :: r) sid) src mdl →
              Ref (AddQ heap_g hap (c :: r) sid) (src >>= fun j => .ok (j.1, j.2.1, j.2.2)) mdl :=
            fun h => h.bind_ok fun _ _ h => .ok h
          have new : Ref (AddQ heap_g hap (c :: r) sid)
              (Gen.Imp.ChrNamer_new_group (encDec heap_g st).1 (encDec heap_g st).2.1 hs >>= fun j => .ok (j.1, j.2.1, j.2.2)) (.ok _) :=
            join (by rw [new_group_enc heap_g st hs hnd, hks]
                     exact .ok ⟨_, rfl, by simpa [pushGroup, newGroup, Function.comp_def] using hhap, rfl⟩)
          refine Ref.ite (by simp) (fun _ => join ?_) fun _ => same
          refine Ref.ite (by simp) (fun _ => join ?_) fun _ => join ?_
          · refine Ref.ite decide_eq_true_iff (fun _ => new) fun _ => ?_
            -- `orig != last_orig and "Singleton" in …`: the source computes the flag first, then branches on it
            rw [ite_bind]
            refine Ref.ite decide_eq_true_iff (fun _ => ?_) fun _ => join same
            simp only [ImpChrGroup.original_tags_nf, ImpChrGroup.dGet?_conG, hg, Option.map_some, PyRt.needArg, PyRt.dictGet, ok_bind,
              singleton_eq, bind_assoc, ImpChrGroup.dGet?_conHapSet_opt _ fun e he => ((hw.ents _ hmem).2 e he).1]
            cases dGet? hd (st.lastOrig.getD []) with
            | none => rfl
            | some ids =>
              refine Ref.bind_same fun first _ => ?_
              exact join (Ref.ite Iff.rfl (fun _ => new) fun _ => same)
          · exact Ref.ite decide_eq_true_iff (fun _ => new) fun _ => same
  · cases entries.foldlM (bgStep heap_b (k0 :: ks)) { groups := [], cur := newGroup (k0 :: ks) } <;> rfl

theorem GroupWf.checkWf {haps : List Str} {n : Nat} {g : GroupData} (h : GroupWf haps n g) : CheckWf haps (conG g) := by
  refine ⟨by rw [← h.keys]; simp [conG, Function.comp_def], fun kv hkv e he => ?_⟩
  obtain ⟨kv0, hkv0, rfl⟩ := List.mem_map.1 hkv
  obtain ⟨e0, he0, rfl⟩ := List.mem_map.1 he
  exact ((h.ents kv0 hkv0).2 e0 he0).2

theorem NonVoidM.nonVoid {g : GroupData} (h : NonVoidM g) : NonVoid (conG g) := by
  obtain ⟨kv, hkv, hne⟩ := h
  exact ⟨_, List.mem_map_of_mem hkv, fun e => hne (List.map_eq_nil_iff.1 e)⟩

/-- the objects `build_groups` allocated, read through the references it leaves in `self.groups` -/
theorem map_gGet_new (heap_g : List PyRt.GData) (gs : List GroupData) :
    (List.range' heap_g.length gs.length).map (PyRt.gGet (heap_g ++ gs.map conG)) = gs.map conG := by
  have := Arena.map_getD_range' heap_g (gs.map conG) ([] : PyRt.GData)
  rwa [List.length_map] at this

/-- a reference `build_groups` returned points at the encoding of one of the model's groups -/
theorem gGet_new (heap_g : List PyRt.GData) (gs : List GroupData) (r : Nat) (hr : r ∈ List.range' heap_g.length gs.length) :
    ∃ g ∈ gs, PyRt.gGet (heap_g ++ gs.map conG) r = conG g := by
  have hm := List.mem_map_of_mem (f := PyRt.gGet (heap_g ++ gs.map conG)) hr
  rw [map_gGet_new] at hm
  obtain ⟨g, hg, he⟩ := List.mem_map.1 hm
  exact ⟨g, hg, he.symm⟩

/-- the references `build_groups` leaves in `self.groups`, read through the arena and abstracted, are the model's groups -/
theorem result_abs (heap_g : List PyRt.GData) (gs : List GroupData) :
    (List.range' heap_g.length gs.length).map (absG ∘ PyRt.gGet (heap_g ++ gs.map conG)) = gs := by
  rw [← List.map_map, map_gGet_new, List.map_map]
  exact (List.map_congr_left fun g _ => absG_conG g).trans (List.map_id gs)

theorem build_groups_tie (heap_b : List Scaffold) (heap_g : List PyRt.GData) (hs : List (Str × Bool)) (entries : List (Str × Nat))
    (hne : hs ≠ []) (hnd : (hs.map (·.1)).Nodup) (hent : entries ≠ []) (hkeys : ∀ e ∈ entries, e.1 ∈ hs.map (·.1)) :
    Gen.Imp.ChrNamer_build_groups heap_b heap_g (some []) hs entries =
      match buildGroups heap_b (hs.map (·.1)) entries with
      | .error e => .error e
      | .ok gs =>
        if groupsHaveErrors gs = true then .error .chrNamer
        else .ok (heap_g ++ gs.map conG, some (List.range' heap_g.length gs.length)) := by
  rw [build_groups_enc _ _ _ _ hne hnd hkeys]
  cases hb : buildGroups heap_b (hs.map (·.1)) entries with
  | error e =>
    rw [C10.buildGroups_eq] at hb
    cases hf : entries.foldlM (bgStep heap_b (hs.map (·.1))) { groups := [], cur := newGroup (hs.map (·.1)) } with
    | error e' => rw [hf] at hb; cases hb; rfl
    | ok st => rw [hf] at hb; cases hb
  | ok gs =>
    have hwf := buildGroups_wf hnd hkeys hb
    rw [C10.buildGroups_eq] at hb
    obtain ⟨st, hf, hb⟩ := bind_eq_ok.1 hb
    cases hb
    have hget := fun r hr => gGet_new heap_g (st.groups ++ [st.cur]) r hr
    have hl : st.groups.length + 1 = (st.groups ++ [st.cur]).length := by simp
    simp only [hf, ok_bind, encDec, hl]
    rw [check_groups_tie heap_b _ hs _ hne
      (fun r hr => by obtain ⟨g, hg, e⟩ := hget r hr; rw [e]; exact (hwf g hg).1.checkWf)
      (fun r hr => by obtain ⟨g, hg, e⟩ := hget r hr; rw [e]; exact ((hwf g hg).2 hent).nonVoid),
      result_abs]
    rfl

/-- the input on which the two sides DIFFER: no scaffold was added (`entries = []`) although `haplotypes_seen` is not empty.  The source
    makes one empty ChrGroup and `check_groups` marks nothing (`max_hap_set_count() = 0`, no row is rendered): `build_groups` returns.  The
    model's `groupsHaveErrors` flags the empty first haplotype: `ChrNamerError`.  Unreachable: `add_scaffold` fills both attributes at once. -/
theorem build_groups_no_entries (heap_b : List Scaffold) (heap_g : List PyRt.GData) (hs : List (Str × Bool))
    (hne : hs ≠ []) (hnd : (hs.map (·.1)).Nodup) :
    Gen.Imp.ChrNamer_build_groups heap_b heap_g (some []) hs [] =
      .ok (heap_g ++ [conG (newGroup (hs.map (·.1)))], some [heap_g.length]) ∧
    (buildGroups heap_b (hs.map (·.1)) [] >>= fun gs => if groupsHaveErrors gs = true then throw Err.chrNamer else pure gs)
      = .error .chrNamer := by
  constructor
  · rw [build_groups_enc heap_b heap_g hs [] hne hnd (fun _ h => (nomatch h))]
    simp only [List.foldlM_nil, pure_eq_ok, ok_bind, encDec, List.nil_append, List.map_cons, List.map_nil, List.length_nil]
    have hg := gGet_cur heap_g [] (newGroup (hs.map (·.1)))
    simp only [List.nil_append, List.map_cons, List.map_nil, List.length_nil, Nat.add_zero] at hg
    rw [show List.range' heap_g.length (0 + 1) = [heap_g.length] from rfl, check_groups_exact heap_b _ hs [heap_g.length] hne]
    · simp only [List.any_cons, List.any_nil, Bool.or_false, hg, srcGroupErr'_newGroup]
      rfl
    · intro r hr
      obtain rfl := List.mem_singleton.1 hr
      rw [hg]
      exact ⟨by simp [conG, newGroup, Function.comp_def], fun kv hkv e he => by
        obtain ⟨kv0, hkv0, rfl⟩ := List.mem_map.1 hkv
        obtain ⟨h, -, rfl⟩ := List.mem_map.1 hkv0
        cases he⟩
  · cases hs with
    | nil => exact absurd rfl hne
    | cons a t => rfl

end AgpTpf.ImpBuildGroups
