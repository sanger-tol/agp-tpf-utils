/-
  Helper lemmas for `Properties/C02Imp.lean`: the translated Python source of the overhang resolver
  (`Gen.Imp.StartOverhangPremise_*`, `Gen.Imp.EndOverhangPremise_*`, `Gen.Imp.OverhangResolver_add_overhang_premise`,
  `Gen.Imp.OverhangResolver_make_fixes_imp`) against the hand-written model (`Model/Remap.lean`: `Premise.*`, `addPremise`,
  `sortPremsByDelta`, `fixOne`, `resolverRound`).

  None of the proofs mentions a generated sub-term literally: the generated definitions are unfolded by name and the goals are
  closed by case analysis on the model-level quantities (`p.baitOverlap store`, `sortPremsByDelta store ps`, …) followed by `simp`.
-/
import AgpTpf.Proofs.ImpOverlap
import AgpTpf.Proofs.Lib.Pipeline
set_option linter.unusedSimpArgs false
set_option linter.unusedVariables false
namespace AgpTpf.ImpResolver
open ImpOverlap

theorem bind_ok_pair {α β : Type} (x : R α) (s : β) :
    (x >>= fun t => (Except.ok (s, t) : R (β × α))) = x.map (fun v => (s, v)) := by
  cases x <;> rfl

theorem forIn_of_next {α σ ρ : Type} (f : σ → α → R σ) (body : α → σ → R (PyRt.Ctl σ ρ))
    (h : ∀ x s, body x s = (f s x).map PyRt.Ctl.next) :
    ∀ (xs : List α) (s : σ), PyRt.forIn xs s body = (xs.foldlM f s).map PyRt.Done.fell :=
  fun _ s => PyRt.forIn_foldlM f (fun x _ => h x) s

theorem foldlM_pair {α σ τ : Type} (c : τ) (f : σ → α → R σ) (g : τ × σ → α → R (τ × σ))
    (h : ∀ s x, g (c, s) x = (f s x).map (fun p => (c, p))) :
    ∀ (xs : List α) (s : σ), xs.foldlM g (c, s) = (xs.foldlM f s).map (fun p => (c, p)) := fun xs s =>
  ImpFound.foldlM_enc (fun p => (c, p)) g f xs (fun x _ s => h s x) s

theorem pyGet_neg_one_of_zero {α : Type} {l : List α} {x : α} (h : pyGet l 0 = .ok x) : ∃ y, pyGet l (-1) = .ok y := by
  obtain ⟨t, rfl⟩ := pyGet_zero_ok h
  obtain ⟨y, -, hy⟩ := pyGet_neg_one_of_ne_nil (List.cons_ne_nil x t)
  exact ⟨y, hy⟩

/-! The subclass methods are the branches of the model's dispatching functions. -/

theorem start_bait_overlap (store : List Res) (sid : Nat) (f : Fragment) :
    Gen.Imp.StartOverhangPremise_bait_overlap store sid
      = (Premise.baitOverlap { kind := .start, sid := sid, fragment := f } store).map (fun v => (store, v)) := by
  simp only [Gen.Imp.StartOverhangPremise_bait_overlap, Premise.baitOverlap, bind_ok_pair]

theorem start_overhang_if_applied (store : List Res) (sid : Nat) (f : Fragment) :
    Gen.Imp.StartOverhangPremise_overhang_if_applied store sid
      = (Premise.overhangIfApplied { kind := .start, sid := sid, fragment := f } store).map (fun v => (store, v)) := by
  simp only [Gen.Imp.StartOverhangPremise_overhang_if_applied, Premise.overhangIfApplied, bind_ok_pair]

theorem start_delta (store : List Res) (sid : Nat) (f : Fragment) :
    Gen.Imp.StartOverhangPremise_overhang_error_delta_if_applied store sid
      = (Premise.delta { kind := .start, sid := sid, fragment := f } store).map (fun v => (store, v)) := by
  simp only [Gen.Imp.StartOverhangPremise_overhang_error_delta_if_applied, Premise.delta, Premise.overhangIfApplied, iabs]
  cases OverlapResult.overhangIfStartRemoved (getRes store sid) <;> rfl

theorem start_apply (store : List Res) (sid : Nat) (f : Fragment) :
    Gen.Imp.StartOverhangPremise_apply store sid
      = Premise.apply { kind := .start, sid := sid, fragment := f } store := by
  simp only [Gen.Imp.StartOverhangPremise_apply, Premise.apply, PyRt.updRes, getRes]
  cases OverlapResult.discardStart (store.getD sid default).o <;> rfl

theorem end_bait_overlap (store : List Res) (sid : Nat) (f : Fragment) :
    Gen.Imp.EndOverhangPremise_bait_overlap store sid
      = (Premise.baitOverlap { kind := .stop, sid := sid, fragment := f } store).map (fun v => (store, v)) := by
  simp only [Gen.Imp.EndOverhangPremise_bait_overlap, Premise.baitOverlap, bind_ok_pair]

theorem end_overhang_if_applied (store : List Res) (sid : Nat) (f : Fragment) :
    Gen.Imp.EndOverhangPremise_overhang_if_applied store sid
      = (Premise.overhangIfApplied { kind := .stop, sid := sid, fragment := f } store).map (fun v => (store, v)) := by
  simp only [Gen.Imp.EndOverhangPremise_overhang_if_applied, Premise.overhangIfApplied, bind_ok_pair]

theorem end_delta (store : List Res) (sid : Nat) (f : Fragment) :
    Gen.Imp.EndOverhangPremise_overhang_error_delta_if_applied store sid
      = (Premise.delta { kind := .stop, sid := sid, fragment := f } store).map (fun v => (store, v)) := by
  simp only [Gen.Imp.EndOverhangPremise_overhang_error_delta_if_applied, Premise.delta, Premise.overhangIfApplied, iabs]
  cases OverlapResult.overhangIfEndRemoved (getRes store sid) <;> rfl

theorem end_apply (store : List Res) (sid : Nat) (f : Fragment) :
    Gen.Imp.EndOverhangPremise_apply store sid
      = Premise.apply { kind := .stop, sid := sid, fragment := f } store := by
  simp only [Gen.Imp.EndOverhangPremise_apply, Premise.apply, PyRt.updRes, getRes]
  cases OverlapResult.discardEnd (store.getD sid default).o <;> rfl

/-- NB the model evaluates `rows[-1] is fragment` even when `rows[0] is fragment` holds (the nested `(← …)` of its `do` block is
    lifted in front of the outer `if`), the source only in the `elif`.  No difference is observable: `rows[0]` succeeded, so
    `rows` is not empty and `rows[-1]` succeeds too (`pyGet_neg_one_of_zero`). -/
theorem add_premise_tie (store : List Res) (prems : List (Key × List Premise)) (f : Fragment) (sid : Nat) :
    Gen.Imp.OverhangResolver_add_overhang_premise store prems f sid
      = (addPremise store prems f sid).map (fun p => (store, p)) := by
  simp only [Gen.Imp.OverhangResolver_add_overhang_premise, addPremise, OverlapResult.firstIs, OverlapResult.lastIs,
    rowIsFrag_eq]
  cases h0 : pyGet (getRes store sid).rows 0 with
  | error e => rfl
  | ok r0 =>
    by_cases c0 : OverlapResult.rowIs r0 f = true
    · obtain ⟨y, hy⟩ := pyGet_neg_one_of_zero h0
      simp [bind, Except.bind, Except.map, pure, Except.pure, c0, hy]
    · cases h1 : pyGet (getRes store sid).rows (-1) with
      | error e => simp [bind, Except.bind, Except.map, pure, Except.pure, c0, h1]
      | ok r1 =>
        by_cases c1 : OverlapResult.rowIs r1 f = true
        · simp [bind, Except.bind, Except.map, pure, Except.pure, c0, c1, h1]
        · simp [bind, Except.bind, Except.map, pure, Except.pure, c0, c1, h1]

/-- `sorted(prem_list, key=lambda x: x.overhang_error_delta_if_applied)`, stated for the plain key function; the
    `>>= fun t => .ok t` the translator wraps around the key is removed by `bind_ok` first -/
theorem sortedByM_delta (store : List Res) (ps : List Premise) :
    PyRt.sortedByM (fun (x : Premise) => Premise.delta x store) ps = sortPremsByDelta store ps := by
  unfold PyRt.sortedByM sortPremsByDelta
  rw [map_eq_bind_ok]
  congr 2

theorem sortPremsByDelta_length {store : List Res} {ps sorted : List Premise}
    (h : sortPremsByDelta store ps = .ok sorted) : sorted.length = ps.length :=
  (sortedByKeyM_ok h).1.length_eq

/-- with `prem_count > 1`, `best_to_worst[0]` and `best_to_worst[1]` exist, and the model's `| _ => pure (store, fixes)` branch is dead -/
theorem sorted_two {store : List Res} {ps v : List Premise} (h : sortPremsByDelta store ps = .ok v)
    (hlen : 1 < ps.length) : ∃ bst nxt tl, v = bst :: nxt :: tl := by
  have := sortPremsByDelta_length h
  match v, this with
  | [], h' => simp at h'; omega
  | [_], h' => simp at h'; omega
  | bst :: nxt :: tl, _ => exact ⟨bst, nxt, tl, rfl⟩

/-- the general rule (`prem_count > 1`), once the tests on the count are decided: by cases on the sorted list (which has a best and a
    next-best element), on whether each of the two improves, and on the application; every case is closed by evaluation -/
local macro "general_rule" ps:term "," store:term "," err:term : tactic => `(tactic| (
  rcases hs : sortPremsByDelta $store $ps with es | v
  · rfl
  · obtain ⟨bst, nxt, tl, hv⟩ := sorted_two hs (by simp)
    subst hv
    simp only [pyGet_zero_cons, pyGet_one_cons, ok_bind]
    rcases Premise.improves bst $store $err with e | _ | _
    · rfl
    · rfl
    · rcases Premise.improves nxt $store $err with e | _ | _
      · rfl
      · cases Premise.apply bst $store <;> rfl
      · rfl))

/-- one pass through the body of `for prem_list in self.premises_by_fragment_key.values():` is `fixOne`, the whole loop the fold -/
theorem make_fixes_tie (store : List Res) (prems : List (Key × List Premise)) (err : Int) :
    Gen.Imp.OverhangResolver_make_fixes_imp store prems err = (prems.map (·.2)).foldlM (fixOne err) (store, []) := by
  unfold Gen.Imp.OverhangResolver_make_fixes_imp
  try simp only []
  -- the loop carries `store` and `fixes_made` in the translator's (canonical) order, the model's `fixOne` as `(store, fixes)`:
  -- whichever of the two orders the generated tuple has, `PyRt.forIn_foldlM_enc` relates them
  first
    | rw [PyRt.forIn_foldlM_enc (fun p => p) (fixOne err) ?_ (store, [])]
    | rw [PyRt.forIn_foldlM_enc (fun p => (p.2, p.1)) (fixOne err) ?_ (store, [])]
  · cases List.foldlM (fixOne err) (store, []) (prems.map (·.2)) <;> rfl
  · rintro ps - ⟨store, fixes⟩
    simp only [bind_ok, sortedByM_delta]
    -- however the source spells its tests on the count (`prem_count == 2`, `len(prem_list) > 1`, `prem_count >= 2`, …) they are
    -- decided first: comparisons of literals for two premises, linear facts about a count `n ≥ 3` for more (`omega`); what is left
    -- follows the control flow of `fixOne`, one value at a time, so that the goal shrinks at every step
    match ps with
    | [] => simp [fixOne, ok_bind]; rfl
    | [a] => simp [fixOne, ok_bind]; rfl
    | [a, b] =>
      simp only [fixOne, PyRt.unpack2, ok_bind, pure_bind, List.length_cons, List.length_nil, Nat.zero_add, Nat.reduceAdd,
        Int.ofNat_eq_natCast, Int.cast_ofNat_Int, Int.reduceEq, Int.reduceNe, Int.reduceLT, Int.reduceLE, Int.reduceGT, Int.reduceGE,
        Nat.reduceLT, Nat.reduceGT, gt_iff_lt, ge_iff_le, decide_true, decide_false, if_true, if_false, Bool.false_eq_true]
      rcases Premise.baitOverlap a store with ea | fo
      · rfl
      · simp only [ok_bind]
        by_cases h1 : fo < err
        · simp only [h1, decide_true, if_true]
          rcases Premise.baitOverlap b store with eb | so
          · rfl
          · simp only [ok_bind]
            by_cases h2 : so < err
            · simp only [h2, decide_true, if_true]
              by_cases h3 : fo < so
              · simp only [h3, decide_true, if_true]
                cases Premise.apply a store <;> rfl
              · simp only [h3, decide_false, if_false, Bool.false_eq_true]
                cases Premise.apply b store <;> rfl
            · simp only [h2, decide_false, if_false, Bool.false_eq_true]
              general_rule [a, b], store, err
        · simp only [h1, decide_false, if_false, Bool.false_eq_true, ok_bind]
          general_rule [a, b], store, err
    | a :: b :: c :: r =>
      have hl : (a :: b :: c :: r).length > 1 := by simp only [List.length_cons]; omega
      obtain ⟨n, hn, h3⟩ : ∃ n : Int, Int.ofNat (a :: b :: c :: r).length = n ∧ 3 ≤ n :=
        ⟨_, rfl, by simp only [List.length_cons, Int.ofNat_eq_natCast]; omega⟩
      simp only [fixOne, pure_bind, if_pos hl, hn]
      simp (disch := omega) only [if_pos, if_neg, decide_eq_true_eq, ok_bind]
      general_rule (a :: b :: c :: r), store, err

/-- the invariant of `premises_by_fragment_key`: `setdefault(fk, []).append(premise)` never leaves an empty list -/
def AllNonempty (prems : List (Key × List Premise)) : Prop := ∀ kv ∈ prems, kv.2 ≠ []

theorem addPremise_nonempty {store : List Res} {prems prems' : List (Key × List Premise)} {f : Fragment} {sid : Nat}
    (h : AllNonempty prems) (h' : addPremise store prems f sid = .ok prems') : AllNonempty prems' := by
  rw [Pipeline.addPremise_eq] at h'
  obtain ⟨c, -, h'⟩ := bind_eq_ok.mp h'
  cases h'
  cases c with
  | none => exact h
  | some p =>
    intro kv hkv
    rcases mem_dSet hkv with hm | rfl
    · exact h kv hm
    · simp

/-- the premise dictionary one resolver round builds: the first statement of `resolverRound` (`Pipeline.roundPremises`) -/
def roundPrems (b : Build) : R (List (Key × List Premise)) :=
  b.multi.foldlM (fun prems k =>
    match dGet? b.found k with
    | none => pure prems
    | some fnd => fnd.scaffolds.foldlM (fun prems sid => addPremise b.store prems fnd.fragment sid) prems) []

/-- the same loop nest calling the translated `add_overhang_premise` (which hands back the store it was given) -/
def roundPremsSrc (b : Build) : R (List Res × List (Key × List Premise)) :=
  b.multi.foldlM (fun sp k =>
    match dGet? b.found k with
    | none => pure sp
    | some fnd => fnd.scaffolds.foldlM
        (fun sp sid => Gen.Imp.OverhangResolver_add_overhang_premise sp.1 sp.2 fnd.fragment sid) sp) (b.store, [])

/-- one resolver round with both resolver methods replaced by their translated source -/
def resolverRoundSrc (b : Build) : R (Option Build) := do
  let (st, prems) ← roundPremsSrc b
  let (store, fixes) ← Gen.Imp.OverhangResolver_make_fixes_imp st prems b.err
  if fixes.isEmpty then pure none
  else do
    let b ← fixes.foldlM applyFixBookkeeping { b with store := store }
    pure (some b)

theorem roundPremsSrc_eq (b : Build) : roundPremsSrc b = (roundPrems b).map (fun p => (b.store, p)) := by
  unfold roundPremsSrc roundPrems
  apply foldlM_pair
  intro prems k
  cases dGet? b.found k with
  | none => rfl
  | some fnd =>
    simp only []
    apply foldlM_pair
    intro prems sid
    exact add_premise_tie b.store prems fnd.fragment sid

theorem roundPrems_nonempty {b : Build} {prems : List (Key × List Premise)} (h : roundPrems b = .ok prems) :
    AllNonempty prems := fun kv hkv =>
  ((Pipeline.roundPremises_filed (Q := fun _ => True) (show Pipeline.roundPremises b = .ok prems from h)
    fun _ _ _ _ _ _ _ _ => trivial).2 kv hkv).1

theorem resolverRoundSrc_eq (b : Build) : resolverRoundSrc b = resolverRound b := by
  rw [Pipeline.resolverRound_eq, resolverRoundSrc, roundPremsSrc_eq]
  show _ = (roundPrems b >>= _)
  cases roundPrems b with
  | error e => rfl
  | ok prems =>
    simp only [Except.map, make_fixes_tie]
    rfl

end AgpTpf.ImpResolver
