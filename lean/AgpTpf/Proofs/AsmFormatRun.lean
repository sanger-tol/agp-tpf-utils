/-
 asm-format glue.  What BOTH readers guarantee about the assembly they return, whatever the input text was: every fragment
 went through `Fragment.__init__` (strand ∈ {0, 1, -1}, start ≤ end), and the number of rows is the number of non-blank,
 non-comment lines.  Then `process_fh` and the file loop of `cli` taken apart.
-/
import AgpTpf.Proofs.C05MapM
import AgpTpf.Proofs.C06Cols
import AgpTpf.Model.AsmFormat
import AgpTpf.Proofs.C05Agp
import AgpTpf.Proofs.C05Tpf
namespace AgpTpf.AsmFormat
open AgpTpf AgpTpf.C05 AgpTpf.C06

def RowsParsed (scs : List Scaffold) : Prop := ∀ s ∈ scs, ∀ r ∈ s.rows, RowParsed r

theorem parseFh_ok {inFmt : Fmt} {n : Str} {lines : List Str} {asm : Assembly} (h : parseFh inFmt n lines = .ok asm) :
    ∃ (D : Dialect) (a : Assembly), D.parse lines = .ok a ∧ asm = { a with name := n } := by
  unfold parseFh at h
  cases inFmt with
  | AGP => obtain ⟨a, ha, h⟩ := bind_eq_ok.1 h; exact ⟨agp, a, ha, (Except.ok.inj h).symm⟩
  | TPF => obtain ⟨a, ha, h⟩ := bind_eq_ok.1 h; exact ⟨tpf, a, ha, (Except.ok.inj h).symm⟩
  | FASTA => cases h

theorem parseFh_invariant (P : ParseState → Prop) (h0 : P {})
    (hsw : ∀ st name, P st → P (st.switchScaffold name))
    (hadd : ∀ st r st', RowParsed r → P st → st.addRow r = .ok st' → P st')
    (hoid : ∀ st n, P st → P { st with nextOid := n })
    (hhdr : ∀ st line t, headerText line = some t → P st → P { st with header := st.header ++ [t] })
    {inFmt : Fmt} {n : Str} {lines : List Str} {asm : Assembly} (h : parseFh inFmt n lines = .ok asm) :
    ∃ st, P st ∧ asm.header = st.header ∧ asm.scaffolds = st.scaffolds := by
  obtain ⟨D, a, ha, rfl⟩ := parseFh_ok h
  obtain ⟨st, hst, ha⟩ := bind_eq_ok.1 ha
  cases ha
  refine ⟨st, foldlM_inv P hst h0 (fun s line _ s' hs hl => ?_), rfl, rfl⟩
  rcases readLine_ok D.skip_hash hl with ⟨_, rfl | ⟨t, ht, rfl⟩⟩ | ⟨_, hd⟩
  · exact hs
  · exact hhdr _ _ _ ht hs
  · obtain ⟨st0, r, st'', k, h1, hr, ha, rfl⟩ := D.fields_step _ _ _ hd
    rcases h1 with rfl | ⟨name, rfl⟩
    · exact hoid _ _ (hadd _ _ _ hr hs ha)
    · exact hoid _ _ (hadd _ _ _ hr (hsw _ _ hs) ha)

theorem switchScaffold_rowsParsed (st : ParseState) (name : Str) (h : RowsParsed st.scaffolds) :
    RowsParsed (st.switchScaffold name).scaffolds := by
  unfold ParseState.switchScaffold
  by_cases hn : name ≠ st.currentName
  · rw [if_pos hn]
    intro s hs r hr
    simp only [List.mem_append, List.mem_singleton] at hs
    rcases hs with hs | rfl
    · exact h s hs r hr
    · simp at hr
  · rw [if_neg hn]; exact h

theorem addRow_rowsParsed {st : ParseState} {r : Row} {st' : ParseState} (h : RowsParsed st.scaffolds)
    (hr : RowParsed r) (ha : st.addRow r = .ok st') : RowsParsed st'.scaffolds := by
  obtain ⟨_, pre, sc, h1, h2⟩ := addRow_ok ha
  subst h2
  intro s hs x hx
  simp only [List.mem_append, List.mem_singleton] at hs
  rcases hs with hs | rfl
  · exact h s (by rw [h1]; simp [hs]) x hx
  · simp only [List.mem_append, List.mem_singleton] at hx
    rcases hx with hx | rfl
    · exact h sc (by rw [h1]; simp) x hx
    · exact hr

theorem parseFh_rowsParsed {inFmt : Fmt} {n : Str} {lines : List Str} {asm : Assembly}
    (h : parseFh inFmt n lines = .ok asm) : RowsParsed asm.scaffolds := by
  obtain ⟨st, hst, -, e⟩ := parseFh_invariant (fun st => RowsParsed st.scaffolds) (fun _ hs => nomatch hs)
    switchScaffold_rowsParsed (fun _ _ _ hr hs ha => addRow_rowsParsed hs hr ha) (fun _ _ hs => hs) (fun _ _ _ _ hs => hs) h
  rw [e]; exact hst

def isDataLine (l : Str) : Bool := !(isBlankLine l || startsWith ['#'] l)

theorem isDataLine_false_iff (l : Str) : isDataLine l = false ↔ (isBlankLine l = true ∨ startsWith ['#'] l = true) := by
  unfold isDataLine
  cases isBlankLine l <;> cases startsWith ['#'] l <;> simp

def asmRows (a : Assembly) : Nat := (a.scaffolds.map (fun s => s.rows.length)).sum

theorem foldlM_rows (D : Dialect) (lines : List Str) (st st' : ParseState) (h : lines.foldlM D.read st = .ok st') :
    C05.totalRows st' = C05.totalRows st + (lines.filter isDataLine).length := by
  induction lines generalizing st with
  | nil => cases h; rfl
  | cons l t ih =>
    rw [List.foldlM_cons] at h
    obtain ⟨st1, h1, h⟩ := bind_eq_ok.1 h
    obtain ⟨hA, hB⟩ := D.one_row_or_error st l st1 h1
    rw [ih st1 h, List.filter_cons]
    cases hd : isDataLine l with
    | false =>
      have e := (hA ((isDataLine_false_iff l).1 hd)).1
      simp only [Bool.false_eq_true, if_false]
      unfold C05.totalRows; rw [e]
    | true =>
      have hn : ¬ (isBlankLine l = true ∨ startsWith ['#'] l = true) := by
        intro hc; rw [(isDataLine_false_iff l).2 hc] at hd; cases hd
      rw [(hB hn).2.1, if_pos rfl, List.length_cons]; omega

theorem parseFh_rows {inFmt : Fmt} {n : Str} {lines : List Str} {asm : Assembly}
    (h : parseFh inFmt n lines = .ok asm) : asmRows asm = (lines.filter isDataLine).length := by
  obtain ⟨D, a, ha, rfl⟩ := parseFh_ok h
  obtain ⟨st, hst, ha⟩ := bind_eq_ok.1 ha
  cases ha
  simpa [asmRows, C05.totalRows] using foldlM_rows D lines {} st hst

theorem formatAgp_name (a : Assembly) (n : Str) : formatAgp { a with name := n } = formatAgp a := rfl
theorem formatTpf_name (a : Assembly) (n : Str) : formatTpf { a with name := n } = formatTpf a := rfl

theorem parseFh_agp (n : Str) (lines : List Str) (a : Assembly) (h : parseAgp lines = .ok a) :
    parseFh .AGP n lines = .ok { a with name := n } := by
  unfold parseFh; simp only [bind, Except.bind, h]; rfl

theorem parseFh_tpf (n : Str) (lines : List Str) (a : Assembly) (h : parseTpf lines = .ok a) :
    parseFh .TPF n lines = .ok { a with name := n } := by
  unfold parseFh; simp only [bind, Except.bind, h]; rfl

theorem processFh_ok_iff (inFmt : Fmt) (n : Str) (lines : List Str) (outFmt : Option OutFmt) (qc : Bool)
    (text : Str) (pairs : List OvPair) :
    processFh inFmt n lines outFmt qc = .ok (text, pairs) ↔
      ∃ asm, parseFh inFmt n lines = .ok asm ∧ pairs = (if qc then findOverlappingFragments asm else []) ∧
        writeFh asm outFmt = .ok text := by
  unfold processFh
  constructor
  · intro h
    obtain ⟨asm, hp, h⟩ := bind_eq_ok.1 h
    obtain ⟨t, hw, h⟩ := bind_eq_ok.1 h
    cases h
    exact ⟨asm, hp, rfl, hw⟩
  · rintro ⟨asm, hp, rfl, hw⟩
    rw [hp, ok_bind, hw]
    rfl

theorem writeFh_dialect (a : Assembly) {outFmt : Option OutFmt} (h : outFmt = some .AGP ∨ outFmt = some .TPF) :
    ∃ D : Dialect, writeFh a outFmt = (D.format a).map List.flatten := by
  rcases h with rfl | rfl
  · exact ⟨agp, (map_eq_bind_ok (formatAgp a) List.flatten).symm⟩
  · exact ⟨tpf, (map_eq_bind_ok (formatTpf a) List.flatten).symm⟩

/-- every fragment went through `Fragment.__init__`, so both writers know its strand -/
theorem writeFh_parsed_ok {inFmt : Fmt} {n : Str} {lines : List Str} {asm : Assembly}
    (h : parseFh inFmt n lines = .ok asm) (outFmt : OutFmt) : ∃ text, writeFh asm (some outFmt) = .ok text := by
  have hp := parseFh_rowsParsed h
  have key : ∀ fo, fo = some .AGP ∨ fo = some .TPF → ∃ text, writeFh asm fo = .ok text := fun fo ho => by
    obtain ⟨D, hD⟩ := writeFh_dialect asm ho
    obtain ⟨ls, hls⟩ := D.format_ok asm fun s hs r hr => (hp s hs r hr).strandOk
    exact ⟨_, by rw [hD, hls]; rfl⟩
  cases outFmt with
  | AGP => exact key _ (.inl rfl)
  | TPF => exact key _ (.inr rfl)
  | STR => exact ⟨_, rfl⟩
  | REPR => exact ⟨_, rfl⟩

theorem _root_.AgpTpf.C05.Dialect.format_length (D : Dialect) (a : Assembly) (ls : List Str) (h : D.format a = .ok ls) :
    ls.length = a.header.length + asmRows a := by
  obtain ⟨bodies, hb, rfl⟩ := (D.format_ok_iff a ls).1 h
  have := Forall2.length_flatten (fun s : Scaffold => s.rows.length)
    (hb.imp fun s b hb => (D.rowLines_cols s b hb).length_eq.symm)
  simp [this, asmRows]

/-- the arguments `cli` hands to `process_fh` for one input file -/
def fileInFmt (o : AsmFormatOpts) (f : Str × List Str) : Fmt := inFmtSel o.inputFormat (some f.1)
def fileAsmName (o : AsmFormatOpts) (f : Str × List Str) : Str := asmNameOf o.name f.1
/-- the lines read from the file: none if it is the (already truncated) output file -/
def fileLinesRead (o : AsmFormatOpts) (f : Str × List Str) : List Str := if o.outputFile = some f.1 then [] else f.2
def processFile (o : AsmFormatOpts) (outFmt : Option OutFmt) (f : Str × List Str) : R (Str × List OvPair) :=
  processFh (fileInFmt o f) (fileAsmName o f) (fileLinesRead o f) outFmt o.qcOverlaps

theorem asmFormatLoop_cons (o : AsmFormatOpts) (outFmt : Option OutFmt) (f : Str × List Str)
    (rest : List (Str × List Str)) (acc : AsmFormatResult) :
    asmFormatLoop o outFmt (f :: rest) acc =
      match processFile o outFmt f with
      | .ok (text, pairs) =>
        asmFormatLoop o outFmt rest ({ acc with written := acc.written ++ text }.addReport (fileAsmName o f) pairs)
      | .error _ =>
        { (acc.addReport (fileAsmName o f)
            (reportBeforeFailure (fileInFmt o f) (fileAsmName o f) (fileLinesRead o f) o.qcOverlaps)) with
          error := some .value } := by
  cases f; rfl

theorem addReport_written (r : AsmFormatResult) (n : Str) (p : List OvPair) : (r.addReport n p).written = r.written := by
  unfold AsmFormatResult.addReport; split <;> rfl
theorem addReport_error (r : AsmFormatResult) (n : Str) (p : List OvPair) : (r.addReport n p).error = r.error := by
  unfold AsmFormatResult.addReport; split <;> rfl
theorem addReport_reports (r : AsmFormatResult) (n : Str) (p : List OvPair) :
    (r.addReport n p).reports = r.reports ++ (if p.isEmpty then [] else [(n, p)]) := by
  unfold AsmFormatResult.addReport; split <;> simp

theorem asmFormatLoop_spec (o : AsmFormatOpts) (outFmt : Option OutFmt) (files : List (Str × List Str))
    (acc : AsmFormatResult) :
    ∃ (k : Nat) (outs : List (Str × List OvPair)),
      Forall2 (fun f out => processFile o outFmt f = .ok out) (files.take k) outs ∧
      (asmFormatLoop o outFmt files acc).written = acc.written ++ (outs.map (·.1)).flatten ∧
      (asmFormatLoop o outFmt files acc).reports.take acc.reports.length = acc.reports ∧
      ((k = files.length ∧ (asmFormatLoop o outFmt files acc).error = acc.error ∧
          (asmFormatLoop o outFmt files acc).reports =
            acc.reports ++ ((files.zip outs).flatMap (fun fo => if fo.2.2.isEmpty then [] else [(fileAsmName o fo.1, fo.2.2)]))) ∨
       (∃ f e, files[k]? = some f ∧ processFile o outFmt f = .error e ∧
          (asmFormatLoop o outFmt files acc).error = some .value)) := by
  induction files generalizing acc with
  | nil => exact ⟨0, [], trivial, by simp [asmFormatLoop], by simp [asmFormatLoop], Or.inl ⟨rfl, rfl, by simp [asmFormatLoop]⟩⟩
  | cons f rest ih =>
    rw [asmFormatLoop_cons]
    cases hp : processFile o outFmt f with
    | error e =>
      refine ⟨0, [], trivial, by simp [addReport_written], ?_, Or.inr ⟨f, e, rfl, hp, rfl⟩⟩
      simp [addReport_reports]
    | ok out =>
      obtain ⟨text, pairs⟩ := out
      simp only
      obtain ⟨k, outs, h1, h2, h3, h4⟩ :=
        ih ({ acc with written := acc.written ++ text }.addReport (fileAsmName o f) pairs)
      refine ⟨k + 1, (text, pairs) :: outs, ⟨hp, h1⟩, ?_, ?_, ?_⟩
      · rw [h2, addReport_written]; simp
      · have := congrArg (List.take acc.reports.length) h3
        rw [List.take_take, addReport_reports] at this
        simp only [List.length_append] at this
        rw [Nat.min_eq_left (by omega)] at this
        rw [this]; simp
      · rcases h4 with ⟨hk, he, hr⟩ | ⟨g, e, hg, hge, he⟩
        · refine Or.inl ⟨by simp [hk], by rw [he, addReport_error], ?_⟩
          rw [hr, addReport_reports]; simp
        · exact Or.inr ⟨g, e, by simpa using hg, hge, he⟩

theorem asmFormatLoop_all_ok (o : AsmFormatOpts) (outFmt : Option OutFmt) (files : List (Str × List Str))
    (outs : List (Str × List OvPair)) (h : Forall2 (fun f out => processFile o outFmt f = .ok out) files outs)
    (acc : AsmFormatResult) :
    (asmFormatLoop o outFmt files acc).written = acc.written ++ (outs.map (·.1)).flatten ∧
    (asmFormatLoop o outFmt files acc).error = acc.error := by
  induction files generalizing acc outs with
  | nil => cases outs with | nil => simp [asmFormatLoop] | cons _ _ => exact h.elim
  | cons f rest ih =>
    cases outs with
    | nil => exact h.elim
    | cons out t =>
      obtain ⟨text, pairs⟩ := out
      rw [asmFormatLoop_cons, h.1]
      simp only
      obtain ⟨e1, e2⟩ := ih t h.2 ({ acc with written := acc.written ++ text }.addReport (fileAsmName o f) pairs)
      rw [e1, e2, addReport_written, addReport_error]
      simp

theorem asmFormat_files (o : AsmFormatOpts) (f : Str × List Str) (rest : List (Str × List Str)) (stdin : List Str) :
    asmFormat o (f :: rest) stdin = asmFormatLoop o (outFmtSel o.format o.outputFile) (f :: rest) {} := rfl

def stdinInFmt (o : AsmFormatOpts) : Fmt := match o.inputFormat with | some f => f | none => .AGP
def stdinAsmName (o : AsmFormatOpts) : Str := if truthy o.name then o.name.getD [] else "stdin".toList

theorem asmFormat_stdin (o : AsmFormatOpts) (stdin : List Str) :
    asmFormat o [] stdin =
      match processFh (stdinInFmt o) (stdinAsmName o) stdin (outFmtSel o.format o.outputFile) o.qcOverlaps with
      | .ok (text, pairs) => ({ written := text } : AsmFormatResult).addReport (stdinAsmName o) pairs
      | .error e =>
        { (({} : AsmFormatResult).addReport (stdinAsmName o)
            (reportBeforeFailure (stdinInFmt o) (stdinAsmName o) stdin o.qcOverlaps)) with error := some e } := rfl

theorem processFh_qc_cases (inFmt : Fmt) (n : Str) (lines : List Str) (outFmt : Option OutFmt) (q q' : Bool) :
    (∃ e, processFh inFmt n lines outFmt q = .error e ∧ processFh inFmt n lines outFmt q' = .error e) ∨
    (∃ t p p', processFh inFmt n lines outFmt q = .ok (t, p) ∧ processFh inFmt n lines outFmt q' = .ok (t, p')) := by
  unfold processFh
  simp only [bind, Except.bind]
  cases parseFh inFmt n lines with
  | error e => exact .inl ⟨e, rfl, rfl⟩
  | ok asm =>
    simp only
    cases writeFh asm outFmt with
    | error e => exact .inl ⟨e, rfl, rfl⟩
    | ok t => exact .inr ⟨t, _, _, rfl, rfl⟩

theorem asmFormatLoop_qc (o : AsmFormatOpts) (q : Bool) (outFmt : Option OutFmt) :
    ∀ (files : List (Str × List Str)) (acc acc' : AsmFormatResult), acc.written = acc'.written → acc.error = acc'.error →
      (asmFormatLoop { o with qcOverlaps := q } outFmt files acc).written = (asmFormatLoop o outFmt files acc').written ∧
      (asmFormatLoop { o with qcOverlaps := q } outFmt files acc).error = (asmFormatLoop o outFmt files acc').error := by
  intro files
  induction files with
  | nil => exact fun _ _ hw he => ⟨hw, he⟩
  | cons g t ih =>
    intro acc acc' hw he
    rw [asmFormatLoop_cons, asmFormatLoop_cons]
    have e1 : processFile { o with qcOverlaps := q } outFmt g =
        processFh (fileInFmt o g) (fileAsmName o g) (fileLinesRead o g) outFmt q := rfl
    have e2 : processFile o outFmt g =
        processFh (fileInFmt o g) (fileAsmName o g) (fileLinesRead o g) outFmt o.qcOverlaps := rfl
    rw [e1, e2]
    rcases processFh_qc_cases (fileInFmt o g) (fileAsmName o g) (fileLinesRead o g) outFmt q o.qcOverlaps
      with ⟨e, h1, h2⟩ | ⟨t1, p, p', h1, h2⟩ <;> rw [h1, h2]
    · exact ⟨by simp only [addReport_written, hw], rfl⟩
    · exact ih _ _ (by simp only [addReport_written, hw]) (by simp only [addReport_error, he])

end AgpTpf.AsmFormat
