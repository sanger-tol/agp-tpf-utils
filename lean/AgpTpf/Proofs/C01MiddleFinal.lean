/-
  C01, the middle of `remap_to_input_assembly` — part 5 (L4): chaining find → resolver → cutting → left-overs:
  the fragments held by the returned build cover every base of every input contig exactly once.
-/
import AgpTpf.Proofs.C01MiddleCut
namespace AgpTpf.C01
open AgpTpf

def extraFrags (extra : List (Scaffold × Option (Fragment × List Gap))) : List Fragment :=
  extra.flatMap (fun e => fragmentsOf e.1.rows)

theorem extraKeys_eq (extra : List (Scaffold × Option (Fragment × List Gap))) :
    extraKeys extra = (extraFrags extra).map Fragment.keyTuple := by
  unfold extraKeys extraFrags keysOf
  rw [List.map_flatMap]

theorem addMissing_spec : ∀ (input : List Scaffold) (b b' : Build), addMissing input b = .ok b' →
    b'.store = b.store ∧ b'.found = b.found ∧
    extraFrags b'.extra = extraFrags b.extra ++ (inputFrags input).filter (fun f => !dHas b.found f.keyTuple)
  | [], b, b', h => by cases h; simp [inputFrags]
  | sc :: rest, b, b', h => by
    rw [Pipeline.addMissing_eq, List.foldlM_cons] at h
    obtain ⟨b1, hb1, h⟩ := bind_eq_ok.mp h
    have hstep : b1.store = b.store ∧ b1.found = b.found ∧
        extraFrags b1.extra = extraFrags b.extra ++ (fragmentsOf sc.rows).filter (fun f => !dHas b.found f.keyTuple) := by
      unfold Pipeline.missingStep at hb1
      obtain ⟨⟨rows, first⟩, hv, hb1⟩ := bind_eq_ok.mp hb1
      have hfr := (missingRows_spec b sc.rows rows first hv).1
      dsimp only at hb1
      split at hb1
      · next hemp =>
        cases hb1
        rw [List.isEmpty_iff.mp hemp] at hfr
        exact ⟨rfl, rfl, by rw [← hfr]; simp [fragmentsOf]⟩
      · obtain ⟨n, _, hb1⟩ := bind_eq_ok.mp hb1
        cases hb1
        exact ⟨rfl, rfl, by simp only [extraFrags, List.flatMap_append, List.flatMap_cons, List.flatMap_nil,
          List.append_nil, hfr]⟩
    obtain ⟨s1, s2, s3⟩ := hstep
    obtain ⟨t1, t2, t3⟩ := addMissing_spec rest b1 b' h
    refine ⟨t1.trans s1, t2.trans s2, ?_⟩
    rw [t3, s3, s2]
    simp only [inputFrags, Scaffold.fragments, List.flatMap_cons, List.filter_append, List.append_assoc]

/-- the build `remap_to_input_assembly` starts from -/
def freshBuild (input : List Scaffold) (prefix_ : Str) (joinGap : Option Gap) (err : Int) : Build :=
  { namer := { autosomePrefix := prefix_ },
    nextOid := (input.flatMap Scaffold.fragments).foldl (fun m f => max m (f.oid + 1)) 0,
    joinGap := joinGap, err := err }

theorem storeFrags_of_core (s1 s2 : List Res) (h : s1.map resCore = s2.map resCore) : storeFrags s1 = storeFrags s2 := by
  have e : ∀ s : List Res, storeFrags s = (s.map resCore).flatMap (fun c => if c.1 then fragmentsOf c.2.1 else []) := by
    intro s
    unfold storeFrags resFrags
    rw [List.flatMap_map]
    rfl
  rw [e s1, e s2, h]

theorem WFInput.cover_count {input} (hwf : WFInput input) {F : Fragment} (hF : F ∈ inputFrags input) {n : Str} {x : Int}
    (hc : covers n x F = true) : (inputFrags input).countP (covers n x) = 1 := by
  have hnd : (inputFrags input).Nodup := List.Pairwise.of_map (·.oid) (fun _ _ hne e => hne (congrArg (·.oid) e)) hwf.2.1
  have : (inputFrags input).countP (covers n x) = (inputFrags input).count F := by
    rw [List.count_eq_countP]
    exact List.countP_congr fun g hg =>
      ⟨fun hcg => by rw [hwf.cover_unique hg hF hcg hc]; exact beq_self_eq_true F, fun he => eq_of_beq he ▸ hc⟩
  rw [this, hnd.count, if_pos hF]

theorem WFInput.countP_covers_and {input} (hwf : WFInput input) {F : Fragment} (hF : F ∈ inputFrags input) {n : Str} {x : Int}
    (hc : covers n x F = true) (p : Fragment → Bool) :
    (inputFrags input).countP (fun a => covers n x a && p a) = if p F then 1 else 0 := by
  have : ∀ g ∈ inputFrags input, (covers n x g && p g) = true ↔ (covers n x g && p F) = true := fun g hg => by
    cases hcg : covers n x g with
    | false => exact Iff.rfl
    | true => rw [hwf.cover_unique hg hF hcg hc]
  rw [List.countP_congr this]
  cases p F <;> simp [hwf.cover_count hF hc]

/-- The heart of C01: for a well-formed input, whenever `remap_to_input_assembly` returns a build, the fragments held
    by the stored results (those appended to the build) together with the left-over scaffolds cover every base of every
    contig exactly as often as the input does (i.e. once where the input has the base, never elsewhere), and each of
    them is a sub-interval, under the same contig name and strand, of a fragment of the input. -/
theorem remapToInput_partition (input ptx : List Scaffold) (prefix_ : Str) (joinGap : Option Gap) (err : Int) (b : Build)
    (hwf : WFInput input) (h : remapToInput input ptx prefix_ joinGap err = .ok b) :
    (∀ n x, (storeFrags b.store ++ extraFrags b.extra).countP (covers n x) = (inputFrags input).countP (covers n x)) ∧
    (∀ g ∈ storeFrags b.store ++ extraFrags b.extra, ∃ F ∈ inputFrags input, PieceOf F g) := by
  obtain ⟨b1, b2, b3, hb1, hb2, hb3, hb4⟩ := Pipeline.remapToInput_ok h
  obtain ⟨hm1, hx1, _, _, _⟩ := reg_after_find_aux input ptx _ b1 ⟨rfl, rfl, rfl⟩ hb1
  have hn1 := (Pipeline.findAssemblyOverlaps_frame hb1).2.2.2.2
  obtain ⟨hm2, _, hn2, hx2, _, _, _, _⟩ := discardOverhanging_mid input hwf _ b1 b2 hm1 hb2
  -- cutting: the ids handed out from here on are above every input object's
  have hoid : ∀ f ∈ inputFrags input, f.oid < b2.nextOid := by
    rw [hn2, hn1]; exact Pipeline.initBuild_oid_lt input prefix_ joinGap err
  obtain ⟨hfrom, _⟩ := cutRemaining_cover hwf hm2 hoid hb3
  obtain ⟨c_frame, c_found, _⟩ := Pipeline.cutRemaining_frame hb3
  obtain ⟨e1, e2, e3⟩ := addMissing_spec input _ b hb4
  simp only at e1 e2 e3
  have hS : storeFrags b.store = storeFrags b3.store := by
    rw [e1]; exact storeFrags_of_core _ _ (renameBySize_core _ _)
  have hE : extraFrags b.extra = (inputFrags input).filter (fun f => !dHas b2.found f.keyTuple) := by
    rw [e3, c_frame.extra, hx2, hx1, c_found]; simp [extraFrags, Pipeline.initBuild]
  have hpieces : ∀ g ∈ storeFrags b.store ++ extraFrags b.extra, ∃ F ∈ inputFrags input, PieceOf F g := by
    intro g hg
    rcases List.mem_append.mp hg with hg | hg
    · exact storeFrags_pieces hfrom g (hS ▸ hg)
    · rw [hE] at hg
      exact ⟨g, (List.mem_filter.mp hg).1, .self (hwf.2.2.2.2 g (List.mem_filter.mp hg).1)⟩
  refine ⟨fun n x => ?_, hpieces⟩
  by_cases hex : ∃ F ∈ inputFrags input, covers n x F = true
  · -- the base belongs to the input contig `F`: one stored row if `F` is registered, one left-over row if not
    obtain ⟨F, hF, hcF⟩ := hex
    rw [List.countP_append, hS, hE, List.countP_filter, cutRemaining_registered hwf hm2 hoid hb3 hF hcF,
      hwf.countP_covers_and hF hcF, hwf.cover_count hF hcF]
    cases dHas b2.found F.keyTuple <;> rfl
  · rw [countP_covers_pieces_zero hpieces hex,
      countP_covers_pieces_zero (fun g hg => ⟨g, hg, .self (hwf.2.2.2.2 g hg)⟩) hex]

end AgpTpf.C01
