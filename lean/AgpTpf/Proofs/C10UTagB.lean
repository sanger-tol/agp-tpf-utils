/-
  C10 uniqueness, part 12: clause 7, second form — "on Contaminant / FalseDuplicate scaffolds the NAME determines
  the haplotype".  In maps without `Primary` tag whose haplotype spellings are case-consistent, the namer's current
  haplotype is EXACTLY the scaffold's haplotype tag, else the haplotype prefix of its first row's name
  (`makeScaffoldName_exact`); if for every Pretext scaffold that may hold tagged pieces this equals the haplotype
  prefix of the scaffold's current name, equal names in the tagged assemblies mean equal haplotypes.
-/
import AgpTpf.Proofs.C10UMain
namespace AgpTpf.C10
open AgpTpf

/-- every haplotype spelling the run can meet: haplotype tags, and haplotype prefixes of fragment names -/
def hapSources (input ptx : List Scaffold) : List Str :=
  (ptx ++ input).flatMap (fun s => s.fragmentTags.filter isHapTag) ++
    (fragNames ptx ++ fragNames input).filterMap hapPrefixOfName

/-- no two spellings differ only in case (`haplotype_lc_dict` is keyed by the lower-cased name and returns the FIRST spelling) -/
abbrev CaseConsistent (S : List Str) : Prop := ∀ a ∈ S, ∀ b ∈ S, lowerStr a = lowerStr b → a = b

abbrev NoPrimaryTag (input ptx : List Scaffold) : Prop := ∀ s ∈ ptx ++ input, sPrimary ∉ s.fragmentTags

/-- the haplotype `make_scaffold_name` computes when nothing interferes: the haplotype tag, else the haplotype prefix of
    the first row's name -/
def hapSrcOf (tags : List Str) (rows : List Row) : Option Str :=
  match tags.find? isHapTag with
  | some t => some t
  | none =>
    match rows.head? with
    | some (.frag f) => hapPrefixOfName f.name
    | _ => none

/-- the names `make_scaffold_name` can choose as current scaffold name: a chromosome-name tag; else the Pretext name if
    painted; else the first row's name -/
def curCands (ps : Scaffold) : List Str :=
  ps.fragmentTags.filter (fun t => isChrNameTag t) ++
    (if ps.fragmentTags.contains sPainted then [ps.name]
     else match ps.rows.head? with
       | some (.frag f) => [f.name]
       | _ => [])

abbrev TaggedPiecesNamed (input ptx : List Scaffold) : Prop :=
  ∀ ps ∈ ptx, mayBeTagged ((ptx ++ input).any hasTarget) ps = true →
    ∀ c ∈ curCands ps, hapSrcOf ps.fragmentTags ps.rows = hapPrefixOfName c ∧ occursIn unlocInfixStr c = false

abbrev TargetLeftoversNamed (input ptx : List Scaffold) : Prop :=
  (ptx ++ input).any hasTarget = true →
    ∀ sc ∈ input, occursIn unlocInfixStr sc.name = false ∧
      ∀ f ∈ sc.fragments, f.tags.all (fun t => t.isEmpty || !isHapTag t) = true ∧
        hapPrefixOfName f.name = hapPrefixOfName sc.name

/-- **U2, tagged assemblies, second form.** -/
structure TaggedNamesGiveHaplotype (input ptx : List Scaffold) : Prop where
  caseConsistent : CaseConsistent (hapSources input ptx)
  noPrimary : NoPrimaryTag input ptx
  pieces : TaggedPiecesNamed input ptx
  leftovers : TargetLeftoversNamed input ptx

theorem taggedNamesGiveHaplotype_iff (input ptx : List Scaffold) :
    TaggedNamesGiveHaplotype input ptx ↔
      CaseConsistent (hapSources input ptx) ∧ NoPrimaryTag input ptx ∧ TaggedPiecesNamed input ptx ∧
      TargetLeftoversNamed input ptx :=
  ⟨fun h => ⟨h.1, h.2, h.3, h.4⟩, fun ⟨a, b, c, d⟩ => ⟨a, b, c, d⟩⟩

instance (input ptx : List Scaffold) : Decidable (TaggedNamesGiveHaplotype input ptx) :=
  decidable_of_iff _ (taggedNamesGiveHaplotype_iff input ptx).symm

end AgpTpf.C10

namespace AgpTpf.C10U
open AgpTpf

theorem unloc_decomp_unique (b b' suf suf' : Str) (hb : C10.occursIn C10.unlocInfixStr b = false)
    (hb' : C10.occursIn C10.unlocInfixStr b' = false) (hs : SufOk suf) (hs' : SufOk suf')
    (e : b ++ suf = b' ++ suf') : b = b' := by
  rcases hs with rfl | ⟨k, rfl⟩ <;> rcases hs' with rfl | ⟨k', rfl⟩
  · simpa using e
  · exfalso
    rw [List.append_nil, unlocSuffix_eq, ← List.append_assoc] at e
    have : C10.occursIn C10.unlocInfixStr b = true := (C10.occursIn_iff _ _).2 ⟨b', natToStr k', e⟩
    rw [hb] at this; cases this
  · exfalso
    rw [List.append_nil, unlocSuffix_eq, ← List.append_assoc] at e
    have : C10.occursIn C10.unlocInfixStr b' = true := (C10.occursIn_iff _ _).2 ⟨b, natToStr k, e.symm⟩
    rw [hb'] at this; cases this
  · rw [unlocSuffix_eq, unlocSuffix_eq] at e
    have er := congrArg List.reverse e
    simp only [List.reverse_append, List.append_assoc] at er
    have hnd : ∀ x : Str, C10.NoDigitHd (C10.unlocInfixStr.reverse ++ x) := by
      intro x c hc
      simp only [C10.unlocInfixStr, List.reverse_cons, List.reverse_nil, List.nil_append, List.cons_append,
        List.head?_cons, Option.some.injEq] at hc
      subst hc; decide
    obtain ⟨_, e2⟩ := span_unique isDigit _ _ _ _ (fun _ hc => isDigit_of_mem_natToStr (List.mem_reverse.1 hc))
      (fun _ hc => isDigit_of_mem_natToStr (List.mem_reverse.1 hc)) (hnd _) (hnd _) er
    exact List.reverse_inj.1 (List.append_cancel_left e2)

/-- the dictionary holds non-empty spellings of `S` under their own lower-cased form, and there is no primary haplotype -/
def NamerExact (S : List Str) (n : Namer) : Prop :=
  (∀ kv ∈ n.haplotypeLc, kv.2 ∈ S ∧ kv.1 = lowerStr kv.2 ∧ kv.2 ≠ []) ∧ n.primaryHaplotype = none

def QNamed (E : Scaffold) : Prop :=
  ∃ base suf, E.name = base ++ suf ∧ SufOk suf ∧ C10.occursIn C10.unlocInfixStr base = false ∧
    E.haplotype = hapPrefixOfName base

def parNamed (S : List Str) : Par :=
  { Q := QNamed, NI := NamerExact S,
    ni_core := fun n n' hs h => by
      obtain ⟨_, _, _, _, s5, s6, _⟩ := hs
      unfold NamerExact; rw [s5, s6]; exact h }

theorem qNamed_inj (E E' : Scaffold) (h : QNamed E) (h' : QNamed E') (hn : E.name = E'.name) :
    E.haplotype = E'.haplotype := by
  obtain ⟨b, suf, e, hs, hb, hh⟩ := h
  obtain ⟨b', suf', e', hs', hb', hh'⟩ := h'
  have := unloc_decomp_unique b b' suf suf' hb hb' hs hs' (by rw [← e, ← e', hn])
  rw [hh, hh', this]

/-- with case-consistent spellings `setdefault(g.lower(), g)` returns `g` -/
theorem dSetDefault_exact {S : List Str} (hcc : C10.CaseConsistent S) {n : Namer} (hE : NamerExact S n) {g : Str}
    (hg : g ∈ S) : (dSetDefault n.haplotypeLc (lowerStr g) g).2 = g := by
  unfold dSetDefault
  cases hx : dGet? n.haplotypeLc (lowerStr g) with
  | none => rfl
  | some w =>
    obtain ⟨hw, hl, _⟩ := hE.1 _ (dGet?_mem hx)
    exact hcc w hw g hg hl.symm

theorem makeScaffoldName_exact (S : List Str) (hcc : C10.CaseConsistent S) (n n' : Namer) (scName : Str)
    (rows : List Row) (tags : List Str) (hne : [] ∉ tags) (hE : NamerExact S n)
    (htags : ∀ t ∈ tags, C17.tagClass t = .hap → t ∈ S) (hprim : sPrimary ∉ tags)
    (hrows : ∀ nm g, firstRowName rows = .ok nm → hapPrefixOfName nm = some g → g ∈ S)
    (h : makeScaffoldName n scName rows tags = .ok n') :
    NamerExact S n' ∧ n'.currentHaplotype = C10.hapSrcOf tags rows ∧
    (tags.find? C10.isHapTag = none → ∃ nm, firstRowName rows = .ok nm) := by
  obtain ⟨src, hsrc, hp, hlc, hcur⟩ :=
    makeScaffoldName_haplotype hprim (hapTags_of_ok hne (fun kv hkv => (hE.1 kv hkv).2.2) h) h
  have hfind : tags.find? C10.isHapTag = (hapTags tags).head? := List.head?_filter.symm
  have hS : src = C10.hapSrcOf tags rows ∧ ∀ g, src = some g → g ∈ S ∧ g ≠ [] := by
    unfold C10.hapSrcOf
    rw [hfind]
    rcases hl : hapTags tags with _ | ⟨t, r⟩ <;> rw [hl] at hsrc
    · obtain ⟨nm, hnm, rfl⟩ := hsrc
      obtain ⟨f, r, rfl, rfl⟩ := firstRowName_ok _ _ hnm
      exact ⟨rfl, fun g hg => ⟨hrows _ g hnm hg, hapPrefixOfName_ne_nil _ g hg⟩⟩
    · have ht := List.mem_filter.1 (hl ▸ List.mem_cons_self : t ∈ hapTags tags)
      refine ⟨hsrc, fun g hg => ?_⟩
      cases hsrc.symm.trans hg
      exact ⟨htags t ht.1 (of_decide_eq_true ht.2), fun e => hne (e ▸ ht.1)⟩
  refine ⟨⟨?_, hp.trans hE.2⟩, ?_, fun hf => ?_⟩
  · rw [hlc]
    cases src with
    | none => exact hE.1
    | some g => exact (dSetDefault_all g hE.1 ⟨(hS.2 g rfl).1, rfl, (hS.2 g rfl).2⟩).1
  · rw [hcur, hE.2, ← hS.1]
    show (src.map _) = src
    cases src with
    | none => rfl
    | some g => exact congrArg some (dSetDefault_exact hcc hE (hS.2 g rfl).1)
  · rw [hfind] at hf
    cases hl : hapTags tags with
    | nil => rw [hl] at hsrc; exact hsrc.imp fun _ h => h.1
    | cons t r => rw [hl] at hf; cases hf

theorem mem_hapSources_tag (input ptx : List Scaffold) (s : Scaffold) (hs : s ∈ ptx ++ input) (t : Str)
    (ht : t ∈ s.fragmentTags) (hc : C17.tagClass t = .hap) : t ∈ C10.hapSources input ptx := by
  unfold C10.hapSources
  refine List.mem_append.2 (Or.inl (List.mem_flatMap.2 ⟨s, hs, List.mem_filter.2 ⟨ht, ?_⟩⟩))
  unfold C10.isHapTag; rw [hc]; decide

theorem mem_hapSources_firstRow {input ptx : List Scaffold} {sc : Scaffold} (hsc : sc ∈ ptx ++ input) {rows : List Row}
    (hsub : ∀ f ∈ fragmentsOf rows, f ∈ sc.fragments) (nm g : Str) (hnm : firstRowName rows = .ok nm)
    (hg : hapPrefixOfName nm = some g) : g ∈ C10.hapSources input ptx := by
  obtain ⟨f, hf, rfl⟩ := firstRowName_mem hnm
  unfold C10.hapSources
  exact List.mem_append.2 (Or.inr (List.mem_filterMap.2 ⟨_, mem_fragNames hsc f (hsub f hf), hg⟩))

theorem ptxCallback_named (input ptx : List Scaffold) (HN : C10.TaggedNamesGiveHaplotype input ptx) :
    PtxCallback (parNamed (C10.hapSources input ptx)) input ptx := by
  intro ps hps n n' hni hfacts hmk
  obtain ⟨hE', hcur, _⟩ := makeScaffoldName_exact _ HN.caseConsistent n n' ps.name ps.rows ps.fragmentTags
    (Scaffold.nil_not_mem_fragmentTags ps) hni
    (fun t ht hc => mem_hapSources_tag input ptx ps (List.mem_append.2 (Or.inl hps)) t ht hc)
    (HN.noPrimary ps (List.mem_append.2 (Or.inl hps)))
    (mem_hapSources_firstRow (List.mem_append.2 (Or.inl hps)) fun _ h => h) hmk
  refine ⟨hE', fun hmay c hc tg suf hsuf => ?_⟩
  obtain ⟨c', hc', hcases⟩ := hfacts.cur
  cases Option.some.inj (hc'.symm.trans hc)
  have hcand : c ∈ C10.curCands ps := by
    unfold C10.curCands
    rcases hcases with ⟨_, hm, hchr⟩ | ⟨_, hn, hpa⟩ | ⟨_, hfr, hnp⟩
    · exact List.mem_append.2 (Or.inl (List.mem_filter.2 ⟨hm, hchr⟩))
    · refine List.mem_append.2 (Or.inr ?_)
      rw [if_pos (by rw [List.contains_iff_mem]; exact hpa)]
      simp [hn]
    · refine List.mem_append.2 (Or.inr ?_)
      rw [if_neg (by rw [List.contains_iff_mem]; exact hnp)]
      obtain ⟨f, r, hr, hf⟩ := firstRowName_ok _ _ hfr
      rw [hr]; simp [hf]
  obtain ⟨h1, h2⟩ := HN.pieces ps hps hmay c hcand
  exact ⟨c, suf, rfl, hsuf, h2, by show n'.currentHaplotype = _; rw [hcur, h1]⟩

theorem leftCallback_named (input ptx : List Scaffold) (HN : C10.TaggedNamesGiveHaplotype input ptx) :
    LeftCallback (parNamed (C10.hapSources input ptx)) input ptx := by
  intro sc hsc rows n n' hni hsub hfacts hmk
  have htagsc : ∀ t ∈ ({ name := sc.name, rows := rows } : Scaffold).fragmentTags, t ∈ sc.fragmentTags :=
    fun t ht => Scaffold.mem_fragmentTags.2 (mem_fragmentTags_of_sub hsub ht)
  have hscmem : sc ∈ ptx ++ input := List.mem_append.2 (Or.inr hsc)
  obtain ⟨hE', hcur, hfirst⟩ := makeScaffoldName_exact _ HN.caseConsistent n n' sc.name rows _
    (Scaffold.nil_not_mem_fragmentTags _) hni
    (fun t ht hc => mem_hapSources_tag input ptx sc hscmem t (htagsc t ht) hc)
    (fun hm => HN.noPrimary sc hscmem (htagsc _ hm)) (mem_hapSources_firstRow hscmem hsub) hmk
  refine ⟨hE', fun htarget => ?_⟩
  obtain ⟨hno, hall⟩ := HN.leftovers htarget sc hsc
  have hfind : ({ name := sc.name, rows := rows } : Scaffold).fragmentTags.find? C10.isHapTag = none := by
    rw [List.find?_eq_none]
    intro t ht
    obtain ⟨f, hf, h1, h2⟩ := mem_fragmentTags_of_sub hsub ht
    have := List.all_eq_true.1 (hall f hf).1 t h1
    simp only [Bool.or_eq_true, List.isEmpty_iff, Bool.not_eq_true'] at this
    rcases this with h | h
    · exact absurd h h2
    · simp [h]
  obtain ⟨nm, hnm⟩ := hfirst hfind
  obtain ⟨f, r, hr, hf⟩ := firstRowName_ok _ _ hnm
  refine ⟨sc.name, [], by simp, Or.inl rfl, hno, ?_⟩
  show n'.currentHaplotype = _
  rw [hcur]
  unfold C10.hapSrcOf
  rw [hfind, hr]
  simp only [List.head?_cons]
  exact (hall f (hsub f (by rw [hr]; simp [fragmentsOf]))).2

theorem remap_unique_named (input ptx : List Scaffold) (p : Str) (jg : Option Gap) (err : Int) (outs : List OutAsm)
    (stats : Stats) (h : remap input ptx p jg err = .ok (outs, stats)) (H : C10.NamesOutsideGenerated input ptx p)
    (HN : C10.TaggedNamesGiveHaplotype input ptx) : ∀ a ∈ outs, (a.scaffolds.map (·.name)).Nodup :=
  fun a ha => remap_names_unique_gen (parNamed (C10.hapSources input ptx)) (fun _ => True)
    (fun _ _ _ => qNamed_inj) input ptx p jg err outs stats h H
    ⟨fun kv hkv => (by cases hkv), rfl⟩ (ptxCallback_named input ptx HN) (leftCallback_named input ptx HN) a ha trivial

end AgpTpf.C10U
