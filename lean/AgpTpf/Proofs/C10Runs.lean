/-
  C10, chromosome numbering: the decomposition of a `(name, id)` list into maximal runs of one name (`groupRuns`,
  the groups `build_groups` returns for one haplotype key), and the loop body of `build_groups` as a named step.
-/
import AgpTpf.Model.Remap
import AgpTpf.Proofs.Lib.Py
namespace AgpTpf.C10
open AgpTpf

abbrev Run := Str × List Nat

def mergeRun (c : Run) : List Run → List Run
  | [] => [c]
  | (o', ids') :: gs => if c.1 = o' then (c.1, c.2 ++ ids') :: gs else c :: (o', ids') :: gs

/-- maximal runs of consecutive `(name, id)` pairs with the same name -/
def groupRuns : List (Str × Nat) → List Run
  | [] => []
  | (o, i) :: r => mergeRun (o, [i]) (groupRuns r)

def flattenRuns (rs : List Run) : List (Str × Nat) := rs.flatMap (fun r => r.2.map (fun i => (r.1, i)))

def AdjDistinct : List Run → Prop
  | [] => True
  | [_] => True
  | a :: b :: r => a.1 ≠ b.1 ∧ AdjDistinct (b :: r)

theorem mergeRun_nil (c : Run) : mergeRun c [] = [c] := rfl
theorem mergeRun_cons (c : Run) (o' : Str) (ids' : List Nat) (gs : List Run) :
    mergeRun c ((o', ids') :: gs) = if c.1 = o' then (c.1, c.2 ++ ids') :: gs else c :: (o', ids') :: gs := rfl

theorem mergeRun_ne_nil (c : Run) (rs : List Run) : mergeRun c rs ≠ [] := by
  cases rs with
  | nil => simp [mergeRun]
  | cons g gs => obtain ⟨o', ids'⟩ := g; rw [mergeRun_cons]; split <;> simp

theorem mergeRun_head (c : Run) (rs : List Run) : ∃ ids t, mergeRun c rs = (c.1, ids) :: t ∧ (c.2 ≠ [] → ids ≠ []) := by
  cases rs with
  | nil => exact ⟨c.2, [], rfl, id⟩
  | cons g gs =>
    obtain ⟨o', ids'⟩ := g
    rw [mergeRun_cons]
    split
    · exact ⟨c.2 ++ ids', gs, rfl, fun h => by simp [h]⟩
    · exact ⟨c.2, (o', ids') :: gs, rfl, id⟩

theorem flatten_mergeRun (c : Run) (rs : List Run) :
    flattenRuns (mergeRun c rs) = c.2.map (fun i => (c.1, i)) ++ flattenRuns rs := by
  cases rs with
  | nil => simp [mergeRun, flattenRuns]
  | cons g gs =>
    obtain ⟨o', ids'⟩ := g
    rw [mergeRun_cons]
    split
    · rename_i e
      simp [flattenRuns, e]
    · simp [flattenRuns]

theorem adj_mergeRun (c : Run) (rs : List Run) (h : AdjDistinct rs) : AdjDistinct (mergeRun c rs) := by
  cases rs with
  | nil => trivial
  | cons g gs =>
    obtain ⟨o', ids'⟩ := g
    rw [mergeRun_cons]
    split
    · rename_i e
      cases gs with
      | nil => trivial
      | cons g2 gs2 => exact ⟨by rw [e]; exact h.1, h.2⟩
    · rename_i e
      exact ⟨e, h⟩

theorem nonempty_mergeRun (c : Run) (rs : List Run) (hc : c.2 ≠ []) (h : ∀ r ∈ rs, r.2 ≠ []) :
    ∀ r ∈ mergeRun c rs, r.2 ≠ [] := by
  cases rs with
  | nil => intro r hr; simp [mergeRun] at hr; subst hr; exact hc
  | cons g gs =>
    obtain ⟨o', ids'⟩ := g
    rw [mergeRun_cons]
    split
    · intro r hr
      rcases List.mem_cons.1 hr with e | hr
      · subst e; simp [hc]
      · exact h r (List.mem_cons_of_mem _ hr)
    · intro r hr
      rcases List.mem_cons.1 hr with e | hr
      · subst e; exact hc
      · exact h r hr

/-- these three facts determine the decomposition into maximal runs -/
theorem groupRuns_spec (l : List (Str × Nat)) :
    flattenRuns (groupRuns l) = l ∧ (∀ r ∈ groupRuns l, r.2 ≠ []) ∧ AdjDistinct (groupRuns l) := by
  induction l with
  | nil => exact ⟨rfl, fun _ h => (by cases h), trivial⟩
  | cons p r ih =>
    obtain ⟨o, i⟩ := p
    unfold groupRuns
    refine ⟨?_, nonempty_mergeRun _ _ (by simp) ih.2.1, adj_mergeRun _ _ ih.2.2⟩
    rw [flatten_mergeRun, ih.1]; rfl

theorem groupRuns_ne_nil (l : List (Str × Nat)) (h : l ≠ []) : groupRuns l ≠ [] := by
  cases l with
  | nil => exact absurd rfl h
  | cons p r => obtain ⟨o, i⟩ := p; exact mergeRun_ne_nil _ _

theorem mergeRun_mergeRun_same (o : Str) (ids : List Nat) (sid : Nat) (X : List Run) :
    mergeRun (o, ids) (mergeRun (o, [sid]) X) = mergeRun (o, ids ++ [sid]) X := by
  cases X with
  | nil => simp [mergeRun]
  | cons g gs =>
    obtain ⟨o', ids'⟩ := g
    by_cases e : o = o'
    · subst e; simp [mergeRun]
    · simp [mergeRun, e]

theorem mergeRun_mergeRun_diff (o o2 : Str) (ids : List Nat) (sid : Nat) (X : List Run) (hne : o2 ≠ o) :
    mergeRun (o, ids) (mergeRun (o2, [sid]) X) = (o, ids) :: mergeRun (o2, [sid]) X := by
  obtain ⟨ids2, t, e, _⟩ := mergeRun_head (o2, [sid]) X
  rw [e]
  simp only [mergeRun]
  rw [if_neg (fun h => hne h.symm)]

theorem foldlM_error_of_bad {α σ : Type} (P : σ → Prop) (good : α → Bool) (err : Err) {f : σ → α → R σ} :
    ∀ (l : List α) (s : σ), P s → (∀ s, ∀ x ∈ l, P s → good x = true → ∃ s', f s x = .ok s' ∧ P s') →
      (∀ s x, good x = false → f s x = .error err) → (∃ x ∈ l, good x = false) → l.foldlM f s = .error err := by
  intro l
  induction l with
  | nil => intro s _ _ _ hb; obtain ⟨x, hx, _⟩ := hb; cases hx
  | cons a r ih =>
    intro s hs hgood hbad hb
    rw [List.foldlM_cons]
    cases hg : good a with
    | false => rw [hbad s a hg]; rfl
    | true =>
      obtain ⟨s', h1, hs'⟩ := hgood s a List.mem_cons_self hs hg
      rw [h1]
      refine ih s' hs' (fun s x hx => hgood s x (List.mem_cons_of_mem _ hx)) hbad ?_
      obtain ⟨x, hx, hxb⟩ := hb
      rcases List.mem_cons.1 hx with rfl | hx
      · rw [hg] at hxb; cases hxb
      · exact ⟨x, hx, hxb⟩

/-- the loop body of `ChrNamer.build_groups` (verbatim from the model) -/
def bgStep (fs : List Scaffold) (haps : List Str) (st : GroupScan) (e : Str × Nat) : R GroupScan := do
    let others := haps.drop 1
    let (hap, sid) := e
    let sc := fs.getD sid default
    let orig ← match sc.originalName with
      | some (c :: r) => pure (c :: r)
      | _ => throw Err.value
    let hd := (dGet? st.cur hap).getD []
    let st ←
      if ¬ hd.isEmpty then
        if ¬ others.isEmpty then
          if some hap ≠ st.lastHap then pure { st with groups := st.groups ++ [st.cur], cur := newGroup haps }
          else if some orig ≠ st.lastOrig then do
            let lo := st.lastOrig.getD []
            match dGet? hd lo with
            | none => throw Err.key
            | some ids =>
              let first ← pyGet ids 0
              let tags := ((fs.getD first default).originalTags).getD []
              if tags.contains sSingleton then pure { st with groups := st.groups ++ [st.cur], cur := newGroup haps }
              else pure st
          else pure st
        else if some orig ≠ st.lastOrig then pure { st with groups := st.groups ++ [st.cur], cur := newGroup haps }
        else pure st
      else pure st
    pure { st with cur := groupAdd st.cur hap orig sid, lastHap := some hap, lastOrig := some orig }

theorem buildGroups_eq (fs : List Scaffold) (haps : List Str) (entries : List (Str × Nat)) :
    buildGroups fs haps entries =
      (entries.foldlM (bgStep fs haps) { groups := [], cur := newGroup haps }) >>= fun st => pure (st.groups ++ [st.cur]) := rfl

/-- Pretext scaffold name of the fused scaffold `sid` (`[]` when absent) -/
def origOf (fs : List Scaffold) (sid : Nat) : Str := ((fs.getD sid default).originalName).getD []

/-- the group `ChrGroup(data={h: {orig: ids}})` -/
def mkGroup (h : Str) (r : Run) : GroupData := [(h, [r])]

theorem truthy_cases (o : Option Str) : (truthy o = true ∧ ∃ c r, o = some (c :: r)) ∨ (truthy o = false ∧ (o = none ∨ o = some [])) := by
  cases o with
  | none => right; exact ⟨rfl, Or.inl rfl⟩
  | some s =>
    cases s with
    | nil => right; exact ⟨rfl, Or.inr rfl⟩
    | cons c r => left; exact ⟨rfl, c, r, rfl⟩

theorem bgStep_bad (fs : List Scaffold) (haps : List Str) (st : GroupScan) (hap : Str) (sid : Nat)
    (hbad : truthy (fs.getD sid default).originalName = false) : bgStep fs haps st (hap, sid) = .error .value := by
  rcases truthy_cases (fs.getD sid default).originalName with ⟨h, _⟩ | ⟨_, h | h⟩
  · rw [h] at hbad; cases hbad
  · unfold bgStep; simp only [h]; rfl
  · unfold bgStep; simp only [h]; rfl

def origPairs (fs : List Scaffold) (entries : List (Str × Nat)) : List (Str × Nat) :=
  entries.map (fun e => (origOf fs e.2, e.2))

theorem all_or_some_bad (fs : List Scaffold) (entries : List (Str × Nat)) :
    (∀ e ∈ entries, truthy (fs.getD e.2 default).originalName = true) ∨
    (∃ e ∈ entries, truthy (fs.getD e.2 default).originalName = false) := by
  by_cases hb : ∃ e ∈ entries, truthy (fs.getD e.2 default).originalName = false
  · exact Or.inr hb
  · exact Or.inl fun e he => Bool.not_eq_false _ ▸ fun ht => hb ⟨e, he, ht⟩

theorem groupsHaveErrors_single (h : Str) (rs : List Run) : groupsHaveErrors (rs.map (mkGroup h)) = false := by
  unfold groupsHaveErrors
  rw [List.any_eq_false]
  intro g hg
  obtain ⟨r, _, rfl⟩ := List.mem_map.1 hg
  simp [mkGroup]

end AgpTpf.C10
