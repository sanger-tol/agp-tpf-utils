/-
  C11: the cut counter of `cut_remaining_overhangs`.
-/
import AgpTpf.Proofs.Lib.Pipeline
import AgpTpf.Proofs.Lib.Py
namespace AgpTpf.C11
open AgpTpf

/-- pieces − 1 for a multiply-found contig key (0 for a key that is not in the index) -/
def cutsOfKey (found : List (Key × Found)) (k : Key) : Int :=
  match dGet? found k with
  | some fnd => (fnd.scaffolds.length : Int) - 1
  | none => 0

theorem cutMulti_cuts {b b' : Build} {k : Key} (h : Pipeline.cutMulti b k = .ok b') :
    b'.cuts = b.cuts + cutsOfKey b.found k ∧ b'.found = b.found := by
  unfold Pipeline.cutMulti at h
  unfold cutsOfKey
  split at h
  · next fnd hk =>
    have f := Pipeline.cutFragments_frame h
    rw [hk]
    exact ⟨f.2.2.2.2, f.2.1⟩
  · next hk =>
    cases h
    rw [hk]
    exact ⟨(Int.add_zero _).symm, rfl⟩

theorem cutRemaining_fold (l : List Key) (b b' : Build) (h : l.foldlM Pipeline.cutMulti b = .ok b') :
    b'.cuts = b.cuts + sumInts (l.map (cutsOfKey b.found)) ∧ b'.found = b.found := by
  induction l generalizing b with
  | nil => cases h; exact ⟨(Int.add_zero _).symm, rfl⟩
  | cons k l ih =>
    rw [List.foldlM_cons] at h
    obtain ⟨b1, hs, h⟩ := bind_eq_ok.1 h
    obtain ⟨c1, f1⟩ := cutMulti_cuts hs
    obtain ⟨c2, f2⟩ := ih b1 h
    rw [f1] at c2
    exact ⟨by rw [c2, c1, List.map_cons, sumInts_cons, Int.add_assoc], f2.trans f1⟩

theorem cutRemaining_cuts (b b' : Build) (h : cutRemaining b = .ok b') :
    b'.cuts = b.cuts + sumInts (b.multi.map (cutsOfKey b.found)) := by
  obtain ⟨b1, hb, rfl⟩ := Pipeline.cutRemaining_ok h
  exact (cutRemaining_fold _ _ _ hb).1

end AgpTpf.C11
