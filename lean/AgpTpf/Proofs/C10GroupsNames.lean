/-
  C10, chromosome numbering: the generated names `<prefix><n><suffix>` are read back uniquely (`chr_name_inj`); the shape
  `<Pretext name> ++ suffix` of the scaffolds handed to `ChrNamer`; position lemma for sorted outputs.
-/
import AgpTpf.Model.Remap
import AgpTpf.Proofs.C10Groups
import AgpTpf.Proofs.C10Runs
import AgpTpf.Proofs.C10GroupsNumber
import AgpTpf.Proofs.C20Names
import AgpTpf.Proofs.Lib.Text
namespace AgpTpf.C10
open AgpTpf

/-- the remainder is empty or starts with a non-digit (same as `C20.NoDigitHead`) -/
def NoDigitHd (s : Str) : Prop := ∀ c, s.head? = some c → isDigit c = false

theorem chr_name_inj (p s s' : Str) (i j : Nat) (hs : NoDigitHd s) (hs' : NoDigitHd s')
    (e : p ++ natToStr i ++ s = p ++ natToStr j ++ s') : i = j ∧ s = s' := by
  rw [List.append_assoc, List.append_assoc] at e
  obtain ⟨e1, e2⟩ := span_unique isDigit _ _ s s' (fun _ => isDigit_of_mem_natToStr) (fun _ => isDigit_of_mem_natToStr) hs hs'
    (List.append_cancel_left e)
  exact ⟨natToStr_inj e1, e2⟩

def unlocSuffix (k : Nat) : Str := ['_', 'u', 'n', 'l', 'o', 'c', '_'] ++ natToStr k

theorem noDigitHd_nil : NoDigitHd [] := by intro c h; cases h
theorem noDigitHd_unloc (k : Nat) : NoDigitHd (unlocSuffix k) := by
  intro c h
  simp [unlocSuffix] at h
  subst h; decide

theorem unlocSuffix_inj (k k' : Nat) (h : unlocSuffix k = unlocSuffix k') : k = k' :=
  natToStr_inj (List.append_cancel_left h)

/-- e.g. every Pretext name `Scaffold_<n>`, because of the `S` -/
theorem not_occurs_unloc (orig : Str) (k : Nat) (c : Char) (hc : c ∈ orig) (hd : isDigit c = false)
    (hu : c ∉ ['_', 'u', 'n', 'l', 'o', 'c']) : occursIn orig (unlocSuffix k) = false := by
  apply occursIn_false_of_mem orig _ c hc
  intro hm
  unfold unlocSuffix at hm
  rcases List.mem_append.1 hm with h | h
  · apply hu
    simp only [List.mem_cons, List.not_mem_nil, or_false] at h ⊢
    rcases h with h | h | h | h | h | h | h <;> simp [h]
  · rw [isDigit_of_mem_natToStr h] at hd; cases hd

/-- the pieces of one Pretext scaffold: name = Pretext name ++ remainder (`[]` for the chromosome itself,
    `_unloc_<k>` for an unloc), the Pretext name does not occur again in the remainder -/
def PieceShape (fs : List Scaffold) (sid : Nat) : Prop :=
  ∃ suf, (fs.getD sid default).name = origOf fs sid ++ suf ∧ NoDigitHd suf ∧ occursIn (origOf fs sid) suf = false

theorem origOf_ne_nil (fs : List Scaffold) (sid : Nat) (h : truthy (fs.getD sid default).originalName = true) :
    origOf fs sid ≠ [] := by
  rcases truthy_cases (fs.getD sid default).originalName with ⟨_, c, r, e⟩ | ⟨e, _⟩
  · unfold origOf; rw [e]; simp
  · rw [e] at h; cases h

theorem renameScaffold_piece (fs : List Scaffold) (sid : Nat) (new : Str)
    (hg : truthy (fs.getD sid default).originalName = true) (suf : Str)
    (hn : (fs.getD sid default).name = origOf fs sid ++ suf) (ho : occursIn (origOf fs sid) suf = false) :
    renameScaffold (origOf fs sid) new (fs.getD sid default) = { fs.getD sid default with name := new ++ suf } := by
  unfold renameScaffold
  rw [hn, replaceAll_prefix_noOcc _ _ (origOf_ne_nil fs sid hg) _ suf ho]

theorem sorted_run_unique (fs : List Scaffold) (entries : List (Str × Nat)) (hnd : (entries.map (·.2)).Nodup)
    (k k' : Nat) (hk : k < (sortedRuns fs (groupRuns (origPairs fs entries))).length)
    (hk' : k' < (sortedRuns fs (groupRuns (origPairs fs entries))).length) (j : Nat)
    (hj : j ∈ ((sortedRuns fs (groupRuns (origPairs fs entries)))[k]).2)
    (hj' : j ∈ ((sortedRuns fs (groupRuns (origPairs fs entries)))[k']).2) : k = k' := by
  have hnd' := sortedRuns_ids_nodup fs entries hnd
  generalize sortedRuns fs (groupRuns (origPairs fs entries)) = sorted at *
  rw [List.Nodup, List.pairwise_flatMap] at hnd'
  have hp := List.pairwise_iff_getElem.1 hnd'.2
  rcases Nat.lt_trichotomy k k' with h | h | h
  · exact absurd rfl (hp k k' hk hk' h j hj j hj')
  · exact h
  · exact absurd rfl (hp k' k hk' hk h j hj' j hj)

theorem sorted_position (out : List Scaffold)
    (hs : out.Pairwise (fun a b => a.rank = b.rank → keyLe (C20.keyOf a.name) (C20.keyOf b.name) = true))
    (i j : Nat) (hi : i < out.length) (hj : j < out.length) (hr : out[i].rank = out[j].rank)
    (hlt : C20.keyLt (C20.keyOf out[i].name) (C20.keyOf out[j].name)) : i < j := by
  have hp := List.pairwise_iff_getElem.1 hs
  rcases Nat.lt_trichotomy i j with h | h | h
  · exact h
  · subst h
    have := C20.keyLe_order.refl (C20.keyOf out[i].name)
    rw [hlt.2] at this; cases this
  · have := hp j i hj hi h hr.symm
    rw [hlt.2] at this; cases this

end AgpTpf.C10
