/-
  C02 (deep cuts), part 0: specification functions.

  * the cut sites (`sites`: one per contig shared by two pieces, in the order `cut_remaining_overhangs` visits them), read
    off the registry `find_assembly_overlaps` builds (`regOf`, Remap/Registry: which contig key is held by which lookup
    results),
  * `cutFragStart` / `cutFragEnd` / `trimStartSpec` / `trimEndSpec` / `cutPiece`: a lookup result with its shared terminal
    contigs trimmed to the bait, by plain arithmetic,
  * `expectedStoreDeep`, `expectedRowsDeep`, `expectedScaffoldsDeep`.
-/
import AgpTpf.Proofs.C02AOut
import AgpTpf.Proofs.Remap.Registry
namespace AgpTpf.C02
open AgpTpf

/-- a contig shared by exactly two pieces: its key, the Fragment object registered for it, the id `a` of the piece that
    ends inside it and the id `b` of the piece that begins inside it (scaffold coordinates: piece `a` ends at `c`, piece
    `b` begins at `c + 1`) -/
structure Site where
  key : Key
  frag : Fragment
  a : Nat
  b : Nat
  deriving DecidableEq, Repr

def pieceAt (ptx : List Scaffold) (i : Nat) : Scaffold × Fragment := (allPieces ptx).getD i (default, default)

def siteOf (ptx : List Scaffold) (found : List (Key × Found)) (k : Key) : Site :=
  match dGet? found k with
  | some fnd =>
    match fnd.scaffolds with
    | [s, t] =>
      if (pieceAt ptx s).2.stop + 1 = (pieceAt ptx t).2.start then ⟨k, fnd.fragment, s, t⟩ else ⟨k, fnd.fragment, t, s⟩
    | _ => ⟨k, fnd.fragment, 0, 0⟩
  | none => ⟨k, default, 0, 0⟩

def sites (input ptx : List Scaffold) : List Site :=
  (sharedKeys input ptx).map (siteOf ptx (regOf input ptx).1)

/-- first object id not used by the input (`BuildAssembly` creates Fragment objects only in `trim_fragment`) -/
def oid0 (input : List Scaffold) : Nat :=
  (input.flatMap Scaffold.fragments).foldl (fun m f => max m (f.oid + 1)) 0

/-- object ids of the two Fragments made at the `j`-th cut site: the holders are visited in contig order, i.e. piece `a`
    first for a forward contig and piece `b` first for a reverse contig -/
def oidA (base : Nat) (x : Site × Nat) : Nat := base + 2 * x.2 + (if x.1.frag.strand = 1 then 0 else 1)
def oidB (base : Nat) (x : Site × Nat) : Nat := base + 2 * x.2 + (if x.1.frag.strand = 1 then 1 else 0)

/-- is the start (resp. end) of lookup result `i` cut at one of the sites `l`?  If so: the id of the new Fragment -/
def startCutIn (base : Nat) (l : List (Site × Nat)) (i : Nat) : Option Nat :=
  (l.find? (fun x => x.1.b = i)).map (oidB base)
def endCutIn (base : Nat) (l : List (Site × Nat)) (i : Nat) : Option Nat :=
  (l.find? (fun x => x.1.a = i)).map (oidA base)

/-- contig `F` loses the `d` bases lying at the scaffold-left side: bases `start … start+d-1` of a forward contig,
    bases `stop-d+1 … stop` of a reverse contig.  The new Fragment carries the tag `Cut`. -/
def cutFragStart (F : Fragment) (d : Int) (oid : Nat) : Fragment :=
  { oid := oid, name := F.name,
    start := if F.strand = 1 then F.start + d else F.start,
    stop := if F.strand = 1 then F.stop else F.stop - d,
    strand := F.strand, tags := [Gen.cutTag] }

/-- contig `F` loses the `d` bases lying at the scaffold-right side -/
def cutFragEnd (F : Fragment) (d : Int) (oid : Nat) : Fragment :=
  { oid := oid, name := F.name,
    start := if F.strand = 1 then F.start else F.start + d,
    stop := if F.strand = 1 then F.stop - d else F.stop,
    strand := F.strand, tags := [Gen.cutTag] }

/-- the first row is cut where the bait begins -/
def trimStartSpec (oid : Nat) (o : OverlapResult) : OverlapResult :=
  match o.rows with
  | .frag F :: r => { o with start := o.bait.start, rows := .frag (cutFragStart F (o.bait.start - o.start) oid) :: r }
  | _ => o

/-- the last row is cut where the bait ends -/
def trimEndSpec (oid : Nat) (o : OverlapResult) : OverlapResult :=
  match o.rows.reverse with
  | .frag F :: r => { o with stop := o.bait.stop, rows := (Row.frag (cutFragEnd F (o.stop - o.bait.stop) oid) :: r).reverse }
  | _ => o

def cutO (sc ec : Option Nat) (o : OverlapResult) : OverlapResult :=
  let o1 := match sc with | some oid => trimStartSpec oid o | none => o
  match ec with | some oid => trimEndSpec oid o1 | none => o1

/-- **the lookup result of piece number `i` after cutting**: its first row trimmed to the bait if that contig is shared
    with the piece in front (this piece is the `b` of a site), its last row trimmed if shared with the piece behind -/
def cutPieceIn (input : List Scaffold) (base : Nat) (l : List (Site × Nat)) (i : Nat) (p : Fragment) : OverlapResult :=
  cutO (startCutIn base l i) (endCutIn base l i) (pieceO input p)

def cutPiece (input ptx : List Scaffold) (i : Nat) (p : Fragment) : OverlapResult :=
  cutPieceIn input (oid0 input) (sites input ptx).zipIdx i p

/-- what the store holds for piece `i` (piece `p` of Pretext scaffold `S`) once the sites `l` have been cut -/
def resDeepIn (input : List Scaffold) (base : Nat) (l : List (Site × Nat)) (x : (Scaffold × Fragment) × Nat) : Res :=
  { o := cutO (startCutIn base l x.2) (endCutIn base l x.2) (labelled x.1.1 (pieceO input x.1.2)), added := true }

def storeDeepIn (input ptx : List Scaffold) (base : Nat) (l : List (Site × Nat)) : List Res :=
  (allPieces ptx).zipIdx.map (resDeepIn input base l)

/-- **the store after `cut_remaining_overhangs`** -/
def expectedStoreDeep (input ptx : List Scaffold) : List Res :=
  storeDeepIn input ptx (oid0 input) (sites input ptx).zipIdx

/-- the pieces of every Pretext scaffold with their store ids -/
def groupsFrom : Nat → List Scaffold → List (Scaffold × List (Fragment × Nat))
  | _, [] => []
  | n, S :: r => (S, S.fragments.zipIdx n) :: groupsFrom (n + S.fragments.length) r

/-- rows of the output scaffold of a Pretext scaffold whose pieces (with ids) are `qs` -/
def expectedRowsDeep (input ptx : List Scaffold) (jg : Gap) (qs : List (Fragment × Nat)) : List Row :=
  qs.foldl (fun built q => Scaffold.appendRows built (cutPiece input ptx q.2 q.1).toScaffoldRows (some jg)) []

def pretextOutDeep (input ptx : List Scaffold) (jg : Gap) (g : Scaffold × List (Fragment × Nat)) : Scaffold :=
  { name := outName g.1, rows := expectedRowsDeep input ptx jg g.2, tag := none, haplotype := none, rank := 3,
    originalName := some g.1.name, originalTags := some [] }

theorem claimedKeys_def (input ptx : List Scaffold) :
    claimedKeys input ptx = ptx.flatMap (fun S => S.fragments.flatMap (pieceKeys input)) := rfl

def expectedScaffoldsDeep (input ptx : List Scaffold) (jg : Gap) : List Scaffold :=
  (groupsFrom 0 ptx).map (pretextOutDeep input ptx jg) ++ (expectedExtra (claimedKeys input ptx) jg input).map (·.1)

end AgpTpf.C02
