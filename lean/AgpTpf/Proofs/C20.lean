/-
  Helper lemmas for C20 (natural key / smart sort): characters, `tokenValue`,
  the token invariant of `natTokens`, and the pure key function `keyOf`.
-/
import AgpTpf.Model.NaturalKey
import AgpTpf.Proofs.Lib.Text
import AgpTpf.Proofs.Lib.Py
import AgpTpf.Proofs.ImpEval
namespace AgpTpf.C20
open AgpTpf
open scoped AgpTpf.ImpEval

theorem isDigit_ne_I {c : Char} (h : isDigit c = true) : c ≠ 'I' := by
  rintro rfl; revert h; decide

/-- the four numerals of the generated table -/
def IsNumeral (m : Str) : Prop := m = ['I'] ∨ m = ['I', 'I'] ∨ m = ['I', 'I', 'I'] ∨ m = ['I', 'V']

/-- what the regex `(IV|I{1,3}|\d+)` can match -/
def GoodTok (m : Str) : Prop := IsNumeral m ∨ (m ≠ [] ∧ ∀ c ∈ m, isDigit c = true)

theorem dGet_numeral_digits {m : Str} (hne : m ≠ []) (h : ∀ c ∈ m, isDigit c = true) : dGet? Gen.nematodeChrInt m = none := by
  cases m with
  | nil => exact absurd rfl hne
  | cons c cs =>
    have hc := isDigit_ne_I (h c (by simp))
    have hc' : ¬ 'I' = c := fun e => hc e.symm
    simp [Gen.nematodeChrInt, dGet?, hc']

theorem tokenValue_digits {m : Str} (hne : m ≠ []) (h : ∀ c ∈ m, isDigit c = true) :
    tokenValue m = .ok (digitsVal 0 m : Nat) := by
  unfold tokenValue
  rw [dGet_numeral_digits hne h]
  exact pyInt_digits hne h

theorem tokenValue_I : tokenValue ['I'] = .ok 1 := by decide
theorem tokenValue_II : tokenValue ['I', 'I'] = .ok 2 := by decide
theorem tokenValue_III : tokenValue ['I', 'I', 'I'] = .ok 3 := by decide
theorem tokenValue_IV : tokenValue ['I', 'V'] = .ok 4 := by decide

theorem tokenValue_good {m : Str} (h : GoodTok m) : ∃ v, tokenValue m = .ok v := by
  rcases h with (rfl | rfl | rfl | rfl) | ⟨hne, hd⟩
  · exact ⟨_, tokenValue_I⟩
  · exact ⟨_, tokenValue_II⟩
  · exact ⟨_, tokenValue_III⟩
  · exact ⟨_, tokenValue_IV⟩
  · exact ⟨_, tokenValue_digits hne hd⟩

def GoodToks (t : Toks) : Prop := ∀ p ∈ t.rest, GoodTok p.1

theorem goodToks_pushMatch {m : Str} {t : Toks} (hm : GoodTok m) (ht : GoodToks t) : GoodToks (pushMatch m t) := by
  intro p hp
  simp only [pushMatch, List.mem_cons] at hp
  rcases hp with rfl | hp
  · exact hm
  · exact ht p hp

theorem goodTok_single {c : Char} (hc : isDigit c = true) : GoodTok [c] :=
  .inr ⟨by simp, by intro d hd; simp at hd; subst hd; exact hc⟩

theorem goodToks_consChar (c : Char) {t : Toks} (ht : GoodToks t) : GoodToks (consChar c t) := by
  unfold consChar
  split
  · next hc =>
    split
    · next d m tx r hf hr =>
      split
      · next hd =>
        intro p hp
        simp only [List.mem_cons] at hp
        rcases hp with rfl | hp
        · have := ht (d :: m, tx) (by rw [hr]; simp)
          rcases this with (h | h | h | h) | ⟨_, hd'⟩
          all_goals first
            | (simp at h; have := isDigit_ne_I hd; simp_all; done)
            | (right; refine ⟨by simp, ?_⟩; intro e he; simp only [List.mem_cons] at he
               rcases he with rfl | he
               · exact hc
               · exact hd' e (by simpa using he))
        · exact ht p (by rw [hr]; simp [hp])
      · exact goodToks_pushMatch (goodTok_single hc) ht
    · exact goodToks_pushMatch (goodTok_single hc) ht
  · exact ht

theorem goodToks_natTokens (name : Str) : GoodToks (natTokens name) := by
  fun_induction natTokens name
  case case1 => intro p hp; simp at hp
  all_goals first
    | exact goodToks_pushMatch (.inl (by simp [IsNumeral])) ‹_›
    | exact goodToks_consChar _ ‹_›

/-- value of a match token (`0` is never used: see `tokenValue_tokVal`) -/
def tokVal (m : Str) : Int := match tokenValue m with | .ok v => v | .error _ => 0

theorem tokenValue_tokVal {m : Str} (h : GoodTok m) : tokenValue m = .ok (tokVal m) := by
  obtain ⟨v, hv⟩ := tokenValue_good h
  simp [tokVal, hv]

theorem tokVal_digits {m : Str} (hne : m ≠ []) (h : ∀ c ∈ m, isDigit c = true) : tokVal m = (digitsVal 0 m : Nat) := by
  simp [tokVal, tokenValue_digits hne h]

def toKey (t : Toks) : NatKey := { first := t.first, rest := t.rest.map (fun p => (tokVal p.1, p.2)) }

/-- `name_natural_key` as a total function -/
def keyOf (name : Str) : NatKey := toKey (natTokens name)

theorem naturalKey_eq (name : Str) : naturalKey name = .ok (keyOf name) := by
  unfold naturalKey
  have := mapM_ok (f := fun (p : Str × Str) => (do let v ← tokenValue p.1; pure (v, p.2) : R (Int × Str)))
    (g := fun p => (tokVal p.1, p.2)) (l := (natTokens name).rest)
    (by intro p hp; rw [tokenValue_tokVal (goodToks_natTokens name p hp)]; rfl)
  simp only [] at this ⊢
  rw [this]
  rfl

end AgpTpf.C20
