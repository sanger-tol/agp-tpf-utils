/-
  C02 (aligned maps): the PAINTED variant — every piece carries exactly the tag `Painted`.  A fused list whose first `m > 0`
  scaffolds are painted (`PaintedPrefix`) comes out as one primary assembly with the painted scaffolds renamed by size
  (`namedBySize`); then the output of the painted variant of an aligned map, and its Bool checker.
-/
import AgpTpf.Proofs.C02AOut
import AgpTpf.Proofs.C08PaintOut
namespace AgpTpf.C02
open AgpTpf

theorem junctionSet_namedBySize {prefix_ : Str} {fs : List Scaffold} {m : Nat}
    (hout : ∀ s ∈ fs, ∃ J, s.junctionSet = .ok J) : ∀ s ∈ namedBySize prefix_ fs m, ∃ J, s.junctionSet = .ok J := by
  intro s hs
  have hr : s.rows ∈ (namedBySize prefix_ fs m).map (·.rows) := List.mem_map.2 ⟨s, hs, rfl⟩
  rw [namedBySize_rows] at hr
  obtain ⟨s0, hs0, e⟩ := List.mem_map.1 hr
  obtain ⟨J, hJ⟩ := hout s0 hs0
  exact ⟨J, by rw [C11.junctionSet_congr s s0 (by simp [Scaffold.fragments, e])]; exact hJ⟩

theorem assembliesFused_paintedPrefix (input : List Scaffold) (b : Build) (fs : List Scaffold) (m : Nat)
    (hfs : fuseByName b = fs) (hp : PaintedPrefix fs m) (hin : ∀ sc ∈ input, ∃ J, sc.junctionSet = .ok J)
    (hout : ∀ s ∈ fs, ∃ J, s.junctionSet = .ok J) :
    ∃ st, assembliesFused input b =
        .ok ([{ key := none, curated := true,
                scaffolds := C20.smartSorted (namedBySize b.namer.autosomePrefix fs m) }], st) ∧
      st.cuts = b.cuts := by
  have hne : (namedBySize b.namer.autosomePrefix fs m).isEmpty = false := by
    rw [List.isEmpty_eq_false_iff]; intro e; have := congrArg List.length e
    rw [namedBySize_length, List.length_nil] at this; have := hp.le; have := hp.pos; omega
  obtain ⟨st, hst, hc⟩ := C08.makeStats_cuts input (primaryOnly (namedBySize b.namer.autosomePrefix fs m)) b.cuts hin
    (fun a ha sc hsc => junctionSet_namedBySize hout sc (mem_primaryOnly ha sc hsc))
  refine ⟨st, ?_, hc⟩
  rw [Run.assembliesFused_primary input b fs m hfs (Run.PaintedPrefix.upTo hp), hst, primaryOnly, hne]
  rfl


structure PieceAlignedP (input : List Scaffold) (err : Int) (p : Fragment) : Prop where
  found : (lookupPiece input p).isSome = true
  startOk : (pieceO input p).startOverhang ≤ err
  endOk : (pieceO input p).endOverhang ≤ err
  painted : p.tags = [sPainted]

structure ScaffoldAlignedP (input : List Scaffold) (err : Int) (S : Scaffold) : Prop where
  head : ∃ f r, S.rows = .frag f :: r
  pieces : ∀ p ∈ S.fragments, PieceAlignedP input err p
  noHap : hapPrefixOfName (outName S) = none
  named : S.name ≠ []

def labelledP (S : Scaffold) (o : OverlapResult) : OverlapResult :=
  { o with name := S.name, tag := none, haplotype := none, rank := 1,
           originalName := some S.name, originalTags := some [sPainted] }

def pieceResP (input : List Scaffold) (S : Scaffold) (p : Fragment) : Res :=
  { o := labelledP S (pieceO input p), added := true }

theorem ScaffoldAlignedP.kept {input : List Scaffold} {err : Int} {S : Scaffold} (h : ScaffoldAlignedP input err S) :
    Run.ScaffoldKept input err true S :=
  ⟨h.head, fun p hp => have a := h.pieces p hp; ⟨a.found, a.painted, .inl a.startOk, .inl a.endOk⟩, h.noHap⟩

def expectedStoreP (input ptx : List Scaffold) : List Res :=
  ptx.flatMap (fun S => S.fragments.map (pieceResP input S))

/-- **the aligned, fully painted Pretext map** -/
structure AlignedP (input ptx : List Scaffold) (err : Int) : Prop where
  names : (input.map (·.name)).Nodup
  lens : ∀ sc ∈ input, ∀ r ∈ sc.rows, 0 ≤ r.length
  scaffolds : ∀ S ∈ ptx, ScaffoldAlignedP input err S
  disjoint : (claimedKeys input ptx).Nodup
  unclaimed : ∀ sc ∈ input, UnclaimedOk (claimedKeys input ptx) sc

/-- the fused scaffold of a painted Pretext scaffold before chromosome naming -/
def pretextOutP (input : List Scaffold) (jg : Gap) (S : Scaffold) : Scaffold :=
  { name := S.name, rows := expectedRows input jg S, tag := none, haplotype := none, rank := 1,
    originalName := some S.name, originalTags := some [sPainted] }

def expectedFusedP (input ptx : List Scaffold) (jg : Gap) : List Scaffold :=
  ptx.map (pretextOutP input jg) ++ (expectedExtra (claimedKeys input ptx) jg input).map (·.1)

/-- pairwise different names: Pretext scaffold names among themselves and against the input scaffolds with left-overs -/
def NoClashP (input ptx : List Scaffold) (jg : Gap) : Prop :=
  ((expectedFusedP input ptx jg).map (·.name)).Nodup

theorem fuseByName_alignedP (input ptx : List Scaffold) (jg : Gap) (err : Int) (ha : AlignedP input ptx err)
    (hnc : NoClashP input ptx jg) (b : Build) (hj : b.joinGap = some jg) (hstore : b.store = expectedStoreP input ptx)
    (hextra : b.extra = expectedExtra (claimedKeys input ptx) jg input) :
    fuseByName b = expectedFusedP input ptx jg :=
  fuseByName_pieces input ptx jg Scaffold.name 1 [sPainted] _ b hj hstore hextra
    (pieces_ne_of_kept fun S hS => (ha.scaffolds S hS).kept)
    (by simpa [NoClashP, expectedFusedP, pretextOutP, List.map_map, Function.comp_def] using hnc)

theorem expectedFusedP_prefix (input ptx : List Scaffold) (jg : Gap) (err : Int) (ha : AlignedP input ptx err)
    (hnc : NoClashP input ptx jg) (hne : ptx ≠ []) : PaintedPrefix (expectedFusedP input ptx jg) ptx.length := by
  have h := PaintedPrefix.of_append (P := ptx.map (pretextOutP input jg))
    (E := (expectedExtra (claimedKeys input ptx) jg input).map (·.1)) (by simpa using hne)
    (by
      intro s hs
      obtain ⟨S, hS, rfl⟩ := List.mem_map.1 hs
      exact ⟨⟨rfl, rfl, rfl⟩, rfl, (ha.scaffolds S hS).named⟩)
    (by
      intro s hs
      obtain ⟨e, he, rfl⟩ := List.mem_map.1 hs
      obtain ⟨sc, -, hsc⟩ := expectedExtra_mem he
      obtain ⟨-, -, -, h4, h5, h6⟩ := leftoverEntry_fields hsc
      exact ⟨h4, h5, h6⟩)
    (by
      unfold NoClashP expectedFusedP at hnc
      rw [List.map_append] at hnc
      exact (List.nodup_append.1 hnc).1)
  rwa [List.length_map] at h

theorem expectedFusedP_junctions (input ptx : List Scaffold) (jg : Gap) (err : Int) (ha : AlignedP input ptx err)
    (hstr : ∀ sc ∈ input, ∀ f ∈ sc.fragments, f.strand = 1 ∨ f.strand = -1) :
    ∀ s ∈ expectedFusedP input ptx jg, ∃ J, s.junctionSet = .ok J :=
  pieces_junctions input ptx jg _ (pretextOutP input jg) (fun _ => rfl)
    (fun S hS p hp => ((ha.scaffolds S hS).pieces p hp).found) hstr

/-- the scaffolds of the output of a painted aligned map, before sorting -/
def expectedScaffoldsP (prefix_ : Str) (input ptx : List Scaffold) (jg : Gap) : List Scaffold :=
  namedBySize prefix_ (expectedFusedP input ptx jg) ptx.length

def pieceAlignedPB (input : List Scaffold) (err : Int) (p : Fragment) : Bool :=
  (lookupPiece input p).isSome && decide ((pieceO input p).startOverhang ≤ err) &&
  decide ((pieceO input p).endOverhang ≤ err) && decide (p.tags = [sPainted])

def scaffoldAlignedPB (input : List Scaffold) (err : Int) (S : Scaffold) : Bool :=
  headIsFrag S.rows && S.fragments.all (pieceAlignedPB input err) && decide (hapPrefixOfName (outName S) = none) &&
  !S.name.isEmpty

def alignedPB (input ptx : List Scaffold) (err : Int) : Bool :=
  decide ((input.map (·.name)).Nodup) &&
  input.all (fun sc => sc.rows.all (fun r => decide (0 ≤ r.length))) &&
  ptx.all (scaffoldAlignedPB input err) &&
  decide ((claimedKeys input ptx).Nodup) &&
  input.all (fun sc => sc.fragments.all (fun f =>
    (claimedKeys input ptx).contains f.keyTuple || (decide (f.tags = []) && decide (hapPrefixOfName f.name = none))))

theorem alignedP_of_check (input ptx : List Scaffold) (err : Int) (h : alignedPB input ptx err = true) :
    AlignedP input ptx err := by
  unfold alignedPB at h
  simp only [Bool.and_eq_true, decide_eq_true_eq, List.all_eq_true, Bool.or_eq_true] at h
  obtain ⟨⟨⟨⟨h1, h2⟩, h3⟩, h4⟩, h5⟩ := h
  refine ⟨h1, h2, ?_, h4, ?_⟩
  · intro S hS
    have := h3 S hS
    unfold scaffoldAlignedPB at this
    simp only [Bool.and_eq_true, decide_eq_true_eq, List.all_eq_true, Bool.not_eq_true'] at this
    obtain ⟨⟨⟨g1, g2⟩, g3⟩, g4⟩ := this
    refine ⟨?_, ?_, g3, ?_⟩
    · cases hr : S.rows with
      | nil => rw [hr] at g1; cases g1
      | cons a r =>
        cases a with
        | frag f => exact ⟨f, r, rfl⟩
        | gap g => rw [hr] at g1; cases g1
    · intro p hp
      have := g2 p hp
      unfold pieceAlignedPB at this
      simp only [Bool.and_eq_true, decide_eq_true_eq] at this
      obtain ⟨⟨⟨k1, k2⟩, k3⟩, k4⟩ := this
      exact ⟨k1, k2, k3, k4⟩
    · intro e; rw [e] at g4; simp at g4
  · intro sc hsc f hf hc
    rcases h5 sc hsc f hf with h | h
    · rw [hc] at h; cases h
    · exact h

end AgpTpf.C02
