/-
  C02 returns, part 1: `assemblies_with_scaffolds_fused` RETURNS, read off its closed form (`C09.assembliesFused_eq'`,
  `C09.splitLoop_eq`):
  * the statistics exist exactly when `junction_tuple` accepts every adjacent pair of fragments (`stats_ok_iff`);
  * with one `ChrNamer` key among the rank-1 scaffolds `haplotypes_seen` is `[]` or that key, and `name_chromosomes`
    returns when they all have an `original_name` (`assembliesFused_ok_single`).
-/
import AgpTpf.Proofs.Remap.Phase2
import AgpTpf.Proofs.C09ROut
import AgpTpf.Proofs.C10Name
import AgpTpf.Proofs.C11Extra
namespace AgpTpf.C02R
open AgpTpf C09

def StrOK (rows : List Row) : Prop := ∀ f, Row.frag f ∈ rows → f.strand = 1 ∨ f.strand = -1

theorem strOK_getD (fs : List Scaffold) (h : ∀ s ∈ fs, StrOK s.rows) (j : Nat) : StrOK (fs.getD j default).rows := by
  rw [List.getD_eq_getElem?_getD]
  cases hj : fs[j]? with
  | none => intro f hf; simp [Option.getD] at hf; cases hf
  | some s => exact h s (List.mem_of_getElem? hj)

theorem pairsOk_of_strOK {s : Scaffold} (h : StrOK s.rows) : C11.PairsOk s.fragments := by
  rw [C11.pairsOk_iff]
  intro pre a b post e
  exact ⟨h a (Scaffold.mem_fragments.1 (by rw [e]; simp)), h b (Scaffold.mem_fragments.1 (by rw [e]; simp))⟩

theorem stats_ok_iff (input : List Scaffold) (cuts : Int) (asms : Asms) (fs : List Scaffold) :
    (∃ st, makeStats input (outsOf fs asms) cuts = .ok st) ↔
      (∀ sc ∈ input, C11.PairsOk sc.fragments) ∧
      ∀ a ∈ asms, ∀ sid ∈ a.2.2, C11.PairsOk (fs.getD sid default).fragments := by
  rw [C11.makeStats_ok_iff]
  simp only [C11.junctionSet_ok_pairsOk]
  -- an output assembly lists the scaffolds of its dict entry, sorted
  refine and_congr_right fun _ => ⟨fun h a ha sid hsid => ?_, fun h o ho sc hsc => ?_⟩
  · exact h _ (List.mem_map_of_mem ha) _ (mem_smartSorted.2 (List.mem_map_of_mem hsid))
  · obtain ⟨a, ha, rfl⟩ := List.mem_map.1 ho
    obtain ⟨sid, hsid, rfl⟩ := List.mem_map.1 (mem_smartSorted.1 hsc)
    exact h a ha sid hsid

theorem foldl_sAdd_const {l : List Str} {h : Str} (hl : ∀ y ∈ l, y = h) :
    (l = [] ∧ l.foldl sAdd [] = []) ∨ (l ≠ [] ∧ l.foldl sAdd [] = [h]) := by
  cases l with
  | nil => exact .inl ⟨rfl, rfl⟩
  | cons y t =>
    have := foldl_sAdd_block id h (y :: t) [] (List.cons_ne_nil _ _) hl List.not_mem_nil
    rw [List.map_id] at this
    exact .inr ⟨List.cons_ne_nil _ _, this⟩

theorem entries_single {fs : List Scaffold} {h : Str}
    (hk : ∀ s ∈ fs, s.rank = 1 → pyStrOpt (C09.routeKey s.tag s.haplotype) = h) :
    ∀ e ∈ (List.range fs.length).filterMap (fun j => entryOf (fs.getD j default) j),
      e.1 = h ∧ ∃ hj : e.2 < fs.length, fs[e.2].rank = 1 := by
  intro e he
  obtain ⟨j, hj, hje⟩ := List.mem_filterMap.1 he
  have hlt := List.mem_range.1 hj
  have hg : fs.getD j default = fs[j] := by rw [List.getD_eq_getElem?_getD, List.getElem?_eq_getElem hlt]; rfl
  unfold entryOf at hje
  rw [hg] at hje
  split at hje
  · next hr =>
    cases hje
    exact ⟨by rw [asmKey_fst]; exact hk _ (List.getElem_mem hlt) hr, hlt, hr⟩
  · cases hje

theorem pfx_getD_originalName (p : Str) (fs : List Scaffold) {j : Nat} (hj : j < fs.length) :
    ((fs.map (pfx p)).getD j default).originalName = fs[j].originalName := by
  rw [List.getD_eq_getElem?_getD, List.getElem?_map, List.getElem?_eq_getElem hj]
  show (pfx p fs[j]).originalName = _
  unfold pfx; split <;> rfl

theorem assembliesFused_ok_single (input : List Scaffold) (b : Build) (h : Str)
    (hk : ∀ s ∈ fuseByName b, s.rank = 1 →
      pyStrOpt (C09.routeKey s.tag s.haplotype) = h ∧ truthy s.originalName = true)
    (hfs : ∀ s ∈ fuseByName b, StrOK s.rows) (hin : ∀ sc ∈ input, StrOK sc.rows) :
    ∃ outs stats, assembliesFused input b = .ok (outs, stats) := by
  rw [assembliesFused_eq', splitLoop_eq]
  generalize fuseByName b = fs at hk hfs
  generalize b.namer.autosomePrefix = p
  have hent := entries_single (fs := fs) (h := h) fun s hs hr => (hk s hs hr).1
  -- `name_chromosomes` returns, and changes names only
  obtain ⟨fs', hname⟩ : ∃ fs', nameChromosomes (fs.map (pfx p))
      ((((List.range fs.length).filterMap fun j => entryOf (fs.getD j default) j).map (·.1)).foldl sAdd [])
      ((List.range fs.length).filterMap fun j => entryOf (fs.getD j default) j) p = .ok fs' := by
    rcases foldl_sAdd_const (h := h) (fun y hy => by
      obtain ⟨e, he, rfl⟩ := List.mem_map.1 hy; exact (hent e he).1) with ⟨_, e2⟩ | ⟨e1, e2⟩
    · rw [e2]; exact ⟨_, rfl⟩
    · rw [e2]
      exact ⟨_, C10.nameChromosomes_single p _ h _ (fun e => e1 (by rw [e]; rfl)) (fun e he => (hent e he).1) fun e he => by
        obtain ⟨_, hj, hr⟩ := hent e he
        rw [pfx_getD_originalName p fs hj]; exact (hk _ (List.getElem_mem hj) hr).2⟩
  rw [hname, ok_bind]
  have hrows : ∀ j, (fs'.getD j default).rows = (fs.getD j default).rows := fun j =>
    (noName_fields (getD_of_map_eq noName (l2 := fs) default
      ((nameChromosomes_noName _ _ _ _ _ hname).trans (by
        rw [List.map_map]; exact List.map_congr_left fun s _ => pfx_noName p s)) j)).1
  obtain ⟨stats, hst⟩ := (stats_ok_iff input b.cuts _ fs').2
    ⟨fun sc hsc => pairsOk_of_strOK (hin sc hsc), fun a _ sid _ => pairsOk_of_strOK (by
      rw [hrows sid]; exact strOK_getD fs hfs sid)⟩
  rw [hst]
  exact ⟨_, stats, rfl⟩

end AgpTpf.C02R
