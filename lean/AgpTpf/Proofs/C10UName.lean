/-
  C10 uniqueness, parts 1 and 2: the split loop of `assemblies_with_scaffolds_fused` as the uniqueness proof reads it, off
  `C09.splitLoop_eq` (which scaffold gets the chromosome prefix, which scaffolds are handed to `ChrNamer` and under which haplotype
  key, which scaffolds an output assembly lists); then what `ChrNamer.name_chromosomes` does to the names, for ANY number of
  haplotypes, in the form the uniqueness proof needs: frame, shape `<prefix><n><letter?><suffix>` of every new name, and "equal new
  names inside one haplotype key come from equal old names".
-/
import AgpTpf.Proofs.C10GroupsNames
import AgpTpf.Proofs.C10Number
import AgpTpf.Proofs.C10UStr
import AgpTpf.Proofs.Remap.Phase2
import AgpTpf.Proofs.C10GroupsNumber
import AgpTpf.Proofs.C10Name
import AgpTpf.Proofs.Lib.Py
namespace AgpTpf.C10U
open AgpTpf

theorem pfx_default (p : Str) : C09.pfx p (default : Scaffold) = default := by
  unfold C09.pfx
  exact if_neg fun h => absurd h.1 (by decide)

theorem pfx_name_of_ne (p : Str) (s : Scaffold) (h : s.rank ≠ 2) : C09.pfx p s = s := by
  unfold C09.pfx; rw [if_neg (fun hc => h hc.1)]

/-- every scaffold has passed `add_chr_prefix` -/
theorem splitLoop_spec (p : Str) (fs : List Scaffold) (j : Nat) :
    (C09.splitLoop p fs).2.2.2.getD j default = C09.pfx p (fs.getD j default) := by
  rw [C09.splitLoop_fs, List.getD_eq_getElem?_getD, List.getD_eq_getElem?_getD, List.getElem?_map]
  cases fs[j]? with
  | none => exact (pfx_default p).symm
  | some s => rfl

theorem mem_entries (p : Str) (fs : List Scaffold) (e : Str × Nat) :
    e ∈ (C09.splitLoop p fs).2.1 ↔
      e.2 < fs.length ∧ (fs.getD e.2 default).rank = 1 ∧ e.1 = pyStrOpt (C09.asmKey (fs.getD e.2 default)).1 := by
  rw [C09.splitLoop_entries_eq, List.mem_filterMap]
  unfold C09.entryOf
  constructor
  · rintro ⟨j, hj, he⟩
    split at he
    · next hr => cases he; exact ⟨List.mem_range.1 hj, hr, rfl⟩
    · cases he
  · rintro ⟨h1, h2, h3⟩
    exact ⟨e.2, List.mem_range.2 h1, by rw [if_pos h2, ← h3]⟩

/-- `haplotypes_seen` is empty exactly when `ChrNamer` got no scaffold -/
theorem splitLoop_haps_nil_iff (p : Str) (fs : List Scaffold) :
    (C09.splitLoop p fs).2.2.1 = [] ↔ (C09.splitLoop p fs).2.1 = [] :=
  ⟨(C10.splitLoop_entries p fs).2.2, C10.splitLoop_haps_nil p fs⟩

/-- the scaffolds an output assembly lists: all those with its key, each id once -/
theorem asm_ids (p : Str) (fs : List Scaffold) (a : Option Str × Bool × List Nat)
    (ha : a ∈ (C09.splitLoop p fs).1) :
    a.2.2 = (List.range fs.length).filter (fun j => (C09.asmKey (fs.getD j default)).1 = a.1) :=
  (C09.splitLoop_get_some (dGet?_of_mem_nodup (C09.splitLoop_keys_nodup p fs) ha)).1

def UnlocFree (o : Str) : Prop := ∀ k, C10.occursIn o (C10.unlocSuffix k) = false

/-- a scaffold handed to `ChrNamer`: called `<Pretext name>` or `<Pretext name>_unloc_<k>`, the Pretext name being one
    of `N` and free of `_unloc_` look-alikes -/
def R1Shape (N : List Str) (s : Scaffold) : Prop :=
  ∃ o suf, s.originalName = some o ∧ o ∈ N ∧ s.name = o ++ suf ∧ SufOk suf ∧ UnlocFree o

/-- nothing, or the one letter `multi_chr_list` appends -/
def LetterOk (L : Str) : Prop := L = [] ∨ ∃ c, L = [c] ∧ isDigit c = false

theorem letterOk_chrLetter (c i : Nat) : LetterOk (C10.chrLetter c i) := by
  unfold C10.chrLetter
  by_cases h : c = 1
  · rw [if_pos h]; exact Or.inl rfl
  · rw [if_neg h]; exact Or.inr ⟨_, rfl, C10.letter_not_digit i⟩

theorem piece_of_shape (N : List Str) (fs : List Scaffold) (sid : Nat) (hs : R1Shape N (fs.getD sid default))
    (hg : truthy (fs.getD sid default).originalName = true) :
    ∃ suf, (fs.getD sid default).name = C10.origOf fs sid ++ suf ∧ SufOk suf ∧
      C10.occursIn (C10.origOf fs sid) suf = false ∧ C10.origOf fs sid ∈ N := by
  obtain ⟨o, suf, ho, hN, hn, hsuf, hfree⟩ := hs
  have horig : C10.origOf fs sid = o := by unfold C10.origOf; rw [ho]; rfl
  refine ⟨suf, by rw [horig]; exact hn, hsuf, ?_, by rw [horig]; exact hN⟩
  rw [horig]
  rcases hsuf with rfl | ⟨k, rfl⟩
  · have hne : o ≠ [] := by rw [← horig]; exact C10.origOf_ne_nil fs sid hg
    unfold C10.occursIn
    cases o with
    | nil => exact absurd rfl hne
    | cons _ _ => rfl
  · exact hfree k

def NamedSpec (p : Str) (fs fs' : List Scaffold) (entries : List (Str × Nat)) : Prop :=
  (∀ j, j ∉ entries.map (·.2) → fs'.getD j default = fs.getD j default) ∧
  (∀ e ∈ entries, ∃ n L suf, (fs'.getD e.2 default).name = p ++ natToStr n ++ L ++ suf ∧ LetterOk L ∧ SufOk suf) ∧
  (∀ a ∈ entries, ∀ b ∈ entries, a.1 = b.1 → (fs'.getD a.2 default).name = (fs'.getD b.2 default).name →
      (fs.getD a.2 default).name = (fs.getD b.2 default).name)

/-- `C10.Named` read for scaffolds of shape `R1Shape` -/
theorem named_spec (p : Str) (N : List Str) (hN : N.length ≤ C10.letterBound) (fs : List Scaffold) (haps : List Str)
    (entries : List (Str × Nat)) (fs' : List Scaffold) (hnd : haps.Nodup) (hid : (entries.map (·.2)).Nodup)
    (hm : ∀ e ∈ entries, e.1 ∈ haps) (hnil : haps = [] ↔ entries = [])
    (hshape : ∀ e ∈ entries, R1Shape N (fs.getD e.2 default))
    (hok : (if haps.isEmpty then pure fs else C10.nameChromosomes p fs haps entries) = .ok fs') :
    NamedSpec p fs fs' entries := by
  cases haps with
  | nil =>
    cases hnil.1 rfl
    cases hok
    exact ⟨fun _ _ => rfl, fun e he => (nomatch he), fun a ha => (nomatch ha)⟩
  | cons h1 others =>
    simp only [List.isEmpty_cons, Bool.false_eq_true, if_false] at hok
    -- the chromosomes of a haplotype set are Pretext scaffold names, of which there are at most `letterBound`
    have hbound : ∀ h, True → ∀ seg ∈ C10.segsOf fs (h1 :: others) entries,
        (C10.hapOrigs fs h seg).length ≤ C10.letterBound := by
      intro h _ seg hseg
      refine Nat.le_trans ((C10.hapOrigs_nodup fs h seg).length_le_of_subset ?_) hN
      intro o ho
      obtain ⟨e, he, _, heo⟩ := (C10.mem_hapOrigs fs h o seg).1 ho
      obtain ⟨o', _, ho', hN', _⟩ := hshape e ((C10.segsOf_isCut fs (h1 :: others) entries).sub seg hseg e he)
      rw [← heo]; unfold C10.origOf; rw [ho']; exact hN'
    have M := C10.named p fs h1 others entries fs' hnd hid hm (fun _ => True) hbound hok
    refine ⟨M.frame, ?_, ?_⟩
    · intro e he
      obtain ⟨suf, hn, hsuf, ho, _⟩ := piece_of_shape N fs e.2 (hshape e he) (M.orig e he)
      obtain ⟨n, c, i, hr⟩ := M.shape e he suf ⟨hn, hsuf.noDigitHd, ho⟩
      exact ⟨n, _, suf, by rw [hr], letterOk_chrLetter c i, hsuf⟩
    · intro a ha b hb hab heq
      obtain ⟨sa, hna, hsa, hoa, _⟩ := piece_of_shape N fs a.2 (hshape a ha) (M.orig a ha)
      obtain ⟨sb, hnb, hsb, hob, _⟩ := piece_of_shape N fs b.2 (hshape b hb) (M.orig b hb)
      obtain ⟨horig, es⟩ := M.inj a ha b hb hab trivial sa sb ⟨hna, hsa.noDigitHd, hoa⟩ ⟨hnb, hsb.noDigitHd, hob⟩ heq
      rw [hna, hnb, horig, es]

end AgpTpf.C10U
