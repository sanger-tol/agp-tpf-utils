/-
  C09 routing, part 2 (R2): which Pretext fragment created which stored result, and the tag it was given.
  `find_assembly_overlaps` appends exactly one stored result per Pretext fragment whose lookup finds something, in file
  order; its tag follows `tagRule` with "Target mode" = a Target tag on a strictly earlier Pretext scaffold (the current
  scaffold's own Target tag switches the namer flag on, but the same tag also exempts the scaffold).
-/
import AgpTpf.Model.Remap
import AgpTpf.Proofs.Lib.Overlap
import AgpTpf.Proofs.Lib.Namer
import AgpTpf.Proofs.C09RFixed
import AgpTpf.Proofs.Lib.Py
namespace AgpTpf.C09
open AgpTpf

/-- the tag of a piece, by the code's precedence: FalseDuplicate > Haplotig > Contaminant-or-Target-mode > none;
    `target` is the namer's `target_tags` flag, `scTags` the tag set of the Pretext scaffold -/
def tagRule (target : Bool) (scTags : List Str) (p : Fragment) : Option Str :=
  if p.tags.contains sFalseDuplicate then some sFalseDuplicate
  else if p.tags.contains sHaplotig then some sHaplotig
  else if p.tags.contains sContaminant ∨ (target = true ∧ ¬ scTags.contains sTarget = true) then some sContaminant
  else none

theorem finalTag_fresh (n : Namer) (o : OverlapResult) (p : Fragment) (scTags : List Str) (h0 : o.tag = none) :
    finalTag n o p scTags =
      (tagRule n.targetTags scTags p, if truthy (tagRule n.targetTags scTags p) then 3 else n.currentRank) := by
  unfold finalTag tagRule preTag
  by_cases h1 : p.tags.contains sFalseDuplicate = true
  · simp only [if_pos h1]; rfl
  by_cases h2 : p.tags.contains sHaplotig = true
  · simp only [if_neg h1, if_pos h2]; rfl
  by_cases h3 : p.tags.contains sContaminant = true ∨ (n.targetTags = true ∧ ¬ scTags.contains sTarget = true)
  · simp only [if_neg h1, if_neg h2, if_pos h3]; rfl
  · simp only [if_neg h1, if_neg h2, if_neg h3, h0]; rfl

theorem tagRule_hap (t : Bool) (scTags : List Str) (p : Fragment) :
    tagRule t scTags p = some sHaplotig ↔ C10.isHapPiece p = true := by
  unfold tagRule C10.isHapPiece
  cases p.tags.contains sFalseDuplicate
  · cases p.tags.contains sHaplotig
    · rw [if_neg Bool.false_ne_true, if_neg Bool.false_ne_true]
      exact ⟨fun h => (by split at h <;> cases h), fun h => (nomatch h)⟩
    · exact ⟨fun _ => rfl, fun _ => rfl⟩
  · exact ⟨fun h => (nomatch h), fun h => (nomatch h)⟩

/-- the lookup `processBait` does for a Pretext fragment -/
def lookupOf (input : List Scaffold) (p : Fragment) : R (Option OverlapResult) := do
  let sc ← lookupScaffold input p.name
  findOverlaps sc.rows p

/-- the lookup of Pretext fragment `p` finds something: exactly then `processBait` appends a stored result -/
def hits (input : List Scaffold) (p : Fragment) : Bool :=
  match lookupOf input p with
  | .ok (some _) => true
  | _ => false

/-- what R2 says about a stored result: its tag, the Pretext scaffold's name and tag set, and the bait -/
def labelView (r : Res) : Option Str × Option Str × Option (List Str) × Fragment :=
  (r.o.tag, r.o.originalName, r.o.originalTags, r.o.bait)

theorem labelView_of_fixedOf {s1 s2 : List Res} (h : s1.map fixedOf = s2.map fixedOf) :
    s1.map labelView = s2.map labelView := by
  have e : ∀ s : List Res, s.map labelView =
      (s.map fixedOf).map (fun x => (x.1.1, x.1.2.2.2.1, x.1.2.2.2.2.1, x.1.2.2.2.2.2)) := by
    intro s; rw [List.map_map]; rfl
  rw [e s1, e s2, h]

/-- the namer fields `label_scaffold` leaves alone -/
def SameMode (n n' : Namer) : Prop :=
  n'.targetTags = n.targetTags ∧ n'.currentHaplotype = n.currentHaplotype ∧ n'.currentRank = n.currentRank ∧
  n'.haplotypeLc = n.haplotypeLc ∧ n'.primaryHaplotype = n.primaryHaplotype

theorem SameMode.refl (n : Namer) : SameMode n n := ⟨rfl, rfl, rfl, rfl, rfl⟩
theorem SameMode.trans {a b c : Namer} (h1 : SameMode a b) (h2 : SameMode b c) : SameMode a c :=
  ⟨h2.1.trans h1.1, h2.2.1.trans h1.2.1, h2.2.2.1.trans h1.2.2.1, h2.2.2.2.1.trans h1.2.2.2.1,
   h2.2.2.2.2.trans h1.2.2.2.2⟩

/-- label fields and name are those `label_scaffold` returned for the fresh lookup result: `trim_large_overhangs`, which runs
    in between, keeps them -/
theorem processBait_spec (input : List Scaffold) (scTags : List Str) (orig : Str) (b b' : Build) (p : Fragment)
    (h : processBait input scTags orig b p = .ok b') :
    (hits input p = false ∧ b' = b) ∨
    (hits input p = true ∧ ∃ sc o n' o' r, lookupScaffold input p.name = .ok sc ∧ findOverlaps sc.rows p = .ok (some o) ∧
      labelScaffold b.namer o b.store.length p scTags orig = .ok (n', o') ∧
      b'.store = b.store ++ [r] ∧ oFixed r.o = oFixed o' ∧ r.o.name = o'.name ∧ b'.namer = n' ∧ b'.extra = b.extra) := by
  obtain ⟨sc, hsc, ⟨hfo, rfl⟩ | ⟨o0, o1, o2, n, hfo, hl, ht, rfl⟩⟩ := Pipeline.processBait_ok h
  · exact .inl ⟨by simp [hits, lookupOf, bind, Except.bind, hsc, hfo], rfl⟩
  · obtain ⟨_, _, e⟩ := Pipeline.stored_frame b n o2
    obtain ⟨hf, hnm⟩ := trimLargeOverhangs_fixed _ _ _ ht
    exact .inr ⟨by simp [hits, lookupOf, bind, Except.bind, hsc, hfo], sc, o0, n, o1, _, hsc, hfo, hl, by rw [e], hf, hnm,
      by rw [e], by rw [e]⟩

/-- the label fields (`oFixed`) `label_scaffold` gives the result found for fragment `p` of a Pretext scaffold with name `orig`
    and tag set `scTags`, the namer being `n` -/
def labelOf (n : Namer) (scTags : List Str) (orig : Str) (p : Fragment) :
    Option Str × Option Str × Int × Option Str × Option (List Str) × Fragment :=
  (tagRule n.targetTags scTags p, n.currentHaplotype,
   if truthy (tagRule n.targetTags scTags p) then 3 else n.currentRank, some orig, some scTags, p)

/-- one Pretext fragment, in terms of the namer before -/
theorem processBait_created {input : List Scaffold} {scTags : List Str} {orig : Str} {b b' : Build} {p : Fragment}
    (h : processBait input scTags orig b p = .ok b') :
    (hits input p = false ∧ b' = b) ∨
    (hits input p = true ∧ (C10.isUnlocPiece p = true → scTags.contains sPainted = true) ∧
      ∃ r, b'.store = b.store ++ [r] ∧ oFixed r.o = labelOf b.namer scTags orig p ∧ r.o.name = pieceName b.namer p ∧
        b'.namer = bump b.namer b.store.length p ∧ b'.extra = b.extra) := by
  rcases processBait_spec input scTags orig b b' p h with h0 | ⟨hy, sc, o, n', o', r, _, hfo, hl, hst, hf, hnm, hn, hex⟩
  · exact .inl h0
  · obtain ⟨hb0, ht0, -, -⟩ := findOverlaps_fresh hfo
    obtain ⟨hp, rfl, rfl⟩ := labelScaffold_ok hl
    refine .inr ⟨hy, hp, r, hst, ?_, hnm, hn, hex⟩
    rw [hf]
    show (_, _, _, _, _, o.bait) = _
    rw [finalTag_fresh _ _ _ _ ht0, hb0]
    rfl

theorem sameMode_bump (n : Namer) (sid : Nat) (p : Fragment) : SameMode n (bump n sid p) := by
  rw [bump_frame]; exact ⟨rfl, rfl, rfl, rfl, rfl⟩

theorem labelOf_congr {n m : Namer} (h : SameMode n m) (scTags : List Str) (orig : Str) (p : Fragment) :
    labelOf m scTags orig p = labelOf n scTags orig p := by
  unfold labelOf; rw [h.1, h.2.1, h.2.2.1]

theorem processBaits_oFixed (input : List Scaffold) (scTags : List Str) (orig : Str) (ps : List Fragment) {b b' : Build}
    (h : ps.foldlM (processBait input scTags orig) b = .ok b') :
    SameMode b.namer b'.namer ∧ b'.extra = b.extra ∧
    b'.store.map (fun r => oFixed r.o) =
      b.store.map (fun r => oFixed r.o) ++ (ps.filter (hits input)).map (labelOf b.namer scTags orig) := by
  induction ps generalizing b with
  | nil => cases h; exact ⟨.refl _, rfl, (List.append_nil _).symm⟩
  | cons p t ih =>
    rw [List.foldlM_cons] at h
    obtain ⟨b1, h1, h2⟩ := bind_eq_ok.mp h
    obtain ⟨s2, e2, hv⟩ := ih h2
    rw [hv, List.filter_cons]
    rcases processBait_created h1 with ⟨hn, rfl⟩ | ⟨hy, _, r, hst, er, _, hnb, hex⟩
    · rw [hn]; exact ⟨s2, e2, rfl⟩
    · have s1 : SameMode b.namer b1.namer := hnb ▸ sameMode_bump _ _ _
      refine ⟨s1.trans s2, e2.trans hex, ?_⟩
      rw [List.map_congr_left fun q _ => labelOf_congr s1 scTags orig q, hst, hy, if_pos rfl, List.map_append, List.map_cons,
        List.map_nil, List.map_cons, List.append_assoc, er]
      rfl

/-- earlier results keep their label fields: `rename_by_size` writes names -/
theorem overlapsStep_oFixed {input : List Scaffold} {b b' : Build} {S : Scaffold}
    (h : Pipeline.overlapsStep input b S = .ok b') :
    ∃ n, makeScaffoldName b.namer S.name S.rows S.fragmentTags = .ok n ∧ SameMode n b'.namer ∧ b'.extra = b.extra ∧
      b'.store.map (fun r => oFixed r.o) =
        b.store.map (fun r => oFixed r.o) ++ (S.fragments.filter (hits input)).map (labelOf n S.fragmentTags S.name) := by
  obtain ⟨n, b1, hn, hb, rfl⟩ := Pipeline.overlapsStep_ok h
  obtain ⟨sm, ex, hv⟩ := processBaits_oFixed input S.fragmentTags S.name S.fragments hb
  exact ⟨n, hn, sm, ex, (Pipeline.renameBySize_map_eq _ (fun _ _ => rfl) _ _).trans hv⟩

def hasTarget (S : Scaffold) : Bool := S.fragmentTags.contains sTarget

/-- The pieces that create stored results, in creation order: `(seen, S, p)` = Pretext fragment `p` of Pretext scaffold
    `S` whose lookup finds something; `seen` = some Pretext scaffold strictly BEFORE `S` (file order) has a Target tag. -/
def pieces (input : List Scaffold) : Bool → List Scaffold → List (Bool × Scaffold × Fragment)
  | _, [] => []
  | seen, S :: rest =>
    (S.fragments.filter (hits input)).map (fun p => (seen, S, p)) ++ pieces input (seen || hasTarget S) rest

/-- The tag of the result created by piece `p` of Pretext scaffold `S`: FalseDuplicate if `p` carries it; else Haplotig
    if `p` carries it; else Contaminant if `p` carries it or Target mode holds — the namer's flag is set (a Target tag
    in an earlier Pretext scaffold, or in `S` itself) and `S` has no Target tag; else none. -/
def pieceTag (seen : Bool) (S : Scaffold) (p : Fragment) : Option Str :=
  tagRule (seen || hasTarget S) S.fragmentTags p

def pieceView (c : Bool × Scaffold × Fragment) : Option Str × Option Str × Option (List Str) × Fragment :=
  (pieceTag c.1 c.2.1 c.2.2, some c.2.1.name, some c.2.1.fragmentTags, c.2.2)

theorem findAssemblyOverlaps_label (input : List Scaffold) (ptx : List Scaffold) :
    ∀ (b b' : Build), findAssemblyOverlaps input ptx b = .ok b' →
      b'.store.map labelView = b.store.map labelView ++ (pieces input b.namer.targetTags ptx).map pieceView ∧
      b'.namer.targetTags = (b.namer.targetTags || ptx.any hasTarget) ∧ b'.extra = b.extra := by
  induction ptx with
  | nil =>
    intro b b' h
    cases h
    simp [pieces]
  | cons S rest ih =>
    intro b b' h
    rw [Pipeline.findAssemblyOverlaps_eq, List.foldlM_cons, bind_eq_ok] at h
    obtain ⟨b1, h1, h2⟩ := h
    obtain ⟨i1, i2, i3⟩ := ih b1 b' h2
    obtain ⟨n, hn, sm, ex, hv⟩ := overlapsStep_oFixed h1
    have hnt : n.targetTags = (b.namer.targetTags || hasTarget S) := congrArg Namer.targetTags (makeScaffoldName_frame hn)
    have htt : b1.namer.targetTags = (b.namer.targetTags || hasTarget S) := by rw [sm.1]; exact hnt
    refine ⟨?_, by rw [i2, htt, List.any_cons, Bool.or_assoc], i3.trans ex⟩
    -- the label view is a projection of the label fields
    have hview := congrArg (List.map fun x : Option Str × Option Str × Int × Option Str × Option (List Str) × Fragment =>
      (x.1, x.2.2.2.1, x.2.2.2.2.1, x.2.2.2.2.2)) hv
    rw [List.map_append, List.map_map, List.map_map, List.map_map] at hview
    rw [i1, htt, show b1.store.map labelView = _ from hview]
    simp only [pieces, List.map_append, List.map_map, List.append_assoc]
    congr 2
    apply List.map_congr_left
    intro p _
    show (tagRule n.targetTags S.fragmentTags p, some S.name, some S.fragmentTags, p) = pieceView (b.namer.targetTags, S, p)
    unfold pieceView pieceTag
    rw [hnt]

theorem pieceTag_eq (seen : Bool) (S : Scaffold) (p : Fragment) :
    pieceTag seen S p =
      if p.tags.contains sFalseDuplicate then some sFalseDuplicate
      else if p.tags.contains sHaplotig then some sHaplotig
      else if p.tags.contains sContaminant ∨ (seen = true ∧ hasTarget S = false) then some sContaminant
      else none := by
  unfold pieceTag tagRule hasTarget
  cases seen <;> cases h : S.fragmentTags.contains sTarget <;> simp

end AgpTpf.C09
