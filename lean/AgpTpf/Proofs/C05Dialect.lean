/- C05 (e)/(f): ONE description of a line-oriented text format for assemblies (`Dialect`), and what follows from it for any
   format: the line written for a row is read back as that row, the file written for an assembly as that assembly, the
   written text splits into the written lines.  AGP (`C05Agp`) and TPF (`C05Tpf`) are the two instances. -/
import AgpTpf.Proofs.C05Header
import AgpTpf.Proofs.C05Fold
namespace AgpTpf.C05
open AgpTpf AgpTpf.C06 AgpTpf.AsmFormat

/-- no newline inside any name, tag or gap type (so that the written text splits back into the written lines) -/
def RowNoNl (r : Row) : Prop :=
  match r with
  | .gap g => '\n' ∉ g.gapType
  | .frag f => '\n' ∉ f.name ∧ ∀ t ∈ f.tags, '\n' ∉ t

instance (r : Row) : Decidable (RowNoNl r) := by unfold RowNoNl; cases r <;> infer_instance

theorem RowNoNl.avoids {r : Row} (h : RowNoNl r) : RowAvoids '\n' r := by
  cases r <;> exact h

def NoNewlines (a : Assembly) : Prop :=
  ∀ s ∈ a.scaffolds, '\n' ∉ s.name ∧ ∀ r ∈ s.rows, RowNoNl r

instance (a : Assembly) : Decidable (NoNewlines a) := by unfold NoNewlines; infer_instance

/-- A line-oriented text format for assemblies: the parameters of its reader (`readLine skip strip fields`), what its writer
    puts out (header prefix; the lines of a scaffold; the columns of the line of one row), the scaffold names and rows it
    carries, and the facts that tie reader and writer.  Two things a format may do differently are data here.
    `opens row`: the line written for `row` names its scaffold.  Every AGP line does (column 1); a TPF gap line does not —
    the reader appends it to whatever scaffold is open, so it comes back in place exactly when a scaffold IS open and is the
    right one, which is why a scaffold has to start with a row that opens it (`FirstOpens`; for TPF `FirstIsFrag`).
    `back row`: the row as the reader rebuilds it (TPF has no columns for the tags: `Row.dropTags`). -/
structure Dialect where
  skip : Str → Bool
  strip : Char → Bool
  fields : ParseState → List Str → R ParseState
  hdrPrefix : Str
  rowLines : Scaffold → R (List Str)
  /-- the columns the writer puts out for `row` of scaffold `name` -/
  Cols : Str → Row → List Str → Prop
  back : Row → Row
  opens : Row → Bool
  NameOk : Str → Prop
  RowOk : Row → Prop
  skip_hash : ∀ l, skip l = true → startsWith ['#'] l = true
  strip_nl : strip '\n' = true
  strip_space : ∀ c, isSpace c = false → strip c = false
  fields_step : ∀ st fs st', fields st fs = .ok st' → DataStep st st'
  prefix_hash : hdrPrefix.head? = some '#'
  prefix_chars : ∀ c ∈ hdrPrefix, isHashOrSpace c = true
  prefix_noskip : ∀ t, skip (hdrPrefix ++ t) = false
  prefix_nl : '\n' ∉ hdrPrefix
  rowLines_ok : ∀ s : Scaffold, (∀ r ∈ s.rows, StrandOk r) → ∃ ls, rowLines s = .ok ls
  rowLines_cols : ∀ (s : Scaffold) ls, rowLines s = .ok ls →
    Forall2 (fun row line => ∃ cs, Cols s.name row cs ∧ line = lineOfCols cs) s.rows ls
  row_strand : ∀ {row}, RowOk row → StrandOk row
  name_tab : ∀ {name}, NameOk name → '\t' ∉ name
  row_tab : ∀ {row}, RowOk row → RowAvoids '\t' (back row)
  back_avoids : ∀ {x row}, RowAvoids x row → RowAvoids x (back row)
  cols_avoid : ∀ {x name row cs}, isSpace x = true → x ∉ name → RowAvoids x (back row) → Cols name row cs → ∀ c ∈ cs, x ∉ c
  /-- first column: no `#` in front; last column: ends in a character no `rstrip` removes -/
  cols_ends : ∀ {name row cs}, NameOk name → RowOk row → Cols name row cs →
    ∃ c0 rest l x, cs = c0 :: rest ∧ c0.head? ≠ some '#' ∧ cs.getLast? = some l ∧ l.getLast? = some x ∧ isSpace x = false
  fields_cols : ∀ {name row cs}, NameOk name → RowOk row → Cols name row cs → ∀ st, (opens row = true ∨ st.haveScaffold = true) →
    fields st cs = addRowOid (if opens row = true then st.switchScaffold name else st) (back row)

namespace Dialect
variable (D : Dialect)

def read : ParseState → Str → R ParseState := readLine D.skip D.strip D.fields

def Writes (name : Str) (row : Row) (line : Str) : Prop := ∃ cs, D.Cols name row cs ∧ line = lineOfCols cs

/-- (e) the line written for `row` of scaffold `name` is read as that row, as it comes back — in that scaffold if the line
    names it, else in the open one -/
theorem read_row {name : Str} {row : Row} {line : Str} (hn : D.NameOk name) (hr : D.RowOk row) (hw : D.Writes name row line)
    (st : ParseState) (h : D.opens row = true ∨ st.haveScaffold = true) :
    D.read st line = addRowOid (if D.opens row = true then st.switchScaffold name else st) (D.back row) := by
  obtain ⟨cs, hc, rfl⟩ := hw
  obtain ⟨c0, rest, l, x, rfl, hhash, hl, hx, hxs⟩ := D.cols_ends hn hr hc
  rw [read, readLine_written D.skip_hash D.strip_nl D.strip_space D.fields st
    (D.cols_avoid (x := '\t') rfl (D.name_tab hn) (D.row_tab hr) hc) hhash hl hx hxs]
  exact D.fields_cols hn hr hc st h

theorem read_step {name : Str} {row : Row} {line : Str} (hn : D.NameOk name) (hr : D.RowOk row) (hw : D.Writes name row line)
    (st : ParseState) (h : D.opens row = true ∨ InScaffold name st) : D.read st line = stepRow name st (D.back row) := by
  rw [D.read_row hn hr hw st (h.imp id (·.2)), stepRow]
  split
  · rfl
  · rw [switchScaffold_same st name (h.resolve_left ‹_›).1]

theorem read_header (st : ParseState) {h : Str} (hh : HeaderOk h) :
    D.read st (D.hdrPrefix ++ h ++ ['\n']) = .ok { st with header := st.header ++ [h] } :=
  readLine_header D.strip D.fields st D.hdrPrefix h D.prefix_hash D.prefix_chars
    (by rw [List.append_assoc]; exact D.prefix_noskip _) hh

/-- (e) any line, written or not -/
theorem one_row_or_error (st : ParseState) (line : Str) (st' : ParseState) (h : D.read st line = .ok st') :
    (isBlankLine line = true ∨ startsWith ['#'] line = true →
        st'.scaffolds = st.scaffolds ∧ st'.currentName = st.currentName ∧ st'.nextOid = st.nextOid) ∧
    (¬ (isBlankLine line = true ∨ startsWith ['#'] line = true) →
        OneRowAdded st st' ∧ totalRows st' = totalRows st + 1 ∧ st'.header = st.header) :=
  readLine_one_row_or_error D.skip_hash D.fields_step st line st' h

/-- the writer: comment lines, then the lines of every scaffold (`format_agp`, `format_tpf`) -/
def format (a : Assembly) : R (List Str) := do
  let body ← a.scaffolds.mapM D.rowLines
  pure (a.header.map (fun h => D.hdrPrefix ++ h ++ ['\n']) ++ body.flatten)

/-- the reader (`parse_agp`, `parse_tpf`) -/
def parse (lines : List Str) : R Assembly := do
  let st ← lines.foldlM D.read {}
  pure { header := st.header, scaffolds := st.scaffolds }

def backAssembly (a : Assembly) : Assembly :=
  { a with scaffolds := a.scaffolds.map fun s => { s with rows := s.rows.map D.back } }

def FirstOpens (rows : List Row) : Prop := ∃ r t, rows = r :: t ∧ D.opens r = true

/-- the assemblies the format carries (`WFAgp`, `WFTpf`) -/
def WF (a : Assembly) : Prop :=
  (∀ h ∈ a.header, HeaderOk h) ∧ NamesChain [] a.scaffolds ∧
  ∀ s ∈ a.scaffolds, D.NameOk s.name ∧ D.FirstOpens s.rows ∧ ∀ r ∈ s.rows, D.RowOk r

theorem format_ok_iff (a : Assembly) (lines : List Str) :
    D.format a = .ok lines ↔ ∃ bodies, Forall2 (fun s ls => D.rowLines s = .ok ls) a.scaffolds bodies ∧
      lines = a.header.map (fun h => D.hdrPrefix ++ h ++ ['\n']) ++ bodies.flatten := by
  unfold format
  rw [bind_eq_ok]
  constructor
  · rintro ⟨bodies, hb, h⟩; exact ⟨bodies, (mapM_ok_iff _ _ _).1 hb, (Except.ok.inj h).symm⟩
  · rintro ⟨bodies, hb, rfl⟩; exact ⟨bodies, (mapM_ok_iff _ _ _).2 hb, rfl⟩

theorem format_ok (a : Assembly) (h : ∀ s ∈ a.scaffolds, ∀ r ∈ s.rows, StrandOk r) : ∃ lines, D.format a = .ok lines := by
  obtain ⟨bodies, hb⟩ := AgpTpf.mapM_ok_of_forall fun s hs => D.rowLines_ok s (h s hs)
  exact ⟨_, (D.format_ok_iff a _).2 ⟨bodies, (mapM_ok_iff _ _ _).1 hb, rfl⟩⟩

theorem scaffoldLines {s : Scaffold} {ls : List Str} (hn : D.NameOk s.name) (hfirst : D.FirstOpens s.rows)
    (hr : ∀ r ∈ s.rows, D.RowOk r) (hw : Forall2 (D.Writes s.name) s.rows ls) :
    ScaffoldLines D.read s (s.rows.map D.back) ls := by
  obtain ⟨r, t, e, ho⟩ := hfirst
  rw [e] at hw hr ⊢
  cases ls with
  | nil => exact hw.elim
  | cons line lines =>
    exact ⟨fun st => D.read_step hn (hr r List.mem_cons_self) hw.1 st (.inl ho),
      Forall2.map_right _ (Forall2.imp_of_mem (fun l r' _ hm hl st hin => D.read_step hn (hr r' (List.mem_cons_of_mem _ hm)) hl st (.inr hin))
        hw.2.flip)⟩

/-- (f) what is written for a well-formed assembly is read back as that assembly, rows as they come
    back, fragments numbered in file order -/
theorem format_parse (a : Assembly) (h : D.WF a) :
    ∃ lines, D.format a = .ok lines ∧ D.parse lines = .ok (canonAssembly (D.backAssembly a)) := by
  obtain ⟨hh, hch, hsc⟩ := h
  obtain ⟨lines, hf⟩ := D.format_ok a fun s hs r hr => D.row_strand ((hsc s hs).2.2 r hr)
  refine ⟨lines, hf, ?_⟩
  obtain ⟨bodies, hb, rfl⟩ := (D.format_ok_iff a lines).1 hf
  have hlines : Forall2 (fun s ls => ScaffoldLines D.read s (s.rows.map D.back) ls) a.scaffolds bodies :=
    Forall2.imp_of_mem (fun s ls hs _ hl => D.scaffoldLines (hsc s hs).1 (hsc s hs).2.1 (hsc s hs).2.2 (D.rowLines_cols s ls hl)) hb
  obtain ⟨st', h1, h2, h3⟩ := fold_scaffolds D.read (fun s => s.rows.map D.back) a.scaffolds _
    { header := [] ++ a.header } hlines hch
  unfold parse
  rw [List.foldlM_append, fold_headers D.read D.hdrPrefix (fun st h hh => D.read_header st hh) a.header hh, ok_bind]
  show (List.foldlM D.read ({ header := [] ++ a.header } : ParseState) bodies.flatten >>= _) = _
  rw [h1, ok_bind, h2, h3]
  simp only [canonAssembly, backAssembly, List.nil_append]
  rfl

/-- (f, text level) the written text, split the way file iteration does, is the written lines -/
theorem format_lines (a : Assembly) (lines : List Str) (hf : D.format a = .ok lines) (hh : ∀ h ∈ a.header, HeaderOk h)
    (hnl : NoNewlines a) : pyLines lines.flatten = lines := by
  obtain ⟨bodies, hb, rfl⟩ := (D.format_ok_iff a lines).1 hf
  refine pyLines_flatten _ fun l hl => ?_
  rcases List.mem_append.1 hl with hl | hl
  · obtain ⟨hd, hdm, rfl⟩ := List.mem_map.1 hl
    exact headerLine_lineOk _ _ D.prefix_nl (hh hd hdm)
  · obtain ⟨body, hbm, hlb⟩ := List.mem_flatten.1 hl
    refine Forall2.forall_right (Q := fun ls : List Str => ∀ l ∈ ls, LineOk l) hb (fun s ls hs hls => ?_) body hbm l hlb
    refine Forall2.forall_right (Q := LineOk) (D.rowLines_cols s ls hls) fun row line hrow ⟨cs, hc, e⟩ => ?_
    rw [e]
    exact lineOfCols_lineOk _ (D.cols_avoid rfl (hnl s hs).1 (D.back_avoids ((hnl s hs).2 row hrow).avoids) hc)

end Dialect

end AgpTpf.C05
