/-
  C02 (script model): texel arithmetic and the pieces of one input scaffold (`Model/Pretext.lean`).
  Everything here is about natural numbers; no remapper code is involved.
-/
import AgpTpf.Model.Pretext
namespace AgpTpf.C02
open AgpTpf AgpTpf.Pretext

theorem coord_zero (p q : Nat) : coord p q 0 = 0 := by simp [coord]

theorem coord_mono (p q : Nat) {a b : Nat} (h : a ≤ b) : coord p q a ≤ coord p q b :=
  Nat.div_le_div_right (Nat.mul_le_mul_right p h)

theorem coord_mul_le (p q t : Nat) : coord p q t * q ≤ t * p := Nat.div_mul_le_self _ _

theorem lt_coord_succ_mul (p q t : Nat) (hq : 1 ≤ q) : t * p < (coord p q t + 1) * q := by
  unfold coord
  have := Nat.lt_mul_div_succ (t * p) (show 0 < q by omega)
  rw [Nat.mul_comm q] at this; exact this

theorem coord_add_le (p q a d : Nat) (hq : 1 ≤ q) : coord p q a + coord p q d ≤ coord p q (a + d) := by
  unfold coord
  rw [Nat.le_div_iff_mul_le (by omega), Nat.add_mul, Nat.add_mul]
  have h1 := Nat.div_mul_le_self (a * p) q
  have h2 := Nat.div_mul_le_self (d * p) q
  omega

theorem mul_floor_le_coord (p q t : Nat) (hq : 1 ≤ q) : t * (p / q) ≤ coord p q t := by
  unfold coord
  rw [Nat.le_div_iff_mul_le (by omega), Nat.mul_assoc]
  exact Nat.mul_le_mul_left t (Nat.div_mul_le_self p q)

theorem coord_succ (p q a : Nat) (hq : 1 ≤ q) (hpq : q ≤ p) : coord p q a + 1 ≤ coord p q (a + 1) := by
  have h := coord_add_le p q a 1 hq
  have h1 : 1 ≤ coord p q 1 := by
    unfold coord
    rw [Nat.le_div_iff_mul_le (by omega)]; omega
  omega

theorem coord_lt (p q : Nat) (hq : 1 ≤ q) (hpq : q ≤ p) {a b : Nat} (h : a < b) : coord p q a < coord p q b := by
  have h1 := coord_succ p q a hq hpq
  have h2 := coord_mono p q (show a + 1 ≤ b by omega)
  omega

theorem coord_diff_ge (p q a d : Nat) (hq : 1 ≤ q) : coord p q d ≤ coord p q (a + d) - coord p q a :=
  Nat.le_sub_of_add_le' (coord_add_le p q a d hq)

theorem coord_diff_lt (p q a d : Nat) (hq : 1 ≤ q) : (coord p q (a + d) - coord p q a) * q < d * p + q := by
  have h1 := coord_mul_le p q (a + d)
  have h2 := lt_coord_succ_mul p q a hq
  have h3 := coord_mono p q (show a ≤ a + d by omega)
  rw [Nat.sub_mul]
  rw [Nat.add_mul] at h1 h2
  have h4 : coord p q a * q ≤ coord p q (a + d) * q := Nat.mul_le_mul_right q h3
  omega

theorem errLen_ge_two (p q : Nat) (hq : 1 ≤ q) (hpq : q ≤ p) : 2 ≤ errLen p q := by
  unfold errLen
  have : 1 ≤ p / q := by rw [Nat.le_div_iff_mul_le (by omega)]; omega
  omega

theorem errLen_pos (p q : Nat) : (0 : Int) < errLen p q :=
  Int.natCast_pos.2 (Nat.add_pos_left Nat.one_pos _)

theorem coord_floorT_le (p q L : Nat) (hq : 1 ≤ q) (_hpq : q ≤ p) : coord p q (floorT p q L) ≤ L := by
  unfold coord floorT
  have h1 := Nat.div_mul_le_self (L * q) p
  have h2 : L * q / p * p / q ≤ L * q / q := Nat.div_le_div_right h1
  rw [Nat.mul_div_cancel _ (show 0 < q by omega)] at h2
  exact h2

theorem lt_coord_floorT (p q L : Nat) (hq : 1 ≤ q) (hpq : q ≤ p) :
    L * q < coord p q (floorT p q L) * q + q + p := by
  have h1 := lt_coord_succ_mul p q (floorT p q L) hq
  have h2 : L * q < (floorT p q L + 1) * p := lt_coord_succ_mul q p L (by omega)
  rw [Nat.add_mul] at h1 h2
  omega

theorem sub_le_div {p q a b : Nat} (hq : 1 ≤ q) (h : a * q < b * q + p) : a - b ≤ p / q := by
  rw [Nat.le_div_iff_mul_le (by omega), Nat.sub_mul]
  omega

theorem sub_le_errLen {p q L c : Nat} (hq : 1 ≤ q) (h : L * q < c * q + q + p) : L - c ≤ errLen p q := by
  have := sub_le_div hq (Nat.add_assoc _ q p ▸ h)
  rw [Nat.add_div_left p hq] at this
  unfold errLen
  omega

theorem floorT_undershoot (p q L : Nat) (hq : 1 ≤ q) (hpq : q ≤ p) :
    L - coord p q (floorT p q L) ≤ errLen p q :=
  sub_le_errLen hq (lt_coord_floorT p q L hq hpq)

theorem le_coord_ceilT (p q L : Nat) (hq : 1 ≤ q) (hpq : q ≤ p) : L ≤ coord p q (ceilT p q L) := by
  unfold coord
  rw [Nat.le_div_iff_mul_le (by omega)]
  unfold ceilT
  have h := Nat.lt_mul_div_succ (L * q + p - 1) (show 0 < p by omega)
  have e : p * ((L * q + p - 1) / p + 1) = (L * q + p - 1) / p * p + p := by
    rw [Nat.mul_add, Nat.mul_comm]; omega
  omega

theorem coord_ceilT_lt (p q L : Nat) (hq : 1 ≤ q) (hpq : q ≤ p) :
    coord p q (ceilT p q L) * q < L * q + p := by
  have h1 := coord_mul_le p q (ceilT p q L)
  have h2 : ceilT p q L * p ≤ L * q + p - 1 := Nat.div_mul_le_self _ _
  omega

theorem ceilT_overshoot (p q L : Nat) (hq : 1 ≤ q) (hpq : q ≤ p) :
    coord p q (ceilT p q L) - L < errLen p q := by
  have := sub_le_div hq (coord_ceilT_lt p q L hq hpq)
  unfold errLen
  omega

/-- so the generator's "T = 1" (taken when `⌊L/β⌋ = 0`) is the ceiling choice -/
theorem ceilT_eq_one (p q L : Nat) (hq : 1 ≤ q) (hpq : q ≤ p) (hL : 1 ≤ L) (h0 : floorT p q L = 0) : ceilT p q L = 1 := by
  have h1 : L * q < p := (Nat.div_eq_zero_iff.1 h0).resolve_left (by omega)
  have h2 : 1 ≤ L * q := Nat.mul_pos hL hq
  exact Nat.div_eq_of_lt_le (by omega) (by omega)

def Steps (d a : Nat) : List Nat → Prop
  | [] => True
  | b :: r => a + d ≤ b ∧ Steps d b r

theorem Steps.mono {d d' a : Nat} {l : List Nat} (hd : d' ≤ d) (h : Steps d a l) : Steps d' a l := by
  induction l generalizing a with
  | nil => trivial
  | cons b r ih => exact ⟨by have := h.1; omega, ih h.2⟩

theorem Steps.lt_last {a T : Nat} {l : List Nat} (h : Steps 1 a (l ++ [T])) : a < T := by
  induction l generalizing a with
  | nil => exact h.1
  | cons b r ih => exact Nat.lt_trans h.1 (ih h.2)

theorem stepsOk_iff (a : Nat) (l : List Nat) : stepsOk a l = true ↔ Steps 2 a l := by
  induction l generalizing a with
  | nil => simp [stepsOk, Steps]
  | cons b r ih => simp [stepsOk, Steps, ih]

theorem wf_present {p q L : Nat} {c : ScafScript} (h : c.wf p q L = true) (hp : c.present = true) :
    (c.T = floorT p q L ∨ c.T = ceilT p q L ∨ (floorT p q L = 0 ∧ c.T = 1)) ∧ 1 ≤ c.T ∧
    (c.cuts = [] ∨ Steps 2 0 (c.cuts ++ [c.T])) := by
  unfold ScafScript.wf at h
  rw [if_pos hp] at h
  simp only [Bool.and_eq_true, Bool.or_eq_true, beq_iff_eq, decide_eq_true_eq, List.isEmpty_iff, stepsOk_iff,
    or_assoc] at h
  exact ⟨h.1.1, h.1.2, h.2⟩

theorem wf_end_lt {p q L : Nat} {c : ScafScript} (hq : 1 ≤ q) (hpq : q ≤ p) (h : c.wf p q L = true)
    (hp : c.present = true) (hL : 1 ≤ L) : L * q < coord p q c.T * q + q + p := by
  have hceil := Nat.mul_le_mul_right q (le_coord_ceilT p q L hq hpq)
  rcases (wf_present h hp).1 with e | e | ⟨e0, e1⟩
  · rw [e]; exact lt_coord_floorT p q L hq hpq
  · rw [e]; omega
  · rw [e1, ← ceilT_eq_one p q L hq hpq hL e0]; omega

theorem wf_absent {p q L : Nat} {c : ScafScript} (h : c.wf p q L = true) (hp : c.present = false) :
    floorT p q L = 0 ∧ c.cuts = [] := by
  unfold ScafScript.wf at h
  rw [hp] at h
  simpa using h

theorem wf_inc {p q L : Nat} {c : ScafScript} (h : c.wf p q L = true) (hp : c.present = true) :
    Steps 1 0 (c.cuts ++ [c.T]) := by
  obtain ⟨-, hT, hc⟩ := wf_present h hp
  rcases hc with hc | hc
  · rw [hc]; exact ⟨hT, trivial⟩
  · exact hc.mono (by omega)

theorem spansFrom_nil (p q a T : Nat) : spansFrom p q a ([] ++ [T]) = [(coord p q a + 1, coord p q T)] := rfl

theorem spansFrom_cons (p q a c T : Nat) (cs : List Nat) :
    spansFrom p q a ((c :: cs) ++ [T]) = (coord p q a + 1, coord p q c) :: spansFrom p q c (cs ++ [T]) := rfl

theorem spansFrom_length (p q a : Nat) (l : List Nat) : (spansFrom p q a l).length = l.length := by
  induction l generalizing a with
  | nil => rfl
  | cons b r ih => simp [spansFrom, ih]

theorem spansFrom_getElem? (p q : Nat) : ∀ (l : List Nat) (a k : Nat) (x : Nat × Nat),
    (spansFrom p q a l)[k]? = some x ↔
      ∃ lo hi, (a :: l)[k]? = some lo ∧ l[k]? = some hi ∧ x = (coord p q lo + 1, coord p q hi)
  | [], a, k, x => Iff.intro (fun h => nomatch h) (fun ⟨_, _, _, h, _⟩ => nomatch h)
  | b :: r, a, 0, x =>
    ⟨fun h => ⟨a, b, rfl, rfl, (Option.some.inj h).symm⟩, fun ⟨_, _, h1, h2, e⟩ => by cases h1; cases h2; rw [e]; rfl⟩
  | b :: r, a, k + 1, x => spansFrom_getElem? p q r b k x

theorem spansFrom_next {p q a : Nat} {l : List Nat} {n : Nat} {x y : Nat × Nat}
    (hx : (spansFrom p q a l)[n]? = some x) (hy : (spansFrom p q a l)[n + 1]? = some y) : x.2 + 1 = y.1 := by
  obtain ⟨_, hi, -, h2, rfl⟩ := (spansFrom_getElem? p q l a n x).1 hx
  obtain ⟨lo, _, h1, -, rfl⟩ := (spansFrom_getElem? p q l a (n + 1) y).1 hy
  cases h2.symm.trans h1
  rfl

theorem spansFrom_head {p q a : Nat} {l : List Nat} {x : Nat × Nat} (h : (spansFrom p q a l).head? = some x) :
    x.1 = coord p q a + 1 := by
  rw [List.head?_eq_getElem?] at h
  obtain ⟨_, _, h1, -, rfl⟩ := (spansFrom_getElem? p q l a 0 x).1 h
  cases h1; rfl

theorem spansFrom_last {p q a T : Nat} {cuts : List Nat} {x : Nat × Nat}
    (h : (spansFrom p q a (cuts ++ [T])).getLast? = some x) : x.2 = coord p q T := by
  rw [List.getLast?_eq_getElem?, spansFrom_length] at h
  obtain ⟨_, hi, -, h2, rfl⟩ := (spansFrom_getElem? p q _ a _ x).1 h
  rw [List.length_append, List.length_singleton, Nat.add_sub_cancel, List.getElem?_append_right (Nat.le_refl _),
    Nat.sub_self] at h2
  cases h2; rfl

theorem mem_spansFrom {p q a T : Nat} {cuts : List Nat} {x : Nat × Nat} (h : x ∈ spansFrom p q a (cuts ++ [T])) :
    (x.1 = coord p q a + 1 ∨ ∃ c ∈ cuts, x.1 = coord p q c + 1) ∧ (x.2 = coord p q T ∨ ∃ c ∈ cuts, x.2 = coord p q c) := by
  obtain ⟨k, hk⟩ := List.mem_iff_getElem?.1 h
  obtain ⟨lo, hi, h1, h2, rfl⟩ := (spansFrom_getElem? p q _ a k x).1 hk
  constructor
  · cases k with
    | zero => cases h1; exact Or.inl rfl
    | succ k =>
      -- mark `k + 1` of `a :: cuts ++ [T]` is an interior cut, since mark `k + 2` exists
      have hlt : k + 1 < (cuts ++ [T]).length := (List.getElem?_eq_some_iff.1 h2).1
      rw [List.getElem?_cons_succ, List.getElem?_append_left (by simp at hlt; omega)] at h1
      exact Or.inr ⟨lo, List.mem_of_getElem? h1, rfl⟩
  · rcases List.mem_append.1 (List.mem_of_getElem? h2) with hm | hm
    · exact Or.inr ⟨hi, hm, rfl⟩
    · exact Or.inl (by rw [List.mem_singleton.1 hm])

theorem spansFrom_bounds {p q : Nat} (hq : 1 ≤ q) (hpq : q ≤ p) {a T : Nat} {cuts : List Nat}
    (hinc : Steps 1 a (cuts ++ [T])) {x : Nat × Nat} (h : x ∈ spansFrom p q a (cuts ++ [T])) :
    coord p q a + 1 ≤ x.1 ∧ x.1 ≤ x.2 ∧ x.2 ≤ coord p q T := by
  induction cuts generalizing a with
  | nil =>
    rw [spansFrom_nil, List.mem_singleton] at h
    subst h
    exact ⟨Nat.le_refl _, coord_lt p q hq hpq hinc.1, Nat.le_refl _⟩
  | cons c cs ih =>
    have hac := coord_lt p q hq hpq hinc.1
    rw [spansFrom_cons] at h
    rcases List.mem_cons.1 h with rfl | h
    · exact ⟨Nat.le_refl _, hac, coord_mono p q (Nat.le_of_lt hinc.2.lt_last)⟩
    · obtain ⟨h1, h2, h3⟩ := ih hinc.2 h
      exact ⟨by omega, h2, h3⟩

theorem spansFrom_pairwise {p q : Nat} (hq : 1 ≤ q) (hpq : q ≤ p) {a T : Nat} {cuts : List Nat}
    (hinc : Steps 1 a (cuts ++ [T])) :
    (spansFrom p q a (cuts ++ [T])).Pairwise (fun x y => x.2 < y.1) := by
  induction cuts generalizing a with
  | nil => rw [spansFrom_nil]; exact List.pairwise_singleton _ _
  | cons c cs ih =>
    rw [spansFrom_cons]
    refine List.Pairwise.cons ?_ (ih hinc.2)
    intro y hy
    have := (spansFrom_bounds hq hpq hinc.2 hy).1
    show coord p q c < y.1
    omega

theorem spansFrom_between {p q : Nat} (hq : 1 ≤ q) (hpq : q ≤ p) {a T : Nat} {cuts : List Nat}
    (hinc : Steps 1 a (cuts ++ [T])) {x y : Nat × Nat} (hx : x ∈ spansFrom p q a (cuts ++ [T]))
    (hy : y ∈ spansFrom p q a (cuts ++ [T])) (hlt : x.1 < y.1) :
    x.2 + 1 = y.1 ∨ ∃ m ∈ spansFrom p q a (cuts ++ [T]), x.2 < m.1 ∧ m.2 < y.1 := by
  obtain ⟨k, hk, rfl⟩ := List.mem_iff_getElem.1 hx
  obtain ⟨k', hk', rfl⟩ := List.mem_iff_getElem.1 hy
  have hpw := List.pairwise_iff_getElem.1 (spansFrom_pairwise hq hpq hinc)
  have hne := (spansFrom_bounds hq hpq hinc (List.getElem_mem hk')).2.1
  rcases Nat.lt_trichotomy k k' with h | rfl | h
  · by_cases e : k + 1 = k'
    · subst e
      exact Or.inl (spansFrom_next (List.getElem?_eq_getElem hk) (List.getElem?_eq_getElem hk'))
    · have hm := Nat.lt_of_le_of_lt h hk'
      exact Or.inr ⟨_, List.getElem_mem hm, hpw k (k + 1) hk hm k.lt_succ_self,
        hpw (k + 1) k' hm hk' (Nat.lt_of_le_of_ne h e)⟩
  · omega
  · have := hpw k' k hk' hk h
    omega

theorem spansFrom_cover {p q : Nat} {a T : Nat} {cuts : List Nat} (z : Nat)
    (h1 : coord p q a + 1 ≤ z) (h2 : z ≤ coord p q T) :
    ∃ x ∈ spansFrom p q a (cuts ++ [T]), x.1 ≤ z ∧ z ≤ x.2 := by
  induction cuts generalizing a with
  | nil => exact ⟨(coord p q a + 1, coord p q T), by rw [spansFrom_nil]; simp, h1, h2⟩
  | cons c cs ih =>
    rw [spansFrom_cons]
    by_cases hz : z ≤ coord p q c
    · exact ⟨(coord p q a + 1, coord p q c), by simp, h1, hz⟩
    · obtain ⟨x, hx, hx1, hx2⟩ := ih (a := c) (by omega)
      exact ⟨x, by simp [hx], hx1, hx2⟩

theorem spansFrom_long {p q : Nat} (hq : 1 ≤ q) {d a : Nat} {l : List Nat} (hs : Steps d a l)
    {x : Nat × Nat} (h : x ∈ spansFrom p q a l) : coord p q d ≤ x.2 + 1 - x.1 := by
  induction l generalizing a with
  | nil => cases h
  | cons b r ih =>
    rcases List.mem_cons.1 h with rfl | h
    · show coord p q d ≤ coord p q b + 1 - (coord p q a + 1)
      have h1 := coord_diff_ge p q a d hq
      have h2 := coord_mono p q hs.1
      omega
    · exact ih hs.2 h

/-- with every step at least two texels: `⌊2β⌋ ≥ 2·⌊β⌋ ≥ errLen` -/
theorem spansFrom_long_two {p q : Nat} (hq : 1 ≤ q) (hpq : q ≤ p) {a : Nat} {l : List Nat} (hs : Steps 2 a l)
    {x : Nat × Nat} (h : x ∈ spansFrom p q a l) :
    coord p q 2 ≤ x.2 + 1 - x.1 ∧ 2 * (errLen p q - 1) ≤ x.2 + 1 - x.1 ∧ errLen p q ≤ x.2 + 1 - x.1 := by
  have hlong := spansFrom_long hq hs h
  have hm := mul_floor_le_coord p q 2 hq
  have he := errLen_ge_two p q hq hpq
  have : errLen p q - 1 = p / q := by unfold errLen; omega
  exact ⟨hlong, by omega, by omega⟩

end AgpTpf.C02
