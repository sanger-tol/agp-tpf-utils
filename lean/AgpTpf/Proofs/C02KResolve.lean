/-
  C02 core: the per-result invariant at build level while the resolver runs
  (`RRes`: lookup scaffold, fresh lookup result, `KInv`, `RGeo`, `SafeKept`), and that `find_assembly_overlaps` establishes it for
  every stored result.
-/
import AgpTpf.Proofs.Remap.Rounds
import AgpTpf.Proofs.C02KRes
import AgpTpf.Proofs.C02KSafe
import AgpTpf.Proofs.Lib.Pipeline
namespace AgpTpf.C02
open AgpTpf OverlapResult
open AgpTpf.C01 (WFInput)

/-- contigs have `start ≤ end` by `WFInput`; this adds: no gap row of negative length -/
def InputNonNeg (input : List Scaffold) : Prop := ∀ sc ∈ input, NonNeg sc.rows

instance (input : List Scaffold) : Decidable (InputNonNeg input) := by unfold InputNonNeg NonNeg; infer_instance

theorem KInv.congr {src : List Row} {M s0 e0 : Int} {p : Fragment} {o o' : OverlapResult} (hk : KInv src M s0 e0 p o)
    (hr : o'.rows = o.rows) (hs : o'.start = o.start) (he : o'.stop = o.stop) (hb : o'.bait = o.bait) :
    KInv src M s0 e0 p o' := by
  refine ⟨?_, hb.trans hk.bait, ?_, ?_⟩
  · exact hk.inv.congr hr hs he
  · intro x h1 h2 hc h3 h4
    rw [hb] at h3 h4; rw [hs, he]
    exact hk.core x h1 h2 hc h3 h4
  · unfold EdgeOK
    rw [hr, hs, he, hb]; exact hk.edge

def RRes (input : List Scaffold) (err : Int) (o : OverlapResult) : Prop :=
  ∃ sc o0, sc ∈ input ∧ sc.name = o.bait.name ∧ findOverlaps sc.rows o.bait = .ok (some o0) ∧
    KInv sc.rows (3 * err) o0.start o0.stop o.bait o ∧ RGeo sc.rows o ∧ SafeKept sc.rows err (3 * err) o

def StoreR (input : List Scaffold) (err : Int) (store : List Res) : Prop := ∀ r ∈ store, RRes input err r.o

theorem RRes.congr {input : List Scaffold} {err : Int} {o o' : OverlapResult} (h : RRes input err o)
    (hr : o'.rows = o.rows) (hs : o'.start = o.start) (he : o'.stop = o.stop) (hb : o'.bait = o.bait) :
    RRes input err o' := by
  obtain ⟨sc, o0, h1, h2, h3, h4, h5, h6⟩ := h
  refine ⟨sc, o0, h1, by rw [hb]; exact h2, by rw [hb]; exact h3, ?_, h5.congr hr hs hb, h6.congr hs he hb⟩
  rw [hb]; exact h4.congr hr hs he hb

/-- the lookup result satisfies the invariant, relabelling reads none of the fields the invariant reads, and
    `trim_large_overhangs` is a guarded step -/
theorem created_rres {input : List Scaffold} (hwf : WFInput input) (hnn : InputNonNeg input) {err : Int} (herr : 0 ≤ err)
    {r : Res} (hc : Pipeline.Created input err r) : RRes input err r.o := by
  obtain ⟨bait, sc, o0, o1, hsc, hfo, ⟨hr1, hb1, hs1, he1⟩, ho2, _⟩ := hc
  obtain ⟨hscin, hname⟩ := Pipeline.lookupScaffold_ok hsc
  have hlen := hnn sc hscin
  have hd := ids_nodup_of_wf hwf hscin
  have hK1 := (kinv_lookup (3 * err) hd hfo).congr hr1 hs1 he1 hb1
  have hG1 := (rgeo_lookup hlen hd hfo).congr hr1 hs1 hb1
  have hS1 := (safeKept_lookup err (3 * err) hlen hfo).congr hs1 he1 hb1
  have hK2 := kinv_step hlen herr hK1 (.trimLarge ho2)
  have hb2 : r.o.bait = bait := hK2.bait
  exact ⟨sc, o0, hscin, by rw [hb2]; exact hname, by rw [hb2]; exact hfo, by rw [hb2]; exact hK2,
    hG1.trimLarge ho2, safeKept_step hlen hK1.inv hG1 hS1 (.trimLarge ho2)⟩

theorem findAssemblyOverlaps_storeR {input : List Scaffold} (hwf : WFInput input) (hnn : InputNonNeg input)
    (ptx : List Scaffold) (err : Int) (herr : 0 ≤ err) (b b' : Build) (he : b.err = err)
    (hS : StoreR input err b.store) (h : findAssemblyOverlaps input ptx b = .ok b') :
    StoreR input err b'.store ∧ b'.err = err := by
  subst he
  exact ⟨(Pipeline.findAssemblyOverlaps_grows h).forall (fun _ hc => created_rres hwf hnn herr hc)
    (fun _ _ hr => hr.congr rfl rfl rfl rfl) hS, (Pipeline.findAssemblyOverlaps_frame h).2.2.2.1⟩

end AgpTpf.C02

/-! C02 core: the overhang resolver keeps `StoreR`.
A fix of the resolver (`C01.RStep`) is a `GStep` of the result it touches: under the sub-texel rule the discarded contig
is held by a second result; with pairwise disjoint baits it therefore is not wholly inside the bait (`sticks_out_*`),
which is the side condition of `GStep.startA/endA`.  So whatever every guarded discard keeps of ONE result holds of every
stored result after `discard_overhanging_fragments` (`RRun.forall`); `StoreR` is the instance `RRes.step`. -/
namespace AgpTpf.C02
open AgpTpf OverlapResult
open AgpTpf.C01 (WFInput FragDisjoint Mid RStep RRun Discarded)

def BaitsDisj (store : List Res) : Prop := (store.map (·.o.bait)).Pairwise FragDisjoint

theorem fragDisjoint_symm {f g : Fragment} (h : FragDisjoint f g) : FragDisjoint g f := by
  intro hn
  rcases h hn.symm with h | h
  · exact Or.inr h
  · exact Or.inl h

theorem baitsDisj_get {store : List Res} (hD : BaitsDisj store) {i j : Nat} {r r' : Res} (hne : i ≠ j)
    (hi : store[i]? = some r) (hj : store[j]? = some r') : FragDisjoint r.o.bait r'.o.bait := by
  unfold BaitsDisj at hD
  rw [List.pairwise_iff_getElem] at hD
  obtain ⟨hil, hie⟩ := List.getElem?_eq_some_iff.mp hi
  obtain ⟨hjl, hje⟩ := List.getElem?_eq_some_iff.mp hj
  rcases Nat.lt_or_gt_of_ne hne with hlt | hlt
  · have := hD i j (by simpa using hil) (by simpa using hjl) hlt
    simpa [hie, hje] using this
  · have := hD j i (by simpa using hjl) (by simpa using hil) hlt
    exact fragDisjoint_symm (by simpa [hie, hje] using this)

/-- what is known of a stored result before cutting whatever the guards -/
def Geo (input : List Scaffold) (o : OverlapResult) : Prop :=
  ∃ sc ∈ input, sc.name = o.bait.name ∧ C18.Inv sc.rows o ∧ RGeo sc.rows o

theorem RRes.geo {input : List Scaffold} {err : Int} {o : OverlapResult} (h : RRes input err o) : Geo input o := by
  obtain ⟨sc, _, h1, h2, _, hK, hG, _⟩ := h
  exact ⟨sc, h1, h2, hK.inv, hG⟩

theorem Geo.same {input : List Scaffold} (hwf : WFInput input) {o o2 : OverlapResult} {f : Fragment}
    (h : Geo input o) (h2 : Geo input o2) (hf : Row.frag f ∈ o.rows) (hf2 : Row.frag f ∈ o2.rows) :
    ∃ sc ∈ input, sc.name = o.bait.name ∧ C18.Inv sc.rows o ∧ RGeo sc.rows o ∧ RGeo sc.rows o2 ∧
      o.bait.name = o2.bait.name := by
  obtain ⟨sc, hsc, hn, hI, hG⟩ := h
  obtain ⟨sc2, hsc2, hn2, _, hG2⟩ := h2
  obtain ⟨A, B, hsl, _⟩ := hG.slice
  obtain ⟨A', B', hsl', _⟩ := hG2.slice
  obtain rfl : sc = sc2 := scaffold_unique hwf hsc hsc2 (f := f) (by rw [hsl]; simp [hf]) (by rw [hsl']; simp [hf2])
  exact ⟨sc, hsc, hn, hI, hG, hG2, hn.symm.trans hn2⟩

theorem _root_.AgpTpf.C01.RStep.gstep {input : List Scaffold} (hwf : WFInput input) {err : Int} {s s' : List Res}
    (hG : ∀ r ∈ s, Geo input r.o) (hD : BaitsDisj s) (h : RStep err s s') :
    ∃ i r o', s[i]? = some r ∧ GStep err r.o o' ∧ Discarded err r.o o' ∧ s' = s.set i { r with o := o' } := by
  cases h with
  | @start i r f t o' hi hrows hd hg ho =>
    refine ⟨i, r, o', hi, ?_, .inl ⟨hd, hg⟩, rfl⟩
    rcases hg with ⟨ov, hov, hlt⟩ | ⟨a, ha, hgt, _⟩
    · obtain ⟨j, r', hne, hj, hm'⟩ := ho
      obtain ⟨sc, _, _, _, g1, g2, hnm⟩ := (hG r (List.mem_of_getElem? hi)).same hwf (hG r' (List.mem_of_getElem? hj))
        (by rw [hrows]; simp) hm'
      exact .startA hrows hov hlt (sticks_out_start g1 g2 hnm (baitsDisj_get hD (fun e => hne e.symm) hi hj) hrows hm') hd
    · exact .startB ha hgt hd
  | @stop i r f t o' hi hrows hd hg ho =>
    refine ⟨i, r, o', hi, ?_, .inr ⟨hd, hg⟩, rfl⟩
    rcases hg with ⟨ov, hov, hlt⟩ | ⟨a, ha, hgt, _⟩
    · obtain ⟨j, r', hne, hj, hm'⟩ := ho
      obtain ⟨sc, _, _, hI, g1, g2, hnm⟩ := (hG r (List.mem_of_getElem? hi)).same hwf (hG r' (List.mem_of_getElem? hj))
        (by rw [hrows]; simp) hm'
      exact .endA hrows hov hlt (sticks_out_end hI g1 g2 hnm (baitsDisj_get hD (fun e => hne e.symm) hi hj) hrows hm') hd
    · exact .endB ha hgt hd

theorem _root_.AgpTpf.C01.RRun.forall {input : List Scaffold} (hwf : WFInput input) {err : Int} {P : OverlapResult → Prop}
    (hgeo : ∀ o, P o → Geo input o) (hstep : ∀ o o', P o → GStep err o o' → Discarded err o o' → P o')
    {s s' : List Res} (h : RRun err s s') (hD : BaitsDisj s) (hs : ∀ r ∈ s, P r.o) :
    (∀ r ∈ s', P r.o) ∧ s'.map (·.o.bait) = s.map (·.o.bait) := by
  induction h with
  | refl => exact ⟨hs, rfl⟩
  | @step s₁ s₂ _ h1 ih =>
    obtain ⟨hP, hb⟩ := ih
    obtain ⟨i, r, o', hi, hg, hd, rfl⟩ := h1.gstep hwf (fun r hr => hgeo _ (hP r hr)) (by unfold BaitsDisj; rw [hb]; exact hD)
    refine ⟨fun x hx => ?_, h1.baits.trans hb⟩
    rcases List.mem_or_eq_of_mem_set hx with hx | rfl
    · exact hP x hx
    · exact hstep _ _ (hP r (List.mem_of_getElem? hi)) hg hd

theorem RRes.step {input : List Scaffold} (hnn : InputNonNeg input) {err : Int} (herr : 0 ≤ err) {o o' : OverlapResult}
    (h : RRes input err o) (hg : GStep err o o') (hd : Discarded err o o') : RRes input err o' := by
  obtain ⟨sc, o0, hsc, hname, hlook, hK, hG, hS⟩ := h
  have hb := hd.bait
  exact ⟨sc, o0, hsc, hb ▸ hname, hb ▸ hlook, hb ▸ kinv_step (hnn sc hsc) herr hK hg,
    hd.elim (fun h => hG.discardStart h.1) (fun h => hG.discardEnd h.1), safeKept_step (hnn sc hsc) hK.inv hG hS hg⟩

theorem storeR_discardOverhanging {input : List Scaffold} (hwf : WFInput input) (hnn : InputNonNeg input) {err : Int}
    (herr : 0 ≤ err) (fuel : Nat) (b b' : Build) (hm : Mid input b) (he : b.err = err) (hS : StoreR input err b.store)
    (hD : BaitsDisj b.store) (h : discardOverhanging fuel b = .ok b') :
    StoreR input err b'.store ∧ b'.store.map (·.o.bait) = b.store.map (·.o.bait) :=
  (he ▸ (C01.discardOverhanging_rrun hwf hm h).2.2).forall hwf (fun _ => RRes.geo) (fun _ _ hp => hp.step hnn herr) hD hS

end AgpTpf.C02
