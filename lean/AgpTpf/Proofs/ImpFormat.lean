/-
  T1c tie for `format_agp` (assembly/format.py): the `enumerate(scffld.rows)` loop of the translated source
  `Gen.Imp.format_agp_imp`, over an ARBITRARY loop body `body` with a hypothesis that says what one pass of the body does
  (`hbody`), so the only place that looks at the generated text is the proof of `hbody` in the tie theorem
  (`format_agp_is_source`, Properties/C06Imp.lean).  The two outer loops only append: `PyRt.forIn_append_mapM`,
  `PyRt.forIn_foldl`.
-/
import AgpTpf.Gen.Imp
import AgpTpf.Proofs.C06Cols
import AgpTpf.Proofs.Lib.Rows
import AgpTpf.Properties.C06
namespace AgpTpf.C06
open AgpTpf AgpTpf.C05

theorem map_ok' {α β} (f : α → β) (a : α) : (Except.ok a : R α).map f = .ok (f a) := rfl
theorem map_error' {α β} (f : α → β) (e : Err) : (Except.error e : R α).map f = .error e := rfl

/-- the loop state is any packing `mk p file` of the two carried variables (nothing here depends on the order in which
    the translator emits them) -/
theorem forIn_rows {σ ρ : Type} (mk : Int → Str → σ) (name : Str) (rows : List Row) (p i : Int) (file : Str)
    (body : Int × Row → σ → R (PyRt.Ctl σ ρ))
    (hbody : ∀ i row p file, body (i, row) (mk p file) =
      (agpRowCols name p i row).map (fun c => PyRt.Ctl.next (mk (p + row.length) (file ++ lineOfCols c)))) :
    PyRt.forIn (PyRt.enumerateFrom i rows) (mk p file) body =
      (agpCols name p i rows).map
        (fun cs => PyRt.Done.fell (mk (p + rowsLength rows) (file ++ (cs.map lineOfCols).flatten))) := by
  induction rows generalizing p i file with
  | nil => simp [PyRt.enumerateFrom, PyRt.forIn, agpCols, map_ok, rowsLength, sumInts]
  | cons row rest ih =>
    rw [PyRt.enumerateFrom, PyRt.forIn, hbody, agpCols]
    cases hc : agpRowCols name p i row with
    | error e => simp [map_error]
    | ok c =>
      simp only [map_ok, ih]
      cases agpCols name (p + row.length) (i + 1) rest with
      | error e => simp [map_error]
      | ok cs => simp [map_ok, AgpTpf.rowsLength_cons, List.append_assoc, Int.add_assoc]

theorem forIn_rows_model {σ ρ : Type} (mk : Int → Str → σ) (name : Str) (rows : List Row) (file : Str)
    (body : Int × Row → σ → R (PyRt.Ctl σ ρ))
    (hbody : ∀ i row p file, body (i, row) (mk p file) =
      (agpRowCols name p i row).map (fun c => PyRt.Ctl.next (mk (p + row.length) (file ++ lineOfCols c)))) :
    PyRt.forIn (PyRt.enumerate rows) (mk 0 file) body =
      (formatAgpRows name 0 0 rows).map
        (fun ls => PyRt.Done.fell (mk (0 + rowsLength rows) (file ++ ls.flatten))) := by
  rw [PyRt.enumerate, forIn_rows mk name rows 0 0 file body hbody, formatAgpRows_eq]
  cases agpCols name 0 0 rows <;> rfl

/-- `if m: cols.extend(m)`: extending by an empty tuple is a no-op, so both branches are `cols ++ m` -/
theorem extend_if_nonempty {α} (cols m : List α) :
    (if (!m.isEmpty) = true then (Except.ok (cols ++ m) : R (List α)) else .ok cols) = .ok (cols ++ m) := by
  cases m <;> simp

end AgpTpf.C06
