/-
  C08 helpers, part 6: Bool checkers for the hypotheses (to show them satisfiable on concrete values by `decide`),
  and the arithmetic of Pretext's rounding of a scaffold end to a texel boundary.
-/
import AgpTpf.Proofs.C08Remap
namespace AgpTpf.C08
open AgpTpf

def isFragRow : Option Row → Bool
  | some (.frag _) => true
  | _ => false

def wfRowsB (rows : List Row) : Bool :=
  !rows.isEmpty && isFragRow rows.head? && isFragRow rows.getLast? &&
  rows.all (fun r => decide (0 ≤ r.length)) &&
  rows.all (fun r => match r with | .frag f => decide (1 ≤ f.length) | .gap _ => true)

theorem isFragRow_iff (r : Option Row) : isFragRow r = true ↔ ∃ f, r = some (.frag f) := by
  cases r with
  | none => simp [isFragRow]
  | some x => cases x <;> simp [isFragRow]

theorem wfRows_of_check (rows : List Row) (h : wfRowsB rows = true) : WfRows rows := by
  unfold wfRowsB at h
  simp only [Bool.and_eq_true, Bool.not_eq_true', List.all_eq_true, decide_eq_true_eq] at h
  obtain ⟨⟨⟨⟨h1, h2⟩, h3⟩, h4⟩, h5⟩ := h
  refine ⟨?_, (isFragRow_iff _).1 h2, (isFragRow_iff _).1 h3, h4, ?_⟩
  · intro e; subst e; simp at h1
  · intro f hf
    have := h5 _ hf
    simpa using this

def absentOkB (sc : Scaffold) : Bool :=
  !sc.rows.isEmpty && isFragRow sc.rows.head? && isFragRow sc.rows.getLast? &&
  decide (sc.fragmentTags = []) &&
  (match sc.rows.head? with | some (.frag f) => decide (hapPrefixOfName f.name = none) | _ => true)

theorem absentOk_of_check (sc : Scaffold) (h : absentOkB sc = true) : AbsentOk sc := by
  unfold absentOkB at h
  simp only [Bool.and_eq_true, Bool.not_eq_true', decide_eq_true_eq] at h
  obtain ⟨⟨⟨⟨h1, h2⟩, h3⟩, h5⟩, h6⟩ := h
  refine ⟨?_, (isFragRow_iff _).1 h2, (isFragRow_iff _).1 h3, h5, ?_⟩
  · intro e; rw [e] at h1; simp at h1
  · intro f hf
    rw [hf] at h6
    simpa using h6

def pieceOkB (input : List Scaffold) (err : Int) (p : Piece) : Bool :=
  decide (p.sc ∈ input) && wfRowsB p.sc.rows && decide (lastFragmentStart p.sc.rows ≤ p.stop) &&
  decide (p.sc.length - p.stop ≤ err) && decide (hapPrefixOfName p.sc.name = none)

theorem pieceOk_of_check (input : List Scaffold) (err : Int) (p : Piece) (h : pieceOkB input err p = true) :
    PieceOk input err p := by
  unfold pieceOkB at h
  simp only [Bool.and_eq_true, decide_eq_true_eq] at h
  obtain ⟨⟨⟨⟨h1, h2⟩, h3⟩, h4⟩, h5⟩ := h
  exact ⟨h1, wfRows_of_check _ h2, h3, h4, h5⟩

def uneditedB (input : List Scaffold) (pieces : List Piece) (err : Int) : Bool :=
  decide ((input.map (·.name)).Nodup) &&
  decide (((input.flatMap Scaffold.fragments).map Fragment.keyTuple).Nodup) &&
  decide (0 ≤ err) && pieces.all (pieceOkB input err) &&
  decide ((pieces.map (·.sc.name)).Nodup) &&
  input.all (fun sc => isPresent pieces sc || absentOkB sc)

theorem unedited_of_check (input : List Scaffold) (pieces : List Piece) (err : Int) (h : uneditedB input pieces err = true) :
    Unedited input pieces err := by
  unfold uneditedB at h
  simp only [Bool.and_eq_true, decide_eq_true_eq, List.all_eq_true, Bool.or_eq_true] at h
  obtain ⟨⟨⟨⟨⟨h1, h2⟩, h3⟩, h4⟩, h5⟩, h6⟩ := h
  refine ⟨h1, h2, h3, fun p hp => pieceOk_of_check _ _ _ (h4 p hp), h5, ?_⟩
  intro sc hsc hpr
  rcases h6 sc hsc with h | h
  · rw [hpr] at h; cases h
  · exact absentOk_of_check sc h

/-- integer model of the rounding: a scaffold of `L` bases covers `k = ⌊L/t⌋` or `⌈L/t⌉` texels of `t` bases and
    Pretext reports the end `E = t·k`.  If the last contig is at least one texel long, `E` reaches into it, and `E` is
    within one texel of `L` on either side — so with the error length `err = t + 1` (`1 + ⌊bp/texel⌋` in the code) the
    end overhang `L − E` is below `err`. -/
theorem texel_rounding (L t lastLen k : Int) (ht : 1 ≤ t) (hlast : t ≤ lastLen)
    (hk : k = L / t ∨ k = (L + t - 1) / t) :
    L - lastLen + 1 ≤ t * k ∧ L - t * k < t ∧ t * k - L < t := by
  have ht0 : t ≠ 0 := by omega
  have htp : 0 < t := by omega
  obtain ⟨N, rfl, hL, hN⟩ : ∃ N, k = N / t ∧ L ≤ N ∧ N ≤ L + t - 1 :=
    hk.elim (fun h => ⟨L, h, by omega, by omega⟩) (fun h => ⟨L + t - 1, h, by omega, by omega⟩)
  have h1 := Int.ediv_mul_le N ht0
  have h2 := Int.lt_ediv_add_one_mul_self N htp
  rw [Int.mul_comm t (N / t)]
  rw [Int.add_mul] at h2
  generalize N / t * t = m at h1 h2 ⊢
  omega

end AgpTpf.C08
