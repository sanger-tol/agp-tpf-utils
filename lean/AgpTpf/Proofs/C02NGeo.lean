/-
  C02 "remapping never fails": a piece lying wholly INSIDE one contig keeps it.

  `Solo input err o`: if the fresh lookup of `o`'s bait is a single row whose span contains the whole bait, and the bait has
  at least `err` bases, then `o` still IS that lookup result (rows, start, stop).  Established by `find_assembly_overlaps`
  (`trim_large_overhangs` does not touch such a result) and kept by every round of the overhang resolver: `improves` is
  false on a one-row result, and the sub-texel rule needs an overlap `< err` while the row shares the whole bait.
-/
import AgpTpf.Proofs.C12Result
import AgpTpf.Proofs.C02KCut
import AgpTpf.Proofs.Lib.Pipeline
namespace AgpTpf.C02
open AgpTpf OverlapResult
open AgpTpf.C01 (WFInput Mid)

def Solo (input : List Scaffold) (err : Int) (o : OverlapResult) : Prop :=
  ∀ o0, C09.lookupOf input o.bait = .ok (some o0) → o0.rows.length = 1 → o0.start ≤ o.bait.start →
    o.bait.stop ≤ o0.stop → err ≤ o.bait.length → o.rows = o0.rows ∧ o.start = o0.start ∧ o.stop = o0.stop

def SoloS (input : List Scaffold) (err : Int) (store : List Res) : Prop := ∀ r ∈ store, Solo input err r.o

theorem Solo.congr {input : List Scaffold} {err : Int} {o o' : OverlapResult} (h : Solo input err o)
    (hr : o'.rows = o.rows) (hs : o'.start = o.start) (he : o'.stop = o.stop) (hb : o'.bait = o.bait) :
    Solo input err o' := by
  intro o0 h1 h2 h3 h4 h5
  rw [hb] at h1 h3 h4 h5
  rw [hr, hs, he]
  exact h o0 h1 h2 h3 h4 h5

theorem solo_start_overlap {o : OverlapResult} {r0 : Row} {err ov : Int} (hr : o.rows = [r0])
    (hspan : o.stop - o.start + 1 = rowsLength o.rows) (h1 : o.start ≤ o.bait.start) (h2 : o.bait.stop ≤ o.stop)
    (hl : err ≤ o.bait.length) (h : o.startRowBaitOverlap = .ok ov) : err ≤ ov := by
  rw [OverlapResult.startRowBaitOverlap_ok hr] at h
  rw [hr, rowsLength_singleton] at hspan
  unfold Fragment.length at hl
  cases h
  rw [Int.max_eq_left h1, Int.min_eq_left (by omega)]
  omega

theorem solo_end_overlap {o : OverlapResult} {r0 : Row} {err ov : Int} (hr : o.rows = [r0])
    (hspan : o.stop - o.start + 1 = rowsLength o.rows) (h1 : o.start ≤ o.bait.start) (h2 : o.bait.stop ≤ o.stop)
    (hl : err ≤ o.bait.length) (h : o.endRowBaitOverlap = .ok ov) : err ≤ ov :=
  solo_start_overlap hr hspan h1 h2 hl
    ((startRowBaitOverlap_single hr (by rw [hspan, hr, rowsLength_singleton])).trans h)

theorem solo_trimLarge {o o' : OverlapResult} {r0 : Row} {err : Int} (hr : o.rows = [r0])
    (hspan : o.stop - o.start + 1 = rowsLength o.rows) (h1 : o.start ≤ o.bait.start) (h2 : o.bait.stop ≤ o.stop)
    (hl : err ≤ o.bait.length) (h : trimLargeOverhangs o err = .ok o') : o' = o := by
  rcases trimLarge_char h with ⟨_, e⟩ | ⟨_, o1, hA, hB⟩
  · exact e
  · have e1 : o1 = o := by
      rcases hA with ⟨⟨_, ov, hov, hlt⟩, _⟩ | ⟨_, e⟩
      · have := solo_start_overlap hr hspan h1 h2 hl hov; omega
      · exact e
    subst e1
    rcases hB with ⟨⟨_, ov, hov, hlt⟩, _, _⟩ | ⟨_, hC⟩
    · have := solo_start_overlap hr hspan h1 h2 hl hov; omega
    · rcases hC with ⟨⟨_, ov, hov, hlt⟩, _⟩ | ⟨_, e⟩
      · have := solo_end_overlap hr hspan h1 h2 hl hov; omega
      · exact e

theorem created_solo {input : List Scaffold} (hwf : WFInput input) {err : Int} {r : Res}
    (hc : Pipeline.Created input err r) : Solo input err r.o := by
  obtain ⟨bait, sc, o0, o1, hsc, hfo, ⟨hr1, hb1, hs1, he1⟩, ho2, _⟩ := hc
  have hK0 := kinv_lookup (3 * err) (ids_nodup_of_wf hwf (Pipeline.lookupScaffold_ok hsc).1) hfo
  have hb0 : o0.bait = bait := hK0.bait
  have hlook : C09.lookupOf input bait = .ok (some o0) := by
    unfold C09.lookupOf
    simp only [hsc, bind, Except.bind, hfo]
  have hb2 : r.o.bait = bait := by rw [(OverlapResult.trimLarge_keeps ho2).2, hb1, hb0]
  intro o0' hl' hlen h1 h2 h3
  rw [hb2] at hl' h1 h2 h3
  rw [hlook] at hl'
  cases hl'
  obtain ⟨r0, hr0⟩ := List.length_eq_one_iff.mp hlen
  have hspan1 : o1.stop - o1.start + 1 = rowsLength o1.rows := by
    rw [hr1, hs1, he1]; exact hK0.inv.span
  have : r.o = o1 := solo_trimLarge (r0 := r0) (by rw [hr1, hr0]) hspan1
    (by rw [hs1, hb1, hb0]; exact h1) (by rw [he1, hb1, hb0]; exact h2) (by rw [hb1, hb0]; exact h3) ho2
  rw [this]
  exact ⟨hr1, hs1, he1⟩

theorem findAssemblyOverlaps_solo {input : List Scaffold} (hwf : WFInput input)
    (ptx : List Scaffold) (err : Int) (b b' : Build) (he : b.err = err)
    (hS : SoloS input err b.store) (h : findAssemblyOverlaps input ptx b = .ok b') :
    SoloS input err b'.store ∧ b'.err = err := by
  subst he
  exact ⟨(Pipeline.findAssemblyOverlaps_grows h).forall (fun _ hc => created_solo hwf hc)
    (fun _ _ hr => hr.congr rfl rfl rfl rfl) hS, (Pipeline.findAssemblyOverlaps_frame h).2.2.2.1⟩

theorem Solo.step {input : List Scaffold} {err : Int} {o o' : OverlapResult} (hspan : o.stop - o.start + 1 = rowsLength o.rows)
    (h : Solo input err o) (hd : C01.Discarded err o o') : Solo input err o' := by
  intro o0 hl hlen h1 h2 h3
  rw [hd.bait] at hl h1 h2 h3
  exfalso
  obtain ⟨q1, q2, q3⟩ := h o0 hl hlen h1 h2 h3
  obtain ⟨r0, hr0⟩ := List.length_eq_one_iff.mp hlen
  have hrows : o.rows = [r0] := by rw [q1, hr0]
  rcases hd with ⟨_, ⟨ov, hov, hlt⟩ | ⟨_, _, _, h2'⟩⟩ | ⟨_, ⟨ov, hov, hlt⟩ | ⟨_, _, _, h2'⟩⟩
  · have := solo_start_overlap hrows hspan (by rw [q2]; exact h1) (by rw [q3]; exact h2) h3 hov; omega
  · rw [hrows] at h2'; simp at h2'
  · have := solo_end_overlap hrows hspan (by rw [q2]; exact h1) (by rw [q3]; exact h2) h3 hov; omega
  · rw [hrows] at h2'; simp at h2'

theorem solo_discardOverhanging {input : List Scaffold} (hwf : WFInput input) (hnn : InputNonNeg input) {err : Int}
    (herr : 0 ≤ err) (fuel : Nat) (b b' : Build) (hm : Mid input b) (he : b.err = err) (hS : StoreR input err b.store)
    (hD : BaitsDisj b.store) (hQ : SoloS input err b.store) (h : discardOverhanging fuel b = .ok b') :
    SoloS input err b'.store :=
  fun r hr => (((he ▸ (C01.discardOverhanging_rrun hwf hm h).2.2).forall hwf
    (P := fun o => RRes input err o ∧ Solo input err o) (fun _ hp => hp.1.geo)
    (fun _ _ hp hg hd => ⟨hp.1.step hnn herr hg hd,
      hp.2.step (by obtain ⟨_, _, _, _, _, hK, _⟩ := hp.1; exact hK.inv.span) hd⟩)
    hD (fun r hr => ⟨hS r hr, hQ r hr⟩)).1 r hr).2

end AgpTpf.C02

/-! C02 "remapping never fails": geometry of one holder of a contig.
* `lookup_inside`: a query lying wholly inside the span of one contig row returns exactly that row;
* `holder_geom`: a stored result (before cutting: `C18.Inv` + `RGeo`) that holds the contig row `F` of its scaffold —
where `F` stands in it, what `firstIs` / `lastIs` return, and the result's coordinates. -/
namespace AgpTpf.C02
open AgpTpf OverlapResult
open AgpTpf.C18 (Inv ids)
open AgpTpf.C12 (rowSpan meets meets_iff lookup_exists lookup_end_rows)

theorem rowSpan_of_decomp {src X Y : List Row} {r : Row} (hs : src = X ++ r :: Y) :
    src[X.length]? = some r ∧ (rowSpan src X.length).1 = 1 + rowsLength X ∧
      (rowSpan src X.length).2 = rowsLength X + r.length := by
  obtain ⟨hk, e1, e2⟩ := pre_of_decomp hs
  exact ⟨hk, congrArg (1 + ·) e1, e2⟩

theorem lookup_inside {src X Y : List Row} {F m : Fragment} (hlen : NonNeg src) (hs : src = X ++ .frag F :: Y)
    (h1 : rowsLength X + 1 ≤ m.start) (h2 : m.start ≤ m.stop) (h3 : m.stop ≤ rowsLength X + F.length) :
    ∃ o0, findOverlaps src m = .ok (some o0) ∧ o0.rows = [.frag F] ∧ o0.start = rowsLength X + 1 ∧
      o0.stop = rowsLength X + F.length := by
  obtain ⟨hk, hs1, hs2⟩ := rowSpan_of_decomp hs
  simp only [Row.length] at hs2
  have hmeet : meets src m.start m.stop X.length = true :=
    (meets_iff _ _ _ _).2 ⟨F, hk, by omega, by omega⟩
  obtain ⟨o, ho⟩ := lookup_exists hlen X.length hmeet
  obtain ⟨-, hE, hS, hone⟩ := lookup_end_rows hlen ho hk hmeet
  obtain ⟨e1, -⟩ := hE (by omega)
  obtain ⟨e3, e4⟩ := hS (by omega)
  refine ⟨o, ho, ?_, by omega, by omega⟩
  have hl := hone (by omega) (by omega)
  cases hrows : o.rows with
  | nil => rw [hrows] at hl; cases hl
  | cons a t =>
    rw [hrows] at hl e4
    cases t with
    | nil => simp at e4; rw [e4]
    | cons _ _ => simp at hl

theorem rowsLength_nonneg' {l : List Row} (h : NonNeg l) : 0 ≤ rowsLength l := rowsLength_nonneg h

theorem ids_mem_of_frag {l : List Row} {g : Fragment} (h : Row.frag g ∈ l) : g.oid ∈ ids l := by
  induction l with
  | nil => cases h
  | cons r t ih =>
    rcases List.mem_cons.1 h with e | h'
    · subst e; rw [C18.ids_cons_frag]; simp
    · cases r with
      | frag f => rw [C18.ids_cons_frag]; exact List.mem_cons_of_mem _ (ih h')
      | gap g' => rw [C18.ids_cons_gap]; exact ih h'

theorem RGeo.meets_at {src : List Row} {o : OverlapResult} (hG : RGeo src o) {P Q : List Row} {f : Fragment}
    (hr : o.rows = P ++ .frag f :: Q) :
    o.start + rowsLength P ≤ o.bait.stop ∧ o.bait.start ≤ o.start + rowsLength P + f.length - 1 := by
  obtain ⟨A, B, hsl, hst⟩ := hG.slice
  have := hG.meets (A ++ P) f (Q ++ B) (by rw [hsl, hr]; simp) (by rw [hr]; simp)
  rw [rowsLength_append] at this
  omega

theorem firstIs_lastIs_of_decomp {o : OverlapResult} {F : Fragment} {L R : List Row} (hd : (ids o.rows).Nodup)
    (hr : o.rows = L ++ .frag F :: R) : firstIs o F = .ok L.isEmpty ∧ lastIs o F = .ok R.isEmpty := by
  have hno : ∀ r, r ∈ L ∨ r ∈ R → rowIs r F = false := fun r hr' => by
    rw [hr, C18.ids_append, C18.ids_cons_frag, List.nodup_append, List.nodup_cons] at hd
    cases h : rowIs r F with
    | false => rfl
    | true =>
      obtain ⟨g, rfl, hg⟩ := rowIs_true h
      rcases hr' with h' | h'
      · exact absurd hg (hd.2.2 _ (ids_mem_of_frag h') _ (List.mem_cons_self ..))
      · exact absurd (hg ▸ ids_mem_of_frag h') hd.2.1.1
  constructor
  · cases L with
    | nil => rw [firstIs_cons o F _ _ hr, rowIs_self]; rfl
    | cons l0 L' => rw [firstIs_cons o F l0 _ hr, hno l0 (.inl (List.mem_cons_self ..))]; rfl
  · rcases list_nil_or_concat R with rfl | ⟨R', l0, rfl⟩
    · rw [lastIs_concat o F _ L hr, rowIs_self]; rfl
    · rw [lastIs_concat o F l0 (L ++ .frag F :: R') (by rw [hr]; simp), hno l0 (.inr (by simp))]; simp

theorem holder_geom {src X Y : List Row} {F : Fragment} {o : OverlapResult} (hlen : NonNeg src) (hd : (ids src).Nodup)
    (hI : Inv src o) (hG : RGeo src o) (hs : src = X ++ .frag F :: Y) (hm : Row.frag F ∈ o.rows) :
    ∃ a c, firstIs o F = .ok a ∧ lastIs o F = .ok c ∧
      (a = true → o.start = rowsLength X + 1) ∧ (c = true → o.stop = rowsLength X + F.length) ∧
      (rowsLength X + 1 < o.bait.start → a = true) ∧ (o.bait.stop < rowsLength X + F.length → c = true) ∧
      rowsLength X + 1 ≤ o.bait.stop ∧ o.bait.start ≤ rowsLength X + F.length := by
  obtain ⟨L, R, hrows⟩ := List.append_of_mem hm
  obtain ⟨A, B, hsl, hst⟩ := hG.slice
  have hX : rowsLength X = rowsLength A + rowsLength L := by
    rw [decomp_unique hd hs (A' := A ++ L) (B' := R ++ B) (by rw [hsl, hrows]; simp), rowsLength_append]
  have hnn : NonNeg (L ++ .frag F :: R) := hrows ▸ (hsl ▸ hlen).append_left.append_right
  obtain ⟨ha, hc⟩ := firstIs_lastIs_of_decomp hI.distinct hrows
  refine ⟨_, _, ha, hc, fun h => ?_, fun h => ?_, fun hlt => ?_, fun hlt => ?_,
    Int.add_comm .. ▸ (hG.meets X F Y hs hm).1, (hG.meets X F Y hs hm).2⟩
  · cases List.isEmpty_iff.1 h
    rw [rowsLength_nil] at hX; omega
  · cases List.isEmpty_iff.1 h
    have hspan := hI.span
    rw [hrows, rowsLength_append, rowsLength_singleton] at hspan
    simp only [Row.length] at hspan
    omega
  · -- the first row of a result is a contig; standing before `F` it would end before the bait begins
    cases L with
    | nil => rfl
    | cons l0 L' =>
      rcases hI.noTerminalGap with h0 | ⟨⟨f, t, hft⟩, -⟩
      · rw [hrows] at h0; cases h0
      · cases (List.cons.inj (hrows.symm.trans hft)).1
        have h1 := (hG.meets_at (P := []) hft).2
        have h2 := rowsLength_nonneg (l := L') fun r hr => hnn.append_left r (List.mem_cons_of_mem _ hr)
        rw [rowsLength_cons] at hX
        simp only [rowsLength_nil, Row.length] at h1 hX
        omega
  · -- the last row of a result is a contig; standing behind `F` it would begin behind the bait's end
    rcases list_nil_or_concat R with rfl | ⟨R', l0, rfl⟩
    · rfl
    · rcases hI.noTerminalGap with h0 | ⟨-, ⟨f, t, hft⟩⟩
      · rw [hrows] at h0; simp at h0
      · have e : L ++ .frag F :: (R' ++ [l0]) = (L ++ .frag F :: R') ++ [l0] := by simp
        obtain ⟨rfl, -⟩ := List.append_inj' ((e.symm.trans hrows.symm).trans hft) rfl
        have h1 := (hG.meets_at hft).1
        have h2 := rowsLength_nonneg (l := R') fun r hr =>
          hnn.append_right r (List.mem_cons_of_mem _ (List.mem_append_left _ hr))
        rw [rowsLength_append, rowsLength_cons] at h1
        simp only [Row.length] at h1
        omega

end AgpTpf.C02
