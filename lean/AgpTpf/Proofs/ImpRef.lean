/-
  The calculus of the ties between translated source and model.  `Ref Q src mdl`: the source computation raises what the model
  computation raises, or returns a value that `Q` relates to the model's.  A tie written as an equation is the case `Q t m := t = m`,
  `t = f m` or `abs t = m` (`ref_eq_iff`, `ref_map_iff`, `ref_abs_iff`); a tie written as a `match` on the model's result, or as what follows
  from the source returning / raising, is read off with `Ref.elim` / `Ref.elim_src`.  Rules for `>>=`; two rules for `PyRt.forIn` and
  `PyRt.whileLoop` against ANY recursion of the model (`forIn_keeps`, `whileLoop_keeps`: the invariant speaks of the model's final result),
  and the shapes the model's loops most often have as their instances.
-/
import AgpTpf.Proofs.Lib.PyRt
namespace AgpTpf

/-- one step along a chain of binds: the goal loses its first computation, nothing else of it is touched -/
theorem bind_eq_of_ok {α β : Type} {x : R α} {a : α} {k : α → R β} {r : R β} (hx : x = .ok a) (hk : k a = r) :
    (x >>= k) = r := by
  subst hx; exact hk

theorem bind_eq_of_error {α β : Type} {x : R α} {e : Err} {k : α → R β} (hx : x = .error e) : (x >>= k) = .error e := by
  subst hx; rfl
theorem ite_eq_of_pos {α : Type} {c : Prop} [Decidable c] {a b r : α} (hc : c) (h : a = r) : (if c then a else b) = r := by
  rw [if_pos hc]; exact h
theorem ite_eq_of_neg {α : Type} {c : Prop} [Decidable c] {a b r : α} (hc : ¬ c) (h : b = r) : (if c then a else b) = r := by
  rw [if_neg hc]; exact h

end AgpTpf

namespace AgpTpf.ImpFound
open PyRt

def Ref {τ μ : Type} (Q : τ → μ → Prop) (src : R τ) (mdl : R μ) : Prop :=
  match mdl with
  | .error e => src = .error e
  | .ok m => ∃ t, src = .ok t ∧ Q t m

variable {τ μ τ' μ' σ ρ ν α β γ : Type}

theorem Ref.ok {Q : τ → μ → Prop} {t : τ} {m : μ} (h : Q t m) : Ref Q (.ok t) (.ok m) := ⟨t, rfl, h⟩

theorem Ref.error {Q : τ → μ → Prop} (e : Err) : Ref Q (.error e) (.error e) := rfl

theorem Ref.refl (x : R τ) : Ref (fun t m => t = m ∧ x = .ok m) x x := by
  cases x with
  | error e => rfl
  | ok v => exact ⟨v, rfl, rfl, rfl⟩

theorem Ref.mono {Q Q' : τ → μ → Prop} {src : R τ} {mdl : R μ} (h : Ref Q src mdl) (hq : ∀ t m, Q t m → Q' t m) :
    Ref Q' src mdl := by
  cases mdl with
  | error e => exact h
  | ok m => obtain ⟨t, rfl, hq'⟩ := h; exact ⟨t, rfl, hq _ _ hq'⟩

@[elab_as_elim] theorem Ref.elim {Q : τ → μ → Prop} {src : R τ} {mdl : R μ} {P : R μ → Prop} (h : Ref Q src mdl)
    (herr : ∀ e, src = .error e → P (.error e)) (hok : ∀ t m, src = .ok t → Q t m → P (.ok m)) : P mdl := by
  cases mdl with
  | error e => exact herr e h
  | ok m => obtain ⟨t, ht, hq⟩ := h; exact hok t m ht hq

@[elab_as_elim] theorem Ref.elim_src {Q : τ → μ → Prop} {src : R τ} {mdl : R μ} {P : R τ → Prop} (h : Ref Q src mdl)
    (herr : ∀ e, mdl = .error e → P (.error e)) (hok : ∀ t m, mdl = .ok m → Q t m → P (.ok t)) : P src := by
  cases mdl with
  | error e => rw [show src = .error e from h]; exact herr e rfl
  | ok m => obtain ⟨t, rfl, hq⟩ := h; exact hok t m rfl hq

theorem ref_iff_src {Q : τ → μ → Prop} {src : R τ} {mdl : R μ} :
    Ref Q src mdl ↔ match src with
      | .error e => mdl = .error e
      | .ok t => ∃ m, mdl = .ok m ∧ Q t m :=
  ⟨fun h => h.elim_src (fun _ h => h) fun _ m h q => ⟨m, h, q⟩, fun h => by
    cases src with
    | error e => rw [show mdl = .error e from h]; rfl
    | ok t => obtain ⟨m, rfl, q⟩ := h; exact ⟨t, rfl, q⟩⟩

theorem ref_eq_iff {src mdl : R τ} : Ref (fun t m => t = m) src mdl ↔ src = mdl := by
  cases mdl with
  | error e => exact Iff.rfl
  | ok m => exact ⟨fun ⟨_, h, e⟩ => e ▸ h, fun h => ⟨m, h, rfl⟩⟩

theorem ref_map_iff (f : μ → τ) {src : R τ} {mdl : R μ} : Ref (fun t m => t = f m) src mdl ↔ src = mdl.map f := by
  cases mdl with
  | error e => exact Iff.rfl
  | ok m => exact ⟨fun ⟨_, h, e⟩ => h.trans (congrArg Except.ok e), fun h => ⟨f m, h, rfl⟩⟩

theorem ref_abs_iff (abs : τ → μ) {src : R τ} {mdl : R μ} : Ref (fun t m => abs t = m) src mdl ↔ src.map abs = mdl :=
  ⟨fun h => h.elim (fun _ hs => by rw [hs]; rfl) fun _ _ hs e => by rw [hs, ← e]; rfl, fun h => by
    subst h
    cases src with
    | error e => rfl
    | ok t => exact ⟨t, rfl, rfl⟩⟩

theorem Ref.of_map {src : R τ} {mdl : R μ} (f : τ → ν) (g : μ → ν) (h : src.map f = mdl.map g) :
    Ref (fun t m => f t = g m ∧ src = .ok t) src mdl := by
  cases mdl with
  | error e =>
    cases src with
    | error e' => cases h; rfl
    | ok t => cases h
  | ok m =>
    cases src with
    | error e' => cases h
    | ok t => exact ⟨t, rfl, Except.ok.inj h, rfl⟩

theorem Ref.bind' {Q : τ → μ → Prop} {Q' : τ' → μ' → Prop} {src : R τ} {mdl : R μ} {k : τ → R τ'} {km : μ → R μ'}
    (h : Ref Q src mdl) (hk : ∀ t m, src = .ok t → mdl = .ok m → Q t m → Ref Q' (k t) (km m)) :
    Ref Q' (src >>= k) (mdl >>= km) := by
  cases mdl with
  | error e => rw [show src = .error e from h]; rfl
  | ok m => obtain ⟨t, rfl, hq⟩ := h; exact hk t m rfl rfl hq

theorem Ref.bind {Q : τ → μ → Prop} {Q' : τ' → μ' → Prop} {src : R τ} {mdl : R μ} {k : τ → R τ'} {km : μ → R μ'}
    (h : Ref Q src mdl) (hk : ∀ t m, Q t m → Ref Q' (k t) (km m)) : Ref Q' (src >>= k) (mdl >>= km) :=
  h.bind' fun t m _ _ => hk t m

theorem Ref.bind_ok {Q : τ → μ → Prop} {Q' : τ' → μ → Prop} {src : R τ} {mdl : R μ} {k : τ → R τ'}
    (h : Ref Q src mdl) (hk : ∀ t m, Q t m → Ref Q' (k t) (.ok m)) : Ref Q' (src >>= k) mdl := by
  have := h.bind (km := fun m => .ok m) hk
  rwa [AgpTpf.bind_ok] at this

theorem Ref.bind_src {Q : τ → μ → Prop} {Q' : τ' → μ' → Prop} {src : R τ} {m : μ} {k : τ → R τ'} {mdl' : R μ'}
    (h : Ref Q src (.ok m)) (hk : ∀ t, Q t m → Ref Q' (k t) mdl') : Ref Q' (src >>= k) mdl' := by
  obtain ⟨t, rfl, hq⟩ := h; exact hk t hq

theorem Ref.bind_same {Q : τ → μ → Prop} {x : R α} {f : α → R τ} {g : α → R μ} (h : ∀ a, x = .ok a → Ref Q (f a) (g a)) :
    Ref Q (x >>= f) (x >>= g) :=
  (Ref.refl x).bind fun _ a ⟨e, hx⟩ => e ▸ h a hx

theorem Ref.ite {Q : τ → μ → Prop} {c c' : Prop} [Decidable c] [Decidable c'] {a b : R τ} {a' b' : R μ} (hcc : c ↔ c')
    (ha : c' → Ref Q a a') (hb : ¬ c' → Ref Q b b') : Ref Q (if c then a else b) (if c' then a' else b') := by
  by_cases h : c'
  · rw [if_pos (hcc.mpr h), if_pos h]; exact ha h
  · rw [if_neg (fun hc => h (hcc.mp hc)), if_neg h]; exact hb h

theorem bind_abs (abs : σ → τ) (g : β → γ) {x : R σ} {y : R τ} {T : σ → R β} {T' : τ → R γ}
    (hx : x.map abs = y) (hT : ∀ s, (T s).map g = T' (abs s)) : (x >>= T).map g = y >>= T' :=
  (ref_abs_iff g).1 (((ref_abs_iff abs).2 hx).bind fun s _ e => (ref_abs_iff g).2 (e ▸ hT s))

theorem bind_enc (enc : τ → σ) {x : R σ} {y : R τ} {F : σ → R β} {G : τ → R β} (hx : x = y.map enc)
    (hF : ∀ t, y = .ok t → F (enc t) = G t) : (x >>= F) = (y >>= G) :=
  ref_eq_iff.1 (((ref_map_iff enc).2 hx).bind' fun _ t _ ht e => ref_eq_iff.2 (e ▸ hF t ht))

/-- one pass `c` of a loop body keeps the model's result `r`: it raises what `r` is, goes on in a state that still has `r`, or leaves the
    loop in a way `r` agrees with -/
def Keeps (next : σ → Prop) (Q : Done σ ρ → ν → Prop) (r : R ν) : R (Ctl σ ρ) → Prop
  | .error e => r = .error e
  | .ok (.next s') => next s'
  | .ok (.brk s') => Ref Q (.ok (.fell s')) r
  | .ok (.ret v) => Ref Q (.ok (.returned v)) r

theorem keeps_next {next : σ → Prop} {Q : Done σ ρ → ν → Prop} {r : R ν} {s' : σ} :
    Keeps next Q r (.ok (.next s')) ↔ next s' := Iff.rfl

/-- `for`: `I xs s` says that with `xs` still to come and the variables at `s` the model's result is `r` -/
theorem forIn_keeps (Q : Done σ ρ → ν → Prop) (r : R ν) (body : α → σ → R (Ctl σ ρ)) (I : List α → σ → Prop)
    (hnil : ∀ s, I [] s → Ref Q (.ok (.fell s)) r)
    (hcons : ∀ x xs s, I (x :: xs) s → Keeps (I xs) Q r (body x s)) :
    ∀ xs s, I xs s → Ref Q (PyRt.forIn xs s body) r := by
  intro xs
  induction xs with
  | nil => exact hnil
  | cons x xs ih =>
    intro s h
    have hx := hcons x xs s h
    rw [forIn_cons]
    cases hb : body x s with
    | error e => rw [hb] at hx; rw [show r = .error e from hx]; rfl
    | ok c =>
      rw [hb] at hx
      cases c with
      | next s' => exact ih s' hx
      | brk s' => exact hx
      | ret v => exact hx

/-- `while`: `I n s` says that with `n` passes of fuel left and the variables at `s` the model's result is `r`.  A model loop that burns
    the same fuel has `I 0 s → r = .error .other`; for one that has no fuel of its own take `I n s := J s ∧ measure s < n` -/
theorem whileLoop_keeps (Q : Done σ ρ → ν → Prop) (r : R ν) (cond : σ → R Bool) (body : σ → R (Ctl σ ρ)) (I : Nat → σ → Prop)
    (h0 : ∀ s, I 0 s → r = .error .other)
    (hstep : ∀ n s, I (n + 1) s → match cond s with
      | .error e => r = .error e
      | .ok false => Ref Q (.ok (.fell s)) r
      | .ok true => Keeps (I n) Q r (body s)) :
    ∀ fuel s, I fuel s → Ref Q (whileLoop fuel s cond body) r := by
  intro fuel
  induction fuel with
  | zero => intro s h; rw [h0 s h]; rfl
  | succ n ih =>
    intro s h
    have hs := hstep n s h
    rw [whileLoop_succ]
    cases hc : cond s with
    | error e => rw [hc] at hs; rw [show r = .error e from hs]; rfl
    | ok b =>
      rw [hc] at hs
      cases b with
      | false => exact hs
      | true =>
        simp only [] at hs ⊢
        cases hb : body s with
        | error e => rw [hb] at hs; rw [show r = .error e from hs]; rfl
        | ok c =>
          rw [hb] at hs
          cases c with
          | next s' => exact ih s' hs
          | brk s' => exact hs
          | ret v => exact hs

def nextRel (Rel : σ → μ → Prop) (t : Ctl σ ρ) (m : μ) : Prop := ∃ s, t = .next s ∧ Rel s m
def fellRel (Rel : σ → μ → Prop) (t : Done σ ρ) (m : μ) : Prop := ∃ s, t = .fell s ∧ Rel s m

theorem Ref.next {Rel : σ → μ → Prop} {s : σ} {m : μ} (h : Rel s m) : Ref (nextRel (ρ := ρ) Rel) (.ok (.next s)) (.ok m) :=
  ⟨_, rfl, s, rfl, h⟩

def ctlNext (abs : σ → τ) : Ctl σ ρ → Option τ
  | .next s => some (abs s)
  | _ => none

/-- one pass under an abstraction, as an equation `simp` can close -/
theorem ref_next_abs_iff (abs : σ → μ) {c : R (Ctl σ ρ)} {m : R μ} :
    Ref (nextRel fun s t => abs s = t) c m ↔ c.map (ctlNext abs) = m.map some := by
  rw [ref_iff_src]
  cases c with
  | error e => cases m <;> simp [Except.map, eq_comm]
  | ok c =>
    cases m with
    | error e => simp [Except.map]
    | ok t => cases c <;> simp [Except.map, nextRel, ctlNext, eq_comm]

theorem forIn_ref (Rel : σ → μ → Prop) (mstep : μ → α → R μ) (body : α → σ → R (Ctl σ ρ)) (xs : List α)
    (hb : ∀ x ∈ xs, ∀ s m, Rel s m → Ref (nextRel Rel) (body x s) (mstep m x)) (s : σ) (m : μ) (h : Rel s m) :
    Ref (fellRel Rel) (PyRt.forIn xs s body) (xs.foldlM mstep m) := by
  refine forIn_keeps _ _ body (fun ys s => (∀ y ∈ ys, y ∈ xs) ∧ ∃ m', Rel s m' ∧ ys.foldlM mstep m' = xs.foldlM mstep m) ?_ ?_ xs s
    ⟨fun _ h => h, m, h, rfl⟩
  · rintro s ⟨-, m', hr, he⟩
    rw [← he]; exact ⟨_, rfl, s, rfl, hr⟩
  · rintro x ys s ⟨hm, m', hr, he⟩
    rw [List.foldlM_cons] at he
    refine (hb x (hm x List.mem_cons_self) s m' hr).elim_src (P := Keeps _ _ _) ?_ ?_
    · intro e h; rw [h] at he; exact he.symm
    · rintro t m'' h ⟨s', rfl, hr'⟩
      rw [h] at he
      exact ⟨fun y hy => hm y (List.mem_cons_of_mem _ hy), m'', hr', he⟩

theorem forIn_ref_pure (Rel : σ → μ → Prop) (mstep : μ → α → μ) (body : α → σ → R (Ctl σ ρ)) (xs : List α)
    (hb : ∀ x ∈ xs, ∀ s m, Rel s m → ∃ s', body x s = .ok (.next s') ∧ Rel s' (mstep m x)) (s : σ) (m : μ) (h : Rel s m) :
    ∃ s', PyRt.forIn xs s body = .ok (.fell s') ∧ Rel s' (xs.foldl mstep m) := by
  have := forIn_ref Rel (fun m x => .ok (mstep m x)) body xs
    (fun x hx s m hr => by obtain ⟨s', h1, h2⟩ := hb x hx s m hr; rw [h1]; exact ⟨_, rfl, s', rfl, h2⟩) s m h
  rw [foldlM_ok (f := mstep) (fun _ _ _ => rfl)] at this
  obtain ⟨_, h1, s', rfl, h2⟩ := this
  exact ⟨s', h1, h2⟩

theorem forIn_pure_bind (Rel : σ → μ → Prop) (mstep : μ → α → μ)
    {body : α → σ → R (PyRt.Ctl σ ρ)} {xs : List α} {s : σ} (m : μ)
    {Q' : τ' → μ' → Prop} {k : PyRt.Done σ ρ → R τ'} {mdl' : R μ'}
    (hstep : ∀ x ∈ xs, ∀ s m, Rel s m → ∃ s', body x s = .ok (.next s') ∧ Rel s' (mstep m x))
    (hinit : Rel s m)
    (hk : ∀ s', Rel s' (xs.foldl mstep m) → Ref Q' (k (.fell s')) mdl') :
    Ref Q' (PyRt.forIn xs s body >>= k) mdl' := by
  obtain ⟨s', hs', hr⟩ := forIn_ref_pure Rel mstep body xs hstep s m hinit
  rw [hs']
  exact hk s' hr

theorem forIn_bind (Rel : σ → μ → Prop) {mstep : μ → α → R μ}
    {body : α → σ → R (PyRt.Ctl σ ρ)} {xs : List α} {s : σ} {m : μ}
    {Q' : τ' → μ' → Prop} {k : PyRt.Done σ ρ → R τ'} {km : μ → R μ'}
    (hstep : ∀ x ∈ xs, ∀ s m, Rel s m → Ref (nextRel Rel) (body x s) (mstep m x))
    (hinit : Rel s m)
    (hk : ∀ s' m', Rel s' m' → Ref Q' (k (.fell s')) (km m')) :
    Ref Q' (PyRt.forIn xs s body >>= k) (xs.foldlM mstep m >>= km) := by
  refine Ref.bind (forIn_ref Rel mstep body xs hstep s m hinit) ?_
  rintro t m' ⟨s', rfl, hr⟩
  exact hk s' m' hr

theorem forIn_bind_ok (Rel : σ → μ → Prop) {mstep : μ → α → R μ}
    {body : α → σ → R (PyRt.Ctl σ ρ)} {xs : List α} {s : σ} {m : μ}
    {Q' : τ' → μ → Prop} {k : PyRt.Done σ ρ → R τ'}
    (hstep : ∀ x ∈ xs, ∀ s m, Rel s m → Ref (nextRel Rel) (body x s) (mstep m x))
    (hinit : Rel s m)
    (hk : ∀ s' m', Rel s' m' → Ref Q' (k (.fell s')) (.ok m')) :
    Ref Q' (PyRt.forIn xs s body >>= k) (xs.foldlM mstep m) := by
  have h := forIn_bind Rel (km := fun m => .ok m) hstep hinit hk
  rwa [AgpTpf.bind_ok] at h

theorem foldlM_ref (Rel : σ → μ → Prop) (sstep : σ → α → R σ) (mstep : μ → α → R μ) (xs : List α)
    (hstep : ∀ x ∈ xs, ∀ s m, Rel s m → Ref Rel (sstep s x) (mstep m x)) (s : σ) (m : μ) (h : Rel s m) :
    Ref Rel (xs.foldlM sstep s) (xs.foldlM mstep m) := by
  induction xs generalizing s m with
  | nil => exact ⟨s, rfl, h⟩
  | cons x xs ih =>
    rw [List.foldlM_cons, List.foldlM_cons]
    exact (hstep x List.mem_cons_self s m h).bind fun s' m' h' => ih (fun y hy => hstep y (List.mem_cons_of_mem _ hy)) s' m' h'

/-- for `Rel s t := abs s = t` the step hypothesis `hbody` comes from `ref_next_abs_iff` -/
theorem forIn_ref_fin (Rel : σ → μ → Prop) (step : μ → α → R μ) (body : α → σ → R (Ctl σ ρ)) (xs : List α) (s : σ) (t : μ)
    (fin : Done σ ρ → R β) (g : β → γ) (finM : μ → R γ) (h : Rel s t)
    (hbody : ∀ x ∈ xs, ∀ s t, Rel s t → Ref (nextRel Rel) (body x s) (step t x))
    (hfin : ∀ s t, Rel s t → (fin (.fell s)).map g = finM t) :
    (PyRt.forIn xs s body >>= fin).map g = (xs.foldlM step t >>= finM) :=
  (ref_abs_iff g).1 ((forIn_ref Rel step body xs hbody s t h).bind fun _ t' ⟨s', hd, hr⟩ => (ref_abs_iff g).2 (hd ▸ hfin s' t' hr))

theorem foldlM_abs (abs : σ → μ) (f : σ → α → R σ) (g : μ → α → R μ) (xs : List α)
    (h : ∀ x ∈ xs, ∀ s, (f s x).map abs = g (abs s) x) (s : σ) : (xs.foldlM f s).map abs = xs.foldlM g (abs s) :=
  (ref_abs_iff abs).1 (foldlM_ref (fun s m => abs s = m) f g xs (fun x hx s _ e => (ref_abs_iff abs).2 (e ▸ h x hx s)) s _ rfl)

theorem foldlM_enc (enc : μ → σ) (f : σ → α → R σ) (g : μ → α → R μ) (xs : List α)
    (h : ∀ x ∈ xs, ∀ m, f (enc m) x = (g m x).map enc) (m : μ) : xs.foldlM f (enc m) = (xs.foldlM g m).map enc :=
  (ref_map_iff enc).1 (foldlM_ref (fun s m => s = enc m) f g xs (fun x hx _ m e => (ref_map_iff enc).2 (e ▸ h x hx m)) _ m rfl)

theorem forIn_takeWhile (p : α → Bool) (f : σ → α → σ) (body : α → σ → R (Ctl σ ρ))
    (hp : ∀ x s, p x = true → body x s = .ok (.next (f s x))) (hn : ∀ x s, p x = false → body x s = .ok (.brk s))
    (xs : List α) (s : σ) : PyRt.forIn xs s body = .ok (.fell ((xs.takeWhile p).foldl f s)) := by
  refine (ref_map_iff Done.fell).1 (forIn_keeps _ (.ok ((xs.takeWhile p).foldl f s)) body
    (fun ys t => (ys.takeWhile p).foldl f t = (xs.takeWhile p).foldl f s) ?_ ?_ xs s rfl)
  · intro t h; exact ⟨_, rfl, congrArg _ h⟩
  · intro x ys t h
    rw [List.takeWhile_cons] at h
    cases hx : p x with
    | true => rw [hp x t hx]; rw [hx] at h; exact h
    | false => rw [hn x t hx]; rw [hx] at h; exact ⟨_, rfl, congrArg _ h⟩

end AgpTpf.ImpFound

namespace AgpTpf.PyRt
open AgpTpf.ImpFound

theorem forIn_foldlM_inv {α σ τ ρ : Type} (enc : τ → σ) (P : τ → Prop) (g : τ → α → R τ) {body : α → σ → R (Ctl σ ρ)} {xs : List α}
    (hP : ∀ x ∈ xs, ∀ t t', P t → g t x = .ok t' → P t')
    (h : ∀ x ∈ xs, ∀ t, P t → body x (enc t) = (g t x).map (fun t' => .next (enc t'))) (t : τ) (h0 : P t) :
    forIn xs (enc t) body = (xs.foldlM g t).map (fun t' => .fell (enc t')) := by
  refine (ref_map_iff _).1 ((forIn_ref (fun s m => s = enc m ∧ P m) g body xs (fun x hx s m hr => ?_) (enc t) t ⟨rfl, h0⟩).mono ?_)
  · obtain ⟨rfl, hp⟩ := hr
    rw [h x hx m hp]
    cases hg : g m x with
    | error e => rfl
    | ok t' => exact ⟨_, rfl, _, rfl, rfl, hP x hx m t' hp hg⟩
  · rintro _ m ⟨s', rfl, rfl, -⟩; rfl

theorem forIn_foldl_enc_bind {α σ τ ρ β : Type} (enc : τ → σ) (f : τ → α → τ) {body : α → σ → R (Ctl σ ρ)} {xs : List α}
    (h : ∀ x ∈ xs, ∀ t, body x (enc t) = .ok (.next (enc (f t x)))) (t : τ) (k : Done σ ρ → R β) :
    (forIn xs (enc t) body >>= k) = k (.fell (enc (xs.foldl f t))) := by
  rw [forIn_foldl_enc enc f h t]; rfl

/-- unlike `forIn_foldlM_inv`, the invariant `Inv t xs` of the MODEL's fold may speak of the elements still to come -/
theorem forIn_abs {α σ τ ρ : Type} (abs : τ → σ) (step : τ → α → R τ) (Inv : τ → List α → Prop) (body : α → σ → R (Ctl σ ρ))
    (h : ∀ x xs t, Inv t (x :: xs) →
      body x (abs t) = (step t x).map (fun t' => Ctl.next (abs t')) ∧ ∀ t', step t x = .ok t' → Inv t' xs)
    (xs : List α) (t : τ) (hi : Inv t xs) :
    Ref (fun d t' => d = Done.fell (abs t') ∧ Inv t' []) (forIn xs (abs t) body) (xs.foldlM step t) := by
  refine forIn_keeps _ _ body (fun ys s => ∃ t', s = abs t' ∧ Inv t' ys ∧ ys.foldlM step t' = xs.foldlM step t) ?_ ?_ xs _
    ⟨t, rfl, hi, rfl⟩
  · rintro _ ⟨t', rfl, hi', he⟩
    rw [← he]; exact ⟨_, rfl, rfl, hi'⟩
  · rintro x ys _ ⟨t', rfl, hi', he⟩
    obtain ⟨h1, h2⟩ := h x ys t' hi'
    rw [List.foldlM_cons] at he
    rw [h1]
    cases hs : step t' x with
    | error e => rw [hs] at he; exact he.symm
    | ok t'' => rw [hs] at he; exact ⟨t'', rfl, h2 t'' hs, he⟩

theorem forIn_abs_fin {α σ τ ρ β : Type} (abs : τ → σ) (step : τ → α → R τ) (Inv : τ → List α → Prop)
    (body : α → σ → R (Ctl σ ρ)) (fin : Done σ ρ → R β) (finM : τ → R β) (xs : List α) (t : τ) (hi : Inv t xs)
    (hstep : ∀ x xs t, Inv t (x :: xs) →
      body x (abs t) = (step t x).map (fun t' => Ctl.next (abs t')) ∧ ∀ t', step t x = .ok t' → Inv t' xs)
    (hfin : ∀ t, Inv t [] → fin (.fell (abs t)) = finM t) :
    (forIn xs (abs t) body >>= fin) = (xs.foldlM step t >>= finM) :=
  ref_eq_iff.1 ((forIn_abs abs step Inv body hstep xs t hi).bind fun _ t' ⟨e, hi'⟩ => by rw [e, hfin t' hi']; exact ref_eq_iff.2 rfl)

end AgpTpf.PyRt
