/-
  C02 (deep cuts), part 6: what cutting keeps of a lookup result (labels, bait, non-emptiness, strands), and the pieces
  grouped by Pretext scaffold.
-/
import AgpTpf.Proofs.C02DCut
namespace AgpTpf.C02
open AgpTpf OverlapResult

theorem trimStartSpec_labelled (S : Scaffold) (oid : Nat) (o : OverlapResult) :
    trimStartSpec oid (labelled S o) = labelled S (trimStartSpec oid o) := by
  unfold trimStartSpec
  have e : (labelled S o).rows = o.rows := rfl
  rw [e]
  rcases h : o.rows with _ | ⟨(F | g), r⟩ <;> rfl

theorem trimEndSpec_labelled (S : Scaffold) (oid : Nat) (o : OverlapResult) :
    trimEndSpec oid (labelled S o) = labelled S (trimEndSpec oid o) := by
  unfold trimEndSpec
  have e : (labelled S o).rows = o.rows := rfl
  rw [e]
  rcases h : o.rows.reverse with _ | ⟨(F | g), r⟩ <;> rfl

theorem cutO_labelled (S : Scaffold) (sc ec : Option Nat) (o : OverlapResult) :
    cutO sc ec (labelled S o) = labelled S (cutO sc ec o) := by
  cases sc <;> cases ec <;> simp only [cutO, trimStartSpec_labelled, trimEndSpec_labelled]

theorem trimStartSpec_rows_ne (oid : Nat) (o : OverlapResult) (h : o.rows ≠ []) : (trimStartSpec oid o).rows ≠ [] := by
  unfold trimStartSpec
  split
  · simp
  · exact h

theorem trimEndSpec_rows_ne (oid : Nat) (o : OverlapResult) (h : o.rows ≠ []) : (trimEndSpec oid o).rows ≠ [] := by
  unfold trimEndSpec
  split
  · simp
  · exact h

theorem cutO_rows_ne (sc ec : Option Nat) (o : OverlapResult) (h : o.rows ≠ []) : (cutO sc ec o).rows ≠ [] := by
  cases sc <;> cases ec <;> simp only [cutO]
  · exact h
  · exact trimEndSpec_rows_ne _ _ h
  · exact trimStartSpec_rows_ne _ _ h
  · exact trimEndSpec_rows_ne _ _ (trimStartSpec_rows_ne _ _ h)

theorem trimStartSpec_bait (oid : Nat) (o : OverlapResult) : (trimStartSpec oid o).bait = o.bait := by
  unfold trimStartSpec; split <;> rfl
theorem trimEndSpec_bait (oid : Nat) (o : OverlapResult) : (trimEndSpec oid o).bait = o.bait := by
  unfold trimEndSpec; split <;> rfl
theorem cutO_bait (sc ec : Option Nat) (o : OverlapResult) : (cutO sc ec o).bait = o.bait := by
  cases sc <;> cases ec <;> simp only [cutO, trimStartSpec_bait, trimEndSpec_bait]

def StrandsOk (rows : List Row) : Prop := ∀ f ∈ fragmentsOf rows, f.strand = 1 ∨ f.strand = -1

theorem trimStartSpec_strands (oid : Nat) (o : OverlapResult) (h : StrandsOk o.rows) : StrandsOk (trimStartSpec oid o).rows := by
  unfold trimStartSpec
  split
  · next F r hr =>
    intro f hf
    rw [hr] at h
    simp only [fragmentsOf, List.mem_cons] at hf
    rcases hf with rfl | hf
    · exact h F (by simp [fragmentsOf])
    · exact h f (by simp [fragmentsOf, hf])
  · exact h

theorem trimEndSpec_strands (oid : Nat) (o : OverlapResult) (h : StrandsOk o.rows) : StrandsOk (trimEndSpec oid o).rows := by
  unfold trimEndSpec
  split
  · next F r hr =>
    have hrows : o.rows = r.reverse ++ [.frag F] := by
      have := congrArg List.reverse hr
      simpa using this
    intro f hf
    rw [hrows] at h
    simp only [List.reverse_cons, fragmentsOf_append, fragmentsOf, List.mem_append, List.mem_singleton] at hf
    rcases hf with hf | rfl
    · exact h f (by simp [fragmentsOf_append, hf])
    · exact h F (by simp [fragmentsOf_append, fragmentsOf])
  · exact h

theorem cutO_strands (sc ec : Option Nat) (o : OverlapResult) (h : StrandsOk o.rows) : StrandsOk (cutO sc ec o).rows := by
  cases sc <;> cases ec <;> simp only [cutO]
  · exact h
  · exact trimEndSpec_strands _ _ h
  · exact trimStartSpec_strands _ _ h
  · exact trimEndSpec_strands _ _ (trimStartSpec_strands _ _ h)

theorem allPieces_zipIdx (ptx : List Scaffold) (n : Nat) :
    (allPieces ptx).zipIdx n = (groupsFrom n ptx).flatMap (fun g => g.2.map (fun q => ((g.1, q.1), q.2))) := by
  induction ptx generalizing n with
  | nil => rfl
  | cons S r ih =>
    rw [allPieces_cons, List.zipIdx_append, List.zipIdx_map, ih]
    simp [groupsFrom, Prod.map]

theorem groupsFrom_mem {n : Nat} {ptx : List Scaffold} {g : Scaffold × List (Fragment × Nat)} (h : g ∈ groupsFrom n ptx) :
    g.1 ∈ ptx ∧ ∃ m, g.2 = g.1.fragments.zipIdx m := by
  induction ptx generalizing n with
  | nil => cases h
  | cons S r ih =>
    simp only [groupsFrom, List.mem_cons] at h
    rcases h with rfl | h
    · exact ⟨by simp, _, rfl⟩
    · obtain ⟨h1, h2⟩ := ih h
      exact ⟨by simp [h1], h2⟩

theorem groupsFrom_piece {n : Nat} {ptx : List Scaffold} {g : Scaffold × List (Fragment × Nat)} (h : g ∈ groupsFrom n ptx)
    {q : Fragment × Nat} (hq : q ∈ g.2) : g.1 ∈ ptx ∧ q.1 ∈ g.1.fragments := by
  obtain ⟨hS, m, hm⟩ := groupsFrom_mem h
  rw [hm] at hq
  exact ⟨hS, by rw [(List.mem_zipIdx hq).2.2]; exact List.getElem_mem _⟩

def NoClashDeep (input ptx : List Scaffold) (jg : Gap) : Prop :=
  ((expectedScaffoldsDeep input ptx jg).map (·.name)).Nodup

end AgpTpf.C02
