/-
  C02 core:
  * with the lookup covering every contig base inside the bait (`lookup_covers_bait`, Proofs/C02KSafe.lean), "inside the
    lookup span" can be dropped from `CoreKept` (`coreKept_all`);
  * two output scaffolds of one output assembly that share a contig base are the same scaffold (C01 `remap_exactly_once`);
  * two DIFFERENT stored results never hold the same contig base (C01 `remapToInput_partition`).
-/
import AgpTpf.Proofs.C02KCut
import AgpTpf.Proofs.C02KRows
import AgpTpf.Proofs.C09RMain
import AgpTpf.Properties.C01
namespace AgpTpf.C02
open AgpTpf OverlapResult
open AgpTpf.C01 (WFInput)

theorem coreKept_all {src : List Row} {M : Int} {bait : Fragment} {o0 o : OverlapResult} (hlen : NonNeg src) (hM : 0 ≤ M)
    (hl : findOverlaps src bait = .ok (some o0)) (hk : KInv src M o0.start o0.stop bait o) {x : Int}
    (hc : ContigAt src x) (h1 : bait.start + M ≤ x) (h2 : x ≤ bait.stop - M) : o.start ≤ x ∧ x ≤ o.stop := by
  obtain ⟨c1, c2⟩ := lookup_covers_bait hlen hl hc (by omega) (by omega)
  exact hk.core x c1 c2 hc (by rw [hk.bait]; exact h1) (by rw [hk.bait]; exact h2)

theorem coreRow_all {src : List Row} {M : Int} {bait : Fragment} {o0 o : OverlapResult} (hlen : NonNeg src) (hM : 0 ≤ M)
    (hl : findOverlaps src bait = .ok (some o0)) (hk : KInv src M o0.start o0.stop bait o) {X Y : List Row} {f : Fragment}
    (hs : src = X ++ .frag f :: Y) {x : Int} (hx1 : rowsLength X < x) (hx2 : x ≤ rowsLength X + f.length)
    (h1 : bait.start + M ≤ x) (h2 : x ≤ bait.stop - M) : ∃ L r R dl dr, RowKept o f (rowsLength X) L r R dl dr := by
  obtain ⟨c1, c2⟩ := lookup_covers_row hlen hl hs hx1 hx2 (by omega) (by omega)
  exact core_row_kept hlen hk hs hx1 hx2 c1 c2 h1 h2

theorem countP_flatMap_two {α β} (g : α → List β) (q : β → Bool) {l : List α} {i j : Nat} {a a' : α} (hne : i ≠ j)
    (hi : l[i]? = some a) (hj : l[j]? = some a') : (g a).countP q + (g a').countP q ≤ (l.flatMap g).countP q := by
  have key : ∀ {i j : Nat} {a a' : α}, i < j → l[i]? = some a → l[j]? = some a' →
      (g a).countP q + (g a').countP q ≤ (l.flatMap g).countP q := by
    intro i j a a' hlt hi hj
    have hj' : (l.drop (i + 1))[j - (i + 1)]? = some a' := by
      rw [List.getElem?_drop, ← hj]; congr 1; omega
    rw [decomp_of_getElem? hi, decomp_of_getElem? hj']
    simp only [List.flatMap_append, List.flatMap_cons, List.countP_append]
    omega
  rcases Nat.lt_or_gt_of_ne hne with hlt | hlt
  · exact key hlt hi hj
  · have := key hlt hj hi
    omega

theorem shared_base_same_scaffold (input ptx : List Scaffold) (prefix_ : Str) (joinGap : Option Gap) (err : Int)
    (outs : List OutAsm) (stats : Stats) (hwf : WFInput input)
    (h : remap input ptx prefix_ joinGap err = .ok (outs, stats))
    (a : OutAsm) (ha : a ∈ outs) (s s' : Scaffold) (hs : s ∈ a.scaffolds) (hs' : s' ∈ a.scaffolds)
    (f f' : Fragment) (hf : Row.frag f ∈ s.rows) (hf' : Row.frag f' ∈ s'.rows)
    (hname : f.name = f'.name) (x : Int) (hx : f.start ≤ x ∧ x ≤ f.stop) (hx' : f'.start ≤ x ∧ x ≤ f'.stop) :
    s = s' := by
  apply Classical.byContradiction
  intro hne
  obtain ⟨hone, hc, hc'⟩ := C09.shared_base_once hwf h ha hs hf hname hx hx'
  have hk : f.keyTuple ∈ C01.keysOf s.rows := C09.mem_keysOf_of_frag _ _ hf
  have hk' : f'.keyTuple ∈ C01.keysOf s'.rows := C09.mem_keysOf_of_frag _ _ hf'
  -- `s ≠ s'` stand at two different places of the assembly, so the base is counted twice in the output
  obtain ⟨i, hi⟩ := List.mem_iff_getElem?.mp hs
  obtain ⟨j, hj⟩ := List.mem_iff_getElem?.mp hs'
  have h2 : _ ≤ (C09.asmTriples a).countP (C01.coversK f.name x) :=
    countP_flatMap_two (fun s : Scaffold => C01.keysOf s.rows) (C01.coversK f.name x)
      (fun e => hne (by subst e; exact Option.some.inj (hi.symm.trans hj))) hi hj
  have hsub : (C09.asmTriples a).countP (C01.coversK f.name x) ≤
      (outs.flatMap C09.asmTriples).countP (C01.coversK f.name x) := by
    rw [List.flatMap_def]
    exact (List.sublist_flatten_of_mem (List.mem_map_of_mem ha)).countP_le
  have c1 := C09.countP_pos_of_mem (C01.coversK f.name x) _ _ hk hc
  have c2 := C09.countP_pos_of_mem (C01.coversK f.name x) _ _ hk' hc'
  omega

/-- scaffold `s` of assembly `a` is the only place of the output where sequence of the rows `T` lives -/
def OnlyHome (outs : List OutAsm) (a : OutAsm) (s : Scaffold) (T : List Row) : Prop :=
  ∀ a' ∈ outs, ∀ s' ∈ a'.scaffolds, ∀ g f', Row.frag g ∈ T → Row.frag f' ∈ s'.rows →
    f'.name = g.name → (∃ y, g.start ≤ y ∧ y ≤ g.stop ∧ f'.start ≤ y ∧ y ≤ f'.stop) → a' = a ∧ s' = s

theorem order_unique (input ptx : List Scaffold) (prefix_ : Str) (joinGap : Option Gap) (err : Int)
    (outs : List OutAsm) (stats : Stats) (hwf : WFInput input)
    (h : remap input ptx prefix_ joinGap err = .ok (outs, stats))
    (a : OutAsm) (ha : a ∈ outs) (s : Scaffold) (hs : s ∈ a.scaffolds) (T : List Row) (hT : T <:+: s.rows) :
    OnlyHome outs a s T := by
  intro a' ha' s' hs' g f' hg hf' hnm ⟨y, y1, y2, y3, y4⟩
  have hgs : Row.frag g ∈ s.rows := hT.subset hg
  have e1 : a = a' := C09.shared_base_same_assembly input ptx prefix_ joinGap err outs stats hwf h a a' ha ha' s s' hs hs'
    g f' hgs hf' hnm.symm y ⟨y1, y2⟩ ⟨y3, y4⟩
  subst e1
  exact ⟨rfl, (shared_base_same_scaffold input ptx prefix_ joinGap err outs stats hwf h a ha s s' hs hs' g f' hgs hf'
    hnm.symm y ⟨y1, y2⟩ ⟨y3, y4⟩).symm⟩

theorem stored_rows_disjoint (input ptx : List Scaffold) (prefix_ : Str) (joinGap : Option Gap) (err : Int) (b : Build)
    (hwf : WFInput input) (h : remapToInput input ptx prefix_ joinGap err = .ok b)
    {i j : Nat} {r r' : Res} (hne : i ≠ j) (hi : b.store[i]? = some r) (hj : b.store[j]? = some r')
    {g g' : Fragment} (hg : Row.frag g ∈ r.o.rows) (hg' : Row.frag g' ∈ r'.o.rows) (hname : g.name = g'.name)
    (x : Int) (hx : g.start ≤ x ∧ x ≤ g.stop) (hx' : g'.start ≤ x ∧ x ≤ g'.stop) : False := by
  have hadd := remapToInput_addedOK input ptx prefix_ joinGap err b h
  have ha := hadd.added (List.mem_of_getElem? hi) (List.ne_nil_of_mem hg)
  have ha' := hadd.added (List.mem_of_getElem? hj) (List.ne_nil_of_mem hg')
  obtain ⟨p1, p2⟩ := C01.remapToInput_partition input ptx prefix_ joinGap err b hwf h
  have hgs : g ∈ C01.storeFrags b.store ++ C01.extraFrags b.extra :=
    List.mem_append_left _ (C01.mem_storeFrags.mpr ⟨r, List.mem_of_getElem? hi, ha, hg⟩)
  obtain ⟨F, hF, hP⟩ := p2 g hgs
  obtain ⟨q1, q2, _, q4, _⟩ := hP
  have hcov : C01.covers g.name x F = true := by
    simp only [C01.covers, decide_eq_true_eq]
    exact ⟨q4.symm, by omega, by omega⟩
  have hone := hwf.cover_count hF hcov
  have htot := p1 g.name x
  rw [hone, List.countP_append] at htot
  have h2 : _ ≤ (C01.storeFrags b.store).countP _ := countP_flatMap_two C01.resFrags (C01.covers g.name x) hne hi hj
  have c1 : 1 ≤ (C01.resFrags r).countP (C01.covers g.name x) :=
    List.countP_pos_iff.mpr ⟨g, by simp [C01.resFrags, ha, mem_fragmentsOf.mpr hg],
      by unfold C01.covers; exact decide_eq_true ⟨rfl, hx.1, hx.2⟩⟩
  have c2 : 1 ≤ (C01.resFrags r').countP (C01.covers g.name x) :=
    List.countP_pos_iff.mpr ⟨g', by simp [C01.resFrags, ha', mem_fragmentsOf.mpr hg'],
      by unfold C01.covers; exact decide_eq_true ⟨hname.symm, hx'.1, hx'.2⟩⟩
  omega

end AgpTpf.C02
