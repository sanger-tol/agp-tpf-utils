/-
  C07, second sentence (gap rows): the C18 content invariant read on runs, and
  `InputRun` — a run whose facing ends and gap rows are those of a run of an input scaffold (up to reversal).
-/
import AgpTpf.Proofs.C07ChainA
import AgpTpf.Proofs.C07Runs
namespace AgpTpf.C07
open AgpTpf
open AgpTpf.C11 (End leftFacing rightFacing facingEnds SameAdj)

/-- the source run a run `(a, G, b)` of a result comes from: same gap rows, same facing ends, same strands -/
def FromRun (src : List Row) (t : Run) : Prop :=
  ∃ a0 b0, (a0, t.2.1, b0) ∈ gapRuns src ∧ leftFacing t.1 = leftFacing a0 ∧ rightFacing t.2.2 = rightFacing b0 ∧
    t.1.strand = a0.strand ∧ t.2.2.strand = b0.strand

theorem gapRuns_last_replaced (mid : List Row) (f1 g1 : Fragment) (a b : Fragment) (G : List Gap)
    (h : (a, G, b) ∈ gapRuns (mid ++ [.frag f1])) :
    (a, G, b) ∈ gapRuns (mid ++ [.frag g1]) ∨ (b = f1 ∧ (a, G, g1) ∈ gapRuns (mid ++ [.frag g1])) := by
  obtain ⟨B, O, e⟩ := gapRuns_decomp _ a b G h
  rcases List.eq_nil_or_concat O with rfl | ⟨O', x, rfl⟩
  · have e' : mid ++ [.frag f1] = (B ++ .frag a :: G.map Row.gap) ++ [.frag b] := by rw [e]; simp
    obtain ⟨rfl, hb⟩ := List.append_inj' e' rfl
    cases hb
    exact .inr ⟨rfl, by simpa using mem_gapRuns_of_decomp B [] a g1 G⟩
  · have e' : mid ++ [.frag f1] = (B ++ .frag a :: (G.map Row.gap ++ .frag b :: O')) ++ [x] := by rw [e]; simp
    obtain ⟨rfl, -⟩ := List.append_inj' e' rfl
    exact .inl (by simpa using mem_gapRuns_of_decomp B (O' ++ [.frag g1]) a b G)

theorem gapRuns_first_replaced (r : List Row) (f0 g0 : Fragment) (a b : Fragment) (G : List Gap)
    (h : (a, G, b) ∈ gapRuns (.frag f0 :: r)) :
    (a, G, b) ∈ gapRuns (.frag g0 :: r) ∨ (a = f0 ∧ (g0, G, b) ∈ gapRuns (.frag g0 :: r)) := by
  obtain ⟨B, O, e⟩ := gapRuns_decomp _ a b G h
  cases B with
  | nil => cases e; exact .inr ⟨rfl, mem_gapRuns_of_decomp [] O g0 b G⟩
  | cons x B' => cases e; exact .inl (mem_gapRuns_of_decomp (.frag g0 :: B') O a b G)

/-- Only the two end rows of a result differ from the source, each at its outer end: a run keeps its gap rows, and the
    ends facing them, when first the last row and then the first is put back. -/
theorem content_runs {src : List Row} {o : OverlapResult} (hc : C18.Content src o) :
    ∀ t ∈ gapRuns o.rows, FromRun src t := by
  rintro ⟨a, G, b⟩ ht
  cases hc with
  | empty h _ => rw [h] at ht; cases ht
  | one A B s r dl dr _ hr hsh _ _ _ _ =>
    obtain ⟨f, g, rfl, _⟩ := hsh
    rw [hr] at ht; simp [gapRuns, headRun, nextFrag] at ht
  | many A B mid s0 s1 r0 r1 dl dr hs hr h0 h1 _ _ _ _ =>
    obtain ⟨f0, g0, rfl, rfl, _⟩ := id h0
    obtain ⟨f1, g1, rfl, rfl, _⟩ := id h1
    have hinf : (Row.frag g0 :: (mid ++ [Row.frag g1])) <:+: src := ⟨A, B, by rw [hs]; simp⟩
    obtain ⟨hst0, hl0, -⟩ := short_facing h0
    obtain ⟨hst1, -, hr1⟩ := short_facing h1
    rw [hr, List.cons_append] at ht
    obtain ⟨b0, ht, p1, p2⟩ : ∃ b0, (a, G, b0) ∈ gapRuns (Row.frag f0 :: mid ++ [Row.frag g1]) ∧
        rightFacing b = rightFacing b0 ∧ b.strand = b0.strand := by
      rcases gapRuns_last_replaced (Row.frag f0 :: mid) f1 g1 a b G ht with e | ⟨rfl, e⟩
      · exact ⟨b, e, rfl, rfl⟩
      · exact ⟨g1, e, hr1 rfl, hst1⟩
    obtain ⟨a0, ht, q1, q2⟩ : ∃ a0, (a0, G, b0) ∈ gapRuns (Row.frag g0 :: (mid ++ [Row.frag g1])) ∧
        leftFacing a = leftFacing a0 ∧ a.strand = a0.strand := by
      rcases gapRuns_first_replaced _ f0 g0 a b0 G ht with e | ⟨rfl, e⟩
      · exact ⟨a, e, rfl, rfl⟩
      · exact ⟨g0, e, hl0 rfl, hst0⟩
    exact ⟨a0, b0, gapRuns_infix hinf _ ht, q1, p1, q2, p2⟩

/-- `t` has the facing ends and gap rows of `q`, read in the same direction or from the other side -/
def RunMatch (t q : Run) : Prop :=
  (facingEnds t.1 t.2.2 = facingEnds q.1 q.2.2 ∧ t.2.1 = q.2.1) ∨
  (facingEnds t.1 t.2.2 = (facingEnds q.1 q.2.2).swap ∧ t.2.1 = q.2.1.reverse)

instance (t q : Run) : Decidable (RunMatch t q) := by unfold RunMatch; infer_instance

/-- `t`'s two fragments are (by their facing contig ends) consecutive fragments of one input scaffold, and `t`'s gap rows
    are exactly the gap rows the input has between them (in reverse order if the pair is traversed in reverse) -/
def InputRun (input : List Scaffold) (t : Run) : Prop := ∃ sc ∈ input, ∃ q ∈ gapRuns sc.rows, RunMatch t q

instance (input : List Scaffold) (t : Run) : Decidable (InputRun input t) := by unfold InputRun; infer_instance

theorem runMatch_mirror (q : Run) (h1 : StrandPM q.1) (h2 : StrandPM q.2.2) : RunMatch (mirrorRun q) q := by
  obtain ⟨a, G, b⟩ := q
  right
  refine ⟨?_, rfl⟩
  have := facingEnds_mirror a b h1 h2
  simpa [mirror, mirrorRun] using this

/-- a gapless input run is an input adjacency: the first clause is the case `G = []` of the second sentence -/
theorem isInputAdj_of_inputRun {input : List Scaffold} {a b : Fragment} (h : InputRun input (a, [], b)) :
    IsInputAdj input (facingEnds a b) := by
  obtain ⟨sc, hsc, ⟨a0, G0, b0⟩, hq, hm⟩ := h
  have hG : G0 = [] := by
    rcases hm with ⟨_, e⟩ | ⟨_, e⟩
    · exact e.symm
    · exact List.reverse_eq_nil_iff.mp e.symm
  subst hG
  refine isInputAdj_of input sc hsc a0 b0 ((gapRuns_nil_iff_adjPairs _ _ _).mp hq) _ ?_
  rcases hm with ⟨e, _⟩ | ⟨e, _⟩
  · exact e ▸ SameAdj.refl _
  · exact e ▸ (SameAdj.swap _).symm

theorem toScaffoldRows_runs {src : List Row} {o : OverlapResult} (hc : C18.Content src o)
    (hsrc : ∀ q ∈ gapRuns src, StrandPM q.1 ∧ StrandPM q.2.2) :
    ∀ t ∈ gapRuns o.toScaffoldRows, ∃ q ∈ gapRuns src, RunMatch t q := by
  have key : ∀ t ∈ gapRuns o.rows, ∃ q ∈ gapRuns src, facingEnds t.1 t.2.2 = facingEnds q.1 q.2.2 ∧ t.2.1 = q.2.1 ∧
      StrandPM t.1 ∧ StrandPM t.2.2 := by
    intro t ht
    obtain ⟨a0, b0, h0, e1, e2, s1, s2⟩ := content_runs hc t ht
    obtain ⟨p1, p2⟩ := hsrc _ h0
    refine ⟨(a0, t.2.1, b0), h0, by simp [facingEnds, e1, e2], rfl, ?_, ?_⟩
    · unfold StrandPM; rw [s1]; exact p1
    · unfold StrandPM; rw [s2]; exact p2
  intro t ht
  unfold OverlapResult.toScaffoldRows at ht
  split at ht
  · obtain ⟨q, hq, rfl⟩ := gapRuns_reverse_map _ t ht
    obtain ⟨q0, hq0, e1, e2, sa, sb⟩ := key q hq
    refine ⟨q0, hq0, ?_⟩
    have hm := runMatch_mirror q sa sb
    unfold RunMatch at hm ⊢
    rw [← e1, ← e2]; exact hm
  · obtain ⟨q0, hq0, e1, e2, _, _⟩ := key t ht
    exact ⟨q0, hq0, Or.inl ⟨e1, e2⟩⟩

end AgpTpf.C07
