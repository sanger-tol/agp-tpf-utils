/-
  C02 core: DEEP ROWS SURVIVE — the complement of the core for short pieces.
  A contig row `f` of the source scaffold that shares at least `err` (and at least one) bases with the bait and reaches
  deeper than `M` from BOTH ends of the bait (`bait.start + M ≤ fe`, `fs ≤ bait.stop − M`) is never taken away:
  `SafeKept` says that the part of `f` inside the bait stays inside `[start, stop]`.
  Neither guard can remove such a row: guard (a) and `trim_large_overhangs` need a bait overlap `< err`; guard (b) needs
  the what-if overhang `> −M`, i.e. the new start `< bait.start + M ≤ fe`, but the new start lies beyond `fe`.
  No disjointness of baits is needed for this.  Also here: the lookup covers every contig base inside the bait.
-/
import AgpTpf.Proofs.C02KRes
import AgpTpf.Proofs.C02KRows
namespace AgpTpf.C02
open AgpTpf OverlapResult
open AgpTpf.C18 (Inv)

theorem lookup_covers_row {src X Y : List Row} {f bait : Fragment} {o : OverlapResult} (hlen : NonNeg src)
    (h : findOverlaps src bait = .ok (some o)) (hs : src = X ++ .frag f :: Y) {x : Int} (q1 : rowsLength X < x)
    (q2 : x ≤ rowsLength X + f.length) (h1 : bait.start ≤ x) (h2 : x ≤ bait.stop) : o.start ≤ x ∧ x ≤ o.stop := by
  obtain ⟨i, j, -, -, -, -, -, -, hall, rfl⟩ := lookup_passing hlen h
  -- the row meets the bait, so it is one of the rows `i … j`
  obtain ⟨hk, e1, e2⟩ := pre_of_decomp hs
  simp only [Row.length] at e2
  obtain ⟨hik, hkj⟩ := hall _ ((C12.fragAt_iff _ _).2 ⟨f, hk⟩) ⟨by omega, by omega⟩
  have m1 := C12.pre_mono src hlen i X.length hik
  have m2 := C12.pre_mono src hlen (X.length + 1) (j + 1) (by omega)
  show 1 + C12.pre src i ≤ x ∧ x ≤ C12.pre src (j + 1)
  omega

theorem lookup_covers_bait {src : List Row} {bait : Fragment} {o : OverlapResult} (hlen : NonNeg src)
    (h : findOverlaps src bait = .ok (some o)) {x : Int} (hc : ContigAt src x) (h1 : bait.start ≤ x) (h2 : x ≤ bait.stop) :
    o.start ≤ x ∧ x ≤ o.stop := by
  obtain ⟨hx1, f, hf⟩ := hc
  obtain ⟨X, Y, hs, q1, q2⟩ := rowAt_some_decomp src hlen x _ hx1 hf
  exact lookup_covers_row hlen h hs q1 q2 h1 h2

def SafeKept (src : List Row) (err M : Int) (o : OverlapResult) : Prop :=
  ∀ X f Y, src = X ++ .frag f :: Y →
    err ≤ min (rowsLength X + f.length) o.bait.stop - max (rowsLength X + 1) o.bait.start + 1 →
    1 ≤ min (rowsLength X + f.length) o.bait.stop - max (rowsLength X + 1) o.bait.start + 1 →
    o.bait.start + M ≤ rowsLength X + f.length → rowsLength X + 1 ≤ o.bait.stop - M →
    o.start ≤ max (rowsLength X + 1) o.bait.start ∧ min (rowsLength X + f.length) o.bait.stop ≤ o.stop

theorem safeKept_iff_pos {src : List Row} {err M : Int} {o : OverlapResult} :
    SafeKept src err M o ↔ ∀ X f Y, src = X ++ .frag f :: Y →
      (err ≤ rowsLength X + f.length - (rowsLength X + 1) + 1 ∧ err ≤ rowsLength X + f.length - o.bait.start + 1 ∧
        err ≤ o.bait.stop - (rowsLength X + 1) + 1 ∧ err ≤ o.bait.stop - o.bait.start + 1) →
      o.bait.start + M ≤ rowsLength X + f.length → rowsLength X + 1 ≤ o.bait.stop - M →
      ∀ x, rowsLength X < x → x ≤ rowsLength X + f.length → o.bait.start ≤ x → x ≤ o.bait.stop →
        o.start ≤ x ∧ x ≤ o.stop := by
  constructor
  · intro h X f Y hs h1 h3 h4 x a b c d
    have hM : max (rowsLength X + 1) o.bait.start ≤ x := Int.max_le.mpr ⟨a, c⟩
    have hm : x ≤ min (rowsLength X + f.length) o.bait.stop := Int.le_min.mpr ⟨b, d⟩
    obtain ⟨q1, q2⟩ := h X f Y hs (le_overlap_iff.mpr h1) (by omega) h3 h4
    exact ⟨Int.le_trans q1 hM, Int.le_trans hm q2⟩
  · intro h X f Y hs h1 h2 h3 h4
    have hMm : max (rowsLength X + 1) o.bait.start ≤ min (rowsLength X + f.length) o.bait.stop := by omega
    obtain ⟨m1, m2⟩ := Int.le_min.mp hMm
    obtain ⟨m3, m4⟩ := Int.max_le.mp hMm
    exact ⟨(h X f Y hs (le_overlap_iff.mp h1) h3 h4 _ (Int.le_max_left ..) m1 (Int.le_max_right ..) m2).1,
      (h X f Y hs (le_overlap_iff.mp h1) h3 h4 _ m3 (Int.min_le_left ..) m4 (Int.min_le_right ..)).2⟩

theorem SafeKept.congr {src : List Row} {err M : Int} {o o' : OverlapResult} (h : SafeKept src err M o)
    (hs : o'.start = o.start) (he : o'.stop = o.stop) (hb : o'.bait = o.bait) : SafeKept src err M o' := by
  intro X f Y hsrc h1 h2 h3 h4
  rw [hb] at h1 h2 h3 h4 ⊢
  rw [hs, he]
  exact h X f Y hsrc h1 h2 h3 h4

theorem safeKept_lookup {src : List Row} {bait : Fragment} {o : OverlapResult} (err M : Int) (hlen : NonNeg src)
    (h : findOverlaps src bait = .ok (some o)) : SafeKept src err M o := by
  rw [safeKept_iff_pos, (findOverlaps_fresh h).1]
  intro X f Y hsrc _ _ _ x a b c d
  exact lookup_covers_row hlen h hsrc a b c d

/-- `hguard`: guard (a) (first-row bait overlap `< err`) or guard (b) (new start before `bait.start + M`).  A position of
    a deep row inside the bait that `discard_start` removed would lie in the discarded row (`discardStart_geom`); then that
    row is the deep row, which neither guard lets go -/
theorem safeKept_discardStart {src : List Row} {err M : Int} {o o' : OverlapResult} (hlen : NonNeg src)
    (hI : Inv src o) (hg : RGeo src o) (hs : SafeKept src err M o) (h : discardStart o = .ok o')
    (hguard : (∃ ov, startRowBaitOverlap o = .ok ov ∧ ov < err) ∨ o'.start < o.bait.start + M) :
    SafeKept src err M o' := by
  obtain ⟨d, t, hrows, hen, hb, hle, hrow, _⟩ := discardStart_geom hlen hI h
  obtain ⟨A, B, hs2, hA⟩ := hg.slice.first hrows
  rw [safeKept_iff_pos] at hs ⊢
  rw [hb]
  intro X f Y hsrc h1 h3 h4 x a b c e
  obtain ⟨q1, q2⟩ := hs X f Y hsrc h1 h3 h4 x a b c e
  refine ⟨Int.le_of_not_gt fun hcon => ?_, by omega⟩
  have hx := hrow x hcon (contigAt_of_row hsrc hlen a b)
  obtain ⟨rfl, rfl, _⟩ := pos_unique hlen hsrc hs2 a b (by omega) (by omega)
  simp only [Row.length] at hle
  rcases hguard with ⟨ov, hov, hlt⟩ | hlt
  · have := startRow_overlap_lt hrows hov hlt
    simp only [Row.length] at this
    omega
  · omega

theorem safeKept_discardEnd {src : List Row} {err M : Int} {o o' : OverlapResult} (hlen : NonNeg src)
    (hI : Inv src o) (hg : RGeo src o) (hs : SafeKept src err M o) (h : discardEnd o = .ok o')
    (hguard : (∃ ov, endRowBaitOverlap o = .ok ov ∧ ov < err) ∨ o.bait.stop - M < o'.stop) :
    SafeKept src err M o' := by
  obtain ⟨d, t, hrows, hst, hb, hle, hrow, _⟩ := discardEnd_geom hlen hI h
  obtain ⟨A, B, hs2, hA⟩ := hg.slice.last hI.span hrows
  rw [safeKept_iff_pos] at hs ⊢
  rw [hb]
  intro X f Y hsrc h1 h3 h4 x a b c e
  obtain ⟨q1, q2⟩ := hs X f Y hsrc h1 h3 h4 x a b c e
  refine ⟨by omega, Int.le_of_not_gt fun hcon => ?_⟩
  have hx := hrow x hcon (contigAt_of_row hsrc hlen a b)
  obtain ⟨rfl, rfl, _⟩ := pos_unique hlen hsrc hs2 a b (by omega) (by omega)
  simp only [Row.length] at hle hA
  rcases hguard with ⟨ov, hov, hlt⟩ | hlt
  · have := endRow_overlap_lt hrows hov hlt
    simp only [Row.length] at this
    omega
  · omega

theorem safeKept_trimLarge {src : List Row} {err M : Int} {o o' : OverlapResult} (hlen : NonNeg src)
    (hI : Inv src o) (hg : RGeo src o) (hs : SafeKept src err M o) (h : trimLargeOverhangs o err = .ok o') :
    SafeKept src err M o' := by
  refine (trimLarge_induct (P := fun o => Inv src o ∧ RGeo src o ∧ SafeKept src err M o) h ⟨hI, hg, hs⟩ ?_ ?_).2.2
  · intro o o1 ⟨hI, hg, hs⟩ ⟨_, ov, hv, hlt⟩ hd
    exact ⟨C18.inv_discardStart hI hd, hg.discardStart hd, safeKept_discardStart hlen hI hg hs hd (Or.inl ⟨ov, hv, hlt⟩)⟩
  · intro o o1 ⟨hI, hg, hs⟩ ⟨_, ov, hv, hlt⟩ hd
    exact ⟨C18.inv_discardEnd hI hd, hg.discardEnd hd, safeKept_discardEnd hlen hI hg hs hd (Or.inl ⟨ov, hv, hlt⟩)⟩

theorem safeKept_trimFragment {src : List Row} {err M : Int} {o o' : OverlapResult} {f new : Fragment} {ks ke : Bool}
    {oid : Nat} (hs : SafeKept src err M o) (h : trimFragment o f ks ke oid = .ok (o', new)) : SafeKept src err M o' := by
  obtain ⟨hb, e1, e2⟩ := trimFragment_ends h
  rw [safeKept_iff_pos] at hs ⊢
  rw [hb]
  intro X g Y hsrc h1 h3 h4 x a b c d
  have := hs X g Y hsrc h1 h3 h4 x a b c d
  omega

theorem safeKept_step {src : List Row} {err : Int} {o o' : OverlapResult} (hlen : NonNeg src) (hI : Inv src o)
    (hg : RGeo src o) (hs : SafeKept src err (3 * err) o) (h : GStep err o o') : SafeKept src err (3 * err) o' := by
  cases h with
  | trimLarge h => exact safeKept_trimLarge hlen hI hg hs h
  | startA _ hov hlt _ h => exact safeKept_discardStart hlen hI hg hs h (Or.inl ⟨_, hov, hlt⟩)
  | startB ha hgt h => exact safeKept_discardStart hlen hI hg hs h (Or.inr (startB_bound ha hgt h))
  | endA _ hov hlt _ h => exact safeKept_discardEnd hlen hI hg hs h (Or.inl ⟨_, hov, hlt⟩)
  | endB ha hgt h => exact safeKept_discardEnd hlen hI hg hs h (Or.inr (endB_bound ha hgt h))
  | trim _ _ h => exact safeKept_trimFragment hs h

end AgpTpf.C02
