/-
  C10, chromosome numbering: the `ChrGroup.data` dictionary built from a piece of `ChrNamer.scaffolds` (`segGroup`, any
  `haplotypes_seen`).  `ChrGroup.add_scaffold_to_haplotype` is two nested group-bys (`segGroup_fold`): by haplotype key, and under each key by
  Pretext name; so the haplotype dict of `h` is `hapChrs fs h seg` (`dGet_segGroup`): the distinct Pretext names of the
  `h`-entries in first-occurrence order, each with the ids of its scaffolds in order.
-/
import AgpTpf.Model.Remap
import AgpTpf.Proofs.C10Runs
import AgpTpf.Proofs.Lib.Dict
namespace AgpTpf.C10
open AgpTpf

/-- `(haplotype key, scaffold id)` as handed to `ChrNamer.add_scaffold` -/
abbrev Entry := Str × Nat
/-- one haplotype's dict of a `ChrGroup`: Pretext name → scaffold ids -/
abbrev ChrDict := List (Str × List Nat)

theorem dGet?_map_key {κ ν : Type} [DecidableEq κ] (ks : List κ) (f : κ → ν) (k : κ) :
    dGet? (ks.map (fun k' => (k', f k'))) k = if k ∈ ks then some (f k) else none := by
  induction ks with
  | nil => simp [dGet?]
  | cons a r ih =>
    simp only [List.map_cons, dGet?, ih, List.mem_cons]
    by_cases e : a = k
    · subst e; simp
    · have e' : ¬ k = a := fun h => e h.symm
      simp [e, e']

def hapEntries (h : Str) (seg : List Entry) : List Entry := seg.filter (fun e => e.1 = h)

/-- ids of the scaffolds of haplotype `h` with Pretext name `o` in the segment, in order -/
def idsOf (fs : List Scaffold) (h o : Str) (seg : List Entry) : List Nat :=
  ((hapEntries h seg).filter (fun e => origOf fs e.2 = o)).map (·.2)

/-- distinct Pretext names of haplotype `h` in the segment, in order of first occurrence -/
def hapOrigs (fs : List Scaffold) (h : Str) (seg : List Entry) : List Str :=
  (hapEntries h seg).foldl (fun acc e => sAdd acc (origOf fs e.2)) []

/-- `group.data[h]`: one `(Pretext name, ids)` item per chromosome of `h` in the group -/
def hapChrs (fs : List Scaffold) (h : Str) (seg : List Entry) : ChrDict :=
  (hapOrigs fs h seg).map (fun o => (o, idsOf fs h o seg))

/-- the `ChrGroup.data` built by adding the entries of `seg` in order to a fresh group -/
def segGroup (fs : List Scaffold) (haps : List Str) (seg : List Entry) : GroupData :=
  seg.foldl (fun g e => groupAdd g e.1 (origOf fs e.2) e.2) (newGroup haps)

/-- the inner group-by, Pretext name ↦ ids: `setdefault(scaffold.original_name, []).append(scaffold)` -/
def chrUpd (v : Option (List Nat)) (x : Str × Nat) : List Nat := v.getD [] ++ [x.2]

/-- the outer group-by, haplotype key ↦ inner dict -/
def hapUpd (fs : List Scaffold) (v : Option ChrDict) (e : Entry) : ChrDict :=
  dStep (·.1) chrUpd (v.getD []) (origOf fs e.2, e.2)

theorem segGroup_fold (fs : List Scaffold) (haps : List Str) (seg : List Entry) :
    segGroup fs haps seg = seg.foldl (dStep (·.1) (hapUpd fs)) (newGroup haps) := rfl

theorem segGroup_snoc (fs : List Scaffold) (haps : List Str) (seg : List Entry) (e : Entry) :
    segGroup fs haps (seg ++ [e]) = groupAdd (segGroup fs haps seg) e.1 (origOf fs e.2) e.2 := by
  unfold segGroup; rw [List.foldl_append]; rfl

theorem hapOrigs_eq (fs : List Scaffold) (h : Str) (seg : List Entry) :
    hapOrigs fs h seg = ((hapEntries h seg).map fun e => origOf fs e.2).foldl sAdd [] := List.foldl_map.symm

theorem hapOrigs_nodup (fs : List Scaffold) (h : Str) (seg : List Entry) : (hapOrigs fs h seg).Nodup := by
  rw [hapOrigs_eq]; exact nodup_foldl_sAdd _ List.nodup_nil

theorem mem_hapEntries (h : Str) (seg : List Entry) (e : Entry) : e ∈ hapEntries h seg ↔ e ∈ seg ∧ e.1 = h := by
  unfold hapEntries; simp

theorem mem_hapOrigs (fs : List Scaffold) (h o : Str) (seg : List Entry) :
    o ∈ hapOrigs fs h seg ↔ ∃ e ∈ seg, e.1 = h ∧ origOf fs e.2 = o := by
  rw [hapOrigs_eq, mem_foldl_sAdd]
  simp only [List.not_mem_nil, false_or, List.mem_map, mem_hapEntries, and_assoc]

theorem mem_idsOf (fs : List Scaffold) (h o : Str) (seg : List Entry) (j : Nat) :
    j ∈ idsOf fs h o seg ↔ ∃ e ∈ seg, e.1 = h ∧ origOf fs e.2 = o ∧ e.2 = j := by
  unfold idsOf
  simp only [List.mem_map, List.mem_filter, mem_hapEntries, decide_eq_true_eq, and_assoc]

theorem idsOf_ne_nil_of_mem (fs : List Scaffold) (h o : Str) (seg : List Entry) (hm : o ∈ hapOrigs fs h seg) :
    idsOf fs h o seg ≠ [] := by
  obtain ⟨e, h1, h2, h3⟩ := (mem_hapOrigs fs h o seg).1 hm
  intro hnil
  have : e.2 ∈ idsOf fs h o seg := (mem_idsOf fs h o seg e.2).2 ⟨e, h1, h2, h3, rfl⟩
  rw [hnil] at this; cases this

theorem groupVal_chrUpd (r : List (Str × Nat)) : ∀ v : Option (List Nat),
    r ≠ [] ∨ v.isSome → groupVal chrUpd r v = some (v.getD [] ++ r.map (·.2)) := by
  induction r with
  | nil =>
    intro v h
    rcases h with h | h
    · exact absurd rfl h
    · cases v with
      | none => cases h
      | some w => exact congrArg some (List.append_nil w).symm
  | cons a t ih =>
    intro v _
    show groupVal chrUpd t (some (v.getD [] ++ [a.2])) = _
    rw [ih _ (.inr rfl), Option.getD_some, List.append_assoc]; rfl

theorem groupVal_hapUpd (fs : List Scaffold) (r : List Entry) : ∀ v : Option ChrDict,
    (groupVal (hapUpd fs) r v).getD [] = (r.map fun e => (origOf fs e.2, e.2)).foldl (dStep (·.1) chrUpd) (v.getD []) := by
  induction r with
  | nil => intro v; rfl
  | cons a t ih => intro v; exact ih _

theorem dGet_newGroup (haps : List Str) (h : Str) : (dGet? (newGroup haps) h).getD [] = [] := by
  unfold newGroup
  rw [dGet?_map_key]
  split <;> rfl

theorem dGet_segGroup (fs : List Scaffold) (haps : List Str) (h : Str) (seg : List Entry) :
    (dGet? (segGroup fs haps seg) h).getD [] = hapChrs fs h seg := by
  rw [segGroup_fold, foldl_dStep_get, groupVal_hapUpd, dGet_newGroup]
  unfold hapChrs
  have hk : (hapEntries h seg).map (fun e => origOf fs e.2) =
      ((hapEntries h seg).map fun e => (origOf fs e.2, e.2)).map (·.1) := by rw [List.map_map]; rfl
  rw [show (seg.filter fun x => decide (x.1 = h)) = hapEntries h seg from rfl, hapOrigs_eq, hk]
  refine foldl_dStep_eq (·.1) chrUpd _ _ fun x hx => ?_
  rw [groupVal_chrUpd _ _ (.inl (List.ne_nil_of_mem (List.mem_filter.2 ⟨hx, by simp⟩)))]
  obtain ⟨e, _, rfl⟩ := List.mem_map.1 hx
  unfold idsOf
  simp [List.filter_map, Function.comp_def]

theorem segGroup_keys (fs : List Scaffold) (haps : List Str) (seg : List Entry) :
    (segGroup fs haps seg).map (·.1) = (seg.map (·.1)).foldl sAdd haps := by
  rw [segGroup_fold, foldl_dStep_keys]; unfold newGroup; rw [List.map_map]; simp [Function.comp_def]

theorem dGet?_segGroup (fs : List Scaffold) (haps : List Str) (seg : List Entry) {h : Str}
    (hm : h ∈ (segGroup fs haps seg).map (·.1)) : dGet? (segGroup fs haps seg) h = some (hapChrs fs h seg) := by
  obtain ⟨v, hv, _⟩ := dGet?_of_key _ h hm
  rw [hv, ← dGet_segGroup fs haps h seg, hv]; rfl

theorem segGroup_eq (fs : List Scaffold) (haps : List Str) (hnd : haps.Nodup) (seg : List Entry)
    (hm : ∀ e ∈ seg, e.1 ∈ haps) :
    segGroup fs haps seg = haps.map (fun h => (h, hapChrs fs h seg)) := by
  have hk : (segGroup fs haps seg).map (·.1) = haps := by
    rw [segGroup_keys]
    exact foldl_sAdd_of_subset _ _ fun x hx => by obtain ⟨e, he, rfl⟩ := List.mem_map.1 hx; exact hm e he
  have := dict_eq_map (d := segGroup fs haps seg) (fun h => hapChrs fs h seg) (by rw [hk]; exact hnd)
    (fun k hk' => dGet?_segGroup fs haps seg hk')
  rwa [hk] at this

theorem segGroup_head (fs : List Scaffold) (h1 : Str) (others : List Str) (seg : List Entry) :
    ∃ rest, segGroup fs (h1 :: others) seg = (h1, hapChrs fs h1 seg) :: rest := by
  obtain ⟨t, ht⟩ := foldl_sAdd_head h1 (seg.map (·.1)) others
  have hk := (segGroup_keys fs (h1 :: others) seg).trans ht
  have hv := dGet?_segGroup fs (h1 :: others) seg (h := h1) (by rw [hk]; exact List.mem_cons_self)
  cases hd : segGroup fs (h1 :: others) seg with
  | nil => rw [hd] at hk; cases hk
  | cons p rest =>
    rw [hd] at hk hv
    obtain ⟨k, v⟩ := p
    cases (List.cons.inj hk).1
    rw [dGet?_cons, if_pos rfl] at hv
    exact ⟨rest, by rw [Option.some.inj hv]⟩

theorem segGroup_ne_nil (fs : List Scaffold) (h1 : Str) (others : List Str) (seg : List Entry) :
    segGroup fs (h1 :: others) seg ≠ [] := by
  obtain ⟨rest, h⟩ := segGroup_head fs h1 others seg
  rw [h]; simp

theorem hapOrigs_eq_nil_iff (fs : List Scaffold) (h : Str) (seg : List Entry) :
    hapOrigs fs h seg = [] ↔ ∀ e ∈ seg, e.1 ≠ h := by
  rw [List.eq_nil_iff_forall_not_mem]
  constructor
  · intro hn e he hh
    exact hn (origOf fs e.2) ((mem_hapOrigs fs h _ seg).2 ⟨e, he, hh, rfl⟩)
  · intro hn o ho
    obtain ⟨e, he, hh, _⟩ := (mem_hapOrigs fs h o seg).1 ho
    exact hn e he hh

theorem hapChrs_isEmpty (fs : List Scaffold) (h : Str) (seg : List Entry) :
    (hapChrs fs h seg).isEmpty = !(seg.any (fun x => decide (x.1 = h))) := by
  unfold hapChrs
  rw [List.isEmpty_map, Bool.eq_iff_iff, List.isEmpty_iff, hapOrigs_eq_nil_iff]
  simp

theorem dGet_hapChrs (fs : List Scaffold) (h o : Str) (seg : List Entry) :
    dGet? (hapChrs fs h seg) o = if o ∈ hapOrigs fs h seg then some (idsOf fs h o seg) else none := by
  unfold hapChrs
  rw [dGet?_map_key]
  by_cases c : o ∈ hapOrigs fs h seg <;> simp [c]

def chrIds (d : ChrDict) : List Nat := d.flatMap (·.2)
def groupIds (g : GroupData) : List Nat := g.flatMap (fun h => chrIds h.2)

theorem groupIds_segGroup (fs : List Scaffold) (haps : List Str) (seg : List Entry) :
    (groupIds (segGroup fs haps seg)).Perm (seg.map (·.2)) := by
  have inner : ∀ (v : Option (List Nat)) (x : Str × Nat), (id (chrUpd v x)).Perm ((v.map id).getD [] ++ [x.2]) := by
    intro v x; cases v <;> exact .refl _
  have outer : ∀ (v : Option ChrDict) (e : Entry), (chrIds (hapUpd fs v e)).Perm ((v.map chrIds).getD [] ++ [e.2]) := by
    intro v e
    have := dStep_flatMap_perm (·.1) chrUpd id (fun x : Str × Nat => [x.2]) inner (v.getD []) (origOf fs e.2, e.2)
    cases v <;> exact this
  have := foldl_dStep_flatMap_perm (·.1) (hapUpd fs) chrIds (fun e : Entry => [e.2]) outer seg (newGroup haps)
  rw [← segGroup_fold] at this
  refine this.trans ?_
  have h0 : (newGroup haps).flatMap (fun e => chrIds e.2) = [] :=
    List.flatMap_eq_nil_iff.2 fun e he => by obtain ⟨_, _, rfl⟩ := List.mem_map.1 he; rfl
  rw [h0, List.nil_append, List.map_eq_flatMap]

end AgpTpf.C10
