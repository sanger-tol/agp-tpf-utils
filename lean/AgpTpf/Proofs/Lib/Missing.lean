/-
  `missingRows` (`Model/Remap.lean`, the inner loop of `add_missing_scaffolds_from_input`): the rows of the left-over
  scaffold made from one input scaffold.
  The loop as a `foldlM` over a named step (`missingRows_eq`, `missStep_*`), and its NORMAL FORM without indices:
  `leftoverRows found jg pending rows` walks the rows remembering what lay since the last left-over contig
  (`missingRows_eq_leftoverRows`, an equation, errors included).  What `missingRows` does is read off `leftoverRows` by
  induction along a successful walk (`leftoverRows_induct`: a row is passed, or a left-over contig is written).
-/
import AgpTpf.Model.Remap
import AgpTpf.Proofs.Lib.Py
import AgpTpf.Proofs.Lib.Rows
namespace AgpTpf.Pipeline
open AgpTpf

/-- body of the loop in `missingRows` (verbatim) -/
def missStep (b : Build) (rows : List Row) (acc : List Row × Option Nat × Option Nat) (p : Nat × Row) :
    R (List Row × Option Nat × Option Nat) := do
    let (out, lastAdded, first) := acc
    match p.2 with
    | .gap _ => pure (out, lastAdded, first)
    | .frag f =>
      if dHas b.found f.keyTuple then pure (out, lastAdded, first)
      else
        let out ←
          match lastAdded with
          | some l =>
            if l ≠ p.1 - 1 then
              let between := (rows.drop (l + 1)).take (p.1 - (l + 1))
              if between.all Row.isGap then pure (out ++ between)
              else
                match b.joinGap with
                | some g => pure (out ++ [Row.gap g])
                | none => throw .attribute
            else pure out
          | none => pure out
        pure (out ++ [Row.frag f], some p.1, (match first with | some x => some x | none => some p.1))

theorem missingRows_eq (b : Build) (rows : List Row) :
    missingRows b rows = (do
      let (out, _, first) ← ((List.range rows.length).zip rows).foldlM (missStep b rows) ([], none, none)
      pure (out, first)) := rfl

/-- the separator rows put in front of a left-over fragment at input index `i` when the previous left-over
    fragment was at index `la` -/
def sepBefore (b : Build) (rows : List Row) (la : Option Nat) (i : Nat) : R (List Row) :=
  match la with
  | none => .ok []
  | some l =>
    if l = i - 1 then .ok []
    else if ((rows.drop (l + 1)).take (i - (l + 1))).all Row.isGap then .ok ((rows.drop (l + 1)).take (i - (l + 1)))
    else match b.joinGap with
      | some g => .ok [Row.gap g]
      | none => .error .attribute

theorem missStep_gap (b : Build) (rows : List Row) (acc) (i : Nat) (g : Gap) :
    missStep b rows acc (i, .gap g) = .ok acc := rfl

theorem missStep_found (b : Build) (rows : List Row) (acc) (i : Nat) (f : Fragment)
    (h : dHas b.found f.keyTuple = true) : missStep b rows acc (i, .frag f) = .ok acc := by
  unfold missStep; simp [h]; rfl

theorem missStep_missing (b : Build) (rows : List Row) (out la fi) (i : Nat) (f : Fragment)
    (h : dHas b.found f.keyTuple = false) :
    missStep b rows (out, la, fi) (i, .frag f) =
      (sepBefore b rows la i).map (fun sep => (out ++ sep ++ [Row.frag f], some i, (match fi with | some x => some x | none => some i))) := by
  unfold missStep sepBefore
  simp only [h]
  cases la with
  | none => simp [bind, Except.bind, pure, Except.pure, Except.map]
  | some l =>
    by_cases hl : l = i - 1
    · simp [hl, bind, Except.bind, pure, Except.pure, Except.map]
    · simp only [ne_eq, hl, not_false_eq_true, ↓reduceIte]
      by_cases hb : ((rows.drop (l + 1)).take (i - (l + 1))).all Row.isGap = true
      · simp [hb, bind, Except.bind, pure, Except.pure, Except.map]
      · simp only [hb, Bool.false_eq_true, ↓reduceIte]
        cases b.joinGap with
        | none => simp [bind, Except.bind, Except.map, throw, throwThe, MonadExceptOf.throw]
        | some g => simp [bind, Except.bind, pure, Except.pure, Except.map]

/-- the separator in front of a left-over contig: nothing in front of the first one (`none`); else, `between` being the
    input rows since the last one, those rows if they are all gaps (none, if the contigs abut), else the join gap -/
def leftoverSep (jg : Option Gap) : Option (List Row) → R (List Row)
  | none => .ok []
  | some between =>
    if between.all Row.isGap then .ok between
    else match jg with
      | some g => .ok [Row.gap g]
      | none => .error .attribute

/-- what `missingRows` writes for `rows`, the contigs with `found key = true` being held by stored results;
    `pending = some B`: a left-over contig has been written and the rows `B` were passed since -/
def leftoverRows (found : Key → Bool) (jg : Option Gap) : Option (List Row) → List Row → R (List Row)
  | _, [] => .ok []
  | p, .gap g :: t => leftoverRows found jg (p.map (· ++ [.gap g])) t
  | p, .frag f :: t =>
    if found f.keyTuple then leftoverRows found jg (p.map (· ++ [.frag f])) t
    else
      leftoverSep jg p >>= fun sep =>
      leftoverRows found jg (some []) t >>= fun r => pure (sep ++ .frag f :: r)

def isLeftover (found : Key → Bool) : Row → Bool
  | .frag f => !found f.keyTuple
  | .gap _ => false

def firstLeftover (found : Key → Bool) (ps : List (Nat × Row)) : Option Nat :=
  (ps.find? fun p => isLeftover found p.2).map Prod.fst

/-- the rows between the last left-over fragment and row `|pre|` are a suffix of `pre`; that they abut is the case of
    an empty suffix -/
theorem sepBefore_eq_leftoverSep (b : Build) (pre post : List Row) (la : Option Nat)
    (hla : ∀ l, la = some l → l < pre.length) :
    sepBefore b (pre ++ post) la pre.length = leftoverSep b.joinGap (la.map (fun l => pre.drop (l + 1))) := by
  cases la with
  | none => rfl
  | some l =>
    have hl := hla l rfl
    have e : ((pre ++ post).drop (l + 1)).take (pre.length - (l + 1)) = pre.drop (l + 1) := by
      rw [List.drop_append_of_le_length (by omega)]
      exact List.take_left' (by simp)
    unfold sepBefore leftoverSep
    simp only [Option.map_some, e]
    split
    · have : pre.drop (l + 1) = [] := List.drop_eq_nil_of_le (by omega)
      rw [this]; rfl
    · rfl

/-- the loop from any state, over the rows `t` behind `pre`: the pending rows are `pre` from the last left-over
    fragment on -/
theorem foldlM_missStep_eq (b : Build) (t : List Row) : ∀ (pre out : List Row) (la fi : Option Nat),
    (∀ l, la = some l → l < pre.length) →
    (((List.range' pre.length t.length).zip t).foldlM (missStep b (pre ++ t)) (out, la, fi)).map (fun r => (r.1, r.2.2)) =
      (leftoverRows (dHas b.found) b.joinGap (la.map (fun l => pre.drop (l + 1))) t).map
        (fun r => (out ++ r, fi.or (firstLeftover (dHas b.found) ((List.range' pre.length t.length).zip t)))) := by
  induction t with
  | nil => intro pre out la fi _; cases fi <;> simp [leftoverRows, Except.map, pure, Except.pure, firstLeftover]
  | cons x t ih =>
    intro pre out la fi hla
    have hpre : pre ++ x :: t = (pre ++ [x]) ++ t := by simp
    have hlen : (pre ++ [x]).length = pre.length + 1 := by simp
    have hdrop : la.map (fun l => (pre ++ [x]).drop (l + 1)) = (la.map (fun l => pre.drop (l + 1))).map (· ++ [x]) := by
      cases la with
      | none => rfl
      | some l => simp only [Option.map_some]; rw [List.drop_append_of_le_length (by have := hla l rfl; omega)]
    have hla' : ∀ l, la = some l → l < (pre ++ [x]).length := fun l h => by have := hla l h; omega
    rw [List.length_cons, List.range'_succ, List.zip_cons_cons, List.foldlM_cons]
    cases x with
    | gap g =>
      rw [missStep_gap, ok_bind, hpre, ← hlen, ih _ out la fi hla', hdrop]
      simp only [leftoverRows, firstLeftover, List.find?_cons, isLeftover]
    | frag f =>
      cases hf : dHas b.found f.keyTuple with
      | true =>
        rw [missStep_found _ _ _ _ _ hf, ok_bind, hpre, ← hlen, ih _ out la fi hla', hdrop]
        simp only [leftoverRows, hf, if_true, firstLeftover, List.find?_cons, isLeftover, Bool.not_true]
      | false =>
        rw [missStep_missing _ _ _ _ _ _ _ hf, sepBefore_eq_leftoverSep b pre (Row.frag f :: t) la hla]
        simp only [leftoverRows, hf, Bool.false_eq_true, if_false]
        cases leftoverSep b.joinGap (la.map (fun l => pre.drop (l + 1))) with
        | error e => rfl
        | ok sep =>
          have h1 := ih (pre ++ [Row.frag f]) (out ++ sep ++ [Row.frag f]) (some pre.length)
            (match fi with | some x => some x | none => some pre.length) (fun l h => by cases h; omega)
          have : List.drop (pre.length + 1) (pre ++ [Row.frag f]) = [] := List.drop_eq_nil_of_le (by simp)
          simp only [Option.map_some, this, hlen] at h1
          rw [hpre]
          refine h1.trans ?_
          cases leftoverRows (dHas b.found) b.joinGap (some []) t with
          | error e => rfl
          | ok r =>
            simp only [Except.map, ok_bind, pure, Except.pure, List.append_assoc, List.cons_append, List.nil_append,
              firstLeftover, List.find?_cons, isLeftover, hf, Bool.not_false, Option.map_some]
            cases fi <;> rfl

theorem missingRows_eq_leftoverRows (b : Build) (rows : List Row) :
    missingRows b rows = (leftoverRows (dHas b.found) b.joinGap none rows).map
      (fun out => (out, firstLeftover (dHas b.found) ((List.range rows.length).zip rows))) := by
  have h := foldlM_missStep_eq b rows [] [] none none (fun l h => by cases h)
  simp only [List.nil_append, List.length_nil, ← List.range_eq_range', Option.map_none, Option.none_or] at h
  rw [← h, missingRows_eq]
  cases ((List.range rows.length).zip rows).foldlM (missStep b rows) ([], none, none) <;> rfl

theorem missingRows_ok_iff {b : Build} {rows out : List Row} {first : Option Nat} :
    missingRows b rows = .ok (out, first) ↔
      leftoverRows (dHas b.found) b.joinGap none rows = .ok out ∧
        first = firstLeftover (dHas b.found) ((List.range rows.length).zip rows) := by
  rw [missingRows_eq_leftoverRows]
  cases leftoverRows (dHas b.found) b.joinGap none rows with
  | error e => exact ⟨fun h => (by cases h), fun h => (by cases h.1)⟩
  | ok r =>
    simp only [Except.map, Except.ok.injEq, Prod.mk.injEq]
    exact ⟨fun ⟨h1, h2⟩ => ⟨h1, h2.symm⟩, fun ⟨h1, h2⟩ => ⟨h1, h2.symm⟩⟩

theorem missingRows_congr (b b' : Build) (rows : List Row) (hj : b.joinGap = b'.joinGap)
    (hf : ∀ k, dHas b.found k = dHas b'.found k) : missingRows b rows = missingRows b' rows := by
  rw [missingRows_eq_leftoverRows, missingRows_eq_leftoverRows, hj, funext hf]

theorem leftoverSep_ok {jg : Option Gap} {B sep : List Row} (h : leftoverSep jg (some B) = .ok sep) :
    ∃ M : List Gap, sep = M.map Row.gap ∧ (B = M.map Row.gap ∨ ∃ j, jg = some j ∧ M = [j]) := by
  simp only [leftoverSep] at h
  split at h
  · next hall =>
    cases h
    obtain ⟨M, hM⟩ : ∃ M : List Gap, B = M.map Row.gap := by
      induction B with
      | nil => exact ⟨[], rfl⟩
      | cons x t ih =>
        simp only [List.all_cons, Bool.and_eq_true] at hall
        obtain ⟨M, rfl⟩ := ih hall.2
        cases x with
        | gap g => exact ⟨g :: M, rfl⟩
        | frag f => simp [Row.isGap] at hall
    exact ⟨M, hM, Or.inl hM⟩
  · cases jg with
    | none => cases h
    | some j => cases h; exact ⟨[j], rfl, Or.inr ⟨j, rfl, rfl⟩⟩

theorem leftoverSep_gaps (jg : Option Gap) (M : List Gap) :
    leftoverSep jg (some (M.map Row.gap)) = .ok (M.map Row.gap) := by
  simp only [leftoverSep]
  rw [if_pos (by simp [Row.isGap])]

theorem isLeftover_iff {found : Key → Bool} {x : Row} :
    isLeftover found x = true ↔ ∃ f, x = .frag f ∧ found f.keyTuple = false := by
  cases x <;> simp [isLeftover]

theorem leftoverRows_cons (found : Key → Bool) (jg : Option Gap) (p : Option (List Row)) (x : Row) (t : List Row) :
    leftoverRows found jg p (x :: t) =
      if isLeftover found x then
        leftoverSep jg p >>= fun sep => leftoverRows found jg (some []) t >>= fun r => pure (sep ++ x :: r)
      else leftoverRows found jg (p.map (· ++ [x])) t := by
  cases x with
  | gap g => rfl
  | frag f => cases hf : found f.keyTuple <;> simp [leftoverRows, isLeftover, hf]

/-- Induction along a successful `leftoverRows`: a row that is not left over joins the pending rows; a left-over contig
    is written behind its separator, and nothing is pending behind it. -/
theorem leftoverRows_induct {found : Key → Bool} {jg : Option Gap} {Q : Option (List Row) → List Row → List Row → Prop}
    (nil : ∀ p, Q p [] [])
    (skip : ∀ p x t r, isLeftover found x = false → Q (p.map (· ++ [x])) t r → Q p (x :: t) r)
    (take : ∀ p x t sep r, isLeftover found x = true → leftoverSep jg p = .ok sep → Q (some []) t r →
      Q p (x :: t) (sep ++ x :: r)) :
    ∀ (t : List Row) (p : Option (List Row)) (r : List Row), leftoverRows found jg p t = .ok r → Q p t r := by
  intro t
  induction t with
  | nil => intro p r h; cases h; exact nil p
  | cons x t ih =>
    intro p r h
    rw [leftoverRows_cons] at h
    split at h
    · next hx =>
      obtain ⟨sep, hsep, h⟩ := bind_eq_ok.mp h
      obtain ⟨r', hr', h⟩ := bind_eq_ok.mp h
      cases h
      exact take p x t sep r' hx hsep (ih _ _ hr')
    · next hx => exact skip p x t r (Bool.not_eq_true _ ▸ hx) (ih _ _ h)

theorem leftoverRows_fragments (found : Key → Bool) (jg : Option Gap) :
    ∀ (t : List Row) (p : Option (List Row)) (r : List Row), leftoverRows found jg p t = .ok r →
      fragmentsOf r = (fragmentsOf t).filter (fun f => !found f.keyTuple) := by
  refine leftoverRows_induct (fun _ => rfl) (fun p x t r hx ih => ?_) (fun p x t sep r hx hsep ih => ?_)
  · cases x with
    | gap g => exact ih
    | frag f => simp [fragmentsOf, ih, show found f.keyTuple = true by simpa [isLeftover] using hx]
  · obtain ⟨f, rfl, hf⟩ := isLeftover_iff.mp hx
    have hs : fragmentsOf sep = [] := by
      cases p with
      | none => cases hsep; rfl
      | some B => obtain ⟨M, rfl, _⟩ := leftoverSep_ok hsep; exact fragmentsOf_map_gap M
    rw [fragmentsOf_append, hs]
    simp [fragmentsOf, hf, ih]

theorem leftoverRows_mem (found : Key → Bool) (jg : Option Gap) :
    ∀ (t : List Row) (p : Option (List Row)) (r : List Row), leftoverRows found jg p t = .ok r →
      ∀ x ∈ r, x ∈ p.getD [] ++ t ∨ ∃ j, jg = some j ∧ x = .gap j := by
  refine leftoverRows_induct (fun _ _ hx => nomatch hx) (fun p y t r _ ih x hx => ?_)
    (fun p y t sep r _ hsep ih x hx => ?_)
  · refine (ih x hx).imp_left fun h => ?_
    cases p with
    | none => exact List.mem_cons_of_mem _ h
    | some B => simpa using h
  · rcases List.mem_append.mp hx with hx | hx
    · cases p with
      | none => cases hsep; cases hx
      | some B =>
        obtain ⟨M, rfl, rfl | ⟨j, hj, rfl⟩⟩ := leftoverSep_ok hsep
        · exact .inl (List.mem_append_left _ hx)
        · exact .inr ⟨j, hj, List.mem_singleton.mp hx⟩
    · rcases List.mem_cons.mp hx with rfl | hx
      · exact .inl (List.mem_append_right _ (List.mem_cons_self ..))
      · exact (ih x hx).imp_left fun h => List.mem_append_right _ (List.mem_cons_of_mem _ h)

theorem missingRows_mem {b : Build} {rows out : List Row} {first : Option Nat}
    (h : missingRows b rows = .ok (out, first)) : ∀ x ∈ out, x ∈ rows ∨ ∃ j, b.joinGap = some j ∧ x = .gap j :=
  leftoverRows_mem _ _ rows none out (missingRows_ok_iff.mp h).1

theorem leftoverRows_ends (found : Key → Bool) (jg : Option Gap) :
    ∀ (t : List Row) (p : Option (List Row)) (r : List Row), leftoverRows found jg p t = .ok r →
      (p = none → ∀ g, r.head? ≠ some (.gap g)) ∧ ∀ g, r.getLast? ≠ some (.gap g) := by
  refine leftoverRows_induct (fun _ => ⟨fun _ _ => nofun, fun _ => nofun⟩)
    (fun p x t r _ ih => ⟨fun hp => ih.1 (by rw [hp]; rfl), ih.2⟩) (fun p x t sep r hx hsep ih => ⟨?_, fun g hg => ?_⟩)
  · rintro rfl g hg
    obtain ⟨f, rfl, -⟩ := isLeftover_iff.mp hx
    cases hsep; cases hg
  · obtain ⟨f, rfl, -⟩ := isLeftover_iff.mp hx
    rw [List.getLast?_append, List.getLast?_cons] at hg
    cases hl : r.getLast? with
    | none => rw [hl] at hg; cases hg
    | some y => rw [hl] at hg; exact ih.2 g (hl.trans hg)

theorem leftoverRows_total (found : Key → Bool) (g : Gap) :
    ∀ (t : List Row) (p : Option (List Row)), ∃ r, leftoverRows found (some g) p t = .ok r := by
  intro t
  induction t with
  | nil => exact fun _ => ⟨[], rfl⟩
  | cons x t ih =>
    intro p
    rw [leftoverRows_cons]
    split
    · obtain ⟨r, hr⟩ := ih (some [])
      obtain ⟨sep, hs⟩ : ∃ sep, leftoverSep (some g) p = .ok sep := by
        cases p with
        | none => exact ⟨_, rfl⟩
        | some B => simp only [leftoverSep]; split <;> exact ⟨_, rfl⟩
      exact ⟨sep ++ x :: r, by rw [hs, hr]; rfl⟩
    · exact ih _

theorem missingRows_total (b : Build) (rows : List Row) (g : Gap) (hj : b.joinGap = some g) :
    ∃ r, missingRows b rows = .ok r := by
  obtain ⟨r, hr⟩ := leftoverRows_total (dHas b.found) g rows none
  exact ⟨_, by rw [missingRows_eq_leftoverRows, hj, hr]; rfl⟩

theorem leftoverRows_all_found (found : Key → Bool) (jg : Option Gap) :
    ∀ (t : List Row) (p : Option (List Row)), (∀ f ∈ fragmentsOf t, found f.keyTuple = true) →
      leftoverRows found jg p t = .ok [] := by
  intro t
  induction t with
  | nil => exact fun _ _ => rfl
  | cons x t ih =>
    intro p h
    cases x with
    | gap g => exact ih _ h
    | frag f =>
      simp only [leftoverRows, h f (by simp [fragmentsOf]), if_true]
      exact ih _ (fun f' hf' => h f' (by simp [fragmentsOf, hf']))

theorem missingRows_all_found (b : Build) (rows : List Row)
    (h : ∀ f ∈ fragmentsOf rows, dHas b.found f.keyTuple = true) : missingRows b rows = .ok ([], none) := by
  have hfirst : firstLeftover (dHas b.found) ((List.range rows.length).zip rows) = none := by
    unfold firstLeftover
    rw [Option.map_eq_none_iff, List.find?_eq_none]
    rintro ⟨i, x⟩ hp
    cases x with
    | gap g => simp [isLeftover]
    | frag f => simp [isLeftover, h f (mem_fragmentsOf.mpr (List.of_mem_zip hp).2)]
  rw [missingRows_eq_leftoverRows, leftoverRows_all_found _ _ rows none h, hfirst]
  rfl

/-- with every contig left over, the walk writes its input back, up to gap rows at the very end -/
theorem leftoverRows_none_found (found : Key → Bool) (jg : Option Gap) :
    ∀ (t : List Row) (M : List Gap), (∀ f ∈ fragmentsOf t, found f.keyTuple = false) →
      (∀ g, (M.map Row.gap ++ t).getLast? ≠ some (.gap g)) →
      leftoverRows found jg (some (M.map Row.gap)) t = .ok (M.map Row.gap ++ t) := by
  intro t
  induction t with
  | nil =>
    intro M _ hlast
    rcases List.eq_nil_or_concat M with rfl | ⟨M', g, rfl⟩
    · rfl
    · exact absurd (by simp) (hlast g)
  | cons x t ih =>
    intro M hnone hlast
    cases x with
    | gap g =>
      have := ih (M ++ [g]) hnone (by simpa using hlast)
      simpa [leftoverRows] using this
    | frag f =>
      have hf : found f.keyTuple = false := hnone f (by simp [fragmentsOf])
      have hr := ih [] (fun f' hf' => hnone f' (by simp [fragmentsOf, hf']))
        (fun g hg => hlast g (by simp [List.getLast?_append, List.getLast?_cons, show t.getLast? = some (.gap g) from hg]))
      simp only [leftoverRows, hf, Bool.false_eq_true, if_false, leftoverSep_gaps, ok_bind]
      rw [show (List.map Row.gap ([] : List Gap)) = [] from rfl] at hr
      rw [hr]; rfl

theorem missingRows_none_found (b : Build) (rows : List Row)
    (hhead : ∃ f, rows.head? = some (.frag f)) (hlast : ∃ f, rows.getLast? = some (.frag f))
    (hnone : ∀ f ∈ fragmentsOf rows, dHas b.found f.keyTuple = false) : missingRows b rows = .ok (rows, some 0) := by
  obtain ⟨f, hf⟩ := hhead
  cases rows with
  | nil => cases hf
  | cons x t =>
    cases hf
    have hx : dHas b.found f.keyTuple = false := hnone f (by simp [fragmentsOf])
    have ht := leftoverRows_none_found (dHas b.found) b.joinGap t []
      (fun f' hf' => hnone f' (by simp [fragmentsOf, hf']))
      (fun g hg => by
        obtain ⟨l, hl⟩ := hlast
        simp [List.getLast?_cons, show t.getLast? = some (.gap g) from hg] at hl)
    rw [missingRows_eq_leftoverRows]
    simp only [leftoverRows, leftoverSep, hx, Bool.false_eq_true, if_false, ok_bind]
    rw [show (List.map Row.gap ([] : List Gap)) = [] from rfl] at ht
    rw [ht]
    simp only [Except.map, pure, Except.pure, firstLeftover, isLeftover, hx, List.length_cons, List.range_succ_eq_map,
      List.zip_cons_cons, List.find?_cons, Bool.not_false, Option.map_some, List.nil_append]
    rfl

/-- the first row written is the first left-over row of the input (`s`: the index the walk starts at) -/
theorem leftoverRows_head (found : Key → Bool) (jg : Option Gap) (c : Fragment) :
    ∀ (t : List Row) (p : Option (List Row)) (out : List Row), leftoverRows found jg p t = .ok out →
      p = none → out.head? = some (.frag c) → ∀ s,
      ∃ pre t', t = pre ++ .frag c :: t' ∧ firstLeftover found ((List.range' s t.length).zip t) = some (s + pre.length) := by
  refine leftoverRows_induct (fun _ _ hc => nomatch hc) (fun p x t r hx ih hp hc s => ?_)
    (fun p x t sep r hx hsep _ hp hc s => ?_)
  · obtain ⟨pre, t', rfl, e⟩ := ih (by rw [hp]; rfl) hc (s + 1)
    refine ⟨x :: pre, t', rfl, ?_⟩
    rw [List.length_cons, List.range'_succ, List.zip_cons_cons]
    unfold firstLeftover at e ⊢
    rw [List.find?_cons_of_neg (by simp [hx]), e]
    simp only [List.length_cons]; congr 1; omega
  · subst hp
    cases hsep
    cases hc
    refine ⟨[], t, rfl, ?_⟩
    rw [List.length_cons, List.range'_succ, List.zip_cons_cons]
    unfold firstLeftover
    rw [List.find?_cons_of_pos (by simp [hx])]
    rfl

theorem missingRows_first {b : Build} {rows out : List Row} {i : Nat} {c : Fragment}
    (h : missingRows b rows = .ok (out, some i)) (hc : out.head? = some (.frag c)) :
    ∃ pre t, rows = pre ++ .frag c :: t ∧ i = pre.length := by
  obtain ⟨hl, hfirst⟩ := missingRows_ok_iff.mp h
  obtain ⟨pre, t, e, hi⟩ := leftoverRows_head _ _ c rows none out hl rfl hc 0
  rw [← List.range_eq_range', ← hfirst, Option.some.injEq, Nat.zero_add] at hi
  exact ⟨pre, t, e, hi⟩

theorem inputPredecessor_go_ok (l : List Row) (acc : List Gap) (f : Fragment) (gaps : List Gap)
    (h : inputPredecessor.go acc l = some (f, gaps)) :
    ∃ (G : List Gap) (l' : List Row), l = G.map Row.gap ++ .frag f :: l' ∧ gaps = G.reverse ++ acc := by
  induction l generalizing acc with
  | nil => simp [inputPredecessor.go] at h
  | cons x t ih =>
    cases x with
    | frag f' =>
      simp only [inputPredecessor.go, Option.some.injEq, Prod.mk.injEq] at h
      obtain ⟨rfl, rfl⟩ := h
      exact ⟨[], t, rfl, rfl⟩
    | gap g =>
      obtain ⟨G, l', rfl, rfl⟩ := ih _ h
      exact ⟨g :: G, l', rfl, by simp⟩

theorem inputPredecessor_ok {rows : List Row} {i : Nat} {prev : Fragment} {gaps : List Gap}
    (h : inputPredecessor rows i = some (prev, gaps)) : ∃ Q, rows.take i = Q ++ .frag prev :: gaps.map Row.gap := by
  unfold inputPredecessor at h
  obtain ⟨G, l', e, rfl⟩ := inputPredecessor_go_ok _ _ _ _ h
  refine ⟨l'.reverse, ?_⟩
  have := congrArg List.reverse e
  simpa [List.map_reverse] using this

theorem inputPredecessor_gaps_mem {rows : List Row} {i : Nat} {f : Fragment} {gaps : List Gap}
    (h : inputPredecessor rows i = some (f, gaps)) : ∀ g ∈ gaps, Row.gap g ∈ rows := by
  obtain ⟨Q, hQ⟩ := inputPredecessor_ok h
  intro g hg
  have : Row.gap g ∈ rows.take i := by rw [hQ]; simp [hg]
  exact List.mem_of_mem_take this

end AgpTpf.Pipeline
