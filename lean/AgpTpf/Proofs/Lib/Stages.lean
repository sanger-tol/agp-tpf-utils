/-
  The stages of `remap_to_input_assembly` as they are written (`Model/Remap.lean`), each loop named (the overhang resolver by itself:
  `Lib/Resolver`; `find_assembly_overlaps`: `Lib/Find`).
  STAGES AS FOLDS: every loop has an unfolding `*_eq` as a `foldlM` over a named step and an inversion `*_ok`.
  FRAMES: which fields of the build a stage writes (`Frame`, `*_frame`).
  FORWARDS: the five stages compose to a run (`remapToInput_of`); with nothing found twice the middle stages are idle
  (`remapToInput_idle_of`).
  First, what `setAt` / `getD` do on a list written slot by slot, which every later file uses.
-/
import AgpTpf.Model.Remap
import AgpTpf.Proofs.Lib.Py
namespace AgpTpf.Pipeline
open AgpTpf

theorem getD_setAt {α} (l : List α) (i j : Nat) (x d : α) :
    (setAt l i x).getD j d = if i = j ∧ i < l.length then x else l.getD j d := by
  unfold setAt
  simp only [List.getD_eq_getElem?_getD, List.getElem?_set]
  by_cases h : i = j
  · subst h
    by_cases h2 : i < l.length
    · simp [h2]
    · simp [h2]
  · simp [h]

theorem getD_setAt_ne {α} (l : List α) (i j : Nat) (x d : α) (h : i ≠ j) : (setAt l i x).getD j d = l.getD j d := by
  rw [getD_setAt, if_neg fun e => h e.1]

theorem getD_setAt_self {α} (l : List α) (i : Nat) (x d : α) (h : i < l.length) : (setAt l i x).getD i d = x := by
  rw [getD_setAt, if_pos ⟨rfl, h⟩]

theorem length_setAt {α} (l : List α) (i : Nat) (x : α) : (setAt l i x).length = l.length := by
  simp [setAt]

theorem getD_mem {α} [Inhabited α] {l : List α} {i : Nat} (hi : i < l.length) : l.getD i default ∈ l := by
  rw [List.getD_eq_getElem?_getD, List.getElem?_eq_getElem hi]; exact List.getElem_mem hi

theorem mem_setAt {α} {l : List α} {i : Nat} {x y : α} (h : y ∈ setAt l i x) : y ∈ l ∨ y = x :=
  List.mem_or_eq_of_mem_set h

theorem mem_setAt_lt {α} {l : List α} {i : Nat} {x y : α} (h : y ∈ setAt l i x) : y ∈ l ∨ (i < l.length ∧ y = x) := by
  unfold setAt at h
  by_cases hi : i < l.length
  · exact (List.mem_or_eq_of_mem_set h).imp_right (⟨hi, ·⟩)
  · rw [List.set_eq_of_length_le (Nat.le_of_not_lt hi)] at h; exact .inl h

theorem map_setAt_of_eq {α β} [Inhabited α] (g : α → β) (l : List α) (i : Nat) (x : α) (h : g x = g (l.getD i default)) :
    (setAt l i x).map g = l.map g := by
  unfold setAt
  apply List.ext_getElem?
  intro j
  rw [List.getElem?_map, List.getElem?_map, List.getElem?_set]
  split
  · next e =>
    subst e
    split
    · next hi => rw [Option.map_some, h, List.getD_eq_getElem?_getD, List.getElem?_eq_getElem hi]; rfl
    · next hi => rw [List.getElem?_eq_none (Nat.le_of_not_lt hi)]
  · rfl

/-- the holders of a multiply-found contig in the order `cut_fragments` visits them -/
def holderOrder (store : List Res) (fnd : Found) : R (List Nat) :=
  sortedByKeyM (fun sid => (getRes store sid).fragmentStartIfTrimmed fnd.fragment) fnd.scaffolds

theorem holderOrder_length {store : List Res} {fnd : Found} {ordered : List Nat} (h : holderOrder store fnd = .ok ordered) :
    ordered.length = fnd.scaffolds.length :=
  (sortedByKeyM_ok h).1.length_eq

/-- one holder's pass of the loop of `cut_fragments`: state = build, pieces so far, pass number -/
def cutHolder (f : Fragment) (last : Nat) (acc : Build × List Fragment × Nat) (sid : Nat) :
    R (Build × List Fragment × Nat) := do
  let (b, subs, i) := acc
  let r := b.store.getD sid default
  let ks := i == 0
  let ke := i == last
  let (ks, ke) := if f.strand = -1 then (ke, ks) else (ks, ke)
  let (o, new) ← r.o.trimFragment f ks ke b.nextOid
  pure ({ b with store := setAt b.store sid { r with o := o }, nextOid := b.nextOid + 1 }, subs ++ [new], i + 1)

/-- keep-start / keep-end of pass `i`: the first pass keeps the contig's start, the last its end; a minus-strand contig has
    its first base at the stored result's end -/
def keepFlags (f : Fragment) (last i : Nat) : Bool × Bool :=
  if f.strand = -1 then (i == last, i == 0) else (i == 0, i == last)

theorem cutHolder_eq (f : Fragment) (last : Nat) (b : Build) (subs : List Fragment) (i sid : Nat) :
    cutHolder f last (b, subs, i) sid =
      (b.store.getD sid default).o.trimFragment f (keepFlags f last i).1 (keepFlags f last i).2 b.nextOid >>= fun p =>
      pure ({ b with store := setAt b.store sid { b.store.getD sid default with o := p.1 }, nextOid := b.nextOid + 1 },
        subs ++ [p.2], i + 1) := by
  unfold cutHolder keepFlags
  dsimp only

theorem cutHolder_ok {f : Fragment} {last : Nat} {b : Build} {subs : List Fragment} {i sid : Nat}
    {a' : Build × List Fragment × Nat} (h : cutHolder f last (b, subs, i) sid = .ok a') :
    ∃ o new, (b.store.getD sid default).o.trimFragment f (keepFlags f last i).1 (keepFlags f last i).2 b.nextOid = .ok (o, new) ∧
      a' = ({ b with store := setAt b.store sid { b.store.getD sid default with o := o }, nextOid := b.nextOid + 1 },
        subs ++ [new], i + 1) := by
  rw [cutHolder_eq] at h
  obtain ⟨⟨o, new⟩, ht, h⟩ := bind_eq_ok.mp h
  cases h
  exact ⟨o, new, ht, rfl⟩

theorem cutFragments_eq (b : Build) (fnd : Found) :
    cutFragments b fnd = (do
      let ordered ← holderOrder b.store fnd
      let r ← ordered.foldlM (cutHolder fnd.fragment (ordered.length - 1)) (b, [], 0)
      if ¬ qcPasses fnd.fragment r.2.1 then throw Err.value
      pure { r.1 with cuts := r.1.cuts + ((r.2.1.length : Int) - 1) }) := by
  unfold cutFragments holderOrder sortedByKeyM
  simp only [bind_assoc, pure_bind]
  rfl

theorem cutFragments_ok {b b' : Build} {fnd : Found} (h : cutFragments b fnd = .ok b') :
    ∃ ordered b1 subs n, holderOrder b.store fnd = .ok ordered ∧
      ordered.foldlM (cutHolder fnd.fragment (ordered.length - 1)) (b, [], 0) = .ok (b1, subs, n) ∧
      qcPasses fnd.fragment subs = true ∧ b' = { b1 with cuts := b1.cuts + ((subs.length : Int) - 1) } := by
  rw [cutFragments_eq] at h
  obtain ⟨ordered, ho, h⟩ := bind_eq_ok.mp h
  obtain ⟨⟨b1, subs, n⟩, hf, h⟩ := bind_eq_ok.mp h
  refine ⟨ordered, b1, subs, n, ho, hf, ?_⟩
  by_cases hq : qcPasses fnd.fragment subs = true
  · simp only [hq, not_true_eq_false, ↓reduceIte] at h
    cases h
    exact ⟨hq, rfl⟩
  · simp only [hq] at h
    cases h

/-- The loop read pass by pass: the `j`-th new piece is `trim_fragment` of the `j`-th holder as some build `bj` stores it, and
    `bj` differs from the first build only at holders already visited.  (The counters at the end: `cutLoop_frame`.) -/
theorem cutLoop_trace {f : Fragment} {last : Nat} {l : List Nat} {b b' : Build} {subs subs' : List Fragment} {i i' : Nat}
    (h : l.foldlM (cutHolder f last) (b, subs, i) = .ok (b', subs', i')) :
    ∃ news : List Fragment, subs' = subs ++ news ∧ news.length = l.length ∧
      ∀ j sid new, l[j]? = some sid → news[j]? = some new →
        ∃ (bj : Build) (o' : OverlapResult),
          (∀ s, s ∉ l.take j → bj.store.getD s default = b.store.getD s default) ∧
          (bj.store.getD sid default).o.trimFragment f (keepFlags f last (i + j)).1
              (keepFlags f last (i + j)).2 (b.nextOid + j) = .ok (o', new) := by
  induction l generalizing b subs i with
  | nil => cases h; exact ⟨[], (List.append_nil _).symm, rfl, fun j sid new hj => nomatch hj⟩
  | cons sid0 t ih =>
    rw [List.foldlM_cons] at h
    obtain ⟨⟨b1, subs1, i1⟩, hs, h⟩ := bind_eq_ok.mp h
    obtain ⟨o0, new0, htr, e⟩ := cutHolder_ok hs
    cases e
    obtain ⟨news, rfl, hl, hall⟩ := ih h
    refine ⟨new0 :: news, List.append_assoc .., congrArg (· + 1) hl, fun j sid new hj hn => ?_⟩
    cases j with
    | zero =>
      cases hj; cases hn
      exact ⟨b, o0, fun _ _ => rfl, htr⟩
    | succ j =>
      -- pass `j + 1` of the loop is pass `j` of the loop over `t`, which starts one pass and one object id later
      obtain ⟨bj, o', h1, h2⟩ := hall j sid new hj hn
      simp only [Nat.add_right_comm _ 1 j] at h2
      refine ⟨bj, o', fun s hs' => ?_, h2⟩
      rw [List.take_succ_cons, List.mem_cons, not_or] at hs'
      exact (h1 s hs'.2).trans (getD_setAt_ne _ _ _ _ _ (Ne.symm hs'.1))

/-- one multiply-found contig's turn in `cut_remaining_overhangs` -/
def cutMulti (b : Build) (k : Key) : R Build :=
  match dGet? b.found k with
  | some fnd => cutFragments b fnd
  | none => pure b

theorem cutRemaining_eq (b : Build) :
    cutRemaining b = (do let b' ← b.multi.foldlM cutMulti b; pure { b' with multi := [] }) := rfl

theorem cutRemaining_ok {b b' : Build} (h : cutRemaining b = .ok b') :
    ∃ b1, b.multi.foldlM cutMulti b = .ok b1 ∧ b' = { b1 with multi := [] } := by
  rw [cutRemaining_eq] at h
  obtain ⟨b1, hb, h⟩ := bind_eq_ok.mp h
  cases h
  exact ⟨b1, hb, rfl⟩

/-- one input scaffold's turn in `add_missing`: its unplaced contigs, if any, become a left-over scaffold -/
def missingStep (b : Build) (sc : Scaffold) : R Build := do
  let (rows, first) ← missingRows b sc.rows
  if rows.isEmpty then pure b
  else do
    let tags := ({ name := sc.name, rows := rows } : Scaffold).fragmentTags
    let n ← makeScaffoldName b.namer sc.name rows tags
    let tag := if n.targetTags ∧ ¬ sc.fragmentTags.contains sTarget then some sContaminant else none
    let new : Scaffold := { name := sc.name, rows := rows, rank := 3, tag := tag, haplotype := n.currentHaplotype }
    let pred := match first with | some i => inputPredecessor sc.rows i | none => none
    pure { b with namer := n, extra := b.extra ++ [(new, pred)] }

theorem addMissing_eq (input : List Scaffold) (b : Build) : addMissing input b = input.foldlM missingStep b := rfl

theorem missingStep_inv {b b' : Build} {sc : Scaffold} (h : missingStep b sc = .ok b') :
    ∃ rows first, missingRows b sc.rows = .ok (rows, first) ∧
      ((rows = [] ∧ b' = b) ∨
       (rows ≠ [] ∧ ∃ n, makeScaffoldName b.namer sc.name rows ({ name := sc.name, rows := rows } : Scaffold).fragmentTags = .ok n ∧
          b' = { b with namer := n, extra := b.extra ++
            [({ name := sc.name, rows := rows, rank := 3, haplotype := n.currentHaplotype,
                tag := if n.targetTags ∧ ¬ sc.fragmentTags.contains sTarget then some sContaminant else none },
              match first with | some i => inputPredecessor sc.rows i | none => none)] })) := by
  unfold missingStep at h
  obtain ⟨⟨rows, first⟩, hv, h⟩ := bind_eq_ok.mp h
  refine ⟨rows, first, hv, ?_⟩
  dsimp only at h
  split at h
  · next he => cases h; exact .inl ⟨List.isEmpty_iff.mp he, rfl⟩
  · next he =>
    obtain ⟨n, hn, h⟩ := bind_eq_ok.mp h
    cases h
    exact .inr ⟨fun e => he (List.isEmpty_iff.mpr e), n, hn, rfl⟩

theorem missingStep_ok {b b' : Build} {sc : Scaffold} (h : missingStep b sc = .ok b') :
    b' = b ∨ ∃ n e, b' = { b with namer := n, extra := b.extra ++ [e] } := by
  obtain ⟨_, _, _, ⟨_, e⟩ | ⟨_, n, _, e⟩⟩ := missingStep_inv h
  · exact .inl e
  · exact .inr ⟨n, _, e⟩

/-- the build `remap_to_input_assembly` starts from: object ids above every input fragment's -/
def initBuild (input : List Scaffold) (prefix_ : Str) (joinGap : Option Gap) (err : Int) : Build :=
  { namer := { autosomePrefix := prefix_ },
    nextOid := (input.flatMap Scaffold.fragments).foldl (fun m f => max m (f.oid + 1)) 0,
    joinGap := joinGap, err := err }

theorem foldl_max_oid (l : List Fragment) (m0 : Nat) :
    m0 ≤ l.foldl (fun m f => max m (f.oid + 1)) m0 ∧ ∀ f ∈ l, f.oid < l.foldl (fun m f => max m (f.oid + 1)) m0 := by
  induction l generalizing m0 with
  | nil => exact ⟨Nat.le_refl _, fun f hf => nomatch hf⟩
  | cons a t ih =>
    rw [List.foldl_cons]
    obtain ⟨h1, h2⟩ := ih (max m0 (a.oid + 1))
    refine ⟨by omega, fun f hf => ?_⟩
    rcases List.mem_cons.mp hf with rfl | hf
    · omega
    · exact h2 f hf

theorem initBuild_oid_lt (input : List Scaffold) (prefix_ : Str) (joinGap : Option Gap) (err : Int) :
    ∀ f ∈ input.flatMap Scaffold.fragments, f.oid < (initBuild input prefix_ joinGap err).nextOid :=
  (foldl_max_oid _ 0).2

theorem remapToInput_ok {input ptx : List Scaffold} {prefix_ : Str} {joinGap : Option Gap} {err : Int} {b : Build}
    (h : remapToInput input ptx prefix_ joinGap err = .ok b) :
    ∃ b1 b2 b3,
      findAssemblyOverlaps input ptx (initBuild input prefix_ joinGap err) = .ok b1 ∧
      discardOverhanging (totalRows b1.store + 2) b1 = .ok b2 ∧
      cutRemaining b2 = .ok b3 ∧
      addMissing input { b3 with store := renameBySize b3.store b3.namer.haplotigScaffolds } = .ok b := by
  unfold remapToInput at h
  obtain ⟨_, _, h⟩ := bind_eq_ok.mp h
  obtain ⟨b1, h1, h⟩ := bind_eq_ok.mp h
  obtain ⟨b2, h2, h⟩ := bind_eq_ok.mp h
  obtain ⟨b3, h3, h⟩ := bind_eq_ok.mp h
  exact ⟨b1, b2, b3, h1, h2, h3, h⟩

theorem remap_ok_iff {input ptx : List Scaffold} {prefix_ : Str} {joinGap : Option Gap} {err : Int} {res : List OutAsm × Stats} :
    remap input ptx prefix_ joinGap err = .ok res ↔
      ∃ b, remapToInput input ptx prefix_ joinGap err = .ok b ∧ assembliesFused input b = .ok res :=
  bind_eq_ok

/-- the fields only `find_assembly_overlaps` and `add_missing` write, or nothing does -/
structure Frame (b b' : Build) : Prop where
  namer : b'.namer = b.namer
  extra : b'.extra = b.extra
  joinGap : b'.joinGap = b.joinGap
  err : b'.err = b.err

theorem Frame.refl (b : Build) : Frame b b := ⟨rfl, rfl, rfl, rfl⟩

theorem Frame.trans {a b c : Build} (h1 : Frame a b) (h2 : Frame b c) : Frame a c :=
  ⟨h2.namer.trans h1.namer, h2.extra.trans h1.extra, h2.joinGap.trans h1.joinGap, h2.err.trans h1.err⟩

theorem cutHolder_frame {f : Fragment} {last : Nat} {b : Build} {subs : List Fragment} {i sid : Nat}
    {a' : Build × List Fragment × Nat} (h : cutHolder f last (b, subs, i) sid = .ok a') :
    Frame b a'.1 ∧ a'.1.found = b.found ∧ a'.1.multi = b.multi ∧ a'.1.cuts = b.cuts ∧ a'.1.nextOid = b.nextOid + 1 ∧
      a'.2.2 = i + 1 ∧ ∃ new, a'.2.1 = subs ++ [new] := by
  obtain ⟨o, new, _, rfl⟩ := cutHolder_ok h
  exact ⟨⟨rfl, rfl, rfl, rfl⟩, rfl, rfl, rfl, rfl, rfl, new, rfl⟩

theorem cutLoop_frame {f : Fragment} {last : Nat} {l : List Nat} {b : Build} {subs : List Fragment} {i : Nat}
    {a' : Build × List Fragment × Nat} (h : l.foldlM (cutHolder f last) (b, subs, i) = .ok a') :
    Frame b a'.1 ∧ a'.1.found = b.found ∧ a'.1.multi = b.multi ∧ a'.1.cuts = b.cuts ∧
      a'.1.nextOid = b.nextOid + l.length ∧ a'.2.2 = i + l.length ∧ a'.2.1.length = subs.length + l.length := by
  induction l generalizing b subs i with
  | nil => cases h; exact ⟨.refl _, rfl, rfl, rfl, rfl, rfl, rfl⟩
  | cons sid t ih =>
    rw [List.foldlM_cons] at h
    obtain ⟨⟨b1, subs1, i1⟩, h1, h⟩ := bind_eq_ok.mp h
    obtain ⟨f1, d1, m1, c1, n1, j1, new, s1⟩ := cutHolder_frame h1
    obtain ⟨f2, d2, m2, c2, n2, j2, s2⟩ := ih h
    dsimp only at d1 m1 c1 n1 j1 s1
    refine ⟨f1.trans f2, d2.trans d1, m2.trans m1, c2.trans c1, ?_, ?_, ?_⟩
    · rw [n2, n1, List.length_cons]; omega
    · rw [j2, j1, List.length_cons]; omega
    · rw [s2, s1, List.length_append, List.length_cons, List.length_cons, List.length_nil]; omega

theorem cutFragments_frame {b b' : Build} {fnd : Found} (h : cutFragments b fnd = .ok b') :
    Frame b b' ∧ b'.found = b.found ∧ b'.multi = b.multi ∧ b'.nextOid = b.nextOid + fnd.scaffolds.length ∧
      b'.cuts = b.cuts + ((fnd.scaffolds.length : Int) - 1) := by
  obtain ⟨ordered, b1, subs, n, ho, hf, _, rfl⟩ := cutFragments_ok h
  obtain ⟨f, d, m, c, k, _, l⟩ := cutLoop_frame hf
  rw [holderOrder_length ho] at k l
  dsimp only at c k l ⊢
  rw [l, c, List.length_nil, Nat.zero_add]
  exact ⟨⟨f.namer, f.extra, f.joinGap, f.err⟩, d, m, k, rfl⟩

theorem cutMulti_frame {b b' : Build} {k : Key} (h : cutMulti b k = .ok b') :
    Frame b b' ∧ b'.found = b.found ∧ b'.multi = b.multi := by
  unfold cutMulti at h
  split at h
  · obtain ⟨f, d, m, _⟩ := cutFragments_frame h; exact ⟨f, d, m⟩
  · cases h; exact ⟨.refl _, rfl, rfl⟩

theorem cutRemaining_frame {b b' : Build} (h : cutRemaining b = .ok b') :
    Frame b b' ∧ b'.found = b.found ∧ b'.multi = [] := by
  obtain ⟨b1, hb, rfl⟩ := cutRemaining_ok h
  have : Frame b b1 ∧ b1.found = b.found := by
    refine foldlM_inv (fun x : Build => Frame b x ∧ x.found = b.found) hb ⟨.refl _, rfl⟩ ?_
    intro x k _ x' ⟨f, d⟩ hs
    obtain ⟨f', d', _⟩ := cutMulti_frame hs
    exact ⟨f.trans f', d'.trans d⟩
  exact ⟨⟨this.1.namer, this.1.extra, this.1.joinGap, this.1.err⟩, this.2, rfl⟩

theorem addMissing_frame {input : List Scaffold} {b b' : Build} (h : addMissing input b = .ok b') :
    b'.store = b.store ∧ b'.found = b.found ∧ b'.multi = b.multi ∧ b'.cuts = b.cuts ∧ b'.nextOid = b.nextOid ∧
      b'.joinGap = b.joinGap ∧ b'.err = b.err := by
  rw [addMissing_eq] at h
  refine foldlM_inv (fun x : Build => x.store = b.store ∧ x.found = b.found ∧ x.multi = b.multi ∧ x.cuts = b.cuts ∧
    x.nextOid = b.nextOid ∧ x.joinGap = b.joinGap ∧ x.err = b.err) h ⟨rfl, rfl, rfl, rfl, rfl, rfl, rfl⟩ ?_
  intro x sc _ x' hx hs
  rcases missingStep_ok hs with rfl | ⟨n, e, rfl⟩
  · exact hx
  · exact hx

theorem renameBySize_nil (store : List Res) : renameBySize store [] = store := by
  unfold renameBySize; rfl

/-- the duplicate-name check `remap_to_input_assembly` starts with -/
theorem dupCheck_ok (l : List Scaffold) (seen : List Str) (hnd : (l.map (·.name)).Nodup) (hdis : ∀ s ∈ l, s.name ∉ seen) :
    (l.foldlM (fun (seen : List Str) s => if seen.contains s.name then throw Err.value else pure (seen ++ [s.name])) seen
      : R (List Str)) = .ok (seen ++ l.map (·.name)) := by
  induction l generalizing seen with
  | nil => simp [pure, Except.pure]
  | cons a r ih =>
    rw [List.map_cons, List.nodup_cons] at hnd
    have h1 : seen.contains a.name = false := by simpa using hdis a (List.mem_cons_self ..)
    simp only [List.foldlM_cons, h1, Bool.false_eq_true, if_false, pure_bind]
    rw [ih (seen ++ [a.name]) hnd.2]
    · simp
    · intro s hs
      simp only [List.mem_append, List.mem_singleton, not_or]
      exact ⟨hdis s (List.mem_cons_of_mem _ hs), fun e => hnd.1 (e ▸ List.mem_map_of_mem hs)⟩

theorem discardOverhanging_nil (fuel : Nat) (b : Build) (h : b.multi = []) : discardOverhanging (fuel + 1) b = .ok b := by
  unfold discardOverhanging; rw [h]; rfl

theorem cutRemaining_nil (b : Build) (h : b.multi = []) : cutRemaining b = .ok { b with multi := [] } := by
  rw [cutRemaining_eq, h]; rfl

theorem remapToInput_of {input ptx : List Scaffold} {prefix_ : Str} {joinGap : Option Gap} {err : Int} {b1 b2 b3 b : Build}
    (hn : (input.map (·.name)).Nodup)
    (h1 : findAssemblyOverlaps input ptx (initBuild input prefix_ joinGap err) = .ok b1)
    (h2 : discardOverhanging (totalRows b1.store + 2) b1 = .ok b2) (h3 : cutRemaining b2 = .ok b3)
    (h4 : addMissing input { b3 with store := renameBySize b3.store b3.namer.haplotigScaffolds } = .ok b) :
    remapToInput input ptx prefix_ joinGap err = .ok b := by
  unfold remapToInput
  have h1' : findAssemblyOverlaps input ptx
      { namer := { autosomePrefix := prefix_ },
        nextOid := (input.flatMap Scaffold.fragments).foldl (fun m f => max m (f.oid + 1)) 0,
        joinGap := joinGap, err := err } = .ok b1 := h1
  simp only [bind, Except.bind, dupCheck_ok input [] hn (fun _ _ h => nomatch h), h1', h2, h3, h4]

theorem remapToInput_idle_of {input ptx : List Scaffold} {prefix_ : Str} {joinGap : Option Gap} {err : Int} {b1 b : Build}
    (hn : (input.map (·.name)).Nodup)
    (h1 : findAssemblyOverlaps input ptx (initBuild input prefix_ joinGap err) = .ok b1)
    (hm : b1.multi = []) (hh : b1.namer.haplotigScaffolds = []) (h4 : addMissing input b1 = .ok b) :
    remapToInput input ptx prefix_ joinGap err = .ok b := by
  refine remapToInput_of hn h1 (discardOverhanging_nil _ b1 hm) (cutRemaining_nil b1 hm) ?_
  have e : ({ b1 with multi := [] } : Build) = b1 := by cases b1; cases hm; rfl
  rw [e, hh, renameBySize_nil]
  exact h4

end AgpTpf.Pipeline
