/-
  The arenas of `Model/PyRtHeap.lean` and `Model/PyRtPhase2.lean` (`heap_b`, `heap_g`, `heap_a`, `heap_lo`, the FoundFragment arena, the
  store).  A Python reference is an index; every read through a reference is `heap.getD r dflt`, every write is core's `List.modify`
  (the object is updated when the reference is in range, nothing happens otherwise).  The agreement lemmas say so per arena; what a
  proof needs beyond core's `List.getElem?_modify`, `modify_modify_eq`, `modify_id`, `length_modify` is stated here once, about lists.
-/
import AgpTpf.Model.PyRtPhase2
namespace AgpTpf.Arena

variable {α : Type}

theorem modify_of_some {l : List α} {i : Nat} {x : α} (f : α → α) (h : l[i]? = some x) : l.modify i f = l.set i (f x) := by
  induction l generalizing i with
  | nil => simp at h
  | cons a l ih =>
    cases i with
    | zero => simp at h; simp [h]
    | succ i => simp at h; simp [ih h]

theorem modify_of_none {l : List α} {i : Nat} (f : α → α) (h : l[i]? = none) : l.modify i f = l :=
  List.modify_eq_self (by simpa using h)

theorem modify_eq_set_getD (l : List α) (i : Nat) (f : α → α) (d : α) : l.modify i f = l.set i (f (l.getD i d)) := by
  cases h : l[i]? with
  | none => rw [modify_of_none f h, List.set_eq_of_length_le (by simpa using h)]
  | some x => rw [modify_of_some f h, List.getD_eq_getElem?_getD, h]; rfl

theorem modify_const_getD (l : List α) (i : Nat) (f : α → α) (d : α) : l.modify i (fun _ => f (l.getD i d)) = l.modify i f := by
  rw [modify_eq_set_getD l i _ d, modify_eq_set_getD l i f d]

theorem modify_of_id (l : List α) (i : Nat) (f : α → α) (hf : ∀ x, f x = x) : l.modify i f = l := by
  rw [show f = id from funext hf, List.modify_id]

theorem getD_modify (l : List α) (i j : Nat) (f : α → α) (d : α) :
    (l.modify i f).getD j d = if i = j ∧ i < l.length then f (l.getD i d) else l.getD j d := by
  simp only [List.getD_eq_getElem?_getD, List.getElem?_modify]
  by_cases h : i = j
  · subst h
    by_cases hl : i < l.length <;> simp [hl]
  · simp [h]

/-! ### allocation: the new object is the last one, its reference the old length -/

theorem getD_length_snoc (l : List α) (x d : α) : (l ++ [x]).getD l.length d = x := by simp

theorem modify_length_snoc (l : List α) (x : α) (f : α → α) : (l ++ [x]).modify l.length f = l ++ [f x] := by
  induction l with
  | nil => rfl
  | cons a l ih => simpa using ih

theorem map_getD_range' (pre new : List α) (d : α) : (List.range' pre.length new.length).map ((pre ++ new).getD · d) = new := by
  apply List.ext_getElem
  · simp
  · intro i h1 _
    simp only [List.length_map, List.length_range'] at h1
    simp [h1]

/-- the shape in which the run-time files write the update -/
theorem modify_eq_match (l : List α) (i : Nat) (f : α → α) :
    l.modify i f = match l[i]? with | some x => l.set i (f x) | none => l := by
  cases h : l[i]? with
  | none => exact modify_of_none f h
  | some x => exact modify_of_some f h

theorem bsSet_eq_modify (heap : List Scaffold) (r : Nat) (f : Scaffold → Scaffold) : PyRt.bsSet heap r f = heap.modify r f := by
  rw [modify_eq_match, PyRt.bsSet]; cases heap[r]? <;> rfl

theorem aSet_eq_modify (heap : List PyRt.AsmObj) (r : Nat) (f : PyRt.AsmObj → PyRt.AsmObj) : PyRt.aSet heap r f = heap.modify r f := by
  rw [modify_eq_match, PyRt.aSet]; cases heap[r]? <;> rfl

theorem gSet_eq_modify (heap : List PyRt.GData) (r : Nat) (d : PyRt.GData) : PyRt.gSet heap r d = heap.modify r (fun _ => d) := by
  rw [modify_eq_match, PyRt.gSet]; cases heap[r]? <;> rfl

theorem loSet_eq_modify (heap : List PyRt.Leftover) (r : Nat) (f : Scaffold → Scaffold) :
    PyRt.loSet heap r f = heap.modify r (fun x => (f x.1, x.2)) := by
  rw [modify_eq_match, PyRt.loSet]; cases heap[r]? <;> rfl

theorem loSetPred_eq_modify (heap : List PyRt.Leftover) (r : Nat) (p : Option (Row × List Row)) :
    PyRt.loSetPred heap r p = heap.modify r (fun x => (x.1, p)) := by
  rw [modify_eq_match, PyRt.loSetPred]; cases heap[r]? <;> rfl

theorem foundAdd_eq_modify (heap : List Found) (r s : Nat) :
    PyRt.foundAdd heap r s = heap.modify r (fun f => { f with scaffolds := f.scaffolds ++ [s] }) := by
  rw [modify_eq_match, PyRt.foundAdd]; cases heap[r]? <;> rfl

theorem arenaAddRow_eq_modify (heap : List Scaffold) (r : Nat) (row : Row) :
    PyRt.arenaAddRow heap r row = heap.modify r (fun s => { s with rows := s.rows ++ [row] }) := by
  rw [modify_eq_match, PyRt.arenaAddRow]; cases heap[r]? <;> rfl

theorem updRes_eq_modify (store : List Res) (sid : Nat) (o : OverlapResult) :
    PyRt.updRes store sid o = store.modify sid (fun r => { r with o := o }) := by
  rw [modify_eq_set_getD store sid _ default]; rfl

theorem markAdded_eq_modify (store : List Res) (sid : Nat) :
    PyRt.markAdded store sid = store.modify sid (fun r => { r with added := true }) := by
  rw [modify_eq_set_getD store sid _ default]; rfl

theorem setLabel_eq_modify (store : List Res) (sid : Nat) (f : OverlapResult → OverlapResult) :
    PyRt.setLabel store sid f = store.modify sid (fun r => { r with o := f r.o }) := by
  rw [modify_eq_set_getD store sid _ default]; rfl

end AgpTpf.Arena
