/-
  The overhang resolver (`discard_overhanging_fragments`) seen from outside, read backwards (`*_ok`) and forwards (`*_eq`).
  A round forms a premise for every holder of every multiply-found contig (`premiseOf`) and files it under the contig's key
  (`filePremise`), so what holds of each premise formed holds of the whole dict (`roundPremises_filed`, `roundPremises_total`);
  for each premise list `make_fixes` CHOOSES at most one premise (`fixChoice`; why: `Chosen`) and APPLIES it (`fixOne_eq`,
  `apply_eq`: one discard on the premise's holder, written back); the bookkeeping of a fix strikes the holder from the
  contig's registry entry (`applyFixBookkeeping_eq`).  The fuel loop is a chain of productive rounds (`Rounds`), its fuel
  the number of stored rows (`totalRows`).  Which fields of the build (`Frame`, `Lib/Stages`) the resolver writes: `*_frame`.
-/
import AgpTpf.Model.Remap
import AgpTpf.Proofs.Lib.Overlap
import AgpTpf.Proofs.Lib.Stages
namespace AgpTpf.Pipeline
open AgpTpf

/-- the premise dictionary a resolver round starts from: every holder of every multiply-found contig is asked -/
def roundPremises (b : Build) : R (List (Key × List Premise)) :=
  b.multi.foldlM (fun prems k =>
    match dGet? b.found k with
    | none => pure prems
    | some fnd => fnd.scaffolds.foldlM (fun prems sid => addPremise b.store prems fnd.fragment sid) prems) []

/-- the premise `add_overhang_premise` forms for holder `sid` of contig `f`: `start` if the contig is the holder's first
    row, else `stop` if it is its last, else none.  Both tests are run first, as `addPremise` runs them (each raises exactly
    on a holder without rows) -/
def premiseOf (store : List Res) (f : Fragment) (sid : Nat) : R (Option Premise) := do
  let a ← (getRes store sid).firstIs f
  let c ← (getRes store sid).lastIs f
  pure (if a then some { kind := .start, sid := sid, fragment := f }
        else if c then some { kind := .stop, sid := sid, fragment := f } else none)

def filePremise (prems : List (Key × List Premise)) (p : Premise) : List (Key × List Premise) :=
  dSet prems p.fragment.keyTuple ((dGet? prems p.fragment.keyTuple).getD [] ++ [p])

theorem addPremise_eq (store : List Res) (prems : List (Key × List Premise)) (f : Fragment) (sid : Nat) :
    addPremise store prems f sid =
      premiseOf store f sid >>= fun c => pure (match c with | none => prems | some p => filePremise prems p) := by
  unfold addPremise premiseOf
  simp only [bind, Except.bind]
  cases (getRes store sid).firstIs f with
  | error e => rfl
  | ok a =>
    cases (getRes store sid).lastIs f with
    | error e => rfl
    | ok c => cases a <;> cases c <;> rfl

theorem premiseOf_some {store : List Res} {f : Fragment} {sid : Nat} {p : Premise} (h : premiseOf store f sid = .ok (some p)) :
    p.sid = sid ∧ p.fragment = f ∧
      (p.kind = .start → (getRes store sid).firstIs f = .ok true) ∧
      (p.kind = .stop → (getRes store sid).firstIs f = .ok false ∧ (getRes store sid).lastIs f = .ok true) := by
  unfold premiseOf at h
  obtain ⟨a, ha, h⟩ := bind_eq_ok.mp h
  obtain ⟨c, hc, h⟩ := bind_eq_ok.mp h
  cases a <;> cases c <;> cases h
  · exact ⟨rfl, rfl, fun e => PremKind.noConfusion e, fun _ => ⟨ha, hc⟩⟩
  · exact ⟨rfl, rfl, fun _ => ha, fun e => PremKind.noConfusion e⟩
  · exact ⟨rfl, rfl, fun _ => ha, fun e => PremKind.noConfusion e⟩

theorem premiseOf_returns {store : List Res} (f : Fragment) {sid : Nat} (h : (getRes store sid).rows ≠ []) :
    ∃ c, premiseOf store f sid = .ok c := by
  unfold premiseOf
  cases hr : (getRes store sid).rows with
  | nil => exact absurd hr h
  | cons x t =>
    rcases list_nil_or_concat (getRes store sid).rows with h0 | ⟨t', y, h0⟩
    · exact absurd h0 h
    · rw [OverlapResult.firstIs_cons _ f x t hr, OverlapResult.lastIs_concat _ f y t' h0]
      exact ⟨_, rfl⟩

/-- what every premise dict of a round satisfies, given `Q` of every premise filed -/
def Filed (Q : Premise → Prop) (prems : List (Key × List Premise)) : Prop :=
  (prems.map (·.1)).Nodup ∧ ∀ e ∈ prems, e.2 ≠ [] ∧ ∀ p ∈ e.2, p.fragment.keyTuple = e.1 ∧ Q p

theorem Filed.nil (Q : Premise → Prop) : Filed Q [] := ⟨List.nodup_nil, fun _ h => nomatch h⟩

theorem Filed.file {Q : Premise → Prop} {prems : List (Key × List Premise)} (h : Filed Q prems) {p : Premise} (hp : Q p) :
    Filed Q (filePremise prems p) := by
  refine ⟨dSet_keys_nodup _ _ h.1, fun e he => ?_⟩
  rcases mem_dSet he with he | rfl
  · exact h.2 e he
  · refine ⟨by simp, fun q hq => ?_⟩
    rcases List.mem_append.mp hq with hq | hq
    · cases hc : dGet? prems p.fragment.keyTuple with
      | none => rw [hc] at hq; cases hq
      | some cur => rw [hc] at hq; exact (h.2 _ (dGet?_mem hc)).2 q hq
    · cases List.mem_singleton.mp hq; exact ⟨rfl, hp⟩

theorem roundPremises_filed {Q : Premise → Prop} {b : Build} {prems : List (Key × List Premise)}
    (h : roundPremises b = .ok prems)
    (hQ : ∀ k ∈ b.multi, ∀ fnd, dGet? b.found k = some fnd → ∀ sid ∈ fnd.scaffolds, ∀ p,
      premiseOf b.store fnd.fragment sid = .ok (some p) → Q p) : Filed Q prems := by
  unfold roundPremises at h
  refine foldlM_inv (Filed Q) h (.nil Q) fun a k hk a' ha hs => ?_
  cases hf : dGet? b.found k with
  | none => rw [hf] at hs; cases hs; exact ha
  | some fnd =>
    rw [hf] at hs
    refine foldlM_inv (Filed Q) hs ha fun x sid hsid x' hx hstep => ?_
    rw [addPremise_eq] at hstep
    obtain ⟨c, hc, hstep⟩ := bind_eq_ok.mp hstep
    cases hstep
    cases c with
    | none => exact hx
    | some p => exact hx.file (hQ k hk fnd hf sid hsid p hc)

theorem roundPremises_total {b : Build}
    (h : ∀ k ∈ b.multi, ∀ fnd, dGet? b.found k = some fnd → ∀ sid ∈ fnd.scaffolds, (getRes b.store sid).rows ≠ []) :
    ∃ prems, roundPremises b = .ok prems := by
  unfold roundPremises
  refine foldlM_ok_of_forall (fun k hk prems => ?_) _
  cases hf : dGet? b.found k with
  | none => exact ⟨prems, rfl⟩
  | some fnd =>
    refine foldlM_ok_of_forall (fun sid hsid pr => ?_) _
    rw [addPremise_eq]
    exact bind_returns (premiseOf_returns fnd.fragment (h k hk fnd hf sid hsid)) fun _ _ => ⟨_, rfl⟩

def _root_.AgpTpf.Premise.discard (p : Premise) (o : OverlapResult) : R OverlapResult :=
  match p.kind with
  | .start => o.discardStart
  | .stop => o.discardEnd

theorem apply_eq (p : Premise) (store : List Res) :
    p.apply store = p.discard (getRes store p.sid) >>= fun o' =>
      pure (setAt store p.sid { store.getD p.sid default with o := o' }) := by
  unfold Premise.apply Premise.discard getRes
  cases p.kind <;> rfl

theorem apply_ok {p : Premise} {store store' : List Res} (h : p.apply store = .ok store') :
    ∃ o', p.discard (getRes store p.sid) = .ok o' ∧ store' = setAt store p.sid { store.getD p.sid default with o := o' } := by
  rw [apply_eq] at h
  obtain ⟨o', ho, h⟩ := bind_eq_ok.mp h
  cases h
  exact ⟨o', ho, rfl⟩

/-- the two-premise (sub-texel) rule: both bait overlaps `< err` ⇒ the premise with the strictly smaller overlap, on a tie
    the second -/
def subTexelChoice (err : Int) (store : List Res) : List Premise → R (Option Premise)
  | [frst, scnd] => do
    let fo ← frst.baitOverlap store
    if fo < err then do
      let so ← scnd.baitOverlap store
      if so < err then pure (some (if fo < so then frst else scnd)) else pure none
    else pure none
  | _ => pure none

/-- the general rule: the premise with the least error delta, if it improves and the next one does not -/
def generalChoice (err : Int) (store : List Res) (ps : List Premise) : R (Option Premise) :=
  if ps.length > 1 then do
    let sorted ← sortPremsByDelta store ps
    match sorted with
    | bst :: nxt :: _ => do
      if (← bst.improves store err) then
        if ¬ (← nxt.improves store err) then pure (some bst) else pure none
      else pure none
    | _ => pure none
  else pure none

/-- which premise of the list `make_fixes` applies, if any -/
def fixChoice (err : Int) (store : List Res) (ps : List Premise) : R (Option Premise) := do
  match (← subTexelChoice err store ps) with
  | some p => pure (some p)
  | none => generalChoice err store ps

theorem fixChoice_pair (err : Int) (store : List Res) (frst scnd : Premise) :
    fixChoice err store [frst, scnd] = (do
      let fo ← frst.baitOverlap store
      if fo < err then do
        let so ← scnd.baitOverlap store
        if so < err then pure (some (if fo < so then frst else scnd)) else generalChoice err store [frst, scnd]
      else generalChoice err store [frst, scnd]) := by
  unfold fixChoice subTexelChoice
  simp only [bind, Except.bind]
  cases frst.baitOverlap store with
  | error e => rfl
  | ok fo =>
    by_cases h1 : fo < err
    · simp only [h1, if_true]
      cases scnd.baitOverlap store with
      | error e => rfl
      | ok so => by_cases h2 : so < err <;> simp only [h2, if_true, if_false] <;> rfl
    · simp only [h1, if_false]; rfl

theorem fixChoice_of_ne_two (err : Int) (store : List Res) {ps : List Premise} (h : ps.length ≠ 2) :
    fixChoice err store ps = generalChoice err store ps := by
  unfold fixChoice subTexelChoice
  split
  · exact absurd rfl h
  · rfl

def applyChoice (store : List Res) (fixes : List Premise) : Option Premise → R (List Res × List Premise)
  | none => pure (store, fixes)
  | some p => do let s ← p.apply store; pure (s, fixes ++ [p])

/-- the `elif len(premises) > 1` block of `fixOne`, verbatim -/
private def fixRest (err : Int) (store : List Res) (fixes ps : List Premise) : R (List Res × List Premise) :=
  if ps.length > 1 then do
    let sorted ← sortPremsByDelta store ps
    match sorted with
    | bst :: nxt :: _ =>
      if (← bst.improves store err) then
        if ¬ (← nxt.improves store err) then do
          let s ← bst.apply store; pure (s, fixes ++ [bst])
        else pure (store, fixes)
      else pure (store, fixes)
    | _ => pure (store, fixes)
  else pure (store, fixes)

private theorem fixRest_eq (err : Int) (store : List Res) (fixes ps : List Premise) :
    fixRest err store fixes ps = generalChoice err store ps >>= applyChoice store fixes := by
  unfold fixRest generalChoice
  split
  · cases sortPremsByDelta store ps with
    | error e => rfl
    | ok sorted =>
      rcases sorted with _ | ⟨bst, _ | ⟨nxt, t⟩⟩
      · rfl
      · rfl
      · simp only [bind, Except.bind]
        cases bst.improves store err with
        | error e => rfl
        | ok bi =>
          cases bi with
          | false => rfl
          | true =>
            cases nxt.improves store err with
            | error e => rfl
            | ok ni => cases ni <;> rfl
  · rfl

/-- errors included: both sides evaluate in the same order -/
theorem fixOne_eq (err : Int) (store : List Res) (fixes ps : List Premise) :
    fixOne err (store, fixes) ps = fixChoice err store ps >>= applyChoice store fixes := by
  have hrest := fixRest_eq err store fixes ps
  unfold fixRest at hrest
  unfold fixOne fixChoice subTexelChoice
  rcases ps with _ | ⟨frst, _ | ⟨scnd, _ | ⟨c, t⟩⟩⟩
  · exact hrest
  · exact hrest
  · simp only [bind, Except.bind] at hrest ⊢
    cases frst.baitOverlap store with
    | error e => rfl
    | ok fo =>
      by_cases h1 : fo < err
      · simp only [h1, if_true]
        cases scnd.baitOverlap store with
        | error e => rfl
        | ok so =>
          by_cases h3 : so < err
          · simp only [h3, if_true]
            by_cases h4 : fo < so <;> simp only [h4, if_true, if_false] <;> rfl
          · simp only [h3, if_false]; exact hrest
      · simp only [h1, if_false]; exact hrest
  · exact hrest

/-- why a premise was chosen -/
inductive Chosen (err : Int) (store : List Res) (ps : List Premise) (p : Premise) : Prop
  | subTexel (frst scnd : Premise) (fo so : Int) : ps = [frst, scnd] →
      frst.baitOverlap store = .ok fo → scnd.baitOverlap store = .ok so → fo < err → so < err →
      p = (if fo < so then frst else scnd) → Chosen err store ps p
  | general (nxt : Premise) (rest : List Premise) : 2 ≤ ps.length →
      sortPremsByDelta store ps = .ok (p :: nxt :: rest) →
      p.improves store err = .ok true → nxt.improves store err = .ok false → Chosen err store ps p

theorem generalChoice_some {err : Int} {store : List Res} {ps : List Premise} {p : Premise}
    (h : generalChoice err store ps = .ok (some p)) :
    ∃ nxt rest, 2 ≤ ps.length ∧ sortPremsByDelta store ps = .ok (p :: nxt :: rest) ∧
      p.improves store err = .ok true ∧ nxt.improves store err = .ok false := by
  unfold generalChoice at h
  split at h
  · rename_i hl
    obtain ⟨sorted, hs, h⟩ := bind_eq_ok.mp h
    split at h
    · rename_i bst nxt rest
      obtain ⟨bi, hb, h⟩ := bind_eq_ok.mp h
      split at h
      · rename_i hbi
        obtain ⟨ni, hn, h⟩ := bind_eq_ok.mp h
        split at h
        · rename_i hni
          cases h
          rw [hbi] at hb
          rw [Bool.not_eq_true] at hni
          rw [hni] at hn
          exact ⟨nxt, rest, by omega, hs, hb, hn⟩
        · cases h
      · cases h
    · cases h
  · cases h

theorem fixChoice_some {err : Int} {store : List Res} {ps : List Premise} {p : Premise}
    (h : fixChoice err store ps = .ok (some p)) : Chosen err store ps p := by
  unfold fixChoice at h
  obtain ⟨two, ht, h⟩ := bind_eq_ok.mp h
  cases two with
  | none => obtain ⟨nxt, rest, hl, hs, hb, hn⟩ := generalChoice_some h; exact .general nxt rest hl hs hb hn
  | some q =>
    cases h
    unfold subTexelChoice at ht
    split at ht
    · rename_i frst scnd
      obtain ⟨fo, hfo, ht⟩ := bind_eq_ok.mp ht
      split at ht
      · rename_i h1
        obtain ⟨so, hso, ht⟩ := bind_eq_ok.mp ht
        split at ht
        · rename_i h2
          cases ht
          exact .subTexel frst scnd fo so rfl hfo hso h1 h2 rfl
        · cases ht
      · cases ht
    · cases ht

theorem fixOne_ok' {err : Int} {store store' : List Res} {fixes fixes' ps : List Premise}
    (h : fixOne err (store, fixes) ps = .ok (store', fixes')) :
    (store' = store ∧ fixes' = fixes) ∨
      ∃ p, Chosen err store ps p ∧ p.apply store = .ok store' ∧ fixes' = fixes ++ [p] := by
  rw [fixOne_eq] at h
  obtain ⟨c, hc, h⟩ := bind_eq_ok.mp h
  cases c with
  | none => cases h; exact .inl ⟨rfl, rfl⟩
  | some p =>
    obtain ⟨s, hs, h⟩ := bind_eq_ok.mp h
    cases h
    exact .inr ⟨p, fixChoice_some hc, hs, rfl⟩

theorem Chosen.mem {err : Int} {store : List Res} {ps : List Premise} {p : Premise} (h : Chosen err store ps p) : p ∈ ps := by
  cases h with
  | subTexel frst scnd fo so hps _ _ _ _ hp => subst hps hp; split <;> simp
  | general nxt rest _ hs _ _ => exact (sortedByKeyM_ok hs).1.subset (List.mem_cons_self ..)

theorem Chosen.two_le {err : Int} {store : List Res} {ps : List Premise} {p : Premise} (h : Chosen err store ps p) :
    2 ≤ ps.length := by
  cases h with
  | subTexel frst scnd fo so hps _ _ _ _ _ => subst hps; exact Nat.le_refl 2
  | general nxt rest hl _ _ _ => exact hl

theorem Chosen.guard {err : Int} {store : List Res} {ps : List Premise} {p : Premise} (h : Chosen err store ps p) :
    (∃ ov, p.baitOverlap store = .ok ov ∧ ov < err) ∨ p.improves store err = .ok true := by
  cases h with
  | subTexel frst scnd fo so _ hfo hso h1 h2 hp =>
    subst hp
    split
    · exact .inl ⟨fo, hfo, h1⟩
    · exact .inl ⟨so, hso, h2⟩
  | general nxt rest _ _ hb _ => exact .inr hb

theorem fixOne_ok {err : Int} {store store' : List Res} {fixes fixes' ps : List Premise}
    (h : fixOne err (store, fixes) ps = .ok (store', fixes')) :
    (store' = store ∧ fixes' = fixes) ∨ ∃ p, p.apply store = .ok store' ∧ fixes' = fixes ++ [p] :=
  (fixOne_ok' h).imp id fun ⟨p, _, ha, hf⟩ => ⟨p, ha, hf⟩

theorem fixOne_of_none {err : Int} {store : List Res} {fixes ps : List Premise} (h : fixChoice err store ps = .ok none) :
    fixOne err (store, fixes) ps = .ok (store, fixes) := by
  rw [fixOne_eq, h]; rfl

/-- `list.remove(x)`, with `none` for the `ValueError` -/
theorem removeFirst_eq (l : List Nat) (x : Nat) : removeFirst l x = if x ∈ l then some (l.erase x) else none := by
  induction l with
  | nil => rfl
  | cons y r ih =>
    unfold removeFirst
    by_cases e : y = x
    · subst e; simp
    · have e' : ¬ x = y := fun h => e h.symm
      rw [if_neg e, ih, List.erase_cons_tail (by simpa using e)]
      by_cases hx : x ∈ r <;> simp [hx, e']

theorem applyFixBookkeeping_eq (b : Build) (p : Premise) :
    applyFixBookkeeping b p =
      if p.fragment.keyTuple ∈ b.multi then
        match dGet? b.found p.fragment.keyTuple with
        | none => .ok b
        | some fnd =>
          if p.sid ∈ fnd.scaffolds then
            .ok { b with found := dSet b.found p.fragment.keyTuple { fnd with scaffolds := fnd.scaffolds.erase p.sid },
                         multi := if (fnd.scaffolds.erase p.sid).length ≤ 1 then b.multi.filter (· ≠ p.fragment.keyTuple)
                                  else b.multi }
          else .error .value
      else .ok b := by
  unfold applyFixBookkeeping
  by_cases hk : p.fragment.keyTuple ∈ b.multi
  · rw [if_pos hk, if_pos (List.contains_iff_mem.mpr hk)]
    cases dGet? b.found p.fragment.keyTuple with
    | none => rfl
    | some fnd =>
      dsimp only
      rw [removeFirst_eq]
      by_cases hm : p.sid ∈ fnd.scaffolds
      · rw [if_pos hm, if_pos hm]; dsimp only; split <;> rfl
      · rw [if_neg hm, if_neg hm]
  · rw [if_neg hk, if_neg (fun h => hk (List.contains_iff_mem.mp h))]

theorem applyFixBookkeeping_ok {b b' : Build} {p : Premise} (h : applyFixBookkeeping b p = .ok b') :
    b' = b ∨ ∃ fnd rest, dGet? b.found p.fragment.keyTuple = some fnd ∧ removeFirst fnd.scaffolds p.sid = some rest ∧
      b' = { b with found := dSet b.found p.fragment.keyTuple { fnd with scaffolds := rest },
                    multi := if rest.length ≤ 1 then b.multi.filter (· ≠ p.fragment.keyTuple) else b.multi } := by
  unfold applyFixBookkeeping at h
  dsimp only at h
  split at h
  · split at h
    · cases h; exact .inl rfl
    · next fnd hf =>
      split at h
      · cases h
      · next rest hr =>
        cases h
        refine .inr ⟨fnd, rest, hf, hr, ?_⟩
        split <;> rfl
  · cases h; exact .inl rfl

theorem resolverRound_eq (b : Build) :
    resolverRound b = (do
      let prems ← roundPremises b
      let (store, fixes) ← (prems.map (·.2)).foldlM (fixOne b.err) (b.store, [])
      if fixes.isEmpty then pure none
      else do
        let b ← fixes.foldlM applyFixBookkeeping { b with store := store }
        pure (some b)) := rfl

theorem resolverRound_ok {b b' : Build} (h : resolverRound b = .ok (some b')) :
    ∃ prems store fixes, roundPremises b = .ok prems ∧
      (prems.map (·.2)).foldlM (fixOne b.err) (b.store, []) = .ok (store, fixes) ∧ fixes ≠ [] ∧
      fixes.foldlM applyFixBookkeeping { b with store := store } = .ok b' := by
  rw [resolverRound_eq] at h
  obtain ⟨prems, hp, h⟩ := bind_eq_ok.mp h
  obtain ⟨⟨store, fixes⟩, hf, h⟩ := bind_eq_ok.mp h
  refine ⟨prems, store, fixes, hp, hf, ?_⟩
  cases fixes with
  | nil => cases h
  | cons p t =>
    obtain ⟨b2, hb, h⟩ := bind_eq_ok.mp h
    cases h
    exact ⟨List.cons_ne_nil _ _, hb⟩

/-- `b'` is reached from `b` by productive resolver rounds -/
inductive Rounds : Build → Build → Prop
  | refl (b : Build) : Rounds b b
  | step {b b1 b' : Build} : resolverRound b = .ok (some b1) → Rounds b1 b' → Rounds b b'

theorem discardOverhanging_succ (fuel : Nat) (b : Build) :
    discardOverhanging (fuel + 1) b =
      if b.multi.isEmpty then .ok b
      else resolverRound b >>= fun r => match r with
        | none => pure b
        | some b' => discardOverhanging fuel b' := rfl

theorem discardOverhanging_rounds {fuel : Nat} {b b' : Build} (h : discardOverhanging fuel b = .ok b') : Rounds b b' := by
  induction fuel generalizing b with
  | zero => cases h
  | succ n ih =>
    rw [discardOverhanging_succ] at h
    split at h
    · cases h; exact .refl _
    · obtain ⟨r, hr, h⟩ := bind_eq_ok.mp h
      cases r with
      | none => cases h; exact .refl _
      | some b1 => exact .step hr (ih h)

theorem totalRows_cons (r : Res) (t : List Res) : totalRows (r :: t) = r.o.rows.length + totalRows t := by
  unfold totalRows
  have shift : ∀ (l : List Nat) (a : Nat), l.foldl (· + ·) a = a + l.foldl (· + ·) 0 := by
    intro l
    induction l with
    | nil => intro a; rfl
    | cons x t ih => intro a; rw [List.foldl_cons, ih, List.foldl_cons, ih (0 + x)]; omega
  rw [List.map_cons, List.foldl_cons, shift]; omega

theorem totalRows_set : ∀ (store : List Res) (i : Nat) (r x : Res), store[i]? = some r →
    totalRows (store.set i x) + r.o.rows.length = totalRows store + x.o.rows.length
  | [], _, _, _, h => by cases h
  | a :: t, 0, r, x, h => by
    cases h
    rw [List.set_cons_zero, totalRows_cons, totalRows_cons]; omega
  | a :: t, i + 1, r, x, h => by
    have := totalRows_set t i r x h
    rw [List.set_cons_succ, totalRows_cons, totalRows_cons]; omega

theorem applyFixBookkeeping_frame {b b' : Build} {p : Premise} (h : applyFixBookkeeping b p = .ok b') :
    Frame b b' ∧ b'.store = b.store ∧ b'.nextOid = b.nextOid ∧ b'.cuts = b.cuts := by
  rcases applyFixBookkeeping_ok h with rfl | ⟨_, _, _, _, rfl⟩ <;> exact ⟨⟨rfl, rfl, rfl, rfl⟩, rfl, rfl, rfl⟩

theorem bookkeeping_frame {fixes : List Premise} {b b' : Build} (h : fixes.foldlM applyFixBookkeeping b = .ok b') :
    Frame b b' ∧ b'.store = b.store ∧ b'.nextOid = b.nextOid ∧ b'.cuts = b.cuts := by
  refine foldlM_inv (fun x : Build => Frame b x ∧ x.store = b.store ∧ x.nextOid = b.nextOid ∧ x.cuts = b.cuts) h
    ⟨.refl _, rfl, rfl, rfl⟩ ?_
  intro x p _ x' ⟨f, s, n, c⟩ hs
  obtain ⟨f', s', n', c'⟩ := applyFixBookkeeping_frame hs
  exact ⟨f.trans f', s'.trans s, n'.trans n, c'.trans c⟩

theorem resolverRound_frame {b b' : Build} (h : resolverRound b = .ok (some b')) :
    Frame b b' ∧ b'.nextOid = b.nextOid ∧ b'.cuts = b.cuts := by
  obtain ⟨_, store, fixes, _, _, _, hb⟩ := resolverRound_ok h
  obtain ⟨f, _, n, c⟩ := bookkeeping_frame hb
  exact ⟨⟨f.namer, f.extra, f.joinGap, f.err⟩, n, c⟩

theorem Rounds.frame {b b' : Build} (h : Rounds b b') : Frame b b' ∧ b'.nextOid = b.nextOid ∧ b'.cuts = b.cuts := by
  induction h with
  | refl b => exact ⟨.refl _, rfl, rfl⟩
  | step hr _ ih =>
    obtain ⟨f, n, c⟩ := resolverRound_frame hr
    exact ⟨f.trans ih.1, ih.2.1.trans n, ih.2.2.trans c⟩

theorem discardOverhanging_frame {fuel : Nat} {b b' : Build} (h : discardOverhanging fuel b = .ok b') :
    Frame b b' ∧ b'.nextOid = b.nextOid ∧ b'.cuts = b.cuts := (discardOverhanging_rounds h).frame

end AgpTpf.Pipeline
