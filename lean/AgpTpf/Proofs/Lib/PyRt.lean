/-
  The loop and indexing combinators of the translated source (`Model/PyRt.lean`) at the shapes of argument the translation uses:
  `PyRt.forIn` with a body that always falls through is a `foldl` / `foldlM` / `mapM`.
  Used by the ties of the source (`Proofs/Imp*.lean`) only.  Nothing here is tagged `simp`.
-/
import AgpTpf.Model.PyRt
import AgpTpf.Proofs.Lib.Py
namespace AgpTpf
namespace PyRt

theorem forIn_nil {α σ ρ : Type} (s : σ) (body : α → σ → R (Ctl σ ρ)) : forIn [] s body = .ok (.fell s) := rfl

theorem forIn_cons {α σ ρ : Type} (x : α) (xs : List α) (s : σ) (body : α → σ → R (Ctl σ ρ)) :
    forIn (x :: xs) s body = match body x s with
      | .error e => .error e
      | .ok (.next s') => forIn xs s' body
      | .ok (.brk s') => .ok (.fell s')
      | .ok (.ret r) => .ok (.returned r) := rfl

theorem forIn_cons_next {α σ ρ : Type} {x : α} {s s' : σ} {body : α → σ → R (Ctl σ ρ)} (h : body x s = .ok (.next s')) (xs : List α) :
    forIn (x :: xs) s body = forIn xs s' body := by rw [forIn_cons, h]

theorem whileLoop_zero {σ ρ : Type} (s : σ) (cond : σ → R Bool) (body : σ → R (Ctl σ ρ)) : whileLoop 0 s cond body = .error .other := rfl

theorem whileLoop_succ {σ ρ : Type} (fuel : Nat) (s : σ) (cond : σ → R Bool) (body : σ → R (Ctl σ ρ)) :
    whileLoop (fuel + 1) s cond body = match cond s with
      | .error e => .error e
      | .ok false => .ok (.fell s)
      | .ok true =>
        match body s with
        | .error e => .error e
        | .ok (.next s') => whileLoop fuel s' cond body
        | .ok (.brk s') => .ok (.fell s')
        | .ok (.ret r) => .ok (.returned r) := rfl

theorem forIn_map {α β σ ρ : Type} (g : α → β) (body : β → σ → R (Ctl σ ρ)) (xs : List α) (s : σ) :
    forIn (xs.map g) s body = forIn xs s (fun x => body (g x)) := by
  induction xs generalizing s with
  | nil => rfl
  | cons x xs ih =>
    rw [List.map_cons, forIn_cons, forIn_cons]
    split <;> first | rfl | exact ih _

/-- `enc` is how the loop variables hold the folded state -/
theorem forIn_foldl_enc {α σ τ ρ : Type} (enc : τ → σ) (f : τ → α → τ) {body : α → σ → R (Ctl σ ρ)} {xs : List α}
    (h : ∀ x ∈ xs, ∀ t, body x (enc t) = .ok (.next (enc (f t x)))) (t : τ) :
    forIn xs (enc t) body = .ok (.fell (enc (xs.foldl f t))) := by
  induction xs generalizing t with
  | nil => rfl
  | cons x xs ih =>
    rw [forIn_cons_next (h x List.mem_cons_self t), List.foldl_cons]
    exact ih (fun y hy => h y (List.mem_cons_of_mem _ hy)) _

theorem forIn_foldl {α σ ρ : Type} (f : σ → α → σ) {body : α → σ → R (Ctl σ ρ)} {xs : List α}
    (h : ∀ x ∈ xs, ∀ s, body x s = .ok (.next (f s x))) (s : σ) : forIn xs s body = .ok (.fell (xs.foldl f s)) :=
  forIn_foldl_enc id f h s

theorem forIn_any {α ρ : Type} (f : α → Bool) {body : α → Bool → R (Ctl Bool ρ)} {xs : List α}
    (h : ∀ x ∈ xs, ∀ b, body x b = .ok (.next (b || f x))) (b : Bool) : forIn xs b body = .ok (.fell (b || xs.any f)) := by
  rw [forIn_foldl (fun b x => b || f x) h]
  congr 2
  induction xs generalizing b with
  | nil => simp
  | cons x xs ih => rw [List.foldl_cons, List.any_cons, ih (fun y hy => h y (List.mem_cons_of_mem _ hy)), Bool.or_assoc]

theorem forIn_unit {α ρ : Type} {body : α → Unit → R (Ctl Unit ρ)} (xs : List α) (h : ∀ x u, body x u = .ok (.next ())) (u : Unit) :
    forIn xs u body = .ok (.fell ()) :=
  forIn_foldl (fun _ _ => ()) (fun x _ u => h x u) u

theorem forIn_foldlM_enc {α σ τ ρ : Type} (enc : τ → σ) (g : τ → α → R τ) {body : α → σ → R (Ctl σ ρ)} {xs : List α}
    (h : ∀ x ∈ xs, ∀ t, body x (enc t) = (g t x).map (fun t' => .next (enc t'))) (t : τ) :
    forIn xs (enc t) body = (xs.foldlM g t).map (fun t' => .fell (enc t')) := by
  induction xs generalizing t with
  | nil => rfl
  | cons x xs ih =>
    rw [forIn_cons, h x List.mem_cons_self t, List.foldlM_cons]
    cases g t x with
    | error e => rfl
    | ok t' => exact ih (fun y hy => h y (List.mem_cons_of_mem _ hy)) t'

theorem forIn_foldlM {α σ ρ : Type} (g : σ → α → R σ) {body : α → σ → R (Ctl σ ρ)} {xs : List α}
    (h : ∀ x ∈ xs, ∀ s, body x s = (g s x).map .next) (s : σ) : forIn xs s body = (xs.foldlM g s).map .fell :=
  forIn_foldlM_enc id g h s

theorem forIn_mapM {α β σ ρ : Type} (L : α → R β) (f : σ → β → σ) {body : α → σ → R (Ctl σ ρ)} {xs : List α}
    (h : ∀ x ∈ xs, ∀ s, body x s = (L x).map (fun v => .next (f s v))) (s : σ) :
    forIn xs s body = (xs.mapM L).map (fun vs => .fell (vs.foldl f s)) := by
  rw [forIn_foldlM (fun s x => (L x).map (f s)) (fun x hx s => by rw [h x hx, map_map]) s, foldlM_map, map_map]

theorem forIn_append_mapM {α β γ ρ : Type} (L : α → R β) (T : β → List γ) {body : α → List γ → R (Ctl (List γ) ρ)} {xs : List α}
    (h : ∀ x ∈ xs, ∀ acc, body x acc = (L x).map (fun v => .next (acc ++ T v))) (acc : List γ) :
    forIn xs acc body = (xs.mapM L).map (fun vs => .fell (acc ++ (vs.map T).flatten)) := by
  have e : ∀ (vs : List β) (acc : List γ), vs.foldl (fun a v => a ++ T v) acc = acc ++ (vs.map T).flatten := fun vs => by
    induction vs with
    | nil => simp
    | cons v vs ih => intro acc; rw [List.foldl_cons, ih]; simp
  rw [forIn_mapM L (fun a v => a ++ T v) h acc]
  exact congrArg (Except.map · _) (funext fun vs => by rw [e])

/-- a generator is translated to a loop that appends what it yields to a list -/
theorem forIn_yield_mapM {α β ρ : Type} (L : α → R β) {body : α → List β → R (Ctl (List β) ρ)} {xs : List α}
    (h : ∀ x ∈ xs, ∀ acc, body x acc = (L x).map (fun v => .next (acc ++ [v]))) (acc : List β) :
    forIn xs acc body = (xs.mapM L).map (fun vs => .fell (acc ++ vs)) := by
  have e : ∀ vs : List β, (vs.map (fun v => [v])).flatten = vs := fun vs => by induction vs <;> simp_all
  rw [forIn_append_mapM L (fun v => [v]) h acc]
  exact congrArg (Except.map · _) (funext fun vs => by rw [e])

/-- only what the k-th pass computes counts, whatever the iterable `xs` is: `enumerate(l[:-1])` and `range(len(l) - 1)` give the
    same loop -/
theorem forIn_getElem {ι β σ ρ : Type} (ys : List β) (step : β → σ → σ) (xs : List ι)
    (body : ι → σ → R (Ctl σ ρ)) (hlen : xs.length = ys.length)
    (hbody : ∀ (k : Nat) (h1 : k < xs.length) (h2 : k < ys.length) (s : σ), body xs[k] s = .ok (.next (step ys[k] s)))
    (s : σ) :
    forIn xs s body = .ok (.fell (ys.foldl (fun s y => step y s) s)) := by
  induction xs generalizing ys s with
  | nil =>
    cases ys with
    | nil => rfl
    | cons y ys => simp at hlen
  | cons x xs ih =>
    cases ys with
    | nil => simp at hlen
    | cons y ys =>
      have h0 := hbody 0 (by simp) (by simp) s
      simp only [List.getElem_cons_zero] at h0
      simp only [forIn, h0, List.foldl_cons]
      refine ih ys (by simpa using hlen) ?_ _
      intro k h1 h2 s'
      have := hbody (k + 1) (by simpa using h1) (by simpa using h2) s'
      simpa only [List.getElem_cons_succ] using this

theorem rangeUp_nil {a b : Int} (h : b ≤ a) : rangeUp a b = [] := by
  unfold rangeUp; rw [show (b - a).toNat = 0 by omega]; rfl

theorem rangeUp_cons {a b : Int} (h : a < b) : rangeUp a b = a :: rangeUp (a + 1) b := by
  obtain ⟨n, hn⟩ : ∃ n, (b - a).toNat = n + 1 := ⟨(b - a).toNat - 1, by omega⟩
  simp only [rangeUp, hn, show (b - (a + 1)).toNat = n by omega, List.range_succ_eq_map, List.map_cons, List.map_map]
  congr 1
  · simp
  · refine List.map_congr_left fun k _ => ?_
    simp only [Function.comp, Int.ofNat_eq_natCast]
    omega

theorem length_rangeUp (a b : Int) : (rangeUp a b).length = (b - a).toNat := by simp [rangeUp]

theorem getElem_rangeUp (a b : Int) (k : Nat) (h : k < (rangeUp a b).length) : (rangeUp a b)[k] = a + (k : Int) := by
  simp [rangeUp]

theorem mem_rangeUp {a b x : Int} : x ∈ rangeUp a b ↔ a ≤ x ∧ x < b := by
  simp only [rangeUp, List.mem_map, List.mem_range, Int.ofNat_eq_natCast]
  exact ⟨fun ⟨k, hk, e⟩ => by omega, fun h => ⟨(x - a).toNat, by omega, by omega⟩⟩

theorem length_enumerateFrom {α : Type} (i : Int) (l : List α) : (enumerateFrom i l).length = l.length := by
  induction l generalizing i with
  | nil => rfl
  | cons x xs ih => simp [enumerateFrom, ih]

theorem length_enumerate {α : Type} (l : List α) : (enumerate l).length = l.length := length_enumerateFrom 0 l

theorem getElem_enumerateFrom {α : Type} (i : Int) (l : List α) (k : Nat) (h : k < (enumerateFrom i l).length) :
    (enumerateFrom i l)[k] = (i + (k : Int), l[k]'(by rw [length_enumerateFrom] at h; exact h)) := by
  induction l generalizing i k with
  | nil => simp [enumerateFrom] at h
  | cons x xs ih =>
    cases k with
    | zero => simp [enumerateFrom]
    | succ k =>
      simp only [enumerateFrom, List.getElem_cons_succ]
      rw [ih]
      congr 1
      omega

theorem getElem_enumerate {α : Type} (l : List α) (k : Nat) (h : k < (enumerate l).length) :
    (enumerate l)[k] = ((k : Int), l[k]'(by rw [length_enumerate] at h; exact h)) := by
  have h' : k < (enumerateFrom 0 l).length := h
  show (enumerateFrom 0 l)[k]'h' = _
  rw [getElem_enumerateFrom]
  congr 1
  omega

/-- `for i, x in enumerate(xs, start=k)` over references `x` of objects `φ x` -/
theorem forIn_enumerateFrom {α β σ ρ : Type} (φ : α → β) (step : σ → Nat × β → σ) (body : Int × α → σ → R (Ctl σ ρ)) (xs : List α)
    (hbody : ∀ x ∈ xs, ∀ (i : Nat) (s : σ), body ((i : Int), x) s = .ok (.next (step s (i, φ x)))) (k : Nat) (s : σ) :
    forIn (enumerateFrom (k : Int) xs) s body = .ok (.fell (((List.range' k xs.length).zip (xs.map φ)).foldl step s)) := by
  induction xs generalizing k s with
  | nil => rfl
  | cons x xs ih =>
    rw [enumerateFrom, forIn_cons_next (hbody x List.mem_cons_self k s)]
    exact ih (fun y hy => hbody y (List.mem_cons_of_mem _ hy)) (k + 1) _

theorem forIn_enumerate {α β σ ρ : Type} (φ : α → β) (step : σ → Nat × β → σ) (body : Int × α → σ → R (Ctl σ ρ)) (xs : List α)
    (hbody : ∀ x ∈ xs, ∀ (i : Nat) (s : σ), body ((i : Int), x) s = .ok (.next (step s (i, φ x)))) (s : σ) :
    forIn (enumerate xs) s body = .ok (.fell (((List.range xs.length).zip (xs.map φ)).foldl step s)) := by
  rw [List.range_eq_range']
  exact forIn_enumerateFrom φ step body xs hbody 0 s

theorem clampIdx_natCast (n k : Nat) : clampIdx n (k : Int) = min k n := by
  simp only [clampIdx, show ¬ ((k : Int) < 0) by omega, if_false, Int.toNat_natCast]

theorem slice_from {α : Type} (l : List α) (k : Nat) : slice l (some (k : Int)) none = l.drop k := by
  simp only [slice, clampIdx_natCast]
  rw [List.take_of_length_le (by simp)]
  by_cases hk : k ≤ l.length
  · rw [Nat.min_eq_left hk]
  · rw [Nat.min_eq_right (by omega), List.drop_eq_nil_of_le (Nat.le_refl _), List.drop_eq_nil_of_le (by omega)]

theorem slice_one_none_cons {α : Type} (x : α) (l : List α) : slice (x :: l) (some 1) none = l := slice_from (x :: l) 1

theorem slice_between {α : Type} (l : List α) (a b : Nat) (hb : b ≤ l.length) :
    slice l (some (a : Int)) (some (b : Int)) = (l.drop a).take (b - a) := by
  simp only [slice, clampIdx_natCast, Nat.min_eq_left hb]
  by_cases ha : a ≤ l.length
  · rw [Nat.min_eq_left ha]
  · rw [Nat.min_eq_right (by omega), show b - l.length = 0 by omega, show b - a = 0 by omega]; simp

theorem slice_none_neg {α : Type} (l : List α) (k : Nat) (hk : 0 < k) : slice l none (some (-(k : Int))) = l.take (l.length - k) := by
  have : clampIdx l.length (-(k : Int)) = l.length - k := by
    simp only [clampIdx, show -(k : Int) < 0 by omega, if_true]
    split <;> omega
  simp [slice, this]

theorem slice_none_neg_one {α : Type} (l : List α) : slice l none (some (-1)) = l.dropLast := by
  rw [List.dropLast_eq_take]; exact slice_none_neg l 1 (by omega)

theorem length_slice_none_neg_one {α : Type} (l : List α) : (slice l none (some (-1))).length = l.length - 1 := by
  rw [slice_none_neg_one, List.length_dropLast]

theorem getElem_slice_none_neg_one {α : Type} (l : List α) (k : Nat) (h : k < (slice l none (some (-1))).length) :
    (slice l none (some (-1)))[k] = l[k]'(by rw [length_slice_none_neg_one] at h; omega) := by
  simp only [slice_none_neg_one, List.getElem_dropLast]

theorem pop_nil {α : Type} (i : Int) : pop ([] : List α) i = .error .index := by
  unfold pop; simp

theorem pop_zero_cons {α : Type} (x : α) (l : List α) : pop (x :: l) 0 = .ok (x, l) := by
  simp [pop]

theorem pop_neg_one_snoc {α : Type} (l : List α) (x : α) : pop (l ++ [x]) (-1) = .ok (x, l) := by
  have e : (-1 : Int) + ((l ++ [x]).length : Int) = (l.length : Int) := by simp; omega
  have hn : ¬ ((l.length : Int) < 0 ∨ ((l ++ [x]).length : Int) ≤ (l.length : Int)) := by simp; omega
  simp only [pop, show (-1 : Int) < 0 by omega, if_true, e, Int.toNat_natCast, if_neg hn]
  simp [List.eraseIdx_append_of_length_le]

theorem pop_neg_one_of_reverse {α : Type} {l r : List α} {d : α} (h : l.reverse = d :: r) : pop l (-1) = .ok (d, r.reverse) := by
  rw [← List.reverse_reverse l, h, List.reverse_cons, pop_neg_one_snoc]

theorem setAt_zero_cons {α : Type} (x y : α) (l : List α) : setAt (x :: l) 0 y = .ok (y :: l) := by
  simp [setAt]

theorem setAt_neg_one_snoc {α : Type} (l : List α) (x y : α) : setAt (l ++ [x]) (-1) y = .ok (l ++ [y]) := by
  have e : (-1 : Int) + ((l ++ [x]).length : Int) = (l.length : Int) := by simp; omega
  have hn : ¬ ((l.length : Int) < 0 ∨ ((l ++ [x]).length : Int) ≤ (l.length : Int)) := by simp; omega
  simp only [setAt, show (-1 : Int) < 0 by omega, if_true, e, Int.toNat_natCast, if_neg hn]
  simp

theorem needInt_some (i : Int) : needInt (some i) = .ok i := rfl
theorem needInt_none : needInt none = .error .type := rfl
theorem needObj_some {α : Type} (x : α) : needObj (some x) = .ok x := rfl
theorem needObj_none {α : Type} : needObj (none : Option α) = .error .attribute := rfl

end PyRt
end AgpTpf
