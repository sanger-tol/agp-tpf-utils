/-
  What the row-level definitions of `Model/Basic.lean`, and `cumEnds` of `Model/Lookup.lean`, do on lists built with `::`, `++`,
  `reverse` and `map Row.reverse`.  Nothing here is tagged `simp`.
-/
import AgpTpf.Model.Lookup
import AgpTpf.Proofs.Lib.Py
namespace AgpTpf

theorem Row.isGap_iff {r : Row} : r.isGap = true ↔ ∃ g, r = .gap g := by
  cases r <;> simp [Row.isGap]

theorem Row.isGap_eq_false_iff {r : Row} : r.isGap = false ↔ ∃ f, r = .frag f := by
  cases r <;> simp [Row.isGap]

theorem Fragment.reverse_reverse (f : Fragment) : f.reverse.reverse = f := by
  cases f
  simp only [Fragment.reverse, Fragment.mk.injEq, true_and, and_true]
  omega

theorem Fragment.reverse_length (f : Fragment) : f.reverse.length = f.length := rfl

theorem Row.reverse_reverse (r : Row) : r.reverse.reverse = r := by
  cases r with
  | frag f => exact congrArg Row.frag f.reverse_reverse
  | gap g => rfl

theorem Row.reverse_length (r : Row) : r.reverse.length = r.length := by cases r <;> rfl
theorem Row.reverse_isGap (r : Row) : r.reverse.isGap = r.isGap := by cases r <;> rfl

theorem map_reverse_reverse_rows (l : List Row) : (l.reverse.map Row.reverse).reverse.map Row.reverse = l := by
  simp only [List.map_reverse, List.reverse_reverse, List.map_map]
  exact (List.map_congr_left fun r _ => r.reverse_reverse).trans (List.map_id' l)

theorem fragmentsOf_nil : fragmentsOf [] = [] := rfl
theorem fragmentsOf_cons_frag (f : Fragment) (r : List Row) : fragmentsOf (.frag f :: r) = f :: fragmentsOf r := rfl
theorem fragmentsOf_cons_gap (g : Gap) (r : List Row) : fragmentsOf (.gap g :: r) = fragmentsOf r := rfl

theorem fragmentsOf_append (a b : List Row) : fragmentsOf (a ++ b) = fragmentsOf a ++ fragmentsOf b := by
  induction a with
  | nil => rfl
  | cons r rs ih => cases r <;> simp [fragmentsOf, ih]

theorem fragmentsOf_reverse (l : List Row) : fragmentsOf l.reverse = (fragmentsOf l).reverse := by
  induction l with
  | nil => rfl
  | cons r rs ih => cases r <;> simp [fragmentsOf_append, fragmentsOf, ih]

theorem fragmentsOf_map_reverse (l : List Row) : fragmentsOf (l.map Row.reverse) = (fragmentsOf l).map Fragment.reverse := by
  induction l with
  | nil => rfl
  | cons r rs ih => cases r <;> simp [fragmentsOf, Row.reverse, ih]

theorem fragmentsOf_reverse_map_reverse (l : List Row) :
    fragmentsOf (l.reverse.map Row.reverse) = (fragmentsOf l).reverse.map Fragment.reverse := by
  rw [fragmentsOf_map_reverse, fragmentsOf_reverse]

theorem mem_fragmentsOf {rows : List Row} {f : Fragment} : f ∈ fragmentsOf rows ↔ Row.frag f ∈ rows := by
  induction rows with
  | nil => simp [fragmentsOf]
  | cons r rs ih => cases r <;> simp [fragmentsOf, ih]

theorem fragmentsOf_eq_nil {l : List Row} (h : ∀ r ∈ l, r.isGap = true) : fragmentsOf l = [] := by
  induction l with
  | nil => rfl
  | cons r rs ih =>
    obtain ⟨g, rfl⟩ := Row.isGap_iff.1 (h r List.mem_cons_self)
    exact ih fun x hx => h x (List.mem_cons_of_mem _ hx)

theorem fragmentsOf_map_gap (M : List Gap) : fragmentsOf (M.map Row.gap) = [] :=
  fragmentsOf_eq_nil fun r hr => by obtain ⟨g, _, rfl⟩ := List.mem_map.1 hr; rfl

theorem fragmentsOf_sublist {a b : List Row} (h : a.Sublist b) : (fragmentsOf a).Sublist (fragmentsOf b) := by
  induction h with
  | slnil => exact .slnil
  | cons r _ ih =>
    cases r with
    | frag f => exact ih.cons f
    | gap g => exact ih
  | cons_cons r _ ih =>
    cases r with
    | frag f => exact ih.cons_cons f
    | gap g => exact ih

theorem fragmentsOf_infix {a b : List Row} (h : a <:+: b) : (fragmentsOf a).Sublist (fragmentsOf b) :=
  fragmentsOf_sublist h.sublist

theorem rowsLength_nil : rowsLength [] = 0 := rfl
theorem rowsLength_cons (r : Row) (l : List Row) : rowsLength (r :: l) = r.length + rowsLength l := rfl
theorem rowsLength_singleton (r : Row) : rowsLength [r] = r.length := Int.add_zero _

theorem rowsLength_append (a b : List Row) : rowsLength (a ++ b) = rowsLength a + rowsLength b := by
  simp only [rowsLength, List.map_append, sumInts_append]

theorem rowsLength_reverse (l : List Row) : rowsLength l.reverse = rowsLength l := by
  simp only [rowsLength, List.map_reverse, sumInts_reverse]

theorem rowsLength_map_reverse (l : List Row) : rowsLength (l.map Row.reverse) = rowsLength l := by
  simp only [rowsLength, List.map_map]
  exact congrArg sumInts (List.map_congr_left fun r _ => r.reverse_length)

namespace Scaffold

theorem mem_fragments {s : Scaffold} {f : Fragment} : f ∈ s.fragments ↔ Row.frag f ∈ s.rows := mem_fragmentsOf

theorem reverse_reverse_rows (s : Scaffold) : s.reverse.reverse.rows = s.rows := map_reverse_reverse_rows s.rows

theorem reverse_fragments (s : Scaffold) : s.reverse.fragments = s.fragments.reverse.map Fragment.reverse :=
  fragmentsOf_reverse_map_reverse s.rows

theorem reverse_length (s : Scaffold) : s.reverse.length = s.length :=
  (rowsLength_map_reverse _).trans (rowsLength_reverse _)

theorem appendRows_none (rows othr : List Row) : appendRows rows othr none = rows ++ othr := rfl
theorem appendRows_nil (othr : List Row) (g : Option Gap) : appendRows [] othr g = othr := by cases g <;> rfl

theorem appendRows_some {rows : List Row} (othr : List Row) (g : Gap) (h : rows ≠ []) :
    appendRows rows othr (some g) = rows ++ [Row.gap g] ++ othr := by
  cases rows with
  | nil => exact absurd rfl h
  | cons r rs => rfl

theorem fragmentsOf_appendRows (rows othr : List Row) (g : Option Gap) :
    fragmentsOf (appendRows rows othr g) = fragmentsOf rows ++ fragmentsOf othr := by
  cases rows with
  | nil => rw [appendRows_nil]; rfl
  | cons r rs =>
    cases g with
    | none => exact fragmentsOf_append _ _
    | some g => rw [appendRows_some _ _ (List.cons_ne_nil _ _), fragmentsOf_append, fragmentsOf_append]; simp [fragmentsOf]

theorem fragmentsOf_foldl_appendRows (g : Option Gap) (rs : List (List Row)) (built : List Row) :
    fragmentsOf (rs.foldl (fun built r => appendRows built r g) built) = fragmentsOf built ++ rs.flatMap fragmentsOf := by
  induction rs generalizing built with
  | nil => simp
  | cons r t ih => rw [List.foldl_cons, ih, fragmentsOf_appendRows, List.flatMap_cons, List.append_assoc]

theorem mem_appendRows {rows othr : List Row} {g : Option Gap} {x : Row} (h : x ∈ appendRows rows othr g) :
    x ∈ rows ∨ x ∈ othr ∨ ∃ gg, g = some gg ∧ x = .gap gg := by
  cases rows with
  | nil => rw [appendRows_nil] at h; exact .inr (.inl h)
  | cons r rs =>
    cases g with
    | none => exact (List.mem_append.1 h).elim .inl (.inr ∘ .inl)
    | some g =>
      rw [appendRows_some _ _ (List.cons_ne_nil _ _), List.mem_append, List.mem_append, List.mem_singleton] at h
      rcases h with (h | h) | h
      · exact .inl h
      · exact .inr (.inr ⟨g, rfl, h⟩)
      · exact .inr (.inl h)

theorem appendRows_eq (rows othr : List Row) (g : Option Gap) : ∃ sep, appendRows rows othr g = rows ++ sep ++ othr := by
  cases rows with
  | nil => exact ⟨[], by rw [appendRows_nil]; rfl⟩
  | cons x t =>
    cases g with
    | none => exact ⟨[], by rw [appendRows_none, List.append_nil]⟩
    | some g => exact ⟨[Row.gap g], appendRows_some _ _ (List.cons_ne_nil _ _)⟩

theorem appendRows_prefix (rows othr : List Row) (g : Option Gap) : rows <+: appendRows rows othr g :=
  let ⟨sep, e⟩ := appendRows_eq rows othr g; e ▸ ⟨sep ++ othr, (List.append_assoc ..).symm⟩

theorem appendRows_suffix (rows othr : List Row) (g : Option Gap) : othr <:+ appendRows rows othr g :=
  let ⟨sep, e⟩ := appendRows_eq rows othr g; e ▸ ⟨rows ++ sep, rfl⟩

theorem appendRows_ne_nil (rows : List Row) {othr : List Row} (g : Option Gap) (h : othr ≠ []) : appendRows rows othr g ≠ [] :=
  fun e => h (List.suffix_nil.1 (e ▸ appendRows_suffix rows othr g))

theorem foldl_appendRows_infix (g : Option Gap) : ∀ (rs : List (List Row)) (built r : List Row), r ∈ rs →
    r <:+: rs.foldl (fun built r => appendRows built r g) built
  | [], _, _, h => nomatch h
  | q :: t, built, r, h => by
    have mono : ∀ (l : List (List Row)) (b : List Row), b <:+: l.foldl (fun built r => appendRows built r g) b := by
      intro l
      induction l with
      | nil => exact fun b => List.infix_refl _
      | cons x t ih => exact fun b => (appendRows_prefix b _ _).isInfix.trans (ih _)
    rw [List.foldl_cons]
    rcases List.mem_cons.1 h with rfl | h
    · exact (appendRows_suffix built _ _).isInfix.trans (mono t _)
    · exact foldl_appendRows_infix g t _ r h

theorem mem_fragmentTags {s : Scaffold} {t : Str} : t ∈ s.fragmentTags ↔ ∃ f ∈ s.fragments, t ∈ f.tags ∧ t ≠ [] := by
  have key : ∀ (fs : List Fragment) (acc : List Str),
      t ∈ fs.foldl (fun acc f => (f.tags.filter (fun t => !t.isEmpty)).foldl sAdd acc) acc ↔
        t ∈ acc ∨ ∃ f ∈ fs, t ∈ f.tags ∧ t ≠ [] := by
    intro fs
    induction fs with
    | nil => simp
    | cons f r ih =>
      intro acc
      rw [List.foldl_cons, ih, mem_foldl_sAdd]
      simp only [List.mem_filter, List.mem_cons, Bool.not_eq_true', List.isEmpty_eq_false_iff, exists_eq_or_imp, or_assoc]
  rw [fragmentTags, key]
  simp

theorem nil_not_mem_fragmentTags (s : Scaffold) : [] ∉ s.fragmentTags :=
  fun h => (mem_fragmentTags.1 h).elim fun _ h => h.2.2 rfl

theorem fragmentTags_eq_nil {s : Scaffold} (h : ∀ f ∈ s.fragments, f.tags = []) : s.fragmentTags = [] :=
  List.eq_nil_iff_forall_not_mem.2 fun t ht => by
    obtain ⟨f, hf, htf, _⟩ := mem_fragmentTags.1 ht
    rw [h f hf] at htf
    cases htf

theorem fragmentTags_eq_singleton {s : Scaffold} {t : Str} (ht : t ≠ []) (hne : s.fragments ≠ [])
    (h : ∀ f ∈ s.fragments, f.tags = [t]) : s.fragmentTags = [t] := by
  have hf : [t].filter (fun t => !t.isEmpty) = [t] := by simp [List.isEmpty_eq_false_iff.2 ht]
  have key : ∀ l : List Fragment, (∀ f ∈ l, f.tags = [t]) →
      l.foldl (fun acc f => (f.tags.filter (fun t => !t.isEmpty)).foldl sAdd acc) [t] = [t] := by
    intro l
    induction l with
    | nil => intro _; rfl
    | cons f r ih =>
      intro hl
      rw [List.foldl_cons, hl f (by simp), hf, List.foldl_cons, List.foldl_nil, show sAdd [t] t = [t] by simp [sAdd]]
      exact ih fun g hg => hl g (by simp [hg])
  unfold fragmentTags
  cases hl : s.fragments with
  | nil => exact absurd hl hne
  | cons f r =>
    rw [hl] at h
    rw [List.foldl_cons, h f (by simp), hf, List.foldl_cons, List.foldl_nil, show sAdd [] t = [t] by simp [sAdd]]
    exact key r fun g hg => h g (by simp [hg])

end Scaffold

theorem cumEnds_length (acc : Int) (rows : List Row) : (cumEnds acc rows).length = rows.length := by
  induction rows generalizing acc with
  | nil => rfl
  | cons r rs ih => simp [cumEnds, ih]

theorem cumEnds_getElem? (acc : Int) {rows : List Row} {k : Nat} (hk : k < rows.length) :
    (cumEnds acc rows)[k]? = some (acc + rowsLength (rows.take (k + 1))) := by
  induction rows generalizing acc k with
  | nil => cases hk
  | cons r rows ih =>
    cases k with
    | zero => simp [cumEnds, rowsLength_cons, rowsLength_nil]
    | succ k =>
      simp only [cumEnds, List.getElem?_cons_succ, List.take_succ_cons, rowsLength_cons]
      rw [ih (acc + r.length) (by simpa using hk)]
      congr 1; omega

end AgpTpf
