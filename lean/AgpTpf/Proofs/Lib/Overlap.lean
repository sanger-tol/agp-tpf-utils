/-
  `OverlapResult` (overlap_result.py) and `find_overlaps` (indexed_assembly.py): what each operation of
  `Model/Lookup.lean` does, in the form its users need, so that no proof elsewhere unfolds the operation itself.
  Tagged `simp`, and the only lemmas of `Lib/` that are: `startCut_false`, `endCut_false`, `startCut_keep`, `endCut_keep` (a cut
  that is not made moves nothing) and `trimPiece_oid`.
-/
import AgpTpf.Proofs.Lib.Lookup
namespace AgpTpf

theorem mkFragment_eq_ok {oid name s e st tags f} :
    mkFragment oid name s e st tags = .ok f ↔
      (st = 0 ∨ st = 1 ∨ st = -1) ∧ s ≤ e ∧
        f = { oid := oid, name := name, start := s, stop := e, strand := st, tags := tags } := by
  unfold mkFragment
  split
  · simp [*]
  · split
    · simp; omega
    · simp only [Except.ok.injEq]
      exact ⟨fun h => ⟨by omega, by omega, h.symm⟩, fun h => h.2.2.symm⟩

namespace OverlapResult

/-! ### `rows[0] is f`, `rows[-1] is f` -/

theorem rowIs_frag (g f : Fragment) : rowIs (.frag g) f = (g.oid == f.oid) := rfl
theorem rowIs_gap (g : Gap) (f : Fragment) : rowIs (.gap g) f = false := rfl
theorem rowIs_self (f : Fragment) : rowIs (.frag f) f = true := by simp [rowIs]

theorem rowIs_true {r : Row} {f : Fragment} (h : rowIs r f = true) : ∃ g, r = .frag g ∧ g.oid = f.oid := by
  cases r with
  | frag g => exact ⟨g, rfl, by simpa [rowIs] using h⟩
  | gap g => cases h

theorem firstIs_nil {o : OverlapResult} (f : Fragment) (h : o.rows = []) : firstIs o f = .error .index := by
  rw [firstIs, h, pyGet_nil]; rfl

theorem firstIs_cons (o : OverlapResult) (f : Fragment) (r : Row) (t : List Row) (h : o.rows = r :: t) :
    firstIs o f = .ok (rowIs r f) := by
  rw [firstIs, h, pyGet_zero_cons]; rfl

theorem lastIs_nil {o : OverlapResult} (f : Fragment) (h : o.rows = []) : lastIs o f = .error .index := by
  rw [lastIs, h, pyGet_nil]; rfl

theorem lastIs_concat (o : OverlapResult) (f : Fragment) (r : Row) (t : List Row) (h : o.rows = t ++ [r]) :
    lastIs o f = .ok (rowIs r f) := by
  rw [lastIs, h, pyGet_neg_one_snoc]; rfl

theorem firstIs_ok_iff {o : OverlapResult} {f : Fragment} {a : Bool} :
    firstIs o f = .ok a ↔ ∃ r t, o.rows = r :: t ∧ a = rowIs r f := by
  cases h : o.rows with
  | nil => simp [firstIs_nil f h]
  | cons r t => simp [firstIs_cons o f r t h, eq_comm]

theorem lastIs_ok_iff {o : OverlapResult} {f : Fragment} {b : Bool} :
    lastIs o f = .ok b ↔ ∃ t r, o.rows = t ++ [r] ∧ b = rowIs r f := by
  rcases list_nil_or_concat o.rows with h | ⟨t, r, h⟩
  · simp [lastIs_nil f h, h]
  · rw [lastIs_concat o f r t h, h]
    constructor
    · intro e; exact ⟨t, r, rfl, (Except.ok.inj e).symm⟩
    · rintro ⟨t', r', e, rfl⟩
      rw [(List.append_inj' e rfl).2 |> List.singleton_inj.mp]

theorem lastIs_start (o : OverlapResult) (x : Int) (f : Fragment) : lastIs { o with start := x } f = lastIs o f := rfl

/-- `rows[0] = x` as `trim_fragment` does it (nothing to replace in an empty list) -/
def setFirst {α} (l : List α) (x : α) : List α :=
  match l with
  | [] => []
  | _ :: r => x :: r

theorem setFirst_cons {α} (y : α) (l : List α) (x : α) : setFirst (y :: l) x = x :: l := rfl

theorem setLast_concat {α} (l : List α) (x y : α) : setLast (l ++ [x]) y = l ++ [y] := by
  simp [setLast]

theorem setLast_nil {α} (y : α) : setLast ([] : List α) y = [] := rfl

theorem setLast_singleton {α} (x y : α) : setLast [x] y = [y] := setLast_concat [] x y

theorem length_setLast {α} (l : List α) (y : α) : (setLast l y).length = l.length := by
  rcases list_nil_or_concat l with rfl | ⟨t, x, rfl⟩
  · rfl
  · simp [setLast_concat]

theorem mem_setLast {α} {l : List α} {x y : α} (h : y ∈ setLast l x) : y ∈ l ∨ y = x := by
  rcases list_nil_or_concat l with rfl | ⟨t, z, rfl⟩
  · cases h
  · rw [setLast_concat] at h
    simp only [List.mem_append, List.mem_singleton] at h ⊢
    exact h.imp_left Or.inl

/-- what `trim_fragment` cuts off at the start of the result: the start overhang, when the fragment is the first row
    (`a`), the overhang is positive and `keep_start` is off -/
def startCut (o : OverlapResult) (a ks : Bool) : Int :=
  if a = true ∧ o.startOverhang > 0 ∧ ks = false then o.startOverhang else 0

/-- … and at its end (`b`: the fragment is the last row) -/
def endCut (o : OverlapResult) (b ke : Bool) : Int :=
  if b = true ∧ o.endOverhang > 0 ∧ ke = false then o.endOverhang else 0

theorem startCut_nonneg (o : OverlapResult) (a ks : Bool) : 0 ≤ startCut o a ks := by
  unfold startCut; split <;> omega
theorem endCut_nonneg (o : OverlapResult) (b ke : Bool) : 0 ≤ endCut o b ke := by
  unfold endCut; split <;> omega

@[simp] theorem startCut_false (o : OverlapResult) (ks : Bool) : startCut o false ks = 0 := by simp [startCut]
@[simp] theorem endCut_false (o : OverlapResult) (ke : Bool) : endCut o false ke = 0 := by simp [endCut]
@[simp] theorem startCut_keep (o : OverlapResult) (a : Bool) : startCut o a true = 0 := by simp [startCut]
@[simp] theorem endCut_keep (o : OverlapResult) (b : Bool) : endCut o b true = 0 := by simp [endCut]

theorem startCut_cases (o : OverlapResult) (a ks : Bool) :
    (startCut o a ks = 0) ∨ (a = true ∧ ks = false ∧ o.start < o.bait.start ∧ o.start + startCut o a ks = o.bait.start) := by
  unfold startCut startOverhang; split
  · next h => exact Or.inr ⟨h.1, h.2.2, by omega, by omega⟩
  · exact Or.inl rfl

theorem endCut_cases (o : OverlapResult) (b ke : Bool) :
    (endCut o b ke = 0) ∨ (b = true ∧ ke = false ∧ o.bait.stop < o.stop ∧ o.stop - endCut o b ke = o.bait.stop) := by
  unfold endCut endOverhang; split
  · next h => exact Or.inr ⟨h.1, h.2.2, by omega, by omega⟩
  · exact Or.inl rfl

/-- the Fragment `trim_fragment` creates: `d1` / `d2` scaffold positions shorter at the result's start / end side, which
    for a plus-strand fragment are its `start` / `end` and for any other strand its `end` / `start`; tagged `Cut`, with
    the bait's tags other than `Painted` -/
def trimPiece (o : OverlapResult) (trim : Fragment) (oid : Nat) (d1 d2 : Int) : Fragment :=
  { oid := oid, name := trim.name,
    start := trim.start + (if trim.strand = 1 then d1 else d2),
    stop := trim.stop - (if trim.strand = 1 then d2 else d1),
    strand := trim.strand, tags := Gen.cutTag :: o.bait.tags.filter (fun t => t ≠ Gen.paintedTag) }

@[simp] theorem trimPiece_oid (o : OverlapResult) (t : Fragment) (oid : Nat) (d1 d2 : Int) :
    (trimPiece o t oid d1 d2).oid = oid := rfl
theorem trimPiece_start (o : OverlapResult) (t : Fragment) (oid : Nat) (d1 d2 : Int) :
    (trimPiece o t oid d1 d2).start = t.start + (if t.strand = 1 then d1 else d2) := rfl
theorem trimPiece_stop (o : OverlapResult) (t : Fragment) (oid : Nat) (d1 d2 : Int) :
    (trimPiece o t oid d1 d2).stop = t.stop - (if t.strand = 1 then d2 else d1) := rfl

theorem trimPiece_coords (o : OverlapResult) (t : Fragment) (oid : Nat) (d1 d2 : Int) :
    if t.strand = 1 then (trimPiece o t oid d1 d2).start = t.start + d1 ∧ (trimPiece o t oid d1 d2).stop = t.stop - d2
    else (trimPiece o t oid d1 d2).start = t.start + d2 ∧ (trimPiece o t oid d1 d2).stop = t.stop - d1 := by
  rw [trimPiece_start, trimPiece_stop]; split <;> exact ⟨rfl, rfl⟩

theorem trimPiece_within (o : OverlapResult) (t : Fragment) (oid : Nat) {d1 d2 : Int} (h1 : 0 ≤ d1) (h2 : 0 ≤ d2) :
    t.start ≤ (trimPiece o t oid d1 d2).start ∧ (trimPiece o t oid d1 d2).stop ≤ t.stop := by
  rw [trimPiece_start, trimPiece_stop]; split <;> omega

/-- the start-side branch of `trim_fragment` on plain numbers: one test decides the cut `d`, the strand (`p`) only says
    at which end of the fragment it falls -/
theorem cutStart_eq (a ks : Bool) (p : Prop) [Decidable p] (ovr s e st : Int) :
    (if a = true then
        if ovr > 0 ∧ ¬ ks = true then (if p then (s + ovr, e, st + ovr) else (s, e - ovr, st + ovr)) else (s, e, st)
      else (s, e, st)) =
    (s + (if p then (if a = true ∧ ovr > 0 ∧ ks = false then ovr else 0) else 0),
     e - (if p then 0 else (if a = true ∧ ovr > 0 ∧ ks = false then ovr else 0)),
     st + (if a = true ∧ ovr > 0 ∧ ks = false then ovr else 0)) := by
  by_cases c : a = true ∧ ovr > 0 ∧ ks = false
  · obtain ⟨rfl, h, rfl⟩ := c
    by_cases hp : p <;> simp [h, hp]
  · have : ¬ (a = true ∧ (ovr > 0 ∧ ¬ ks = true)) := by simpa using c
    rw [if_neg c]
    by_cases ha : a = true
    · rw [if_pos ha, if_neg (fun h => this ⟨ha, h⟩)]; simp
    · rw [if_neg ha]; simp

theorem cutEnd_eq (b ke : Bool) (p : Prop) [Decidable p] (ovr s e en : Int) :
    (if b = true then
        if ovr > 0 ∧ ¬ ke = true then (if p then (s, e - ovr, en - ovr) else (s + ovr, e, en - ovr)) else (s, e, en)
      else (s, e, en)) =
    (s + (if p then 0 else (if b = true ∧ ovr > 0 ∧ ke = false then ovr else 0)),
     e - (if p then (if b = true ∧ ovr > 0 ∧ ke = false then ovr else 0) else 0),
     en - (if b = true ∧ ovr > 0 ∧ ke = false then ovr else 0)) := by
  by_cases c : b = true ∧ ovr > 0 ∧ ke = false
  · obtain ⟨rfl, h, rfl⟩ := c
    by_cases hp : p <;> simp [h, hp]
  · have : ¬ (b = true ∧ (ovr > 0 ∧ ¬ ke = true)) := by simpa using c
    rw [if_neg c]
    by_cases hb : b = true
    · rw [if_pos hb, if_neg (fun h => this ⟨hb, h⟩)]; simp
    · rw [if_neg hb]; simp

theorem endOverhang_start (o : OverlapResult) (x : Int) : ({ o with start := x }).endOverhang = o.endOverhang := rfl

/-- `trim_fragment` in one piece: `a` / `b` = "`trim` is the first / last row"; if both, the last row is the one replaced -/
theorem trimFragment_eq (o : OverlapResult) (trim : Fragment) (ks ke : Bool) (oid : Nat) :
    trimFragment o trim ks ke oid = (do
      let a ← firstIs o trim
      let b ← lastIs o trim
      if a = false ∧ b = false then .error .value
      else do
        let new ← mkFragment oid trim.name (trimPiece o trim oid (startCut o a ks) (endCut o b ke)).start
          (trimPiece o trim oid (startCut o a ks) (endCut o b ke)).stop trim.strand
          (Gen.cutTag :: o.bait.tags.filter (fun t => t ≠ Gen.paintedTag))
        pure ({ o with start := o.start + startCut o a ks, stop := o.stop - endCut o b ke,
                       rows := if b = true then setLast o.rows (.frag new) else setFirst o.rows (.frag new) }, new)) := by
  unfold trimFragment
  simp only [lastIs_start, endOverhang_start, cutStart_eq, cutEnd_eq]
  -- what is left: put the two one-sided cuts together (by strand), and `rows[0] = new` is `setFirst`
  by_cases p : trim.strand = 1 <;>
    simp only [p, if_true, if_false, Int.add_zero, Int.sub_zero, Bool.not_eq_true, trimPiece, startCut, endCut] <;>
    cases o.rows <;> rfl

theorem trimFragment_ok_iff {o o' : OverlapResult} {trim new : Fragment} {ks ke : Bool} {oid : Nat} :
    trimFragment o trim ks ke oid = .ok (o', new) ↔
      ∃ a b, firstIs o trim = .ok a ∧ lastIs o trim = .ok b ∧ (a = true ∨ b = true) ∧
        (trim.strand = 0 ∨ trim.strand = 1 ∨ trim.strand = -1) ∧
        new = trimPiece o trim oid (startCut o a ks) (endCut o b ke) ∧ new.start ≤ new.stop ∧
        o' = { o with start := o.start + startCut o a ks, stop := o.stop - endCut o b ke,
                      rows := if b = true then setLast o.rows (.frag new) else setFirst o.rows (.frag new) } := by
  rw [trimFragment_eq]
  cases firstIs o trim with
  | error e => simp [bind, Except.bind]
  | ok a =>
    cases lastIs o trim with
    | error e => simp [bind, Except.bind]
    | ok b =>
      simp only [bind, Except.bind, Except.ok.injEq, exists_and_left, exists_eq_left']
      by_cases hab : a = false ∧ b = false
      · simp [hab]
      · rw [if_neg hab]
        have hab' : a = true ∨ b = true := by cases a <;> cases b <;> simp_all
        cases hm : mkFragment oid trim.name (trimPiece o trim oid (startCut o a ks) (endCut o b ke)).start
            (trimPiece o trim oid (startCut o a ks) (endCut o b ke)).stop trim.strand
            (Gen.cutTag :: o.bait.tags.filter (fun t => t ≠ Gen.paintedTag)) with
        | error e =>
          simp only [reduceCtorEq, false_iff, not_and]
          rintro - hs rfl hle -
          have := (mkFragment_eq_ok (f := trimPiece o trim oid (startCut o a ks) (endCut o b ke))).mpr ⟨hs, hle, rfl⟩
          rw [hm] at this; cases this
        | ok f =>
          obtain ⟨hs, hle, rfl⟩ := mkFragment_eq_ok.mp hm
          simp only [pure, Except.pure, Except.ok.injEq, Prod.mk.injEq]
          constructor
          · rintro ⟨rfl, rfl⟩; exact ⟨hab', hs, rfl, hle, rfl⟩
          · rintro ⟨-, -, rfl, -, rfl⟩; exact ⟨rfl, rfl⟩

theorem trimFragment_rows {o o' : OverlapResult} {trim new : Fragment} {ks ke : Bool} {oid : Nat}
    (h : trimFragment o trim ks ke oid = .ok (o', new)) :
    (∃ t g, o.rows = t ++ [.frag g] ∧ g.oid = trim.oid ∧ o'.rows = t ++ [.frag new]) ∨
    (∃ t g, o.rows = .frag g :: t ∧ g.oid = trim.oid ∧ o'.rows = .frag new :: t) := by
  obtain ⟨a, b, ha, hb, hab, -, -, -, rfl⟩ := trimFragment_ok_iff.mp h
  obtain ⟨r, t, hr, rfl⟩ := firstIs_ok_iff.mp ha
  obtain ⟨t', r', hr', rfl⟩ := lastIs_ok_iff.mp hb
  cases hb' : rowIs r' trim with
  | true =>
    obtain ⟨g, rfl, hg⟩ := rowIs_true hb'
    exact Or.inl ⟨t', g, hr', hg, by simp [hr', setLast_concat]⟩
  | false =>
    obtain ⟨g, rfl, hg⟩ := rowIs_true (hab.resolve_right (by simp [hb']))
    exact Or.inr ⟨t, g, hr, hg, by simp [hr, setFirst_cons]⟩

theorem trimFragment_empty {o : OverlapResult} (f : Fragment) (ks ke : Bool) (oid : Nat) (h : o.rows = []) :
    trimFragment o f ks ke oid = .error .index := by
  rw [trimFragment_eq, firstIs_nil f h]; rfl

theorem startRowBaitOverlap_ok {o : OverlapResult} {r : Row} {t : List Row} (hr : o.rows = r :: t) :
    startRowBaitOverlap o =
      .ok (max 0 (min o.bait.stop (o.start + r.length - 1) - max o.bait.start o.start + 1)) := by
  unfold startRowBaitOverlap
  rw [hr, pyGet_zero_cons]
  simp only [bind, Except.bind, pure, Except.pure, Except.ok.injEq]
  split <;> omega

theorem startRowBaitOverlap_eq {o : OverlapResult} {n : Int} (h : startRowBaitOverlap o = .ok n) :
    ∃ r t, o.rows = r :: t ∧
      n = max 0 (min o.bait.stop (o.start + r.length - 1) - max o.bait.start o.start + 1) := by
  cases hr : o.rows with
  | nil => rw [startRowBaitOverlap, hr, pyGet_nil] at h; cases h
  | cons r t => rw [startRowBaitOverlap_ok hr] at h; exact ⟨r, t, rfl, (Except.ok.inj h).symm⟩

theorem endRowBaitOverlap_ok {o : OverlapResult} {r : Row} {t : List Row} (hr : o.rows = t ++ [r]) :
    endRowBaitOverlap o =
      .ok (max 0 (min o.bait.stop o.stop - max o.bait.start (o.stop - r.length + 1) + 1)) := by
  unfold endRowBaitOverlap
  rw [hr, pyGet_neg_one_snoc]
  simp only [bind, Except.bind, pure, Except.pure, Except.ok.injEq]
  split <;> omega

theorem startRowBaitOverlap_single {o : OverlapResult} {r : Row} (hr : o.rows = [r])
    (hspan : o.stop - o.start + 1 = r.length) : o.startRowBaitOverlap = o.endRowBaitOverlap := by
  rw [startRowBaitOverlap_ok hr, endRowBaitOverlap_ok (t := []) hr, show o.start + r.length - 1 = o.stop by omega,
    show o.stop - r.length + 1 = o.start by omega]

theorem endRowBaitOverlap_eq {o : OverlapResult} {n : Int} (h : endRowBaitOverlap o = .ok n) :
    ∃ r t, o.rows = t ++ [r] ∧
      n = max 0 (min o.bait.stop o.stop - max o.bait.start (o.stop - r.length + 1) + 1) := by
  rcases list_nil_or_concat o.rows with hr | ⟨t, r, hr⟩
  · rw [endRowBaitOverlap, hr, pyGet_nil] at h; cases h
  · rw [endRowBaitOverlap_ok hr] at h; exact ⟨r, t, hr, (Except.ok.inj h).symm⟩

theorem leadingGapLength_eq_takeWhile (l : List Row) : leadingGapLength l = rowsLength (l.takeWhile Row.isGap) := by
  induction l with
  | nil => rfl
  | cons x t ih =>
    cases x with
    | frag f => rfl
    | gap g => rw [leadingGapLength, ih]; rfl

theorem popLeadingGaps_eq (l : List Row) (a : Int) :
    popLeadingGaps l a = (l.dropWhile Row.isGap, a + rowsLength (l.takeWhile Row.isGap)) := by
  induction l generalizing a with
  | nil => simp [popLeadingGaps, rowsLength_nil]
  | cons x t ih =>
    cases x with
    | frag f => simp [popLeadingGaps, Row.isGap, rowsLength_nil]
    | gap g => simp only [popLeadingGaps, ih, List.dropWhile_cons, List.takeWhile_cons, Row.isGap, if_true, rowsLength_cons, Row.length,
        Int.add_assoc]

theorem popLeadingGaps_snd (l : List Row) (st : Int) : (popLeadingGaps l st).2 = st + leadingGapLength l := by
  rw [popLeadingGaps_eq, leadingGapLength_eq_takeWhile]

theorem popLeadingGaps_spec (L : List Row) (st : Int) :
    ∃ G T, L = G ++ T ∧ (∀ r ∈ G, r.isGap = true) ∧ popLeadingGaps L st = (T, st + rowsLength G) ∧
      (T = [] ∨ ∃ f T', T = .frag f :: T') := by
  refine ⟨L.takeWhile Row.isGap, L.dropWhile Row.isGap, List.takeWhile_append_dropWhile.symm,
    fun r hr => List.all_eq_true.1 List.all_takeWhile r hr, popLeadingGaps_eq L st, ?_⟩
  cases h : L.dropWhile Row.isGap with
  | nil => exact .inl rfl
  | cons x T' =>
    have hx := List.head_dropWhile_not Row.isGap (l := L) (by rw [h]; exact List.cons_ne_nil _ _)
    simp only [h, List.head_cons] at hx
    cases x with
    | frag f => exact .inr ⟨f, T', rfl⟩
    | gap g => cases hx

theorem discardStart_empty {o : OverlapResult} (h : o.rows = []) : discardStart o = .error .index := by
  unfold discardStart; rw [h]
theorem discardEnd_empty {o : OverlapResult} (h : o.rows = []) : discardEnd o = .error .index := by
  unfold discardEnd; rw [h]; rfl

theorem discardStart_returns {o : OverlapResult} (h : o.rows ≠ []) : ∃ o', o.discardStart = .ok o' := by
  unfold discardStart
  cases hr : o.rows with
  | nil => exact absurd hr h
  | cons x t => exact ⟨_, rfl⟩

theorem discardEnd_returns {o : OverlapResult} (h : o.rows ≠ []) : ∃ o', o.discardEnd = .ok o' := by
  unfold discardEnd
  cases hr : o.rows.reverse with
  | nil => exact absurd (List.reverse_eq_nil_iff.mp hr) h
  | cons x t => exact ⟨_, rfl⟩

theorem discardStart_ok {o o' : OverlapResult} (h : discardStart o = .ok o') :
    ∃ d G T, o.rows = d :: (G ++ T) ∧ (∀ r ∈ G, r.isGap = true) ∧ (T = [] ∨ ∃ f T', T = .frag f :: T') ∧
      o' = { o with rows := T, start := o.start + d.length + rowsLength G } := by
  unfold discardStart at h
  split at h
  · cases h
  · rename_i d r hr
    obtain ⟨G, T, hL, hG, hp, hT⟩ := popLeadingGaps_spec r (o.start + d.length)
    rw [hp] at h
    exact ⟨d, G, T, by rw [hr, hL], hG, hT, (Except.ok.inj h).symm⟩

theorem discardEnd_ok {o o' : OverlapResult} (h : discardEnd o = .ok o') :
    ∃ d G T, o.rows = T ++ G ++ [d] ∧ (∀ r ∈ G, r.isGap = true) ∧ (T = [] ∨ ∃ f T', T = T' ++ [.frag f]) ∧
      o' = { o with rows := T, stop := o.stop - d.length - rowsLength G } := by
  unfold discardEnd at h
  split at h
  · cases h
  · rename_i d r hr
    obtain ⟨G, T, hL, hG, hp, hT⟩ := popLeadingGaps_spec r d.length
    rw [hp] at h
    refine ⟨d, G.reverse, T.reverse, ?_, fun x hx => hG x (List.mem_reverse.mp hx), ?_, ?_⟩
    · have := congrArg List.reverse hr
      simpa [hL] using this
    · rcases hT with rfl | ⟨f, T', rfl⟩
      · exact Or.inl rfl
      · exact Or.inr ⟨f, T'.reverse, by simp⟩
    · rw [← Except.ok.inj h, rowsLength_reverse, Int.sub_sub]

theorem overhangIfStartRemoved_eq {o : OverlapResult} {x : Int} (h : overhangIfStartRemoved o = .ok x) :
    ∃ o', discardStart o = .ok o' ∧ x = o'.startOverhang := by
  unfold overhangIfStartRemoved at h
  unfold discardStart
  split at h
  · cases h
  · simp only [Except.ok.injEq] at h
    refine ⟨_, rfl, ?_⟩
    simp only [startOverhang, popLeadingGaps_snd]
    omega

theorem overhangIfEndRemoved_eq {o : OverlapResult} {x : Int} (h : overhangIfEndRemoved o = .ok x) :
    ∃ o', discardEnd o = .ok o' ∧ x = o'.endOverhang := by
  unfold overhangIfEndRemoved at h
  unfold discardEnd
  split at h
  · cases h
  · simp only [Except.ok.injEq] at h
    refine ⟨_, rfl, ?_⟩
    simp only [endOverhang, popLeadingGaps_snd]
    omega

/-- The test both ends of `trim_large_overhangs` make: under `c` (the overhang exceeds `err`) the overlap `g` of the
    terminal row with the bait is computed, and `act` (the discard) runs iff it is below `err`. -/
theorem guarded_ok {α : Type} {c : Prop} [Decidable c] {g : R Int} {err : Int} {act : R α} {x y : α}
    (h : (if c then do let ov ← g; if ov < err then act else pure x else pure x) = .ok y) :
    ((c ∧ ∃ ov, g = .ok ov ∧ ov < err) ∧ act = .ok y) ∨ (¬ (c ∧ ∃ ov, g = .ok ov ∧ ov < err) ∧ y = x) := by
  by_cases hc : c
  · rw [if_pos hc] at h
    cases g with
    | error e => cases h
    | ok ov =>
      by_cases hlt : ov < err
      · exact .inl ⟨⟨hc, ov, rfl, hlt⟩, by simpa only [bind, Except.bind, if_pos hlt] using h⟩
      · refine .inr ⟨fun ⟨_, ov', hv, hlt'⟩ => ?_, ?_⟩
        · cases hv; exact hlt hlt'
        · simpa only [bind, Except.bind, if_neg hlt, pure, Except.pure, Except.ok.injEq, eq_comm] using h
  · rw [if_neg hc] at h
    exact .inr ⟨fun hh => hc hh.1, (Except.ok.inj h).symm⟩

theorem guarded_skip {α : Type} {c : Prop} [Decidable c] {g : R Int} {err : Int} {act : R α} {x : α}
    (h : ¬ c ∨ ∃ ov, g = .ok ov ∧ err ≤ ov) :
    (if c then do let ov ← g; if ov < err then act else pure x else pure x) = .ok x := by
  by_cases hc : c
  · obtain ⟨ov, rfl, hge⟩ := h.resolve_left (fun h => h hc)
    rw [if_pos hc]
    exact if_neg (by omega)
  · exact if_neg hc

/-- start phase of `trim_large_overhangs`; the flag records the discard -/
def trimStartPhase (o : OverlapResult) (err : Int) : R (OverlapResult × Bool) :=
  if o.startOverhang > err then do
    let ov ← o.startRowBaitOverlap
    if ov < err then do let o' ← o.discardStart; pure (o', true) else pure (o, false)
  else pure (o, false)

/-- end phase, the mirror image; skipped when the start phase has removed the only row -/
def trimEndPhase (o1 : OverlapResult) (discarded : Bool) (err : Int) : R OverlapResult :=
  if discarded ∧ o1.rows.isEmpty then pure o1
  else if o1.endOverhang > err then do
    let ov ← o1.endRowBaitOverlap
    if ov < err then o1.discardEnd else pure o1
  else pure o1

theorem trimLargeOverhangs_eq (o : OverlapResult) (err : Int) :
    o.trimLargeOverhangs err =
      if o.rows.length = 1 ∧ o.bait.length > err then .ok o
      else (trimStartPhase o err) >>= fun p => trimEndPhase p.1 p.2 err := by
  unfold OverlapResult.trimLargeOverhangs trimStartPhase
  by_cases c0 : o.rows.length = 1 ∧ o.bait.length > err
  · rw [if_pos c0, if_pos c0]
  · rw [if_neg c0, if_neg c0]
    by_cases c1 : o.startOverhang > err
    · simp only [c1, ↓reduceIte]
      cases o.startRowBaitOverlap with
      | error e => rfl
      | ok ov =>
        simp only [bind, Except.bind]
        by_cases c2 : ov < err
        · simp only [c2, ↓reduceIte]
          cases o.discardStart with
          | error e => rfl
          | ok o2 => rfl
        · simp only [c2, ↓reduceIte]; rfl
    · simp only [c1, ↓reduceIte]; rfl

theorem trimStartPhase_ok {o : OverlapResult} {err : Int} {p : OverlapResult × Bool} (h : trimStartPhase o err = .ok p) :
    ((o.startOverhang > err ∧ ∃ ov, o.startRowBaitOverlap = .ok ov ∧ ov < err) ∧ discardStart o = .ok p.1 ∧ p.2 = true) ∨
    (¬ (o.startOverhang > err ∧ ∃ ov, o.startRowBaitOverlap = .ok ov ∧ ov < err) ∧ p = (o, false)) := by
  refine (guarded_ok h).imp_left (And.imp_right fun ha => ?_)
  cases hd : o.discardStart with
  | error e => rw [hd] at ha; cases ha
  | ok o1 => rw [hd] at ha; cases ha; exact ⟨rfl, rfl⟩

theorem trimEndPhase_ok {o1 o' : OverlapResult} {d : Bool} {err : Int} (h : trimEndPhase o1 d err = .ok o') :
    (d = true ∧ o1.rows = [] ∧ o' = o1) ∨
    (¬ (d = true ∧ o1.rows = []) ∧
      (((o1.endOverhang > err ∧ ∃ ov, o1.endRowBaitOverlap = .ok ov ∧ ov < err) ∧ discardEnd o1 = .ok o') ∨
       (¬ (o1.endOverhang > err ∧ ∃ ov, o1.endRowBaitOverlap = .ok ov ∧ ov < err) ∧ o' = o1))) := by
  unfold trimEndPhase at h
  split at h
  · next hc => exact .inl ⟨hc.1, List.isEmpty_iff.mp hc.2, (Except.ok.inj h).symm⟩
  · next hc => exact .inr ⟨fun hh => hc ⟨hh.1, List.isEmpty_iff.mpr hh.2⟩, guarded_ok h⟩

theorem trimLarge_phases {o o' : OverlapResult} {err : Int} (h : trimLargeOverhangs o err = .ok o') :
    ((o.rows.length = 1 ∧ o.bait.length > err) ∧ o' = o) ∨
    (¬ (o.rows.length = 1 ∧ o.bait.length > err) ∧
      ∃ p, trimStartPhase o err = .ok p ∧ trimEndPhase p.1 p.2 err = .ok o') := by
  rw [trimLargeOverhangs_eq] at h
  split at h
  · next hc => exact .inl ⟨hc, (Except.ok.inj h).symm⟩
  · next hc =>
    cases hp : trimStartPhase o err with
    | error e => rw [hp] at h; cases h
    | ok p => rw [hp] at h; exact .inr ⟨hc, p, rfl, h⟩

theorem trimLarge_cases {o o' : OverlapResult} {e : Int} (h : trimLargeOverhangs o e = .ok o') :
    o' = o ∨ discardStart o = .ok o' ∨ discardEnd o = .ok o' ∨
      ∃ o1, discardStart o = .ok o1 ∧ discardEnd o1 = .ok o' := by
  obtain ⟨-, rfl⟩ | ⟨-, ⟨o1, d⟩, hs, he⟩ := trimLarge_phases h
  · exact .inl rfl
  · obtain ⟨-, hd, -⟩ | ⟨-, hp⟩ := trimStartPhase_ok hs
    · obtain ⟨-, -, rfl⟩ | ⟨-, ⟨-, h2⟩ | ⟨-, rfl⟩⟩ := trimEndPhase_ok he
      · exact .inr (.inl hd)
      · exact .inr (.inr (.inr ⟨o1, hd, h2⟩))
      · exact .inr (.inl hd)
    · cases hp
      obtain ⟨-, -, rfl⟩ | ⟨-, ⟨-, h2⟩ | ⟨-, rfl⟩⟩ := trimEndPhase_ok he
      · exact .inl rfl
      · exact .inr (.inr (.inl h2))
      · exact .inl rfl

theorem trimLarge_noop (o : OverlapResult) (err : Int)
    (hs : o.startOverhang ≤ err ∨ ∃ ov, o.startRowBaitOverlap = .ok ov ∧ err ≤ ov)
    (he : o.endOverhang ≤ err ∨ ∃ ov, o.endRowBaitOverlap = .ok ov ∧ err ≤ ov) :
    o.trimLargeOverhangs err = .ok o := by
  have h1 : trimStartPhase o err = .ok (o, false) := guarded_skip (hs.imp_left Int.not_lt.mpr)
  have h2 : trimEndPhase o false err = .ok o := (if_neg (by simp)).trans (guarded_skip (he.imp_left Int.not_lt.mpr))
  rw [trimLargeOverhangs_eq, h1]
  split
  · rfl
  · exact h2

theorem discardStart_keeps {o o' : OverlapResult} (h : o.discardStart = .ok o') : o'.rows <:+ o.rows ∧ o'.bait = o.bait := by
  obtain ⟨d, G, T, hr, _, _, rfl⟩ := discardStart_ok h
  exact ⟨hr ▸ ⟨d :: G, rfl⟩, rfl⟩

theorem discardEnd_keeps {o o' : OverlapResult} (h : o.discardEnd = .ok o') : o'.rows <+: o.rows ∧ o'.bait = o.bait := by
  obtain ⟨d, G, T, hr, _, _, rfl⟩ := discardEnd_ok h
  exact ⟨hr ▸ ⟨G ++ [d], (List.append_assoc ..).symm⟩, rfl⟩

theorem trimLarge_keeps {o o' : OverlapResult} {err : Int} (h : o.trimLargeOverhangs err = .ok o') :
    o'.rows <:+: o.rows ∧ o'.bait = o.bait := by
  rcases trimLarge_cases h with rfl | h1 | h1 | ⟨o1, h1, h2⟩
  · exact ⟨List.infix_refl _, rfl⟩
  · exact ⟨(discardStart_keeps h1).1.isInfix, (discardStart_keeps h1).2⟩
  · exact ⟨(discardEnd_keeps h1).1.isInfix, (discardEnd_keeps h1).2⟩
  · exact ⟨(discardEnd_keeps h2).1.isInfix.trans (discardStart_keeps h1).1.isInfix,
      (discardEnd_keeps h2).2.trans (discardStart_keeps h1).2⟩

theorem trimFragment_bait {o o' : OverlapResult} {f new : Fragment} {ks ke : Bool} {n : Nat}
    (h : o.trimFragment f ks ke n = .ok (o', new)) : o'.bait = o.bait := by
  obtain ⟨a, b, -, -, -, -, -, -, rfl⟩ := trimFragment_ok_iff.mp h
  rfl

theorem trimFragment_oid {o o' : OverlapResult} {f new : Fragment} {ks ke : Bool} {n : Nat}
    (h : o.trimFragment f ks ke n = .ok (o', new)) : new.oid = n := by
  obtain ⟨a, b, -, -, -, -, rfl, -, -⟩ := trimFragment_ok_iff.mp h
  rfl

theorem mem_trimFragment_rows {o o' : OverlapResult} {f new : Fragment} {ks ke : Bool} {n : Nat}
    (h : o.trimFragment f ks ke n = .ok (o', new)) {x : Row} (hx : x ∈ o'.rows) : x ∈ o.rows ∨ x = .frag new := by
  rcases trimFragment_rows h with ⟨t, g, hr, -, hr'⟩ | ⟨t, g, hr, -, hr'⟩
  · rw [hr'] at hx; rw [hr]
    rcases List.mem_append.mp hx with m | m
    · exact .inl (List.mem_append_left _ m)
    · exact .inr (List.mem_singleton.mp m)
  · rw [hr'] at hx; rw [hr]
    rcases List.mem_cons.mp hx with m | m
    · exact .inr m
    · exact .inl (List.mem_cons_of_mem _ m)

theorem mem_toScaffoldRows {o : OverlapResult} {x : Row} (h : x ∈ o.toScaffoldRows) :
    x ∈ o.rows ∨ ∃ y ∈ o.rows, x = y.reverse := by
  unfold toScaffoldRows at h
  split at h
  · obtain ⟨y, hy, rfl⟩ := List.mem_map.mp h
    exact .inr ⟨y, List.mem_reverse.mp hy, rfl⟩
  · exact .inl h

end OverlapResult

/-- the last conjunct: every field the lookup does not compute is at its default (no tag, no haplotype, rank 0), the name a
    placeholder -/
theorem findOverlaps_fields {src : List Row} {bait : Fragment} {o : OverlapResult}
    (h : findOverlaps src bait = .ok (some o)) :
    ∃ i j : Nat, i ≤ j ∧ j < src.length ∧
      (∃ r, src[i]? = some r ∧ r.isGap = false) ∧ (∃ r, src[j]? = some r ∧ r.isGap = false) ∧
      o.rows = (src.drop i).take (j + 1 - i) ∧
      o.start = 1 + rowsLength (src.take i) ∧ o.stop = rowsLength (src.take (j + 1)) ∧
      o = { bait := bait, start := o.start, stop := o.stop, rows := o.rows, name := "matches".toList } := by
  obtain ⟨i, j, hij, hj, hfi, hfj, rfl⟩ := C12.findOverlaps_some h
  obtain ⟨fi, hfi⟩ := (C12.fragAt_iff src i).1 hfi
  obtain ⟨fj, hfj⟩ := (C12.fragAt_iff src j).1 hfj
  exact ⟨i, j, hij, hj, ⟨_, hfi, rfl⟩, ⟨_, hfj, rfl⟩, rfl, rfl, rfl, rfl⟩

theorem findOverlaps_fresh {rows : List Row} {bait : Fragment} {o : OverlapResult}
    (h : findOverlaps rows bait = .ok (some o)) : o.bait = bait ∧ o.tag = none ∧ o.rows ≠ [] ∧ o.rows <:+: rows := by
  obtain ⟨i, j, hij, hj, -, -, hr, -, -, ho⟩ := findOverlaps_fields h
  refine ⟨congrArg OverlapResult.bait ho, congrArg OverlapResult.tag ho, ?_, ?_⟩
  · intro e
    have := congrArg List.length (hr.symm.trans e)
    simp only [List.length_take, List.length_drop, List.length_nil] at this
    omega
  · rw [hr]; exact (List.take_prefix _ _).isInfix.trans (List.drop_suffix _ _).isInfix

end AgpTpf
