/-
  `ScaffoldNamer.make_scaffold_name` (`scanTag`, `makeScaffoldName` of `Model/Remap.lean`) seen from outside.
  THE TAG LOOP IN CLOSED FORM (`foldlM_scanTag_eq`).  The loop writes five things that do not depend on one another: three flags, which
  are membership tests; the chromosome name, a fold over the chromosome-name tags alone; the haplotype, a fold over the
  haplotype-class tags alone, on the dictionary alone.  Only the last two raise, both TaggingError, so the order in which the two kinds
  of tag are met is immaterial.
  The rest of the method is four stages (`makeScaffoldName_eq`) with one inversion each; of the results about the method as a whole
  `makeScaffoldName_frame` and `_name` hold of every call that returns, `_spellings`, `_haplotype` (no `Primary` tag; one
  haplotype-class tag at most) and `_nohap` say under which hypotheses on the tags and the first row.
  `ScaffoldNamer.label_scaffold` (`labelScaffold`) as one equation (`labelScaffold_eq`): it raises only for an Unloc piece of an unpainted
  scaffold; the namer it returns (`bump`) and the name it gives (`pieceName`) are functions of the namer before and of the two Booleans
  `C10.isHapPiece`, `C10.isUnlocPiece`; tag and rank (`finalTag`, `preTag`) also read the tags of the piece and of its scaffold, the
  result's tag and the namer's mode and rank.
-/
import AgpTpf.Model.Remap
import AgpTpf.Model.PyRtHeap
import AgpTpf.Proofs.Lib.Py
namespace AgpTpf

namespace C17

/-- what `make_scaffold_name` does with one tag -/
inductive TagClass where
  | painted | target | primary | chr | hap | other
  deriving DecidableEq, Repr

def tagClass (t : Str) : TagClass :=
  if t = sPainted then .painted
  else if t = sTarget then .target
  else if t = sPrimary then .primary
  else if isChrNameTag t then .chr
  else if ¬ Gen.otherKnownTags.contains t then .hap
  else .other

def NamerOk (n : Namer) : Prop := ∀ kv ∈ n.haplotypeLc, kv.2 ≠ []

end C17
open C17 (TagClass tagClass NamerOk)

theorem scanTag_eq (n : Namer) (s : TagScan) (tag : Str) :
    scanTag (n, s) tag =
      match tagClass tag with
      | .painted => .ok (n, { s with isPainted := true })
      | .target => .ok ({ n with targetTags := true }, s)
      | .primary => .ok (n, { s with primaryTag := true })
      | .chr =>
        if truthy s.scaffoldName ∧ s.scaffoldName ≠ some tag then .error .tagging
        else .ok (n, { s with scaffoldName := some tag, rank := some 2 })
      | .hap =>
        if truthy s.haplotype then .error .tagging
        else .ok ((n.getSetHaplotype tag).1, { s with haplotype := some (n.getSetHaplotype tag).2 })
      | .other => .ok (n, s) := by
  unfold scanTag tagClass
  have c1 : sTarget ≠ sPainted := by decide
  have c2 : sPrimary ≠ sPainted := by decide
  have c3 : sPrimary ≠ sTarget := by decide
  by_cases h1 : tag = sPainted
  · simp [h1]
  by_cases h2 : tag = sTarget
  · simp [h2, c1]
  by_cases h3 : tag = sPrimary
  · simp [h3, c2, c3]
  by_cases h4 : isChrNameTag tag = true
  · simp [h1, h2, h3, h4]
  by_cases h5 : tag ∈ Gen.otherKnownTags
  · simp [h1, h2, h3, h4, h5]
  · simp [h1, h2, h3, h4, h5]

/-- what each class says about the tag (`tagClass` tests in this order) -/
theorem tagClass_spec (t : Str) :
    match tagClass t with
    | .painted => t = sPainted
    | .target => t = sTarget ∧ t ≠ sPainted
    | .primary => t = sPrimary ∧ t ≠ sPainted ∧ t ≠ sTarget
    | .chr => isChrNameTag t = true ∧ t ≠ sPainted ∧ t ≠ sTarget ∧ t ≠ sPrimary
    | .hap => Gen.otherKnownTags.contains t = false ∧ isChrNameTag t = false ∧ t ≠ sPainted ∧ t ≠ sTarget ∧ t ≠ sPrimary
    | .other => t ≠ sPainted ∧ t ≠ sTarget ∧ t ≠ sPrimary := by
  unfold tagClass
  by_cases h1 : t = sPainted
  · rw [if_pos h1]; exact h1
  rw [if_neg h1]
  by_cases h2 : t = sTarget
  · rw [if_pos h2]; exact ⟨h2, h1⟩
  rw [if_neg h2]
  by_cases h3 : t = sPrimary
  · rw [if_pos h3]; exact ⟨h3, h1, h2⟩
  rw [if_neg h3]
  by_cases h4 : isChrNameTag t = true
  · rw [if_pos h4]; exact ⟨h4, h1, h2, h3⟩
  rw [if_neg h4]
  by_cases h5 : ¬ Gen.otherKnownTags.contains t = true
  · rw [if_pos h5]; exact ⟨Bool.eq_false_iff.2 h5, Bool.eq_false_iff.2 h4, h1, h2, h3⟩
  · rw [if_neg h5]; exact ⟨h1, h2, h3⟩

theorem tagClass_painted {t : Str} : tagClass t = .painted ↔ t = sPainted :=
  ⟨fun h => by simpa only [h] using tagClass_spec t, fun h => h ▸ rfl⟩
theorem tagClass_target {t : Str} : tagClass t = .target ↔ t = sTarget :=
  ⟨fun h => (by simpa only [h] using tagClass_spec t : _ ∧ _).1, fun h => h ▸ rfl⟩
theorem tagClass_primary {t : Str} : tagClass t = .primary ↔ t = sPrimary :=
  ⟨fun h => (by simpa only [h] using tagClass_spec t : _ ∧ _).1, fun h => h ▸ rfl⟩

theorem isChrNameTag_ne_nil (t : Str) (h : isChrNameTag t = true) : t ≠ [] := by
  intro ht; subst ht; simp [isChrNameTag] at h

theorem truthy_eq_strTruthy : truthy = PyRt.strTruthy := by
  funext o
  cases o with
  | none => rfl
  | some l => cases l <;> rfl

theorem truthy_some (h : Str) : truthy (some h) = true ↔ h ≠ [] := by
  cases h <;> simp [truthy]

theorem getSetHaplotype_eq (n : Namer) (t : Str) :
    n.getSetHaplotype t =
      ({ n with haplotypeLc := (dSetDefault n.haplotypeLc (lowerStr t) t).1 }, (dSetDefault n.haplotypeLc (lowerStr t) t).2) := rfl

theorem dSetDefault_all {Q : Str × Str → Prop} {d : List (Str × Str)} (g : Str) (hd : ∀ kv ∈ d, Q kv) (hg : Q (lowerStr g, g)) :
    (∀ kv ∈ (dSetDefault d (lowerStr g) g).1, Q kv) ∧ ∃ k, Q (k, (dSetDefault d (lowerStr g) g).2) := by
  unfold dSetDefault
  cases hx : dGet? d (lowerStr g) with
  | some w => exact ⟨hd, _, hd _ (dGet?_mem hx)⟩
  | none =>
    refine ⟨fun kv hkv => ?_, _, hg⟩
    rcases List.mem_append.1 hkv with h | h
    · exact hd kv h
    · rw [List.mem_singleton.1 h]; exact hg

theorem hapPrefixOfName_ne_nil (nm g : Str) (h : hapPrefixOfName nm = some g) : g ≠ [] := by
  unfold hapPrefixOfName at h
  simp only [] at h
  split at h
  · cases h
  · split at h
    · cases h
    · rename_i hne
      split at h
      · cases h
      · split at h
        · cases h
        · cases h
          intro h0; apply hne; rw [h0]; rfl

def chrTags (tags : List Str) : List Str := tags.filter fun t => tagClass t = .chr
def hapTags (tags : List Str) : List Str := tags.filter fun t => tagClass t = .hap

/-- the chromosome name: a second, different name raises -/
def chrStep (cur : Option Str) (t : Str) : R (Option Str) :=
  if truthy cur ∧ cur ≠ some t then .error .tagging else .ok (some t)

/-- the haplotype, on the dictionary `haplotype_lc_dict`: a second haplotype-class tag raises once the first has given a non-empty spelling -/
def hapStep (st : List (Str × Str) × Option Str) (t : Str) : R (List (Str × Str) × Option Str) :=
  if truthy st.2 then .error .tagging
  else .ok ((dSetDefault st.1 (lowerStr t) t).1, some (dSetDefault st.1 (lowerStr t) t).2)

/-- the state after the loop, given what the two folds that can raise returned: of the namer only `target_tags` and the dictionary
    are written -/
def scanResult (n : Namer) (s : TagScan) (tags : List Str) (sn : Option Str) (dh : List (Str × Str) × Option Str) :
    Namer × TagScan :=
  ({ n with targetTags := n.targetTags || tags.contains sTarget, haplotypeLc := dh.1 },
   { scaffoldName := sn, haplotype := dh.2, isPainted := s.isPainted || tags.contains sPainted,
     rank := if chrTags tags = [] then s.rank else some 2, primaryTag := s.primaryTag || tags.contains sPrimary })

theorem chrTags_ne_nil {tags : List Str} : ∀ t ∈ chrTags tags, t ≠ [] := fun t ht =>
  isChrNameTag_ne_nil t (by
    have := tagClass_spec t
    rw [show tagClass t = .chr by simpa [chrTags] using (List.mem_filter.1 ht).2] at this
    exact this.1)

theorem foldlM_chrStep_error {l : List Str} {cur : Option Str} {e : Err} (h : l.foldlM chrStep cur = .error e) :
    e = .tagging := by
  induction l generalizing cur with
  | nil => cases h
  | cons t r ih =>
    rw [List.foldlM_cons] at h
    unfold chrStep at h
    split at h
    · cases h; rfl
    · exact ih h

/-! a tag of one class is invisible to the other four: -/

theorem chrTags_cons (t : Str) (r : List Str) :
    chrTags (t :: r) = if tagClass t = .chr then t :: chrTags r else chrTags r := by
  unfold chrTags; rw [List.filter_cons]; simp only [decide_eq_true_eq]

theorem hapTags_cons (t : Str) (r : List Str) :
    hapTags (t :: r) = if tagClass t = .hap then t :: hapTags r else hapTags r := by
  unfold hapTags; rw [List.filter_cons]; simp only [decide_eq_true_eq]

theorem contains_flag_cons (t : Str) (r : List Str) :
    (t :: r).contains sPainted = (decide (tagClass t = .painted) || r.contains sPainted) ∧
    (t :: r).contains sTarget = (decide (tagClass t = .target) || r.contains sTarget) ∧
    (t :: r).contains sPrimary = (decide (tagClass t = .primary) || r.contains sPrimary) := by
  simp only [List.contains_cons, tagClass_painted, tagClass_target, tagClass_primary, eq_comm (a := t),
    Bool.beq_eq_decide_eq, and_self]

theorem foldlM_scanTag_eq (tags : List Str) : ∀ (n : Namer) (s : TagScan),
    tags.foldlM scanTag (n, s) =
      ((chrTags tags).foldlM chrStep s.scaffoldName >>= fun sn =>
       (hapTags tags).foldlM hapStep (n.haplotypeLc, s.haplotype) >>= fun dh =>
       .ok (scanResult n s tags sn dh)) := by
  induction tags with
  | nil => intro n s; simp [chrTags, hapTags, scanResult, pure, Except.pure, bind, Except.bind]
  | cons t r ih =>
    intro n s
    obtain ⟨f1, f2, f3⟩ := contains_flag_cons t r
    rw [List.foldlM_cons, scanTag_eq]
    simp only [scanResult, chrTags_cons, hapTags_cons, f1, f2, f3]
    cases hc : tagClass t <;>
      simp only [reduceCtorEq, if_false, if_true, decide_false, decide_true, Bool.false_or, Bool.true_or, ok_bind]
    case painted | target | primary | other => rw [ih]; simp only [scanResult, Bool.true_or, Bool.or_true]
    case chr =>
      rw [List.foldlM_cons]
      by_cases hg : truthy s.scaffoldName = true ∧ s.scaffoldName ≠ some t
      · rw [if_pos hg, show chrStep s.scaffoldName t = .error .tagging from if_pos hg]; rfl
      · rw [if_neg hg, show chrStep s.scaffoldName t = .ok (some t) from if_neg hg, ok_bind, ok_bind, ih]
        simp only [scanResult, ite_self]
    case hap =>
      rw [List.foldlM_cons]
      by_cases hg : truthy s.haplotype = true
      · rw [if_pos hg, show hapStep (n.haplotypeLc, s.haplotype) t = .error .tagging from if_pos hg]
        -- the other fold can only raise the same exception
        cases hx : (chrTags r).foldlM chrStep s.scaffoldName with
        | error x => rw [foldlM_chrStep_error hx]; rfl
        | ok sn => rfl
      · rw [if_neg hg, show hapStep (n.haplotypeLc, s.haplotype) t = .ok _ from if_neg hg, ok_bind, ok_bind, ih]
        simp only [scanResult, getSetHaplotype_eq]

/-- chromosome-name tags are not empty, so after the first one every further one must repeat it -/
theorem foldlM_chrStep_none : ∀ (l : List Str), (∀ t ∈ l, t ≠ []) →
    l.foldlM chrStep none =
      match l with
      | [] => .ok none
      | c :: r => if ∀ t ∈ r, t = c then .ok (some c) else .error .tagging := by
  have some_case : ∀ (r : List Str) (c : Str), c ≠ [] →
      r.foldlM chrStep (some c) = if ∀ t ∈ r, t = c then .ok (some c) else .error .tagging := by
    intro r
    induction r with
    | nil => intro c _; simp [pure, Except.pure]
    | cons x r ih =>
      intro c hc
      rw [List.foldlM_cons]
      by_cases hx : x = c
      · subst hx
        rw [show chrStep (some x) x = .ok (some x) from if_neg (fun h => h.2 rfl), ok_bind, ih x hc]
        simp only [List.mem_cons, forall_eq_or_imp, true_and]
      · have : truthy (some c) = true ∧ some c ≠ some x := ⟨(truthy_some c).2 hc, fun e => hx (Option.some.inj e).symm⟩
        rw [show chrStep (some c) x = .error .tagging from if_pos this, if_neg (fun h => hx (h x List.mem_cons_self))]
        rfl
  intro l hl
  cases l with
  | nil => rfl
  | cons c r =>
    rw [List.foldlM_cons, show chrStep none c = .ok (some c) from if_neg (by simp [truthy]), ok_bind]
    exact some_case r c (hl c List.mem_cons_self)

theorem foldlM_hapStep_none (d : List (Str × Str)) (hd : ∀ kv ∈ d, kv.2 ≠ []) : ∀ (l : List Str), [] ∉ l →
    l.foldlM hapStep (d, none) =
      match l with
      | [] => .ok (d, none)
      | [t] => .ok ((dSetDefault d (lowerStr t) t).1, some (dSetDefault d (lowerStr t) t).2)
      | _ :: _ :: _ => .error .tagging := by
  intro l hl
  match l with
  | [] => rfl
  | [t] => rfl
  | t :: u :: r =>
    have ht : t ≠ [] := fun e => hl (by simp [e])
    obtain ⟨_, hv⟩ := (dSetDefault_all (Q := fun kv => kv.2 ≠ []) t hd ht).2
    rw [List.foldlM_cons, show hapStep (d, none) t = .ok _ from if_neg (by simp [truthy]), ok_bind, List.foldlM_cons,
      show hapStep (_, some (dSetDefault d (lowerStr t) t).2) u = .error .tagging from if_pos ((truthy_some _).2 hv)]
    rfl

def hapStage (n : Namer) (s : TagScan) (rows : List Row) : R (Namer × Option Str) :=
  if truthy s.haplotype then pure (n, s.haplotype)
  else do
    let nm ← firstRowName rows
    match hapPrefixOfName nm with
    | some g => pure ((n.getSetHaplotype g).1, some (n.getSetHaplotype g).2)
    | none => pure (n, none)

def primStage (n : Namer) (s : TagScan) (hap : Option Str) : R Namer :=
  if s.primaryTag ∧ ¬ truthy n.primaryHaplotype then
    match hap with
    | some h => if h.isEmpty then throw .tagging else
        pure { (n.getSetHaplotype h).1 with primaryHaplotype := some (n.getSetHaplotype h).2 }
    | none => throw .tagging
  else pure n

def nameStage (s : TagScan) (scName : Str) (rows : List Row) : R (Str × Int) :=
  if truthy s.scaffoldName then pure (s.scaffoldName.getD [], s.rank.getD 0)
  else if s.isPainted then pure (scName, match s.rank with | some r => if r ≠ 0 then r else 1 | none => 1)
  else do
    let nm ← firstRowName rows
    pure (nm, 3)

/-- `"Primary" if haplotype == prim else haplotype`, when there is a primary haplotype -/
def primarySubst (prim hap : Option Str) : Option Str :=
  if truthy prim then (if hap = prim then some sPrimary else hap) else hap

def finishName (n : Namer) (hap : Option Str) (p : Str × Int) : Namer :=
  { n with
    currentHaplotype :=
      (if truthy n.primaryHaplotype then (if hap = n.primaryHaplotype then some sPrimary else hap) else hap)
    currentScaffoldName := some p.fst
    currentRank := p.snd
    unlocN := 0
    unlocScaffolds := [] }

theorem primarySubst_none (p : Option Str) : primarySubst p none = none := by
  unfold primarySubst
  split
  · rename_i ht
    split
    · rename_i he; rw [← he] at ht; cases ht
    · rfl
  · rfl

theorem primarySubst_some (p : Option Str) (v : Str) :
    primarySubst p (some v) = if truthy p ∧ some v = p then some sPrimary else some v := by
  unfold primarySubst
  by_cases hp : truthy p = true
  · by_cases he : some v = p
    · rw [if_pos hp, if_pos he, if_pos ⟨hp, he⟩]
    · rw [if_pos hp, if_neg he, if_neg (fun hc => he hc.2)]
  · rw [if_neg hp, if_neg (fun hc => hp hc.1)]

theorem makeScaffoldName_eq (n : Namer) (scName : Str) (rows : List Row) (tags : List Str) :
    makeScaffoldName n scName rows tags =
      (tags.foldlM scanTag (n, {}) >>= fun st =>
       hapStage st.1 st.2 rows >>= fun nh =>
       primStage nh.1 st.2 nh.2 >>= fun n3 =>
       nameStage st.2 scName rows >>= fun p =>
       pure (finishName n3 nh.2 p)) := by
  unfold makeScaffoldName
  congr 1
  funext ⟨n1, s⟩
  -- the `do` block continues each stage through a join point; name them and relate them to the stages, last first:
  -- `>>=` goes into the branches of a stage (`ite_bind`), and there the continuation is the join point
  dsimp -zeta only
  extract_lets jp1
  have h1 : ∀ x, jp1 x = (primStage x.1 s x.2 >>= fun n3 => nameStage s scName rows >>= fun p =>
      pure (finishName n3 x.2 p)) := by
    intro ⟨n2, hap⟩
    dsimp -zeta only [jp1]
    extract_lets jp2
    have h2 : ∀ n3, jp2 n3 = (nameStage s scName rows >>= fun p => pure (finishName n3 hap p)) := by
      intro n3
      dsimp -zeta only [jp2]
      unfold nameStage
      simp only [ite_bind, bind_assoc, pure_bind]
      rfl
    clear_value jp2
    unfold primStage
    simp only [ite_bind, pure_bind, h2]
    cases hap with
    | none => rfl
    | some h => simp only [ite_bind, pure_bind]
  clear_value jp1
  unfold hapStage
  simp only [ite_bind, bind_assoc, pure_bind, h1]
  congr 2
  funext nm
  cases hapPrefixOfName nm <;> simp only [pure_bind]

theorem hapStage_ok {n n2 : Namer} {s : TagScan} {rows : List Row} {hap : Option Str}
    (h : hapStage n s rows = .ok (n2, hap)) :
    (truthy s.haplotype = true ∧ n2 = n ∧ hap = s.haplotype) ∨
    (¬ truthy s.haplotype = true ∧ ∃ nm, firstRowName rows = .ok nm ∧
      ((hapPrefixOfName nm = none ∧ n2 = n ∧ hap = none) ∨
       ∃ g, hapPrefixOfName nm = some g ∧ n2 = (n.getSetHaplotype g).1 ∧ hap = some (n.getSetHaplotype g).2)) := by
  unfold hapStage at h
  by_cases htr : truthy s.haplotype = true
  · rw [if_pos htr] at h; cases h; exact Or.inl ⟨htr, rfl, rfl⟩
  · rw [if_neg htr] at h
    obtain ⟨nm, hnm, h⟩ := bind_eq_ok.1 h
    refine Or.inr ⟨htr, nm, hnm, ?_⟩
    cases hg : hapPrefixOfName nm <;> rw [hg] at h <;> cases h
    · exact Or.inl ⟨rfl, rfl, rfl⟩
    · exact Or.inr ⟨_, rfl, rfl, rfl⟩

theorem primStage_ok {n n3 : Namer} {s : TagScan} {hap : Option Str} (h : primStage n s hap = .ok n3) :
    n3 = n ∨ ∃ h0, s.primaryTag = true ∧ truthy n.primaryHaplotype = false ∧ hap = some h0 ∧ h0 ≠ [] ∧
      n3 = { (n.getSetHaplotype h0).1 with primaryHaplotype := some (n.getSetHaplotype h0).2 } := by
  unfold primStage at h
  by_cases hc : s.primaryTag = true ∧ ¬truthy n.primaryHaplotype = true
  · rw [if_pos hc] at h
    cases hap with
    | none => cases h
    | some h0 =>
      dsimp only at h
      by_cases he : h0.isEmpty = true
      · rw [if_pos he] at h; cases h
      · rw [if_neg he] at h; cases h
        exact Or.inr ⟨h0, hc.1, by simpa using hc.2, rfl, fun e => he (by simp [e]), rfl⟩
  · rw [if_neg hc] at h; cases h; exact Or.inl rfl

theorem makeScaffoldName_scan {n n' : Namer} {scName : Str} {rows : List Row} {tags : List Str}
    (h : makeScaffoldName n scName rows tags = .ok n') :
    ∃ sn dh n2 hap n3 p, (chrTags tags).foldlM chrStep none = .ok sn ∧
      (hapTags tags).foldlM hapStep (n.haplotypeLc, none) = .ok dh ∧
      hapStage (scanResult n {} tags sn dh).1 (scanResult n {} tags sn dh).2 rows = .ok (n2, hap) ∧
      primStage n2 (scanResult n {} tags sn dh).2 hap = .ok n3 ∧
      nameStage (scanResult n {} tags sn dh).2 scName rows = .ok p ∧ n' = finishName n3 hap p := by
  rw [makeScaffoldName_eq, foldlM_scanTag_eq] at h
  obtain ⟨_, h1, h⟩ := bind_eq_ok.1 h
  obtain ⟨sn, hsn, h1⟩ := bind_eq_ok.1 h1
  obtain ⟨dh, hdh, h1⟩ := bind_eq_ok.1 h1
  cases h1
  obtain ⟨⟨n2, hap⟩, h2, h⟩ := bind_eq_ok.1 h
  obtain ⟨n3, h3, h⟩ := bind_eq_ok.1 h
  obtain ⟨p, h4, h⟩ := bind_eq_ok.1 h
  cases h
  exact ⟨sn, dh, n2, hap, n3, p, hsn, hdh, h2, h3, h4, rfl⟩

theorem makeScaffoldName_frame {n n' : Namer} {scName : Str} {rows : List Row} {tags : List Str}
    (h : makeScaffoldName n scName rows tags = .ok n') :
    n' = { n with targetTags := n.targetTags || tags.contains sTarget, haplotypeLc := n'.haplotypeLc,
                  primaryHaplotype := n'.primaryHaplotype, currentHaplotype := n'.currentHaplotype,
                  currentScaffoldName := n'.currentScaffoldName, currentRank := n'.currentRank,
                  unlocN := 0, unlocScaffolds := [] } := by
  obtain ⟨sn, dh, n2, hap, n3, p, _, _, h2, h3, _, rfl⟩ := makeScaffoldName_scan h
  have e2 : n2 = { (scanResult n {} tags sn dh).1 with haplotypeLc := n2.haplotypeLc } := by
    rcases hapStage_ok h2 with ⟨_, rfl, _⟩ | ⟨_, _, _, ⟨_, rfl, _⟩ | ⟨g, _, rfl, _⟩⟩ <;> rfl
  have e3 : n3 = { n2 with haplotypeLc := n3.haplotypeLc, primaryHaplotype := n3.primaryHaplotype } := by
    rcases primStage_ok h3 with rfl | ⟨h0, _, _, _, _, rfl⟩ <;> rfl
  rw [e3, e2]
  rfl

/-- **Spellings.**  A property `Q` of dictionary entries which every spelling the call can register has — the haplotype-class tags,
    the haplotype prefix of the first row's name, and (Primary block) a spelling already returned — holds of the dictionary afterwards;
    a new primary haplotype and the current haplotype (`Primary` apart) are spellings of such entries. -/
theorem makeScaffoldName_spellings {Q : Str × Str → Prop} {n n' : Namer} {scName : Str} {rows : List Row} {tags : List Str}
    (hn : ∀ kv ∈ n.haplotypeLc, Q kv) (htags : ∀ t ∈ hapTags tags, Q (lowerStr t, t))
    (hrows : ∀ nm g, firstRowName rows = .ok nm → hapPrefixOfName nm = some g → Q (lowerStr g, g))
    (hval : ∀ k v, Q (k, v) → v ≠ [] → Q (lowerStr v, v))
    (h : makeScaffoldName n scName rows tags = .ok n') :
    (∀ kv ∈ n'.haplotypeLc, Q kv) ∧
    (∀ v, n'.primaryHaplotype = some v → n.primaryHaplotype = some v ∨ ∃ k, Q (k, v)) ∧
    (∀ v, n'.currentHaplotype = some v → v = sPrimary ∨ ∃ k, Q (k, v)) := by
  obtain ⟨sn, dh, n2, hap, n3, p, _, hdh, h2, h3, _, rfl⟩ := makeScaffoldName_scan h
  have k1 := foldlM_inv (fun st : List (Str × Str) × Option Str => (∀ kv ∈ st.1, Q kv) ∧ ∀ v, st.2 = some v → ∃ k, Q (k, v))
    hdh ⟨hn, fun _ hv => by cases hv⟩ (fun st t ht st' hs hst => by
      unfold hapStep at hst
      split at hst
      · cases hst
      · cases hst
        obtain ⟨a, b⟩ := dSetDefault_all t hs.1 (htags t ht)
        exact ⟨a, fun v hv => Option.some.inj hv ▸ b⟩)
  have k2 : ((∀ kv ∈ n2.haplotypeLc, Q kv) ∧ ∀ v, hap = some v → ∃ k, Q (k, v)) ∧ n2.primaryHaplotype = n.primaryHaplotype := by
    rcases hapStage_ok h2 with ⟨_, rfl, rfl⟩ | ⟨_, nm, hnm, ⟨_, rfl, rfl⟩ | ⟨g, hg, rfl, rfl⟩⟩
    · exact ⟨k1, rfl⟩
    · exact ⟨⟨k1.1, fun _ hv => nomatch hv⟩, rfl⟩
    · obtain ⟨a, b⟩ := dSetDefault_all g k1.1 (hrows nm g hnm hg)
      exact ⟨⟨a, fun v hv => Option.some.inj hv ▸ b⟩, rfl⟩
  have hcur : ∀ v, primarySubst n3.primaryHaplotype hap = some v → v = sPrimary ∨ ∃ k, Q (k, v) := by
    intro v hv
    unfold primarySubst at hv
    split at hv
    · split at hv
      · exact .inl (Option.some.inj hv).symm
      · exact .inr (k2.1.2 v hv)
    · exact .inr (k2.1.2 v hv)
  rcases primStage_ok h3 with rfl | ⟨h0, _, _, rfl, hne0, rfl⟩
  · exact ⟨k2.1.1, fun v hv => .inl (k2.2 ▸ hv), hcur⟩
  · obtain ⟨k, hk⟩ := k2.1.2 h0 rfl
    obtain ⟨a, b⟩ := dSetDefault_all h0 k2.1.1 (hval k h0 hk hne0)
    exact ⟨a, fun v hv => .inr (Option.some.inj hv ▸ b), hcur⟩

/-- a call that returns read at most one haplotype-class tag, and its spelling is not empty — for a dictionary without empty
    spellings and a tag list without the empty tag (on the tag set {"", "Hap1"} the order decides: `C17.empty_tag_order_dependent`) -/
theorem hapTags_of_ok {n n' : Namer} {scName : Str} {rows : List Row} {tags : List Str}
    (hne : [] ∉ tags) (hn : NamerOk n) (h : makeScaffoldName n scName rows tags = .ok n') :
    ∀ t ∈ hapTags tags, hapTags tags = [t] ∧ (dSetDefault n.haplotypeLc (lowerStr t) t).2 ≠ [] := by
  obtain ⟨_, dh, _, _, _, _, _, hdh, _⟩ := makeScaffoldName_scan h
  rw [foldlM_hapStep_none _ hn (hapTags tags) (fun hm => hne (List.mem_filter.1 hm).1)] at hdh
  intro t ht
  rcases hl : hapTags tags with _ | ⟨u, _ | ⟨v, r⟩⟩ <;> rw [hl] at hdh ht
  · cases ht
  · cases List.mem_singleton.1 ht
    have hu : t ≠ [] := fun e => hne (e ▸ (List.mem_filter.1 (hl ▸ List.mem_cons_self : t ∈ hapTags tags)).1)
    obtain ⟨_, hv⟩ := (dSetDefault_all (Q := fun kv => kv.2 ≠ []) t hn hu).2
    exact ⟨rfl, hv⟩
  · cases hdh

/-- **The haplotype rule** (no `Primary` tag; `hone`: at most one haplotype-class tag, with a non-empty spelling — no hypothesis when
    there is none, `hapTags_of_ok` otherwise).  `src` is the spelling the haplotype is read from: the haplotype-class tag, else the prefix
    of the first row's name, else nothing.  It is registered; the current haplotype is the registered spelling with the Primary
    substitution; nothing else about haplotypes changes. -/
theorem makeScaffoldName_haplotype {n n' : Namer} {scName : Str} {rows : List Row} {tags : List Str} (hp : sPrimary ∉ tags)
    (hone : ∀ t ∈ hapTags tags, hapTags tags = [t] ∧ (dSetDefault n.haplotypeLc (lowerStr t) t).2 ≠ [])
    (h : makeScaffoldName n scName rows tags = .ok n') :
    ∃ src : Option Str,
      (match hapTags tags with
        | [] => ∃ nm, firstRowName rows = .ok nm ∧ src = hapPrefixOfName nm
        | t :: _ => src = some t) ∧
      n'.primaryHaplotype = n.primaryHaplotype ∧
      n'.haplotypeLc = (match src with | none => n.haplotypeLc | some g => (dSetDefault n.haplotypeLc (lowerStr g) g).1) ∧
      n'.currentHaplotype = primarySubst n.primaryHaplotype (src.map fun g => (dSetDefault n.haplotypeLc (lowerStr g) g).2) := by
  obtain ⟨sn, dh, n2, hap, n3, p, _, hdh, h2, h3, _, rfl⟩ := makeScaffoldName_scan h
  have hprim : (scanResult n {} tags sn dh).2.primaryTag = false := by
    show (false || tags.contains sPrimary) = false
    rw [Bool.false_or]; exact Bool.eq_false_iff.2 (fun hc => hp (List.contains_iff_mem.1 hc))
  have e3 : n3 = n2 := (primStage_ok h3).elim id fun ⟨_, hpt, _⟩ => nomatch hprim.symm.trans hpt
  subst e3
  rcases hl : hapTags tags with _ | ⟨t, r⟩ <;> rw [hl] at hdh
  · cases hdh
    rcases hapStage_ok h2 with ⟨ht, _, _⟩ | ⟨_, nm, hnm, ⟨hg, rfl, rfl⟩ | ⟨g, hg, rfl, rfl⟩⟩
    · cases ht
    · exact ⟨none, ⟨nm, hnm, hg.symm⟩, rfl, rfl, rfl⟩
    · exact ⟨some g, ⟨nm, hnm, hg.symm⟩, rfl, rfl, rfl⟩
  · obtain ⟨e, hv⟩ := hone t (hl ▸ List.mem_cons_self)
    cases (hl.symm.trans e : t :: r = [t])
    cases hdh
    rcases hapStage_ok h2 with ⟨_, rfl, rfl⟩ | ⟨hf, _⟩
    · exact ⟨some t, rfl, rfl, rfl, rfl⟩
    · exact absurd ((truthy_some _).2 hv) hf

theorem makeScaffoldName_nohap {n n' : Namer} {scName : Str} {rows : List Row} {tags : List Str}
    (hh : hapTags tags = []) (hrows : ∀ nm, firstRowName rows = .ok nm → hapPrefixOfName nm = none)
    (h : makeScaffoldName n scName rows tags = .ok n') : n'.currentHaplotype = none := by
  obtain ⟨sn, dh, n2, hap, n3, p, _, hdh, h2, _, _, rfl⟩ := makeScaffoldName_scan h
  rw [hh] at hdh
  cases hdh
  have : hap = none := by
    rcases hapStage_ok h2 with ⟨ht, _, _⟩ | ⟨_, nm, hnm, ⟨_, _, e⟩ | ⟨g, hg, _⟩⟩
    · cases ht
    · exact e
    · exact nomatch (hrows nm hnm).symm.trans hg
  rw [this]; exact primarySubst_none _

/-- `rank` is set only together with a name, so the source's `if not rank` is always taken. -/
theorem makeScaffoldName_name {n n' : Namer} {scName : Str} {rows : List Row} {tags : List Str}
    (h : makeScaffoldName n scName rows tags = .ok n') :
    match chrTags tags with
    | c :: r => (∀ t ∈ r, t = c) ∧ n'.currentScaffoldName = some c ∧ n'.currentRank = 2
    | [] => if tags.contains sPainted then n'.currentScaffoldName = some scName ∧ n'.currentRank = 1
            else firstRowName rows = .ok (n'.currentScaffoldName.getD []) ∧ n'.currentScaffoldName ≠ none ∧ n'.currentRank = 3 := by
  obtain ⟨sn, dh, n2, hap, n3, p, hsn, _, _, _, h4, rfl⟩ := makeScaffoldName_scan h
  rw [foldlM_chrStep_none _ chrTags_ne_nil] at hsn
  unfold nameStage at h4
  rcases hl : chrTags tags with _ | ⟨c, r⟩ <;> rw [hl] at hsn
  · cases hsn
    simp only [scanResult, hl, if_true, Bool.false_or, truthy, Bool.false_eq_true, if_false] at h4
    by_cases hp : tags.contains sPainted = true
    · rw [if_pos hp] at h4 ⊢; cases h4; exact ⟨rfl, rfl⟩
    · rw [if_neg hp] at h4 ⊢
      obtain ⟨nm, hnm, h4⟩ := bind_eq_ok.1 h4
      cases h4; exact ⟨hnm, nofun, rfl⟩
  · dsimp only at hsn
    by_cases hall : ∀ t ∈ r, t = c
    · rw [if_pos hall] at hsn
      cases hsn
      have hc : truthy (some c) = true := (truthy_some c).2 (chrTags_ne_nil (tags := tags) c (hl ▸ List.mem_cons_self))
      simp only [scanResult, hl, hc, if_true, reduceCtorEq, if_false] at h4
      cases h4; exact ⟨hall, rfl, rfl⟩
    · rw [if_neg hall] at hsn; cases hsn

/-- the `Contaminant`-or-Target-mode pre-assignment of `label_scaffold` -/
def preTag (n : Namer) (o : OverlapResult) (frag : Fragment) (scTags : List Str) : Option Str × Int :=
  if frag.tags.contains sContaminant ∨ (n.targetTags ∧ ¬ scTags.contains sTarget) then (some sContaminant, 3)
  else (o.tag, n.currentRank)

def labelled (n : Namer) (o : OverlapResult) (name : Str) (tag : Option Str) (rank : Int) (scTags : List Str)
    (orig : Str) : OverlapResult :=
  { o with name := name, tag := tag, haplotype := n.currentHaplotype, rank := rank,
           originalName := some orig, originalTags := some scTags }

namespace C10

/-- the piece takes the `Haplotig` branch of `label_scaffold` -/
def isHapPiece (frag : Fragment) : Bool := !frag.tags.contains sFalseDuplicate && frag.tags.contains sHaplotig
/-- the piece takes the `Unloc` branch -/
def isUnlocPiece (frag : Fragment) : Bool :=
  !frag.tags.contains sFalseDuplicate && !frag.tags.contains sHaplotig && frag.tags.contains sUnloc

def hapName (k : Nat) : Str := ['H', '_'] ++ natToStr k
def unlocName (cur : Option Str) (k : Nat) : Str := (cur.getD sNone) ++ "_unloc_".toList ++ natToStr k

end C10
open C10 (isHapPiece isUnlocPiece hapName unlocName)

theorem isUnlocPiece_iff (frag : Fragment) : isUnlocPiece frag = true ↔
    ¬ frag.tags.contains sFalseDuplicate = true ∧ ¬ frag.tags.contains sHaplotig = true ∧ frag.tags.contains sUnloc = true := by
  unfold isUnlocPiece
  rw [Bool.and_eq_true, Bool.and_eq_true, Bool.not_eq_true', Bool.not_eq_true', Bool.not_eq_true, Bool.not_eq_true, and_assoc]

theorem isUnlocPiece_of_hap {frag : Fragment} (h : isHapPiece frag = true) : isUnlocPiece frag = false := by
  unfold isHapPiece at h; unfold isUnlocPiece
  rw [Bool.and_eq_true] at h
  rw [h.2, Bool.not_true, Bool.and_false, Bool.false_and]

def finalTag (n : Namer) (o : OverlapResult) (frag : Fragment) (scTags : List Str) : Option Str × Int :=
  if frag.tags.contains sFalseDuplicate then (some sFalseDuplicate, 3)
  else if frag.tags.contains sHaplotig then (some sHaplotig, 3)
  else preTag n o frag scTags

/-- the namer `label_scaffold` returns -/
def bump (n : Namer) (sid : Nat) (frag : Fragment) : Namer :=
  if isHapPiece frag then { n with haplotigN := n.haplotigN + 1, haplotigScaffolds := n.haplotigScaffolds ++ [sid] }
  else if isUnlocPiece frag then { n with unlocN := n.unlocN + 1, unlocScaffolds := n.unlocScaffolds ++ [sid] }
  else n

theorem bump_frame (n : Namer) (sid : Nat) (frag : Fragment) :
    bump n sid frag = { n with haplotigN := (bump n sid frag).haplotigN, haplotigScaffolds := (bump n sid frag).haplotigScaffolds,
                               unlocN := (bump n sid frag).unlocN, unlocScaffolds := (bump n sid frag).unlocScaffolds } := by
  unfold bump
  split
  · rfl
  · split <;> rfl

theorem bump_haplotig (n : Namer) (sid : Nat) (frag : Fragment) :
    (isHapPiece frag = true ∧ (bump n sid frag).haplotigN = n.haplotigN + 1 ∧
      (bump n sid frag).haplotigScaffolds = n.haplotigScaffolds ++ [sid]) ∨
    (isHapPiece frag = false ∧ (bump n sid frag).haplotigN = n.haplotigN ∧
      (bump n sid frag).haplotigScaffolds = n.haplotigScaffolds) := by
  unfold bump
  cases isHapPiece frag
  · rw [if_neg Bool.false_ne_true]; exact .inr ⟨rfl, by split <;> exact ⟨rfl, rfl⟩⟩
  · exact .inl ⟨rfl, rfl, rfl⟩

theorem bump_unloc (n : Namer) (sid : Nat) (frag : Fragment) :
    (isHapPiece frag = false ∧ isUnlocPiece frag = true ∧ (bump n sid frag).unlocScaffolds = n.unlocScaffolds ++ [sid]) ∨
    (bump n sid frag).unlocScaffolds = n.unlocScaffolds := by
  unfold bump
  cases isHapPiece frag
  · rw [if_neg Bool.false_ne_true]
    cases isUnlocPiece frag
    · exact .inr rfl
    · exact .inl ⟨rfl, rfl, rfl⟩
  · exact .inr rfl

/-- the name `label_scaffold` gives -/
def pieceName (n : Namer) (frag : Fragment) : Str :=
  if isHapPiece frag then hapName (n.haplotigN + 1)
  else if isUnlocPiece frag then unlocName n.currentScaffoldName (n.unlocN + 1)
  else n.currentScaffoldName.getD sNone

theorem labelScaffold_eq (n : Namer) (o : OverlapResult) (sid : Nat) (frag : Fragment) (scTags : List Str) (orig : Str) :
    labelScaffold n o sid frag scTags orig =
      if isUnlocPiece frag = true ∧ ¬ scTags.contains sPainted = true then .error .value
      else .ok (bump n sid frag,
        labelled n o (pieceName n frag) (finalTag n o frag scTags).1 (finalTag n o frag scTags).2 scTags orig) := by
  unfold labelScaffold bump pieceName finalTag isHapPiece isUnlocPiece
  by_cases h1 : frag.tags.contains sFalseDuplicate = true
  · simp only [h1, if_true, Bool.not_true, Bool.false_and, Bool.false_eq_true, false_and, if_false]; rfl
  rw [Bool.not_eq_true] at h1
  by_cases h2 : frag.tags.contains sHaplotig = true
  · simp only [h1, h2, if_true, Bool.not_false, Bool.not_true, Bool.true_and, Bool.and_false, Bool.false_and, Bool.false_eq_true,
      false_and, if_false]; rfl
  rw [Bool.not_eq_true] at h2
  by_cases h3 : frag.tags.contains sUnloc = true
  · simp only [h1, h2, h3, if_true, Bool.not_false, Bool.true_and, Bool.and_true, Bool.false_eq_true, true_and, if_false]
    by_cases h4 : ¬ scTags.contains sPainted = true
    · simp only [if_pos h4]; rfl
    · simp only [if_neg h4]; rfl
  · rw [Bool.not_eq_true] at h3
    simp only [h1, h2, h3, Bool.not_false, Bool.true_and, Bool.and_false, Bool.false_eq_true, false_and, if_false]; rfl

theorem labelScaffold_ok {n n' : Namer} {o o' : OverlapResult} {sid : Nat} {frag : Fragment} {scTags : List Str} {orig : Str}
    (h : labelScaffold n o sid frag scTags orig = .ok (n', o')) :
    (isUnlocPiece frag = true → scTags.contains sPainted = true) ∧ n' = bump n sid frag ∧
    o' = labelled n o (pieceName n frag) (finalTag n o frag scTags).1 (finalTag n o frag scTags).2 scTags orig := by
  rw [labelScaffold_eq] at h
  split at h
  · cases h
  · rename_i hc
    cases h
    exact ⟨fun hu => Decidable.by_contra fun hp => hc ⟨hu, hp⟩, rfl, rfl⟩

end AgpTpf
