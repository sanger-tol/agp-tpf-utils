/-
  Characters, decimal numerals and lines of `Model/Py.lean` / `Model/Text.lean`, up to the round trips: `int(str(n)) == n`
  (`pyInt_intToStr`), `split` / `join` inverse to each other, what `rstrip` + `split` make of a written line (`line_cols`), `pyLines`
  of written lines.  Nothing here is tagged `simp`.
-/
import AgpTpf.Model.Text
namespace AgpTpf

theorem isDigit_iff (c : Char) : isDigit c = true ↔ 48 ≤ c.toNat ∧ c.toNat ≤ 57 := by
  unfold isDigit
  simp only [Bool.and_eq_true, decide_eq_true_eq, Char.le_def, UInt32.le_iff_toNat_le]
  rfl

theorem isDigit_eq (c : Char) : isDigit c = c.isDigit := by
  unfold isDigit Char.isDigit
  simp only [Char.le_def, UInt32.le_iff_toNat_le, ge_iff_le]

theorem not_isSpace_of_isDigit {c : Char} (h : isDigit c = true) : isSpace c = false := by
  have := (isDigit_iff c).1 h
  unfold isSpace
  simp only [Bool.or_eq_false_iff, Bool.and_eq_false_iff, decide_eq_false_iff_not, beq_eq_false_iff_ne]
  omega

theorem digitVal_le {c : Char} (h : isDigit c = true) : digitVal c ≤ 9 := by
  have := (isDigit_iff c).1 h
  unfold digitVal
  have : '0'.toNat = 48 := by decide
  omega

theorem natToStr_ne_nil (n : Nat) : natToStr n ≠ [] := Nat.toDigits_ne_nil

theorem isDigit_of_mem_natToStr {n : Nat} {c : Char} (h : c ∈ natToStr n) : isDigit c = true := by
  rw [isDigit_eq]; exact Nat.isDigit_of_mem_toDigits (by decide) (by decide) h

theorem natToStr_inj {a b : Nat} (h : natToStr a = natToStr b) : a = b := by
  have ha := @Nat.ofDigitChars_ten_toDigits a
  rw [show Nat.toDigits 10 a = Nat.toDigits 10 b from h] at ha
  exact ha.symm.trans Nat.ofDigitChars_ten_toDigits

theorem intToStr_natCast (n : Nat) : intToStr (n : Int) = natToStr n := rfl
theorem intToStr_negSucc (n : Nat) : intToStr (Int.negSucc n) = '-' :: natToStr (n + 1) := rfl

theorem intToStr_of_nonneg {i : Int} (h : 0 ≤ i) : intToStr i = natToStr i.toNat := by
  obtain ⟨k, rfl⟩ := Int.eq_ofNat_of_zero_le h
  rfl

theorem intToStr_ne_nil (i : Int) : intToStr i ≠ [] := by
  cases i with
  | ofNat n => exact natToStr_ne_nil n
  | negSucc n => exact List.cons_ne_nil _ _

theorem mem_intToStr {i : Int} {c : Char} (h : c ∈ intToStr i) : c = '-' ∨ isDigit c = true := by
  cases i with
  | ofNat n => exact .inr (isDigit_of_mem_natToStr h)
  | negSucc n => exact (List.mem_cons.1 h).imp id isDigit_of_mem_natToStr

theorem intToStr_no_space (i : Int) : ∀ c ∈ intToStr i, isSpace c = false := by
  intro c hc
  rcases mem_intToStr hc with rfl | h
  · decide
  · exact not_isSpace_of_isDigit h

theorem digitsVal_nil (acc : Nat) : digitsVal acc [] = acc := rfl
theorem digitsVal_cons (acc : Nat) (c : Char) (cs : Str) : digitsVal acc (c :: cs) = digitsVal (acc * 10 + digitVal c) cs := by rfl

theorem digitsVal_append (acc : Nat) (a b : Str) : digitsVal acc (a ++ b) = digitsVal (digitsVal acc a) b := by
  induction a generalizing acc with
  | nil => rfl
  | cons c cs ih => rw [List.cons_append, digitsVal_cons, digitsVal_cons, ih]

theorem digitsVal_eq_ofDigitChars (acc : Nat) (ds : Str) : digitsVal acc ds = Nat.ofDigitChars 10 ds acc := by
  induction ds generalizing acc with
  | nil => rfl
  | cons c cs ih => rw [digitsVal_cons, ih, Nat.ofDigitChars_cons, Nat.mul_comm]; rfl

theorem digitsVal_natToStr (n : Nat) : digitsVal 0 (natToStr n) = n := by
  rw [digitsVal_eq_ofDigitChars]; exact Nat.ofDigitChars_ten_toDigits

theorem rstripBy_eq_self {p : Char → Bool} {s : Str} (h : ∀ x, s.getLast? = some x → p x = false) : rstripBy p s = s := by
  unfold rstripBy
  rcases List.eq_nil_or_concat s with rfl | ⟨t, x, e⟩
  · rfl
  · rw [List.concat_eq_append] at e; subst e
    rw [List.reverse_append, List.reverse_singleton, List.singleton_append, List.dropWhile_cons,
      if_neg (by simp [h x (by simp)]), List.reverse_cons, List.reverse_reverse]

theorem lstripBy_eq_self {p : Char → Bool} {s : Str} (h : ∀ x, s.head? = some x → p x = false) : lstripBy p s = s := by
  cases s with
  | nil => rfl
  | cons a t => rw [lstripBy, List.dropWhile_cons, if_neg (by simp [h a rfl])]

theorem rstripBy_append_singleton {p : Char → Bool} (s : Str) {c : Char} (h : p c = true) : rstripBy p (s ++ [c]) = rstripBy p s := by
  unfold rstripBy
  rw [List.reverse_append, List.reverse_singleton, List.singleton_append, List.dropWhile_cons, if_pos h]

theorem stripUnderscores_go_digits (acc : Str) {ds : Str} (h : ∀ c ∈ ds, isDigit c = true) :
    stripUnderscores.go true acc ds = some (acc.reverse ++ ds) := by
  induction ds generalizing acc with
  | nil => simp [stripUnderscores.go]
  | cons d ds ih =>
    rw [stripUnderscores.go, if_pos (h d List.mem_cons_self), ih _ fun c hc => h c (List.mem_cons_of_mem _ hc)]
    simp

theorem stripUnderscores_digits {ds : Str} (hne : ds ≠ []) (h : ∀ c ∈ ds, isDigit c = true) : stripUnderscores ds = some ds := by
  cases ds with
  | nil => exact absurd rfl hne
  | cons c cs =>
    unfold stripUnderscores
    simp only [h c List.mem_cons_self, Bool.not_true, Bool.false_eq_true, if_false]
    rw [stripUnderscores_go_digits _ fun x hx => h x (List.mem_cons_of_mem _ hx)]
    rfl

theorem takeWhile_run {α} (p : α → Bool) (a s : List α) (ha : ∀ c ∈ a, p c = true)
    (hs : ∀ c, s.head? = some c → p c = false) : (a ++ s).takeWhile p = a := by
  rw [List.takeWhile_append_of_pos ha]
  cases s with
  | nil => simp
  | cons c r => rw [List.takeWhile_cons_of_neg (by simp [hs c rfl]), List.append_nil]

theorem span_unique {α} (p : α → Bool) (a b s s' : List α) (ha : ∀ c ∈ a, p c = true) (hb : ∀ c ∈ b, p c = true)
    (hs : ∀ c, s.head? = some c → p c = false) (hs' : ∀ c, s'.head? = some c → p c = false)
    (e : a ++ s = b ++ s') : a = b ∧ s = s' := by
  have h : a = b := by rw [← takeWhile_run p a s ha hs, e, takeWhile_run p b s' hb hs']
  exact ⟨h, List.append_cancel_left (h ▸ e)⟩

theorem append_sep_inj {sep : Char} (a a' b b' : Str) (ha : sep ∉ a) (ha' : sep ∉ a')
    (h : a ++ sep :: b = a' ++ sep :: b') : a = a' ∧ b = b' := by
  obtain ⟨e1, e2⟩ := span_unique (· != sep) a a' (sep :: b) (sep :: b')
    (fun c hc => by simpa using fun (e : c = sep) => ha (e ▸ hc)) (fun c hc => by simpa using fun (e : c = sep) => ha' (e ▸ hc))
    (fun c hc => by simp at hc; simp [hc]) (fun c hc => by simp at hc; simp [hc]) h
  exact ⟨e1, (List.cons.inj e2).2⟩

/-- sign detection of `pyInt`, as its own function -/
def signSplit (t : Str) : Bool × Str :=
  match t with
  | '-' :: r => (true, r)
  | '+' :: r => (false, r)
  | r => (false, r)

theorem pyInt_eq (s : Str) : pyInt s =
    match stripUnderscores (signSplit (rstripBy isSpace (lstripBy isSpace s))).2 with
    | none => .error .value
    | some ds => .ok (if (signSplit (rstripBy isSpace (lstripBy isSpace s))).1 then -((digitsVal 0 ds : Nat) : Int) else (digitsVal 0 ds : Nat)) := by
  unfold pyInt signSplit
  rfl

theorem signSplit_unsigned (c : Char) (cs : Str) (h1 : c ≠ '-') (h2 : c ≠ '+') :
    signSplit (c :: cs) = (false, c :: cs) := by
  unfold signSplit
  split
  · rename_i heq; simp at heq; exact absurd heq.1 h1
  · rename_i heq; simp at heq; exact absurd heq.1 h2
  · rfl

theorem signSplit_minus (cs : Str) : signSplit ('-' :: cs) = (true, cs) := rfl

theorem pyInt_digits {m : Str} (hne : m ≠ []) (hd : ∀ c ∈ m, isDigit c = true) : pyInt m = .ok (digitsVal 0 m : Nat) := by
  rw [pyInt_eq, lstripBy_eq_self fun x hx => not_isSpace_of_isDigit (hd x (List.mem_of_head? hx)),
    rstripBy_eq_self fun x hx => not_isSpace_of_isDigit (hd x (List.mem_of_getLast? hx))]
  cases m with
  | nil => exact absurd rfl hne
  | cons c cs =>
    have hc := hd c List.mem_cons_self
    have h1 : c ≠ '-' := by rintro rfl; exact absurd hc (by decide)
    have h2 : c ≠ '+' := by rintro rfl; exact absurd hc (by decide)
    rw [signSplit_unsigned c cs h1 h2]
    simp only [stripUnderscores_digits hne hd]
    rfl

theorem pyInt_natToStr (n : Nat) : pyInt (natToStr n) = .ok (n : Int) := by
  rw [pyInt_digits (natToStr_ne_nil n) fun _ => isDigit_of_mem_natToStr, digitsVal_natToStr]

theorem pyInt_intToStr (i : Int) : pyInt (intToStr i) = .ok i := by
  cases i with
  | ofNat n => exact pyInt_natToStr n
  | negSucc n =>
    have hne := natToStr_ne_nil (n + 1)
    have hd : ∀ c ∈ natToStr (n + 1), isDigit c = true := fun c hc => isDigit_of_mem_natToStr hc
    show pyInt ('-' :: natToStr (n + 1)) = _
    rw [pyInt_eq, lstripBy_eq_self, rstripBy_eq_self]
    · rw [signSplit_minus]
      simp only [stripUnderscores_digits hne hd, digitsVal_natToStr]
      simp [Int.negSucc_eq]
    · intro x hx
      rw [List.getLast?_cons_of_ne_nil hne] at hx
      exact not_isSpace_of_isDigit (hd x (List.mem_of_getLast? hx))
    · intro x hx
      simp at hx; subst hx; decide

theorem intToStr_getLast? (v : Int) : ∃ c, (intToStr v).getLast? = some c ∧ isSpace c = false := by
  cases h : (intToStr v).getLast? with
  | none => exact absurd (List.getLast?_eq_none_iff.1 h) (intToStr_ne_nil v)
  | some c => exact ⟨c, rfl, intToStr_no_space v c (List.mem_of_getLast? h)⟩

theorem splitOnChar_ne_nil (sep : Char) (s : Str) : splitOnChar sep s ≠ [] := by
  induction s with
  | nil => simp [splitOnChar]
  | cons c cs ih =>
    unfold splitOnChar
    split
    · simp
    · split <;> simp

theorem splitOnChar_no_sep (sep : Char) (f : Str) (h : sep ∉ f) : splitOnChar sep f = [f] := by
  induction f with
  | nil => rfl
  | cons c cs ih =>
    have hc : c ≠ sep := fun e => h (by simp [e])
    have hcs : sep ∉ cs := fun e => h (by simp [e])
    rw [splitOnChar]; simp only [hc, if_false, ih hcs]

theorem splitOnChar_append_sep (sep : Char) (f rest : Str) (h : sep ∉ f) :
    splitOnChar sep (f ++ sep :: rest) = f :: splitOnChar sep rest := by
  induction f with
  | nil => simp [splitOnChar]
  | cons c cs ih =>
    have hc : c ≠ sep := fun e => h (by simp [e])
    have hcs : sep ∉ cs := fun e => h (by simp [e])
    show splitOnChar sep (c :: (cs ++ sep :: rest)) = _
    rw [splitOnChar]; simp only [hc, if_false, ih hcs]

theorem splitOnChar_joinWith (sep : Char) (fields : List Str) (hne : fields ≠ [])
    (h : ∀ f ∈ fields, sep ∉ f) : splitOnChar sep (joinWith sep fields) = fields := by
  induction fields with
  | nil => exact absurd rfl hne
  | cons f fs ih =>
    cases fs with
    | nil => exact splitOnChar_no_sep sep f (h f (by simp))
    | cons g gs =>
      show splitOnChar sep (f ++ sep :: joinWith sep (g :: gs)) = _
      rw [splitOnChar_append_sep sep f _ (h f (by simp)), ih (by simp) (fun x hx => h x (by simp [hx]))]

theorem joinWith_splitOnChar (sep : Char) (s : Str) : joinWith sep (splitOnChar sep s) = s := by
  induction s with
  | nil => rfl
  | cons c cs ih =>
    rw [splitOnChar]
    split
    · rename_i hc
      have := splitOnChar_ne_nil sep cs
      revert this ih
      cases splitOnChar sep cs with
      | nil => intro _ h; exact absurd rfl h
      | cons f fs => intro ih _; subst hc; show [] ++ c :: joinWith c (f :: fs) = _; rw [ih]; rfl
    · have := splitOnChar_ne_nil sep cs
      revert this ih
      cases splitOnChar sep cs with
      | nil => intro _ h; exact absurd rfl h
      | cons f fs =>
        intro ih _
        cases fs with
        | nil => simp only [joinWith] at ih ⊢; rw [ih]
        | cons g gs =>
          show (c :: f) ++ sep :: joinWith sep (g :: gs) = _
          rw [← ih]; rfl

theorem not_mem_of_mem_splitOnChar (sep : Char) (s : Str) : ∀ f ∈ splitOnChar sep s, sep ∉ f := by
  induction s with
  | nil => simp [splitOnChar]
  | cons c cs ih =>
    rw [splitOnChar]
    split
    · intro f hf; simp at hf; rcases hf with rfl | hf; simp; exact ih f hf
    · rename_i hc
      have := splitOnChar_ne_nil sep cs
      revert this ih
      cases splitOnChar sep cs with
      | nil => intro _ h; exact absurd rfl h
      | cons g gs =>
        intro ih _ f hf
        simp at hf
        rcases hf with rfl | hf
        · have := ih g (by simp)
          simp [this, Ne.symm hc]
        · exact ih f (by simp [hf])

theorem joinWith_no_sep_mem (sep c : Char) (fields : List Str) (hc : c ≠ sep)
    (h : ∀ f ∈ fields, c ∉ f) : c ∉ joinWith sep fields := by
  induction fields with
  | nil => simp [joinWith]
  | cons f fs ih =>
    cases fs with
    | nil => exact h f (by simp)
    | cons g gs =>
      show c ∉ f ++ sep :: joinWith sep (g :: gs)
      have := ih (fun x hx => h x (by simp [hx]))
      have hf := h f (by simp)
      simp [hf, hc, this]

theorem mem_joinWith (sep c : Char) (f : Str) (fields : List Str) (hf : f ∈ fields) (hc : c ∈ f) :
    c ∈ joinWith sep fields := by
  induction fields with
  | nil => cases hf
  | cons g gs ih =>
    cases gs with
    | nil => simp at hf; subst hf; exact hc
    | cons g' gs' =>
      show c ∈ g ++ sep :: joinWith sep (g' :: gs')
      simp only [List.mem_cons] at hf
      rcases hf with rfl | hf
      · simp [hc]
      · have := ih (by simpa using hf); simp [this]

theorem joinWith_getLast? (sep : Char) (fields : List Str) (l : Str) (hl : fields.getLast? = some l)
    (hne : l ≠ []) : (joinWith sep fields).getLast? = l.getLast? := by
  induction fields with
  | nil => cases hl
  | cons g gs ih =>
    cases gs with
    | nil => simp at hl; subst hl; rfl
    | cons g' gs' =>
      show (g ++ sep :: joinWith sep (g' :: gs')).getLast? = _
      have hl' : (g' :: gs').getLast? = some l := by simpa [List.getLast?_cons_cons] using hl
      have := ih hl'
      obtain ⟨c, hc⟩ : ∃ c, l.getLast? = some c := by
        cases h : l.getLast? with
        | none => simp at h; exact absurd h hne
        | some c => exact ⟨c, rfl⟩
      rw [hc] at this ⊢
      have hne' : joinWith sep (g' :: gs') ≠ [] := by
        intro e; rw [e] at this; cases this
      rw [List.getLast?_append, List.getLast?_cons_of_ne_nil hne', this]; rfl

theorem line_cols (sep : Char) (strip : Char → Bool) (hnl : strip '\n' = true) (cols : List Str) (hsep : ∀ c ∈ cols, sep ∉ c)
    (l : Str) (hl : cols.getLast? = some l) (hend : ∃ c, l.getLast? = some c ∧ strip c = false) :
    splitOnChar sep (rstripBy strip (joinWith sep cols ++ ['\n'])) = cols := by
  have hne : cols ≠ [] := by intro e; rw [e] at hl; cases hl
  obtain ⟨c, hc, hcr⟩ := hend
  have hlne : l ≠ [] := by intro e; rw [e] at hc; cases hc
  rw [rstripBy_append_singleton _ hnl, rstripBy_eq_self, splitOnChar_joinWith _ _ hne hsep]
  intro x hx
  rw [joinWith_getLast? _ _ _ hl hlne, hc] at hx
  cases hx; exact hcr

theorem isBlankLine_false (line : Str) (c : Char) (hc : c ∈ line) (hs : isSpace c = false) :
    isBlankLine line = false := by
  unfold isBlankLine
  rw [Bool.eq_false_iff]
  intro h
  rw [List.all_eq_true] at h
  have := h c hc
  rw [hs] at this; cases this

def LineOk (l : Str) : Prop := ∃ body, l = body ++ ['\n'] ∧ '\n' ∉ body

theorem pyLines_append_nl (body rest : Str) (h : '\n' ∉ body) :
    pyLines (body ++ '\n' :: rest) = (body ++ ['\n']) :: pyLines rest := by
  induction body with
  | nil => simp [pyLines]
  | cons c cs ih =>
    have hc : c ≠ '\n' := fun e => h (by simp [e])
    have hcs : '\n' ∉ cs := fun e => h (by simp [e])
    show pyLines (c :: (cs ++ '\n' :: rest)) = _
    rw [pyLines]; simp only [hc, if_false, ih hcs]; rfl

theorem pyLines_flatten (lines : List Str) (h : ∀ l ∈ lines, LineOk l) : pyLines lines.flatten = lines := by
  induction lines with
  | nil => rfl
  | cons l t ih =>
    obtain ⟨body, rfl, hb⟩ := h l (by simp)
    rw [List.flatten_cons, List.append_assoc, List.singleton_append, pyLines_append_nl _ _ hb,
      ih (fun x hx => h x (by simp [hx]))]

theorem joinWith_lineOk (sep : Char) (hsep : sep ≠ '\n') (cols : List Str) (h : ∀ c ∈ cols, '\n' ∉ c) :
    LineOk (joinWith sep cols ++ ['\n']) :=
  ⟨_, rfl, joinWith_no_sep_mem sep '\n' cols (Ne.symm hsep) h⟩

end AgpTpf
