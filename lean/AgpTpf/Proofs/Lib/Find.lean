/-
  `find_assembly_overlaps` (`Model/Remap.lean`) from outside.  One Pretext fragment: look its scaffold up, find the overlap; if there
  is one, label it, trim its large overhangs, append it under the next id and register its contigs (`processBait_eq`, `stored`,
  `C01.storeOne`).  One Pretext scaffold: name it, pass its fragments, rename the unlocalised results by size (`overlapsStep`).
  An invariant of the build is lifted over these three kinds of step (`findAssemblyOverlaps_inv`; with a state of its own while one
  scaffold's fragments are looked up: `findAssemblyOverlaps_inv₂`), "never raises" likewise (`findAssemblyOverlaps_total`).
  What `label_scaffold` writes is in `Lib/Namer` (`labelScaffold_ok`).
-/
import AgpTpf.Model.Remap
import AgpTpf.Proofs.Lib.Py
namespace AgpTpf.C01

/-- one contig's turn in `store_fragments_found`: a key seen before gets one more holder and becomes multiply found, a new
    key is registered with the contig's Fragment object -/
def storeOne (sid : Nat) (b : Build) (ff : Fragment) : Build :=
  let k := ff.keyTuple
  match dGet? b.found k with
  | some fnd => { b with multi := sAdd b.multi k,
                         found := dSet b.found k { fnd with scaffolds := fnd.scaffolds ++ [sid] } }
  | none => { b with found := b.found ++ [(k, { fragment := ff, scaffolds := [sid] })] }

theorem storeOne_some (sid : Nat) (b : Build) (ff : Fragment) (fnd : Found) (h : dGet? b.found ff.keyTuple = some fnd) :
    storeOne sid b ff = { b with multi := sAdd b.multi (ff.keyTuple), found := dSet b.found (ff.keyTuple) ({ fnd with scaffolds := fnd.scaffolds ++ [sid] }) } := by
  unfold storeOne; simp only [h]

theorem storeOne_none (sid : Nat) (b : Build) (ff : Fragment) (h : dGet? b.found ff.keyTuple = none) :
    storeOne sid b ff = { b with found := b.found ++ [(ff.keyTuple, { fragment := ff, scaffolds := [sid] })] } := by
  unfold storeOne; simp only [h]

end AgpTpf.C01

namespace AgpTpf.Pipeline
open AgpTpf
open AgpTpf.C01 (storeOne)

theorem lookupScaffold_ok {input : List Scaffold} {name : Str} {sc : Scaffold} (h : lookupScaffold input name = .ok sc) :
    sc ∈ input ∧ sc.name = name := by
  unfold lookupScaffold at h
  split at h
  · next s hs => cases h; exact ⟨List.mem_of_find?_eq_some hs, by simpa using List.find?_some hs⟩
  · cases h

theorem find?_name {input : List Scaffold} {sc : Scaffold} (hn : (input.map (·.name)).Nodup) (hm : sc ∈ input) :
    input.find? (fun s => s.name = sc.name) = some sc := by
  induction input with
  | nil => cases hm
  | cons a r ih =>
    rw [List.map_cons, List.nodup_cons] at hn
    rcases List.mem_cons.mp hm with rfl | hm
    · simp
    · have : a.name ≠ sc.name := fun e => hn.1 (e ▸ List.mem_map_of_mem hm)
      simp only [List.find?_cons, this, decide_false]
      exact ih hn.2 hm

theorem lookupScaffold_of {input : List Scaffold} {sc : Scaffold} (hn : (input.map (·.name)).Nodup) (hm : sc ∈ input) :
    lookupScaffold input sc.name = .ok sc := by
  unfold lookupScaffold
  rw [find?_name hn hm]

theorem storeFragmentsFound_eq (b : Build) (sid : Nat) (frags : List Fragment) :
    storeFragmentsFound b sid frags = frags.foldl (storeOne sid) b := rfl

theorem storeFragmentsFound_frame (b : Build) (sid : Nat) (frags : List Fragment) :
    ∃ found multi, storeFragmentsFound b sid frags = { b with found := found, multi := multi } := by
  rw [storeFragmentsFound_eq]
  induction frags generalizing b with
  | nil => exact ⟨_, _, rfl⟩
  | cons f t ih =>
    obtain ⟨fd, mu, e⟩ : ∃ fd mu, storeOne sid b f = { b with found := fd, multi := mu } := by
      cases h : dGet? b.found f.keyTuple with
      | some fnd => exact ⟨_, _, C01.storeOne_some _ _ _ _ h⟩
      | none => exact ⟨_, _, C01.storeOne_none _ _ _ h⟩
    obtain ⟨fd', mu', e'⟩ := ih { b with found := fd, multi := mu }
    exact ⟨fd', mu', by rw [List.foldl_cons, e, e']⟩

/-- the build after a Pretext fragment whose lookup found something: `o` (labelled, large overhangs trimmed) is appended
    under the next id — as part of the assembly iff rows are left — and its contigs are registered under that id -/
def stored (b : Build) (n : Namer) (o : OverlapResult) : Build :=
  storeFragmentsFound { b with namer := n, store := b.store ++ [{ o := o, added := !o.rows.isEmpty }] } b.store.length
    (fragmentsOf o.rows)

theorem stored_frame (b : Build) (n : Namer) (o : OverlapResult) :
    ∃ found multi, stored b n o =
      { b with namer := n, store := b.store ++ [{ o := o, added := !o.rows.isEmpty }], found := found, multi := multi } :=
  storeFragmentsFound_frame _ _ _

theorem stored_of_rows_nil (b : Build) (n : Namer) {o : OverlapResult} (h : o.rows = []) :
    stored b n o = { b with namer := n, store := b.store ++ [{ o := o, added := false }] } := by
  unfold stored; rw [h]; rfl

theorem stored_of_rows_ne_nil (b : Build) (n : Namer) {o : OverlapResult} (h : o.rows ≠ []) :
    stored b n o = storeFragmentsFound { b with namer := n, store := b.store ++ [{ o := o, added := true }] } b.store.length
      (fragmentsOf o.rows) := by
  unfold stored
  cases hr : o.rows with
  | nil => exact absurd hr h
  | cons x t => rfl

theorem processBait_eq (input : List Scaffold) (scTags : List Str) (orig : Str) (b : Build) (bait : Fragment) :
    processBait input scTags orig b bait = (do
      let sc ← lookupScaffold input bait.name
      match (← findOverlaps sc.rows bait) with
      | none => pure b
      | some o =>
        let (n, o) ← labelScaffold b.namer o b.store.length bait scTags orig
        let o ← o.trimLargeOverhangs b.err
        pure (stored b n o)) := by
  unfold processBait
  refine bind_congr fun sc => bind_congr fun r => ?_
  cases r with
  | none => rfl
  | some o0 =>
    refine bind_congr fun q => bind_congr fun o => ?_
    dsimp only
    split
    · next he => rw [stored_of_rows_nil _ _ (List.isEmpty_iff.mp he)]
    · next he => rw [stored_of_rows_ne_nil _ _ (fun e => he (List.isEmpty_iff.mpr e))]

theorem processBait_none {input : List Scaffold} {scTags : List Str} {orig : Str} {b : Build} {bait : Fragment} {sc : Scaffold}
    (hsc : lookupScaffold input bait.name = .ok sc) (hfo : findOverlaps sc.rows bait = .ok none) :
    processBait input scTags orig b bait = .ok b := by
  rw [processBait_eq, hsc]; dsimp only [bind, Except.bind]; rw [hfo]; rfl

theorem processBait_found {input : List Scaffold} {scTags : List Str} {orig : Str} {b : Build} {bait : Fragment} {sc : Scaffold}
    {o0 o1 o2 : OverlapResult} {n : Namer} (hsc : lookupScaffold input bait.name = .ok sc)
    (hfo : findOverlaps sc.rows bait = .ok (some o0))
    (hl : labelScaffold b.namer o0 b.store.length bait scTags orig = .ok (n, o1))
    (ht : o1.trimLargeOverhangs b.err = .ok o2) : processBait input scTags orig b bait = .ok (stored b n o2) := by
  rw [processBait_eq, hsc]; dsimp only [bind, Except.bind]; rw [hfo]; dsimp only; rw [hl]; dsimp only; rw [ht]; rfl

theorem processBait_ok {input : List Scaffold} {scTags : List Str} {orig : Str} {b b' : Build} {bait : Fragment}
    (h : processBait input scTags orig b bait = .ok b') :
    ∃ sc, lookupScaffold input bait.name = .ok sc ∧
      ((findOverlaps sc.rows bait = .ok none ∧ b' = b) ∨
       ∃ o0 o1 o2 n, findOverlaps sc.rows bait = .ok (some o0) ∧
         labelScaffold b.namer o0 b.store.length bait scTags orig = .ok (n, o1) ∧
         o1.trimLargeOverhangs b.err = .ok o2 ∧ b' = stored b n o2) := by
  rw [processBait_eq] at h
  obtain ⟨sc, hsc, h⟩ := bind_eq_ok.mp h
  obtain ⟨r, hfo, h⟩ := bind_eq_ok.mp h
  refine ⟨sc, hsc, ?_⟩
  cases r with
  | none => cases h; exact .inl ⟨hfo, rfl⟩
  | some o0 =>
    obtain ⟨⟨n, o1⟩, hl, h⟩ := bind_eq_ok.mp h
    obtain ⟨o2, ht, h⟩ := bind_eq_ok.mp h
    cases h
    exact .inr ⟨o0, o1, o2, n, hfo, hl, ht, rfl⟩

theorem processBait_frame {input : List Scaffold} {scTags : List Str} {orig : Str} {b b' : Build} {bait : Fragment}
    (h : processBait input scTags orig b bait = .ok b') :
    b'.extra = b.extra ∧ b'.cuts = b.cuts ∧ b'.joinGap = b.joinGap ∧ b'.err = b.err ∧ b'.nextOid = b.nextOid := by
  obtain ⟨_, _, ⟨_, rfl⟩ | ⟨_, _, o2, n, _, _, _, rfl⟩⟩ := processBait_ok h
  · exact ⟨rfl, rfl, rfl, rfl, rfl⟩
  · obtain ⟨_, _, e⟩ := stored_frame b n o2
    rw [e]; exact ⟨rfl, rfl, rfl, rfl, rfl⟩

theorem processBait_lookup {input : List Scaffold} {scTags : List Str} {orig : Str} {b b' : Build} {bait : Fragment}
    (h : processBait input scTags orig b bait = .ok b') : ∃ sc ∈ input, sc.name = bait.name := by
  obtain ⟨sc, hsc, -⟩ := processBait_ok h
  exact ⟨sc, lookupScaffold_ok hsc⟩

/-- one Pretext scaffold's turn in `find_assembly_overlaps` -/
def overlapsStep (input : List Scaffold) (b : Build) (ps : Scaffold) : R Build := do
  let tags := ps.fragmentTags
  let n ← makeScaffoldName b.namer ps.name ps.rows tags
  let b := { b with namer := n }
  let b ← ps.fragments.foldlM (processBait input tags ps.name) b
  pure { b with store := renameBySize b.store b.namer.unlocScaffolds }

theorem findAssemblyOverlaps_eq (input ptx : List Scaffold) (b : Build) :
    findAssemblyOverlaps input ptx b = ptx.foldlM (overlapsStep input) b := rfl

theorem overlapsStep_ok {input : List Scaffold} {b b' : Build} {ps : Scaffold} (h : overlapsStep input b ps = .ok b') :
    ∃ n b1, makeScaffoldName b.namer ps.name ps.rows ps.fragmentTags = .ok n ∧
      ps.fragments.foldlM (processBait input ps.fragmentTags ps.name) { b with namer := n } = .ok b1 ∧
      b' = { b1 with store := renameBySize b1.store b1.namer.unlocScaffolds } := by
  unfold overlapsStep at h
  obtain ⟨n, hn, h⟩ := bind_eq_ok.mp h
  obtain ⟨b1, hb, h⟩ := bind_eq_ok.mp h
  cases h
  exact ⟨n, b1, hn, hb, rfl⟩

theorem overlapsStep_of {input : List Scaffold} {b b1 : Build} {ps : Scaffold} {n : Namer}
    (hn : makeScaffoldName b.namer ps.name ps.rows ps.fragmentTags = .ok n)
    (hb : ps.fragments.foldlM (processBait input ps.fragmentTags ps.name) { b with namer := n } = .ok b1) :
    overlapsStep input b ps = .ok { b1 with store := renameBySize b1.store b1.namer.unlocScaffolds } := by
  unfold overlapsStep
  dsimp only [bind, Except.bind]; rw [hn]; dsimp only; rw [hb]; rfl

/-- `P` between Pretext scaffolds, `Q ps` while the fragments of `ps` are looked up.  Naming `ps` takes `P` to `Q ps` (it may use
    that every fragment of `ps` lies on an input scaffold: the run got through), each fragment's pass keeps `Q ps`, the
    `rename_by_size` of the unlocalised results takes `Q ps` back to `P`. -/
theorem findAssemblyOverlaps_inv₂ (P : Build → Prop) (Q : Scaffold → Build → Prop) {input ptx : List Scaffold} {b b' : Build}
    (h : findAssemblyOverlaps input ptx b = .ok b') (h0 : P b)
    (hname : ∀ ps ∈ ptx, ∀ (x : Build) (n : Namer), P x →
      makeScaffoldName x.namer ps.name ps.rows ps.fragmentTags = .ok n →
      (∀ f ∈ ps.fragments, ∃ sc ∈ input, sc.name = f.name) → Q ps { x with namer := n })
    (hbait : ∀ ps ∈ ptx, ∀ bait ∈ ps.fragments, ∀ x x' : Build, Q ps x →
      processBait input ps.fragmentTags ps.name x bait = .ok x' → Q ps x')
    (hrename : ∀ ps ∈ ptx, ∀ x : Build, Q ps x → P { x with store := renameBySize x.store x.namer.unlocScaffolds }) :
    P b' := by
  rw [findAssemblyOverlaps_eq] at h
  refine foldlM_inv P h h0 ?_
  intro a ps hps a' ha hstep
  obtain ⟨n, b1, hn, hb, rfl⟩ := overlapsStep_ok hstep
  refine hrename ps hps _ (foldlM_inv (Q ps) hb (hname ps hps a n ha hn ?_)
    (fun x bait hbm x' hx hs => hbait ps hps bait hbm x x' hx hs))
  intro f hf
  obtain ⟨_, _, hs⟩ := foldlM_ok_step hb f hf
  exact processBait_lookup hs

theorem findAssemblyOverlaps_inv (P : Build → Prop) {input ptx : List Scaffold} {b b' : Build}
    (h : findAssemblyOverlaps input ptx b = .ok b') (h0 : P b)
    (hname : ∀ ps ∈ ptx, ∀ (x : Build) (n : Namer), P x →
      makeScaffoldName x.namer ps.name ps.rows ps.fragmentTags = .ok n → P { x with namer := n })
    (hbait : ∀ ps ∈ ptx, ∀ bait ∈ ps.fragments, ∀ x x' : Build, P x →
      processBait input ps.fragmentTags ps.name x bait = .ok x' → P x')
    (hrename : ∀ (x : Build) (ids : List Nat), P x → P { x with store := renameBySize x.store ids }) : P b' :=
  findAssemblyOverlaps_inv₂ P (fun _ => P) h h0 (fun ps hps x n hx hn _ => hname ps hps x n hx hn) hbait
    (fun _ _ x hx => hrename x _ hx)

theorem findAssemblyOverlaps_total {input ptx : List Scaffold}
    (hname : ∀ ps ∈ ptx, ∀ n : Namer, ∃ n', makeScaffoldName n ps.name ps.rows ps.fragmentTags = .ok n')
    (hbait : ∀ ps ∈ ptx, ∀ bait ∈ ps.fragments, ∀ x : Build, ∃ x', processBait input ps.fragmentTags ps.name x bait = .ok x')
    (b : Build) : ∃ b', findAssemblyOverlaps input ptx b = .ok b' := by
  rw [findAssemblyOverlaps_eq]
  refine foldlM_ok_of_forall (fun ps hps a => ?_) b
  obtain ⟨n, hn⟩ := hname ps hps a.namer
  obtain ⟨b1, hb⟩ := foldlM_ok_of_forall (hbait ps hps) { a with namer := n }
  exact ⟨_, overlapsStep_of hn hb⟩

theorem findAssemblyOverlaps_frame {input ptx : List Scaffold} {b b' : Build} (h : findAssemblyOverlaps input ptx b = .ok b') :
    b'.extra = b.extra ∧ b'.cuts = b.cuts ∧ b'.joinGap = b.joinGap ∧ b'.err = b.err ∧ b'.nextOid = b.nextOid :=
  findAssemblyOverlaps_inv
    (fun x => x.extra = b.extra ∧ x.cuts = b.cuts ∧ x.joinGap = b.joinGap ∧ x.err = b.err ∧ x.nextOid = b.nextOid)
    h ⟨rfl, rfl, rfl, rfl, rfl⟩ (fun _ _ _ _ hx _ => hx)
    (fun _ _ _ _ _ _ hx hs =>
      have f := processBait_frame hs
      ⟨f.1.trans hx.1, f.2.1.trans hx.2.1, f.2.2.1.trans hx.2.2.1, f.2.2.2.1.trans hx.2.2.2.1, f.2.2.2.2.trans hx.2.2.2.2⟩)
    (fun _ _ hx => hx)

end AgpTpf.Pipeline
