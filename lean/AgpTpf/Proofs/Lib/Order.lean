/-
  The model's comparisons as orders.  `strLt` (`Model/Basic.lean`) and `strLe` (`Model/NaturalKey.lean`) are core's `<` and `≤` on
  `List Char`, so the order facts of core apply to them.  Python compares tuples lexicographically: `lexB r s` is that comparison of
  pairs, and it is a total order (`OrderB`) whenever `r` decides between different first components (`LinearB`: `<` and `≤` both
  do) and `s` is a total order; `endLe` is an instance.  `listLexB r` is the comparison of tuples of any length.
-/
import AgpTpf.Model.NaturalKey
namespace AgpTpf

theorem strLt_iff : ∀ a b : Str, strLt a b = true ↔ a < b
  | [], [] => by simp [strLt]
  | [], _ :: _ => by simp [strLt]
  | _ :: _, [] => by simp [strLt]
  | a :: as, b :: bs => by
    have hlt : a < b ↔ a.toNat < b.toNat := Char.lt_def.trans UInt32.lt_iff_toNat_lt
    have heq : a = b ↔ a.toNat = b.toNat := Char.toNat_inj.symm
    rw [strLt, List.cons_lt_cons_iff, hlt, heq, ← strLt_iff as bs]
    rcases Nat.lt_trichotomy a.toNat b.toNat with h | h | h
    · simp [h]
    · simp [h]
    · simp [h, Nat.lt_asymm h, Nat.ne_of_gt h]

theorem strLe_eq_not_strLt : ∀ a b : Str, strLe a b = !strLt b a
  | [], [] => rfl
  | [], _ :: _ => rfl
  | _ :: _, [] => rfl
  | a :: as, b :: bs => by
    rw [strLe, strLt, strLe_eq_not_strLt as bs]
    rcases Nat.lt_trichotomy a.toNat b.toNat with h | h | h
    · simp [h, Nat.lt_asymm h]
    · simp [h]
    · simp [h, Nat.lt_asymm h]

theorem strLe_iff (a b : Str) : strLe a b = true ↔ a ≤ b := by
  rw [strLe_eq_not_strLt, Bool.not_eq_true', ← Bool.not_eq_true, strLt_iff, List.not_lt]

/-- `r` decides between any two DIFFERENT elements, consistently.  Nothing is asked about `r a a`, so a strict comparison
    qualifies as well as a reflexive one. -/
structure LinearB {α} (r : α → α → Bool) : Prop where
  total : ∀ a b, a ≠ b → r a b = true ∨ r b a = true
  antisymm : ∀ a b, r a b = true → r b a = true → a = b
  trans : ∀ a b c, r a b = true → r b c = true → r a c = true

structure OrderB {α} (s : α → α → Bool) : Prop where
  total : ∀ a b, s a b = true ∨ s b a = true
  antisymm : ∀ a b, s a b = true → s b a = true → a = b
  trans : ∀ a b c, s a b = true → s b c = true → s a c = true

theorem OrderB.refl {α} {s : α → α → Bool} (h : OrderB s) (a : α) : s a a = true := (h.total a a).elim id id

theorem OrderB.linear {α} {s : α → α → Bool} (h : OrderB s) : LinearB s := ⟨fun a b _ => h.total a b, h.antisymm, h.trans⟩

theorem LinearB.order {α} {r : α → α → Bool} (h : LinearB r) (hrefl : ∀ a, r a a = true) : OrderB r :=
  ⟨fun a b => (Classical.em (a = b)).elim (fun e => .inl (e ▸ hrefl a)) (h.total a b), h.antisymm, h.trans⟩

theorem OrderB.comap {α β} {s : β → β → Bool} (h : OrderB s) (f : α → β) (hf : ∀ a b, f a = f b → a = b) :
    OrderB fun a b => s (f a) (f b) :=
  ⟨fun _ _ => h.total _ _, fun a b h1 h2 => hf a b (h.antisymm _ _ h1 h2), fun _ _ _ => h.trans _ _ _⟩

theorem strLt_linear : LinearB strLt where
  total a b h := by
    rw [strLt_iff, strLt_iff]
    exact Classical.byContradiction fun hn =>
      h (List.le_antisymm (List.not_lt.1 fun h' => hn (.inr h')) (List.not_lt.1 fun h' => hn (.inl h')))
  antisymm a b h1 h2 := absurd ((strLt_iff b a).1 h2) (List.lt_asymm ((strLt_iff a b).1 h1))
  trans a b c h1 h2 := (strLt_iff a c).2 (List.lt_trans ((strLt_iff a b).1 h1) ((strLt_iff b c).1 h2))

theorem strLe_order : OrderB strLe where
  total a b := by rw [strLe_iff, strLe_iff]; exact List.le_total a b
  antisymm a b h1 h2 := List.le_antisymm ((strLe_iff a b).1 h1) ((strLe_iff b a).1 h2)
  trans a b c h1 h2 := (strLe_iff a c).2 (List.le_trans ((strLe_iff a b).1 h1) ((strLe_iff b c).1 h2))

theorem intLe_order : OrderB fun a b : Int => decide (a ≤ b) where
  total a b := by simpa using Int.le_total a b
  antisymm a b h1 h2 := Int.le_antisymm (of_decide_eq_true h1) (of_decide_eq_true h2)
  trans a b c h1 h2 := decide_eq_true (Int.le_trans (of_decide_eq_true h1) (of_decide_eq_true h2))

theorem intLt_linear : LinearB fun a b : Int => decide (a < b) where
  total a b h := by simpa using Int.lt_or_gt_of_ne h
  antisymm a b h1 h2 := absurd (of_decide_eq_true h2) (Int.lt_asymm (of_decide_eq_true h1))
  trans a b c h1 h2 := decide_eq_true (Int.lt_trans (of_decide_eq_true h1) (of_decide_eq_true h2))

/-- Python's comparison of 2-tuples: the first components decide unless they are equal -/
def lexB {α β} [DecidableEq α] (r : α → α → Bool) (s : β → β → Bool) (x y : α × β) : Bool :=
  if x.1 = y.1 then s x.2 y.2 else r x.1 y.1

section
variable {α β} [DecidableEq α] {r : α → α → Bool} {s : β → β → Bool}

/- The three order laws of `lexB r s` at given pairs ask `s` only about the second components of those pairs: that is what lets
   them serve as the step of an induction (`listLexB_order`). -/
theorem lexB_total (hr : LinearB r) {x y : α × β} (hs : x.1 = y.1 → s x.2 y.2 = true ∨ s y.2 x.2 = true) :
    lexB r s x y = true ∨ lexB r s y x = true := by
  unfold lexB
  by_cases e : x.1 = y.1
  · rw [if_pos e, if_pos e.symm]; exact hs e
  · rw [if_neg e, if_neg (Ne.symm e)]; exact hr.total _ _ e

theorem lexB_antisymm (hr : LinearB r) {x y : α × β}
    (hs : s x.2 y.2 = true → s y.2 x.2 = true → x.2 = y.2) (h1 : lexB r s x y = true) (h2 : lexB r s y x = true) : x = y := by
  unfold lexB at h1 h2
  by_cases e : x.1 = y.1
  · rw [if_pos e] at h1; rw [if_pos e.symm] at h2; exact Prod.ext e (hs h1 h2)
  · rw [if_neg e] at h1; rw [if_neg (Ne.symm e)] at h2; exact absurd (hr.antisymm _ _ h1 h2) e

theorem lexB_trans (hr : LinearB r) {x y z : α × β}
    (hs : s x.2 y.2 = true → s y.2 z.2 = true → s x.2 z.2 = true) (h1 : lexB r s x y = true) (h2 : lexB r s y z = true) :
    lexB r s x z = true := by
  unfold lexB at *
  by_cases e1 : x.1 = y.1 <;> by_cases e2 : y.1 = z.1
  · rw [if_pos e1] at h1; rw [if_pos e2] at h2; rw [if_pos (e1.trans e2)]; exact hs h1 h2
  · rw [if_neg e2] at h2; rw [if_neg (e1 ▸ e2), e1]; exact h2
  · rw [if_neg e1] at h1; rw [if_neg (e2 ▸ e1), ← e2]; exact h1
  · rw [if_neg e1] at h1; rw [if_neg e2] at h2
    -- `x.1 = z.1` would make `y.1` both above and below it
    rw [if_neg fun e3 : x.1 = z.1 => e1 (hr.antisymm _ _ h1 (e3 ▸ h2))]
    exact hr.trans _ _ _ h1 h2

theorem lexB_linear (hr : LinearB r) (hs : LinearB s) : LinearB (lexB r s) where
  total _ _ hxy := lexB_total hr fun e => hs.total _ _ fun e2 => hxy (Prod.ext e e2)
  antisymm _ _ := lexB_antisymm hr (hs.antisymm _ _)
  trans _ _ _ := lexB_trans hr (hs.trans _ _ _)

theorem lexB_order (hr : LinearB r) (hs : OrderB s) : OrderB (lexB r s) :=
  (lexB_linear hr hs.linear).order fun x => by unfold lexB; rw [if_pos rfl]; exact hs.refl _

end

theorem endLe_iff (x y : Str × Int) : endLe x y = true ↔ x.1 < y.1 ∨ x.1 = y.1 ∧ x.2 ≤ y.2 := by
  unfold endLe
  split
  · next h => simp [h, List.lt_irrefl]
  · next h => simp [h, strLt_iff]

theorem endLe_order : OrderB endLe := lexB_order strLt_linear intLe_order

/-- Python's comparison (`≤`) of tuples of one kind: the first position where they differ decides, a proper prefix is smaller -/
def listLexB {α} [DecidableEq α] (r : α → α → Bool) : List α → List α → Bool
  | [], _ => true
  | _ :: _, [] => false
  | a :: as, b :: bs => if a = b then listLexB r as bs else r a b

theorem listLexB_cons {α} [DecidableEq α] (r : α → α → Bool) (a b : α) (as bs : List α) :
    listLexB r (a :: as) (b :: bs) = if a = b then listLexB r as bs else r a b := rfl

/-- A non-empty tuple is the pair of its head and its tail, compared by `lexB r (listLexB r)`: each law is that of `lexB` with the
    law for the tails as its hypothesis, and `[]` is the least element. -/
theorem listLexB_order {α} [DecidableEq α] {r : α → α → Bool} (hr : LinearB r) : OrderB (listLexB r) := by
  have pair x xs y ys : listLexB r (x :: xs) (y :: ys) = lexB r (listLexB r) (x, xs) (y, ys) := rfl
  refine ⟨fun a => ?_, fun a => ?_, fun a => ?_⟩
  · induction a with
    | nil => intro b; exact .inl (by cases b <;> rfl)
    | cons x xs ih =>
      intro b
      cases b with
      | nil => exact .inr rfl
      | cons y ys => exact pair .. ▸ pair .. ▸ lexB_total hr fun _ => ih ys
  · induction a with
    | nil => intro b _ h2; cases b with
      | nil => rfl
      | cons y ys => cases h2
    | cons x xs ih =>
      intro b h1 h2
      cases b with
      | nil => cases h1
      | cons y ys => exact congrArg (fun p => p.1 :: p.2) (lexB_antisymm hr (ih ys) (pair .. ▸ h1) (pair .. ▸ h2))
  · induction a with
    | nil => intro b c _ _; cases c <;> rfl
    | cons x xs ih =>
      intro b c h1 h2
      cases b with
      | nil => cases h1
      | cons y ys => cases c with
        | nil => cases h2
        | cons z zs => exact pair .. ▸ lexB_trans hr (ih ys zs) (pair .. ▸ h1) (pair .. ▸ h2)

end AgpTpf
