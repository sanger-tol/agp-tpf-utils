/-
  `IndexedAssembly.add_scaffold` / `find_overlaps` (`Model/Lookup.lean`) in terms of prefix sums of row lengths: the index, the binary
  search, the two extension loops, the two gap-stripping loops, and the whole lookup — first with no assumption on the row lengths
  (`findOverlaps_block`: it never raises on a non-empty scaffold, and a hit is a slice between two fragment rows), then, for
  non-negative lengths, which slice it is (`findOverlaps_cases`).
-/
import AgpTpf.Proofs.Lib.Rows
namespace AgpTpf.C12
open AgpTpf

def pre (rows : List Row) (k : Nat) : Int := rowsLength (rows.take k)

def fragAt (rows : List Row) (k : Nat) : Bool :=
  match rows[k]? with
  | some (.frag _) => true
  | _ => false

theorem pre_zero (rows : List Row) : pre rows 0 = 0 := rfl

theorem pre_succ (rows : List Row) (k : Nat) (h : k < rows.length) :
    pre rows (k + 1) = pre rows k + rows[k].length := by
  rw [pre, List.take_succ_eq_append_getElem h, AgpTpf.rowsLength_append]
  exact congrArg (pre rows k + ·) (Int.add_zero _)

theorem pre_mono_succ (rows : List Row) (hlen : ∀ r ∈ rows, 0 ≤ r.length) (k : Nat) :
    pre rows k ≤ pre rows (k + 1) := by
  by_cases h : k < rows.length
  · rw [pre_succ rows k h]
    exact Int.le_add_of_nonneg_right (hlen rows[k] (List.getElem_mem h))
  · have h := Nat.le_of_not_lt h
    rw [pre, pre, List.take_of_length_le h, List.take_of_length_le (Nat.le_succ_of_le h)]
    exact Int.le_refl _

theorem pre_mono (rows : List Row) (hlen : ∀ r ∈ rows, 0 ≤ r.length) (i j : Nat) (hij : i ≤ j) :
    pre rows i ≤ pre rows j := by
  induction hij with
  | refl => exact Int.le_refl _
  | step _ ih => exact Int.le_trans ih (pre_mono_succ rows hlen _)

theorem buildIndex_length (rows : List Row) : (buildIndex rows).length = rows.length :=
  cumEnds_length 0 rows

theorem idxAt_buildIndex (rows : List Row) (k : Nat) (h : k < rows.length) :
    idxAt (buildIndex rows) k = pre rows (k + 1) := by
  rw [idxAt, buildIndex, List.getD_eq_getElem?_getD, cumEnds_getElem? 0 h, Option.getD_some, Int.zero_add]; rfl

theorem rowStart_buildIndex (rows : List Row) (k : Nat) (h : k ≤ rows.length) :
    rowStart (buildIndex rows) k = 1 + pre rows k := by
  cases k with
  | zero => rfl
  | succ k => exact congrArg (1 + ·) (idxAt_buildIndex rows k h)

theorem mid_lt {a z : Nat} (h : a < z) : a + (z - a) / 2 < z :=
  Nat.add_lt_of_lt_sub' (Nat.div_lt_self (Nat.sub_pos_of_lt h) (by decide))

theorem bsearch_some (idx : List Int) (bs be : Int) (a z m : Nat) :
    bsearch idx bs be a z = some m →
      a ≤ m ∧ m < z ∧ ¬ (idxAt idx m < bs) ∧ ¬ (rowStart idx m > be) := by
  fun_induction bsearch idx bs be a z with
  | case1 a z h m' h1 ih =>
      intro h2; obtain ⟨x, y, w⟩ := ih h2
      exact ⟨Nat.le_trans (Nat.le_add_right a _) (Nat.le_of_succ_le x), y, w⟩
  | case2 a z h m' h1 h2 ih =>
      intro h3; obtain ⟨x, y, w⟩ := ih h3
      exact ⟨x, Nat.lt_trans y (mid_lt h), w⟩
  | case3 a z h m' h1 h2 =>
      intro h3
      rw [← Option.some.inj h3]
      exact ⟨Nat.le_add_right a _, mid_lt h, h1, h2⟩
  | case4 a z h => intro h2; cases h2

/-- the binary search is complete only over ascending ends: hence `hlen` -/
theorem bsearch_none (rows : List Row) (hlen : ∀ r ∈ rows, 0 ≤ r.length) (bs be : Int) (a z : Nat)
    (hz : z ≤ rows.length) :
    bsearch (buildIndex rows) bs be a z = none →
      ∀ k, a ≤ k → k < z → pre rows (k + 1) < bs ∨ be < 1 + pre rows k := by
  fun_induction bsearch (buildIndex rows) bs be a z with
  | case1 a z h m' h1 ih =>
      intro h2 k hk1 hk2
      by_cases hkm : k ≤ m'
      · rw [idxAt_buildIndex rows m' (Nat.lt_of_lt_of_le (mid_lt h) hz)] at h1
        exact .inl (Int.lt_of_le_of_lt (pre_mono rows hlen (k + 1) (m' + 1) (Nat.succ_le_succ hkm)) h1)
      · exact ih hz h2 k (Nat.lt_of_not_le hkm) hk2
  | case2 a z h m' h1 h2 ih =>
      intro h3 k hk1 hk2
      by_cases hkm : k < m'
      · exact ih (Nat.le_trans (Nat.le_of_lt (mid_lt h)) hz) h3 k hk1 hkm
      · rw [rowStart_buildIndex rows m' (Nat.le_trans (Nat.le_of_lt (mid_lt h)) hz)] at h2
        exact .inr (Int.lt_of_lt_of_le h2 (Int.add_le_add_left (pre_mono rows hlen m' k (Nat.le_of_not_lt hkm)) 1))
  | case3 a z h m' h1 h2 => intro h3; cases h3
  | case4 a z h => intro _ k hk1 hk2; exact absurd (Nat.lt_of_le_of_lt hk1 hk2) h

theorem extendLeft_spec (idx : List Int) (bs : Int) (k : Nat) :
    extendLeft idx bs k k ≤ k ∧
    (∀ j, extendLeft idx bs k k ≤ j → j < k → ¬ (idxAt idx j < bs)) ∧
    (extendLeft idx bs k k = 0 ∨ idxAt idx (extendLeft idx bs k k - 1) < bs) := by
  induction k with
  | zero => exact ⟨Nat.le_refl _, fun j _ h => absurd h (Nat.not_lt_zero j), .inl rfl⟩
  | succ k ih =>
    unfold extendLeft
    by_cases h : idxAt idx k < bs
    · rw [if_pos h]
      exact ⟨Nat.le_refl _, fun j h1 h2 => absurd h2 (Nat.not_lt_of_le h1), .inr h⟩
    · rw [if_neg h]
      obtain ⟨h1, h2, h3⟩ := ih
      refine ⟨Nat.le_succ_of_le h1, fun j hj1 hj2 => ?_, h3⟩
      rcases Nat.lt_succ_iff_lt_or_eq.1 hj2 with hjk | rfl
      · exact h2 j hj1 hjk
      · exact h

theorem extendRight_spec (idx : List Int) (be : Int) (fuel cur : Nat) :
    cur ≤ extendRight idx be fuel cur ∧ extendRight idx be fuel cur ≤ cur + fuel ∧
    (∀ j, cur < j → j ≤ extendRight idx be fuel cur → ¬ (rowStart idx j > be)) ∧
    (extendRight idx be fuel cur = cur + fuel ∨ rowStart idx (extendRight idx be fuel cur + 1) > be) := by
  induction fuel generalizing cur with
  | zero => exact ⟨Nat.le_refl _, Nat.le_refl _, fun j h1 h2 => absurd h1 (Nat.not_lt_of_le h2), .inl rfl⟩
  | succ fuel ih =>
    unfold extendRight
    dsimp only
    by_cases h : rowStart idx (cur + 1) > be
    · rw [if_pos h]
      exact ⟨Nat.le_refl _, Nat.le_add_right _ _, fun j h1 h2 => absurd h1 (Nat.not_lt_of_le h2), .inr h⟩
    · rw [if_neg h]
      obtain ⟨h1, h2, h3, h4⟩ := ih (cur + 1)
      rw [Nat.add_right_comm] at h2 h4
      refine ⟨Nat.le_of_succ_le h1, h2, fun j hj1 hj2 => ?_, h4⟩
      rcases Nat.eq_or_lt_of_le hj1 with rfl | hj
      · exact h
      · exact h3 j hj hj2

theorem fragAt_eq (rows : List Row) (k : Nat) (h : k < rows.length) :
    fragAt rows k = !rows[k].isGap := by
  unfold fragAt
  rw [List.getElem?_eq_getElem h]
  cases rows[k] <;> simp [Row.isGap]

theorem fragAt_iff (rows : List Row) (k : Nat) : fragAt rows k = true ↔ ∃ f, rows[k]? = some (.frag f) := by
  unfold fragAt
  split <;> simp_all

theorem fragAt_lt (rows : List Row) (k : Nat) (h : fragAt rows k = true) : k < rows.length := by
  obtain ⟨f, hf⟩ := (fragAt_iff rows k).1 h
  exact (List.getElem?_eq_some_iff.1 hf).1

theorem skipGapsRight_spec (rows : List Row) (fuel i0 j0 : Nat) (hj : j0 < rows.length)
    (hi : i0 ≤ j0 + 1) (hf : j0 + 1 < fuel + i0) :
    ∃ i' : Nat, skipGapsRight rows fuel (i0 : Int) (j0 : Int) = .ok (i' : Int) ∧ i0 ≤ i' ∧ i' ≤ j0 + 1 ∧
      (∀ k, i0 ≤ k → k < i' → fragAt rows k = false) ∧ (i' ≤ j0 → fragAt rows i' = true) := by
  induction fuel generalizing i0 with
  | zero => omega
  | succ fuel ih =>
    unfold skipGapsRight
    by_cases hle : i0 ≤ j0
    · have hlt : i0 < rows.length := Nat.lt_of_le_of_lt hle hj
      simp only [Int.ofNat_le.2 hle, if_true, pyGet_of_lt rows i0 hlt, bind, Except.bind]
      by_cases hg : rows[i0].isGap = true
      · obtain ⟨i', e, a1, a2, a3, a4⟩ := ih (i0 + 1) (Nat.succ_le_succ hle) (by omega)
        refine ⟨i', by rw [if_pos hg]; exact e, Nat.le_of_succ_le a1, a2, fun k hk1 hk2 => ?_, a4⟩
        rcases Nat.eq_or_lt_of_le hk1 with rfl | hk
        · rw [fragAt_eq rows i0 hlt, hg]; rfl
        · exact a3 k hk hk2
      · refine ⟨i0, by rw [if_neg hg]; rfl, Nat.le_refl _, hi, fun k h1 h2 => absurd h2 (Nat.not_lt_of_le h1), fun _ => ?_⟩
        rw [fragAt_eq rows i0 hlt, Bool.eq_false_iff.2 hg]; rfl
    · rw [if_neg (mt Int.ofNat_le.1 hle)]
      exact ⟨i0, rfl, Nat.le_refl _, hi, fun k h1 h2 => absurd h2 (Nat.not_lt_of_le h1), fun h => absurd h hle⟩

theorem skipGapsLeft_spec (rows : List Row) (fuel i0 : Nat) (j : Int) (hj : j < rows.length)
    (hi : (i0 : Int) ≤ j + 1) (hf : j + 1 < fuel + i0) :
    ∃ j' : Int, skipGapsLeft rows fuel (i0 : Int) j = .ok j' ∧ (i0 : Int) - 1 ≤ j' ∧ j' ≤ j ∧
      (∀ k : Nat, j' < k → (k : Int) ≤ j → fragAt rows k = false) ∧
      ((i0 : Int) ≤ j' → fragAt rows j'.toNat = true) := by
  induction fuel generalizing j with
  | zero => omega
  | succ fuel ih =>
    unfold skipGapsLeft
    by_cases hle : j ≥ (i0 : Int)
    · obtain ⟨jn, rfl⟩ := Int.eq_ofNat_of_zero_le (a := j) (Int.le_trans (Int.natCast_nonneg i0) hle)
      have hlt : jn < rows.length := Int.ofNat_lt.1 hj
      simp only [hle, if_true, pyGet_of_lt rows jn hlt, bind, Except.bind]
      by_cases hg : rows[jn].isGap = true
      · obtain ⟨j', e, a1, a2, a3, a4⟩ := ih ((jn : Int) - 1) (by omega) (by omega) (by omega)
        refine ⟨j', by rw [if_pos hg]; exact e, a1, by omega, fun k hk1 hk2 => ?_, a4⟩
        rcases Nat.eq_or_lt_of_le (Int.ofNat_le.1 hk2) with rfl | hk
        · rw [fragAt_eq rows k hlt, hg]; rfl
        · exact a3 k hk1 (by omega)
      · refine ⟨jn, by rw [if_neg hg]; rfl, by omega, Int.le_refl _, fun k h1 h2 => absurd h2 (Int.not_le.2 h1), fun _ => ?_⟩
        rw [Int.toNat_natCast, fragAt_eq rows jn hlt, Bool.eq_false_iff.2 hg]; rfl
    · rw [if_neg hle]
      exact ⟨j, rfl, by omega, Int.le_refl _, fun k h1 h2 => absurd h2 (Int.not_le.2 h1), fun h => absurd h hle⟩

/-- closed-span test of row `k` against the query `[a, b]`, in prefix sums -/
def passes (rows : List Row) (a b : Int) (k : Nat) : Prop :=
  1 + pre rows k ≤ b ∧ a ≤ pre rows (k + 1)

theorem not_passes_of_end_lt {rows : List Row} (hlen : ∀ r ∈ rows, 0 ≤ r.length) {a : Int} (b : Int) {k m : Nat}
    (hkm : k < m) (h : pre rows m < a) : ¬ passes rows a b k := by
  have := pre_mono rows hlen (k + 1) m hkm
  unfold passes; omega

theorem not_passes_of_lt_start {rows : List Row} (hlen : ∀ r ∈ rows, 0 ≤ r.length) (a : Int) {b : Int} {k m : Nat}
    (hmk : m ≤ k) (h : b < 1 + pre rows m) : ¬ passes rows a b k := by
  have := pre_mono rows hlen m k hmk
  unfold passes; omega

theorem block_bounds (idx : List Int) (a b : Int) (ovr n : Nat) (hovr : ovr < n) :
    extendLeft idx a ovr ovr ≤ extendRight idx b (n - (ovr + 1)) ovr ∧ extendRight idx b (n - (ovr + 1)) ovr < n := by
  have h1 := (extendLeft_spec idx a ovr).1
  obtain ⟨h2, h3, -⟩ := extendRight_spec idx b (n - (ovr + 1)) ovr
  omega

theorem passes_iff_block (rows : List Row) (hlen : ∀ r ∈ rows, 0 ≤ r.length) (a b : Int) (ovr : Nat)
    (hovr : ovr < rows.length) (ho : passes rows a b ovr) (k : Nat) (hk : k < rows.length) :
    passes rows a b k ↔
      extendLeft (buildIndex rows) a ovr ovr ≤ k ∧ k ≤ extendRight (buildIndex rows) b (rows.length - (ovr + 1)) ovr := by
  have hjO := (block_bounds (buildIndex rows) a b ovr rows.length hovr).2
  obtain ⟨hl1, hl2, hl3⟩ := extendLeft_spec (buildIndex rows) a ovr
  obtain ⟨hr1, hr2, hr3, hr4⟩ := extendRight_spec (buildIndex rows) b (rows.length - (ovr + 1)) ovr
  generalize extendLeft (buildIndex rows) a ovr ovr = iO at hl1 hl2 hl3 ⊢
  generalize extendRight (buildIndex rows) b (rows.length - (ovr + 1)) ovr = jO at hr1 hr2 hr3 hr4 hjO ⊢
  refine ⟨fun hp => ⟨?_, ?_⟩, fun ⟨h1, h2⟩ => ?_⟩
  · -- a row left of the block ends before the query
    refine Nat.le_of_not_lt fun h => ?_
    cases iO with
    | zero => exact Nat.not_lt_zero k h
    | succ i =>
      rcases hl3 with h0 | h0
      · cases h0
      · rw [Nat.add_sub_cancel, idxAt_buildIndex rows i (Nat.lt_of_le_of_lt (Nat.le_of_succ_le hl1) hovr)] at h0
        exact not_passes_of_end_lt hlen b h h0 hp
  · -- a row right of the block starts behind the query
    refine Nat.le_of_not_lt fun h => ?_
    rcases hr4 with h0 | h0
    · omega
    · rw [rowStart_buildIndex rows (jO + 1) hjO] at h0
      exact not_passes_of_lt_start hlen a h h0 hp
  · rcases Nat.lt_trichotomy k ovr with hko | rfl | hko
    · have h3 := hl2 k h1 hko
      rw [idxAt_buildIndex rows k hk] at h3
      exact ⟨Int.le_trans (Int.add_le_add_left (pre_mono rows hlen k ovr (Nat.le_of_lt hko)) 1) ho.1, Int.not_lt.1 h3⟩
    · exact ho
    · have h3 := hr3 k hko h2
      rw [rowStart_buildIndex rows k (Nat.le_of_lt hk)] at h3
      exact ⟨Int.not_lt.1 h3, Int.le_trans ho.2 (pre_mono rows hlen (ovr + 1) (k + 1) (Nat.succ_le_succ (Nat.le_of_lt hko)))⟩

theorem stripGaps_spec (rows : List Row) (iO jO : Nat) (hij : iO ≤ jO) (hj : jO < rows.length) :
    ∃ (i : Nat) (j : Int), skipGapsRight rows (rows.length + 2) iO jO = .ok i ∧
      skipGapsLeft rows (rows.length + 2) i jO = .ok j ∧
      ((¬ (i : Int) ≤ j ∧ ∀ k, iO ≤ k → k ≤ jO → fragAt rows k = false) ∨
       (∃ jn : Nat, j = jn ∧ iO ≤ i ∧ i ≤ jn ∧ jn ≤ jO ∧ fragAt rows i = true ∧ fragAt rows jn = true ∧
          ∀ k, iO ≤ k → k ≤ jO → fragAt rows k = true → i ≤ k ∧ k ≤ jn)) := by
  obtain ⟨i, ei, hi1, hi2, hi3, hi4⟩ :=
    skipGapsRight_spec rows (rows.length + 2) iO jO hj (Nat.le_succ_of_le hij) (by omega)
  obtain ⟨j, ej, hj1, hj2, hj3, hj4⟩ :=
    skipGapsLeft_spec rows (rows.length + 2) i (jO : Int) (Int.ofNat_lt.2 hj) (Int.ofNat_le.2 hi2) (by omega)
  refine ⟨i, j, ei, ej, ?_⟩
  by_cases hle : (i : Int) ≤ j
  · obtain ⟨jn, rfl⟩ := Int.eq_ofNat_of_zero_le (a := j) (Int.le_trans (Int.natCast_nonneg i) hle)
    have hin := Int.ofNat_le.1 hle
    have hjn := Int.ofNat_le.1 hj2
    refine .inr ⟨jn, rfl, hi1, hin, hjn, hi4 (Nat.le_trans hin hjn), hj4 hle, fun k h1 h2 hk => ⟨?_, ?_⟩⟩
    · refine Nat.le_of_not_lt fun h => ?_
      rw [hi3 k h1 h] at hk; cases hk
    · refine Nat.le_of_not_lt fun h => ?_
      rw [hj3 k (Int.ofNat_lt.2 h) (Int.ofNat_le.2 h2)] at hk; cases hk
  · -- the first fragment row from the left, if any, would stop the scan from the right
    have hi' : i = jO + 1 := by
      refine Nat.le_antisymm hi2 (Nat.lt_of_not_le fun h => ?_)
      have := hj3 i (Int.not_le.1 hle) (Int.ofNat_le.2 h)
      rw [hi4 h] at this; cases this
    exact .inl ⟨hle, fun k h1 h2 => hi3 k h1 (hi' ▸ Nat.lt_succ_of_le h2)⟩

/-- `1 if i == 0 else 1 + idx[i - 1]` -/
theorem startOf_buildIndex (rows : List Row) (i : Nat) (hi : i ≤ rows.length) :
    (if (i : Int) = 0 then (1 : Int) else 1 + idxAt (buildIndex rows) ((i : Int) - 1).toNat) = 1 + pre rows i := by
  cases i with
  | zero => rfl
  | succ i =>
    have e : (((i + 1 : Nat) : Int) - 1).toNat = i := by omega
    rw [if_neg (by omega), e, idxAt_buildIndex rows i hi]

theorem getElem_buildIndex (rows : List Row) (k : Nat) (h : k < (buildIndex rows).length) :
    (buildIndex rows)[k] = pre rows (k + 1) := by
  rw [← idxAt_buildIndex rows k (buildIndex_length rows ▸ h), idxAt, List.getD_eq_getElem?_getD,
    List.getElem?_eq_getElem h]; rfl

theorem pySlice_nat {α} (l : List α) (i j : Nat) : pySlice l (i : Int) ((j : Int) + 1) = (l.drop i).take (j + 1 - i) := by
  unfold pySlice
  have e : ((j : Int) + 1).toNat = j + 1 := by omega
  rw [Int.toNat_natCast, e]

/-- the result `find_overlaps` builds from rows `i … j` -/
def sliceResult (rows : List Row) (bait : Fragment) (i j : Nat) : OverlapResult :=
  { bait := bait, start := 1 + pre rows i, stop := pre rows (j + 1), rows := (rows.drop i).take (j + 1 - i),
    name := "matches".toList }

theorem findOverlaps_block (rows : List Row) (bait : Fragment) (hne : rows ≠ []) :
    (bsearch (buildIndex rows) bait.start bait.stop 0 rows.length = none ∧ findOverlaps rows bait = .ok none) ∨
    ∃ ovr iO jO, bsearch (buildIndex rows) bait.start bait.stop 0 rows.length = some ovr ∧
      iO = extendLeft (buildIndex rows) bait.start ovr ovr ∧
      jO = extendRight (buildIndex rows) bait.stop (rows.length - (ovr + 1)) ovr ∧ iO ≤ jO ∧ jO < rows.length ∧
      ((findOverlaps rows bait = .ok none ∧ ∀ k, iO ≤ k → k ≤ jO → fragAt rows k = false) ∨
       ∃ i j, iO ≤ i ∧ i ≤ j ∧ j ≤ jO ∧ fragAt rows i = true ∧ fragAt rows j = true ∧
         (∀ k, iO ≤ k → k ≤ jO → fragAt rows k = true → i ≤ k ∧ k ≤ j) ∧
         findOverlaps rows bait = .ok (some (sliceResult rows bait i j))) := by
  have hemp : rows.isEmpty = false := by cases rows <;> simp_all
  have hn := buildIndex_length rows
  unfold findOverlaps
  simp only [hemp, Bool.false_eq_true, if_false, hn]
  cases hb : bsearch (buildIndex rows) bait.start bait.stop 0 rows.length with
  | none => exact .inl ⟨rfl, rfl⟩
  | some ovr =>
    dsimp only
    obtain ⟨hio, hjO⟩ := block_bounds (buildIndex rows) bait.start bait.stop ovr rows.length (bsearch_some _ _ _ _ _ _ hb).2.1
    refine .inr ⟨ovr, _, _, rfl, rfl, rfl, hio, hjO, ?_⟩
    generalize extendLeft (buildIndex rows) bait.start ovr ovr = iO at hio ⊢
    generalize extendRight (buildIndex rows) bait.stop (rows.length - (ovr + 1)) ovr = jO at hio hjO ⊢
    obtain ⟨i, j, ei, ej, ⟨hij, hgap⟩ | ⟨jn, rfl, hi1, hin, hjn, hfi, hfj, hmin⟩⟩ := stripGaps_spec rows iO jO hio hjO
    · exact .inl ⟨by simp only [ei, ej, bind, Except.bind, hij, not_false_eq_true, if_true]; rfl, hgap⟩
    · have hjl : jn < rows.length := Nat.lt_of_le_of_lt hjn hjO
      refine .inr ⟨i, jn, hi1, hin, hjn, hfi, hfj, hmin, ?_⟩
      simp only [ei, ej, bind, Except.bind, Int.ofNat_le.2 hin, not_true, if_false,
        pyGet_of_lt (buildIndex rows) jn (hn ▸ hjl), pure, Except.pure]
      rw [startOf_buildIndex rows i (Nat.le_of_lt (Nat.lt_of_le_of_lt hin hjl)), getElem_buildIndex, pySlice_nat]; rfl

theorem findOverlaps_total (rows : List Row) (bait : Fragment) (hne : rows ≠ []) : ∃ r, findOverlaps rows bait = .ok r := by
  rcases findOverlaps_block rows bait hne with ⟨-, h⟩ | ⟨_, _, _, -, -, -, -, -, ⟨h, -⟩ | ⟨_, _, -, -, -, -, -, -, h⟩⟩ <;> exact ⟨_, h⟩

theorem findOverlaps_some {rows : List Row} {bait : Fragment} {o : OverlapResult} (h : findOverlaps rows bait = .ok (some o)) :
    ∃ i j, i ≤ j ∧ j < rows.length ∧ fragAt rows i = true ∧ fragAt rows j = true ∧ o = sliceResult rows bait i j := by
  have hne : rows ≠ [] := by rintro rfl; cases h
  rcases findOverlaps_block rows bait hne with ⟨-, h'⟩ | ⟨_, _, jO, -, -, -, -, hjO, ⟨h', -⟩ | ⟨i, j, -, hij, hj, hfi, hfj, -, h'⟩⟩
  · rw [h'] at h; cases h
  · rw [h'] at h; cases h
  · rw [h'] at h; cases h
    exact ⟨i, j, hij, Nat.lt_of_le_of_lt hj hjO, hfi, hfj, rfl⟩

/-- The lengths matter only here: a monotone index makes the binary search complete and the block around its hit the set of
    ALL passing rows. -/
theorem findOverlaps_cases (rows : List Row) (bait : Fragment) (hne : rows ≠ [])
    (hlen : ∀ r ∈ rows, 0 ≤ r.length) :
    (findOverlaps rows bait = .ok none ∧
      ∀ k, fragAt rows k = true → ¬ passes rows bait.start bait.stop k) ∨
    (∃ i j : Nat, i ≤ j ∧ j < rows.length ∧
      findOverlaps rows bait = .ok (some
        { bait := bait, start := 1 + pre rows i, stop := pre rows (j + 1),
          rows := (rows.drop i).take (j + 1 - i), name := "matches".toList }) ∧
      fragAt rows i = true ∧ fragAt rows j = true ∧
      passes rows bait.start bait.stop i ∧ passes rows bait.start bait.stop j ∧
      ∀ k, fragAt rows k = true → passes rows bait.start bait.stop k → i ≤ k ∧ k ≤ j) := by
  rcases findOverlaps_block rows bait hne with ⟨hb, h⟩ | ⟨ovr, iO, jO, hb, rfl, rfl, hio, hjO, hcase⟩
  · refine .inl ⟨h, fun k hk hp => ?_⟩
    have := bsearch_none rows hlen _ _ 0 _ (Nat.le_refl _) hb k (Nat.zero_le _) (fragAt_lt rows k hk)
    unfold passes at hp
    omega
  · obtain ⟨-, hovr, ho1, ho2⟩ := bsearch_some _ _ _ _ _ _ hb
    rw [idxAt_buildIndex rows ovr hovr] at ho1
    rw [rowStart_buildIndex rows ovr (Nat.le_of_lt hovr)] at ho2
    have hblock := passes_iff_block rows hlen bait.start bait.stop ovr hovr ⟨Int.not_lt.1 ho2, Int.not_lt.1 ho1⟩
    rcases hcase with ⟨h, hgap⟩ | ⟨i, j, hi1, hij, hjn, hfi, hfj, hmin, h⟩
    · refine .inl ⟨h, fun k hk hp => ?_⟩
      obtain ⟨h1, h2⟩ := (hblock k (fragAt_lt rows k hk)).1 hp
      rw [hgap k h1 h2] at hk; cases hk
    · have hjl : j < rows.length := Nat.lt_of_le_of_lt hjn hjO
      refine .inr ⟨i, j, hij, hjl, h, hfi, hfj, (hblock i (Nat.lt_of_le_of_lt hij hjl)).2 ⟨hi1, Nat.le_trans hij hjn⟩,
        (hblock j hjl).2 ⟨Nat.le_trans hi1 hij, hjn⟩, fun k hk hp => ?_⟩
      obtain ⟨h1, h2⟩ := (hblock k (fragAt_lt rows k hk)).1 hp
      exact hmin k h1 h2 hk

theorem slice_decomp {rows : List Row} {i j : Nat} (hij : i ≤ j) (hj : j < rows.length)
    (hfi : fragAt rows i = true) (hfj : fragAt rows j = true) :
    ∃ A B, rows = A ++ (rows.drop i).take (j + 1 - i) ++ B ∧ rowsLength A = pre rows i ∧
      rowsLength A + rowsLength ((rows.drop i).take (j + 1 - i)) = pre rows (j + 1) ∧
      ((∃ f, (rows.drop i).take (j + 1 - i) = [.frag f]) ∨
       ∃ f m g, (rows.drop i).take (j + 1 - i) = .frag f :: m ++ [.frag g]) := by
  obtain ⟨fi, hfi⟩ := (fragAt_iff rows i).1 hfi
  obtain ⟨fj, hfj⟩ := (fragAt_iff rows j).1 hfj
  have htake : rows.take (j + 1) = rows.take i ++ (rows.drop i).take (j + 1 - i) := by
    rw [← List.take_add]; congr 1; omega
  refine ⟨rows.take i, rows.drop (j + 1), ?_, rfl, ?_, ?_⟩
  · rw [← htake, List.take_append_drop]
  · rw [pre, htake, rowsLength_append]
  · have hlen : ((rows.drop i).take (j + 1 - i)).length = j + 1 - i := by
      rw [List.length_take, List.length_drop]; omega
    have h0 : ((rows.drop i).take (j + 1 - i))[0]? = some (.frag fi) := by
      rw [List.getElem?_take, List.getElem?_drop]; simp [hfi]; omega
    have hl : ((rows.drop i).take (j + 1 - i))[j - i]? = some (.frag fj) := by
      rw [List.getElem?_take, List.getElem?_drop, show i + (j - i) = j by omega]; simp [hfj]; omega
    generalize (rows.drop i).take (j + 1 - i) = S at hlen h0 hl
    cases S with
    | nil => cases h0
    | cons x t =>
      rcases List.eq_nil_or_concat t with rfl | ⟨m, y, rfl⟩
      · exact .inl ⟨fi, by simpa using h0⟩
      · have : j - i = m.length + 1 := by simp at hlen; omega
        rw [this] at hl
        exact .inr ⟨fi, m, fj, by simp at h0 hl; rw [h0, hl]; simp⟩

theorem slice_getElem? (rows : List Row) (i j t : Nat) :
    ((rows.drop i).take (j + 1 - i))[t]? = if t < j + 1 - i then rows[i + t]? else none := by
  rw [List.getElem?_take, List.getElem?_drop]

theorem slice_head? (rows : List Row) {i j : Nat} (hij : i ≤ j) :
    ((rows.drop i).take (j + 1 - i)).head? = rows[i]? := by
  obtain ⟨d, rfl⟩ := Nat.exists_eq_add_of_le hij
  rw [Nat.add_assoc, Nat.add_sub_cancel_left, List.head?_take, if_neg (Nat.succ_ne_zero d), List.head?_drop]

theorem slice_getLast? (rows : List Row) {i j : Nat} (hij : i ≤ j) (hj : j < rows.length) :
    ((rows.drop i).take (j + 1 - i)).getLast? = rows[j]? := by
  obtain ⟨d, rfl⟩ := Nat.exists_eq_add_of_le hij
  rw [Nat.add_assoc, Nat.add_sub_cancel_left, List.getLast?_eq_getElem?, List.length_take, List.length_drop,
    Nat.min_eq_left (by omega), Nat.add_sub_cancel, List.getElem?_take_of_lt (Nat.lt_succ_self d), List.getElem?_drop]

theorem rowsLength_slice (rows : List Row) {i j : Nat} (hij : i ≤ j + 1) :
    rowsLength ((rows.drop i).take (j + 1 - i)) = pre rows (j + 1) - pre rows i := by
  have : rows.take (j + 1) = rows.take i ++ (rows.drop i).take (j + 1 - i) := by
    rw [← List.take_add, Nat.add_sub_cancel' hij]
  rw [pre, this, AgpTpf.rowsLength_append, pre]; omega

end AgpTpf.C12
