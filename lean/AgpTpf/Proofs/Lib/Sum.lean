/-
  Sums over lists (`sumInts` of a `map`): linearity, the indicator of a value or of a sub-collection summed over a duplicate-free
  list, and double counting (`length_eq_sum_countP`).
-/
import AgpTpf.Proofs.Lib.Py
namespace AgpTpf

theorem sumInts_map_add {α} (f g : α → Int) (l : List α) :
    sumInts (l.map (fun x => f x + g x)) = sumInts (l.map f) + sumInts (l.map g) := by
  induction l with
  | nil => rfl
  | cons a t ih => simp only [List.map_cons, sumInts, ih]; omega

theorem sumInts_map_lin3 {α} (f g h : α → Int) (l : List α) :
    sumInts (l.map (fun x => f x + g x - h x)) = sumInts (l.map f) + sumInts (l.map g) - sumInts (l.map h) := by
  induction l with
  | nil => rfl
  | cons a t ih => simp only [List.map_cons, sumInts, ih]; omega

theorem sumInts_map_zero {α} (l : List α) : sumInts (l.map (fun _ => (0 : Int))) = 0 := by
  induction l with
  | nil => rfl
  | cons a t ih => simp only [List.map_cons, sumInts, ih]; omega

theorem sumInts_map_one {α} (l : List α) : sumInts (l.map (fun _ => (1 : Int))) = (l.length : Int) := by
  induction l with
  | nil => rfl
  | cons a t ih => simp only [List.map_cons, sumInts, ih, List.length_cons]; omega

theorem sumInts_map_nonneg {α} (f : α → Int) (l : List α) (h : ∀ x ∈ l, 0 ≤ f x) : 0 ≤ sumInts (l.map f) := by
  induction l with
  | nil => simp [sumInts]
  | cons a t ih =>
    simp only [List.map_cons, sumInts]
    have h1 := h a (List.mem_cons_self ..)
    have h2 := ih (fun x hx => h x (List.mem_cons_of_mem _ hx))
    omega

theorem sumInts_map_congr {α} (f g : α → Int) (l : List α) (h : ∀ x ∈ l, f x = g x) :
    sumInts (l.map f) = sumInts (l.map g) := congrArg sumInts (List.map_congr_left h)

theorem countP_eq_sumInts {α} (p : α → Bool) (l : List α) :
    (l.countP p : Int) = sumInts (l.map (fun x => if p x then 1 else 0)) := by
  induction l with
  | nil => rfl
  | cons a t ih =>
    rw [List.countP_cons, List.map_cons, sumInts, ← ih]
    split <;> simp <;> omega

theorem sumInts_indicator {κ} [DecidableEq κ] (c : Int) (k : κ) : ∀ (ks : List κ), ks.Nodup →
    sumInts (ks.map (fun k' => if k = k' then c else 0)) = if k ∈ ks then c else 0
  | [], _ => by simp [sumInts]
  | a :: t, h => by
    rw [List.nodup_cons] at h
    rw [List.map_cons, sumInts, sumInts_indicator c k t h.2]
    by_cases e : k = a
    · subst e
      simp [h.1]
    · have : ¬ (k = a ∨ k ∈ t) ↔ k ∉ t := by simp [e]
      by_cases m : k ∈ t <;> simp [e, m]

theorem sumInts_restrict {κ} [DecidableEq κ] (c : κ → Int) (ks : List κ) (hks : ks.Nodup) : ∀ (m : List κ), m.Nodup →
    (∀ k ∈ m, k ∈ ks) → sumInts (ks.map (fun k => if k ∈ m then c k else 0)) = sumInts (m.map c)
  | [], _, _ => by simp [sumInts, sumInts_map_zero]
  | k0 :: m', hm, hsub => by
    rw [List.nodup_cons] at hm
    have hpt : ∀ k ∈ ks, (if k ∈ k0 :: m' then c k else 0) =
        (if k0 = k then c k0 else 0) + (if k ∈ m' then c k else 0) := by
      intro k _
      by_cases e : k0 = k
      · subst e; simp [hm.1]
      · have e' : ¬ k = k0 := fun h => e h.symm
        by_cases m : k ∈ m' <;> simp [e, e', m]
    rw [sumInts_map_congr _ _ ks hpt, sumInts_map_add, sumInts_indicator (c k0) k0 ks hks,
      sumInts_restrict c ks hks m' hm.2 (fun k hk => hsub k (List.mem_cons_of_mem _ hk)),
      if_pos (hsub k0 (List.mem_cons_self ..)), List.map_cons, sumInts]

/-- double counting; the hypothesis says that every element of `l` is in exactly one of the classes `p F`, `F ∈ u` -/
theorem length_eq_sum_countP {α β} (p : β → α → Bool) (u : List β) : ∀ (l : List α),
    (∀ t ∈ l, sumInts (u.map (fun F => if p F t then 1 else 0)) = 1) →
    (l.length : Int) = sumInts (u.map (fun F => (l.countP (p F) : Int)))
  | [], _ => by simp [sumInts_map_zero]
  | t :: r, h => by
    have ih := length_eq_sum_countP p u r (fun x hx => h x (List.mem_cons_of_mem _ hx))
    have hpt : ∀ F ∈ u, (((t :: r).countP (p F) : Nat) : Int) = (r.countP (p F) : Int) + (if p F t then 1 else 0) := by
      intro F _
      rw [List.countP_cons]
      split <;> simp
    rw [sumInts_map_congr _ _ u hpt, sumInts_map_add, ← ih, h t (List.mem_cons_self ..), List.length_cons]
    omega

end AgpTpf
