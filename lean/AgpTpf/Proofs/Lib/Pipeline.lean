/-
  How the store of overlap results and the registry of found contigs change through `remap_to_input_assembly`, and what the build it
  returns holds (the stages themselves: `Lib/Stages`, `Lib/Resolver`, `Lib/Find`, which this file hands on to its importers).
  `find_assembly_overlaps` appends — per Pretext fragment whose lookup finds something one result, labelled and with its large
  overhangs trimmed (`Created`) — and redistributes names (`Grows`, `findAssemblyOverlaps_grows`).
  After it the store changes only by `discard_start` / `discard_end` (the resolver) and `trim_fragment` of a registered
  fragment with a fresh object id (cutting), applied in place to one stored result that has rows (`Edit`, `Evolves`, `*_evolves`).
  So a property of stored results closed under these operations (`OpClosed`) holds after every later stage
  (`Evolves.forall`), and a projection of stored results that the operations leave alone is the same list after every
  later stage (`Evolves.map_eq`); for the first stage the same two liftings are `Grows.forall` and `Grows.map_prefix`.
  The registry: `find_assembly_overlaps` registers contig rows of the results it stores, each under its own key; the resolver's
  bookkeeping re-registers under a key the object that was there; cutting and `add_missing` leave the registry alone.  So what
  holds of every contig row of the input holds of every registered object at every stage (`FoundIn`, `*_foundIn`), and cutting
  trims only such objects (`cutRemaining_evolves_of`, `middle_evolves_of`).  `add_missing` appends left-over scaffolds
  (`LeftoverOf`, `addMissing_extra`).  `remapToInput_forall` is the lifting theorem over all five stages, for the build returned.
-/
import AgpTpf.Proofs.Lib.Namer
import AgpTpf.Proofs.Lib.Stages
import AgpTpf.Proofs.Lib.Resolver
import AgpTpf.Proofs.Lib.Find
import AgpTpf.Proofs.Lib.Overlap
namespace AgpTpf.Pipeline
open AgpTpf

theorem rows_ne_nil_of_discardStart {o o' : OverlapResult} (h : o.discardStart = .ok o') : o.rows ≠ [] :=
  fun he => by rw [OverlapResult.discardStart_empty he] at h; cases h

theorem rows_ne_nil_of_discardEnd {o o' : OverlapResult} (h : o.discardEnd = .ok o') : o.rows ≠ [] :=
  fun he => by rw [OverlapResult.discardEnd_empty he] at h; cases h

theorem rows_ne_nil_of_trimFragment {o : OverlapResult} {f : Fragment} {ks ke : Bool} {n : Nat} {p : OverlapResult × Fragment}
    (h : o.trimFragment f ks ke n = .ok p) : o.rows ≠ [] :=
  fun he => by rw [OverlapResult.trimFragment_empty f ks ke n he] at h; cases h

/-- a slot beyond the end of the store reads as the default result, which has no rows -/
theorem lt_length_of_rows_ne_nil {store : List Res} {i : Nat} (h : (store.getD i default).o.rows ≠ []) : i < store.length := by
  apply Decidable.byContradiction
  intro hi
  rw [List.getD_eq_getElem?_getD, List.getElem?_eq_none (Nat.le_of_not_lt hi)] at h
  exact h rfl

/-- the three in-place edits of a stored result, with the object-id counter before and after.  `trim_fragment` makes its
    piece with the counter's value.  `dr` says whether discards may occur, `fr` which fragments may be trimmed: the resolver
    only discards, cutting only trims registered fragments -/
inductive Edit (dr : Prop) (fr : Fragment → Prop) : Nat → OverlapResult → Nat → OverlapResult → Prop
  | discardStart {n : Nat} {o o' : OverlapResult} : dr → o.discardStart = .ok o' → Edit dr fr n o n o'
  | discardEnd {n : Nat} {o o' : OverlapResult} : dr → o.discardEnd = .ok o' → Edit dr fr n o n o'
  | trim {n : Nat} {o o' : OverlapResult} {f new : Fragment} {ks ke : Bool} :
      fr f → o.trimFragment f ks ke n = .ok (o', new) → Edit dr fr n o (n + 1) o'

theorem Edit.rows_ne_nil {dr : Prop} {fr : Fragment → Prop} {n n' : Nat} {o o' : OverlapResult} (h : Edit dr fr n o n' o') :
    o.rows ≠ [] := by
  cases h with
  | discardStart _ h => exact rows_ne_nil_of_discardStart h
  | discardEnd _ h => exact rows_ne_nil_of_discardEnd h
  | trim _ h => exact rows_ne_nil_of_trimFragment h

/-- `Evolves dr fr n s n' s'`: the store `s'` and id counter `n'` come from `s` and `n` by edits of single slots -/
inductive Evolves (dr : Prop) (fr : Fragment → Prop) (n : Nat) (s : List Res) : Nat → List Res → Prop
  | refl : Evolves dr fr n s n s
  | step {n₁ n₂ : Nat} {s₁ : List Res} {i : Nat} {o' : OverlapResult} :
      Evolves dr fr n s n₁ s₁ → Edit dr fr n₁ (s₁.getD i default).o n₂ o' →
      Evolves dr fr n s n₂ (setAt s₁ i { s₁.getD i default with o := o' })

namespace Evolves
variable {dr : Prop} {fr : Fragment → Prop} {n n' : Nat} {s s' : List Res}

theorem trans {n'' : Nat} {s'' : List Res} (h1 : Evolves dr fr n s n' s') (h2 : Evolves dr fr n' s' n'' s'') :
    Evolves dr fr n s n'' s'' := by
  induction h2 with
  | refl => exact h1
  | step _ e ih => exact .step ih e

theorem mono {dr' : Prop} {fr' : Fragment → Prop} (hdr : dr → dr') (hfr : ∀ f, fr f → fr' f) (h : Evolves dr fr n s n' s') :
    Evolves dr' fr' n s n' s' := by
  induction h with
  | refl => exact .refl
  | step _ e ih =>
    refine .step ih ?_
    cases e with
    | discardStart hd h => exact .discardStart (hdr hd) h
    | discardEnd hd h => exact .discardEnd (hdr hd) h
    | trim hf h => exact .trim (hfr _ hf) h

theorem le (h : Evolves dr fr n s n' s') : n ≤ n' := by
  induction h with
  | refl => exact Nat.le_refl _
  | step _ e ih => cases e <;> omega

end Evolves

/-- a property `P n r` of a stored result (`n` = the id counter) that the edits keep -/
structure OpClosed (dr : Prop) (fr : Fragment → Prop) (P : Nat → Res → Prop) : Prop where
  mono : ∀ {n : Nat} {r : Res}, P n r → P (n + 1) r
  discardStart : ∀ {n : Nat} {r : Res} {o' : OverlapResult}, dr → P n r → r.o.discardStart = .ok o' → P n { r with o := o' }
  discardEnd : ∀ {n : Nat} {r : Res} {o' : OverlapResult}, dr → P n r → r.o.discardEnd = .ok o' → P n { r with o := o' }
  trim : ∀ {n : Nat} {r : Res} {f new : Fragment} {ks ke : Bool} {o' : OverlapResult},
    fr f → P n r → r.o.trimFragment f ks ke n = .ok (o', new) → P (n + 1) { r with o := o' }

theorem OpClosed.plain {dr : Prop} {fr : Fragment → Prop} {P : Res → Prop}
    (ds : ∀ (r : Res) (o' : OverlapResult), P r → r.o.discardStart = .ok o' → P { r with o := o' })
    (de : ∀ (r : Res) (o' : OverlapResult), P r → r.o.discardEnd = .ok o' → P { r with o := o' })
    (tr : ∀ (r : Res) (f : Fragment) (ks ke : Bool) (n : Nat) (o' : OverlapResult) (new : Fragment),
      P r → r.o.trimFragment f ks ke n = .ok (o', new) → P { r with o := o' }) : OpClosed dr fr (fun _ => P) :=
  ⟨id, fun _ h => ds _ _ h, fun _ h => de _ _ h, fun _ h => tr _ _ _ _ _ _ _ h⟩

theorem Evolves.forall {dr : Prop} {fr : Fragment → Prop} {P : Nat → Res → Prop} {n n' : Nat} {s s' : List Res}
    (h : Evolves dr fr n s n' s') (hc : OpClosed dr fr P) (hs : ∀ r ∈ s, P n r) : ∀ r ∈ s', P n' r := by
  induction h with
  | refl => exact hs
  | step _ e ih =>
    have hi := getD_mem (lt_length_of_rows_ne_nil e.rows_ne_nil)
    intro r hr
    rcases mem_setAt hr with hr | rfl
    · cases e with
      | discardStart _ _ => exact ih r hr
      | discardEnd _ _ => exact ih r hr
      | trim _ _ => exact hc.mono (ih r hr)
    · cases e with
      | discardStart hd h => exact hc.discardStart hd (ih _ hi) h
      | discardEnd hd h => exact hc.discardEnd hd (ih _ hi) h
      | trim hf h => exact hc.trim hf (ih _ hi) h

theorem Evolves.map_eq_of {dr : Prop} {fr : Fragment → Prop} {β} (g : Res → β) {n n' : Nat} {s s' : List Res}
    (h : Evolves dr fr n s n' s')
    (ds : ∀ (r : Res) (o' : OverlapResult), dr → r.o.discardStart = .ok o' → g { r with o := o' } = g r)
    (de : ∀ (r : Res) (o' : OverlapResult), dr → r.o.discardEnd = .ok o' → g { r with o := o' } = g r)
    (tr : ∀ (r : Res) (f : Fragment) (ks ke : Bool) (m : Nat) (o' : OverlapResult) (new : Fragment), fr f → n ≤ m →
      r.o.trimFragment f ks ke m = .ok (o', new) → g { r with o := o' } = g r) : s'.map g = s.map g := by
  induction h with
  | refl => rfl
  | step h1 e ih =>
    rw [← ih]
    apply map_setAt_of_eq
    cases e with
    | discardStart hd h => exact ds _ _ hd h
    | discardEnd hd h => exact de _ _ hd h
    | trim hf h => exact tr _ _ _ _ _ _ _ hf h1.le h

theorem Evolves.map_eq {dr : Prop} {fr : Fragment → Prop} {β} (g : Res → β) {n n' : Nat} {s s' : List Res}
    (h : Evolves dr fr n s n' s')
    (ds : ∀ (r : Res) (o' : OverlapResult), dr → r.o.discardStart = .ok o' → g { r with o := o' } = g r)
    (de : ∀ (r : Res) (o' : OverlapResult), dr → r.o.discardEnd = .ok o' → g { r with o := o' } = g r)
    (tr : ∀ (r : Res) (f : Fragment) (ks ke : Bool) (n : Nat) (o' : OverlapResult) (new : Fragment),
      r.o.trimFragment f ks ke n = .ok (o', new) → g { r with o := o' } = g r) : s'.map g = s.map g :=
  h.map_eq_of g ds de (fun r f ks ke m o' new _ _ => tr r f ks ke m o' new)

/-- the resolver only discards -/
abbrev NoTrim : Fragment → Prop := fun _ => False

theorem apply_evolves {p : Premise} {store store' : List Res} (n : Nat) (h : p.apply store = .ok store') :
    Evolves True NoTrim n store n store' := by
  obtain ⟨o', ho, rfl⟩ := apply_ok h
  unfold Premise.discard at ho
  split at ho
  · exact .step .refl (.discardStart trivial ho)
  · exact .step .refl (.discardEnd trivial ho)

theorem fixOne_evolves {err : Int} {ps : List Premise} {st st' : List Res × List Premise} (n : Nat)
    (h : fixOne err st ps = .ok st') : Evolves True NoTrim n st.1 n st'.1 := by
  rcases fixOne_ok (store := st.1) (fixes := st.2) (store' := st'.1) (fixes' := st'.2) h with ⟨e, _⟩ | ⟨p, hp, _⟩
  · rw [e]; exact .refl
  · exact apply_evolves n hp

theorem resolverRound_evolves {b b' : Build} (h : resolverRound b = .ok (some b')) :
    Evolves True NoTrim b.nextOid b.store b'.nextOid b'.store := by
  obtain ⟨_, store, fixes, _, hf, _, hb⟩ := resolverRound_ok h
  have h1 : Evolves True NoTrim b.nextOid b.store b.nextOid store :=
    foldlM_inv (fun st : List Res × List Premise => Evolves True NoTrim b.nextOid b.store b.nextOid st.1) hf .refl
      (fun st ps _ st' hst hs => hst.trans (fixOne_evolves _ hs))
  obtain ⟨_, e1, e2, _⟩ := bookkeeping_frame hb
  rw [e1, e2]; exact h1

theorem Rounds.evolves {b b' : Build} (h : Rounds b b') : Evolves True NoTrim b.nextOid b.store b'.nextOid b'.store := by
  induction h with
  | refl b => exact .refl
  | step hr _ ih => exact (resolverRound_evolves hr).trans ih

theorem discardOverhanging_evolves {fuel : Nat} {b b' : Build} (h : discardOverhanging fuel b = .ok b') :
    Evolves True NoTrim b.nextOid b.store b'.nextOid b'.store := (discardOverhanging_rounds h).evolves

theorem cutHolder_evolves {f : Fragment} {last : Nat} {b : Build} {subs : List Fragment} {i sid : Nat}
    {a' : Build × List Fragment × Nat} (h : cutHolder f last (b, subs, i) sid = .ok a') :
    Evolves False (· = f) b.nextOid b.store a'.1.nextOid a'.1.store := by
  obtain ⟨o, new, ht, rfl⟩ := cutHolder_ok h
  exact .step .refl (.trim rfl ht)

theorem cutFragments_evolves {b b' : Build} {fnd : Found} (h : cutFragments b fnd = .ok b') :
    Evolves False (· = fnd.fragment) b.nextOid b.store b'.nextOid b'.store := by
  obtain ⟨ordered, b1, subs, n, _, hl, _, rfl⟩ := cutFragments_ok h
  exact foldlM_inv
    (fun a : Build × List Fragment × Nat => Evolves False (· = fnd.fragment) b.nextOid b.store a.1.nextOid a.1.store) hl .refl
    (fun a sid _ a' ha hs => ha.trans (cutHolder_evolves hs))

/-- the fragments `cut_remaining_overhangs` may trim: those registered as found -/
def Registered (found : List (Key × Found)) (f : Fragment) : Prop := ∃ k fnd, dGet? found k = some fnd ∧ fnd.fragment = f

theorem cutMulti_evolves {b b' : Build} {k : Key} (h : cutMulti b k = .ok b') :
    Evolves False (Registered b.found) b.nextOid b.store b'.nextOid b'.store := by
  unfold cutMulti at h
  split at h
  · next fnd hk => exact (cutFragments_evolves h).mono id (fun f e => ⟨k, fnd, hk, e.symm⟩)
  · cases h; exact .refl

theorem cutRemaining_evolves {b b' : Build} (h : cutRemaining b = .ok b') :
    Evolves False (Registered b.found) b.nextOid b.store b'.nextOid b'.store := by
  obtain ⟨b1, hb, rfl⟩ := cutRemaining_ok h
  refine (foldlM_inv (fun x : Build => x.found = b.found ∧
    Evolves False (Registered b.found) b.nextOid b.store x.nextOid x.store) hb ⟨rfl, .refl⟩ ?_).2
  intro x k _ x' ⟨hx, he⟩ hs
  exact ⟨(cutMulti_frame hs).2.1.trans hx, he.trans (hx ▸ cutMulti_evolves hs)⟩

theorem middle_evolves {fuel : Nat} {b1 b2 b3 : Build} (h2 : discardOverhanging fuel b1 = .ok b2)
    (h3 : cutRemaining b2 = .ok b3) : Evolves True (Registered b2.found) b1.nextOid b1.store b3.nextOid b3.store :=
  ((discardOverhanging_evolves h2).mono id (fun _ h => h.elim)).trans
    ((cutRemaining_evolves h3).mono (fun h => h.elim) (fun _ h => h))

theorem renameBySize_map_eq {β} (g : Res → β) (hg : ∀ (r : Res) (nm : Str), g { r with o := { r.o with name := nm } } = g r)
    (store : List Res) (ids : List Nat) : (renameBySize store ids).map g = store.map g := by
  have fold : ∀ (ps : List (Nat × Str)) (st : List Res),
      (ps.foldl (fun st (p : Nat × Str) =>
        let r := st.getD p.1 default
        setAt st p.1 { r with o := { r.o with name := p.2 } }) st).map g = st.map g := by
    intro ps
    induction ps with
    | nil => intro st; rfl
    | cons p t ih => intro st; rw [List.foldl_cons, ih]; exact map_setAt_of_eq g st p.1 _ (hg _ _)
  unfold renameBySize
  split
  · rfl
  · exact fold _ _

/-- `r` is what the pass for some Pretext fragment stores when the error length is `err`: the overlap found in an input
    scaffold, relabelled, its large overhangs trimmed; part of the assembly iff rows are left -/
def Created (input : List Scaffold) (err : Int) (r : Res) : Prop :=
  ∃ (bait : Fragment) (sc : Scaffold) (o0 o1 : OverlapResult), lookupScaffold input bait.name = .ok sc ∧
    findOverlaps sc.rows bait = .ok (some o0) ∧
    (o1.rows = o0.rows ∧ o1.bait = o0.bait ∧ o1.start = o0.start ∧ o1.stop = o0.stop) ∧
    o1.trimLargeOverhangs err = .ok r.o ∧ r.added = !r.o.rows.isEmpty

/-- `Grows C s s'`: the store `s'` comes from `s` by appending results that satisfy `C` and by `rename_by_size` -/
inductive Grows (C : Res → Prop) (s : List Res) : List Res → Prop
  | refl : Grows C s s
  | push {s₁ : List Res} {r : Res} : Grows C s s₁ → C r → Grows C s (s₁ ++ [r])
  | rename {s₁ : List Res} (ids : List Nat) : Grows C s s₁ → Grows C s (renameBySize s₁ ids)

theorem Grows.trans {C : Res → Prop} {s s' s'' : List Res} (h1 : Grows C s s') (h2 : Grows C s' s'') : Grows C s s'' := by
  induction h2 with
  | refl => exact h1
  | push _ hr ih => exact .push ih hr
  | rename ids _ ih => exact .rename ids ih

theorem renameBySize_forall {P : Res → Prop} (hP : ∀ (r : Res) (nm : Str), P r → P { r with o := { r.o with name := nm } })
    {store : List Res} (ids : List Nat) (hs : ∀ r ∈ store, P r) : ∀ r ∈ renameBySize store ids, P r := by
  have fold : ∀ (ps : List (Nat × Str)) (st : List Res), (∀ r ∈ st, P r) →
      ∀ r ∈ ps.foldl (fun st (p : Nat × Str) =>
        let r := st.getD p.1 default
        setAt st p.1 { r with o := { r.o with name := p.2 } }) st, P r := by
    intro ps
    induction ps with
    | nil => intro st h; exact h
    | cons p t ih =>
      intro st h
      rw [List.foldl_cons]
      refine ih _ (fun r hr => ?_)
      rcases mem_setAt_lt hr with hr | ⟨hi, rfl⟩
      · exact h r hr
      · exact hP _ _ (h _ (getD_mem hi))
  unfold renameBySize
  split
  · exact hs
  · exact fold _ _ hs

theorem Grows.forall {C P : Res → Prop} {s s' : List Res} (h : Grows C s s') (hC : ∀ r, C r → P r)
    (hP : ∀ (r : Res) (nm : Str), P r → P { r with o := { r.o with name := nm } }) (hs : ∀ r ∈ s, P r) : ∀ r ∈ s', P r := by
  induction h with
  | refl => exact hs
  | push _ hr ih =>
    intro x hx
    rcases List.mem_append.mp hx with hx | hx
    · exact ih x hx
    · cases List.mem_singleton.mp hx; exact hC _ hr
  | rename ids _ ih => exact renameBySize_forall hP ids ih

theorem Grows.map_prefix {C : Res → Prop} {β} (g : Res → β) (hg : ∀ (r : Res) (nm : Str), g { r with o := { r.o with name := nm } } = g r)
    {s s' : List Res} (h : Grows C s s') : s.map g <+: s'.map g := by
  induction h with
  | refl => exact List.prefix_refl _
  | push _ _ ih => rw [List.map_append]; exact ih.trans (List.prefix_append _ _)
  | rename ids _ ih => rw [renameBySize_map_eq g hg]; exact ih

theorem processBait_grows {input : List Scaffold} {scTags : List Str} {orig : Str} {b b' : Build} {bait : Fragment}
    (h : processBait input scTags orig b bait = .ok b') : Grows (Created input b.err) b.store b'.store := by
  obtain ⟨sc, hsc, ⟨_, rfl⟩ | ⟨o0, o1, o2, n, hfo, hl, ht, rfl⟩⟩ := processBait_ok h
  · exact .refl
  · obtain ⟨_, _, e⟩ := stored_frame b n o2
    obtain ⟨-, -, e1⟩ := labelScaffold_ok hl
    rw [e]
    exact .push .refl ⟨bait, sc, o0, o1, hsc, hfo, by rw [e1]; exact ⟨rfl, rfl, rfl, rfl⟩, ht, rfl⟩

theorem findAssemblyOverlaps_grows {input ptx : List Scaffold} {b b' : Build} (h : findAssemblyOverlaps input ptx b = .ok b') :
    Grows (Created input b.err) b.store b'.store :=
  (findAssemblyOverlaps_inv (fun x => x.err = b.err ∧ Grows (Created input b.err) b.store x.store) h ⟨rfl, .refl⟩
    (fun _ _ _ _ hx _ => hx)
    (fun _ _ _ _ _ _ hx hs => ⟨(processBait_frame hs).2.2.2.1.trans hx.1, hx.2.trans (hx.1 ▸ processBait_grows hs)⟩)
    (fun _ ids hx => ⟨hx.1, .rename ids hx.2⟩)).2

def FoundIn (Q : Key → Fragment → Prop) (found : List (Key × Found)) : Prop := ∀ kf ∈ found, Q kf.1 kf.2.fragment

variable {Q : Key → Fragment → Prop}

theorem FoundIn.nil (Q : Key → Fragment → Prop) : FoundIn Q [] := fun _ h => nomatch h

theorem FoundIn.get {found : List (Key × Found)} (h : FoundIn Q found) {k : Key} {fnd : Found}
    (hk : dGet? found k = some fnd) : Q k fnd.fragment := h (k, fnd) (dGet?_mem hk)

theorem FoundIn.registered {found : List (Key × Found)} (h : FoundIn Q found) {f : Fragment}
    (hr : Registered found f) : ∃ k, Q k f := by
  obtain ⟨k, fnd, hk, rfl⟩ := hr
  exact ⟨k, h.get hk⟩

theorem FoundIn.dSet {found : List (Key × Found)} (h : FoundIn Q found) {k : Key} {fnd : Found}
    (hk : dGet? found k = some fnd) (sc : List Nat) : FoundIn Q (dSet found k { fnd with scaffolds := sc }) := by
  intro kf hkf
  rcases mem_dSet hkf with hm | rfl
  · exact h kf hm
  · exact h.get (fnd := fnd) hk

theorem storeOne_foundIn (sid : Nat) {b : Build} {ff : Fragment} (hb : FoundIn Q b.found)
    (hf : Q ff.keyTuple ff) : FoundIn Q (C01.storeOne sid b ff).found := by
  cases hk : dGet? b.found ff.keyTuple with
  | some fnd => rw [C01.storeOne_some _ _ _ _ hk]; exact hb.dSet hk _
  | none =>
    rw [C01.storeOne_none _ _ _ hk]
    intro kf hkf
    rcases List.mem_append.mp hkf with hm | hm
    · exact hb kf hm
    · cases List.mem_singleton.mp hm; exact hf

theorem storeFragmentsFound_foundIn (sid : Nat) (frags : List Fragment) (b : Build)
    (hb : FoundIn Q b.found) (hf : ∀ f ∈ frags, Q f.keyTuple f) : FoundIn Q (storeFragmentsFound b sid frags).found := by
  rw [storeFragmentsFound_eq]
  induction frags generalizing b with
  | nil => exact hb
  | cons f t ih =>
    exact ih _ (storeOne_foundIn sid hb (hf f (List.mem_cons_self ..))) (fun g hg => hf g (List.mem_cons_of_mem _ hg))

theorem stored_foundIn {b : Build} (n : Namer) {o : OverlapResult} (hb : FoundIn Q b.found)
    (ho : ∀ f, Row.frag f ∈ o.rows → Q f.keyTuple f) : FoundIn Q (stored b n o).found :=
  storeFragmentsFound_foundIn _ _ _ hb (fun f hf => ho f (mem_fragmentsOf.mp hf))

theorem Created.rows_subset {input : List Scaffold} {err : Int} {r : Res} (hc : Created input err r) :
    ∃ sc ∈ input, r.o.rows <:+: sc.rows := by
  obtain ⟨bait, sc, o0, o1, hsc, hfo, ⟨hr1, -, -, -⟩, ho2, -⟩ := hc
  exact ⟨sc, (lookupScaffold_ok hsc).1, (hr1 ▸ (OverlapResult.trimLarge_keeps ho2).1).trans (findOverlaps_fresh hfo).2.2.2⟩

theorem processBait_foundIn {input : List Scaffold}
    (hQ : ∀ sc ∈ input, ∀ f, Row.frag f ∈ sc.rows → Q f.keyTuple f)
    {scTags : List Str} {orig : Str} {b b' : Build} {bait : Fragment} (hb : FoundIn Q b.found)
    (h : processBait input scTags orig b bait = .ok b') : FoundIn Q b'.found := by
  obtain ⟨sc, hsc, ⟨_, rfl⟩ | ⟨o0, o1, o2, n, hfo, hl, ht, rfl⟩⟩ := processBait_ok h
  · exact hb
  · obtain ⟨-, -, e1⟩ := labelScaffold_ok hl
    refine stored_foundIn n hb (fun f hf => hQ sc (lookupScaffold_ok hsc).1 f ?_)
    exact (findOverlaps_fresh hfo).2.2.2.subset ((show o1.rows = o0.rows by rw [e1]; rfl) ▸ (OverlapResult.trimLarge_keeps ht).1.subset hf)

theorem findAssemblyOverlaps_foundIn {input ptx : List Scaffold}
    (hQ : ∀ sc ∈ input, ∀ f, Row.frag f ∈ sc.rows → Q f.keyTuple f) {b b' : Build} (hb : FoundIn Q b.found)
    (h : findAssemblyOverlaps input ptx b = .ok b') : FoundIn Q b'.found :=
  findAssemblyOverlaps_inv (fun x => FoundIn Q x.found) h hb (fun _ _ _ _ hx _ => hx)
    (fun _ _ _ _ _ _ hx hs => processBait_foundIn hQ hx hs) (fun _ _ hx => hx)

theorem applyFixBookkeeping_foundIn {b b' : Build} {p : Premise} (hb : FoundIn Q b.found)
    (h : applyFixBookkeeping b p = .ok b') : FoundIn Q b'.found := by
  rcases applyFixBookkeeping_ok h with rfl | ⟨fnd, rest, hf, _, rfl⟩
  · exact hb
  · exact hb.dSet hf rest

theorem resolverRound_foundIn {b b' : Build} (hb : FoundIn Q b.found)
    (h : resolverRound b = .ok (some b')) : FoundIn Q b'.found := by
  obtain ⟨_, store, fixes, _, _, _, hbk⟩ := resolverRound_ok h
  exact foldlM_inv (fun x : Build => FoundIn Q x.found) hbk hb (fun _ _ _ _ hx hs => applyFixBookkeeping_foundIn hx hs)

theorem Rounds.foundIn {b b' : Build} (h : Rounds b b') (hb : FoundIn Q b.found) :
    FoundIn Q b'.found := by
  induction h with
  | refl => exact hb
  | step hr _ ih => exact ih (resolverRound_foundIn hb hr)

theorem discardOverhanging_foundIn {fuel : Nat} {b b' : Build} (hb : FoundIn Q b.found)
    (h : discardOverhanging fuel b = .ok b') : FoundIn Q b'.found := (discardOverhanging_rounds h).foundIn hb

theorem cutRemaining_evolves_of {P : Fragment → Prop} {b b' : Build} (hb : FoundIn (fun _ => P) b.found)
    (h : cutRemaining b = .ok b') : Evolves False P b.nextOid b.store b'.nextOid b'.store :=
  (cutRemaining_evolves h).mono id (fun _ hr => (hb.registered hr).elim fun _ hq => hq)

theorem middle_evolves_of {P : Fragment → Prop} {fuel : Nat} {b1 b2 b3 : Build} (hb : FoundIn (fun _ => P) b1.found)
    (h2 : discardOverhanging fuel b1 = .ok b2) (h3 : cutRemaining b2 = .ok b3) :
    Evolves True P b1.nextOid b1.store b3.nextOid b3.store :=
  ((discardOverhanging_evolves h2).mono id (fun _ h => h.elim)).trans
    ((cutRemaining_evolves_of (discardOverhanging_foundIn hb h2) h3).mono (fun h => h.elim) (fun _ h => h))

/-- `e` is the left-over scaffold `add_missing_scaffolds_from_input` builds from the input scaffold `sc` (join gap `jg`):
    `missingRows` of its rows, not empty, with the recorded `input_predecessor` -/
def LeftoverOf (jg : Option Gap) (sc : Scaffold) (e : Scaffold × Option (Fragment × List Gap)) : Prop :=
  ∃ (a : Build) (first : Option Nat), a.joinGap = jg ∧
    missingRows a sc.rows = .ok (e.1.rows, first) ∧ e.1.rows ≠ [] ∧
    e.2 = match first with | some i => inputPredecessor sc.rows i | none => none

theorem missingStep_extra {b b' : Build} {sc : Scaffold} (h : missingStep b sc = .ok b') :
    ∀ e ∈ b'.extra, e ∈ b.extra ∨ LeftoverOf b.joinGap sc e := by
  obtain ⟨rows, first, hv, ⟨_, rfl⟩ | ⟨hne, n, _, rfl⟩⟩ := missingStep_inv h
  · exact fun e he => Or.inl he
  · intro e he
    rcases List.mem_append.mp he with hm | hm
    · exact Or.inl hm
    · cases List.mem_singleton.mp hm
      exact Or.inr ⟨b, first, rfl, hv, hne, rfl⟩

theorem addMissing_extra {l : List Scaffold} {b b' : Build} (h : addMissing l b = .ok b') :
    ∀ e ∈ b'.extra, e ∈ b.extra ∨ ∃ sc ∈ l, LeftoverOf b.joinGap sc e := by
  rw [addMissing_eq] at h
  refine (foldlM_inv (fun x : Build => x.joinGap = b.joinGap ∧
    ∀ e ∈ x.extra, e ∈ b.extra ∨ ∃ sc ∈ l, LeftoverOf b.joinGap sc e) h ⟨rfl, fun e he => Or.inl he⟩ ?_).2
  intro x sc hsc x' ⟨hj, hx⟩ hs
  have hj' : x'.joinGap = x.joinGap := by
    rcases missingStep_ok hs with rfl | ⟨_, _, rfl⟩ <;> rfl
  refine ⟨hj'.trans hj, fun e he => ?_⟩
  rcases missingStep_extra hs e he with hm | r
  · exact hx e hm
  · exact Or.inr ⟨sc, hsc, hj ▸ r⟩

section
variable {input ptx : List Scaffold} {prefix_ : Str} {joinGap : Option Gap} {err : Int} {b : Build}

theorem remapToInput_frame (h : remapToInput input ptx prefix_ joinGap err = .ok b) :
    b.joinGap = joinGap ∧ b.err = err ∧ b.multi = [] := by
  obtain ⟨b1, b2, b3, h1, h2, h3, h4⟩ := remapToInput_ok h
  obtain ⟨-, -, m4, -, -, j4, e4⟩ := addMissing_frame h4
  obtain ⟨f3, -, m3⟩ := cutRemaining_frame h3
  have f2 := (discardOverhanging_frame h2).1
  obtain ⟨-, -, j1, e1, -⟩ := findAssemblyOverlaps_frame h1
  exact ⟨j4.trans (f3.joinGap.trans (f2.joinGap.trans j1)), e4.trans (f3.err.trans (f2.err.trans e1)), m4.trans m3⟩

theorem remapToInput_forall {P : Nat → Res → Prop} (hc : OpClosed True (· ∈ input.flatMap Scaffold.fragments) P)
    (hcr : ∀ r, Created input err r → P (initBuild input prefix_ joinGap err).nextOid r)
    (hnm : ∀ (n : Nat) (r : Res) (nm : Str), P n r → P n { r with o := { r.o with name := nm } })
    (h : remapToInput input ptx prefix_ joinGap err = .ok b) : ∀ r ∈ b.store, P b.nextOid r := by
  obtain ⟨b1, b2, b3, h1, h2, h3, h4⟩ := remapToInput_ok h
  have f1 : FoundIn (fun _ f => f ∈ input.flatMap Scaffold.fragments) b1.found :=
    findAssemblyOverlaps_foundIn (fun sc hsc f hf => List.mem_flatMap.mpr ⟨sc, hsc, mem_fragmentsOf.mpr hf⟩) (FoundIn.nil _) h1
  have s1 : ∀ r ∈ b1.store, P b1.nextOid r := by
    rw [(findAssemblyOverlaps_frame h1).2.2.2.2]
    exact (findAssemblyOverlaps_grows h1).forall hcr (hnm _) (fun _ hr => nomatch hr)
  obtain ⟨e1, -, -, -, e5, -⟩ := addMissing_frame h4
  rw [e1, e5]
  exact renameBySize_forall (hnm _) _ ((middle_evolves_of f1 h2 h3).forall hc s1)

theorem remapToInput_extra (h : remapToInput input ptx prefix_ joinGap err = .ok b) :
    ∀ e ∈ b.extra, ∃ sc ∈ input, LeftoverOf joinGap sc e := by
  obtain ⟨b1, b2, b3, h1, h2, h3, h4⟩ := remapToInput_ok h
  have f3 := (cutRemaining_frame h3).1
  have f2 := (discardOverhanging_frame h2).1
  obtain ⟨x1, -, j1, -, -⟩ := findAssemblyOverlaps_frame h1
  intro e he
  rcases addMissing_extra h4 e he with hm | ⟨sc, hsc, r⟩
  · rw [show b3.extra = [] from f3.extra.trans (f2.extra.trans x1)] at hm; cases hm
  · exact ⟨sc, hsc, (show b3.joinGap = joinGap from f3.joinGap.trans (f2.joinGap.trans j1)) ▸ r⟩

theorem remapToInput_foundIn {Q : Key → Fragment → Prop} (hQ : ∀ sc ∈ input, ∀ f, Row.frag f ∈ sc.rows → Q f.keyTuple f)
    (h : remapToInput input ptx prefix_ joinGap err = .ok b) : FoundIn Q b.found := by
  obtain ⟨b1, b2, b3, h1, h2, h3, h4⟩ := remapToInput_ok h
  rw [(addMissing_frame h4).2.1]
  exact (cutRemaining_frame h3).2.1 ▸ discardOverhanging_foundIn (findAssemblyOverlaps_foundIn hQ (FoundIn.nil _) h1) h2

end

end AgpTpf.Pipeline
