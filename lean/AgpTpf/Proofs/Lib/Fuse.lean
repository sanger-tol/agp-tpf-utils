/-
  `scaffolds_fused_by_name` (`fuseByName`, Model/Remap.lean), said once.

  The method is one fold of `C09.fuseStep` over a list of items (`C09.fuseItems b`: the added, non-empty stored results in
  store order, then the non-empty left-overs; `mem_fuseItems`), and `fuseStep` is the dict idiom of `Lib/Dict.lean`.  Hence
  `fuseByName_grouped`: one scaffold per `(tag, haplotype, name)` key, keys in first-occurrence order, each scaffold with the
  labels of the FIRST item of its key and the rows `fuseAddAll group []` of all of them (`fuseByName_mem`, `fuseByName_of_item`
  are its two readings).  Every `add` appends separator rows and the item's rows to what was built (`Appends`); what a family
  needs about the rows of a fused scaffold is an induction along ONE group (`fuseAddAll_inv`, `_order`, `_infix`,
  `mem_fuseAddAll`), never along the dict.
-/
import AgpTpf.Model.Remap
import AgpTpf.Proofs.Lib.Rows
import AgpTpf.Proofs.Lib.Dict
namespace AgpTpf.C09
open AgpTpf

abbrev FKey := Option Str × Option Str × Str

/-- what one call of the local `step` of `fuseByName` is given -/
structure Item where
  key : FKey
  proto : Scaffold
  rows : List Row
  add : List Row → List Row     -- what the step does to the rows built so far (always: `built ++ separators ++ rows`)

def fuseStep (acc : List (FKey × Scaffold)) (it : Item) : List (FKey × Scaffold) :=
  match dGet? acc it.key with
  | some s => dSet acc it.key { s with rows := it.add s.rows }
  | none => acc ++ [(it.key, { it.proto with rows := it.add [] })]

end AgpTpf.C09

namespace AgpTpf

theorem OverlapResult.toScaffoldRows_ne_nil (o : OverlapResult) (h : o.rows ≠ []) : o.toScaffoldRows ≠ [] := by
  unfold OverlapResult.toScaffoldRows
  split
  · simpa using h
  · exact h

namespace Fuse
open AgpTpf.C09 (Item)

def resItem (b : Build) (r : Res) : Item :=
  { key := (r.o.tag, r.o.haplotype, r.o.name)
    proto := { name := r.o.name, tag := r.o.tag, haplotype := r.o.haplotype, rank := r.o.rank,
               originalName := r.o.originalName, originalTags := r.o.originalTags }
    rows := r.o.toScaffoldRows
    add := fun built => Scaffold.appendRows built r.o.toScaffoldRows b.joinGap }

def extraItem (b : Build) (e : Scaffold × Option (Fragment × List Gap)) : Item :=
  { key := (e.1.tag, e.1.haplotype, e.1.name)
    proto := { name := e.1.name, tag := e.1.tag, haplotype := e.1.haplotype, rank := e.1.rank,
               originalName := e.1.originalName, originalTags := e.1.originalTags }
    rows := e.1.rows
    add := fun built => built ++ gapsBeforeLeftover b.joinGap built e.2 ++ e.1.rows }

end Fuse

namespace C09

def fuseItems (b : Build) : List Item :=
  (b.store.filter (fun r => r.added && !r.o.rows.isEmpty)).map (Fuse.resItem b) ++
    (b.extra.filter (fun e => !e.1.rows.isEmpty)).map (Fuse.extraItem b)

/-- the dict `scaffolds_fused_by_name` builds, before `.values()` -/
def fuseAcc (b : Build) : List (FKey × Scaffold) := (fuseItems b).foldl fuseStep []

theorem fuseByName_eq (b : Build) : fuseByName b = (fuseAcc b).map (·.2) := by
  unfold fuseByName fuseAcc fuseItems
  rw [List.foldl_append, List.foldl_map, List.foldl_map, List.foldl_filter, List.foldl_filter]
  dsimp only
  congr 1
  congr 1
  · funext acc e
    cases e.1.rows.isEmpty <;> rfl
  · congr 1
    funext acc r
    cases r.added <;> cases r.o.rows.isEmpty <;> rfl

end C09

namespace Fuse
open AgpTpf.C09 (FKey Item fuseStep fuseItems fuseAcc fuseByName_eq)

theorem mem_fuseItems {b : Build} {it : Item} :
    it ∈ fuseItems b ↔ (∃ r ∈ b.store, r.added = true ∧ r.o.rows ≠ [] ∧ it = resItem b r) ∨
      (∃ e ∈ b.extra, e.1.rows ≠ [] ∧ it = extraItem b e) := by
  unfold fuseItems
  simp only [List.mem_append, List.mem_map, List.mem_filter, Bool.and_eq_true, Bool.not_eq_true',
    List.isEmpty_eq_false_iff]
  constructor
  · rintro (⟨r, ⟨hr, h1, h2⟩, rfl⟩ | ⟨e, ⟨he, h2⟩, rfl⟩)
    · exact .inl ⟨r, hr, h1, h2, rfl⟩
    · exact .inr ⟨e, he, h2, rfl⟩
  · rintro (⟨r, hr, h1, h2, rfl⟩ | ⟨e, he, h2, rfl⟩)
    · exact .inl ⟨r, ⟨hr, h1, h2⟩, rfl⟩
    · exact .inr ⟨e, ⟨he, h2⟩, rfl⟩

theorem item_triple {b : Build} {it : Item} (h : it ∈ fuseItems b) :
    (it.proto.tag, it.proto.haplotype, it.proto.name) = it.key := by
  rcases mem_fuseItems.1 h with ⟨r, _, _, _, rfl⟩ | ⟨e, _, _, rfl⟩ <;> rfl

/-- what a step stores under the item's key -/
def fuseUpd (v : Option Scaffold) (it : Item) : Scaffold :=
  match v with
  | some s => { s with rows := it.add s.rows }
  | none => { it.proto with rows := it.add [] }

theorem fuseStep_eq (acc : List (FKey × Scaffold)) (it : Item) : fuseStep acc it = dStep Item.key fuseUpd acc it := by
  unfold fuseStep dStep fuseUpd
  cases hg : dGet? acc it.key with
  | none => exact (dSet_of_none _ hg).symm
  | some s => rfl

def fuseAddAll (its : List Item) (built : List Row) : List Row := its.foldl (fun bl it => it.add bl) built

/-- the scaffold a group of items (all of one key, in item order) is fused into: the labels of the first, the rows of all -/
def fusedOf : List Item → Scaffold
  | [] => default
  | it :: r => { it.proto with rows := fuseAddAll (it :: r) [] }

/-- the keys in first-occurrence order -/
def firstKeys (items : List Item) : List FKey := (items.map (·.key)).foldl sAdd []

theorem groupVal_some (r : List Item) : ∀ s : Scaffold,
    groupVal fuseUpd r (some s) = some { s with rows := fuseAddAll r s.rows } := by
  induction r with
  | nil => intro s; rfl
  | cons it t ih => intro s; exact ih _

theorem groupVal_none (g : List Item) (hg : g ≠ []) : groupVal fuseUpd g none = some (fusedOf g) := by
  cases g with
  | nil => exact absurd rfl hg
  | cons it r => exact groupVal_some r _

theorem fuseFold_eq (items : List Item) :
    items.foldl fuseStep [] =
      (firstKeys items).map (fun k => (k, fusedOf (items.filter (fun it => decide (it.key = k))))) := by
  have : fuseStep = dStep Item.key fuseUpd := by funext acc it; exact fuseStep_eq acc it
  rw [this]
  exact foldl_dStep_eq Item.key fuseUpd items _ (fun x hx =>
    groupVal_none _ (List.ne_nil_of_mem (List.mem_filter.2 ⟨hx, by simp⟩)))

theorem fuseByName_grouped (b : Build) :
    fuseByName b = (firstKeys (fuseItems b)).map (fun k => fusedOf ((fuseItems b).filter (fun it => decide (it.key = k)))) := by
  rw [fuseByName_eq, fuseAcc, fuseFold_eq, List.map_map]; rfl

theorem mem_firstKeys {items : List Item} {k : FKey} : k ∈ firstKeys items ↔ ∃ it ∈ items, it.key = k := by
  unfold firstKeys
  rw [mem_foldl_sAdd]
  simp

theorem firstKeys_nodup (items : List Item) : (firstKeys items).Nodup := nodup_foldl_sAdd _ List.nodup_nil

theorem group_cons {items : List Item} {k : FKey} (hk : k ∈ firstKeys items) :
    ∃ it r, items.filter (fun x => decide (x.key = k)) = it :: r ∧ it ∈ items ∧ it.key = k := by
  obtain ⟨x, hx, hxk⟩ := mem_firstKeys.1 hk
  have hne : items.filter (fun y => decide (y.key = k)) ≠ [] :=
    List.ne_nil_of_mem (List.mem_filter.2 ⟨hx, by simpa using hxk⟩)
  cases hg : items.filter (fun y => decide (y.key = k)) with
  | nil => exact absurd hg hne
  | cons it r =>
    have hm : it ∈ items.filter (fun y => decide (y.key = k)) := by rw [hg]; simp
    obtain ⟨h1, h2⟩ := List.mem_filter.1 hm
    exact ⟨it, r, rfl, h1, by simpa using h2⟩

theorem fuseByName_mem {b : Build} {s : Scaffold} (hs : s ∈ fuseByName b) :
    ∃ it r, (fuseItems b).filter (fun x => decide (x.key = it.key)) = it :: r ∧ it ∈ fuseItems b ∧
      s = { it.proto with rows := fuseAddAll (it :: r) [] } := by
  rw [fuseByName_grouped] at hs
  obtain ⟨k, hk, rfl⟩ := List.mem_map.1 hs
  obtain ⟨it, r, hg, hm, rfl⟩ := group_cons hk
  exact ⟨it, r, hg, hm, by rw [hg]; rfl⟩

theorem fuseByName_of_item {b : Build} {it : Item} (h : it ∈ fuseItems b) :
    fusedOf ((fuseItems b).filter (fun x => decide (x.key = it.key))) ∈ fuseByName b := by
  rw [fuseByName_grouped]
  exact List.mem_map.2 ⟨it.key, mem_firstKeys.2 ⟨it, h, rfl⟩, rfl⟩

theorem fuseAddAll_inv (Q : List Row → Prop) (g : List Item) (built : List Row) (h0 : Q built)
    (hstep : ∀ it ∈ g, ∀ bl, Q bl → Q (it.add bl)) : Q (fuseAddAll g built) := by
  induction g generalizing built with
  | nil => exact h0
  | cons it r ih =>
    exact ih _ (hstep it (by simp) _ h0) (fun x hx => hstep x (by simp [hx]))

theorem fuseAddAll_append (l1 l2 : List Item) (built : List Row) :
    fuseAddAll (l1 ++ l2) built = fuseAddAll l2 (fuseAddAll l1 built) := by
  unfold fuseAddAll; rw [List.foldl_append]

theorem mem_fuseAddAll {g : List Item} {bl : List Row} {x : Row} (hx : x ∈ fuseAddAll g bl) :
    x ∈ bl ∨ ∃ it ∈ g, ∃ bl', x ∈ it.add bl' ∧ x ∉ bl' := by
  refine fuseAddAll_inv (fun r => ∀ x ∈ r, x ∈ bl ∨ ∃ it ∈ g, ∃ bl', x ∈ it.add bl' ∧ x ∉ bl') g bl (fun _ h => .inl h) ?_ x hx
  intro it hit r ih y hy
  by_cases hr : y ∈ r
  · exact ih y hr
  · exact .inr ⟨it, hit, r, hy, hr⟩

def Appends (it : Item) : Prop := ∀ bl, ∃ sep, it.add bl = bl ++ sep ++ it.rows

theorem resItem_appends (b : Build) (r : Res) : Appends (resItem b r) :=
  fun bl => Scaffold.appendRows_eq bl _ _

theorem extraItem_appends (b : Build) (e : Scaffold × Option (Fragment × List Gap)) : Appends (extraItem b e) :=
  fun bl => ⟨gapsBeforeLeftover b.joinGap bl e.2, rfl⟩

theorem fuseItems_append (b : Build) : ∀ it ∈ fuseItems b, Appends it := by
  intro it h
  rcases mem_fuseItems.1 h with ⟨r, _, _, _, rfl⟩ | ⟨e, _, _, rfl⟩
  · exact resItem_appends b r
  · exact extraItem_appends b e

theorem fuseAddAll_prefix (g : List Item) (hg : ∀ it ∈ g, Appends it) (bl : List Row) : ∃ T, fuseAddAll g bl = bl ++ T := by
  refine fuseAddAll_inv (fun r => ∃ T, r = bl ++ T) g bl ⟨[], by simp⟩ ?_
  rintro it hit _ ⟨T, rfl⟩
  obtain ⟨sep, hs⟩ := hg it hit (bl ++ T)
  exact ⟨T ++ sep ++ it.rows, by rw [hs]; simp only [List.append_assoc]⟩

theorem fuseAddAll_order (P M Q : List Item) (x y : Item) (hg : ∀ it ∈ P ++ x :: (M ++ y :: Q), Appends it)
    (bl : List Row) : ∃ A B C, fuseAddAll (P ++ x :: (M ++ y :: Q)) bl = A ++ x.rows ++ B ++ y.rows ++ C := by
  rw [fuseAddAll_append]
  show ∃ A B C, fuseAddAll (M ++ y :: Q) (x.add (fuseAddAll P bl)) = _
  obtain ⟨s1, h1⟩ := hg x (by simp) (fuseAddAll P bl)
  rw [fuseAddAll_append]
  show ∃ A B C, fuseAddAll Q (y.add (fuseAddAll M (x.add (fuseAddAll P bl)))) = _
  obtain ⟨T1, h2⟩ := fuseAddAll_prefix M (fun it h => hg it (by simp [h])) (x.add (fuseAddAll P bl))
  obtain ⟨s2, h3⟩ := hg y (by simp) (fuseAddAll M (x.add (fuseAddAll P bl)))
  obtain ⟨T2, h4⟩ := fuseAddAll_prefix Q (fun it h => hg it (by simp [h])) (y.add (fuseAddAll M (x.add (fuseAddAll P bl))))
  exact ⟨fuseAddAll P bl ++ s1, T1 ++ s2, T2, by rw [h4, h3, h2, h1]; simp only [List.append_assoc]⟩

theorem fuseAddAll_infix (g : List Item) (hg : ∀ it ∈ g, Appends it) (x : Item) (hx : x ∈ g) (bl : List Row) :
    x.rows <:+: fuseAddAll g bl := by
  obtain ⟨P, Q, rfl⟩ := List.append_of_mem hx
  rw [fuseAddAll_append]
  show x.rows <:+: fuseAddAll Q (x.add (fuseAddAll P bl))
  obtain ⟨s1, h1⟩ := hg x (by simp) (fuseAddAll P bl)
  obtain ⟨T, h2⟩ := fuseAddAll_prefix Q (fun it h => hg it (by simp [h])) (x.add (fuseAddAll P bl))
  exact ⟨fuseAddAll P bl ++ s1, T, by rw [h2, h1]⟩

theorem fuseByName_triples_nodup (b : Build) :
    ((fuseByName b).map (fun s => (s.tag, s.haplotype, s.name))).Nodup := by
  rw [fuseByName_grouped, List.map_map]
  have : ∀ k ∈ firstKeys (fuseItems b),
      ((fun s : Scaffold => (s.tag, s.haplotype, s.name)) ∘
        (fun k => fusedOf ((fuseItems b).filter (fun it => decide (it.key = k))))) k = k := by
    intro k hk
    obtain ⟨it, r, hg, hm, rfl⟩ := group_cons hk
    simp only [Function.comp, hg, fusedOf]
    exact item_triple hm
  rw [List.map_congr_left this, List.map_id']
  exact firstKeys_nodup _

theorem fused_of_key {b : Build} {k : FKey} (hk : k ∈ firstKeys (fuseItems b)) :
    ∃ s ∈ fuseByName b, (s.tag, s.haplotype, s.name) = k ∧
      s.rows = fuseAddAll ((fuseItems b).filter (fun it => decide (it.key = k))) [] := by
  obtain ⟨it, r, hg, hm, rfl⟩ := group_cons hk
  refine ⟨_, fuseByName_of_item hm, ?_, ?_⟩ <;> rw [hg]
  · exact item_triple hm
  · rfl

theorem fused_of_item {b : Build} {x : Item} (hx : x ∈ fuseItems b) :
    ∃ s ∈ fuseByName b, (s.tag, s.haplotype, s.name) = x.key ∧ x.rows <:+: s.rows := by
  obtain ⟨s, hs, hk, hr⟩ := fused_of_key (mem_firstKeys.2 ⟨x, hx, rfl⟩)
  refine ⟨s, hs, hk, ?_⟩
  rw [hr]
  exact fuseAddAll_infix _ (fun y hy => fuseItems_append b y (List.mem_filter.1 hy).1) x
    (List.mem_filter.2 ⟨hx, by simp⟩) []

theorem fused_order (b : Build) (k : FKey) (P M Q : List Item) (x y : Item)
    (hg : (fuseItems b).filter (fun it => decide (it.key = k)) = P ++ x :: (M ++ y :: Q)) :
    ∃ s ∈ fuseByName b, (s.tag, s.haplotype, s.name) = k ∧ ∃ A B C, s.rows = A ++ x.rows ++ B ++ y.rows ++ C := by
  have hx : x ∈ (fuseItems b).filter (fun it => decide (it.key = k)) := by rw [hg]; simp
  obtain ⟨hx1, hx2⟩ := List.mem_filter.1 hx
  obtain ⟨s, hs, ht, hr⟩ := fused_of_key (mem_firstKeys.2 ⟨x, hx1, of_decide_eq_true hx2⟩)
  refine ⟨s, hs, ht, ?_⟩
  rw [hr, hg]
  exact fuseAddAll_order _ _ _ x y (fun it h => fuseItems_append b it (List.mem_filter.1 (hg ▸ h)).1) []

theorem fuseByName_labels {b : Build} {s : Scaffold} (hs : s ∈ fuseByName b) :
    ∃ it ∈ fuseItems b, ({ s with rows := [] } : Scaffold) = { it.proto with rows := [] } := by
  obtain ⟨it, r, _, hm, rfl⟩ := fuseByName_mem hs
  exact ⟨it, hm, rfl⟩

theorem fuseByName_row {b : Build} {s : Scaffold} {x : Row} (hs : s ∈ fuseByName b) (hx : x ∈ s.rows) :
    (∃ r ∈ b.store, r.added = true ∧ r.o.rows ≠ [] ∧ (r.o.tag, r.o.haplotype, r.o.name) = (s.tag, s.haplotype, s.name) ∧
        x ∈ r.o.toScaffoldRows) ∨
    (∃ e ∈ b.extra, e.1.rows ≠ [] ∧ (e.1.tag, e.1.haplotype, e.1.name) = (s.tag, s.haplotype, s.name) ∧
        (x ∈ e.1.rows ∨ ∃ bl, x ∈ gapsBeforeLeftover b.joinGap bl e.2)) ∨
    (∃ g, b.joinGap = some g ∧ x = Row.gap g) := by
  obtain ⟨it0, r0, hg, hm0, rfl⟩ := fuseByName_mem hs
  rcases mem_fuseAddAll (show x ∈ fuseAddAll (it0 :: r0) [] from hx) with h | ⟨it, hit, bl, h1, h2⟩
  · cases h
  · have hmem : it ∈ (fuseItems b).filter (fun y => decide (y.key = it0.key)) := by rw [hg]; exact hit
    obtain ⟨hi, hk⟩ := List.mem_filter.1 hmem
    have hk : it.key = it0.key := of_decide_eq_true hk
    show _ ∨ _ ∨ _
    simp only [item_triple hm0]
    rcases mem_fuseItems.1 hi with ⟨r, hr, ha, hn, rfl⟩ | ⟨e, he, hn, rfl⟩
    · rcases Scaffold.mem_appendRows h1 with h | h | h
      · exact absurd h h2
      · exact .inl ⟨r, hr, ha, hn, hk, h⟩
      · exact .inr (.inr h)
    · simp only [extraItem, List.mem_append] at h1
      rcases h1 with (h | h) | h
      · exact absurd h h2
      · exact .inr (.inl ⟨e, he, hn, hk, .inr ⟨bl, h⟩⟩)
      · exact .inr (.inl ⟨e, he, hn, hk, .inl h⟩)

theorem fuseByName_all (Q : List Row → Prop) (b : Build)
    (hstore : ∀ r ∈ b.store, r.added = true → r.o.rows ≠ [] →
      Q (Scaffold.appendRows [] r.o.toScaffoldRows b.joinGap) ∧
      ∀ built, built ≠ [] → Q built → Q (Scaffold.appendRows built r.o.toScaffoldRows b.joinGap))
    (hextra : ∀ x ∈ b.extra, x.1.rows ≠ [] →
      Q x.1.rows ∧
      ∀ built, built ≠ [] → Q built → Q (built ++ gapsBeforeLeftover b.joinGap built x.2 ++ x.1.rows)) :
    ∀ s ∈ fuseByName b, Q s.rows ∧ s.rows ≠ [] := by
  have hit : ∀ it ∈ fuseItems b, (Q (it.add []) ∧ it.add [] ≠ []) ∧
      ∀ bl, (Q bl ∧ bl ≠ []) → (Q (it.add bl) ∧ it.add bl ≠ []) := by
    intro it hit
    rcases mem_fuseItems.1 hit with ⟨r, hr, h1, h2, rfl⟩ | ⟨e, he, h2, rfl⟩
    · have hne := r.o.toScaffoldRows_ne_nil h2
      obtain ⟨q1, q2⟩ := hstore r hr h1 h2
      exact ⟨⟨q1, Scaffold.appendRows_ne_nil _ _ hne⟩, fun bl hb => ⟨q2 bl hb.2 hb.1, Scaffold.appendRows_ne_nil _ _ hne⟩⟩
    · obtain ⟨q1, q2⟩ := hextra e he h2
      exact ⟨⟨by simpa [extraItem, gapsBeforeLeftover] using q1, by simp [extraItem, h2]⟩,
        fun bl hb => ⟨q2 bl hb.2 hb.1, by simp [extraItem, h2]⟩⟩
  intro s hs
  obtain ⟨it, r, hg, hm, rfl⟩ := fuseByName_mem hs
  have hsub : ∀ x ∈ r, x ∈ fuseItems b := fun x hx =>
    (List.mem_filter.1 (show x ∈ (fuseItems b).filter _ by rw [hg]; simp [hx])).1
  exact fuseAddAll_inv (fun bl => Q bl ∧ bl ≠ []) r _ (hit it hm).1 (fun x hx bl hb => (hit x (hsub x hx)).2 bl hb)

theorem fuseByName_content {γ} (K : List Row → List γ) (hnil : K [] = []) (b : Build)
    (hK : ∀ it ∈ fuseItems b, ∀ built, (K (it.add built)).Perm (K built ++ K it.rows)) :
    ((fuseByName b).flatMap (fun s => K s.rows)).Perm ((fuseItems b).flatMap (fun it => K it.rows)) := by
  have hg : ∀ (g : List Item), (∀ it ∈ g, it ∈ fuseItems b) → ∀ built,
      (K (fuseAddAll g built)).Perm (K built ++ g.flatMap (fun it => K it.rows)) := by
    intro g
    induction g with
    | nil => intro _ built; simp [fuseAddAll]
    | cons it r ih =>
      intro hsub built
      refine (ih (fun x hx => hsub x (by simp [hx])) (it.add built)).trans ?_
      rw [List.flatMap_cons, ← List.append_assoc]
      exact List.Perm.append_right _ (hK it (hsub it (by simp)) built)
  rw [fuseByName_grouped, List.flatMap_map]
  refine List.Perm.trans ?_ ((groupBy_perm Item.key (fuseItems b)).flatMap_right (fun it => K it.rows))
  rw [List.flatMap_assoc]
  refine flatMap_perm_mem _ _ _ (fun k hk => ?_)
  obtain ⟨it, r, hgk, _, _⟩ := group_cons hk
  have := hg ((fuseItems b).filter (fun x => decide (x.key = k))) (fun x hx => (List.mem_filter.1 hx).1) []
  rw [hnil, List.nil_append] at this
  rw [hgk] at this ⊢
  exact this

end Fuse
end AgpTpf
