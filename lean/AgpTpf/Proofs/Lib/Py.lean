/-
  What the Python run-time part of the model (`Model/Py.lean`) does, stated once, and the facts about plain lists that core does
  not state in the form the proofs keep needing.  The combinators of `Model/PyRt.lean` are in `Lib/PyRt`.
  Nothing here is tagged `simp`.
-/
import AgpTpf.Model.Py
namespace AgpTpf

theorem ok_bind {α β : Type} (a : α) (f : α → R β) : ((Except.ok a : R α) >>= f) = f a := rfl
theorem error_bind {α β : Type} (e : Err) (f : α → R β) : ((Except.error e : R α) >>= f) = .error e := rfl
theorem pure_eq_ok {α : Type} (a : α) : (pure a : R α) = .ok a := rfl
theorem throw_eq_error {α : Type} (e : Err) : (throw e : R α) = .error e := rfl

theorem bind_ok {α : Type} (x : R α) : (x >>= fun a => (Except.ok a : R α)) = x := by cases x <;> rfl

theorem ite_bind {α β : Type} (c : Prop) [Decidable c] (x y : R α) (f : α → R β) :
    ((if c then x else y) >>= f) = if c then x >>= f else y >>= f := by split <;> rfl

theorem ite_ok_bind {α β : Type} (c : Prop) [Decidable c] (a b : α) (f : α → R β) :
    ((if c then (Except.ok a : R α) else .ok b) >>= f) = f (if c then a else b) := by split <;> rfl

theorem bind_eq_ok {α β : Type} {x : R α} {f : α → R β} {b : β} : (x >>= f) = .ok b ↔ ∃ a, x = .ok a ∧ f a = .ok b := by
  cases x with
  | error e => exact ⟨fun h => (by cases h), fun ⟨_, h, _⟩ => (by cases h)⟩
  | ok a => exact ⟨fun h => ⟨a, rfl, h⟩, fun ⟨_, h, hf⟩ => by cases h; exact hf⟩

theorem bind_returns {α β : Type} {x : R α} {f : α → R β} (hx : ∃ a, x = .ok a) (hf : ∀ a, x = .ok a → ∃ b, f a = .ok b) :
    ∃ b, x >>= f = .ok b := by
  obtain ⟨a, ha⟩ := hx
  rw [ha]; exact hf a ha

theorem ite_ok {α} {c : Prop} [Decidable c] {x y : R α} (hx : ∃ v, x = .ok v) (hy : ∃ v, y = .ok v) :
    ∃ v, (if c then x else y) = .ok v := by
  split
  · exact hx
  · exact hy

theorem map_ok {α β : Type} (f : α → β) (a : α) : (Except.ok a : R α).map f = .ok (f a) := rfl
theorem map_error {α β : Type} (f : α → β) (e : Err) : (Except.error e : R α).map f = .error e := rfl

theorem map_eq_bind_ok {α β : Type} (x : R α) (f : α → β) : x.map f = (x >>= fun a => .ok (f a)) := by cases x <;> rfl

theorem map_map {α β γ : Type} (x : R α) (f : α → β) (g : β → γ) : (x.map f).map g = x.map (fun a => g (f a)) := by
  cases x <;> rfl

theorem map_bind {α β γ : Type} (f : β → γ) (x : R α) (g : α → R β) :
    Except.map f (x >>= g) = x >>= fun a => Except.map f (g a) := by cases x <;> rfl

theorem ite_ok_iff {α : Type} {c : Prop} [Decidable c] {a : α} {e : Err} :
    (∃ r, (if c then (.ok a : R α) else .error e) = .ok r) ↔ c := by
  split <;> simp [*]

theorem getElem?_append_add {α} (A T : List α) (k : Nat) : (A ++ T)[A.length + k]? = T[k]? := by
  rw [List.getElem?_append_right (Nat.le_add_right _ _), Nat.add_sub_cancel_left]

theorem getElem?_append_cons_length {α} (A : List α) (x : α) (B : List α) : (A ++ x :: B)[A.length]? = some x :=
  getElem?_append_add A (x :: B) 0

theorem range_map_getD {α} (l : List α) (d : α) : (List.range l.length).map (fun i => l.getD i d) = l := by
  apply List.ext_getElem
  · simp
  · intro i h1 h2
    simp only [List.getElem_map, List.getElem_range, List.getD_eq_getElem?_getD]
    rw [List.getElem?_eq_getElem (by simpa using h1)]; rfl

theorem foldl_append_singleton {α β : Type} (f : α → β) (xs : List α) (s : List β) :
    xs.foldl (fun acc x => acc ++ [f x]) s = s ++ xs.map f := by
  induction xs generalizing s with
  | nil => simp
  | cons x xs ih => simp [ih]

theorem getD_of_map_eq {α β} (g : α → β) {l1 l2 : List α} (d : α) (h : l1.map g = l2.map g) (i : Nat) :
    g (l1.getD i d) = g (l2.getD i d) := by
  have key : ∀ l : List α, (l.map g).getD i (g d) = g (l.getD i d) := fun l => by
    simp only [List.getD_eq_getElem?_getD, List.getElem?_map]
    cases l[i]? <;> rfl
  rw [← key l1, ← key l2, h]

theorem inj_of_nodup_map {α β} (f : α → β) : ∀ {l : List α}, (l.map f).Nodup → ∀ x ∈ l, ∀ y ∈ l, f x = f y → x = y
  | [], _, x, hx, _, _, _ => by cases hx
  | a :: r, h, x, hx, y, hy, e => by
    rw [List.map_cons, List.nodup_cons] at h
    rcases List.mem_cons.1 hx with hxa | hx <;> rcases List.mem_cons.1 hy with hya | hy
    · rw [hxa, hya]
    · exact absurd (List.mem_map.2 ⟨y, hy, by rw [← e, hxa]⟩) h.1
    · exact absurd (List.mem_map.2 ⟨x, hx, by rw [e, hya]⟩) h.1
    · exact inj_of_nodup_map f h.2 x hx y hy e

theorem nodup_map_of_inj_on {α β} (f : α → β) {l : List α} (hl : l.Nodup) (hinj : ∀ x ∈ l, ∀ y ∈ l, f x = f y → x = y) :
    (l.map f).Nodup := by
  unfold List.Nodup at hl ⊢
  rw [List.pairwise_map]
  exact hl.imp_of_mem fun hx hy hne e => hne (hinj _ hx _ hy e)

theorem suffix_getLast? {α} {l₁ l₂ : List α} (h : l₁ <:+ l₂) (hne : l₁ ≠ []) : l₁.getLast? = l₂.getLast? := by
  obtain ⟨t, rfl⟩ := h
  rw [List.getLast?_append]
  cases hh : l₁.getLast? with
  | none => exact absurd (List.getLast?_eq_none_iff.mp hh) hne
  | some x => rfl

theorem prefix_head? {α} {l₁ l₂ : List α} (h : l₁ <+: l₂) (hne : l₁ ≠ []) : l₁.head? = l₂.head? := by
  obtain ⟨t, rfl⟩ := h
  cases l₁ with
  | nil => exact absurd rfl hne
  | cons x r => rfl

theorem head?_le_of_pairwise {l : List Nat} (hs : l.Pairwise (· < ·)) {i k : Nat} (hi : l.head? = some i) (hk : k ∈ l) :
    i ≤ k := by
  cases l with
  | nil => cases hi
  | cons x xs =>
    cases hi
    rcases List.mem_cons.1 hk with rfl | hk
    · exact Nat.le_refl _
    · exact Nat.le_of_lt ((List.pairwise_cons.1 hs).1 k hk)

theorem le_getLast?_of_pairwise {l : List Nat} (hs : l.Pairwise (· < ·)) {j k : Nat} (hj : l.getLast? = some j)
    (hk : k ∈ l) : k ≤ j := by
  obtain ⟨ys, rfl⟩ := List.getLast?_eq_some_iff.1 hj
  rcases List.mem_append.1 hk with hk | hk
  · exact Nat.le_of_lt ((List.pairwise_append.1 hs).2.2 k hk j (List.mem_singleton.2 rfl))
  · exact Nat.le_of_eq (List.mem_singleton.1 hk)

theorem filter_range_sorted (p : Nat → Bool) (n : Nat) : ((List.range n).filter p).Pairwise (· < ·) :=
  List.Pairwise.filter _ List.pairwise_lt_range

theorem head?_filter_range (p : Nat → Bool) (n i : Nat) (hi : i < n) (hp : p i = true)
    (hmin : ∀ k, k < n → p k = true → i ≤ k) :
    ((List.range n).filter p).head? = some i := by
  have hmem : i ∈ (List.range n).filter p := List.mem_filter.2 ⟨List.mem_range.2 hi, hp⟩
  cases hl : ((List.range n).filter p).head? with
  | none => rw [List.head?_eq_none_iff.1 hl] at hmem; cases hmem
  | some x =>
    have hx := List.mem_filter.1 (List.mem_of_head? hl)
    rw [Nat.le_antisymm (head?_le_of_pairwise (filter_range_sorted p n) hl hmem) (hmin x (List.mem_range.1 hx.1) hx.2)]

theorem getLast?_filter_range (p : Nat → Bool) (n j : Nat) (hj : j < n) (hp : p j = true)
    (hmax : ∀ k, k < n → p k = true → k ≤ j) :
    ((List.range n).filter p).getLast? = some j := by
  have hmem : j ∈ (List.range n).filter p := List.mem_filter.2 ⟨List.mem_range.2 hj, hp⟩
  cases hl : ((List.range n).filter p).getLast? with
  | none => rw [List.getLast?_eq_none_iff.1 hl] at hmem; cases hmem
  | some x =>
    have hx := List.mem_filter.1 (List.mem_of_getLast? hl)
    rw [Nat.le_antisymm (hmax x (List.mem_range.1 hx.1) hx.2) (le_getLast?_of_pairwise (filter_range_sorted p n) hl hmem)]

theorem of_getLast?_filter_range (p : Nat → Bool) (n k : Nat) (h : ((List.range n).filter p).getLast? = some k) :
    k < n ∧ p k = true ∧ ∀ j, k < j → j < n → p j = false := by
  have hk := List.mem_filter.1 (List.mem_of_getLast? h)
  refine ⟨List.mem_range.1 hk.1, hk.2, fun j hkj hjn => ?_⟩
  cases hj : p j with
  | false => rfl
  | true =>
    have := le_getLast?_of_pairwise (filter_range_sorted p n) h (List.mem_filter.2 ⟨List.mem_range.2 hjn, hj⟩)
    omega

theorem filter_range_eq_nil (p : Nat → Bool) (n : Nat) (h : ∀ k, k < n → p k = false) :
    (List.range n).filter p = [] := by
  rw [List.filter_eq_nil_iff]
  intro a ha
  have := h a (by simpa using ha)
  simp [this]

theorem list_nil_or_concat {α} (l : List α) : l = [] ∨ ∃ t x, l = t ++ [x] := by
  rcases List.eq_nil_or_concat l with h | ⟨t, x, h⟩
  · exact Or.inl h
  · exact Or.inr ⟨t, x, by simpa using h⟩

theorem foldl_inv {α β} (P : β → Prop) (f : β → α → β) (l : List α) (hstep : ∀ a x, P a → P (f a x))
    (a : β) (ha : P a) : P (l.foldl f a) := by
  induction l generalizing a with
  | nil => exact ha
  | cons x t ih => exact ih _ (hstep a x ha)

theorem pyGet_nil {α} (i : Int) : pyGet ([] : List α) i = .error .index := by
  unfold pyGet; simp

theorem pyGet_natCast {α} (l : List α) (k : Nat) :
    pyGet l (k : Int) = if h : k < l.length then .ok l[k] else .error .index := by
  unfold pyGet
  have h1 : ¬ ((k : Int) < 0) := by omega
  simp only [h1, if_false, Int.toNat_natCast, false_or]
  by_cases h : k < l.length
  · rw [if_neg (by omega), dif_pos h, List.getElem?_eq_getElem h]
  · rw [if_pos (by omega), dif_neg h]

theorem pyGet_of_lt {α} (l : List α) (k : Nat) (h : k < l.length) : pyGet l (k : Int) = .ok l[k] := by
  rw [pyGet_natCast, dif_pos h]

theorem pyGet_of_le {α} (l : List α) (k : Nat) (h : l.length ≤ k) : pyGet l (k : Int) = .error .index := by
  rw [pyGet_natCast, dif_neg (by omega)]

theorem pyGet_of_getElem? {α} {l : List α} {k : Nat} {x : α} (h : l[k]? = some x) : pyGet l (k : Int) = .ok x := by
  obtain ⟨hk, rfl⟩ := List.getElem?_eq_some_iff.1 h
  exact pyGet_of_lt l k hk

theorem pyGet_zero_cons {α} (x : α) (l : List α) : pyGet (x :: l) 0 = .ok x := pyGet_of_getElem? (k := 0) rfl
theorem pyGet_one_cons {α} (x y : α) (l : List α) : pyGet (x :: y :: l) 1 = .ok y := pyGet_of_getElem? (k := 1) rfl

theorem pyGet_neg {α} (l : List α) (k : Nat) (h0 : 0 < k) (h : k ≤ l.length) :
    pyGet l (-(k : Int)) = .ok (l[l.length - k]'(by omega)) := by
  unfold pyGet
  have e : -(k : Int) + (l.length : Int) = ((l.length - k : Nat) : Int) := by omega
  simp only [show -(k : Int) < 0 by omega, if_true, e, Int.toNat_natCast]
  rw [if_neg (by omega), List.getElem?_eq_getElem (by omega)]

theorem pyGet_neg_one_snoc {α} (l : List α) (x : α) : pyGet (l ++ [x]) (-1) = .ok x := by
  have := pyGet_neg (l ++ [x]) 1 (by omega) (by simp)
  simpa using this

theorem pyGet_neg_two_snoc {α} (l : List α) (a b : α) : pyGet (l ++ [a, b]) (-2) = .ok a := by
  have := pyGet_neg (l ++ [a, b]) 2 (by omega) (by simp)
  simpa using this

theorem pyGet_neg_one_of_reverse {α} {l r : List α} {d : α} (h : l.reverse = d :: r) : pyGet l (-1) = .ok d := by
  rw [← List.reverse_reverse l, h, List.reverse_cons, pyGet_neg_one_snoc]

theorem pyGet_neg_one_of_ne_nil {α} {l : List α} (h : l ≠ []) : ∃ x, l.getLast? = some x ∧ pyGet l (-1) = .ok x := by
  rcases list_nil_or_concat l with rfl | ⟨t, x, rfl⟩
  · exact absurd rfl h
  · exact ⟨x, by simp, pyGet_neg_one_snoc t x⟩

theorem pyGet_zero_ok {α} {l : List α} {x : α} (h : pyGet l 0 = .ok x) : ∃ t, l = x :: t := by
  cases l with
  | nil => rw [pyGet_nil] at h; cases h
  | cons y t => rw [pyGet_zero_cons] at h; cases h; exact ⟨t, rfl⟩

theorem pyGet_neg_one_ok {α} {l : List α} {x : α} (h : pyGet l (-1) = .ok x) : ∃ t, l = t ++ [x] := by
  rcases list_nil_or_concat l with rfl | ⟨t, y, rfl⟩
  · rw [pyGet_nil] at h; cases h
  · rw [pyGet_neg_one_snoc] at h; cases h; exact ⟨t, rfl⟩

theorem pyGet_of_nonneg {α} {l : List α} {i : Int} (h0 : 0 ≤ i) (h1 : i < l.length) : pyGet l i = .ok (l[i.toNat]'(by omega)) := by
  obtain ⟨k, rfl⟩ := Int.eq_ofNat_of_zero_le h0
  exact pyGet_of_lt l k (by omega)

theorem pyGet_nonneg_ok {α} {l : List α} {i : Int} {x : α} (h : pyGet l i = .ok x) (hi : 0 ≤ i) :
    l[i.toNat]? = some x ∧ i.toNat < l.length := by
  obtain ⟨k, rfl⟩ := Int.eq_ofNat_of_zero_le hi
  rw [pyGet_natCast] at h
  rw [Int.toNat_natCast]
  split at h
  · cases h; exact ⟨List.getElem?_eq_getElem _, ‹_›⟩
  · cases h

theorem pyGet_mem {α} {l : List α} {i : Int} {x : α} (h : pyGet l i = .ok x) : x ∈ l := by
  unfold pyGet at h
  simp only at h
  generalize (if i < 0 then i + (l.length : Int) else i) = j at h
  by_cases hc : j < 0 ∨ (l.length : Int) ≤ j
  · rw [if_pos hc] at h; cases h
  · rw [if_neg hc] at h
    cases hk : l[j.toNat]? with
    | none => rw [hk] at h; cases h
    | some y => rw [hk] at h; cases h; exact List.mem_of_getElem? hk

section Dict
variable {κ ν} [DecidableEq κ]

theorem dGet?_nil (k : κ) : dGet? ([] : List (κ × ν)) k = none := rfl
theorem dGet?_cons (k' : κ) (v : ν) (r : List (κ × ν)) (k : κ) :
    dGet? ((k', v) :: r) k = if k' = k then some v else dGet? r k := rfl
theorem dSet_nil (k : κ) (v : ν) : dSet ([] : List (κ × ν)) k v = [(k, v)] := rfl
theorem dSet_cons (k' : κ) (v' : ν) (r : List (κ × ν)) (k : κ) (v : ν) :
    dSet ((k', v') :: r) k v = if k' = k then (k', v) :: r else (k', v') :: dSet r k v := rfl

theorem dGet?_mem {d : List (κ × ν)} {k : κ} {v : ν} (h : dGet? d k = some v) : (k, v) ∈ d := by
  induction d with
  | nil => cases h
  | cons e r ih =>
    obtain ⟨k', v'⟩ := e
    rw [dGet?_cons] at h
    split at h
    · cases h; subst_vars; exact List.mem_cons_self
    · exact List.mem_cons_of_mem _ (ih h)

theorem dGet?_none_iff (d : List (κ × ν)) (k : κ) : dGet? d k = none ↔ k ∉ d.map (·.1) := by
  induction d with
  | nil => simp [dGet?]
  | cons e r ih =>
    obtain ⟨k', v'⟩ := e
    rw [dGet?_cons, List.map_cons, List.mem_cons]
    by_cases hk : k' = k
    · simp [hk]
    · rw [if_neg hk, ih]
      exact ⟨fun h h' => h'.elim (fun e => hk e.symm) h, fun h h' => h (.inr h')⟩

theorem dGet?_isSome_iff (d : List (κ × ν)) (k : κ) : (dGet? d k).isSome = true ↔ k ∈ d.map (·.1) := by
  rw [Option.isSome_iff_ne_none, Ne, dGet?_none_iff, Classical.not_not]

theorem dGet?_of_mem_nodup {d : List (κ × ν)} {k : κ} {v : ν} (hnd : (d.map (·.1)).Nodup) (h : (k, v) ∈ d) : dGet? d k = some v := by
  induction d with
  | nil => cases h
  | cons e r ih =>
    obtain ⟨k', v'⟩ := e
    rw [List.map_cons, List.nodup_cons] at hnd
    rw [dGet?_cons]
    rcases List.mem_cons.1 h with h | h
    · cases h; simp
    · rw [if_neg, ih hnd.2 h]
      rintro rfl
      exact hnd.1 (List.mem_map.2 ⟨_, h, rfl⟩)

theorem dGet?_append (d e : List (κ × ν)) (k : κ) : dGet? (d ++ e) k = (dGet? d k).orElse fun _ => dGet? e k := by
  induction d with
  | nil => rfl
  | cons x r ih =>
    obtain ⟨k', v'⟩ := x
    rw [List.cons_append, dGet?_cons, dGet?_cons, ih]
    split <;> rfl

theorem dGet?_append_of_some {d : List (κ × ν)} {k : κ} {v : ν} (e : List (κ × ν)) (h : dGet? d k = some v) :
    dGet? (d ++ e) k = some v := by rw [dGet?_append, h]; rfl

theorem dGet?_append_of_none {d : List (κ × ν)} {k : κ} (e : List (κ × ν)) (h : dGet? d k = none) :
    dGet? (d ++ e) k = dGet? e k := by rw [dGet?_append, h]; rfl

theorem dGet?_dSet (d : List (κ × ν)) (k k' : κ) (v : ν) : dGet? (dSet d k v) k' = if k = k' then some v else dGet? d k' := by
  induction d with
  | nil => rfl
  | cons e r ih =>
    obtain ⟨k0, v0⟩ := e
    rw [dSet_cons]
    by_cases h0 : k0 = k
    · subst h0; rw [if_pos rfl, dGet?_cons, dGet?_cons]; split <;> rfl
    · rw [if_neg h0, dGet?_cons, dGet?_cons, ih]
      by_cases h1 : k0 = k'
      · simp [h1, show ¬ k = k' from fun e => h0 (h1.trans e.symm)]
      · simp [h1]

theorem dGet?_dSet_self (d : List (κ × ν)) (k : κ) (v : ν) : dGet? (dSet d k v) k = some v := by
  rw [dGet?_dSet, if_pos rfl]

theorem dGet?_dSet_ne (d : List (κ × ν)) {k k' : κ} (v : ν) (h : k ≠ k') : dGet? (dSet d k v) k' = dGet? d k' := by
  rw [dGet?_dSet, if_neg h]

theorem dSet_of_none {d : List (κ × ν)} {k : κ} (v : ν) (h : dGet? d k = none) : dSet d k v = d ++ [(k, v)] := by
  induction d with
  | nil => rfl
  | cons e r ih =>
    obtain ⟨k', v'⟩ := e
    rw [dGet?_cons] at h
    split at h
    · cases h
    · rw [dSet_cons, if_neg ‹_›, ih h]; rfl

theorem dSet_of_not_mem {d : List (κ × ν)} {k : κ} (v : ν) (h : k ∉ d.map (·.1)) : dSet d k v = d ++ [(k, v)] :=
  dSet_of_none v ((dGet?_none_iff d k).2 h)

theorem dSet_of_some {d : List (κ × ν)} {k : κ} {old : ν} (v : ν) (h : dGet? d k = some old) :
    ∃ A B, d = A ++ (k, old) :: B ∧ dSet d k v = A ++ (k, v) :: B := by
  induction d with
  | nil => cases h
  | cons e r ih =>
    obtain ⟨k', v'⟩ := e
    rw [dGet?_cons] at h
    rw [dSet_cons]
    split at h
    · cases h; subst_vars; exact ⟨[], r, rfl, by rw [if_pos rfl]; rfl⟩
    · obtain ⟨A, B, hA, hB⟩ := ih h
      exact ⟨(k', v') :: A, B, by rw [hA]; rfl, by rw [if_neg ‹_›, hB]; rfl⟩

theorem dSet_keys (d : List (κ × ν)) (k : κ) (v : ν) : (dSet d k v).map (·.1) = sAdd (d.map (·.1)) k := by
  unfold sAdd
  split
  · next h =>
    cases hg : dGet? d k with
    | none => exact absurd h ((dGet?_none_iff d k).1 hg)
    | some old =>
      obtain ⟨A, B, hA, hB⟩ := dSet_of_some v hg
      rw [hB, hA]; simp
  · next h => rw [dSet_of_not_mem v h]; simp

theorem dSet_keys_of_mem {d : List (κ × ν)} {k : κ} (v : ν) (h : k ∈ d.map (·.1)) : (dSet d k v).map (·.1) = d.map (·.1) := by
  rw [dSet_keys, sAdd, if_pos h]

theorem mem_dSet {d : List (κ × ν)} {k : κ} {v : ν} {e : κ × ν} (h : e ∈ dSet d k v) : e ∈ d ∨ e = (k, v) := by
  cases hg : dGet? d k with
  | none => rw [dSet_of_none v hg] at h; simpa using h
  | some old =>
    obtain ⟨A, B, hA, hB⟩ := dSet_of_some v hg
    rw [hB] at h; rw [hA]
    simp only [List.mem_append, List.mem_cons] at h ⊢
    rcases h with h | h | h
    · exact .inl (.inl h)
    · exact .inr h
    · exact .inl (.inr (.inr h))

theorem mem_dSet_self (d : List (κ × ν)) (k : κ) (v : ν) : (k, v) ∈ dSet d k v := dGet?_mem (dGet?_dSet_self d k v)

theorem forall_mem_dSet {P : κ × ν → Prop} {d : List (κ × ν)} (h : ∀ e ∈ d, P e) {k : κ} {v : ν} (hkv : P (k, v)) :
    ∀ e ∈ dSet d k v, P e :=
  fun e he => (mem_dSet he).elim (h e) (fun e' => e' ▸ hkv)

theorem dSet_length_le (d : List (κ × ν)) (k : κ) (v : ν) : (dSet d k v).length ≤ d.length + 1 := by
  cases hg : dGet? d k with
  | none => rw [dSet_of_none v hg]; simp
  | some old => obtain ⟨A, B, hA, hB⟩ := dSet_of_some v hg; rw [hB, hA]; simp

theorem dGet?_of_key (d : List (κ × ν)) (k : κ) (hk : k ∈ d.map (·.1)) : ∃ v, dGet? d k = some v ∧ (k, v) ∈ d := by
  obtain ⟨v, hv⟩ := Option.isSome_iff_exists.1 ((dGet?_isSome_iff d k).2 hk)
  exact ⟨v, hv, dGet?_mem hv⟩

theorem dSet_mapVal {μ} (f : ν → μ) (d : List (κ × ν)) (k : κ) (v : ν) :
    (dSet d k v).map (fun e => (e.1, f e.2)) = dSet (d.map (fun e => (e.1, f e.2))) k (f v) := by
  induction d with
  | nil => rfl
  | cons e r ih =>
    obtain ⟨k', v'⟩ := e
    rw [List.map_cons, dSet_cons, dSet_cons]
    split
    · rfl
    · rw [List.map_cons, ih]

theorem dGet?_mapVal {μ} (f : ν → μ) (d : List (κ × ν)) (k : κ) :
    dGet? (d.map (fun e => (e.1, f e.2))) k = (dGet? d k).map f := by
  induction d with
  | nil => rfl
  | cons e r ih =>
    obtain ⟨k', v'⟩ := e
    rw [List.map_cons, dGet?_cons, dGet?_cons, ih]
    split <;> rfl

theorem dGet?_mapKey {κ'} [DecidableEq κ'] (f : κ → κ') (hf : ∀ a b, f a = f b → a = b) (d : List (κ × ν)) (k : κ) :
    dGet? (d.map (fun e => (f e.1, e.2))) (f k) = dGet? d k := by
  induction d with
  | nil => rfl
  | cons e r ih =>
    obtain ⟨k', v'⟩ := e
    rw [List.map_cons, dGet?_cons, dGet?_cons, ih]
    by_cases h : k' = k
    · rw [if_pos h, if_pos (congrArg f h)]
    · rw [if_neg h, if_neg (fun e => h (hf _ _ e))]

theorem dSet_mapKey {κ'} [DecidableEq κ'] (f : κ → κ') (hf : ∀ a b, f a = f b → a = b) (d : List (κ × ν)) (k : κ) (v : ν) :
    (dSet d k v).map (fun e => (f e.1, e.2)) = dSet (d.map (fun e => (f e.1, e.2))) (f k) v := by
  induction d with
  | nil => rfl
  | cons e r ih =>
    obtain ⟨k', v'⟩ := e
    rw [List.map_cons, dSet_cons, dSet_cons]
    by_cases h : k' = k
    · rw [if_pos h, if_pos (congrArg f h)]; rfl
    · rw [if_neg h, if_neg (fun e => h (hf _ _ e)), List.map_cons, ih]

theorem dHas_eq_true_iff (d : List (κ × ν)) (k : κ) : dHas d k = true ↔ ∃ v, dGet? d k = some v := by
  unfold dHas; exact Option.isSome_iff_exists

theorem dHas_eq_false_iff (d : List (κ × ν)) (k : κ) : dHas d k = false ↔ dGet? d k = none := by
  unfold dHas; cases dGet? d k <;> simp

theorem dHas_iff_mem (d : List (κ × ν)) (k : κ) : dHas d k = true ↔ k ∈ d.map (·.1) := dGet?_isSome_iff d k

theorem dDel_sublist (d : List (κ × ν)) (k : κ) : (dDel d k).Sublist d := by
  induction d with
  | nil => exact .slnil
  | cons e r ih =>
    obtain ⟨k', v'⟩ := e
    unfold dDel
    split
    · exact .cons _ (List.Sublist.refl _)
    · exact ih.cons_cons _

theorem dDel_keys {d : List (κ × ν)} (k : κ) (h : (d.map (·.1)).Nodup) : (dDel d k).map (·.1) = (d.map (·.1)).filter (· ≠ k) := by
  induction d with
  | nil => rfl
  | cons e r ih =>
    obtain ⟨k', v'⟩ := e
    rw [List.map_cons, List.nodup_cons] at h
    unfold dDel
    by_cases hk : k' = k
    · subst hk
      rw [if_pos rfl, List.map_cons, List.filter_cons_of_neg (by simp)]
      refine (List.filter_eq_self.2 fun x hx => ?_).symm
      simp only [ne_eq, decide_eq_true_eq]
      rintro rfl
      exact h.1 hx
    · rw [if_neg hk, List.map_cons, List.map_cons, List.filter_cons_of_pos (by simpa using hk), ih h.2]

end Dict

section Set
variable {α} [DecidableEq α]

theorem mem_sAdd {s : List α} {x y : α} : y ∈ sAdd s x ↔ y ∈ s ∨ y = x := by
  unfold sAdd
  split
  · exact ⟨.inl, fun h => h.elim id fun e => e ▸ ‹x ∈ s›⟩
  · simp

theorem nodup_sAdd {s : List α} (x : α) (h : s.Nodup) : (sAdd s x).Nodup := by
  unfold sAdd
  split
  · exact h
  · next hx =>
    refine List.nodup_append.2 ⟨h, by simp, fun a ha b hb => ?_⟩
    rw [List.mem_singleton] at hb
    rintro rfl
    exact hx (hb ▸ ha)

theorem dSet_keys_nodup {ν} {d : List (α × ν)} (k : α) (v : ν) (h : (d.map (·.1)).Nodup) : ((dSet d k v).map (·.1)).Nodup := by
  rw [dSet_keys]; exact nodup_sAdd k h

theorem mem_foldl_sAdd {l s : List α} {x : α} : x ∈ l.foldl sAdd s ↔ x ∈ s ∨ x ∈ l := by
  induction l generalizing s with
  | nil => simp
  | cons a t ih => rw [List.foldl_cons, ih, mem_sAdd, List.mem_cons, or_assoc]

theorem nodup_foldl_sAdd (l : List α) {s : List α} (h : s.Nodup) : (l.foldl sAdd s).Nodup := by
  induction l generalizing s with
  | nil => exact h
  | cons a t ih => exact ih (nodup_sAdd a h)

theorem foldl_sAdd_of_subset : ∀ (l s : List α), (∀ x ∈ l, x ∈ s) → l.foldl sAdd s = s
  | [], _, _ => rfl
  | a :: t, s, h => by
    rw [List.foldl_cons, sAdd, if_pos (h a List.mem_cons_self)]
    exact foldl_sAdd_of_subset t s fun x hx => h x (List.mem_cons_of_mem _ hx)

theorem foldl_sAdd_head (a : α) : ∀ (l s : List α), ∃ t, l.foldl sAdd (a :: s) = a :: t
  | [], s => ⟨s, rfl⟩
  | b :: t, s => by
    rw [List.foldl_cons, sAdd]
    split
    · exact foldl_sAdd_head a t s
    · exact foldl_sAdd_head a t (s ++ [b])

theorem mem_sUnion {s t : List α} {y : α} : y ∈ sUnion s t ↔ y ∈ s ∨ y ∈ t := mem_foldl_sAdd
theorem nodup_sUnion {s : List α} (t : List α) (h : s.Nodup) : (sUnion s t).Nodup := nodup_foldl_sAdd t h

theorem mem_foldl_sUnion {β} (f : β → List α) (l : List β) (acc : List α) (y : α) :
    y ∈ l.foldl (fun acc p => sUnion acc (f p)) acc ↔ y ∈ acc ∨ ∃ p ∈ l, y ∈ f p := by
  induction l generalizing acc with
  | nil => simp
  | cons x xs ih => simp [ih, mem_sUnion, or_assoc]

theorem nodup_foldl_sUnion {β} (f : β → List α) (l : List β) (acc : List α) (h : acc.Nodup) :
    (l.foldl (fun acc p => sUnion acc (f p)) acc).Nodup := by
  induction l generalizing acc with
  | nil => exact h
  | cons x xs ih => exact ih _ (nodup_sUnion _ h)

theorem mem_sDiff {s t : List α} {y : α} : y ∈ sDiff s t ↔ y ∈ s ∧ y ∉ t := by simp [sDiff]
theorem nodup_sDiff {s : List α} (t : List α) (h : s.Nodup) : (sDiff s t).Nodup := h.filter _

theorem dSet_map_const {ν} (c : ν) (keys : List α) (k : α) :
    dSet (keys.map (fun x => (x, c))) k c = (sAdd keys k).map (fun x => (x, c)) := by
  by_cases h : k ∈ keys
  · obtain ⟨A, B, rfl⟩ := List.append_of_mem h
    have hk : dGet? ((A ++ k :: B).map (fun x => (x, c))) k = some c :=
      match hg : dGet? ((A ++ k :: B).map (fun x => (x, c))) k with
      | none => absurd (by simp) ((dGet?_none_iff _ k).1 hg)
      | some v => by obtain ⟨_, _, e⟩ := List.mem_map.1 (dGet?_mem hg); cases e; rfl
    obtain ⟨A', B', e, e'⟩ := dSet_of_some c hk
    rw [e', ← e, sAdd, if_pos h]
  · rw [dSet_of_not_mem c (by simpa [Function.comp_def] using h), sAdd, if_neg h]; simp

end Set

section DictAll
variable {κ ν : Type} [DecidableEq κ]

/-- `for (k, v) in l: d[k] = v` -/
def dSetAll (d l : List (κ × ν)) : List (κ × ν) := l.foldl (fun d p => dSet d p.1 p.2) d

theorem dSetAll_cons (d : List (κ × ν)) (p : κ × ν) (l : List (κ × ν)) : dSetAll d (p :: l) = dSetAll (dSet d p.1 p.2) l := rfl

theorem dSetAll_keys_nodup (l : List (κ × ν)) {d : List (κ × ν)} (h : (d.map (·.1)).Nodup) : ((dSetAll d l).map (·.1)).Nodup := by
  induction l generalizing d with
  | nil => exact h
  | cons p l ih => exact ih (dSet_keys_nodup _ _ h)

theorem mem_dSetAll {l d : List (κ × ν)} {e : κ × ν} (h : e ∈ dSetAll d l) : e ∈ d ∨ e ∈ l := by
  induction l generalizing d with
  | nil => exact .inl h
  | cons p l ih =>
    rcases ih h with h | h
    · exact (mem_dSet h).imp id fun e => by rw [e]; exact List.mem_cons_self
    · exact .inr (List.mem_cons_of_mem _ h)

theorem dSetAll_of_fresh (l d : List (κ × ν)) (h : (d.map (·.1) ++ l.map (·.1)).Nodup) : dSetAll d l = d ++ l := by
  induction l generalizing d with
  | nil => simp [dSetAll]
  | cons p l ih =>
    have hp : p.1 ∉ d.map (·.1) := fun hm => (List.nodup_append.mp h).2.2 _ hm _ (by simp) rfl
    rw [dSetAll_cons, dSet_of_not_mem p.2 hp, ih]
    · simp
    · simpa [List.append_assoc] using h

theorem dSetAll_nil_eq_iff (l : List (κ × ν)) : dSetAll [] l = l ↔ (l.map (·.1)).Nodup :=
  ⟨fun h => h ▸ dSetAll_keys_nodup l List.nodup_nil, fun h => by simpa using dSetAll_of_fresh l [] (by simpa using h)⟩

theorem dSetAll_mapVal {μ : Type} (f : ν → μ) (l d : List (κ × ν)) :
    (dSetAll d l).map (fun e => (e.1, f e.2)) = dSetAll (d.map fun e => (e.1, f e.2)) (l.map fun e => (e.1, f e.2)) := by
  induction l generalizing d with
  | nil => rfl
  | cons p l ih => rw [dSetAll_cons, ih, dSet_mapVal]; rfl

end DictAll

theorem sumInts_nil : sumInts [] = 0 := rfl
theorem sumInts_cons (x : Int) (xs : List Int) : sumInts (x :: xs) = x + sumInts xs := rfl

theorem sumInts_append (a b : List Int) : sumInts (a ++ b) = sumInts a + sumInts b := by
  induction a with
  | nil => simp [sumInts]
  | cons x xs ih => simp only [List.cons_append, sumInts_cons, ih]; omega

theorem sumInts_reverse (a : List Int) : sumInts a.reverse = sumInts a := by
  induction a with
  | nil => rfl
  | cons x xs ih => rw [List.reverse_cons, sumInts_append, ih]; simp only [sumInts]; omega

theorem sumInts_perm {l₁ l₂ : List Int} (p : l₁.Perm l₂) : sumInts l₁ = sumInts l₂ := by
  induction p with
  | nil => rfl
  | cons x _ ih => simp only [sumInts_cons, ih]
  | swap x y l => simp only [sumInts_cons]; omega
  | trans _ _ ih1 ih2 => exact ih1.trans ih2

section Sorting
variable {α} (le : α → α → Bool)

theorem insertBy_nil (x : α) : insertBy le x [] = [x] := rfl
theorem insertBy_cons (x y : α) (ys : List α) :
    insertBy le x (y :: ys) = if le x y then x :: y :: ys else y :: insertBy le x ys := rfl
theorem stableSort_nil : stableSort le [] = [] := rfl
theorem stableSort_cons (x : α) (xs : List α) : stableSort le (x :: xs) = insertBy le x (stableSort le xs) := rfl

theorem insertBy_perm (x : α) (l : List α) : (insertBy le x l).Perm (x :: l) := by
  induction l with
  | nil => exact .refl _
  | cons y ys ih =>
    rw [insertBy_cons]
    split
    · exact .refl _
    · exact ((List.Perm.cons y ih).trans (.swap x y ys))

theorem stableSort_perm (l : List α) : (stableSort le l).Perm l := by
  induction l with
  | nil => exact .refl _
  | cons x xs ih => exact (insertBy_perm le x _).trans (ih.cons x)

theorem insertBy_length (x : α) (l : List α) : (insertBy le x l).length = l.length + 1 := (insertBy_perm le x l).length_eq
theorem stableSort_length (l : List α) : (stableSort le l).length = l.length := (stableSort_perm le l).length_eq
theorem mem_insertBy {x y : α} {l : List α} : y ∈ insertBy le x l ↔ y = x ∨ y ∈ l := by
  rw [(insertBy_perm le x l).mem_iff, List.mem_cons]
theorem mem_stableSort {y : α} {l : List α} : y ∈ stableSort le l ↔ y ∈ l := (stableSort_perm le l).mem_iff

theorem insertBy_sorted (htot : ∀ a b, le a b = true ∨ le b a = true) (htr : ∀ a b c, le a b = true → le b c = true → le a c = true)
    (x : α) {l : List α} (hs : l.Pairwise (fun a b => le a b = true)) : (insertBy le x l).Pairwise (fun a b => le a b = true) := by
  induction l with
  | nil => simp [insertBy]
  | cons y ys ih =>
    rw [List.pairwise_cons] at hs
    rw [insertBy_cons]
    split
    · next hxy =>
      exact List.pairwise_cons.2 ⟨fun z hz => (List.mem_cons.1 hz).elim (fun e => e ▸ hxy) fun hz => htr _ _ _ hxy (hs.1 z hz),
        List.pairwise_cons.2 hs⟩
    · next hxy =>
      refine List.pairwise_cons.2 ⟨fun z hz => ?_, ih hs.2⟩
      rcases (mem_insertBy le).1 hz with rfl | hz
      · exact (htot z y).resolve_left hxy
      · exact hs.1 z hz

theorem stableSort_sorted (htot : ∀ a b, le a b = true ∨ le b a = true) (htr : ∀ a b c, le a b = true → le b c = true → le a c = true)
    (l : List α) : (stableSort le l).Pairwise (fun a b => le a b = true) := by
  induction l with
  | nil => exact .nil
  | cons x xs ih => exact insertBy_sorted le htot htr x ih

theorem insertBy_map {β} (f : α → β) (le' : β → β → Bool) (h : ∀ a b, le' (f a) (f b) = le a b) (x : α) (l : List α) :
    insertBy le' (f x) (l.map f) = (insertBy le x l).map f := by
  induction l with
  | nil => rfl
  | cons y ys ih =>
    rw [List.map_cons, insertBy_cons, insertBy_cons, h, ih]
    split <;> rfl

theorem stableSort_map {β} (f : α → β) (le' : β → β → Bool) (h : ∀ a b, le' (f a) (f b) = le a b) (l : List α) :
    stableSort le' (l.map f) = (stableSort le l).map f := by
  induction l with
  | nil => rfl
  | cons x xs ih => rw [List.map_cons, stableSort_cons, stableSort_cons, ih, insertBy_map le f le' h]

/-- stability: elements among which `le` always holds keep their order -/
theorem insertBy_filter (p : α → Bool) (x : α) (l : List α) (hp : ∀ y, p x = true → p y = true → le x y = true) :
    (insertBy le x l).filter p = (x :: l).filter p := by
  induction l with
  | nil => rfl
  | cons y ys ih =>
    rw [insertBy_cons]
    split
    · rfl
    · next hxy =>
      rw [List.filter_cons, ih]
      by_cases hx : p x = true
      · have hy : p y = false := by
          cases hy : p y
          · rfl
          · exact absurd (hp y hx hy) hxy
        simp [hx, hy]
      · simp [List.filter_cons, hx]

theorem stableSort_filter (p : α → Bool) (hp : ∀ x y, p x = true → p y = true → le x y = true) (l : List α) :
    (stableSort le l).filter p = l.filter p := by
  induction l with
  | nil => rfl
  | cons x xs ih => rw [stableSort_cons, insertBy_filter le p x _ (hp x), List.filter_cons, List.filter_cons, ih]

end Sorting

theorem stableSort_pairwise {α} (k : α → Int) (l : List α) :
    (stableSort (fun a b => decide (k a ≤ k b)) l).Pairwise (fun a b => k a ≤ k b) :=
  (stableSort_sorted _ (fun a b => by simp only [decide_eq_true_eq]; omega)
    (fun a b c h1 h2 => by simp only [decide_eq_true_eq] at *; omega) l).imp of_decide_eq_true

theorem sorted_unique {α} (key : α → Int) : ∀ (l1 l2 : List α), l1.Perm l2 →
    l1.Pairwise (fun a b => key a < key b) → l2.Pairwise (fun a b => key a ≤ key b) → l2 = l1
  | [], l2, hp, _, _ => by simpa using hp.symm.eq_nil
  | a :: t1, [], hp, _, _ => by simpa using hp.eq_nil
  | a :: t1, b :: t2, hp, h1, h2 => by
    rw [List.pairwise_cons] at h1 h2
    have hb : b ∈ a :: t1 := hp.symm.subset (by simp)
    have ha : a ∈ b :: t2 := hp.subset (by simp)
    have hab : b = a := by
      rcases List.mem_cons.1 hb with e | hb'
      · exact e
      · have h3 := h1.1 b hb'
        rcases List.mem_cons.1 ha with e | ha'
        · exact e.symm
        · have h4 := h2.1 a ha'
          omega
    subst hab
    have hp' : t1.Perm t2 := List.Perm.cons_inv hp
    rw [sorted_unique key t1 t2 hp' h1.2 h2.2]

theorem mapM_ok {α β : Type} {f : α → R β} {g : α → β} {l : List α} (h : ∀ x ∈ l, f x = .ok (g x)) : l.mapM f = .ok (l.map g) := by
  induction l with
  | nil => rfl
  | cons x xs ih =>
    rw [List.mapM_cons, h x List.mem_cons_self, ih fun y hy => h y (List.mem_cons_of_mem _ hy)]
    rfl

theorem mapM_pure {α β : Type} (g : α → β) (l : List α) : l.mapM (fun x => (Except.ok (g x) : R β)) = .ok (l.map g) :=
  mapM_ok fun _ _ => rfl

theorem mapM_congr {α β : Type} {f g : α → R β} {l : List α} (h : ∀ x ∈ l, f x = g x) : l.mapM f = l.mapM g := by
  induction l with
  | nil => rfl
  | cons x xs ih => rw [List.mapM_cons, List.mapM_cons, h x List.mem_cons_self, ih fun y hy => h y (List.mem_cons_of_mem _ hy)]

theorem mapM_map {α β γ : Type} (f : α → β) (g : β → R γ) (l : List α) : (l.map f).mapM g = l.mapM (fun a => g (f a)) := by
  induction l with
  | nil => rfl
  | cons x xs ih => rw [List.map_cons, List.mapM_cons, List.mapM_cons, ih]

theorem mapM_map_post {α β γ : Type} (g : α → R β) (h : β → γ) (xs : List α) :
    (xs.mapM g).map (List.map h) = xs.mapM (fun a => (g a).map h) := by
  induction xs with
  | nil => rfl
  | cons x xs ih =>
    rw [List.mapM_cons, List.mapM_cons, ← ih]
    cases g x with
    | error e => rfl
    | ok b => cases List.mapM g xs <;> rfl

theorem mapM_ok_of_forall {α β : Type} {f : α → R β} {l : List α} (h : ∀ x ∈ l, ∃ y, f x = .ok y) : ∃ ys, l.mapM f = .ok ys := by
  induction l with
  | nil => exact ⟨[], rfl⟩
  | cons x xs ih =>
    obtain ⟨y, hy⟩ := h x List.mem_cons_self
    obtain ⟨ys, hys⟩ := ih fun z hz => h z (List.mem_cons_of_mem _ hz)
    exact ⟨y :: ys, by rw [List.mapM_cons, hy, hys]; rfl⟩

theorem mapM_ok_proj {α β γ : Type} {f : α → R β} (π : β → γ) (g : α → γ) (P : β → Prop) :
    ∀ (l : List α), (∀ x ∈ l, ∃ y, f x = .ok y ∧ π y = g x ∧ P y) →
      ∃ ys, l.mapM f = .ok ys ∧ ys.map π = l.map g ∧ ∀ y ∈ ys, P y
  | [], _ => ⟨[], rfl, rfl, fun _ h => nomatch h⟩
  | x :: l, h => by
    obtain ⟨y, hy, hπ, hP⟩ := h x List.mem_cons_self
    obtain ⟨ys, hys, hm, hPs⟩ := mapM_ok_proj π g P l fun z hz => h z (List.mem_cons_of_mem _ hz)
    exact ⟨y :: ys, by rw [List.mapM_cons, hy, hys]; rfl, by rw [List.map_cons, List.map_cons, hπ, hm],
      fun z hz => (List.mem_cons.1 hz).elim (fun e => e ▸ hP) (hPs z)⟩

theorem mapM_ite {α β : Type} (P : α → Prop) [DecidablePred P] (g : α → β) (e : Err) (l : List α) :
    l.mapM (fun x => if P x then (.ok (g x) : R β) else .error e) =
      if ∀ x ∈ l, P x then .ok (l.map g) else .error e := by
  induction l with
  | nil => rfl
  | cons x xs ih =>
    rw [List.mapM_cons, ih]
    by_cases hx : P x
    · by_cases hxs : ∀ y ∈ xs, P y
      · rw [if_pos hx, if_pos hxs, if_pos (List.forall_mem_cons.2 ⟨hx, hxs⟩)]; rfl
      · rw [if_pos hx, if_neg hxs, if_neg fun h => hxs (List.forall_mem_cons.1 h).2]; rfl
    · rw [if_neg hx, if_neg fun h => hx (List.forall_mem_cons.1 h).1]; rfl

theorem mapM_keyed {α κ : Type} {key : α → R κ} {l : List α} {out : List (κ × α)}
    (h : l.mapM (fun p => do let d ← key p; pure (d, p)) = .ok out) : out.map (·.2) = l ∧ ∀ kp ∈ out, key kp.2 = .ok kp.1 := by
  induction l generalizing out with
  | nil => rw [List.mapM_nil] at h; cases h; exact ⟨rfl, fun _ h => nomatch h⟩
  | cons x xs ih =>
    rw [List.mapM_cons] at h
    obtain ⟨y, hy, h⟩ := bind_eq_ok.1 h
    obtain ⟨zs, hzs, h⟩ := bind_eq_ok.1 h
    obtain ⟨d, hd, hy⟩ := bind_eq_ok.1 hy
    cases h; cases hy
    obtain ⟨h1, h2⟩ := ih hzs
    exact ⟨by rw [List.map_cons, h1], fun kp hkp => (List.mem_cons.1 hkp).elim (fun e => e ▸ hd) (h2 kp)⟩

theorem foldlM_ok {α σ : Type} {g : σ → α → R σ} {f : σ → α → σ} {l : List α} (h : ∀ x ∈ l, ∀ s, g s x = .ok (f s x)) (s : σ) :
    l.foldlM g s = .ok (l.foldl f s) := by
  induction l generalizing s with
  | nil => rfl
  | cons x xs ih =>
    rw [List.foldlM_cons, h x List.mem_cons_self, ok_bind, List.foldl_cons, ih fun y hy => h y (List.mem_cons_of_mem _ hy)]

theorem foldlM_ite {α σ : Type} (P : α → Prop) [DecidablePred P] (f : σ → α → σ) (e : Err) (l : List α) (s : σ) :
    l.foldlM (fun s x => if P x then (.ok (f s x) : R σ) else .error e) s =
      if ∀ x ∈ l, P x then .ok (l.foldl f s) else .error e := by
  induction l generalizing s with
  | nil => rfl
  | cons x xs ih =>
    rw [List.foldlM_cons]
    by_cases hx : P x
    · rw [if_pos hx, ok_bind, ih]
      by_cases hxs : ∀ y ∈ xs, P y
      · rw [if_pos hxs, if_pos (List.forall_mem_cons.2 ⟨hx, hxs⟩)]; rfl
      · rw [if_neg hxs, if_neg fun h => hxs (List.forall_mem_cons.1 h).2]
    · rw [if_neg hx, if_neg fun h => hx (List.forall_mem_cons.1 h).1]; rfl

theorem foldlM_congr {α σ : Type} {f g : σ → α → R σ} {l : List α} (h : ∀ x ∈ l, ∀ s, f s x = g s x) (s : σ) :
    l.foldlM f s = l.foldlM g s := by
  induction l generalizing s with
  | nil => rfl
  | cons x xs ih =>
    rw [List.foldlM_cons, List.foldlM_cons, h x List.mem_cons_self]
    exact bind_congr fun s' => ih (fun y hy => h y (List.mem_cons_of_mem _ hy)) s'

theorem foldlM_map {σ β γ : Type} (f : σ → γ → σ) (g : β → R γ) :
    ∀ (l : List β) (s : σ), l.foldlM (fun s x => (g x).map (f s)) s = (l.mapM g).map fun ys => ys.foldl f s
  | [], s => rfl
  | x :: l, s => by
    rw [List.foldlM_cons, List.mapM_cons]
    cases g x with
    | error e => rfl
    | ok c =>
      rw [map_ok, ok_bind, ok_bind, foldlM_map f g l (f s c)]
      cases l.mapM g <;> rfl

/-- the run `h` comes first: it fixes the step function, the list and the two states before `step` is elaborated -/
theorem foldlM_inv {α σ : Type} (P : σ → Prop) {f : σ → α → R σ} {l : List α} {s s' : σ}
    (h : l.foldlM f s = .ok s') (h0 : P s) (step : ∀ s, ∀ x ∈ l, ∀ s', P s → f s x = .ok s' → P s') : P s' := by
  induction l generalizing s with
  | nil => cases h; exact h0
  | cons x xs ih =>
    rw [List.foldlM_cons] at h
    obtain ⟨s1, h1, h⟩ := bind_eq_ok.1 h
    exact ih h (step s x List.mem_cons_self s1 h0 h1) (fun s x hx => step s x (List.mem_cons_of_mem _ hx))

theorem foldlM_ok_inv {α σ : Type} (P : σ → Prop) {f : σ → α → R σ} {l : List α}
    (hstep : ∀ s x, x ∈ l → P s → ∃ s', f s x = .ok s' ∧ P s') {s : σ} (h0 : P s) : ∃ s', l.foldlM f s = .ok s' ∧ P s' := by
  induction l generalizing s with
  | nil => exact ⟨s, rfl, h0⟩
  | cons x xs ih =>
    obtain ⟨s1, h1, hP⟩ := hstep s x List.mem_cons_self h0
    rw [List.foldlM_cons, h1]
    exact ih (fun s x hx => hstep s x (List.mem_cons_of_mem _ hx)) hP

theorem foldlM_ok_of_forall {α σ : Type} {f : σ → α → R σ} {l : List α} (h : ∀ x ∈ l, ∀ s, ∃ s', f s x = .ok s') (s0 : σ) :
    ∃ s', l.foldlM f s0 = .ok s' :=
  (foldlM_ok_inv (fun _ => True) (fun s x hx _ => (h x hx s).imp fun _ hs => ⟨hs, trivial⟩) (s := s0) trivial).imp
    fun _ hs => hs.1

theorem foldlM_ok_step {α σ : Type} {f : σ → α → R σ} {l : List α} {s s' : σ} (h : l.foldlM f s = .ok s') :
    ∀ x ∈ l, ∃ s1 s2, f s1 x = .ok s2 := by
  induction l generalizing s with
  | nil => intro x hx; cases hx
  | cons y t ih =>
    rw [List.foldlM_cons] at h
    obtain ⟨s1, h1, h⟩ := bind_eq_ok.mp h
    intro x hx
    rcases List.mem_cons.mp hx with rfl | hx
    · exact ⟨s, s1, h1⟩
    · exact ih h x hx

theorem foldlM_ok_rest {α σ : Type} (P : List α → σ → Prop) {f : σ → α → R σ}
    (step : ∀ x rest s, P (x :: rest) s → ∃ s', f s x = .ok s' ∧ P rest s') :
    ∀ (l : List α) (s : σ), P l s → ∃ s', l.foldlM f s = .ok s' ∧ P [] s'
  | [], s, h => ⟨s, rfl, h⟩
  | x :: t, s, h => by
    obtain ⟨s1, h1, hP⟩ := step x t s h
    obtain ⟨s', h', hP'⟩ := foldlM_ok_rest P step t s1 hP
    exact ⟨s', by rw [List.foldlM_cons, h1]; exact h', hP'⟩

theorem foldlM_perm {σ α : Type} (f : σ → α → R σ) (P : σ → Prop) (Q : α → Prop)
    (hpres : ∀ s a s', P s → Q a → f s a = .ok s' → P s')
    (hcomm : ∀ s a b, P s → Q a → Q b → (f s a >>= fun s' => f s' b) = (f s b >>= fun s' => f s' a))
    {l₁ l₂ : List α} (hp : l₁.Perm l₂) :
    ∀ s, P s → (∀ a ∈ l₁, Q a) → l₁.foldlM f s = l₂.foldlM f s := by
  induction hp with
  | nil => intro s _ _; rfl
  | cons x _ ih =>
    intro s hs hq
    simp only [List.foldlM_cons]
    cases hx : f s x with
    | error e => rfl
    | ok s' =>
      exact ih s' (hpres s x s' hs (hq x (by simp)) hx) (fun a ha => hq a (by simp [ha]))
  | swap x y l =>
    intro s hs hq
    simp only [List.foldlM_cons]
    have := hcomm s y x hs (hq y (by simp)) (hq x (by simp))
    rw [← bind_assoc, ← bind_assoc, this]
  | trans h₁ _ ih₁ ih₂ =>
    intro s hs hq
    rw [ih₁ s hs hq]
    exact ih₂ s hs (fun a ha => hq a (h₁.mem_iff.2 ha))

/-- Python's `sorted(l, key=…)` with a key that may raise: all keys first (the first failing key raises), then a stable sort;
    `sortPremsByDelta` and the visiting order of `cut_fragments` are instances, by `rfl` -/
def sortedByKeyM {α : Type} (key : α → R Int) (l : List α) : R (List α) := do
  let keyed ← l.mapM (fun x => do let k ← key x; pure (k, x))
  pure ((stableSort (fun (a c : Int × α) => a.1 ≤ c.1) keyed).map (·.2))

theorem sortedByKeyM_ok {α : Type} {key : α → R Int} {l out : List α} (h : sortedByKeyM key l = .ok out) :
    out.Perm l ∧ ∃ keyed : List (Int × α), keyed.map (·.2) = out ∧ (∀ kp ∈ keyed, key kp.2 = .ok kp.1) ∧
      keyed.Pairwise (fun a c => a.1 ≤ c.1) := by
  unfold sortedByKeyM at h
  obtain ⟨keyed, hk, h⟩ := bind_eq_ok.mp h
  cases h
  obtain ⟨h1, h2⟩ := mapM_keyed hk
  have hperm := stableSort_perm (fun (a c : Int × α) => decide (a.1 ≤ c.1)) keyed
  refine ⟨?_, _, rfl, fun kp hkp => h2 kp (hperm.mem_iff.mp hkp), stableSort_pairwise (fun (a : Int × α) => a.1) keyed⟩
  rw [← h1]; exact hperm.map _

theorem sortedByKeyM_of_sorted {α : Type} {key : α → R Int} {l V : List α} (κ : α → Int)
    (hκ : ∀ x ∈ l, key x = .ok (κ x)) (hperm : V.Perm l) (hs : V.Pairwise (fun a c => κ a < κ c)) :
    sortedByKeyM key l = .ok V := by
  unfold sortedByKeyM
  rw [mapM_ok (g := fun x => (κ x, x)) (fun x hx => by rw [hκ x hx]; rfl)]
  show Except.ok _ = _
  congr 1
  have : stableSort (fun (a c : Int × α) => decide (a.1 ≤ c.1)) (l.map (fun x => (κ x, x))) = V.map (fun x => (κ x, x)) := by
    apply sorted_unique (fun (a : Int × α) => a.1)
    · exact (hperm.map _).trans (stableSort_perm _ _).symm
    · exact List.Pairwise.map _ (fun a c h => h) hs
    · exact stableSort_pairwise (fun (a : Int × α) => a.1) _
  rw [this, List.map_map]
  exact List.map_id' _

theorem pairwise_trichotomy {α} {R : α → α → Prop} {l : List α} (h : l.Pairwise R) {a b : α} (ha : a ∈ l) (hb : b ∈ l) :
    a = b ∨ R a b ∨ R b a := by
  induction l with
  | nil => cases ha
  | cons x xs ih =>
    rw [List.pairwise_cons] at h
    rcases List.mem_cons.mp ha with rfl | ha' <;> rcases List.mem_cons.mp hb with rfl | hb'
    · exact Or.inl rfl
    · exact Or.inr (Or.inl (h.1 _ hb'))
    · exact Or.inr (Or.inr (h.1 _ ha'))
    · exact ih h.2 ha' hb'

end AgpTpf
