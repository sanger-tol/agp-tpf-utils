/-
  The small definitions of `Model/Fasta.lean` that many proofs meet, and Python's `//` / `%` (`Model/Py.lean`) for a positive divisor.
-/
import AgpTpf.Model.Fasta
import AgpTpf.Proofs.Lib.Py
namespace AgpTpf

/-- floor division by a positive divisor, in the form `omega` can use -/
theorem pyDiv_spec (a b : Int) (hb : 1 ≤ b) : pyDiv a b * b ≤ a ∧ a < pyDiv a b * b + b := by
  unfold pyDiv
  rw [Int.fdiv_eq_ediv_of_nonneg _ (by omega)]
  have h1 := Int.emod_nonneg a (show b ≠ 0 by omega)
  have h2 := Int.emod_lt_of_pos a (show 0 < b by omega)
  have h3 := Int.ediv_mul_add_emod a b
  constructor <;> omega

theorem pyDiv_nonneg (a b : Int) (ha : 0 ≤ a) (hb : 1 ≤ b) : 0 ≤ pyDiv a b := by
  unfold pyDiv
  rw [Int.fdiv_eq_ediv_of_nonneg _ (by omega)]
  exact Int.ediv_nonneg ha (by omega)

theorem pyDiv_neg (a b : Int) (ha : a < 0) (hb : 1 ≤ b) : pyDiv a b < 0 := by
  unfold pyDiv
  rw [Int.fdiv_eq_ediv_of_nonneg _ (by omega)]
  exact Int.ediv_neg_of_neg_of_pos ha (by omega)

theorem pyDivMod_line (R q c : Nat) (hc : c < R) (x : Int) (hx : x = ((q * R + c : Nat) : Int)) :
    pyDiv x R = q ∧ pyMod x R = c := by
  have := (Nat.div_mod_unique (a := q * R + c) (Nat.zero_lt_of_lt hc)).2 ⟨by rw [Nat.mul_comm, Nat.add_comm], hc⟩
  rw [hx, pyDiv, pyMod, ← Int.ofNat_fdiv, ← Int.ofNat_fmod, this.1, this.2]
  exact ⟨rfl, rfl⟩

theorem length_reverseComplement (s : Bytes) : (reverseComplement s).length = s.length := by
  simp [reverseComplement]

theorem reverseComplement_append (x y : Bytes) :
    reverseComplement (x ++ y) = reverseComplement y ++ reverseComplement x := by
  simp [reverseComplement]

theorem reverseComplement_getElem? (s : Bytes) (i : Nat) (h : i < s.length) :
    (reverseComplement s)[i]? = (s[s.length - 1 - i]?).map comp := by
  simp only [reverseComplement, List.getElem?_map, List.getElem?_reverse h]

theorem flatten_reverseComplement_reverse {α : Type} (g : α → Bytes) : ∀ (l : List α),
    ((l.reverse).map (fun b => reverseComplement (g b))).flatten = reverseComplement ((l.map g).flatten)
  | [] => by simp [reverseComplement]
  | a :: t => by
    simp only [List.reverse_cons, List.map_append, List.flatten_append, List.map_cons, List.map_nil,
      List.flatten_cons, List.flatten_nil, List.append_nil, flatten_reverseComplement_reverse g t, reverseComplement_append]

theorem map_ofNat_strToBytes (s : Str) : (strToBytes s).map Char.ofNat = s := by
  unfold strToBytes
  rw [List.map_map]
  have : (Char.ofNat ∘ Char.toNat) = id := by funext c; exact Char.ofNat_toNat c
  rw [this, List.map_id]

theorem strToBytes_inj (a b : Str) (h : strToBytes a = strToBytes b) : a = b := by
  rw [← map_ofNat_strToBytes a, h, map_ofNat_strToBytes]

theorem nodup_map_strToBytes (l : List Str) (h : l.Nodup) : (l.map strToBytes).Nodup :=
  nodup_map_of_inj_on strToBytes h (fun x _ y _ e => strToBytes_inj x y e)

theorem strToBytes_no_lf (s : Str) (h : '\n' ∉ s) : ∀ b ∈ strToBytes s, b ≠ 10 := by
  intro b hb e
  obtain ⟨c, hc, rfl⟩ := List.mem_map.mp hb
  exact h ((Char.ext (UInt32.toNat_inj.mp e) : c = '\n') ▸ hc)

end AgpTpf
