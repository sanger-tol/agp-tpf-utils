/-
  Helper lemmas for C14: complement table, reverse complement, `Scaffold.reverse`, and the body of a reversed scaffold.
-/
import AgpTpf.Proofs.C03Stream
import AgpTpf.Proofs.Lib.Rows
namespace AgpTpf.C14Proofs
open AgpTpf AgpTpf.StreamProofs

/-! ### the 256-entry table (regenerated from the source on every run, so re-proved against the current source) -/

theorem table_length : Gen.complementTable.length = 256 := by decide +kernel

theorem comp_big (b : Nat) (h : 256 ≤ b) : comp b = b := by
  unfold comp
  rw [List.getD_eq_getElem?_getD, List.getElem?_eq_none (by rw [table_length]; exact h)]
  rfl

/-- A property of all pairs `(b, comp b)`, `b < 256`, follows from its instances along the table (`zipIdx` pairs every
    entry with its index): one pass over the table, no look-up. -/
theorem comp_forall (P : Nat → Nat → Prop) (h : ∀ p ∈ Gen.complementTable.zipIdx, P p.2 p.1) (b : Nat) (hb : b < 256) :
    P b (comp b) := by
  have hlt : b < Gen.complementTable.length := by rw [table_length]; exact hb
  have hc : Gen.complementTable[b]? = some (comp b) := by
    rw [comp, List.getD_eq_getElem?_getD, List.getElem?_eq_getElem hlt]; rfl
  exact h (comp b, b) (List.mem_zipIdx_iff_getElem?.2 hc)

theorem comp_lt_256 : ∀ b, b < 256 → comp b < 256 := comp_forall (fun _ c => c < 256) (by decide +kernel)

/-- every byte is a fixed point or one of a swapped pair (the second look-up is evaluated for the swapped ones only) -/
theorem comp_comp_256 (b : Nat) (hb : b < 256) : comp (comp b) = b := by
  rcases comp_forall (fun b c => c = b ∨ comp c = b) (by decide +kernel) b hb with h | h
  · rw [h, h]
  · exact h

theorem comp_comp (b : Nat) : comp (comp b) = b := by
  by_cases h : b < 256
  · exact comp_comp_256 b h
  · rw [comp_big b (by omega), comp_big b (by omega)]

theorem revcomp_revcomp (s : Bytes) : reverseComplement (reverseComplement s) = s := by
  unfold reverseComplement
  rw [← List.map_reverse, List.reverse_reverse, List.map_map]
  have : comp ∘ comp = id := by funext b; exact comp_comp b
  rw [this, List.map_id]

theorem comp_gapByte : comp gapByte = gapByte := by decide +kernel

theorem revcomp_replicate_gap (n : Nat) :
    reverseComplement (List.replicate n gapByte) = List.replicate n gapByte := by
  simp [reverseComplement, comp_gapByte]

theorem rowsLength_reverse (rows : List Row) : rowsLength ((rows.reverse).map Row.reverse) = rowsLength rows := by
  rw [rowsLength_map_reverse, AgpTpf.rowsLength_reverse]

theorem rowBody_reverse (resOf : Str → Bytes) (r : Row)
    (h : ∀ f, r = .frag f → f.strand = 1 ∨ f.strand = -1) :
    rowBody resOf r.reverse = reverseComplement (rowBody resOf r) := by
  cases r with
  | gap g => simp [Row.reverse, rowBody, revcomp_replicate_gap]
  | frag f =>
    rcases h f rfl with h1 | h1
    · simp [Row.reverse, rowBody, Fragment.reverse, h1]
    · simp [Row.reverse, rowBody, Fragment.reverse, h1, revcomp_revcomp]

theorem rowsBody_reverse (resOf : Str → Bytes) (rows : List Row)
    (h : ∀ f, Row.frag f ∈ rows → f.strand = 1 ∨ f.strand = -1) :
    rowsBody resOf ((rows.reverse).map Row.reverse) = reverseComplement (rowsBody resOf rows) := by
  rw [rowsBody, List.map_map, rowsBody, ← flatten_reverseComplement_reverse]
  congr 1
  exact List.map_congr_left fun r hr => rowBody_reverse resOf r fun f hf => h f (hf ▸ List.mem_reverse.1 hr)

theorem rowOK_reverse {file : Bytes} {idx : List (Str × FastaInfo)} {resOf : Str → Bytes} (r : Row)
    (h : RowOK file idx resOf r) : RowOK file idx resOf r.reverse := by
  cases r with
  | gap g => trivial
  | frag f => exact h

end AgpTpf.C14Proofs
