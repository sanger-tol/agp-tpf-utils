/- `name_assemblies`: the three branches as pure functions (C09, key → file name), each with ONE record equation: what it
   makes of an input assembly, the name being `root.version.<label>` for the label of an effective lower-cased key -/
import AgpTpf.Model.Cli
import AgpTpf.Proofs.Lib.Py
namespace AgpTpf.CliPlan
open AgpTpf
/-- the key as `name_assemblies` uses it in a file name: `asm_key.lower()` -/
def lowerKey (a : OutAsm) : Option Str := a.key.map lowerStr

def sAddHap : Str := "additional_haplotig".toList
def sAllHap : Str := "all_haplotig".toList
end AgpTpf.CliPlan

namespace AgpTpf.CliNames
open AgpTpf AgpTpf.CliPlan

def sPrimaryLc : Str := "primary".toList
def sAdditional : Str := "additional_haplotigs".toList
def sAllHaplotigs : Str := "all_haplotigs".toList

theorem dotJoin3 (a b c : Str) : dotJoin [a, b, c] = a ++ '.' :: (b ++ '.' :: c) := rfl
theorem dotJoin4 (a b c d : Str) : dotJoin [a, b, c, d] = a ++ '.' :: (b ++ '.' :: (c ++ '.' :: d)) := rfl

def HasKey (asms : List OutAsm) (k : Option Str) : Prop := ∃ a ∈ asms, a.key = k

instance (asms : List OutAsm) (k : Option Str) : Decidable (HasKey asms k) := by unfold HasKey; exact inferInstance

theorem any_key_iff (asms : List OutAsm) (k : Option Str) :
    (asms.any (fun a => a.key = k)) = true ↔ HasKey asms k := by
  unfold HasKey; simp [List.any_eq_true]

/-! ### the steps of the model, named -/

def lowerS (k : Option Str) : R Str := match k with
  | some s => .ok (lowerStr s ++ ['s'])
  | none => .error .attribute

def primStep (root version : Str) (a : OutAsm) : R (Option NamedAsm) := do
  if a.key = some sPrimary then
    pure (some ({ key := a.key, name := dotJoin [root, version, "primary".toList], curated := a.curated, scaffolds := a.scaffolds } : NamedAsm))
  else if a.curated then pure none
  else do
    let suffix ← lowerS a.key
    pure (some { key := a.key, name := dotJoin [root, version, suffix], curated := a.curated, scaffolds := a.scaffolds })

def singleStep (root version : Str) (a : OutAsm) : R NamedAsm :=
  match a.key with
  | none => pure { key := none, name := dotJoin [root, version, "primary".toList], curated := a.curated, scaffolds := a.scaffolds }
  | some k =>
    if k = sHaplotig then
      pure { key := some "additional_haplotigs".toList, name := dotJoin [root, version, "additional_haplotigs".toList], curated := true,
             scaffolds := a.scaffolds }
    else pure { key := a.key, name := dotJoin [root, version, lowerStr k ++ ['s']], curated := a.curated, scaffolds := a.scaffolds }

def multiStep (root version : Str) (a : OutAsm) : R NamedAsm :=
  match a.key with
  | none => .error .attribute
  | some k =>
    if a.curated then pure { key := a.key, name := dotJoin [root, lowerStr k, version, "primary".toList], curated := true, scaffolds := a.scaffolds }
    else pure { key := a.key, name := dotJoin [root, version, lowerStr k ++ ['s']], curated := false, scaffolds := a.scaffolds }

/-- the curated assemblies other than `Primary` (merged into `all_haplotigs`) -/
def others (asms : List OutAsm) : List OutAsm := asms.filter (fun a => a.key ≠ some sPrimary ∧ a.curated)

def allHaplotigs (root version : Str) (asms : List OutAsm) : NamedAsm :=
  { key := some "all_haplotigs".toList, name := dotJoin [root, version, "all_haplotigs".toList], curated := true,
    scaffolds := (others asms).flatMap (·.scaffolds) }

theorem nameAssemblies_eq (asms : List OutAsm) (root version : Str) :
    nameAssemblies asms root version =
      if asms.any (fun a => a.key = some sPrimary) then do
        let named ← asms.filterMapM (primStep root version)
        if (others asms).isEmpty then pure named else pure (named ++ [allHaplotigs root version asms])
      else if asms.any (fun a => a.key = none) then asms.mapM (singleStep root version)
      else asms.mapM (multiStep root version) := by
  rfl

def singleName (root version : Str) (a : OutAsm) : NamedAsm :=
  match a.key with
  | none => { key := none, name := dotJoin [root, version, sPrimaryLc], curated := a.curated, scaffolds := a.scaffolds }
  | some k =>
    if k = sHaplotig then
      { key := some sAdditional, name := dotJoin [root, version, sAdditional], curated := true, scaffolds := a.scaffolds }
    else { key := some k, name := dotJoin [root, version, lowerStr k ++ ['s']], curated := a.curated, scaffolds := a.scaffolds }

def multiName (root version : Str) (a : OutAsm) : NamedAsm :=
  match a.key with
  | none => { key := none, name := [], curated := a.curated, scaffolds := a.scaffolds }   -- never used
  | some k =>
    if a.curated then { key := some k, name := dotJoin [root, lowerStr k, version, sPrimaryLc], curated := true, scaffolds := a.scaffolds }
    else { key := some k, name := dotJoin [root, version, lowerStr k ++ ['s']], curated := false, scaffolds := a.scaffolds }

/-- `Primary` branch, the assemblies that keep their own file -/
def primaryName (root version : Str) (a : OutAsm) : Option NamedAsm :=
  if a.key = some sPrimary then
    some { key := some sPrimary, name := dotJoin [root, version, sPrimaryLc], curated := a.curated, scaffolds := a.scaffolds }
  else if a.curated then none
  else match a.key with
    | some k => some { key := some k, name := dotJoin [root, version, lowerStr k ++ ['s']], curated := false, scaffolds := a.scaffolds }
    | none => none   -- never used: the model raises here

theorem singleStep_eq (root version : Str) (a : OutAsm) : singleStep root version a = .ok (singleName root version a) := by
  unfold singleStep singleName
  cases a.key with
  | none => rfl
  | some k => dsimp only; split <;> rfl

theorem multiStep_eq (root version : Str) (a : OutAsm) (h : a.key ≠ none) :
    multiStep root version a = .ok (multiName root version a) := by
  unfold multiStep multiName
  cases hk : a.key with
  | none => exact absurd hk h
  | some k => dsimp only; split <;> rfl

theorem primStep_eq' (root version : Str) (a : OutAsm) :
    primStep root version a =
      if a.key = none ∧ a.curated = false then .error .attribute else .ok (primaryName root version a) := by
  unfold primStep primaryName
  cases a.key with
  | none => cases a.curated <;> rfl
  | some k =>
    by_cases hp : k = sPrimary
    · simp [hp]; rfl
    · cases a.curated <;> simp [hp, lowerS] <;> rfl

theorem primStep_eq (root version : Str) (a : OutAsm) (h : a.key = none → a.curated = true) :
    primStep root version a = .ok (primaryName root version a) := by
  rw [primStep_eq', if_neg]
  rintro ⟨hk, hc⟩
  rw [h hk] at hc; cases hc

theorem primStep_error (root version : Str) (a : OutAsm) (e : Err) (h : primStep root version a = .error e) :
    e = .attribute ∧ a.key = none ∧ a.curated = false := by
  rw [primStep_eq'] at h
  split at h
  · next hc => cases h; exact ⟨rfl, hc⟩
  · cases h

theorem primStep_fails (root version : Str) (a : OutAsm) (hk : a.key = none) (hc : a.curated = false) :
    primStep root version a = .error .attribute := by
  rw [primStep_eq', if_pos ⟨hk, hc⟩]

theorem filterMapM_of_ok {α β} (f : α → R (Option β)) (g : α → Option β) (l : List α) (h : ∀ a ∈ l, f a = .ok (g a)) :
    l.filterMapM f = .ok (l.filterMap g) := by
  induction l with
  | nil => rfl
  | cons x xs ih =>
    rw [List.filterMapM_cons, h x (by simp), ih (fun a ha => h a (by simp [ha]))]
    cases hg : g x with
    | none => simp [hg]; rfl
    | some b => simp [hg]; rfl

theorem filterMapM_error {α β} (f : α → R (Option β)) (l : List α) (e : Err)
    (hall : ∀ a ∈ l, ∀ e', f a = .error e' → e' = e) (hex : ∃ a ∈ l, f a = .error e) :
    l.filterMapM f = .error e := by
  induction l with
  | nil => obtain ⟨a, ha, _⟩ := hex; cases ha
  | cons x xs ih =>
    rw [List.filterMapM_cons]
    cases hx : f x with
    | error e' => rw [hall x (by simp) e' hx]; rfl
    | ok o =>
      have hex' : ∃ a ∈ xs, f a = .error e := by
        obtain ⟨a, ha, hfa⟩ := hex
        rcases List.mem_cons.1 ha with rfl | ha
        · rw [hx] at hfa; cases hfa
        · exact ⟨a, ha, hfa⟩
      have := ih (fun a ha => hall a (by simp [ha])) hex'
      cases o with
      | none => simp [this]; rfl
      | some b => simp [this]; rfl

theorem nameAssemblies_single (asms : List OutAsm) (root version : Str)
    (hp : ¬ HasKey asms (some sPrimary)) (hn : HasKey asms none) :
    nameAssemblies asms root version = .ok (asms.map (singleName root version)) := by
  rw [nameAssemblies_eq]
  rw [if_neg (by rw [any_key_iff]; exact hp), if_pos ((any_key_iff _ _).2 hn)]
  exact mapM_ok (fun a _ => singleStep_eq root version a)

theorem nameAssemblies_multi (asms : List OutAsm) (root version : Str)
    (hp : ¬ HasKey asms (some sPrimary)) (hn : ¬ HasKey asms none) :
    nameAssemblies asms root version = .ok (asms.map (multiName root version)) := by
  rw [nameAssemblies_eq]
  rw [if_neg (by rw [any_key_iff]; exact hp), if_neg (by rw [any_key_iff]; exact hn)]
  exact mapM_ok (fun a ha => multiStep_eq root version a (fun hk => hn ⟨a, ha, hk⟩))

def mergedPart (root version : Str) (asms : List OutAsm) : List NamedAsm :=
  if (others asms).isEmpty then [] else [allHaplotigs root version asms]

theorem others_ne_nil {asms : List OutAsm} :
    others asms ≠ [] ↔ ∃ a ∈ asms, a.key ≠ some sPrimary ∧ a.curated = true := by
  unfold others
  rw [Ne, List.filter_eq_nil_iff]
  simp

theorem mem_mergedPart {root version : Str} {asms : List OutAsm} {n : NamedAsm} :
    n ∈ mergedPart root version asms ↔ others asms ≠ [] ∧ n = allHaplotigs root version asms := by
  unfold mergedPart
  cases h : others asms <;> simp

theorem nameAssemblies_primary (asms : List OutAsm) (root version : Str)
    (hp : HasKey asms (some sPrimary)) (hc : ∀ a ∈ asms, a.key = none → a.curated = true) :
    nameAssemblies asms root version =
      .ok (asms.filterMap (primaryName root version) ++ mergedPart root version asms) := by
  rw [nameAssemblies_eq, if_pos ((any_key_iff _ _).2 hp),
    filterMapM_of_ok _ _ _ (fun a ha => primStep_eq root version a (hc a ha))]
  unfold mergedPart
  cases (others asms).isEmpty <;> simp <;> rfl

theorem nameAssemblies_primary_fails (asms : List OutAsm) (root version : Str)
    (hp : HasKey asms (some sPrimary)) (hc : ∃ a ∈ asms, a.key = none ∧ a.curated = false) :
    nameAssemblies asms root version = .error .attribute := by
  rw [nameAssemblies_eq, if_pos ((any_key_iff _ _).2 hp)]
  rw [filterMapM_error (primStep root version) asms .attribute
    (fun a _ e' he => (primStep_error root version a e' he).1)
    (by obtain ⟨a, ha, hk, hcur⟩ := hc; exact ⟨a, ha, primStep_fails root version a hk hcur⟩)]
  rfl

theorem nameAssemblies_cases (outs : List OutAsm) (root v : Str) (named : List NamedAsm)
    (h : nameAssemblies outs root v = .ok named) :
    (HasKey outs (some sPrimary) ∧ (∀ a ∈ outs, a.key = none → a.curated = true) ∧
      named = outs.filterMap (primaryName root v) ++ mergedPart root v outs) ∨
    (¬ HasKey outs (some sPrimary) ∧ HasKey outs none ∧ named = outs.map (singleName root v)) ∨
    (¬ HasKey outs (some sPrimary) ∧ ¬ HasKey outs none ∧ named = outs.map (multiName root v)) := by
  by_cases hp : HasKey outs (some sPrimary)
  · have hc : ∀ a ∈ outs, a.key = none → a.curated = true := by
      intro a ha hk
      cases hcur : a.curated with
      | true => rfl
      | false => rw [nameAssemblies_primary_fails outs root v hp ⟨a, ha, hk, hcur⟩] at h; cases h
    rw [nameAssemblies_primary outs root v hp hc] at h
    cases h; exact .inl ⟨hp, hc, rfl⟩
  · by_cases hn : HasKey outs none
    · rw [nameAssemblies_single outs root v hp hn] at h; cases h; exact .inr (.inl ⟨hp, hn, rfl⟩)
    · rw [nameAssemblies_multi outs root v hp hn] at h; cases h; exact .inr (.inr ⟨hp, hn, rfl⟩)

theorem key_some_of_not_none (outs : List OutAsm) (hn : ¬ HasKey outs none) (a : OutAsm) (ha : a ∈ outs) :
    ∃ k, a.key = some k := by
  cases hk : a.key with
  | none => exact absurd ⟨a, ha, hk⟩ hn
  | some k => exact ⟨k, rfl⟩

/-! ### labels

  The labels are given as string literals; their last letter is split off by reading the characters off each literal
  on its own (`conv`: a plain `rw` would compare the two literals of one equation with each other, by evaluation). -/

theorem primary_split : sPrimaryLc = "primar".toList ++ ['y'] := by
  unfold sPrimaryLc
  conv => lhs; rw [String.toList_ofList]
  conv => rhs; rw [String.toList_ofList]
  rfl

theorem additional_split : sAdditional = sAddHap ++ ['s'] := by
  unfold sAdditional sAddHap
  conv => lhs; rw [String.toList_ofList]
  conv => rhs; rw [String.toList_ofList]
  rfl

theorem all_split : sAllHaplotigs = sAllHap ++ ['s'] := by
  unfold sAllHaplotigs sAllHap
  conv => lhs; rw [String.toList_ofList]
  conv => rhs; rw [String.toList_ofList]
  rfl

/-- last part of a name: `primary` for the main assembly, `<key>s` for every other effective (lower-cased) key -/
def keyLabel : Option Str → Str
  | none => sPrimaryLc
  | some l => l ++ ['s']

/-- `primary` ends in another letter than every `<key>s` -/
theorem keyLabel_inj {x y : Option Str} (h : keyLabel x = keyLabel y) : x = y := by
  have ne : ∀ l : Str, l ++ ['s'] ≠ sPrimaryLc := fun l e => by
    have := congrArg List.getLast? e
    rw [primary_split, List.getLast?_concat, List.getLast?_concat] at this
    cases this
  cases x <;> cases y
  · rfl
  · exact absurd h.symm (ne _)
  · exact absurd h (ne _)
  · exact congrArg some (List.append_cancel_right h)

theorem keyLabel_ends (x : Option Str) : ∃ p c, keyLabel x = p ++ [c] ∧ (c = 's' ∨ c = 'y') := by
  cases x
  · exact ⟨_, _, primary_split, .inr rfl⟩
  · exact ⟨_, _, rfl, .inl rfl⟩

theorem lowerKey_some {a : OutAsm} {k : Str} (h : a.key = some k) : lowerKey a = some (lowerStr k) := by
  unfold lowerKey; rw [h]; rfl

/-- the key the single-haplotype branch stores an assembly under -/
def singleKey (k : Option Str) : Option Str := if k = some sHaplotig then some sAdditional else k

theorem singleKey_haplotig : singleKey (some sHaplotig) = some sAdditional := if_pos rfl

/-- effective key of the single-haplotype branch: `Haplotig` is filed as `additional_haplotig(s)` -/
def singleLow (a : OutAsm) : Option Str := if a.key = some sHaplotig then some sAddHap else lowerKey a

theorem singleName_rec (root v : Str) (a : OutAsm) :
    singleName root v a =
      { key := singleKey a.key
        name := dotJoin [root, v, keyLabel (singleLow a)]
        curated := decide (a.key = some sHaplotig) || a.curated
        scaffolds := a.scaffolds } := by
  unfold singleName singleLow singleKey lowerKey
  cases hk : a.key with
  | none => rfl
  | some k =>
    by_cases h : k = sHaplotig
    · simp only [h, if_true, keyLabel, ← additional_split]; rfl
    · simp [h, keyLabel]

theorem multiName_rec (root v : Str) (a : OutAsm) (k : Str) (hk : a.key = some k) :
    multiName root v a =
      { key := a.key
        name := if a.curated then dotJoin [root, lowerStr k, v, sPrimaryLc] else dotJoin [root, v, keyLabel (lowerKey a)]
        curated := a.curated
        scaffolds := a.scaffolds } := by
  unfold multiName lowerKey
  rw [hk]
  cases a.curated <;> rfl

/-- effective key of the `Primary` branch -/
def primaryLow (a : OutAsm) : Option Str := if a.key = some sPrimary then none else lowerKey a

/-- which assemblies keep their own file in the `Primary` branch -/
def keeps (a : OutAsm) : Bool := a.key = some sPrimary || !a.curated

def primaryKept (root v : Str) (a : OutAsm) : NamedAsm :=
  { key := a.key, name := dotJoin [root, v, keyLabel (primaryLow a)], curated := a.curated, scaffolds := a.scaffolds }

theorem primaryName_rec (root v : Str) (a : OutAsm) (h : a.key = none → a.curated = true) :
    primaryName root v a = if keeps a then some (primaryKept root v a) else none := by
  unfold primaryName keeps primaryKept primaryLow lowerKey
  by_cases hp : a.key = some sPrimary
  · simp [hp, keyLabel]
  · cases hc : a.curated with
    | true => simp [hp]
    | false =>
      cases hk : a.key with
      | none => rw [h hk] at hc; cases hc
      | some k => simp [hk ▸ hp, keyLabel]

theorem primaryName_some (root v : Str) (a : OutAsm) (n : NamedAsm) (h : a.key = none → a.curated = true)
    (hn : primaryName root v a = some n) : keeps a = true ∧ n = primaryKept root v a := by
  rw [primaryName_rec root v a h] at hn
  by_cases k : keeps a = true
  · rw [if_pos k] at hn; exact ⟨k, (Option.some.inj hn).symm⟩
  · rw [if_neg k] at hn; cases hn

theorem filterMap_primaryName (root v : Str) (l : List OutAsm) (hc : ∀ a ∈ l, a.key = none → a.curated = true) :
    l.filterMap (primaryName root v) = (l.filter keeps).map (primaryKept root v) := by
  induction l with
  | nil => rfl
  | cons x xs ih =>
    rw [List.filterMap_cons, List.filter_cons, primaryName_rec root v x (hc x List.mem_cons_self),
      ih fun a ha => hc a (List.mem_cons_of_mem _ ha)]
    cases keeps x <;> rfl

theorem allHaplotigs_rec (root v : Str) (outs : List OutAsm) :
    allHaplotigs root v outs =
      { key := some sAllHaplotigs, name := dotJoin [root, v, keyLabel (some sAllHap)], curated := true,
        scaffolds := (others outs).flatMap (·.scaffolds) } := by
  have : keyLabel (some sAllHap) = sAllHaplotigs := all_split.symm
  rw [this]; rfl

/-! ### keys of the result (a `dict` in Python: a repeated key would silently drop an assembly) -/

theorem hasKey_iff_mem (asms : List OutAsm) (k : Option Str) : HasKey asms k ↔ k ∈ asms.map (·.key) := by
  unfold HasKey; simp [List.mem_map]

theorem find_haplotig (outs : List OutAsm) (hkeys : (outs.map (·.key)).Nodup) (h : OutAsm) (hh : h ∈ outs)
    (hk : h.key = some sHaplotig) : outs.find? (fun a => a.key = some sHaplotig) = some h := by
  cases hf : outs.find? (fun a => a.key = some sHaplotig) with
  | none =>
    have := List.find?_eq_none.1 hf h hh
    simp [hk] at this
  | some x =>
    have hx := List.mem_of_find?_eq_some hf
    have hkx : x.key = some sHaplotig := by simpa using List.find?_some hf
    rw [inj_of_nodup_map (·.key) hkeys x hx h hh (by rw [hkx, hk])]

theorem single_keys_nodup_iff (root version : Str) (asms : List OutAsm) (hkeys : (asms.map (·.key)).Nodup) :
    ((asms.map (singleName root version)).map (·.key)).Nodup ↔
      (HasKey asms (some sHaplotig) → ¬ HasKey asms (some sAdditional)) := by
  have e : (asms.map (singleName root version)).map (·.key) = (asms.map (·.key)).map singleKey := by
    simp [List.map_map, Function.comp_def, singleName_rec]
  rw [e, hasKey_iff_mem, hasKey_iff_mem]
  constructor
  · intro h h1 h2
    have e : singleKey (some sAdditional) = some sAdditional := ite_self _
    have := inj_of_nodup_map singleKey h _ h1 _ h2 (by rw [e]; exact if_pos rfl)
    exact absurd this (by unfold sAdditional; rw [String.toList_ofList]; decide)
  · intro h
    apply nodup_map_of_inj_on singleKey hkeys
    intro x hx y hy exy
    unfold singleKey at exy
    by_cases h1 : x = some sHaplotig <;> by_cases h2 : y = some sHaplotig
    · rw [h1, h2]
    · rw [if_pos h1, if_neg h2] at exy
      exact absurd (exy ▸ hy) (h (h1 ▸ hx))
    · rw [if_neg h1, if_pos h2] at exy
      exact absurd (exy ▸ hx) (h (h2 ▸ hy))
    · rw [if_neg h1, if_neg h2] at exy; exact exy

theorem multi_keys (root version : Str) (asms : List OutAsm) (hn : ¬ HasKey asms none) :
    (asms.map (multiName root version)).map (·.key) = asms.map (·.key) := by
  rw [List.map_map]
  refine List.map_congr_left fun a ha => ?_
  obtain ⟨k, hk⟩ := key_some_of_not_none asms hn a ha
  simp only [Function.comp, multiName_rec root version a k hk]

theorem primary_keys_nodup_iff (root version : Str) (asms : List OutAsm) (hkeys : (asms.map (·.key)).Nodup)
    (hc : ∀ a ∈ asms, a.key = none → a.curated = true) :
    ((asms.filterMap (primaryName root version) ++ mergedPart root version asms).map (·.key)).Nodup ↔
      ((∃ a ∈ asms, a.key ≠ some sPrimary ∧ a.curated = true) →
        ∀ a ∈ asms, a.key = some sAllHaplotigs → a.curated = true) := by
  have ek : ((asms.filter keeps).map (primaryKept root version)).map (·.key) = (asms.filter keeps).map (·.key) := by
    rw [List.map_map]; rfl
  rw [List.map_append, filterMap_primaryName root version asms hc, ek]
  have hsub : ((asms.filter keeps).map (·.key)).Nodup :=
    List.Nodup.sublist (List.Sublist.map _ List.filter_sublist) hkeys
  rw [← others_ne_nil]
  unfold mergedPart
  cases ho : others asms with
  | nil => simpa using hsub
  | cons o os =>
    simp only [List.isEmpty_cons, Bool.false_eq_true, if_false, List.map_cons, List.map_nil, ne_eq, reduceCtorEq,
      not_false_eq_true, true_imp_iff]
    rw [List.nodup_append]
    constructor
    · rintro ⟨_, _, h3⟩ a ha hk
      cases hcur : a.curated with
      | true => rfl
      | false =>
        exfalso
        have hkeep : keeps a = true := by unfold keeps; simp [hcur]
        exact h3 a.key (List.mem_map_of_mem (List.mem_filter.2 ⟨ha, hkeep⟩)) (allHaplotigs root version asms).key
          (by simp) (by rw [hk]; rfl)
    · intro h
      refine ⟨hsub, by simp, ?_⟩
      intro k hk k' hk' e
      simp only [List.mem_singleton] at hk'
      subst hk' e
      obtain ⟨a, ha, hak⟩ := List.mem_map.1 hk
      obtain ⟨ha1, ha2⟩ := List.mem_filter.1 ha
      have hc' := h a ha1 hak
      unfold keeps at ha2
      have hne : a.key ≠ some sPrimary := by
        rw [hak]; show some "all_haplotigs".toList ≠ some sPrimary; rw [String.toList_ofList]; decide
      simp [hne, hc'] at ha2

/-- the result has pairwise different keys exactly when no generated key (`additional_haplotigs`, `all_haplotigs`)
    is also the key of an assembly that keeps its own entry -/
theorem named_keys_nodup_iff (asms : List OutAsm) (root version : Str) (named : List NamedAsm)
    (hkeys : (asms.map (·.key)).Nodup) (h : nameAssemblies asms root version = .ok named) :
    (named.map (·.key)).Nodup ↔
      ((¬ HasKey asms (some sPrimary) → HasKey asms none → HasKey asms (some sHaplotig) →
          ¬ HasKey asms (some sAdditional)) ∧
       (HasKey asms (some sPrimary) → (∃ a ∈ asms, a.key ≠ some sPrimary ∧ a.curated = true) →
          ∀ a ∈ asms, a.key = some sAllHaplotigs → a.curated = true)) := by
  rcases nameAssemblies_cases asms root version named h with ⟨hp, hc, rfl⟩ | ⟨hp, hn, rfl⟩ | ⟨hp, hn, rfl⟩
  · rw [primary_keys_nodup_iff root version asms hkeys hc]
    exact ⟨fun h => ⟨fun hnp => absurd hp hnp, fun _ => h⟩, fun h => h.2 hp⟩
  · rw [single_keys_nodup_iff root version asms hkeys]
    exact ⟨fun h => ⟨fun _ _ => h, fun hp' => absurd hp' hp⟩, fun h => h.1 hp hn⟩
  · rw [multi_keys root version asms hn]
    exact ⟨fun _ => ⟨fun _ hn' => absurd hn' hn, fun hp' => absurd hp' hp⟩, fun _ => hkeys⟩

def allScaffolds (l : List OutAsm) : List Scaffold := l.flatMap (·.scaffolds)
def allNamedScaffolds (l : List NamedAsm) : List Scaffold := l.flatMap (·.scaffolds)

theorem flatMap_map_scaffolds (f : OutAsm → NamedAsm) (l : List OutAsm) (h : ∀ a ∈ l, (f a).scaffolds = a.scaffolds) :
    allNamedScaffolds (l.map f) = allScaffolds l := by
  unfold allNamedScaffolds allScaffolds
  induction l with
  | nil => rfl
  | cons x xs ih =>
    rw [List.map_cons, List.flatMap_cons, List.flatMap_cons, h x List.mem_cons_self,
      ih fun a ha => h a (List.mem_cons_of_mem _ ha)]

theorem others_eq (asms : List OutAsm) : others asms = asms.filter (fun a => !keeps a) := by
  unfold others keeps
  congr 1; funext a
  by_cases h : a.key = some sPrimary <;> cases a.curated <;> simp [h]

theorem mergedPart_scaffolds (root version : Str) (asms : List OutAsm) :
    allNamedScaffolds (mergedPart root version asms) = allScaffolds (others asms) := by
  unfold mergedPart allNamedScaffolds allScaffolds
  cases h : (others asms).isEmpty with
  | true => simp at h; simp [h]
  | false => simp [allHaplotigs]

theorem primary_perm (root version : Str) (asms : List OutAsm) (hc : ∀ a ∈ asms, a.key = none → a.curated = true) :
    (allNamedScaffolds (asms.filterMap (primaryName root version) ++ mergedPart root version asms)).Perm
      (allScaffolds asms) := by
  have h1 : allNamedScaffolds (asms.filterMap (primaryName root version) ++ mergedPart root version asms) =
      allScaffolds (asms.filter keeps ++ asms.filter (fun a => !keeps a)) := by
    have a := flatMap_map_scaffolds (primaryKept root version) (asms.filter keeps) fun _ _ => rfl
    have b := mergedPart_scaffolds root version asms
    unfold allNamedScaffolds allScaffolds at a b ⊢
    rw [List.flatMap_append, List.flatMap_append, filterMap_primaryName root version asms hc, a, b, others_eq]
  rw [h1]
  unfold allScaffolds
  exact List.Perm.flatMap_right _ (List.filter_append_perm keeps asms)

end AgpTpf.CliNames
