/-
  C04 helper: `bLines` (binary-mode line iteration) inverts concatenation of well-formed lines.
-/
import AgpTpf.Model.Fasta
namespace AgpTpf.C04
open AgpTpf

def IsLine (l : Bytes) : Prop := ∃ body : Bytes, l = body ++ [10] ∧ 10 ∉ body

/-- a last line without terminator -/
def IsOpenLine (l : Bytes) : Prop := l ≠ [] ∧ 10 ∉ l

theorem bLines_body_lf (body rest : Bytes) (h : 10 ∉ body) :
    bLines (body ++ 10 :: rest) = (body ++ [10]) :: bLines rest := by
  induction body with
  | nil => simp [bLines]
  | cons c cs ih =>
    have hc : c ≠ 10 := by intro hc; apply h; simp [hc]
    have hcs : 10 ∉ cs := by intro hm; apply h; simp [hm]
    simp [bLines, hc, ih hcs]

theorem bLines_open (l : Bytes) (hne : l ≠ []) (h : 10 ∉ l) : bLines l = [l] := by
  induction l with
  | nil => exact absurd rfl hne
  | cons c cs ih =>
    have hc : c ≠ 10 := by intro hc; apply h; simp [hc]
    have hcs : 10 ∉ cs := by intro hm; apply h; simp [hm]
    cases cs with
    | nil => simp [bLines, hc]
    | cons d ds =>
      have := ih (by simp) hcs
      simp [bLines, hc] at this ⊢
      simp [bLines, this]

theorem bLines_line_append (l rest : Bytes) (h : IsLine l) : bLines (l ++ rest) = l :: bLines rest := by
  obtain ⟨body, rfl, hb⟩ := h
  simpa using bLines_body_lf body rest hb

theorem bLines_flatten_append (lines : List Bytes) (rest : Bytes) (h : ∀ l ∈ lines, IsLine l) :
    bLines (lines.flatten ++ rest) = lines ++ bLines rest := by
  induction lines with
  | nil => simp
  | cons l ls ih =>
    have hl := h l (by simp)
    have hls : ∀ l ∈ ls, IsLine l := fun l hm => h l (by simp [hm])
    simp [List.flatten_cons, List.append_assoc, bLines_line_append _ _ hl, ih hls]

theorem bLines_lines (ls : List Bytes) (h : ∀ l ∈ ls, ∀ b ∈ l, b ≠ 10) :
    bLines ((ls.map (· ++ [10])).flatten) = ls.map (· ++ [10]) := by
  have := bLines_flatten_append (ls.map (· ++ [10])) [] fun l hl => by
    obtain ⟨l0, hl0, rfl⟩ := List.mem_map.1 hl
    exact ⟨l0, rfl, fun h10 => h l0 hl0 10 h10 rfl⟩
  simpa [bLines] using this

end AgpTpf.C04
