/-
  C02 (deep cuts), part 5: one holder of a contig while `cut_remaining_overhangs` runs — its state `cutO sc ec l` (the lookup
  result `l`, cut at its start and / or end for other contigs), what `trim_fragment` makes of it (`Due`) — the arithmetic
  of a cut site (`CutGeom`), and what a chain of cut sites says of each holder (`HeldAt`): `Due.holds` is the clause
  `VisitOK.of_scaffold_order` asks for.
-/
import AgpTpf.Proofs.C02DResolve
namespace AgpTpf.C02
open AgpTpf OverlapResult

/-- what `cut_remaining_overhangs` relies on in a lookup result `l` -/
structure Lookup (base : Nat) (l : OverlapResult) : Prop where
  head : ∃ f t, l.rows = .frag f :: t
  last : ∃ f t, l.rows = t ++ [.frag f]
  distinct : (C18.ids l.rows).Nodup
  old : ∀ f, Row.frag f ∈ l.rows → f.oid < base
  span : l.stop - l.start + 1 = rowsLength l.rows
  tags : l.bait.tags = []
  valid : l.bait.start ≤ l.bait.stop

theorem Lookup.shape {base : Nat} {l : OverlapResult} (hl : Lookup base l) :
    (∃ G, l.rows = [.frag G]) ∨ ∃ G m H, l.rows = .frag G :: (m ++ [.frag H]) ∧ G.oid ≠ H.oid := by
  obtain ⟨G, r, hr⟩ := hl.head
  obtain ⟨H, t, ht⟩ := hl.last
  cases t with
  | nil => exact .inl ⟨H, ht⟩
  | cons y t' =>
    rw [hr] at ht
    simp only [List.cons_append, List.cons.injEq] at ht
    obtain ⟨rfl, rfl⟩ := ht
    exact .inr ⟨G, t', H, hr, fun e => absurd (single_of_first_last_oid hr (t' := .frag G :: t') hr e hl.distinct).1 (by simp)⟩

theorem Lookup.single {base : Nat} {l : OverlapResult} (hl : Lookup base l) {F : Fragment}
    (h1 : l.rows.head? = some (.frag F)) (h2 : l.rows.getLast? = some (.frag F)) :
    l.rows = [.frag F] ∧ l.stop - l.start + 1 = F.length := by
  rcases hl.shape with ⟨G, hr⟩ | ⟨G, m, H, hr, hne⟩
  · rw [hr] at h1
    have hsp := hl.span
    rw [hr, rowsLength_singleton] at hsp
    cases h1; exact ⟨hr, hsp⟩
  · rw [hr] at h1 h2
    rw [← List.cons_append, List.getLast?_concat] at h2
    cases h1; cases h2; exact absurd rfl hne

theorem cutO_multi {l : OverlapResult} {G H : Fragment} {m : List Row} (h : l.rows = .frag G :: (m ++ [.frag H]))
    (sc ec : Option Nat) :
    cutO sc ec l =
      { l with start := sc.elim l.start (fun _ => l.bait.start), stop := ec.elim l.stop (fun _ => l.bait.stop),
               rows := .frag (sc.elim G (cutFragStart G (l.bait.start - l.start))) ::
                 (m ++ [.frag (ec.elim H (cutFragEnd H (l.stop - l.bait.stop)))]) } := by
  cases sc <;> cases ec
  · simp only [cutO, Option.elim]; rw [← h]
  all_goals simp [cutO, trimStartSpec, trimEndSpec, h]

theorem cutO_rows_last {base : Nat} {l : OverlapResult} (hl : Lookup base l) {F : Fragment}
    (hlast : l.rows.getLast? = some (.frag F)) (sc : Option Nat) (e : Nat)
    (hsc : ∀ o', sc = some o' → l.rows ≠ [.frag F]) :
    ∃ ta, (cutO sc (some e) l).rows = ta ++ [.frag (cutFragEnd F (l.stop - l.bait.stop) e)] := by
  rcases hl.shape with ⟨G, hrows⟩ | ⟨G, m, H, hrows, -⟩
  · have hF : G = F := by rw [hrows] at hlast; simpa using hlast
    subst hF
    have hsn : sc = none := by cases sc with | none => rfl | some o' => exact absurd hrows (hsc o' rfl)
    subst hsn
    exact ⟨[], by show (trimEndSpec e l).rows = _; rw [trimEndSpec_concat e l G [] hrows]⟩
  · have hF : H = F := by rw [hrows, ← List.cons_append, List.getLast?_concat] at hlast; simpa using hlast
    subst hF
    exact ⟨_ :: m, by rw [cutO_multi hrows]; rfl⟩

theorem cutO_rows_head {base : Nat} {l : OverlapResult} (hl : Lookup base l) {F : Fragment}
    (hhead : l.rows.head? = some (.frag F)) (s : Nat) (ec : Option Nat)
    (hec : ∀ o', ec = some o' → l.rows ≠ [.frag F]) :
    ∃ rb, (cutO (some s) ec l).rows = .frag (cutFragStart F (l.bait.start - l.start) s) :: rb := by
  rcases hl.shape with ⟨G, hrows⟩ | ⟨G, m, H, hrows, -⟩
  · have hF : G = F := by rw [hrows] at hhead; simpa using hhead
    subst hF
    have hen : ec = none := by cases ec with | none => rfl | some o' => exact absurd hrows (hec o' rfl)
    subst hen
    exact ⟨[], by show (trimStartSpec s l).rows = _; rw [trimStartSpec_cons s l G [] hrows]⟩
  · have hF : G = F := by rw [hrows] at hhead; simpa using hhead
    subst hF
    exact ⟨_, by rw [cutO_multi hrows]; rfl⟩

/-- the contig `F` is due to be cut in a holder whose lookup result was `l` and whose present state is `cutO sc ec l`:
    at the start of the result (`hd`: `F` is its first row, uncut, sticking out in front of the bait) and / or at its
    end (`tl`); a cut already made at the other end was made for another contig, so `F` is then not the only row -/
structure Due (base : Nat) (l : OverlapResult) (F : Fragment) (hd tl : Bool) (sc ec : Option Nat) : Prop where
  lookup : Lookup base l
  side : hd = true ∨ tl = true
  head : hd = true → l.rows.head? = some (.frag F) ∧ sc = none ∧ 0 < l.startOverhang
  last : tl = true → l.rows.getLast? = some (.frag F) ∧ ec = none ∧ 0 < l.endOverhang
  scOther : ∀ o', sc = some o' → base ≤ o' ∧ l.rows ≠ [.frag F]
  ecOther : ∀ o', ec = some o' → base ≤ o' ∧ l.rows ≠ [.frag F]

section
variable {base : Nat} {l : OverlapResult} {F : Fragment} {hd tl : Bool} {sc ec : Option Nat}

theorem Due.cases (d : Due base l F hd tl sc ec) :
    (l.rows = [.frag F] ∧ sc = none ∧ ec = none) ∨
    (hd = true ∧ tl = false ∧ ∃ o, o = cutO sc ec l ∧ o.start = l.start ∧ o.bait = l.bait ∧
      firstIs o F = .ok true ∧ lastIs o F = .ok false ∧ ∀ oid, cutO (some oid) ec l =
        { o with start := l.bait.start, rows := setFirst o.rows (.frag (cutFragStart F (l.bait.start - l.start) oid)) }) ∨
    (hd = false ∧ tl = true ∧ ∃ o, o = cutO sc ec l ∧ o.stop = l.stop ∧ o.bait = l.bait ∧
      firstIs o F = .ok false ∧ lastIs o F = .ok true ∧ ∀ oid, cutO sc (some oid) l =
        { o with stop := l.bait.stop, rows := setLast o.rows (.frag (cutFragEnd F (l.stop - l.bait.stop) oid)) }) := by
  rcases d.lookup.shape with ⟨G, hrows⟩ | ⟨G, m, H, hrows, hGH⟩
  · have hF : G = F := by
      rcases d.side with h | h
      · have := (d.head h).1; rw [hrows] at this; simpa using this
      · have := (d.last h).1; rw [hrows] at this; simpa using this
    subst hF
    have hsn : sc = none := by cases sc with | none => rfl | some o' => exact absurd hrows (d.scOther o' rfl).2
    have hen : ec = none := by cases ec with | none => rfl | some o' => exact absurd hrows (d.ecOther o' rfl).2
    exact .inl ⟨hrows, hsn, hen⟩
  · have hG := d.lookup.old G (by rw [hrows]; simp)
    have hH := d.lookup.old H (by rw [hrows]; simp)
    have hlast : l.rows.getLast? = some (.frag H) := by rw [hrows, ← List.cons_append, List.getLast?_concat]
    rcases d.side with h | h
    · obtain ⟨h0, hsn, -⟩ := d.head h
      have hF : G = F := by rw [hrows] at h0; simpa using h0
      subst hF hsn
      have ht : tl = false := by
        cases tl with
        | false => rfl
        | true => have := (d.last rfl).1; rw [hlast] at this; simp only [Option.some.injEq, Row.frag.injEq] at this
                  exact absurd (by rw [this]) hGH
      have hb : rowIs (.frag (ec.elim H (cutFragEnd H (l.stop - l.bait.stop)))) G = false := by
        rw [rowIs_frag, beq_eq_false_iff_ne]
        cases ec with
        | none => exact fun e => hGH e.symm
        | some e => have := (d.ecOther e rfl).1; show e ≠ G.oid; omega
      refine .inr (.inl ⟨h, ht, _, rfl, ?_⟩)
      rw [cutO_multi hrows none ec]
      refine ⟨rfl, rfl, (firstIs_cons _ G (.frag G) _ rfl).trans (congrArg _ (rowIs_self G)),
        (lastIs_concat _ G _ (.frag G :: m) rfl).trans (congrArg _ hb), fun oid => ?_⟩
      rw [cutO_multi hrows (some oid) ec]; rfl
    · obtain ⟨h0, hen, -⟩ := d.last h
      have hF : H = F := by rw [hlast] at h0; simpa using h0
      subst hF hen
      have hh : hd = false := by
        cases hd with
        | false => rfl
        | true => have := (d.head rfl).1; rw [hrows] at this
                  simp only [List.head?_cons, Option.some.injEq, Row.frag.injEq] at this
                  exact absurd (by rw [this]) hGH
      have ha : rowIs (.frag (sc.elim G (cutFragStart G (l.bait.start - l.start)))) H = false := by
        rw [rowIs_frag, beq_eq_false_iff_ne]
        cases sc with
        | none => exact hGH
        | some e => have := (d.scOther e rfl).1; show e ≠ H.oid; omega
      refine .inr (.inr ⟨hh, h, _, rfl, ?_⟩)
      rw [cutO_multi hrows sc none]
      refine ⟨rfl, rfl, (firstIs_cons _ H _ _ rfl).trans (congrArg _ ha),
        (lastIs_concat _ H (.frag H) (_ :: m) rfl).trans (congrArg _ (rowIs_self H)), fun oid => ?_⟩
      rw [cutO_multi hrows sc (some oid)]
      simp [setLast]

/-- a side that is due carries no earlier cut; that `trim_fragment` does return is known from `cut_ok_of_visit` -/
theorem Due.trim (d : Due base l F hd tl sc ec) {oid : Nat} {o' : OverlapResult} {new : Fragment}
    (h : (cutO sc ec l).trimFragment F (!hd) (!tl) oid = .ok (o', new)) :
    o' = cutO (sc.or (if hd then some oid else none)) (ec.or (if tl then some oid else none)) l := by
  have hso : l.start + l.startOverhang = l.bait.start := by unfold startOverhang; omega
  have heo : l.stop - l.endOverhang = l.bait.stop := by unfold endOverhang; omega
  have hsc : ∀ o : OverlapResult, o.start = l.start → o.bait = l.bait → hd = true →
      startCut o true (!hd) = l.startOverhang := fun o e1 e2 h => by
    unfold startCut startOverhang; rw [e1, e2, h, if_pos ⟨rfl, (d.head h).2.2, rfl⟩]
  have hec : ∀ o : OverlapResult, o.stop = l.stop → o.bait = l.bait → tl = true →
      endCut o true (!tl) = l.endOverhang := fun o e1 e2 h => by
    unfold endCut endOverhang; rw [e1, e2, h, if_pos ⟨rfl, (d.last h).2.2, rfl⟩]
  rcases d.cases with ⟨hrows, rfl, rfl⟩ | ⟨hh, ht, o, ho, e1, e2, ha, hb, hnew⟩ | ⟨hh, ht, o, ho, e1, e2, ha, hb, hnew⟩
  · obtain rfl := trimFragment_cut ((firstIs_cons l F _ [] hrows).trans (congrArg _ (rowIs_self F)))
      ((lastIs_concat l F _ [] hrows).trans (congrArg _ (rowIs_self F))) d.lookup.tags
      (show l.trimFragment F (!hd) (!tl) oid = _ from h)
    have h1 : startCut l true (!hd) = if hd then l.startOverhang else 0 := by
      cases hd with | false => simp | true => exact hsc l rfl rfl rfl
    have h2 : endCut l true (!tl) = if tl then l.endOverhang else 0 := by
      cases tl with | false => simp | true => exact hec l rfl rfl rfl
    rw [h1, h2, if_pos rfl, hrows, setLast_singleton, Option.none_or, Option.none_or]
    have hs := d.side
    cases hd <;> cases tl
    · simp at hs
    all_goals
      simp [cutO, trimStartSpec, trimEndSpec, hrows, hso, heo, cutFragEnd_cutFragStart_zero,
        cutFragEnd_zero_cutFragStart] <;> rfl
  · subst hh ht
    have hsn := (d.head rfl).2.1
    subst hsn
    rw [← ho] at h
    obtain rfl := trimFragment_cut ha hb (by rw [e2]; exact d.lookup.tags) h
    simp only [if_true, Bool.false_eq_true, if_false, Option.none_or, Option.or_none]
    rw [hnew oid, hsc o e1 e2 rfl, endCut_false, e1, hso, cutFragEnd_zero_cutFragStart]
    simp; rfl
  · subst hh ht
    have hen := (d.last rfl).2.1
    subst hen
    rw [← ho] at h
    obtain rfl := trimFragment_cut ha hb (by rw [e2]; exact d.lookup.tags) h
    simp only [if_true, Bool.false_eq_true, if_false, Option.none_or, Option.or_none]
    rw [hnew oid, hec o e1 e2 rfl, startCut_false, e1, heo, cutFragEnd_cutFragStart_zero]
    simp; rfl

end

theorem endRow_meets {o : OverlapResult} {ov : Int} (h : o.endRowBaitOverlap = .ok ov) (hp : 1 ≤ ov) :
    ∃ r t, o.rows = t ++ [r] ∧ o.stop - r.length + 1 ≤ o.bait.stop := by
  obtain ⟨r, t, hr, hn⟩ := endRowBaitOverlap_eq h
  exact ⟨r, t, hr, by omega⟩

theorem startRow_meets {o : OverlapResult} {ov : Int} (h : o.startRowBaitOverlap = .ok ov) (hp : 1 ≤ ov) :
    ∃ r t, o.rows = r :: t ∧ o.bait.start ≤ o.start + r.length - 1 := by
  obtain ⟨r, t, hr, hn⟩ := startRowBaitOverlap_eq h
  exact ⟨r, t, hr, by omega⟩

/-- the two pieces of a site cut the contig in two non-empty parts that tile it: either piece shares a base with the
    contig, which both results place at the same coordinates, and the pieces abut -/
theorem site_arith {input ptx : List Scaffold} {err : Int} (hd : DeepBase input ptx err) (x : Site)
    (hx : SiteOk input ptx err x) :
    0 < (pieceO input (pieceAt ptx x.a).2).stop - (pieceAt ptx x.a).2.stop ∧
    0 < (pieceAt ptx x.b).2.start - (pieceO input (pieceAt ptx x.b).2).start ∧
    ((pieceO input (pieceAt ptx x.a).2).stop - (pieceAt ptx x.a).2.stop) +
      ((pieceAt ptx x.b).2.start - (pieceO input (pieceAt ptx x.b).2).start) = x.frag.length := by
  have herr := hd.errPos
  obtain ⟨ova, hova, hda⟩ := hx.deepA
  obtain ⟨ovb, hovb, hdb⟩ := hx.deepB
  obtain ⟨ra, ta, hra, hna⟩ := endRow_meets hova (by omega)
  obtain ⟨rb, tb, hrb, hnb⟩ := startRow_meets hovb (by omega)
  have ea : ra = .frag x.frag := by
    have := hx.lastA; rw [hra] at this; simpa using this
  have eb : rb = .frag x.frag := by
    have := hx.headB; rw [hrb] at this; simpa using this
  rw [ea, (hd.piece x.a hx.inA).2.bait] at hna
  rw [eb, (hd.piece x.b hx.inB).2.bait] at hnb
  have habut := hx.abut
  have hpos := hx.samePos
  simp only [Row.length] at hna hnb
  omega

/-- the lookup result of piece `i` as `find_assembly_overlaps` stores it -/
abbrev labN (input ptx : List Scaffold) (i : Nat) : OverlapResult :=
  labelled (pieceAt ptx i).1 (pieceO input (pieceAt ptx i).2)

theorem lookup_labN {input ptx : List Scaffold} {err : Int} (hd : DeepBase input ptx err) (i : Nat)
    (hi : i < (allPieces ptx).length) : Lookup (oid0 input) (labN input ptx i) := by
  obtain ⟨hk, hf⟩ := hd.piece i hi
  obtain ⟨sc, hsc, hinf⟩ := hf.slice
  refine ⟨hf.head, hf.last, hf.distinct, fun f hm => ?_, hf.span, ?_, ?_⟩
  · exact oid_lt_oid0 input sc hsc _ hinf _ (List.mem_map_of_mem (mem_fragmentsOf.2 hm))
  · show (pieceO input (pieceAt ptx i).2).bait.tags = []
    rw [hf.bait]; exact hk.untagged
  · show (pieceO input (pieceAt ptx i).2).bait.start ≤ (pieceO input (pieceAt ptx i).2).bait.stop
    rw [hf.bait]; exact hk.valid

/-- a cut between the lookup results `la` (in front) and `lb` (behind) inside the contig `F` -/
structure CutGeom (F : Fragment) (la lb : OverlapResult) : Prop where
  lastA : la.rows.getLast? = some (.frag F)
  headB : lb.rows.head? = some (.frag F)
  abut : la.bait.stop + 1 = lb.bait.start
  samePos : la.stop - F.length + 1 = lb.start
  ovA : 0 < la.endOverhang
  ovB : 0 < lb.startOverhang

theorem cutGeom_of {input ptx : List Scaffold} {err : Int} (hd : DeepBase input ptx err) {k : Key} {F : Fragment}
    {a b : Nat} (hx : SiteOk input ptx err ⟨k, F, a, b⟩) : CutGeom F (labN input ptx a) (labN input ptx b) := by
  obtain ⟨h1, h2, -⟩ := site_arith hd _ hx
  have ba : (labN input ptx a).bait = (pieceAt ptx a).2 := (hd.piece a hx.inA).2.bait
  have bb : (labN input ptx b).bait = (pieceAt ptx b).2 := (hd.piece b hx.inB).2.bait
  refine ⟨hx.lastA, hx.headB, by rw [ba, bb]; exact hx.abut, hx.samePos, ?_, ?_⟩
  · unfold endOverhang; rw [ba]; exact h1
  · unfold startOverhang; rw [bb]; exact h2

/-- the lookup result `l` of a holder of the contig `F`, which stands at the scaffold positions `P … P + |F| − 1`; `hd` /
    `tl`: the holder has a neighbour in front of / behind it in the chain, and is then due to be cut at that side -/
structure HeldAt (F : Fragment) (P : Int) (l : OverlapResult) (hd tl : Bool) : Prop where
  head : hd = true → l.rows.head? = some (.frag F) ∧ l.start = P ∧ 0 < l.startOverhang
  last : tl = true → l.rows.getLast? = some (.frag F) ∧ l.stop = P + F.length - 1 ∧ 0 < l.endOverhang
  meets : P ≤ l.bait.stop ∧ l.bait.start ≤ P + F.length - 1

theorem HeldAt.first {F : Fragment} {la lb : OverlapResult} (g : CutGeom F la lb) (hv : la.bait.start ≤ la.bait.stop) :
    HeldAt F (la.stop - F.length + 1) la false true := by
  refine ⟨(fun h => by cases h), fun _ => ⟨g.lastA, by omega, g.ovA⟩, ?_⟩
  have := g.ovA; have := g.ovB; have := g.abut; have := g.samePos
  unfold startOverhang endOverhang at *
  omega

/-- a holder with a neighbour on either side is the contig alone (`Lookup.single`) -/
theorem HeldAt.next {base : Nat} {F : Fragment} {P : Int} {la lb : OverlapResult} (g : CutGeom F la lb)
    (ha : la.stop = P + F.length - 1) (hL : Lookup base lb) {tl : Bool}
    (hnext : tl = true → ∃ lc, CutGeom F lb lc) : HeldAt F P lb true tl := by
  have hst : lb.start = P := by have := g.samePos; omega
  refine ⟨fun _ => ⟨g.headB, hst, g.ovB⟩, fun ht => ?_, ?_⟩
  · obtain ⟨lc, g'⟩ := hnext ht
    have := (hL.single g.headB g'.lastA).2
    exact ⟨g'.lastA, by omega, g'.ovA⟩
  · have := g.ovA; have := g.ovB; have := g.abut; have := hL.valid
    unfold startOverhang endOverhang at *
    omega

theorem Due.holds {base : Nat} {l : OverlapResult} {F : Fragment} {hd tl : Bool} {sc ec : Option Nat} {P : Int}
    (d : Due base l F hd tl sc ec) (h : HeldAt F P l hd tl) :
    ∃ a e, firstIs (cutO sc ec l) F = .ok a ∧ lastIs (cutO sc ec l) F = .ok e ∧ (a = true ∨ e = true) ∧
      (a = true → (cutO sc ec l).start = P) ∧ (e = true → (cutO sc ec l).stop = P + F.length - 1) ∧
      (hd = true → a = true) ∧ (tl = true → e = true) ∧ (cutO sc ec l).bait.start ≤ (cutO sc ec l).bait.stop ∧
      P ≤ (cutO sc ec l).bait.stop ∧ (cutO sc ec l).bait.start ≤ P + F.length - 1 := by
  have hv := d.lookup.valid
  obtain ⟨m1, m2⟩ := h.meets
  rcases d.cases with ⟨hrows, rfl, rfl⟩ | ⟨hh, ht, o, ho, e1, e2, ha, hb, -⟩ | ⟨hh, ht, o, ho, e1, e2, ha, hb, -⟩
  · have hsp := d.lookup.span
    rw [hrows, rowsLength_singleton] at hsp
    simp only [Row.length] at hsp
    -- the single row: whichever end is due fixes the position, the span gives the other
    have hpos : l.start = P := by
      rcases d.side with s | s
      · exact (h.head s).2.1
      · have := (h.last s).2.1; omega
    exact ⟨true, true, (firstIs_cons l F _ [] hrows).trans (congrArg _ (rowIs_self F)),
      (lastIs_concat l F _ [] hrows).trans (congrArg _ (rowIs_self F)), .inl rfl, (fun _ => hpos),
      (fun _ => by show l.stop = _; omega), (fun _ => rfl), (fun _ => rfl), hv, m1, m2⟩
  · rw [← ho, e2]
    exact ⟨true, false, ha, hb, .inl rfl, (fun _ => e1.trans (h.head hh).2.1), (fun q => by cases q), (fun _ => rfl),
      (fun q => by rw [q] at ht; cases ht), hv, m1, m2⟩
  · rw [← ho, e2]
    exact ⟨false, true, ha, hb, .inr rfl, (fun q => by cases q), (fun _ => e1.trans (h.last ht).2.1),
      (fun q => by rw [q] at hh; cases hh), (fun _ => rfl), hv, m1, m2⟩

/-- the state of the build while `cut_remaining_overhangs` runs: the sites `done` have been cut -/
structure CutInv (input ptx : List Scaffold) (b1 : Build) (done : List (Site × Nat)) (bc : Build) : Prop where
  len : bc.store.length = (allPieces ptx).length
  store : ∀ i, i < (allPieces ptx).length →
    bc.store.getD i default = resDeepIn input (oid0 input) done (pieceAt ptx i, i)
  nextOid : bc.nextOid = oid0 input + 2 * done.length
  cuts : bc.cuts = b1.cuts + done.length
  found : bc.found = b1.found
  multi : bc.multi = b1.multi
  namer : bc.namer = b1.namer
  extra : bc.extra = b1.extra
  joinGap : bc.joinGap = b1.joinGap
  err : bc.err = b1.err

end AgpTpf.C02
