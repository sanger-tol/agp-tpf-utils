/-
  C01, the middle of `remap_to_input_assembly` — part 1: input well-formedness, the registry invariant `Mid`
  (holder lists agree with the rows of the store, per result and in total), what it says of the holders of a contig
  when the input is well-formed, and L1: `find_assembly_overlaps` establishes it.
-/
import AgpTpf.Proofs.C01Pipeline
import AgpTpf.Proofs.C01Fuse
namespace AgpTpf.C01
open AgpTpf

/-- a loop whose invariant speaks of the elements still to come (read backwards; forwards: `foldlM_ok_rest`) -/
theorem foldlM_rest {α σ : Type} (P : List α → σ → Prop) {f : σ → α → R σ}
    (step : ∀ x rest s s', P (x :: rest) s → f s x = .ok s' → P rest s') :
    ∀ (l : List α) (s s' : σ), P l s → l.foldlM f s = .ok s' → P [] s'
  | [], _, _, h0, h => by cases h; exact h0
  | x :: t, s, s', h0, h => by
    rw [List.foldlM_cons] at h
    obtain ⟨s1, h1, h⟩ := bind_eq_ok.mp h
    exact foldlM_rest P step t s1 s' (step x t s s1 h0 h1) h

theorem head?_of_append3 {α} {A T B : List α} {x : α} (h : (A ++ T ++ B).head? = some x) (hA : x ∉ A) (hB : x ∉ B) :
    T.head? = some x := by
  rw [List.head?_append, List.head?_append] at h
  cases hA' : A.head? with
  | some a => rw [hA'] at h; cases h; exact absurd (List.mem_of_head? hA') hA
  | none =>
    cases hT : T.head? with
    | some t => rw [hA', hT] at h; exact h
    | none => rw [hA', hT] at h; exact absurd (List.mem_of_head? h) hB

theorem getLast?_of_append3 {α} {A T B : List α} {x : α} (h : (A ++ T ++ B).getLast? = some x) (hA : x ∉ A) (hB : x ∉ B) :
    T.getLast? = some x := by
  rw [List.getLast?_eq_head?_reverse] at h ⊢
  rw [List.reverse_append, List.reverse_append, ← List.append_assoc] at h
  exact head?_of_append3 h (fun m => hB (List.mem_reverse.mp m)) (fun m => hA (List.mem_reverse.mp m))

def inputFrags (input : List Scaffold) : List Fragment := input.flatMap Scaffold.fragments

def FragDisjoint (f g : Fragment) : Prop := f.name = g.name → f.stop < g.start ∨ g.stop < f.start

instance (f g : Fragment) : Decidable (FragDisjoint f g) := by unfold FragDisjoint; infer_instance

def WFInput (input : List Scaffold) : Prop :=
  (input.map (·.name)).Nodup ∧
  ((inputFrags input).map (·.oid)).Nodup ∧
  ((inputFrags input).map Fragment.keyTuple).Nodup ∧
  (inputFrags input).Pairwise FragDisjoint ∧
  ∀ f ∈ inputFrags input, f.start ≤ f.stop

instance (input : List Scaffold) : Decidable (WFInput input) := by unfold WFInput; infer_instance

theorem WFInput.oid_inj {input} (h : WFInput input) {f g : Fragment} (hf : f ∈ inputFrags input)
    (hg : g ∈ inputFrags input) (e : f.oid = g.oid) : f = g :=
  inj_of_nodup_map (·.oid) h.2.1 f hf g hg e

theorem WFInput.key_inj {input} (h : WFInput input) {f g : Fragment} (hf : f ∈ inputFrags input)
    (hg : g ∈ inputFrags input) (e : f.keyTuple = g.keyTuple) : f = g :=
  inj_of_nodup_map Fragment.keyTuple h.2.2.1 f hf g hg e

def covers (n : Str) (x : Int) (f : Fragment) : Bool := decide (f.name = n ∧ f.start ≤ x ∧ x ≤ f.stop)

theorem WFInput.cover_unique {input} (h : WFInput input) {f g : Fragment} (hf : f ∈ inputFrags input)
    (hg : g ∈ inputFrags input) {n : Str} {x : Int} (cf : covers n x f = true) (cg : covers n x g = true) : f = g := by
  simp only [covers, decide_eq_true_eq] at cf cg
  rcases pairwise_trichotomy h.2.2.2.1 hf hg with e | d | d
  · exact e
  · have := d (cf.1.trans cg.1.symm); omega
  · have := d (cg.1.trans cf.1.symm); omega

theorem mem_inputFrags {input : List Scaffold} {f : Fragment} :
    f ∈ inputFrags input ↔ ∃ sc ∈ input, f ∈ fragmentsOf sc.rows := by
  unfold inputFrags Scaffold.fragments
  exact List.mem_flatMap

theorem mem_inputFrags_of_slice {input : List Scaffold} {rows : List Row} (h : ∃ sc ∈ input, rows <:+: sc.rows)
    {g : Fragment} (hg : Row.frag g ∈ rows) : g ∈ inputFrags input :=
  let ⟨sc, hsc, hinf⟩ := h
  mem_inputFrags.mpr ⟨sc, hsc, (AgpTpf.fragmentsOf_infix hinf).subset (mem_fragmentsOf.mpr hg)⟩

/-- fragments of one stored result that count (the result was appended to `BuildAssembly.scaffolds`) -/
def resFrags (r : Res) : List Fragment := if r.added then fragmentsOf r.o.rows else []

def storeFrags (store : List Res) : List Fragment := store.flatMap resFrags

theorem mem_storeFrags {store : List Res} {g : Fragment} :
    g ∈ storeFrags store ↔ ∃ r ∈ store, r.added = true ∧ Row.frag g ∈ r.o.rows := by
  simp only [storeFrags, List.mem_flatMap, resFrags]
  refine exists_congr fun r => and_congr_right fun _ => ?_
  cases r.added <;> simp [mem_fragmentsOf]

theorem storeKeys_eq (store : List Res) : storeKeys store = (storeFrags store).map Fragment.keyTuple := by
  unfold storeKeys storeFrags resFrags keysOf
  rw [List.map_flatMap]
  congr 1
  funext r
  split <;> simp

def hasKey (k : Key) (f : Fragment) : Bool := decide (f.keyTuple = k)

theorem countKey_eq (k : Key) (rows : List Row) : countKey k rows = (fragmentsOf rows).countP (hasKey k) := rfl

def holdCount (store : List Res) (k : Key) (sid : Nat) : Nat :=
  match store[sid]? with
  | some r => (resFrags r).countP (hasKey k)
  | none => 0

theorem holdCount_pos_iff {store : List Res} {k : Key} {sid : Nat} :
    0 < holdCount store k sid ↔
      ∃ r, store[sid]? = some r ∧ r.added = true ∧ ∃ g, Row.frag g ∈ r.o.rows ∧ g.keyTuple = k := by
  unfold holdCount
  cases hs : store[sid]? with
  | none => simp
  | some r =>
    simp only [List.countP_pos_iff, resFrags, hasKey, decide_eq_true_eq, Option.some.injEq, exists_eq_left']
    cases r.added <;> simp [mem_fragmentsOf]

theorem count_holdersFrom_lt (k : Key) {s : Nat} : ∀ (l : List (Bool × List Row)) {i : Nat}, s < i →
    (holdersFrom k i l).count s = 0
  | [], _, _ => rfl
  | p :: t, i, h => by
    rw [holdersFrom, List.count_append, count_holdersFrom_lt k t (Nat.lt_succ_of_lt h), Nat.add_zero]
    split
    · exact List.count_eq_zero.mpr (fun hm => Nat.ne_of_lt h (List.eq_of_mem_replicate hm))
    · rfl

theorem count_holdersFrom (k : Key) : ∀ (l : List (Bool × List Row)) (i j : Nat),
    (holdersFrom k i l).count (i + j) =
      match l[j]? with
      | some p => if p.1 then countKey k p.2 else 0
      | none => 0
  | [], _, _ => rfl
  | p :: t, i, 0 => by
    rw [Nat.add_zero, holdersFrom, List.count_append, count_holdersFrom_lt k t (Nat.lt_succ_self i), Nat.add_zero]
    show _ = if p.1 then countKey k p.2 else 0
    split
    · exact List.count_replicate_self
    · rfl
  | p :: t, i, j + 1 => by
    rw [holdersFrom, List.count_append, ← Nat.add_assoc, Nat.add_right_comm, count_holdersFrom k t (i + 1) j,
      List.getElem?_cons_succ]
    have : (if p.1 = true then List.replicate (countKey k p.2) i else []).count (i + 1 + j) = 0 := by
      split
      · exact List.count_eq_zero.mpr (fun hm => by have := List.eq_of_mem_replicate hm; omega)
      · rfl
    rw [this, Nat.zero_add]

theorem count_holdersSpec (store : List Res) (k : Key) (sid : Nat) :
    (holdersSpec store k).count sid = holdCount store k sid := by
  unfold holdersSpec holdCount
  rw [← Nat.zero_add sid, count_holdersFrom, Nat.zero_add, List.getElem?_map]
  cases store[sid]? with
  | none => rfl
  | some r =>
    simp only [Option.map_some, resProj, resFrags, countKey_eq]
    split <;> simp

theorem length_holdersFrom (k : Key) : ∀ (l : List Res) (i : Nat),
    (holdersFrom k i (l.map resProj)).length = (storeFrags l).countP (hasKey k)
  | [], i => by simp [holdersFrom, storeFrags]
  | r :: t, i => by
    rw [List.map_cons, holdersFrom, List.length_append, length_holdersFrom k t (i + 1)]
    unfold storeFrags
    rw [List.flatMap_cons, List.countP_append]
    congr 1
    obtain ⟨o, added⟩ := r
    cases added <;> simp [resProj, resFrags, countKey_eq]

theorem length_holdersSpec (store : List Res) (k : Key) :
    (holdersSpec store k).length = (storeFrags store).countP (hasKey k) := length_holdersFrom k store 0

/-- Registry invariant while all stored rows are still rows of the input (before cutting). -/
structure Mid (input : List Scaffold) (b : Build) : Prop where
  registry : RegistryInv b
  multiNodup : b.multi.Nodup
  counts : ∀ k sid, (holders b k).count sid = holdCount b.store k sid
  total : ∀ k, (holders b k).length = (storeFrags b.store).countP (hasKey k)
  slices : ∀ r ∈ b.store, ∃ sc ∈ input, r.o.rows <:+: sc.rows
  foundOK : ∀ k fnd, dGet? b.found k = some fnd → fnd.fragment.keyTuple = k ∧ fnd.fragment ∈ inputFrags input

section
variable {input : List Scaffold} {b : Build}

theorem Mid.store_input (hm : Mid input b) : ∀ g ∈ storeFrags b.store, g ∈ inputFrags input := by
  intro g hg
  obtain ⟨r, hr, _, hgr⟩ := mem_storeFrags.mp hg
  exact mem_inputFrags_of_slice (hm.slices r hr) hgr

theorem Mid.holder_added (hm : Mid input b) {k : Key} {sid : Nat} (h : sid ∈ holders b k) :
    ∃ r, b.store[sid]? = some r ∧ r.added = true := by
  have := List.count_pos_iff.mpr h
  rw [hm.counts] at this
  obtain ⟨r, hr, ha, _⟩ := holdCount_pos_iff.mp this
  exact ⟨r, hr, ha⟩

theorem countP_scaffold_le (p : Fragment → Bool) {sc : Scaffold} (h : sc ∈ input) :
    (fragmentsOf sc.rows).countP p ≤ (inputFrags input).countP p := by
  obtain ⟨s, t, rfl⟩ := List.append_of_mem h
  simp only [inputFrags, Scaffold.fragments, List.flatMap_append, List.flatMap_cons, List.countP_append]
  omega

theorem Mid.holdCount_le_one (hm : Mid input b) (hwf : WFInput input) (k : Key) (sid : Nat) :
    holdCount b.store k sid ≤ 1 := by
  unfold holdCount
  cases hs : b.store[sid]? with
  | none => simp
  | some r =>
    simp only
    obtain ⟨sc, hsc, hinf⟩ := hm.slices r (List.mem_of_getElem? hs)
    have h1 : (resFrags r).countP (hasKey k) ≤ (fragmentsOf r.o.rows).countP (hasKey k) := by
      unfold resFrags; split <;> simp
    have h2 := (AgpTpf.fragmentsOf_infix hinf).countP_le (p := hasKey k)
    have h3 := countP_scaffold_le (hasKey k) hsc
    have h4 : (inputFrags input).countP (hasKey k) = ((inputFrags input).map Fragment.keyTuple).count k := by
      rw [List.count_eq_countP, List.countP_map]
      apply List.countP_congr
      intro g _; simp [hasKey]
    have h5 := hwf.2.2.1.count (a := k)
    rw [h5] at h4
    split at h4 <;> omega

theorem Mid.holders_nodup (hm : Mid input b) (hwf : WFInput input) (k : Key) : (holders b k).Nodup :=
  List.nodup_iff_count.mpr fun s => by rw [hm.counts]; exact hm.holdCount_le_one hwf k s

theorem Mid.mem_holders_iff (hm : Mid input b) (hwf : WFInput input) {k : Key} {fnd : Found}
    (hf : dGet? b.found k = some fnd) {sid : Nat} :
    sid ∈ fnd.scaffolds ↔ ∃ r, b.store[sid]? = some r ∧ r.added = true ∧ Row.frag fnd.fragment ∈ r.o.rows := by
  obtain ⟨hkey, hin⟩ := hm.foundOK k fnd hf
  rw [← holders_of_found hf, ← List.count_pos_iff, hm.counts, holdCount_pos_iff]
  constructor
  · rintro ⟨r, hr, ha, g, hg, hk⟩
    have := hwf.key_inj (mem_inputFrags_of_slice (hm.slices r (List.mem_of_getElem? hr)) hg) hin (hk.trans hkey.symm)
    exact ⟨r, hr, ha, this ▸ hg⟩
  · rintro ⟨r, hr, ha, hg⟩
    exact ⟨r, hr, ha, _, hg, hkey⟩

theorem Mid.cover_eq_holders (hm : Mid input b) (hwf : WFInput input) (F : Fragment)
    (hF : F ∈ inputFrags input) (n : Str) (x : Int) (hc : covers n x F = true) :
    (storeFrags b.store).countP (covers n x) = (holders b F.keyTuple).length := by
  rw [hm.total]
  refine List.countP_congr fun g hg => ?_
  have hgin := hm.store_input g hg
  simp only [hasKey, decide_eq_true_eq]
  exact ⟨fun hcg => by rw [hwf.cover_unique hgin hF hcg hc], fun hk => hwf.key_inj hgin hF hk ▸ hc⟩

end

/-- L1: `find_assembly_overlaps` on a fresh build establishes the registry invariant, for any input and any Pretext
    assembly. -/
theorem reg_after_find_aux (input ptx : List Scaffold) (b b' : Build)
    (h0 : b.store = [] ∧ b.found = [] ∧ b.multi = [])
    (h : findAssemblyOverlaps input ptx b = .ok b') :
    Mid input b' ∧ b'.extra = b.extra ∧ b'.joinGap = b.joinGap ∧ b'.err = b.err ∧ b'.cuts = b.cuts := by
  obtain ⟨p, c1, c2, c3, c4⟩ := findAssemblyOverlaps_inv input ptx b b' (.of_empty input h0) h
  have hobj := Pipeline.findAssemblyOverlaps_foundIn (Q := fun k f => f.keyTuple = k ∧ f ∈ inputFrags input)
    (fun sc hsc f hf => ⟨rfl, mem_inputFrags.mpr ⟨sc, hsc, mem_fragmentsOf.mpr hf⟩⟩) (h0.2.1 ▸ Pipeline.FoundIn.nil _) h
  refine ⟨⟨p.registry, findAssemblyOverlaps_multi_nodup h (by rw [h0.2.2]; exact List.nodup_nil), ?_, ?_, ?_,
    fun k fnd hk => hobj.get hk⟩, c1, c2, c3, c4⟩
  · intro k sid; rw [p.holders_eq, count_holdersSpec]
  · intro k; rw [p.holders_eq, length_holdersSpec]
  · intro r hr
    obtain ⟨sc, hsc, hi, _⟩ := p.slices r hr
    exact ⟨sc, hsc, hi⟩

end AgpTpf.C01
