/-
  C02 "remapping never fails": `cut_remaining_overhangs` — the WHOLE loop — succeeds.
  The build reached by `find_assembly_overlaps` followed by `discard_overhanging_fragments` satisfies `HoldCtx` — so every contig
  still in `multi` has consecutive holders (`VisitOK`) and `cut_fragments` succeeds on it.
  Cutting one contig leaves the holders of every OTHER contig ready: `VisitOK` reads a holder only through `obs`
  (`firstIs`, `lastIs`, and the overhang at the side where the contig stands), and `trim_fragment` of another contig with
  a fresh object id leaves that alone (`trimFragment_other`) — so `obs` is the same list after `cut_fragments`
  (`Pipeline.cutFragments_evolves`).
-/
import AgpTpf.Proofs.C02NHold
namespace AgpTpf.C02
open AgpTpf OverlapResult
open AgpTpf.C01 (WFInput inputFrags)

theorem mem_pieces_baits {input ptx : List Scaffold} {seen : Bool} {p : Fragment} :
    p ∈ (C09.pieces input seen ptx).map (·.2.2) ↔ p ∈ ptxFrags ptx ∧ C09.hits input p = true := by
  rw [pieces_baits, ← List.filter_flatMap]; exact List.mem_filter

theorem holdCtx_after_resolver (input ptx : List Scaffold) (prefix_ : Str) (joinGap : Option Gap) (err : Int)
    (hwf : WFInput input) (hnn : InputNonNeg input) (hstr : ∀ f ∈ inputFrags input, f.strand = 1 ∨ f.strand = -1)
    (herr : 0 ≤ err) (hT : Tiling err ptx) (b1 b2 : Build) (fuel : Nat)
    (h1 : findAssemblyOverlaps input ptx (C09.startBuild input prefix_ joinGap err) = .ok b1)
    (h2 : discardOverhanging fuel b1 = .ok b2) : HoldCtx input ptx err b2 := by
  have hR1 := resolved_find (prefix_ := prefix_) (joinGap := joinGap) hwf hnn hT.disjoint herr h1
  have hR2 := hR1.rounds hwf hnn herr h2
  have hQ1 := (findAssemblyOverlaps_solo hwf ptx err _ b1 rfl (fun r hr => by cases hr) h1).1
  have hA1 := findAssemblyOverlaps_addedOK input ptx _ b1 (fun r hr => by cases hr) h1
  refine ⟨hwf, hnn, hstr, hT, hR2.mid, hR2.storeR, hR2.disj,
    solo_discardOverhanging hwf hnn herr fuel b1 b2 hR1.mid hR1.err hR1.storeR hR1.disj hQ1 h2,
    discardOverhanging_addedOK fuel b1 b2 hA1 h2, ?_, ?_⟩
  · intro r hr
    have : r.o.bait ∈ b2.store.map (·.o.bait) := List.mem_map_of_mem hr
    rw [hR2.baits] at this
    exact (mem_pieces_baits.mp this).1
  · intro p hp hh
    have : p ∈ b2.store.map (·.o.bait) := by rw [hR2.baits]; exact mem_pieces_baits.mpr ⟨hp, hh⟩
    obtain ⟨r, hr, e⟩ := List.mem_map.mp this
    exact ⟨r, hr, e⟩


theorem VisitOK.congr_store {b b' : Build} {fnd : Found} {V : List Nat} {lo hi : Nat → Int} (h : VisitOK b fnd V lo hi)
    (hsame : ∀ s ∈ V, ∀ a c, firstIs (getRes b.store s) fnd.fragment = .ok a →
      lastIs (getRes b.store s) fnd.fragment = .ok c →
      firstIs (getRes b'.store s) fnd.fragment = .ok a ∧ lastIs (getRes b'.store s) fnd.fragment = .ok c ∧
      (a = true → (getRes b'.store s).startOverhang = (getRes b.store s).startOverhang) ∧
      (c = true → (getRes b'.store s).endOverhang = (getRes b.store s).endOverhang)) :
    VisitOK b' fnd V lo hi := by
  refine ⟨h.perm, h.ne, h.strand, h.valid, h.geo, h.abut, ?_⟩
  intro j hj
  obtain ⟨a, c, hs, he, hac, hl, hh, hlow, hhigh⟩ := h.res j hj
  obtain ⟨q1, q2, q3, q4⟩ := hsame V[j] (List.getElem_mem hj) a c hs he
  refine ⟨a, c, q1, q2, hac, ?_, ?_, hlow, hhigh⟩
  · intro hb
    rw [← hl hb]
    unfold lowB at hb
    unfold ovLow
    split
    · next c3 => rw [if_pos c3] at hb; exact q3 hb
    · next c3 => rw [if_neg c3] at hb; exact q4 hb
  · intro hb
    rw [← hh hb]
    unfold highB at hb
    unfold ovHigh
    split
    · next c3 => rw [if_pos c3] at hb; exact q4 hb
    · next c3 => rw [if_neg c3] at hb; exact q3 hb

/-- what `VisitOK` reads of a holder of the contig `F` -/
def obs (F : Fragment) (r : Res) : R Bool × R Bool × Option Int × Option Int :=
  (firstIs r.o F, lastIs r.o F, if firstIs r.o F = .ok true then some r.o.startOverhang else none,
   if lastIs r.o F = .ok true then some r.o.endOverhang else none)

theorem obs_congr {F : Fragment} {r r' : Res} (h1 : firstIs r'.o F = firstIs r.o F) (h2 : lastIs r'.o F = lastIs r.o F)
    (h3 : firstIs r.o F = .ok true → r'.o.startOverhang = r.o.startOverhang)
    (h4 : lastIs r.o F = .ok true → r'.o.endOverhang = r.o.endOverhang) : obs F r' = obs F r := by
  unfold obs
  rw [h1, h2]
  refine Prod.ext rfl (Prod.ext rfl (Prod.ext ?_ ?_))
  · show (if _ then _ else _) = (if _ then _ else _)
    split
    · next c => rw [h3 c]
    · rfl
  · show (if _ then _ else _) = (if _ then _ else _)
    split
    · next c => rw [h4 c]
    · rfl

theorem VisitOK.congr_obs {b b' : Build} {fnd : Found} {V : List Nat} {lo hi : Nat → Int} (h : VisitOK b fnd V lo hi)
    (hobs : b'.store.map (obs fnd.fragment) = b.store.map (obs fnd.fragment)) : VisitOK b' fnd V lo hi := by
  refine h.congr_store fun s _ a c hfa hla => ?_
  unfold getRes at hfa hla ⊢
  have e := getD_of_map_eq (obs fnd.fragment) default hobs s
  have f1 : firstIs (b'.store.getD s default).o fnd.fragment = .ok a := (congrArg (·.1) e).trans hfa
  have f2 : lastIs (b'.store.getD s default).o fnd.fragment = .ok c := (congrArg (·.2.1) e).trans hla
  refine ⟨f1, f2, fun ha => ?_, fun hc => ?_⟩
  · subst ha
    have e3 := congrArg (·.2.2.1) e
    simp only [obs, if_pos f1, if_pos hfa] at e3
    exact Option.some.inj e3
  · subst hc
    have e4 := congrArg (·.2.2.2) e
    simp only [obs, if_pos f2, if_pos hla] at e4
    exact Option.some.inj e4

/-- what the loop needs of the registry (it does not change while cutting) -/
structure FoundOK (found : List (Key × Found)) (N0 : Nat) : Prop where
  below : ∀ k fnd, dGet? found k = some fnd → fnd.fragment.oid < N0
  distinct : ∀ k k' fnd fnd', dGet? found k = some fnd → dGet? found k' = some fnd' → k ≠ k' →
    fnd.fragment.oid ≠ fnd'.fragment.oid
  nodup : ∀ k fnd, dGet? found k = some fnd → fnd.scaffolds.Nodup

/-- the keys still to be cut are all ready -/
structure SeqInv (found : List (Key × Found)) (N0 : Nat) (ks : List Key) (bc : Build) : Prop where
  hfound : bc.found = found
  oid : N0 ≤ bc.nextOid
  ready : ∀ k ∈ ks, ∀ fnd, dGet? found k = some fnd → ∃ V lo hi, VisitOK bc fnd V lo hi

theorem cutStep_keeps {found : List (Key × Found)} {N0 : Nat} (hF : FoundOK found N0) {k0 : Key} {rest : List Key}
    (hnd : (k0 :: rest).Nodup) {bc : Build} (hI : SeqInv found N0 (k0 :: rest) bc) {fnd0 : Found}
    (hf0 : dGet? found k0 = some fnd0) :
    ∃ bc', cutFragments bc fnd0 = .ok bc' ∧ SeqInv found N0 rest bc' := by
  obtain ⟨V0, lo0, hi0, hV0⟩ := hI.ready k0 (by simp) fnd0 hf0
  obtain ⟨st, hcut, _⟩ := cut_ok_of_visit hV0
  have hev := Pipeline.cutFragments_evolves hcut
  refine ⟨_, hcut, hI.hfound, Nat.le_trans hI.oid hev.le, fun k hk fnd hf => ?_⟩
  have hk0 : k ≠ k0 := fun e => (List.nodup_cons.mp hnd).1 (e ▸ hk)
  obtain ⟨V, lo, hi, hV⟩ := hI.ready k (by simp [hk]) fnd hf
  refine ⟨V, lo, hi, hV.congr_obs (hev.map_eq_of (obs fnd.fragment) (fun _ _ h => h.elim) (fun _ _ h => h.elim) ?_)⟩
  intro r f ks ke m o' new hf' hm ht
  subst hf'
  have hm' : m ≠ fnd.fragment.oid := by have := hF.below k fnd hf; have := hI.oid; omega
  have hrows := Pipeline.rows_ne_nil_of_trimFragment ht
  obtain ⟨a, ha⟩ := firstIs_ok_of_ne fnd.fragment hrows
  obtain ⟨c, hc⟩ := lastIs_ok_of_ne fnd.fragment hrows
  obtain ⟨q1, q2, q3, q4⟩ := trimFragment_other ht ha hc (hF.distinct k k0 fnd fnd0 hf hf0 hk0) hm'
  exact obs_congr (q1.trans ha.symm) (q2.trans hc.symm) (fun e => q3 (Except.ok.inj (ha.symm.trans e)))
    (fun e => q4 (Except.ok.inj (hc.symm.trans e)))

theorem cutLoop_returns {found : List (Key × Found)} {N0 : Nat} (hF : FoundOK found N0) (ks : List Key) (bc : Build)
    (hnd : ks.Nodup) (hI : SeqInv found N0 ks bc) : ∃ bc', ks.foldlM Pipeline.cutMulti bc = .ok bc' := by
  refine (foldlM_ok_rest (fun ks bc => ks.Nodup ∧ SeqInv found N0 ks bc) ?_ ks bc ⟨hnd, hI⟩).imp fun _ h => h.1
  intro k0 rest bc ⟨hnd, hI⟩
  unfold Pipeline.cutMulti
  cases hf0 : dGet? bc.found k0 with
  | none => exact ⟨bc, rfl, (List.nodup_cons.mp hnd).2, hI.hfound, hI.oid, fun k hk => hI.ready k (by simp [hk])⟩
  | some fnd0 =>
    obtain ⟨bc', hcut, hI'⟩ := cutStep_keeps hF hnd hI (hI.hfound ▸ hf0)
    exact ⟨bc', hcut, (List.nodup_cons.mp hnd).2, hI'⟩

theorem cutRemaining_returns {input ptx : List Scaffold} {err : Int} {b : Build} (h : HoldCtx input ptx err b)
    (hoid : ∀ f ∈ C01.inputFrags input, f.oid < b.nextOid) : ∃ b', cutRemaining b = .ok b' := by
  have hF : FoundOK b.found b.nextOid := by
    refine ⟨?_, ?_, ?_⟩
    · intro k fnd hf
      exact hoid _ (h.mid.foundOK k fnd hf).2
    · intro k k' fnd fnd' hf hf' hne e
      obtain ⟨k1, i1⟩ := h.mid.foundOK k fnd hf
      obtain ⟨k2, i2⟩ := h.mid.foundOK k' fnd' hf'
      have := h.wf.oid_inj i1 i2 e
      rw [this] at k1
      exact hne (k1.symm.trans k2)
    · exact fun k fnd hf => scaffolds_nodup h.mid h.wf hf
  have hI : SeqInv b.found b.nextOid b.multi b := by
    refine ⟨rfl, Nat.le_refl _, ?_⟩
    intro k hk fnd hf
    obtain ⟨sc, X, Y, hH⟩ := h.holderSet hk hf
    exact hH.visit
  obtain ⟨bc', hbc'⟩ := cutLoop_returns hF b.multi b h.mid.multiNodup hI
  refine ⟨{ bc' with multi := [] }, ?_⟩
  rw [Pipeline.cutRemaining_eq]
  simp only [hbc', bind, Except.bind, pure, Except.pure]

end AgpTpf.C02
