/- pathlib on file names (each function as one `if <raises> then ValueError else <name>` equation), `format_from_file_extn`,
   `parse_output_file`: shape lemmas (used by C16Plan) -/
import AgpTpf.Model.CliPlan
import AgpTpf.Proofs.Lib.Text
namespace AgpTpf.CliPlan
open AgpTpf

/-- the characters behind the last '.' (the whole name when there is none) -/
def lastSeg (s : Str) : Str := (s.reverse.takeWhile (· ≠ '.')).reverse

theorem lastSeg_no_dot (s : Str) : '.' ∉ lastSeg s := fun h => by
  simpa using List.all_eq_true.1 List.all_takeWhile '.' (List.mem_reverse.1 h)

theorem lastSeg_append_dot (x w : Str) (hw : '.' ∉ w) : lastSeg (x ++ '.' :: w) = w := by
  unfold lastSeg
  rw [show (x ++ '.' :: w).reverse = w.reverse ++ '.' :: x.reverse by simp,
    takeWhile_run _ _ _ (fun c hc => by simpa using fun (e : c = '.') => hw (e ▸ List.mem_reverse.1 hc))
      (fun c hc => by simp at hc; simp [← hc]),
    List.reverse_reverse]

theorem lastSeg_append (x e : Str) (h : '.' ∈ e) : lastSeg (x ++ e) = lastSeg e := by
  obtain ⟨as, bs, he, hn⟩ := List.eq_append_cons_of_mem (List.mem_reverse.2 h)
  have hn' : '.' ∉ as.reverse := fun h => hn (List.mem_reverse.1 h)
  rw [List.reverse_eq_iff.1 he, List.reverse_append, List.reverse_cons, List.append_assoc, List.singleton_append,
    ← List.append_assoc, lastSeg_append_dot _ _ hn', lastSeg_append_dot _ _ hn']

theorem ne_of_lastSeg_ne (x y w w' : Str) (hw : '.' ∉ w) (hw' : '.' ∉ w') (hne : w ≠ w') :
    x ++ '.' :: w ≠ y ++ '.' :: w' := by
  intro h
  have := congrArg lastSeg h
  rw [lastSeg_append_dot x w hw, lastSeg_append_dot y w' hw'] at this
  exact hne this

theorem pathSuffix_eq (name : Str) :
    pathSuffix name = if lastSeg name ≠ [] ∧ (lastSeg name).length + 1 < name.length then '.' :: lastSeg name else [] := rfl

theorem pathSuffix_shape (name : Str) :
    pathSuffix name = [] ∨ (pathSuffix name = '.' :: lastSeg name ∧ lastSeg name ≠ [] ∧ '.' ∉ lastSeg name) := by
  rw [pathSuffix_eq]
  split
  · next h => exact .inr ⟨rfl, h.1, lastSeg_no_dot name⟩
  · exact .inl rfl

theorem pathSuffix_append (x w : Str) (hx : x ≠ []) (hw : w ≠ []) (hdot : '.' ∉ w) :
    pathSuffix (x ++ '.' :: w) = '.' :: w := by
  rw [pathSuffix_eq, lastSeg_append_dot x w hdot]
  have hl : 0 < x.length := List.length_pos_iff.2 hx
  rw [if_pos]
  refine ⟨hw, ?_⟩
  simp only [List.length_append, List.length_cons]
  omega

theorem pathStem_append (x w : Str) (hx : x ≠ []) (hw : w ≠ []) (hdot : '.' ∉ w) :
    pathStem (x ++ '.' :: w) = x := by
  unfold pathStem
  rw [pathSuffix_append x w hx hw hdot]
  have : (x ++ '.' :: w).length - ('.' :: w).length = x.length := by
    simp only [List.length_append, List.length_cons]; omega
  rw [this]; simp

theorem withSuffix_eq (name sfx : Str) :
    withSuffix name sfx =
      if sfx.contains '/' = true ∨ ((!sfx.isEmpty && !startsWith ['.'] sfx) || sfx == ['.']) = true ∨ name.isEmpty = true
      then .error .value else .ok (pathStem name ++ sfx) := by
  unfold withSuffix pathStem
  cases sfx.contains '/' <;> cases ((!sfx.isEmpty && !startsWith ['.'] sfx) || sfx == ['.']) <;> cases name.isEmpty <;>
    simp only [Bool.false_eq_true, if_true, if_false, or_self, or_true, true_or]
  cases h : (pathSuffix name).isEmpty
  · rfl
  · simp [List.isEmpty_iff.1 h]

theorem withSuffix_plain (name sfx : Str) (h1 : sfx.contains '/' = false)
    (h2 : ((!sfx.isEmpty && !startsWith ['.'] sfx) || sfx == ['.']) = false) :
    withSuffix name sfx = if name = [] then .error .value else .ok (pathStem name ++ sfx) := by
  rw [withSuffix_eq, h1, h2]
  simp only [Bool.false_eq_true, false_or, List.isEmpty_iff]

theorem withName_eq (name new : Str) :
    withName name new = if name = [] ∨ new = [] ∨ '/' ∈ new ∨ new = ['.'] then .error .value else .ok new := by
  unfold withName
  by_cases h1 : name = []
  · simp [h1]
  by_cases h2 : new = []
  · simp [h1, h2]
  by_cases h3 : '/' ∈ new
  · simp [h1, h2, h3]
  by_cases h4 : new = ['.']
  · simp [h4]
  · simp [h1, h2, h3, h4]

theorem logFileName_eq (n : Str) :
    logFileName n = if n = [] then .error .value else .ok (pathStem n ++ ".log".toList) :=
  withSuffix_plain n _ (by decide) (by decide)

theorem chrReportName_eq (n : Str) :
    chrReportName n = if n = [] then .error .value else .ok (pathStem n ++ ".chr_report.csv".toList) := by
  unfold chrReportName
  rw [String.toList_ofList]
  exact withSuffix_plain n _ (by decide) (by decide)

theorem agpBesideName_eq (n : Str) :
    agpBesideName n = if n = [] then .error .value else .ok (pathStem n ++ ".agp".toList) :=
  withSuffix_plain n _ (by decide) (by decide)

theorem infoYamlName_eq (n : Str) :
    infoYamlName n = if n = [] ∨ '/' ∈ pathStem n then .error .value else .ok (pathStem n ++ ".info.yaml".toList) := by
  unfold infoYamlName
  rw [withName_eq, String.toList_ofList]
  have h4 : pathStem n ++ ['.', 'i', 'n', 'f', 'o', '.', 'y', 'a', 'm', 'l'] ≠ ['.'] :=
    fun hc => by simpa using congrArg List.length hc
  have h3 : '/' ∈ pathStem n ++ ['.', 'i', 'n', 'f', 'o', '.', 'y', 'a', 'm', 'l'] ↔ '/' ∈ pathStem n := by
    rw [List.mem_append]; exact or_iff_left (by decide)
  simp only [List.append_eq_nil_iff, List.cons_ne_nil, and_false, false_or, h4, or_false, h3]

theorem agpBesideName_append (x w : Str) (hx : x ≠ []) (hw : w ≠ []) (hdot : '.' ∉ w) :
    agpBesideName (x ++ '.' :: w) = .ok (x ++ ".agp".toList) := by
  rw [agpBesideName_eq, if_neg (by simp), pathStem_append x w hx hw hdot]

def fmtLetter : Fmt → Char
  | .AGP => 'a' | .TPF => 't' | .FASTA => 'f'

/-- the shape of a suffix returned by `parse_output_file` -/
def SuffixOk (fmt : Fmt) (sfx : Str) : Prop :=
  ∃ c w, sfx = '.' :: c :: w ∧ '.' ∉ c :: w ∧ toLowerAscii c = fmtLetter fmt

theorem formatFromExt_first (sfx : Str) (fmt : Fmt) (h : formatFromExt sfx none = some fmt) :
    ∃ c w, sfx = '.' :: c :: w ∧ toLowerAscii c = fmtLetter fmt := by
  unfold formatFromExt at h
  split at h
  · next rest =>
    cases rest with
    | nil => simp [lowerStr, startsWith] at h
    | cons c w =>
      refine ⟨c, w, rfl, ?_⟩
      -- whichever test succeeded compared the lower-cased first letter with that of the format
      have first : ∀ a p t, (startsWith (a :: p) (lowerStr (c :: w)) && t) = true → toLowerAscii c = a := by
        intro a p t ht
        simp only [startsWith, lowerStr, List.map_cons, List.isPrefixOf, Bool.and_eq_true, beq_iff_eq] at ht
        exact ht.1.1.symm
      simp only [] at h
      split at h
      · next h1 => cases h; exact first _ _ _ h1
      split at h
      · next h1 => cases h; exact first _ _ _ h1
      split at h
      · next h1 => cases h; exact first _ _ _ h1
      · cases h
  · cases h

theorem formatFromExt_literal (fmt : Fmt) : formatFromExt ('.' :: lowerStr fmt.name) none = some fmt := by
  cases fmt <;> decide

theorem parseOutputFile_suffix (name : Str) (fmt : Fmt) (root v sfx : Str)
    (h : parseOutputFile name = .ok (fmt, root, v, sfx)) :
    SuffixOk fmt sfx ∧ formatFromExt sfx none = some fmt ∧ name ≠ [] := by
  unfold parseOutputFile at h
  split at h
  · cases h
  · next fmt' hf =>
    have hne : name ≠ [] := by
      rintro rfl; cases hf
    have hA : SuffixOk fmt' (pathSuffix name) := by
      obtain ⟨c, w, e, hc⟩ := formatFromExt_first _ _ hf
      rcases pathSuffix_shape name with h0 | ⟨h1, _, h3⟩
      · rw [h0] at e; cases e
      · exact ⟨c, w, e, (List.cons.inj (h1.symm.trans e)).2 ▸ h3, hc⟩
    have hB : SuffixOk fmt' ('.' :: lowerStr fmt'.name) := by
      cases fmt'
      · exact ⟨'a', ['g', 'p'], rfl, by decide, rfl⟩
      · exact ⟨'t', ['p', 'f'], rfl, by decide, rfl⟩
      · exact ⟨'f', ['a', 's', 't', 'a'], rfl, by decide, rfl⟩
    -- (not `cases h`: unifying the roots would unfold `pathStem`)
    by_cases hc : startsWith (lowerStr (pathSuffix name)) ('.' :: lowerStr fmt'.name) = true
    · simp only [hc, if_true] at h
      split at h <;> simp only [Except.ok.injEq, Prod.mk.injEq] at h <;> obtain ⟨rfl, _, _, rfl⟩ := h <;>
        exact ⟨hA, hf, hne⟩
    · simp only [hc] at h
      split at h <;> simp only [Except.ok.injEq, Prod.mk.injEq] at h <;> obtain ⟨rfl, _, _, rfl⟩ := h <;>
        exact ⟨hB, formatFromExt_literal _, hne⟩

/-- what the plan needs to know about such a suffix: its extension `w` is none of the extensions of the side files -/
structure ExtFacts (fmt : Fmt) (sfx w : Str) : Prop where
  eq : sfx = '.' :: w
  ne : w ≠ []
  nodot : '.' ∉ w
  notSide : w ∉ [['l', 'o', 'g'], ['y', 'a', 'm', 'l'], ['c', 's', 'v']]
  notAgp : fmt = .FASTA → w ≠ ['a', 'g', 'p']

theorem SuffixOk.extFacts {fmt : Fmt} {sfx : Str} (h : SuffixOk fmt sfx) : ∃ w, ExtFacts fmt sfx w := by
  obtain ⟨c, w, e, hd, hc⟩ := h
  refine ⟨c :: w, e, List.cons_ne_nil _ _, hd, fun hm => ?_, fun hf h' => ?_⟩
  · simp only [List.mem_cons, List.cons.injEq, List.not_mem_nil, or_false] at hm
    rcases hm with ⟨rfl, _⟩ | ⟨rfl, _⟩ | ⟨rfl, _⟩ <;> cases fmt <;> exact absurd hc (by decide)
  · subst hf; cases h'; exact absurd hc (by decide)

end AgpTpf.CliPlan
