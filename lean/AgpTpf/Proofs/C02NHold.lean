/-
  C02 "remapping never fails": THE HOLDERS OF A SHARED CONTIG ARE CONSECUTIVE PIECES.

  `Tiling err ptx`: on every input scaffold the pieces of the map are valid, pairwise disjoint, leave no hole between
  two of them, and a piece with pieces on both sides has at least `err` bases.  For such a map, in any build state
  reached by `find_assembly_overlaps` and any number of resolver rounds (invariants `Mid`, `StoreR`, `BaitsDisj`,
  `SoloS`, `AddedOK`, store baits = the pieces with a lookup result), every contig in `multi` satisfies `VisitOK`: its
  holders, ordered as `cut_fragments` visits them, own abutting stretches of the contig.
-/
import AgpTpf.Proofs.C02NGeo
import AgpTpf.Proofs.C02NCut
import AgpTpf.Proofs.C02KCut
namespace AgpTpf.C02
open AgpTpf OverlapResult
open AgpTpf.C18 (Inv)
open AgpTpf.C01 (WFInput Mid inputFrags FragDisjoint holders holders_of_found)

def ptxFrags (ptx : List Scaffold) : List Fragment := ptx.flatMap Scaffold.fragments

/-- **the pieces tile their input scaffolds** (at error length `err`) -/
structure Tiling (err : Int) (ptx : List Scaffold) : Prop where
  valid : ∀ p ∈ ptxFrags ptx, p.start ≤ p.stop
  disjoint : PtxDisjoint ptx
  /-- no hole between two pieces of one input scaffold -/
  convex : ∀ p ∈ ptxFrags ptx, ∀ q ∈ ptxFrags ptx, p.name = q.name → ∀ x, p.stop < x → x < q.start →
    ∃ m ∈ ptxFrags ptx, m.name = p.name ∧ m.start ≤ x ∧ x ≤ m.stop
  /-- a piece with pieces on both sides has at least `err` bases (a PretextView piece of a cut scaffold has ≥ 2 texels) -/
  long : ∀ m ∈ ptxFrags ptx, (∃ p ∈ ptxFrags ptx, p.name = m.name ∧ p.stop < m.start) →
    (∃ q ∈ ptxFrags ptx, q.name = m.name ∧ m.stop < q.start) → err ≤ m.length

theorem Tiling.eq_or_disjoint {err : Int} {ptx : List Scaffold} (hT : Tiling err ptx) {p q : Fragment}
    (hp : p ∈ ptxFrags ptx) (hq : q ∈ ptxFrags ptx) : p = q ∨ FragDisjoint p q ∨ FragDisjoint q p :=
  pairwise_trichotomy hT.disjoint hp hq

theorem Tiling.ordered {err : Int} {ptx : List Scaffold} (hT : Tiling err ptx) {p q : Fragment}
    (hp : p ∈ ptxFrags ptx) (hq : q ∈ ptxFrags ptx) (hn : p.name = q.name)
    (h : p.start < q.start ∨ p.stop < q.stop) : p.stop < q.start := by
  have vp := hT.valid p hp
  have vq := hT.valid q hq
  rcases hT.eq_or_disjoint hp hq with e | d | d
  · subst e; omega
  · have := d hn; omega
  · have := d hn.symm; omega

theorem scaffolds_nodup {input : List Scaffold} {b : Build} (hm : Mid input b) (hwf : WFInput input) {k : Key}
    {fnd : Found} (hf : dGet? b.found k = some fnd) : fnd.scaffolds.Nodup :=
  holders_of_found hf ▸ hm.holders_nodup hwf k

/-! ### the context: a build before cutting, a tiling map, a contig in `multi` -/

structure HoldCtx (input ptx : List Scaffold) (err : Int) (b : Build) : Prop where
  wf : WFInput input
  nn : InputNonNeg input
  strands : ∀ f ∈ inputFrags input, f.strand = 1 ∨ f.strand = -1
  tiling : Tiling err ptx
  mid : Mid input b
  storeR : StoreR input err b.store
  disj : BaitsDisj b.store
  solo : SoloS input err b.store
  added : AddedOK b.store
  baitsIn : ∀ r ∈ b.store, r.o.bait ∈ ptxFrags ptx
  present : ∀ p ∈ ptxFrags ptx, C09.hits input p = true → ∃ r ∈ b.store, r.o.bait = p

section
variable {input ptx : List Scaffold} {err : Int} {b : Build}

theorem HoldCtx.holder (h : HoldCtx input ptx err b) {k : Key} {fnd : Found} (hf : dGet? b.found k = some fnd)
    {sc : Scaffold} (hsc : sc ∈ input) {X Y : List Row} (hs : sc.rows = X ++ .frag fnd.fragment :: Y)
    {sid : Nat} (hsid : sid ∈ fnd.scaffolds) :
    ∃ r, b.store[sid]? = some r ∧ Row.frag fnd.fragment ∈ r.o.rows ∧ sc.name = r.o.bait.name ∧
      Inv sc.rows r.o ∧ RGeo sc.rows r.o := by
  obtain ⟨r, hr, _, hFr⟩ := (h.mid.mem_holders_iff h.wf hf).1 hsid
  obtain ⟨sc2, o0, hsc2, hname, _, hK, hG, _⟩ := h.storeR r (List.mem_of_getElem? hr)
  obtain ⟨A, B, hsl, _⟩ := hG.slice
  cases scaffold_unique h.wf hsc2 hsc (f := fnd.fragment) (by rw [hsl]; simp [hFr]) (by rw [hs]; simp)
  exact ⟨r, hr, hFr, hname, hK.inv, hG⟩

theorem HoldCtx.inside (h : HoldCtx input ptx err b) {k : Key} {fnd : Found} (hf : dGet? b.found k = some fnd)
    {sc : Scaffold} (hsc : sc ∈ input) {X Y : List Row} (hs : sc.rows = X ++ .frag fnd.fragment :: Y)
    {m : Fragment} (hm : m ∈ ptxFrags ptx) (hname : m.name = sc.name) (h1 : rowsLength X + 1 ≤ m.start)
    (h2 : m.start ≤ m.stop) (h3 : m.stop ≤ rowsLength X + fnd.fragment.length) (h4 : err ≤ m.length) :
    ∃ sid r, sid ∈ fnd.scaffolds ∧ b.store[sid]? = some r ∧ r.o.bait = m := by
  obtain ⟨o0, hlook, hrows, hst, hen⟩ := lookup_inside (h.nn sc hsc) hs h1 h2 h3
  have hlk : C09.lookupOf input m = .ok (some o0) := by
    unfold C09.lookupOf lookupScaffold
    rw [hname, Pipeline.find?_name h.wf.1 hsc]
    simp only [bind, Except.bind]
    exact hlook
  obtain ⟨r, hr, hbait⟩ := h.present m hm (by unfold C09.hits; rw [hlk])
  obtain ⟨sid, hsid⟩ := List.getElem?_of_mem hr
  obtain ⟨q1, _, _⟩ := h.solo r hr o0 (by rw [hbait]; exact hlk) (by rw [hrows]; rfl) (by rw [hbait, hst]; exact h1)
    (by rw [hbait, hen]; exact h3) (by rw [hbait]; exact h4)
  have hadd : r.added = true := by
    cases hc : r.added with
    | true => rfl
    | false => have := h.added r hr hc; rw [q1, hrows] at this; cases this
  exact ⟨sid, r, (h.mid.mem_holders_iff h.wf hf).2 ⟨r, hsid, hadd, by rw [q1, hrows]; simp⟩, hsid, hbait⟩

end

theorem abut_of_sorted {S V : List Nat} {L H : Nat → Int} (valid : ∀ s ∈ S, L s ≤ H s)
    (apart : ∀ s ∈ S, ∀ t ∈ S, s ≠ t → H s < L t ∨ H t < L s)
    (between : ∀ s ∈ S, ∀ t ∈ S, H s + 1 < L t → ∃ u ∈ S, H s < L u ∧ H u < L t)
    (hperm : V.Perm S) (hnd : V.Nodup) (hsorted : V.Pairwise (fun a c => L a ≤ L c)) {j : Nat}
    (hj : j + 1 < V.length) : H (V[j]'(by omega)) + 1 = L V[j + 1] := by
  refine adj_get _ V (adj_intro L (fun a c => H a + 1 = L c) V ?_ ?_) j hj
  · -- different intervals begin at different places
    refine (hsorted.and (List.nodup_iff_pairwise_ne.1 hnd)).imp_of_mem fun {a c} ha hc h => ?_
    have := valid a (hperm.subset ha)
    have := valid c (hperm.subset hc)
    have := apart a (hperm.subset ha) c (hperm.subset hc) h.2
    have := h.1
    show L a < L c
    omega
  · -- a third interval in the room between two would begin between them
    intro a ha c hc hlt hno
    show H a + 1 = L c
    have := valid a (hperm.subset ha)
    have := valid c (hperm.subset hc)
    have := apart a (hperm.subset ha) c (hperm.subset hc) (fun e => by rw [e] at hlt; omega)
    by_cases hg : H a + 1 < L c
    · obtain ⟨u, hu, u1, u2⟩ := between a (hperm.subset ha) c (hperm.subset hc) hg
      have := valid u hu
      have := hno u (hperm.symm.subset hu)
      omega
    · omega

/-- the facts about all holders of a contig in `multi`, collected -/
structure HolderSet (input ptx : List Scaffold) (err : Int) (b : Build) (fnd : Found) (sc : Scaffold) (X Y : List Row) :
    Prop where
  sc_in : sc ∈ input
  rows : sc.rows = X ++ .frag fnd.fragment :: Y
  strand : fnd.fragment.strand = 1 ∨ fnd.fragment.strand = -1
  valid : fnd.fragment.start ≤ fnd.fragment.stop
  two : 2 ≤ fnd.scaffolds.length
  nodup : fnd.scaffolds.Nodup
  each : ∀ s ∈ fnd.scaffolds, ∃ r, b.store[s]? = some r ∧ getRes b.store s = r.o ∧ r.o.bait ∈ ptxFrags ptx ∧
    r.o.bait.name = sc.name ∧ r.o.bait.start ≤ r.o.bait.stop ∧
    ∃ a c, firstIs r.o fnd.fragment = .ok a ∧ lastIs r.o fnd.fragment = .ok c ∧
      (a = true → r.o.start = rowsLength X + 1) ∧ (c = true → r.o.stop = rowsLength X + fnd.fragment.length) ∧
      (rowsLength X + 1 < r.o.bait.start → a = true) ∧ (r.o.bait.stop < rowsLength X + fnd.fragment.length → c = true) ∧
      rowsLength X + 1 ≤ r.o.bait.stop ∧ r.o.bait.start ≤ rowsLength X + fnd.fragment.length
  apart : ∀ s ∈ fnd.scaffolds, ∀ t ∈ fnd.scaffolds, s ≠ t →
    (getRes b.store s).bait.stop < (getRes b.store t).bait.start ∨
    (getRes b.store t).bait.stop < (getRes b.store s).bait.start
  between : ∀ s ∈ fnd.scaffolds, ∀ t ∈ fnd.scaffolds,
    (getRes b.store s).bait.stop + 1 < (getRes b.store t).bait.start →
    ∃ u ∈ fnd.scaffolds, (getRes b.store s).bait.stop < (getRes b.store u).bait.start ∧
      (getRes b.store u).bait.start ≤ (getRes b.store u).bait.stop ∧
      (getRes b.store u).bait.stop < (getRes b.store t).bait.start

section
variable {input ptx : List Scaffold} {err : Int} {b : Build}

theorem HoldCtx.holderSet (h : HoldCtx input ptx err b) {k : Key} {fnd : Found} (hk : k ∈ b.multi)
    (hf : dGet? b.found k = some fnd) : ∃ sc X Y, HolderSet input ptx err b fnd sc X Y := by
  obtain ⟨hkey, hFin⟩ := h.mid.foundOK k fnd hf
  obtain ⟨sc, hsc, hFsc⟩ := C01.mem_inputFrags.mp hFin
  obtain ⟨X, Y, hs⟩ := List.append_of_mem (mem_fragmentsOf.mp hFsc)
  have hbase : ∀ s ∈ fnd.scaffolds, ∃ r, b.store[s]? = some r ∧ getRes b.store s = r.o ∧ r.o.bait ∈ ptxFrags ptx ∧
      r.o.bait.name = sc.name ∧ Row.frag fnd.fragment ∈ r.o.rows ∧ Inv sc.rows r.o ∧ RGeo sc.rows r.o := by
    intro s hsid
    obtain ⟨r, hr, hFr, hname, hI, hG⟩ := h.holder hf hsc hs hsid
    refine ⟨r, hr, ?_, h.baitsIn r (List.mem_of_getElem? hr), hname.symm, hFr, hI, hG⟩
    unfold getRes; rw [C01.getD_of_getElem? hr]
  refine ⟨sc, X, Y, hsc, hs, h.strands _ hFin, h.wf.2.2.2.2 _ hFin, ?_, scaffolds_nodup h.mid h.wf hf, ?_, ?_, ?_⟩
  · rw [← holders_of_found hf]; exact (h.mid.registry.2 k).mp hk
  · intro s hsid
    obtain ⟨r, hr, e, hin, hname, hFr, hI, hG⟩ := hbase s hsid
    exact ⟨r, hr, e, hin, hname, h.tiling.valid _ hin, holder_geom (h.nn sc hsc) (ids_nodup_of_wf h.wf hsc) hI hG hs hFr⟩
  · intro s hs' t ht hne
    obtain ⟨r, hr, e1, _, n1, _⟩ := hbase s hs'
    obtain ⟨r', hr', e2, _, n2, _⟩ := hbase t ht
    rw [e1, e2]
    exact baitsDisj_get h.disj hne hr hr' (n1.trans n2.symm)
  · intro s hs' t ht hgap
    obtain ⟨r, hr, e1, in1, n1, hF1, _, hG1⟩ := hbase s hs'
    obtain ⟨r', hr', e2, in2, n2, hF2, _, hG2⟩ := hbase t ht
    have m1 := (hG1.meets X _ Y hs hF1).1
    have m2 := (hG2.meets X _ Y hs hF2).2
    rw [e1, e2] at hgap ⊢
    have hn := n1.trans n2.symm
    -- the piece `m` that covers the base behind the first bait lies between the two baits, inside the contig
    obtain ⟨m, hm, hmn, hm1, hm2⟩ := h.tiling.convex _ in1 _ in2 hn (r.o.bait.stop + 1) (by omega) hgap
    have hmv := h.tiling.valid m hm
    have hA : r.o.bait.stop < m.start := h.tiling.ordered in1 hm hmn.symm (Or.inr (by omega))
    have hB : m.stop < r'.o.bait.start := h.tiling.ordered hm in2 (hmn.trans hn) (Or.inl (by omega))
    have hlong : err ≤ m.length :=
      h.tiling.long m hm ⟨_, in1, hmn.symm, hA⟩ ⟨_, in2, (hmn.trans hn).symm, hB⟩
    obtain ⟨u, ru, hu, hru, hbu⟩ := h.inside hf hsc hs hm (hmn.trans n1) (by omega) hmv (by omega) hlong
    refine ⟨u, hu, ?_⟩
    have : getRes b.store u = ru.o := by unfold getRes; rw [C01.getD_of_getElem? hru]
    rw [this, hbu]
    exact ⟨hA, hmv, hB⟩

end

section
variable {input ptx : List Scaffold} {err : Int} {b : Build} {fnd : Found} {sc : Scaffold} {X Y : List Row}

/-- **the holders of a contig in `multi` are consecutive pieces**: by ascending bait their baits abut, so they are what
    `VisitOK.of_scaffold_order` asks for, the contig standing at `rowsLength X + 1` -/
theorem HolderSet.visit (H : HolderSet input ptx err b fnd sc X Y) : ∃ V lo hi, VisitOK b fnd V lo hi := by
  let c := stableSort (fun s t => decide ((getRes b.store s).bait.start ≤ (getRes b.store t).bait.start)) fnd.scaffolds
  have hperm : c.Perm fnd.scaffolds := stableSort_perm _ _
  have hlen : 2 ≤ c.length := by rw [hperm.length_eq]; exact H.two
  have habut : ∀ p (hp : p + 1 < c.length),
      (getRes b.store (c[p]'(by omega))).bait.stop + 1 = (getRes b.store c[p + 1]).bait.start := fun p hp =>
    abut_of_sorted (L := fun s => (getRes b.store s).bait.start) (H := fun s => (getRes b.store s).bait.stop)
      (fun s hs => by obtain ⟨r, -, e, -, -, v, -⟩ := H.each s hs; rw [e]; exact v) H.apart
      (fun s hs t ht hg => by obtain ⟨u, hu, a, -, c⟩ := H.between s hs t ht hg; exact ⟨u, hu, a, c⟩)
      hperm (hperm.nodup_iff.mpr H.nodup) (stableSort_pairwise _ _) hp
  have hlenF : fnd.fragment.length = fnd.fragment.stop - fnd.fragment.start + 1 := rfl
  refine (VisitOK.of_scaffold_order (P := rowsLength X + 1) hperm (by intro e; rw [e] at hlen; simp at hlen) H.strand
    H.valid (fun p hp => ?_) habut).elim fun lo h => h.elim fun hi hV => ⟨_, lo, hi, hV⟩
  -- a holder behind another begins behind the contig's first base, one before another ends before its last
  obtain ⟨r, -, e, -, -, v, a, c', ha, hc, a1, c1, a2, c2, m1, m2⟩ := H.each _ (hperm.subset (List.getElem_mem hp))
  have hlow : 0 < p → a = true := fun h0 => by
    obtain ⟨q, rfl⟩ : ∃ q, p = q + 1 := ⟨p - 1, by omega⟩
    obtain ⟨r', -, e', -, -, -, -, -, -, -, -, -, -, -, m1', -⟩ :=
      H.each _ (hperm.subset (List.getElem_mem (show q < c.length by omega)))
    have := habut q hp
    rw [e, e'] at this
    exact a2 (by omega)
  have hhigh : p + 1 < c.length → c' = true := fun h0 => by
    obtain ⟨r', -, e', -, -, -, -, -, -, -, -, -, -, -, -, m2'⟩ := H.each _ (hperm.subset (List.getElem_mem h0))
    have := habut p h0
    rw [e, e'] at this
    exact c2 (by omega)
  rw [e]
  exact ⟨a, c', ha, hc, by by_cases h0 : 0 < p; exact .inl (hlow h0); exact .inr (hhigh (by omega)),
    fun h => by have := a1 h; omega, fun h => by have := c1 h; omega, hlow, hhigh, v, by omega, by omega⟩

end

end AgpTpf.C02
