/-
  C07 end to end.  First what the chain needs of the stored results after `remap_to_input_assembly`: every one satisfies the
  C18 invariant with respect to ONE input scaffold (contiguous run of its rows, only the terminal fragments shortened, only at
  their outer end), read off the per-result invariant `C18.Stored` (`Proofs/Remap/Stored`), and the join gap is the configured
  one (`ResOK` says it of one result, with the object-identity bookkeeping that lets `trim_fragment(found.fragment, …)`, which finds
  its row by identity, be read as a call on the first / last row).  Then the second sentence (gap rows): what
  `add_missing_scaffolds_from_input` records about a left-over scaffold (its gap rows, its runs, its input predecessor), carried
  to the build returned; the left-over branch of `fuseByName` (`built ++ gapsBeforeLeftover joinGap built pred ++ rows`); the runs
  of fused scaffolds (`fuse_runs`; `fused_gap_runs` is its instance "`G = [join gap]`, or an input run (up to reversal)").
-/
import AgpTpf.Proofs.C11Extra
import AgpTpf.Proofs.Lib.Fuse
import AgpTpf.Proofs.C07GapA
import AgpTpf.Proofs.C07Lemmas
import AgpTpf.Proofs.C07Pipeline
import AgpTpf.Proofs.C07ChainA
import AgpTpf.Proofs.Remap.Stored
namespace AgpTpf.C07
open AgpTpf

def inputFrags (input : List Scaffold) : List Fragment := input.flatMap Scaffold.fragments

/-- what the theorem needs of the input: distinct Fragment objects; `N0` is above all their ids -/
structure InputOK (input : List Scaffold) (N0 : Nat) : Prop where
  nodup : ((inputFrags input).map (·.oid)).Nodup
  lt : ∀ f ∈ inputFrags input, f.oid < N0

structure ResOK (input : List Scaffold) (N0 n : Nat) (o : OverlapResult) : Prop where
  inv : ∃ sc ∈ input, C18.Inv sc.rows o
  oids : ∀ f, Row.frag f ∈ o.rows → f.oid < n ∧ (f.oid < N0 → f ∈ inputFrags input)

theorem ResOK.discardStart {input : List Scaffold} {N0 n : Nat} {o o' : OverlapResult} (h : ResOK input N0 n o)
    (hd : o.discardStart = .ok o') : ResOK input N0 n o' := by
  obtain ⟨sc, hsc, hI⟩ := h.inv
  exact ⟨⟨sc, hsc, C18.inv_discardStart hI hd⟩, fun f hf => h.oids f ((OverlapResult.discardStart_keeps hd).1.subset hf)⟩

theorem ResOK.discardEnd {input : List Scaffold} {N0 n : Nat} {o o' : OverlapResult} (h : ResOK input N0 n o)
    (hd : o.discardEnd = .ok o') : ResOK input N0 n o' := by
  obtain ⟨sc, hsc, hI⟩ := h.inv
  exact ⟨⟨sc, hsc, C18.inv_discardEnd hI hd⟩, fun f hf => h.oids f ((OverlapResult.discardEnd_keeps hd).1.subset hf)⟩

theorem ResOK.trimFragment {input : List Scaffold} {N0 n : Nat} {o o' : OverlapResult} {f new : Fragment} {ks ke : Bool}
    (hin : InputOK input N0) (hn : N0 ≤ n) (h : ResOK input N0 n o) (hf : f ∈ inputFrags input)
    (ht : o.trimFragment f ks ke n = .ok (o', new)) : ResOK input N0 (n + 1) o' := by
  obtain ⟨hrow, hfresh, -, ho'⟩ := C18.trimFragment_by_identity hin.nodup hin.lt hn hf h.oids ht
  obtain ⟨sc, hsc, hI⟩ := h.inv
  refine ⟨⟨sc, hsc, ?_⟩, ho'⟩
  rcases hrow with ⟨t, hr⟩ | ⟨t, hr⟩
  · exact C18.inv_trimFragment_first hI hr hfresh ht
  · exact C18.inv_trimFragment_last hI hr hfresh ht

theorem remapToInput_joinGap {input ptx : List Scaffold} {prefix_ : Str} {joinGap : Option Gap} {err : Int} {b : Build}
    (h : remapToInput input ptx prefix_ joinGap err = .ok b) : b.joinGap = joinGap :=
  (Pipeline.remapToInput_frame h).1

/-- Hypothesis: the input Fragment objects are pairwise distinct (`trim_fragment` finds its row by identity). -/
theorem remapToInput_inv {input ptx : List Scaffold} {prefix_ : Str} {joinGap : Option Gap} {err : Int} {b : Build}
    (hnd : ((inputFrags input).map (·.oid)).Nodup) (h : remapToInput input ptx prefix_ joinGap err = .ok b) :
    ∀ r ∈ b.store, ∃ sc ∈ input, C18.Inv sc.rows r.o := fun r hr =>
  let ⟨_, sc, hs⟩ := (C18.remapToInput_stored hnd h).1 r hr
  ⟨sc, hs.mem, hs.inv⟩

theorem adjPairs_leftover_add (jg : Option Gap) (built rows : List Row) (pred : Option (Fragment × List Gap)) :
    adjPairs (built ++ gapsBeforeLeftover jg built pred ++ rows) =
      adjPairs built ++ (if gapsBeforeLeftover jg built pred = [] then seam built rows else []) ++ adjPairs rows := by
  by_cases h : gapsBeforeLeftover jg built pred = []
  · rw [h, if_pos rfl, List.append_nil, adjPairs_append]
  · rw [if_neg h, adjPairs_append_gaps _ _ _ h (C01.gapsBeforeLeftover_gaps jg built pred)]; simp

theorem noTerminalGap_leftover_add (built mid rows : List Row) (hb : NoTerminalGap built) (hbne : built ≠ [])
    (hr : NoTerminalGap rows) (hrne : rows ≠ []) : NoTerminalGap (built ++ mid ++ rows) :=
  ⟨fun g hg => hb.1 g (prefix_head? ((List.prefix_append built mid).trans (List.prefix_append _ rows)) hbne ▸ hg),
   fun g hg => hr.2 g (suffix_getLast? (List.suffix_append _ rows) hrne ▸ hg)⟩

/-- the runs of a left-over scaffold `e.1` and of its recorded predecessor `e.2` -/
def ExtraGapOK (input : List Scaffold) (jg : Option Gap) (e : Scaffold × Option (Fragment × List Gap)) : Prop :=
  ∃ sc ∈ input,
    (∀ prev gaps c, e.2 = some (prev, gaps) → e.1.rows.head? = some (.frag c) → (prev, gaps, c) ∈ gapRuns sc.rows) ∧
    (∀ t ∈ gapRuns e.1.rows, RunSrc jg sc.rows t)

theorem extraGapOK_of_leftover (input : List Scaffold) (jg : Option Gap) (sc : Scaffold)
    (hsc : sc ∈ input) (e : Scaffold × Option (Fragment × List Gap)) (h : Pipeline.LeftoverOf jg sc e) :
    ExtraGapOK input jg e := by
  obtain ⟨b, first, rfl, hv, _, hp⟩ := h
  refine ⟨sc, hsc, fun prev gaps c hpred hc => ?_, missingRows_runs b sc.rows _ first hv⟩
  rw [hp] at hpred
  cases first with
  | none => cases hpred
  | some i => exact leftover_pred_run b sc.rows _ i c prev gaps hv hc hpred

theorem remapToInput_extraGaps (input ptx : List Scaffold) (prefix_ : Str) (joinGap : Option Gap) (err : Int)
    (b : Build) (h : remapToInput input ptx prefix_ joinGap err = .ok b) :
    ∀ e ∈ b.extra, ExtraGapOK input b.joinGap e := fun e he =>
  let ⟨sc, hsc, hl⟩ := Pipeline.remapToInput_extra h e he
  (Pipeline.remapToInput_frame h).1 ▸ extraGapOK_of_leftover input _ sc hsc e hl

open AgpTpf.C11 (End leftFacing rightFacing facingEnds SameAdj)

def RunOK (input : List Scaffold) (g : Gap) (t : Run) : Prop :=
  t.2.1 = [g] ∨ InputRun input t

theorem ntg_last (l : List Row) (h : NoTerminalGap l) (hne : l ≠ []) : ∃ B a, l = B ++ [Row.frag a] := by
  rcases list_nil_or_concat l with e | ⟨B, x, e⟩
  · exact absurd e hne
  · cases x with
    | frag a => exact ⟨B, a, e⟩
    | gap g => exact absurd (by rw [e]; simp) (h.2 g)

theorem ntg_head (l : List Row) (h : NoTerminalGap l) (hne : l ≠ []) : ∃ c O, l = Row.frag c :: O := by
  cases l with
  | nil => exact absurd rfl hne
  | cons x O =>
    cases x with
    | frag c => exact ⟨c, O, rfl⟩
    | gap g => exact absurd rfl (h.1 g)

def joinGaps (jg : Option Gap) : List Gap := match jg with | some g => [g] | none => []

theorem joinRows_eq (jg : Option Gap) : joinRows jg = (joinGaps jg).map Row.gap := by cases jg <;> rfl

theorem gapsBeforeLeftover_cases (jg : Option Gap) (built : List Row) (hne : built ≠ []) (pred : Option (Fragment × List Gap)) :
    ∃ M : List Gap, gapsBeforeLeftover jg built pred = M.map Row.gap ∧
      (M = joinGaps jg ∨ ∃ prev last, pred = some (prev, M) ∧ built.getLast? = some (.frag last) ∧ FacingEnd last prev) := by
  rw [gapsBeforeLeftover_eq, if_neg hne]
  split
  · next prev gaps last hl =>
    split
    · next hf => exact ⟨gaps, rfl, Or.inr ⟨prev, last, rfl, hl, hf⟩⟩
    · exact ⟨_, joinRows_eq jg, Or.inl rfl⟩
  · exact ⟨_, joinRows_eq jg, Or.inl rfl⟩

theorem runs_join {P : Run → Prop} {built part : List Row} (M : List Gap)
    (hb : NoTerminalGap built ∧ ∀ t ∈ gapRuns built, P t) (hbne : built ≠ [])
    (hp : NoTerminalGap part ∧ ∀ t ∈ gapRuns part, P t) (hpne : part ≠ [])
    (hseam : ∀ a c, built.getLast? = some (.frag a) → part.head? = some (.frag c) → P (a, M, c)) :
    NoTerminalGap (built ++ M.map Row.gap ++ part) ∧ ∀ t ∈ gapRuns (built ++ M.map Row.gap ++ part), P t := by
  refine ⟨noTerminalGap_leftover_add built _ part hb.1 hbne hp.1 hpne, ?_⟩
  obtain ⟨B, a, rfl⟩ := ntg_last built hb.1 hbne
  obtain ⟨c, O, rfl⟩ := ntg_head part hp.1 hpne
  intro t ht
  have e : B ++ [Row.frag a] ++ M.map Row.gap ++ Row.frag c :: O = B ++ .frag a :: (M.map Row.gap ++ .frag c :: O) := by
    simp
  rw [e, gapRuns_join] at ht
  rcases List.mem_append.mp ht with ht | ht
  · exact hb.2 t ht
  · rcases List.mem_cons.mp ht with rfl | ht
    · exact hseam a c (by simp) rfl
    · exact hp.2 t ht

/-- the runs of a fused scaffold: runs of its parts (stored results as `to_scaffold` orients them, left-over scaffolds), the
    join gap between two parts, or the recorded gap rows behind the facing end of a left-over scaffold's predecessor -/
theorem fuse_runs (P : Run → Prop) (b : Build)
    (hstore : ∀ r ∈ b.store, r.added = true → NoTerminalGap r.o.rows ∧ ∀ t ∈ gapRuns r.o.toScaffoldRows, P t)
    (hextra : ∀ e ∈ b.extra, NoTerminalGap e.1.rows ∧ ∀ t ∈ gapRuns e.1.rows, P t)
    (hjoin : ∀ a c, P (a, joinGaps b.joinGap, c))
    (hpred : ∀ e ∈ b.extra, ∀ prev gaps last c, e.2 = some (prev, gaps) → FacingEnd last prev →
      e.1.rows.head? = some (.frag c) → P (last, gaps, c)) :
    ∀ s ∈ fuseByName b, (NoTerminalGap s.rows ∧ ∀ t ∈ gapRuns s.rows, P t) ∧ s.rows ≠ [] := by
  apply Fuse.fuseByName_all (fun rows => NoTerminalGap rows ∧ ∀ t ∈ gapRuns rows, P t)
  · intro r hr hadd hne
    obtain ⟨hn, hruns⟩ := hstore r hr hadd
    have hp := And.intro (noTerminalGap_toScaffoldRows _ hn) hruns
    have hne' := r.o.toScaffoldRows_ne_nil hne
    refine ⟨by rw [Scaffold.appendRows_nil]; exact hp, fun built hbne hb => ?_⟩
    have : Scaffold.appendRows built r.o.toScaffoldRows b.joinGap =
        built ++ (joinGaps b.joinGap).map Row.gap ++ r.o.toScaffoldRows := by
      cases hj : b.joinGap with
      | none => simp [Scaffold.appendRows, joinGaps]
      | some g => rw [Scaffold.appendRows_some _ _ hbne]; rfl
    rw [this]
    exact runs_join _ hb hbne hp hne' (fun a c _ _ => hjoin a c)
  · intro e he hne
    refine ⟨hextra e he, fun built hbne hb => ?_⟩
    obtain ⟨M, hM, hcase⟩ := gapsBeforeLeftover_cases b.joinGap built hbne e.2
    rw [hM]
    refine runs_join M hb hbne (hextra e he) hne (fun a c ha hc => ?_)
    rcases hcase with rfl | ⟨prev, last, hp, hl, hface⟩
    · exact hjoin a c
    · cases hl.symm.trans ha
      exact hpred e he prev M a c hp hface hc

theorem fuse_no_terminal_gaps (b : Build)
    (hstore : ∀ r ∈ b.store, r.added = true → NoTerminalGap r.o.rows)
    (hextra : ∀ e ∈ b.extra, NoTerminalGap e.1.rows) :
    ∀ s ∈ fuseByName b, NoTerminalGap s.rows ∧ s.rows ≠ [] := fun s hs =>
  let h := fuse_runs (fun _ => True) b (fun r hr ha => ⟨hstore r hr ha, fun _ _ => trivial⟩)
    (fun e he => ⟨hextra e he, fun _ _ => trivial⟩) (fun _ _ => trivial) (fun _ _ _ _ _ _ _ _ _ => trivial) s hs
  ⟨h.1.1, h.2⟩

theorem fused_gap_runs (input : List Scaffold) (g : Gap) (b : Build)
    (hst : ∀ r ∈ b.store, ∃ sc ∈ input, C18.Inv sc.rows r.o) (hj : b.joinGap = some g)
    (hex : ∀ e ∈ b.extra, ExtraGapOK input b.joinGap e) (hntg : StoreNTG b.store ∧ ExtraNTG b.extra)
    (hstr : ∀ sc ∈ input, ∀ q ∈ gapRuns sc.rows, StrandPM q.1 ∧ StrandPM q.2.2) :
    ∀ s ∈ fuseByName b, ∀ t ∈ gapRuns s.rows, RunOK input g t := by
  intro s hs
  refine (fuse_runs (RunOK input g) b ?_ ?_ ?_ ?_ s hs).1.2
  · intro r hr _
    refine ⟨hntg.1 r hr, fun t ht => ?_⟩
    obtain ⟨sc, hsc, hI⟩ := hst r hr
    obtain ⟨q, hq, hm⟩ := toScaffoldRows_runs hI.content (hstr sc hsc) t ht
    exact Or.inr ⟨sc, hsc, q, hq, hm⟩
  · intro e he
    refine ⟨hntg.2 e he, fun t ht => ?_⟩
    obtain ⟨sc, hsc, _, hruns⟩ := hex e he
    rcases hruns t ht with h | ⟨j, hj', h⟩
    · exact Or.inr ⟨sc, hsc, t, h, Or.inl ⟨rfl, rfl⟩⟩
    · rw [hj] at hj'; cases hj'; exact Or.inl h
  · intro a c; rw [hj]; exact Or.inl rfl
  · intro e he prev gaps last c hp hface hhd
    obtain ⟨sc, hsc, hpred, _⟩ := hex e he
    have hin := hpred prev gaps c hp hhd
    have hl' : leftFacing last = leftFacing prev := facingEnd_leftFacing last prev (hstr sc hsc _ hin).1 hface
    exact Or.inr ⟨sc, hsc, (prev, gaps, c), hin, Or.inl ⟨by simp [facingEnds, hl'], rfl⟩⟩

theorem input_run_strands_of_stats (input : List Scaffold) (outs : List OutAsm) (cuts : Int) (st : Stats)
    (h : makeStats input outs cuts = .ok st) :
    ∀ sc ∈ input, ∀ q ∈ gapRuns sc.rows, StrandPM q.1 ∧ StrandPM q.2.2 := by
  rintro sc hsc ⟨a, G, b⟩ hq
  obtain ⟨pre, post, e⟩ := gapRuns_fragmentsOf sc.rows a b G hq
  exact (C11.pairsOk_iff _).1 ((C11.makeStats_ok' h).1.1 sc hsc) pre a b post e

end AgpTpf.C07
