/-
  C02 (aligned maps): the hypotheses on the pieces of an aligned map and what the build stores for them; an
  aligned Pretext scaffold is one whose lookup results are kept as found (`ScaffoldAligned.kept`), so
  `find_assembly_overlaps` is the first stage of the explicit run of `Proofs/Remap/Run.lean`.
-/
import AgpTpf.Proofs.Lib.Missing
import AgpTpf.Proofs.Remap.Run
import AgpTpf.Proofs.C08Remap
namespace AgpTpf.C02
open AgpTpf

/-- `startOk`, `endOk`: nothing for `trim_large_overhangs` to discard -/
structure PieceAligned (input : List Scaffold) (err : Int) (p : Fragment) : Prop where
  found : (lookupPiece input p).isSome = true
  startOk : (pieceO input p).startOverhang ≤ err
  endOk : (pieceO input p).endOverhang ≤ err
  untagged : p.tags = []

/-- what the build stores for piece `p` of an untagged, unpainted Pretext scaffold `S` -/
def labelled (S : Scaffold) (o : OverlapResult) : OverlapResult :=
  { o with name := outName S, tag := none, haplotype := none, rank := 3,
           originalName := some S.name, originalTags := some [] }

def pieceRes (input : List Scaffold) (S : Scaffold) (p : Fragment) : Res :=
  { o := labelled S (pieceO input p), added := true }

/-- `noHap`: the name of its first row does not have the shape `<hap>_…_<digits>` -/
structure ScaffoldAligned (input : List Scaffold) (err : Int) (S : Scaffold) : Prop where
  head : ∃ f r, S.rows = .frag f :: r
  pieces : ∀ p ∈ S.fragments, PieceAligned input err p
  noHap : hapPrefixOfName (outName S) = none

theorem ScaffoldAligned.kept {input : List Scaffold} {err : Int} {S : Scaffold} (h : ScaffoldAligned input err S) :
    Run.ScaffoldKept input err false S :=
  ⟨h.head, fun p hp => have a := h.pieces p hp; ⟨a.found, a.untagged, .inl a.startOk, .inl a.endOk⟩, h.noHap⟩

/-- the store `find_assembly_overlaps` builds -/
def expectedStore (input ptx : List Scaffold) : List Res :=
  ptx.flatMap (fun S => S.fragments.map (pieceRes input S))

end AgpTpf.C02

/-! C02 (aligned maps): the contigs no piece claims come back through `add_missing_scaffolds_from_input` (arbitrary
subsets of every input scaffold, not only whole absent scaffolds as in C08): `leftover` is what `missingRows` returns on
any build that registers exactly the claimed keys, and it is plain (`leftPlain_leftover`), so stage 5 of the explicit
run applies; the hypothesis `Aligned`. -/
namespace AgpTpf.C02
open AgpTpf
open AgpTpf.C08 (NamerPlain)

def specBuild (keys : List Key) (jg : Gap) : Build :=
  { namer := { autosomePrefix := [] }, found := keys.map (fun k => (k, { fragment := default, scaffolds := [] })),
    nextOid := 0, joinGap := some jg, err := 0 }

/-- **the left-over rows of one input scaffold** when the contigs with keys `keys` are claimed by pieces:
    `missingRows` (characterised by `C01.missing_rows_exact`: the unclaimed contigs, in order, each once; only gap rows
    between two of them are kept as they are, otherwise the gap row in front or the join gap separates them) together
    with the row index of the first left-over contig -/
def leftover (keys : List Key) (jg : Gap) (rows : List Row) : List Row × Option Nat :=
  match missingRows (specBuild keys jg) rows with
  | .ok r => r
  | .error _ => ([], none)

theorem dHas_specBuild (keys : List Key) (jg : Gap) (k : Key) : dHas (specBuild keys jg).found k = keys.contains k := by
  rw [Bool.eq_iff_iff, dHas_iff_mem]
  simp [specBuild, List.map_map, Function.comp_def]

theorem missingRows_eq_leftover (b : Build) (keys : List Key) (jg : Gap) (rows : List Row)
    (hj : b.joinGap = some jg) (hf : ∀ k, dHas b.found k = keys.contains k) :
    missingRows b rows = .ok (leftover keys jg rows) := by
  rw [Pipeline.missingRows_congr b (specBuild keys jg) rows hj (fun k => by rw [hf, dHas_specBuild])]
  obtain ⟨r, hr⟩ := Pipeline.missingRows_total (specBuild keys jg) rows jg rfl
  unfold leftover
  rw [hr]

theorem leftover_spec (keys : List Key) (jg : Gap) (rows : List Row) :
    fragmentsOf (leftover keys jg rows).1 = (fragmentsOf rows).filter (fun f => !keys.contains f.keyTuple) ∧
    (∀ g, (leftover keys jg rows).1.head? ≠ some (.gap g)) ∧ (∀ g, (leftover keys jg rows).1.getLast? ≠ some (.gap g)) := by
  have h : Pipeline.leftoverRows _ _ none rows = .ok (leftover keys jg rows).1 := (Pipeline.missingRows_ok_iff.1
    (missingRows_eq_leftover (specBuild keys jg) keys jg rows rfl (dHas_specBuild keys jg))).1
  have he := Pipeline.leftoverRows_ends _ _ rows none _ h
  refine ⟨?_, he.1 rfl, he.2⟩
  rw [Pipeline.leftoverRows_fragments _ _ rows none _ h]
  exact congrArg (List.filter · _) (funext fun f => by rw [dHas_specBuild])

def UnclaimedOk (keys : List Key) (sc : Scaffold) : Prop :=
  ∀ f ∈ sc.fragments, keys.contains f.keyTuple = false → f.tags = [] ∧ hapPrefixOfName f.name = none

/-- the left-over scaffold (and its recorded input predecessor) `add_missing_scaffolds_from_input` makes of one input
    scaffold -/
def leftoverEntry (keys : List Key) (jg : Gap) (sc : Scaffold) : Option (Scaffold × Option (Fragment × List Gap)) :=
  if (leftover keys jg sc.rows).1.isEmpty then none
  else some ({ name := sc.name, rows := (leftover keys jg sc.rows).1, rank := 3 },
             match (leftover keys jg sc.rows).2 with
             | some i => inputPredecessor sc.rows i
             | none => none)

theorem leftPlain_leftover {keys : List Key} {jg : Gap} {sc : Scaffold} (hu : UnclaimedOk keys sc) :
    Run.LeftPlain (leftover keys jg sc.rows).1 := by
  obtain ⟨hfr, hhead, -⟩ := leftover_spec keys jg sc.rows
  have hmem : ∀ f ∈ fragmentsOf (leftover keys jg sc.rows).1, f.tags = [] ∧ hapPrefixOfName f.name = none := by
    intro f hf
    rw [hfr, List.mem_filter] at hf
    exact hu f hf.1 (by simpa using hf.2)
  refine ⟨fun nm => Scaffold.fragmentTags_eq_nil (fun f hf => (hmem f hf).1), ?_⟩
  intro r0 rest e
  cases r0 with
  | gap g => exact absurd (by rw [e]; rfl) (hhead g)
  | frag f0 => exact ⟨f0, rfl, (hmem f0 (by rw [e]; simp [fragmentsOf])).2⟩

def expectedExtra (keys : List Key) (jg : Gap) (input : List Scaffold) :
    List (Scaffold × Option (Fragment × List Gap)) :=
  input.filterMap (leftoverEntry keys jg)

theorem addMissing_aligned (keys : List Key) (jg : Gap) (l : List Scaffold) (b : Build) (hplain : NamerPlain b.namer)
    (hj : b.joinGap = some jg) (hf : ∀ k, dHas b.found k = keys.contains k) (hu : ∀ sc ∈ l, UnclaimedOk keys sc) :
    ∃ b', l.foldlM Pipeline.missingStep b = .ok b' ∧ b'.extra = b.extra ++ expectedExtra keys jg l ∧
      b'.store = b.store ∧ b'.multi = b.multi ∧ b'.cuts = b.cuts ∧ b'.joinGap = b.joinGap ∧
      b'.namer.autosomePrefix = b.namer.autosomePrefix := by
  obtain ⟨b', e, hx, -, hpre⟩ := Run.addMissing_explicit (fun sc => leftover keys jg sc.rows) l b hplain
    (fun sc _ b' hf' hj' => missingRows_eq_leftover b' keys jg sc.rows (hj'.trans hj) (fun k => by rw [hf', hf]))
    (fun sc hsc => leftPlain_leftover (hu sc hsc))
  obtain ⟨gs, -, gm, gc, -, gj, -⟩ := Pipeline.addMissing_frame (Pipeline.addMissing_eq l b ▸ e)
  exact ⟨b', e, hx, gs, gm, gc, gj, hpre⟩

/-- **the aligned (conflict-free) Pretext map** -/
structure Aligned (input ptx : List Scaffold) (err : Int) : Prop where
  names : (input.map (·.name)).Nodup                             -- `IndexedAssembly.add_scaffold` rejects duplicates
  lens : ∀ sc ∈ input, ∀ r ∈ sc.rows, 0 ≤ r.length               -- monotone index
  scaffolds : ∀ S ∈ ptx, ScaffoldAligned input err S             -- lookup results exist and need no trimming; untagged
  disjoint : (claimedKeys input ptx).Nodup                       -- no contig is claimed twice
  unclaimed : ∀ sc ∈ input, UnclaimedOk (claimedKeys input ptx) sc


end AgpTpf.C02
