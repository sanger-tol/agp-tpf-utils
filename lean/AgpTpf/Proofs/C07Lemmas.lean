/-
  Helper lemmas for C07: `gapsBeforeLeftover`, `inputPredecessor`, adjacencies and terminal gaps under `to_scaffold`.
-/
import AgpTpf.Proofs.C01Fuse
import AgpTpf.Proofs.Lib.Missing
namespace AgpTpf.C07
open AgpTpf

/-- `last` (the last row built so far) is the facing end of the recorded input predecessor `prev` -/
def FacingEnd (last prev : Fragment) : Prop :=
  last.name = prev.name ∧ last.strand = prev.strand ∧
  (if prev.strand = -1 then last.start else last.stop) = (if prev.strand = -1 then prev.start else prev.stop)

instance (last prev : Fragment) : Decidable (FacingEnd last prev) := by unfold FacingEnd; infer_instance

def joinRows (jg : Option Gap) : List Row := match jg with | some g => [Row.gap g] | none => []

theorem gapsBeforeLeftover_eq (jg : Option Gap) (built : List Row) (pred : Option (Fragment × List Gap)) :
    gapsBeforeLeftover jg built pred =
      if built = [] then []
      else match pred, built.getLast? with
        | some (prev, gaps), some (.frag last) => if FacingEnd last prev then gaps.map Row.gap else joinRows jg
        | _, _ => joinRows jg := by
  unfold gapsBeforeLeftover FacingEnd joinRows
  rw [← List.head?_reverse]
  by_cases hb : built = []
  · subst hb; rfl
  · have hb' : ¬ built.isEmpty = true := by simpa using hb
    rw [if_neg hb', if_neg hb]
    cases pred with
    | none => rfl
    | some p =>
      obtain ⟨prev, gaps⟩ := p
      cases built.reverse with
      | nil => rfl
      | cons x t => cases x <;> rfl

theorem inputPredecessor_spec (rows : List Row) (i : Nat) (f : Fragment) (gaps : List Gap)
    (h : inputPredecessor rows i = some (f, gaps)) (hi : i ≤ rows.length) :
    ∃ j, j < i ∧ rows[j]? = some (.frag f) ∧ (rows.drop (j + 1)).take (i - (j + 1)) = gaps.map Row.gap := by
  obtain ⟨Q, hQ⟩ := Pipeline.inputPredecessor_ok h
  have hlen := congrArg List.length hQ
  simp only [List.length_take, List.length_append, List.length_cons, List.length_map] at hlen
  refine ⟨Q.length, by omega, ?_, ?_⟩
  · rw [← List.getElem?_take_of_lt (show Q.length < i by omega), hQ]; simp
  · rw [← List.drop_take, hQ]; simp

/-- mirror a pair as `Scaffold.reverse` / `to_scaffold` does -/
def mirror (p : Fragment × Fragment) : Fragment × Fragment := (p.2.reverse, p.1.reverse)

theorem adjPairs_reverse_map (l : List Row) :
    adjPairs (l.reverse.map Row.reverse) = (adjPairs l).reverse.map mirror := by
  induction l with
  | nil => rfl
  | cons x t ih =>
    rw [List.reverse_cons, List.map_append, adjPairs_append, ih, adjPairs_cons]
    simp only [List.map_cons, List.map_nil, adjPairs_single, List.append_nil, List.reverse_append, List.map_append]
    congr 1
    unfold seam
    simp only [List.getLast?_map, List.getLast?_reverse, List.head?_cons, List.getLast?_singleton]
    cases x with
    | gap g => cases t.head? with
      | none => rfl
      | some y => cases y <;> rfl
    | frag a => cases t.head? with
      | none => rfl
      | some y => cases y <;> rfl

theorem gap_of_map_reverse {o : Option Row} {g : Gap} (h : o.map Row.reverse = some (.gap g)) : o = some (.gap g) := by
  cases o with
  | none => cases h
  | some y => cases y with
    | gap g' => exact h
    | frag f => cases h

theorem noTerminalGap_reverse_map (l : List Row) (h : NoTerminalGap l) : NoTerminalGap (l.reverse.map Row.reverse) :=
  ⟨fun g hg => h.2 g (gap_of_map_reverse (by rwa [List.head?_map, List.head?_reverse] at hg)),
   fun g hg => h.1 g (gap_of_map_reverse (by rwa [List.getLast?_map, List.getLast?_reverse] at hg))⟩

theorem noTerminalGap_toScaffoldRows (o : OverlapResult) (h : NoTerminalGap o.rows) : NoTerminalGap o.toScaffoldRows := by
  unfold OverlapResult.toScaffoldRows
  split
  · exact noTerminalGap_reverse_map _ h
  · exact h

end AgpTpf.C07
