/-
  T1c helper lemmas for `FastaStream.write_assembly` (C03): the translated source (`Gen.Imp.FastaStream_write_assembly`, a `for` loop
  over `assembly.scaffolds` that calls the translated `write_scaffold` and appends what each call wrote) against the model
  (`streamAssembly`, a `foldlM` over the scaffolds that appends the `out` of each `streamScaffold`).

  Both sides are brought to the same normal form: `mapM` of the per-record writer over the scaffolds (the first failing record is the
  exception), then the concatenation of the records.  The loop lemma (`PyRt.forIn_append_mapM`) is about an ARBITRARY body that
  meets an equational spec; nothing below quotes a generated sub-term.
-/
import AgpTpf.Gen.Imp3
import AgpTpf.Proofs.ImpStream
import AgpTpf.Proofs.Lib.Py
namespace AgpTpf.ImpWriteAsm
open AgpTpf AgpTpf.PyRt

/-- every record starts from a fresh `StreamLog` (`want = w`: `streamScaffold` takes no log), so nothing but `out` (and the two
    observation lists) is carried from one record to the next -/
theorem streamAssembly_out (file : Bytes) (idx : List (Str × FastaInfo)) (bs w : Int) (scs : List Scaffold) :
    (streamAssembly file idx bs w scs).map (·.out) =
      (scs.mapM (fun sc => (streamScaffold file idx bs w sc).map (·.out))).map List.flatten := by
  rw [StreamProofs.streamAssembly_eq, map_map, ← mapM_map_post (streamScaffold file idx bs w) (·.out), map_map]
  rfl

/-- the first call that raises is the exception: what earlier calls wrote is in the file, but the call has no result — on both
    sides of every tie below -/
theorem write_assembly_eq_mapM (fuel : Nat) (a : Assembly) (gapIt : Row → List Nat → List BytesIO)
    (seqIt : Row → R (List BytesIO)) (w : Int) (gc : List Nat) :
    Gen.Imp.FastaStream_write_assembly fuel a gapIt seqIt w gc =
      (a.scaffolds.mapM (fun sc => Gen.Imp.FastaStream_write_scaffold fuel sc w gc gapIt seqIt)).map List.flatten := by
  unfold Gen.Imp.FastaStream_write_assembly
  dsimp only
  rw [forIn_append_mapM (fun sc => Gen.Imp.FastaStream_write_scaffold fuel sc w gc gapIt seqIt) id]
  · simp only [List.map_id]
    cases List.mapM (fun sc => Gen.Imp.FastaStream_write_scaffold fuel sc w gc gapIt seqIt) a.scaffolds with
    | error e => rfl
    | ok os => simp [Except.map, bind, Except.bind]
  · intro sc _ out
    cases Gen.Imp.FastaStream_write_scaffold fuel sc w gc gapIt seqIt <;> rfl

theorem write_assembly_of_scaffolds {file : Bytes} {idx : List (Str × FastaInfo)} {bs w : Int} {a : Assembly} {fuel : Nat}
    {gapIt : Row → List Nat → List BytesIO} {seqIt : Row → R (List BytesIO)} {gc : List Nat}
    (h : ∀ sc ∈ a.scaffolds,
      Gen.Imp.FastaStream_write_scaffold fuel sc w gc gapIt seqIt = (streamScaffold file idx bs w sc).map (·.out)) :
    Gen.Imp.FastaStream_write_assembly fuel a gapIt seqIt w gc = (streamAssembly file idx bs w a.scaffolds).map (·.out) := by
  rw [write_assembly_eq_mapM, streamAssembly_out]
  exact congrArg _ (mapM_congr h)

theorem mapM_of_ok {α β : Type} (f : α → R β) (v : α → β) (xs : List α) (h : ∀ x ∈ xs, f x = .ok (v x)) :
    xs.mapM f = .ok (xs.map v) :=
  mapM_ok h

end AgpTpf.ImpWriteAsm
