/-
  C02 (script model): scripts whose cuts fall between contigs (`CleanScript`) or between contigs or deep inside them
  (`DeepScript`).  One analysis of the two ends of a piece's lookup result (`PieceOf.ends`), which asks nothing of the
  cuts; from it the per-piece clauses of `Aligned` / `AlignedP` (S4) and of `DeepBase` (S4').
-/
import AgpTpf.Proofs.C02SClaim
import AgpTpf.Proofs.C02APaintOut
import AgpTpf.Proofs.C02DNHyp
namespace AgpTpf.C02
open AgpTpf AgpTpf.Pretext
open AgpTpf.C12 (rowSpan meets meets_iff rowSpan_fst_pos lookup_start_cases lookup_end_cases lookup_end_deep lookup_start_deep)

/-- one input scaffold and its cuts: no contig straddles an interior cut; a contig that straddles the END of the last
    piece sticks out by at most the error length; every piece touches a contig -/
structure ScafClean (p q : Nat) (sc : Scaffold) (c : ScafScript) : Prop where
  cuts : ∀ t ∈ c.cuts, CleanAt sc.rows (coord p q t)
  last : ∀ k f, sc.rows[k]? = some (.frag f) → (rowSpan sc.rows k).1 ≤ (coord p q c.T : Int) →
    (rowSpan sc.rows k).2 - (coord p q c.T : Int) ≤ (errLen p q : Int)
  touch : ∀ ab ∈ c.spans p q, ∃ k, meets sc.rows ab.1 ab.2 k = true

def CleanScript (input : List Scaffold) (s : Script) : Prop :=
  ∀ (i : Nat) (sc : Scaffold) (c : ScafScript), input[i]? = some sc → s.scafs[i]? = some c → c.present = true →
    ScafClean s.p s.q sc c

/-- the input scaffold of the FIRST piece of every Pretext scaffold has a name not shaped `<hap>_…_<digits>`
    (an unpainted Pretext scaffold's output is named after it) -/
def HeadsOk (input : List Scaffold) (s : Script) : Prop :=
  ∀ g ∈ s.groups, ∀ x, g.items.head? = some x → ∀ sc, input[x.sc]? = some sc → hapPrefixOfName sc.name = none

/-- the contigs the map cannot claim — all contigs of absent scaffolds, and those beginning behind `⌊T·β⌋` — carry no
    tags and have names not shaped `<hap>_…_<digits>` -/
def TailOk (input : List Scaffold) (s : Script) : Prop :=
  ∀ (i : Nat) (sc : Scaffold) (c : ScafScript), input[i]? = some sc → s.scafs[i]? = some c →
    ∀ k f, sc.rows[k]? = some (.frag f) → (c.present = false ∨ (coord s.p s.q c.T : Int) < (rowSpan sc.rows k).1) →
      f.tags = [] ∧ hapPrefixOfName f.name = none

/-- the input: scaffold names pairwise different, no negative row length, contig keys pairwise different, contigs ≥ 1 bp -/
structure InputOk (input : List Scaffold) : Prop extends InputBase input where
  fragPos : ∀ sc ∈ input, ∀ f ∈ sc.fragments, 1 ≤ f.length

/-- a cut at `c | c + 1` and a contig row spanning `[a, b]`: the contig does not straddle the cut, or the cut is deeper
    than `M` bases inside it on both sides -/
def CutOk (M : Int) (a b c : Int) : Prop := b ≤ c ∨ c < a ∨ (M < c - a + 1 ∧ M < b - c)

theorem CutOk.of_straddle {M a b c : Int} (h : CutOk M a b c) (h1 : a ≤ c) (h2 : c < b) :
    M < c - a + 1 ∧ M < b - c := by
  rcases h with h | h | h
  · omega
  · omega
  · exact h

/-- as `ScafClean`, but an interior cut may also lie deeper than `3·errLen` inside a contig -/
structure ScafDeep (p q : Nat) (sc : Scaffold) (c : ScafScript) : Prop where
  cuts : ∀ t ∈ c.cuts, ∀ k f, sc.rows[k]? = some (.frag f) →
    CutOk (3 * (errLen p q : Int)) (rowSpan sc.rows k).1 (rowSpan sc.rows k).2 (coord p q t : Int)
  last : ∀ k f, sc.rows[k]? = some (.frag f) → (rowSpan sc.rows k).1 ≤ (coord p q c.T : Int) →
    (rowSpan sc.rows k).2 - (coord p q c.T : Int) ≤ (errLen p q : Int)
  touch : ∀ ab ∈ c.spans p q, ∃ k, meets sc.rows ab.1 ab.2 k = true

def DeepScript (input : List Scaffold) (s : Script) : Prop :=
  ∀ (i : Nat) (sc : Scaffold) (c : ScafScript), input[i]? = some sc → s.scafs[i]? = some c → c.present = true →
    ScafDeep s.p s.q sc c

theorem CleanScript.deep {input : List Scaffold} {s : Script} (h : CleanScript input s) : DeepScript input s := by
  intro i sc c hi hc hp
  obtain ⟨h1, h2, h3⟩ := h i sc c hi hc hp
  refine ⟨?_, h2, h3⟩
  intro t ht k f hk
  rcases h1 t ht k f hk with h | h
  · exact Or.inl h
  · exact Or.inr (Or.inl h)

section
variable {input : List Scaffold} {s : Script} {pf : Fragment} {i k : Nat} {sc : Scaffold} {c : ScafScript}
  {ab : Nat × Nat}

/-- the result sticks out at its start only when a contig straddles the interior cut before the piece, and at its end
    only when a contig straddles the boundary behind it — an interior cut or `⌊T·β⌋` —, by as much as that contig does -/
theorem PieceOf.ends (hw : WfScript input s) (hin : InputBase input) (P : PieceOf input s pf i k sc c ab) {r0 : Nat}
    (hr0 : meets sc.rows ab.1 ab.2 r0 = true) :
    ((pieceO input pf).startOverhang ≤ 0 ∨
      ∃ t ∈ c.cuts, ∃ r f, sc.rows[r]? = some (.frag f) ∧ pf.start = (coord s.p s.q t : Int) + 1 ∧
        (rowSpan sc.rows r).1 ≤ (coord s.p s.q t : Int) ∧ (coord s.p s.q t : Int) < (rowSpan sc.rows r).2) ∧
    ((pieceO input pf).endOverhang ≤ 0 ∨
      ∃ r f, sc.rows[r]? = some (.frag f) ∧ (rowSpan sc.rows r).1 ≤ pf.stop ∧ pf.stop < (rowSpan sc.rows r).2 ∧
        (pieceO input pf).endOverhang = (rowSpan sc.rows r).2 - pf.stop ∧
        (ab.2 = coord s.p s.q c.T ∨ ∃ t ∈ c.cuts, ab.2 = coord s.p s.q t)) := by
  have hlen := hin.lens sc P.mem_input
  obtain ⟨-, hfo⟩ := P.lookup hin hr0
  obtain ⟨hA, hB⟩ := mem_spansFrom (P.span hw).1
  constructor
  · rcases lookup_start_cases hlen hfo with h | ⟨r, f, hfr, h1, h2⟩
    · exact Or.inl h
    · rw [P.start] at h1 h2
      rcases hA with e | ⟨t, ht, e⟩
      · -- the first piece begins at base 1, where no row straddles
        have := rowSpan_fst_pos sc.rows hlen r
        rw [coord_zero] at e
        omega
      · exact Or.inr ⟨t, ht, r, f, hfr, by rw [P.start, e]; rfl, by omega, by omega⟩
  · rcases lookup_end_cases hlen hfo with h | ⟨r, f, hfr, h1, h2, e0⟩
    · exact Or.inl h
    · exact Or.inr ⟨r, f, hfr, h1, h2, e0, hB⟩

theorem PieceOf.long (hw : WfScript input s) (P : PieceOf input s pf i k sc c ab) (hcut : c.cuts ≠ []) :
    (errLen s.p s.q : Int) ≤ pf.stop - pf.start + 1 := by
  obtain ⟨hmem, -, hwf⟩ := P.span hw
  have h := (spansFrom_long_two hw.hq hw.hpq ((wf_present hwf P.present).2.2.resolve_left hcut) hmem).2.2
  have he := errLen_ge_two s.p s.q hw.hq hw.hpq
  rw [P.start, P.stop]
  omega

theorem piece_lookup_ok (hw : WfScript input s) (hin : InputBase input) (hcl : CleanScript input s)
    (P : PieceOf input s pf i k sc c ab) :
    (lookupPiece input pf).isSome = true ∧ (pieceO input pf).startOverhang ≤ 0 ∧
      (pieceO input pf).endOverhang ≤ (errLen s.p s.q : Int) := by
  have hcs := hcl _ sc c P.hsc P.hc P.present
  obtain ⟨r0, hr0⟩ := hcs.touch ab (List.mem_of_getElem? P.hab)
  obtain ⟨hs, he⟩ := P.ends hw hin hr0
  refine ⟨(P.lookup hin hr0).1, ?_, ?_⟩
  · rcases hs with h | ⟨t, ht, r, f, hfr, -, h1, h2⟩
    · exact h
    · exact ((hcs.cuts t ht).not_straddle hfr h1 h2).elim
  · rcases he with h | ⟨r, f, hfr, h1, h2, e0, e | ⟨t, ht, e⟩⟩
    · omega
    · rw [P.stop, e] at h1 h2 e0
      have := hcs.last r f hfr h1
      omega
    · rw [P.stop, e] at h1 h2
      exact ((hcs.cuts t ht).not_straddle hfr h1 h2).elim

/-- nothing for `trim_large_overhangs` to discard: an end sticks out only where the end row straddles a cut, and that cut
    is deep inside it -/
theorem piece_keep (hw : WfScript input s) (hin : InputBase input) (hd : DeepScript input s)
    (P : PieceOf input s pf i k sc c ab) :
    (lookupPiece input pf).isSome = true ∧ pf.start ≤ pf.stop ∧
      ((pieceO input pf).startOverhang ≤ (errLen s.p s.q : Int) ∨
        ∃ ov, (pieceO input pf).startRowBaitOverlap = .ok ov ∧ (errLen s.p s.q : Int) ≤ ov) ∧
      ((pieceO input pf).endOverhang ≤ (errLen s.p s.q : Int) ∨
        ∃ ov, (pieceO input pf).endRowBaitOverlap = .ok ov ∧ (errLen s.p s.q : Int) ≤ ov) := by
  have hcs := hd _ sc c P.hsc P.hc P.present
  have hlen := hin.lens sc P.mem_input
  obtain ⟨r0, hr0⟩ := hcs.touch ab (List.mem_of_getElem? P.hab)
  obtain ⟨hfound, hfo⟩ := P.lookup hin hr0
  obtain ⟨hmem, hinc, -⟩ := P.span hw
  obtain ⟨hs, he⟩ := P.ends hw hin hr0
  have hbd := spansFrom_bounds hw.hq hw.hpq hinc hmem
  have hE := errLen_pos s.p s.q
  refine ⟨hfound, by rw [P.start, P.stop]; omega, ?_, ?_⟩
  · rcases hs with h | ⟨t, ht, r, f, hfr, e, h1, h2⟩
    · exact Or.inl (by omega)
    · obtain ⟨d1, d2⟩ := (hcs.cuts t ht r f hfr).of_straddle h1 h2
      obtain ⟨-, -, ov, hov, hge⟩ := lookup_start_deep hlen hfo hfr hE (P.long hw (List.ne_nil_of_mem ht)) e d1 d2
      exact Or.inr ⟨ov, hov, by omega⟩
  · rcases he with h | ⟨r, f, hfr, h1, h2, e0, e | ⟨t, ht, e⟩⟩
    · exact Or.inl (by omega)
    · rw [P.stop, e] at h1 h2 e0
      have := hcs.last r f hfr h1
      exact Or.inl (by omega)
    · have e' : pf.stop = (coord s.p s.q t : Int) := by rw [P.stop, e]
      rw [e'] at h1 h2
      obtain ⟨d1, d2⟩ := (hcs.cuts t ht r f hfr).of_straddle h1 h2
      obtain ⟨-, -, ov, hov, hge⟩ := lookup_end_deep hlen hfo hfr hE (P.long hw (List.ne_nil_of_mem ht)) e' d1 d2
      exact Or.inr ⟨ov, hov, by omega⟩

end

theorem claimedKeys_nodup {input : List Scaffold} {s : Script} (hw : WfScript input s) (hin : InputBase input)
    (hcl : CleanScript input s) : (claimedKeys input (ptxOf input s)).Nodup := by
  rw [claimedKeys_ptxOf hw, List.nodup_iff_pairwise_ne, List.pairwise_flatMap]
  refine ⟨fun bx _ => pieceKeys_nodup hin _, List.Pairwise.imp_of_mem ?_ (itemsT_pairwise hw)⟩
  intro a b ha hb hne x hx y hy exy
  subst exy
  obtain ⟨sc, c, ab, P, -⟩ := pieceOf_fragOf hw ha
  obtain ⟨sc', c', ab', P', -⟩ := pieceOf_fragOf hw hb
  -- the key is that of a row `r` of scaffold `a.2.sc`; piece `b` claims it too, so it is a piece of the same scaffold
  obtain ⟨r, f, hr, hm, rfl⟩ := (P.mem_keys hin _).1 hx
  obtain ⟨hi, rfl, hm'⟩ := P'.of_key hin P.hsc hr hy
  rw [hi] at P'
  cases P'.hc.symm.trans P.hc
  obtain ⟨-, hinc, -⟩ := P.span hw
  have hcs := hcl _ _ c P.hsc P.hc P.present
  have hab := P.hab
  have hab' := P'.hab
  rw [spans_present P.present] at hab hab'
  rcases Nat.lt_trichotomy a.2.k b.2.k with h | h | h
  · exact no_common_row hw.hq hw.hpq hinc hcs.cuts hab hab' h hm hm'
  · exact hne (by rw [← hi, h])
  · exact no_common_row hw.hq hw.hpq hinc hcs.cuts hab' hab h hm' hm

theorem unclaimed_ok {input : List Scaffold} {s : Script} (hw : WfScript input s) (hin : InputOk input)
    (ht : TailOk input s) : ∀ sc ∈ input, UnclaimedOk (claimedKeys input (ptxOf input s)) sc := by
  intro sc hsc f hf hnc
  obtain ⟨i, hi⟩ := List.mem_iff_getElem?.1 hsc
  have hlt : i < s.scafs.length := hw.len ▸ (List.getElem?_eq_some_iff.1 hi).1
  have hc : s.scafs[i]? = some s.scafs[i] := List.getElem?_eq_getElem hlt
  obtain ⟨k, hk⟩ := List.mem_iff_getElem?.1 (mem_fragmentsOf.1 hf)
  have hnot : ¬ f.keyTuple ∈ claimedKeys input (ptxOf input s) := by
    intro h
    rw [List.contains_iff_mem.2 h] at hnc; cases hnc
  rw [claimed_iff hw hin.toInputBase hi hc hk (hin.fragPos sc hsc f hf)] at hnot
  apply ht i sc _ hi hc k f hk
  cases hp : (s.scafs[i]).present with
  | false => exact Or.inl rfl
  | true =>
    right
    have : ¬ (rowSpan sc.rows k).1 ≤ (coord s.p s.q (s.scafs[i]).T : Int) := fun h => hnot ⟨hp, h⟩
    omega

theorem ptx_scaffold_of_pieces {input : List Scaffold} {s : Script} (hw : WfScript input s) (hh : HeadsOk input s)
    {Q : Fragment → Prop} (hQ : ∀ pf i k sc c ab, PieceOf input s pf i k sc c ab → Q pf)
    {S : Scaffold} (hS : S ∈ ptxOf input s) :
    (∃ f r, S.rows = .frag f :: r) ∧ hapPrefixOfName (outName S) = none ∧ S.name ≠ [] ∧
    ∃ g ∈ s.groups, ∀ p ∈ S.fragments, Q p ∧ p.tags = (if g.painted then [sPainted] else []) := by
  obtain ⟨g, n, x, r, t, hg, hitems, hname, hrows, hfr, hit⟩ := mem_ptxOf_wf hw hS
  have hgm : g ∈ s.groups := List.mem_of_getElem? hg
  refine ⟨⟨_, t, hrows⟩, ?_, hname ▸ scaffoldName_ne_nil _, g, hgm, ?_⟩
  · -- the scaffold hands on the name of the input scaffold of its first piece
    obtain ⟨sc, c, ab, P, -⟩ := pieceOf_fragOf hw (hit x (by rw [hitems]; exact List.mem_cons_self))
    have : outName S = (fragOf input s (g.painted, x)).name := by unfold outName; rw [hrows]
    rw [this, P.name]
    exact hh g hgm x (by rw [hitems]; rfl) sc P.hsc
  · intro p hp
    rw [hfr] at hp
    obtain ⟨y, hy, rfl⟩ := List.mem_map.1 hp
    obtain ⟨sc, c, ab, P, htags⟩ := pieceOf_fragOf hw (hit y hy)
    exact ⟨hQ _ _ _ sc c ab P, htags⟩

theorem ptx_scaffold_ok {input : List Scaffold} {s : Script} (hw : WfScript input s) (hin : InputBase input)
    (hcl : CleanScript input s) (hh : HeadsOk input s) {S : Scaffold} (hS : S ∈ ptxOf input s) :
    (∃ f r, S.rows = .frag f :: r) ∧ hapPrefixOfName (outName S) = none ∧ S.name ≠ [] ∧
    ∃ g ∈ s.groups, ∀ p ∈ S.fragments,
      ((lookupPiece input p).isSome = true ∧ (pieceO input p).startOverhang ≤ (errLen s.p s.q : Int) ∧
        (pieceO input p).endOverhang ≤ (errLen s.p s.q : Int)) ∧ p.tags = (if g.painted then [sPainted] else []) :=
  ptx_scaffold_of_pieces hw hh (fun _ _ _ _ _ _ P => by
    obtain ⟨h1, h2, h3⟩ := piece_lookup_ok hw hin hcl P
    exact ⟨h1, by omega, h3⟩) hS

theorem script_deepBase {input : List Scaffold} {s : Script} (hw : WfScript input s) (hin : InputOk input)
    (hoid : ∀ sc ∈ input, (C18.ids sc.rows).Nodup) (hd : DeepScript input s) (hh : HeadsOk input s)
    (ht : TailOk input s) (hup : ∀ g ∈ s.groups, g.painted = false) :
    DeepBase input (ptxOf input s) (errLen s.p s.q : Int) := by
  have he2 := errLen_ge_two s.p s.q hw.hq hw.hpq
  refine ⟨hin.names, hin.lens, hoid, by omega, ?_, unclaimed_ok hw hin ht⟩
  intro S hS
  obtain ⟨h1, h2, -, g, hgm, hall⟩ :=
    ptx_scaffold_of_pieces hw hh (fun _ _ _ _ _ _ P => piece_keep hw hin.toInputBase hd P) hS
  refine ⟨h1, fun p hp => ?_, h2⟩
  obtain ⟨⟨a, b, c, d⟩, htags⟩ := hall p hp
  rw [hup g hgm] at htags
  exact ⟨a, htags, b, c, d⟩

end AgpTpf.C02
