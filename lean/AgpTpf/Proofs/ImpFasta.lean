/-
  T1c helper lemmas for the chunk iterators of `fasta/index.py` (`get_gap_iter`, `fwd_chunks`, `rev_chunks`,
  `get_sequence_iter`) and for plugging them into `FastaStream.write_scaffold`.

  * a generator is translated to a `for` loop that appends what it yields to a list: such a loop is a `List.mapM`
    (`PyRt.forIn_yield_mapM`; first failing step is the error), for ANY loop body meeting a one-line equational spec;
  * `range(n)` / `range(c, -1, -1)` as the index lists the model uses (`List.range`, reversed);
  * the writer (`Gen.Imp.FastaStream_write_scaffold`) with ARBITRARY chunk iterators is a fold of `ImpStream.rowStep`, and
    that fold looks only at the `.data` of the chunks (`chunk.seek(0)` comes first), never at their cursor;
  * for rows that are `StreamProofs.RowOK` (fragment inside an indexed record) every chunk has at most `buffer_size` bytes.
-/
import AgpTpf.Proofs.ImpStream
import AgpTpf.Proofs.C03Stream
import AgpTpf.Gen.Imp
namespace AgpTpf.ImpFasta
open AgpTpf AgpTpf.PyRt

theorem bind_ok_eq_map {α β : Type} (x : R α) (f : α → β) : (x >>= fun a => (Except.ok (f a) : R β)) = x.map f := by
  cases x <;> rfl

theorem R_ok_bind {α β : Type} (a : α) (f : α → R β) : ((Except.ok a : R α) >>= f) = f a := rfl

theorem map_map' {α β γ : Type} (x : R α) (f : α → β) (g : β → γ) : (x.map f).map g = x.map (fun a => g (f a)) := by
  cases x <;> rfl

theorem map_id' {α : Type} (x : R α) : x.map (fun a => a) = x := by
  cases x <;> rfl

/-- the whole translated generator: the loop, then the hand-over `k` of the yielded list (`k` = the `match` on how the loop
    ended that the translator emits; only its `fell` branch matters, a generator body has no `return v`); the index list is
    given up to equality (`range(1 + n)` vs `range(n + 1)`) -/
theorem generator_eq_mapM {ι α β ρ : Type} (f : ι → α) (g : ι → R β) (is is' : List ι)
    (body : α → List β → R (Ctl (List β) ρ)) (k : Done (List β) ρ → R (List β))
    (his : is' = is)
    (h : ∀ i ∈ is, ∀ acc, body (f i) acc = (g i).map (fun y => .next (acc ++ [y])))
    (hk : ∀ ys, k (.fell ys) = .ok ys) :
    (PyRt.forIn (is'.map f) [] body >>= k) = is.mapM g := by
  subst his
  rw [forIn_map, forIn_yield_mapM g h []]
  cases List.mapM g is' with
  | error e => rfl
  | ok ys => simp [Except.map, bind, Except.bind, hk]

/-- one `yield self.sequence_bytes(info, a, b)`, with the two bounds given up to equality -/
theorem yield_call_congr {α γ : Type} (sb : Int → Int → R α) (G : α → γ) {a b a' b' : Int}
    (ha : a = a') (hb : b = b') :
    (sb a b >>= fun t => (Except.ok (G t) : R γ)) = (sb a' b').map G := by
  subst ha hb
  cases sb a b <;> rfl

/-- one `yield F(self.sequence_bytes(info, a, b))` -/
theorem yield_call_congr' {α β γ : Type} (sb : Int → Int → R α) (F : α → β) (G : β → γ) {a b a' b' : Int}
    (ha : a = a') (hb : b = b') :
    (sb a b >>= fun t => (Except.ok (G (F t)) : R γ)) = ((sb a' b').map F).map G := by
  subst ha hb
  cases sb a b <;> rfl

theorem rangeUp_zero (n : Int) : rangeUp 0 n = (List.range n.toNat).map (fun (k : Nat) => (k : Int)) := by
  simp [rangeUp]

theorem reverse_range_succ (n : Nat) : (List.range (n + 1)).reverse = (List.range (n + 1)).map (fun k => n - k) := by
  apply List.ext_getElem
  · simp
  · intro i h1 h2
    simp only [List.length_reverse, List.length_range] at h1
    simp only [List.getElem_reverse, List.getElem_range, List.getElem_map, List.length_range]
    omega

theorem rangeDown_neg_one (c : Int) :
    rangeDown c (-1) = if c < 0 then [] else ((List.range (c.toNat + 1)).reverse).map (fun (k : Nat) => (k : Int)) := by
  unfold rangeDown
  split
  · have : (c - -1).toNat = 0 := by omega
    rw [this]; rfl
  · have : (c - -1).toNat = c.toNat + 1 := by omega
    rw [this, reverse_range_succ, List.map_map]
    apply List.map_congr_left
    intro k hk
    simp only [List.mem_range] at hk
    simp only [Function.comp, Int.ofNat_eq_natCast]
    omega

theorem bytesRepeat_singleton (c : Nat) (n : Int) : bytesRepeat [c] n = List.replicate n.toNat c := by
  unfold bytesRepeat
  induction n.toNat with
  | zero => rfl
  | succ k ih => simp [List.replicate_succ, ih]

theorem write_scaffold_rowStep (gapIt : Row → List Nat → List BytesIO) (seqIt : Row → R (List BytesIO))
    (w : Int) (gc : List Nat) (sc : Scaffold) (fuel : Nat)
    (hfuel : ∀ row ∈ sc.rows, ∀ cs, ImpStream.rowChunks (fun r => gapIt r gc) seqIt row = .ok cs →
      ∀ c ∈ cs, c.data.length < fuel) :
    Gen.Imp.FastaStream_write_scaffold fuel sc w gc gapIt seqIt =
      (sc.rows.foldlM (ImpStream.rowStep w (fun r => gapIt r gc) seqIt) (w, [62] ++ strToBytes sc.name ++ [10])).map (ImpStream.finish w) := by
  unfold Gen.Imp.FastaStream_write_scaffold
  dsimp only
  rw [forIn_foldlM_enc ImpStream.enc2 (ImpStream.rowStep w (fun r => gapIt r gc) seqIt) ?hrow (w, _)]
  · have hhdr : ([] : Bytes) ++ strToBytes (">".toList ++ sc.name ++ "\n".toList) = [62] ++ strToBytes sc.name ++ [10] := by
      simp [strToBytes]
    rw [hhdr]
    cases List.foldlM (ImpStream.rowStep w (fun r => gapIt r gc) seqIt) (w, [62] ++ strToBytes sc.name ++ [10]) sc.rows with
    | error e => rfl
    | ok s =>
      obtain ⟨want, out⟩ := s
      by_cases hw : want = w <;> simp [bind, Except.bind, Except.map, ImpStream.finish, ImpStream.enc2, hw]
  · intro row hrow s
    obtain ⟨want, out⟩ := s
    have hf := hfuel row hrow
    apply ImpStream.bind_of_eq (X' := ImpStream.rowChunks (fun r => gapIt r gc) seqIt row)
    · simp only [ImpStream.rowChunks]
      split
      · rfl
      · cases seqIt row <;> rfl
    · simp only [ImpStream.rowStep]
      cases hX : ImpStream.rowChunks (fun r => gapIt r gc) seqIt row with
      | error e => rfl
      | ok cs =>
        have hcs : ∀ c ∈ cs, c.data.length < fuel := hf cs hX
        simp only [bind, Except.bind, Except.map]
        rw [forIn_foldl_enc ImpStream.enc2 (ImpStream.chunkStep w) ?hchunk (want, out)]
        intro c hc s
        obtain ⟨want, out⟩ := s
        refine ImpStream.chunk_body ImpStream.st3 ImpStream.enc2 w fuel _ _ _ ?_ ?_ ?_ c (hcs c hc) want out
        · intro want c out; rfl
        · intro want c out
          dsimp only
          by_cases h1 : (c.read want).1.isEmpty = true
          · simp [h1]
          · by_cases h2 : want - ((c.read want).1.length : Int) = 0 <;> simp [h1, h2]
        · intro want c out; rfl

theorem foldl_chunkStep_data (w : Int) (cs cs' : List BytesIO) (h : cs.map (·.data) = cs'.map (·.data)) (s : Int × Bytes) :
    cs.foldl (ImpStream.chunkStep w) s = cs'.foldl (ImpStream.chunkStep w) s := by
  induction cs generalizing cs' s with
  | nil =>
    cases cs' with
    | nil => rfl
    | cons c' cs' => simp at h
  | cons c cs ih =>
    cases cs' with
    | nil => simp at h
    | cons c' cs' =>
      simp only [List.map_cons, List.cons.injEq] at h
      simp only [List.foldl_cons]
      have : ImpStream.chunkStep w s c = ImpStream.chunkStep w s c' := by simp only [ImpStream.chunkStep, h.1]
      rw [this]
      exact ih cs' h.2 _

def dataOf (x : R (List BytesIO)) : R (List Bytes) := x.map (List.map (·.data))

theorem rowStep_data (w : Int) (gapIt gapIt' : Row → List BytesIO) (seqIt seqIt' : Row → R (List BytesIO)) (row : Row)
    (h : dataOf (ImpStream.rowChunks gapIt seqIt row) = dataOf (ImpStream.rowChunks gapIt' seqIt' row)) (s : Int × Bytes) :
    ImpStream.rowStep w gapIt seqIt s row = ImpStream.rowStep w gapIt' seqIt' s row := by
  simp only [ImpStream.rowStep]
  cases h1 : ImpStream.rowChunks gapIt seqIt row with
  | error e =>
    cases h2 : ImpStream.rowChunks gapIt' seqIt' row with
    | error e' => rw [h1, h2] at h; simp only [dataOf, Except.map] at h; cases h; rfl
    | ok cs' => rw [h1, h2] at h; simp [dataOf, Except.map] at h
  | ok cs =>
    cases h2 : ImpStream.rowChunks gapIt' seqIt' row with
    | error e' => rw [h1, h2] at h; simp [dataOf, Except.map] at h
    | ok cs' =>
      rw [h1, h2] at h
      simp only [dataOf, Except.map, Except.ok.injEq] at h
      simp only [Except.map, foldl_chunkStep_data w cs cs' h]

theorem write_scaffold_data_congr (gapIt gapIt' : Row → List Nat → List BytesIO) (seqIt seqIt' : Row → R (List BytesIO))
    (w : Int) (gc : List Nat) (sc : Scaffold) (fuel : Nat)
    (h : ∀ row ∈ sc.rows, dataOf (ImpStream.rowChunks (fun r => gapIt r gc) seqIt row)
      = dataOf (ImpStream.rowChunks (fun r => gapIt' r gc) seqIt' row))
    (hfuel : ∀ row ∈ sc.rows, ∀ cs, ImpStream.rowChunks (fun r => gapIt' r gc) seqIt' row = .ok cs →
      ∀ c ∈ cs, c.data.length < fuel) :
    Gen.Imp.FastaStream_write_scaffold fuel sc w gc gapIt seqIt = Gen.Imp.FastaStream_write_scaffold fuel sc w gc gapIt' seqIt' := by
  have hfuel' : ∀ row ∈ sc.rows, ∀ cs, ImpStream.rowChunks (fun r => gapIt r gc) seqIt row = .ok cs →
      ∀ c ∈ cs, c.data.length < fuel := by
    intro row hrow cs hcs c hc
    have hd := h row hrow
    rw [hcs] at hd
    cases h2 : ImpStream.rowChunks (fun r => gapIt' r gc) seqIt' row with
    | error e => rw [h2] at hd; simp [dataOf, Except.map] at hd
    | ok cs' =>
      rw [h2] at hd
      simp only [dataOf, Except.map, Except.ok.injEq] at hd
      have hmem : c.data ∈ cs'.map (·.data) := hd ▸ List.mem_map_of_mem hc
      obtain ⟨c', hc', hcd⟩ := List.mem_map.mp hmem
      rw [← hcd]
      exact hfuel row hrow cs' h2 c' hc'
  rw [write_scaffold_rowStep gapIt seqIt w gc sc fuel hfuel', write_scaffold_rowStep gapIt' seqIt' w gc sc fuel hfuel]
  congr 1
  exact foldlM_congr (fun row hrow s => rowStep_data w _ _ _ _ row (h row hrow) s) _

open AgpTpf.StreamProofs in
/-- so `buffer_size < fuel` is enough fuel for the writer -/
theorem seqIter_chunk_le {bs : Int} (hbs : 1 ≤ bs) (file : Bytes) (idx : List (Str × FastaInfo)) (resOf : Str → Bytes)
    (f : Fragment) (hf : FragOK file idx resOf f) (cs : List BytesIO) (hcs : C03.modelSeqIter file idx bs (.frag f) = .ok cs) :
    ∀ c ∈ cs, c.data.length ≤ bs.toNat := by
  obtain ⟨cs', e, -, hc⟩ := rowChunks_ok hbs (.frag f) hf
  have := ImpStream.rowChunks_model file idx bs (.frag f)
  simp only [ImpStream.rowChunks, Row.isGap, Bool.false_eq_true, if_false, e, map_ok, hcs, Except.ok.injEq] at this
  subst this
  intro c hcm
  obtain ⟨c', hc', rfl⟩ := List.mem_map.1 hcm
  have := (hc c' hc').1
  show c'.data.length ≤ bs.toNat
  omega

/-- one `yield BytesIO(gap_character * n)` for a one-byte gap character, the count given up to `Int.toNat` -/
theorem yield_gap_congr {ρ : Type} (acc : List BytesIO) (c : Nat) {a b : Int} (h : a.toNat = b.toNat) :
    (Except.ok (Ctl.next (acc ++ [({ data := bytesRepeat [c] a, pos := 0 } : BytesIO)])) : R (Ctl (List BytesIO) ρ))
      = (Except.ok ({ data := List.replicate b.toNat c } : BytesIO) : R BytesIO).map (fun y => Ctl.next (acc ++ [y])) := by
  rw [bytesRepeat_singleton, h]; rfl

end AgpTpf.ImpFasta
