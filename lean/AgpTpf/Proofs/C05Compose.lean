/-
 C05 (f): TPF whole-assembly round trips (the TPF writer ignores tags and object ids), then AGP → TPF → AGP.
-/
import AgpTpf.Proofs.C05Agp
import AgpTpf.Proofs.C05Tpf
namespace AgpTpf.C05
open AgpTpf

def dropTagsAssembly (a : Assembly) : Assembly :=
  { a with scaffolds := a.scaffolds.map (fun s => { s with rows := s.rows.map Row.dropTags }) }

/-- a TPF gap line names no scaffold: it goes to whatever scaffold is current, so a scaffold must start with
    a fragment (else its leading gap is re-homed to the previous scaffold, or is an error at the file start) -/
def FirstIsFrag (rows : List Row) : Prop :=
  match rows with
  | .frag _ :: _ => True
  | _ => False

instance (rows : List Row) : Decidable (FirstIsFrag rows) := by
  unfold FirstIsFrag
  cases rows with
  | nil => infer_instance
  | cons r t => cases r <;> infer_instance

/-- Assemblies TPF carries (up to tags): see `TpfRowOk`, `TpfScafNameOk`, `FirstIsFrag`, `NamesChain`. -/
def WFTpf (a : Assembly) : Prop :=
  (∀ h ∈ a.header, HeaderOk h) ∧ NamesChain [] a.scaffolds ∧
  ∀ s ∈ a.scaffolds, TpfScafNameOk s.name ∧ FirstIsFrag s.rows ∧ ∀ r ∈ s.rows, TpfRowOk r

instance (a : Assembly) : Decidable (WFTpf a) := by unfold WFTpf; infer_instance

theorem WFTpf.wf {a : Assembly} (h : WFTpf a) : tpf.WF a :=
  ⟨h.1, h.2.1, fun s hs => ⟨(h.2.2 s hs).1.2, by
    have := (h.2.2 s hs).2.1
    unfold FirstIsFrag at this
    split at this
    · exact ⟨_, _, ‹_›, rfl⟩
    · exact this.elim, (h.2.2 s hs).2.2⟩⟩

/-- (f, TPF) the reader rebuilds the assembly without its tags -/
theorem tpf_roundtrip_lines (a : Assembly) (h : WFTpf a) :
    ∃ lines, formatTpf a = .ok lines ∧ parseTpf lines = .ok (canonAssembly (dropTagsAssembly a)) :=
  tpf.format_parse a h.wf

theorem formatTpfRow_dropTags (name : Str) (r : Row) : formatTpfRow name (Row.dropTags r) = formatTpfRow name r := by
  cases r <;> rfl

theorem mapM_formatTpfRow_renum (name : Str) (k : Nat) (rows : List Row) :
    (renumRows k rows).mapM (formatTpfRow name) = rows.mapM (formatTpfRow name) := by
  induction rows generalizing k with
  | nil => rfl
  | cons r t ih =>
    cases r with
    | gap g => simp only [renumRows, List.mapM_cons, ih]
    | frag f =>
      simp only [renumRows, List.mapM_cons, ih]
      rfl

theorem formatTpf_canon (a : Assembly) : formatTpf (canonAssembly a) = formatTpf a := by
  unfold formatTpf canonAssembly
  simp only
  rw [mapM_congr_forall2 _ (fun s => s.rows.mapM (formatTpfRow s.name)) _ a.scaffolds
    (canonScaffolds_forall2 _ (fun s k => mapM_formatTpfRow_renum s.name k s.rows) 0 a.scaffolds)]

theorem formatTpf_dropTags (a : Assembly) : formatTpf (dropTagsAssembly a) = formatTpf a := by
  simp only [formatTpf, dropTagsAssembly, List.mapM_map, Function.comp_def, formatTpfRow_dropTags]

theorem NamesChain_map (f : Scaffold → Scaffold) (hf : ∀ s, (f s).name = s.name) (cur : Str) (scs : List Scaffold)
    (h : NamesChain cur scs) : NamesChain cur (scs.map f) := by
  induction scs generalizing cur with
  | nil => trivial
  | cons s t ih =>
    refine ⟨by rw [hf]; exact h.1, ?_⟩
    rw [hf]; exact ih _ h.2

theorem AgpRowOk.dropTags {r : Row} (h : AgpRowOk r) : AgpRowOk (Row.dropTags r) := by
  cases r with
  | gap g => exact h
  | frag f =>
    exact ⟨h.1, nofun, rfl, h.2.2.2⟩

theorem WFAgp.dropTags {a : Assembly} (h : WFAgp a) : WFAgp (dropTagsAssembly a) := by
  obtain ⟨hh, hch, hsc⟩ := h
  refine ⟨hh, NamesChain_map (fun s => { s with rows := s.rows.map Row.dropTags }) (fun _ => rfl) _ _ hch, ?_⟩
  intro s hs
  simp only [dropTagsAssembly, List.mem_map] at hs
  obtain ⟨s0, hs0, rfl⟩ := hs
  obtain ⟨h1, h2, h3⟩ := hsc s0 hs0
  refine ⟨h1, by simpa using h2, ?_⟩
  intro r hr
  simp only [List.mem_map] at hr
  obtain ⟨r0, hr0, rfl⟩ := hr
  exact (h3 r0 hr0).dropTags

/-- AGP → assembly → TPF → assembly → AGP: every step succeeds, and the assembly that comes back is the original
    one with the tags dropped (nothing else changes). -/
theorem agp_tpf_agp (a : Assembly) (h1 : WFAgp a) (h2 : WFTpf a) :
    ∃ agp1 a1 tpf a2 agp2,
      formatAgp a = .ok agp1 ∧ parseAgp agp1 = .ok a1 ∧ a1 = canonAssembly a ∧
      formatTpf a1 = .ok tpf ∧ parseTpf tpf = .ok a2 ∧ a2 = canonAssembly (dropTagsAssembly a) ∧
      formatAgp a2 = .ok agp2 ∧ parseAgp agp2 = .ok a2 ∧
      formatAgp (dropTagsAssembly a) = .ok agp2 := by
  obtain ⟨agp1, f1, p1⟩ := agp_roundtrip_lines a h1
  obtain ⟨tpf, f2, p2⟩ := tpf_roundtrip_lines a h2
  obtain ⟨agp2, f3, p3⟩ := agp_roundtrip_lines (dropTagsAssembly a) h1.dropTags
  exact ⟨agp1, _, tpf, _, agp2, f1, p1, rfl, by rw [formatTpf_canon]; exact f2, p2, rfl,
    by rw [formatAgp_canon]; exact f3, p3, f3⟩

end AgpTpf.C05
