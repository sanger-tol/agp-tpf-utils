/- `name_assemblies`: when are the names (P1) / the file stems `(name, curated)` (what P2 needs) pairwise different.
   A name is `root.version.<keyLabel of the effective key>` (curated assemblies of the multi-haplotype branch:
   `root.<key>.version.primary`), so equal names mean equal effective keys; each branch then says what that means for the keys. -/
import AgpTpf.Proofs.CliNames
import AgpTpf.Model.CliPlan
namespace AgpTpf.CliPlan
open AgpTpf AgpTpf.CliNames

/-- what decides the file of an assembly: `{name}{".curated" if curated}` -/
def stemKey (n : NamedAsm) : Str × Bool := (n.name, n.curated)

def Sep (a b : OutAsm) : Prop := a.key ≠ b.key ∧ (lowerKey a = lowerKey b → a.curated ≠ b.curated)

def SepLower (a b : OutAsm) : Prop := lowerKey a ≠ lowerKey b

theorem SepLower.sep {a b : OutAsm} (h : SepLower a b) : Sep a b :=
  ⟨fun e => h (by unfold lowerKey; rw [e]), fun e => absurd e h⟩

theorem SepLower.key_ne {a b : OutAsm} (h : SepLower a b) : a.key ≠ b.key := h.sep.1

theorem dj3_inj {r v : Str} {x y : Option Str} (h : dotJoin [r, v, keyLabel x] = dotJoin [r, v, keyLabel y]) : x = y := by
  rw [dotJoin3, dotJoin3] at h
  exact keyLabel_inj (List.cons.inj (List.append_cancel_left (List.cons.inj (List.append_cancel_left h)).2)).2

theorem dj4_inj (r v x y : Str) (h : dotJoin [r, x, v, sPrimaryLc] = dotJoin [r, y, v, sPrimaryLc]) : x = y := by
  rw [dotJoin4, dotJoin4] at h
  exact List.append_cancel_right (List.cons.inj (List.append_cancel_left h)).2

def EndsSY (s : Str) : Prop := s.getLast? = some 's' ∨ s.getLast? = some 'y'

theorem endsSY_of_last {s p : Str} {c : Char} (e : s = p ++ [c]) (hc : c = 's' ∨ c = 'y') : EndsSY s := by
  unfold EndsSY
  rw [e, List.getLast?_concat]
  exact hc.imp (congrArg some) (congrArg some)

theorem endsSY_dj3 (r v : Str) (x : Option Str) : EndsSY (dotJoin [r, v, keyLabel x]) := by
  obtain ⟨p, c, e, hc⟩ := keyLabel_ends x
  refine endsSY_of_last (p := r ++ '.' :: (v ++ '.' :: p)) ?_ hc
  rw [dotJoin3, e]; simp

theorem endsSY_dj4 (r a v : Str) : EndsSY (dotJoin [r, a, v, sPrimaryLc]) := by
  refine endsSY_of_last (p := r ++ '.' :: (a ++ '.' :: (v ++ '.' :: "primar".toList))) (c := 'y') ?_ (.inr rfl)
  rw [dotJoin4, primary_split]; simp

/-- a four-part name (ends in 'y') is no three-part name of a key (ends in 's') -/
theorem dj4_ne_dj3 (r a v w : Str) (l : Str) : dotJoin [r, a, v, sPrimaryLc] ≠ dotJoin [w, v, keyLabel (some l)] := by
  intro h
  have h1 : (dotJoin [r, a, v, sPrimaryLc]).getLast? = some 'y' := by
    rw [dotJoin4, primary_split]
    rw [show r ++ '.' :: (a ++ '.' :: (v ++ '.' :: ("primar".toList ++ ['y']))) =
      (r ++ '.' :: (a ++ '.' :: (v ++ '.' :: "primar".toList))) ++ ['y'] by simp, List.getLast?_concat]
  have h2 : (dotJoin [w, v, keyLabel (some l)]).getLast? = some 's' := by
    rw [dotJoin3]
    rw [show w ++ '.' :: (v ++ '.' :: keyLabel (some l)) = (w ++ '.' :: (v ++ '.' :: l)) ++ ['s'] by simp [keyLabel],
      List.getLast?_concat]
  rw [h, h2] at h1
  cases h1

theorem singleLow_eq (a b : OutAsm) (h : singleLow a = singleLow b) :
    a.key = b.key ∨ (lowerKey a = lowerKey b ∧ a.key ≠ some sHaplotig ∧ b.key ≠ some sHaplotig) ∨
    (a.key = some sHaplotig ∧ lowerKey b = some sAddHap ∧ b.key ≠ some sHaplotig) ∨
    (b.key = some sHaplotig ∧ lowerKey a = some sAddHap ∧ a.key ≠ some sHaplotig) := by
  unfold singleLow at h
  by_cases ha : a.key = some sHaplotig <;> by_cases hb : b.key = some sHaplotig
  · exact .inl (ha.trans hb.symm)
  · rw [if_pos ha, if_neg hb] at h; exact .inr (.inr (.inl ⟨ha, h.symm, hb⟩))
  · rw [if_neg ha, if_pos hb] at h; exact .inr (.inr (.inr ⟨hb, h, ha⟩))
  · rw [if_neg ha, if_neg hb] at h; exact .inr (.inl ⟨h, ha, hb⟩)

theorem single_stem_ne (root v : Str) (a b : OutAsm) (hs : Sep a b)
    (ha : b.key = some sHaplotig → a.curated = true → lowerKey a ≠ some sAddHap)
    (hb : a.key = some sHaplotig → b.curated = true → lowerKey b ≠ some sAddHap) :
    stemKey (singleName root v a) ≠ stemKey (singleName root v b) := by
  intro h
  unfold stemKey at h
  rw [singleName_rec, singleName_rec] at h
  obtain ⟨hn, hc⟩ := Prod.mk.inj h
  rcases singleLow_eq a b (dj3_inj hn) with e | ⟨e, n1, n2⟩ | ⟨e1, e2, n2⟩ | ⟨e1, e2, n1⟩
  · exact hs.1 e
  · simp only [n1, n2, decide_false, Bool.false_or] at hc; exact hs.2 e hc
  · simp only [e1, n2, decide_true, decide_false, Bool.true_or, Bool.false_or] at hc; exact hb e1 hc.symm e2
  · simp only [e1, n1, decide_true, decide_false, Bool.true_or, Bool.false_or] at hc; exact ha e1 hc e2

theorem single_name_ne (root v : Str) (a b : OutAsm) (hs : SepLower a b)
    (ha : b.key = some sHaplotig → lowerKey a ≠ some sAddHap) (hb : a.key = some sHaplotig → lowerKey b ≠ some sAddHap) :
    (singleName root v a).name ≠ (singleName root v b).name := by
  intro hn
  rw [singleName_rec, singleName_rec] at hn
  rcases singleLow_eq a b (dj3_inj hn) with e | ⟨e, _, _⟩ | ⟨e1, e2, _⟩ | ⟨e1, e2, _⟩
  · exact hs.key_ne e
  · exact hs e
  · exact hb e1 e2
  · exact ha e1 e2

theorem multiName_curated (root v : Str) (a : OutAsm) : (multiName root v a).curated = a.curated := by
  unfold multiName; split
  · rfl
  · cases h : a.curated <;> simp

theorem multi_name_eq (root v : Str) (a b : OutAsm) (ka kb : Str) (hka : a.key = some ka) (hkb : b.key = some kb)
    (h : (multiName root v a).name = (multiName root v b).name) : lowerKey a = lowerKey b ∧ a.curated = b.curated := by
  rw [multiName_rec root v a ka hka, multiName_rec root v b kb hkb] at h
  rw [lowerKey_some hka, lowerKey_some hkb] at h ⊢
  cases hca : a.curated <;> cases hcb : b.curated <;> simp only [hca, hcb, if_true, if_false, Bool.false_eq_true] at h
  · exact ⟨dj3_inj h, rfl⟩
  · exact absurd h.symm (dj4_ne_dj3 _ _ _ _ _)
  · exact absurd h (dj4_ne_dj3 _ _ _ _ _)
  · exact ⟨congrArg some (dj4_inj _ _ _ _ h), rfl⟩

theorem primaryLow_eq (a b : OutAsm) (ka : keeps a = true) (kb : keeps b = true) (ca : a.key = none → a.curated = true)
    (cb : b.key = none → b.curated = true) (e : primaryLow a = primaryLow b) :
    a.key = b.key ∨ (lowerKey a = lowerKey b ∧ a.curated = false ∧ b.curated = false) := by
  unfold primaryLow at e
  unfold keeps at ka kb
  by_cases pa : a.key = some sPrimary <;> by_cases pb : b.key = some sPrimary
  · exact .inl (pa.trans pb.symm)
  · rw [if_pos pa, if_neg pb] at e
    cases hk : b.key with
    | none => simp [hk, cb hk] at kb
    | some k => rw [lowerKey_some hk] at e; cases e
  · rw [if_neg pa, if_pos pb] at e
    cases hk : a.key with
    | none => simp [hk, ca hk] at ka
    | some k => rw [lowerKey_some hk] at e; cases e
  · rw [if_neg pa, if_neg pb] at e
    exact .inr ⟨e, by simpa [pa] using ka, by simpa [pb] using kb⟩

theorem primaryLow_eq_all (a : OutAsm) (ka : keeps a = true) (e : primaryLow a = some sAllHap) :
    lowerKey a = some sAllHap ∧ a.curated = false := by
  unfold primaryLow at e
  unfold keeps at ka
  by_cases pa : a.key = some sPrimary
  · rw [if_pos pa] at e; cases e
  · rw [if_neg pa] at e; exact ⟨e, by simpa [pa] using ka⟩

/-- the hypothesis under which no two assemblies are written to the same file:
    `sep` for every pair; `noAdd` only matters in the single-haplotype branch when there is a `Haplotig` assembly
    (it is renamed `additional_haplotigs` and made curated) -/
structure FileSafe (outs : List OutAsm) : Prop where
  sep : outs.Pairwise Sep
  noAdd : ¬ HasKey outs (some sPrimary) → HasKey outs none → HasKey outs (some sHaplotig) →
    ∀ a ∈ outs, a.curated = true → lowerKey a ≠ some sAddHap

/-- the (stronger) hypothesis under which no two assemblies get the same `name`; `noAll` only matters in the `Primary`
    branch when something is merged into `all_haplotigs` -/
structure NameSafe (outs : List OutAsm) : Prop where
  sep : outs.Pairwise SepLower
  noAdd : ¬ HasKey outs (some sPrimary) → HasKey outs none → HasKey outs (some sHaplotig) →
    ∀ a ∈ outs, lowerKey a ≠ some sAddHap
  noAll : HasKey outs (some sPrimary) → others outs ≠ [] → ∀ a ∈ outs, lowerKey a ≠ some sAllHap

/-- the file-level hypotheses in the form the properties state them -/
theorem FileSafe.of_keys {outs : List OutAsm} (hkeys : (outs.map (·.key)).Nodup)
    (hcase : outs.Pairwise (fun a b => a.key.map lowerStr = b.key.map lowerStr → a.curated ≠ b.curated))
    (hadd : ¬ HasKey outs (some sPrimary) → HasKey outs none → HasKey outs (some sHaplotig) →
      ∀ a ∈ outs, a.curated = true → a.key.map lowerStr ≠ some "additional_haplotig".toList) : FileSafe outs :=
  ⟨(List.pairwise_map.1 hkeys).and hcase, hadd⟩

theorem NameSafe.fileSafe {outs : List OutAsm} (h : NameSafe outs) : FileSafe outs :=
  ⟨h.sep.imp (fun h => h.sep), fun h1 h2 h3 a ha _ => h.noAdd h1 h2 h3 a ha⟩

/-- every name ends in 's' or 'y' (so appending ".curated" never gives another assembly's name) -/
theorem named_ends (outs : List OutAsm) (root v : Str) (named : List NamedAsm)
    (h : nameAssemblies outs root v = .ok named) : ∀ n ∈ named, EndsSY n.name := by
  intro n hn
  rcases nameAssemblies_cases outs root v named h with ⟨_, hc, rfl⟩ | ⟨_, _, rfl⟩ | ⟨_, hnk, rfl⟩
  · rcases List.mem_append.1 hn with hn | hn
    · rw [filterMap_primaryName root v outs hc] at hn
      obtain ⟨a, _, rfl⟩ := List.mem_map.1 hn
      exact endsSY_dj3 ..
    · rw [(mem_mergedPart.1 hn).2, allHaplotigs_rec]; exact endsSY_dj3 ..
  · obtain ⟨a, _, rfl⟩ := List.mem_map.1 hn
    rw [singleName_rec]; exact endsSY_dj3 ..
  · obtain ⟨a, ha, rfl⟩ := List.mem_map.1 hn
    obtain ⟨k, hk⟩ := key_some_of_not_none outs hnk a ha
    rw [multiName_rec root v a k hk]
    cases a.curated
    · exact endsSY_dj3 ..
    · exact endsSY_dj4 ..

/-- the skeleton of both `Nodup` results: `f` takes different values on the named assemblies as soon as, in each branch of
    `name_assemblies`, it tells apart the images of two input assemblies that `S` separates -/
theorem named_map_nodup {β} (f : NamedAsm → β) (S : OutAsm → OutAsm → Prop) (outs : List OutAsm) (root v : Str)
    (named : List NamedAsm) (h : nameAssemblies outs root v = .ok named) (hS : outs.Pairwise S)
    (hprim : ∀ a b, keeps a = true → keeps b = true → (a.key = none → a.curated = true) → (b.key = none → b.curated = true) →
      S a b → f (primaryKept root v a) ≠ f (primaryKept root v b))
    (hmerged : HasKey outs (some sPrimary) → others outs ≠ [] → ∀ a ∈ outs, keeps a = true →
      f (primaryKept root v a) ≠ f (allHaplotigs root v outs))
    (hsingle : ¬ HasKey outs (some sPrimary) → HasKey outs none → ∀ a ∈ outs, ∀ b ∈ outs, S a b →
      f (singleName root v a) ≠ f (singleName root v b))
    (hmulti : ∀ a b ka kb, a.key = some ka → b.key = some kb → S a b → f (multiName root v a) ≠ f (multiName root v b)) :
    (named.map f).Nodup := by
  rcases nameAssemblies_cases outs root v named h with ⟨hp, hc, rfl⟩ | ⟨hp, hnk, rfl⟩ | ⟨_, hnk, rfl⟩
  · rw [filterMap_primaryName root v outs hc, List.map_append, List.nodup_append]
    refine ⟨?_, ?_, ?_⟩
    · unfold List.Nodup
      rw [List.pairwise_map, List.pairwise_map]
      refine (hS.filter _).imp_of_mem fun {a b} ha hb hab => ?_
      obtain ⟨ha, ka⟩ := List.mem_filter.1 ha
      obtain ⟨hb, kb⟩ := List.mem_filter.1 hb
      exact hprim a b ka kb (hc a ha) (hc b hb) hab
    · unfold mergedPart; split <;> simp
    · intro x hx y hy
      obtain ⟨_, hn, rfl⟩ := List.mem_map.1 hx
      obtain ⟨a, ha, rfl⟩ := List.mem_map.1 hn
      obtain ⟨m, hm, rfl⟩ := List.mem_map.1 hy
      obtain ⟨hne, rfl⟩ := mem_mergedPart.1 hm
      obtain ⟨ha, ka⟩ := List.mem_filter.1 ha
      exact hmerged hp hne a ha ka
  · unfold List.Nodup
    rw [List.pairwise_map, List.pairwise_map]
    exact hS.imp_of_mem (fun {a b} ha hb hab => hsingle hp hnk a ha b hb hab)
  · unfold List.Nodup
    rw [List.pairwise_map, List.pairwise_map]
    refine hS.imp_of_mem (fun {a b} ha hb hab => ?_)
    obtain ⟨ka, hka⟩ := key_some_of_not_none outs hnk a ha
    obtain ⟨kb, hkb⟩ := key_some_of_not_none outs hnk b hb
    exact hmulti a b ka kb hka hkb hab

theorem named_stems_nodup (outs : List OutAsm) (root v : Str) (named : List NamedAsm)
    (h : nameAssemblies outs root v = .ok named) (hs : FileSafe outs) : (named.map stemKey).Nodup := by
  refine named_map_nodup stemKey Sep outs root v named h hs.sep
    (fun a b ka kb ca cb hab e => ?_) (fun _ _ a _ ka e => ?_)
    (fun hp hnk a ha b hb hab => single_stem_ne root v a b hab
      (fun hk => hs.noAdd hp hnk ⟨b, hb, hk⟩ a ha) (fun hk => hs.noAdd hp hnk ⟨a, ha, hk⟩ b hb))
    (fun a b ka kb hka hkb hab e => ?_)
  · rcases primaryLow_eq a b ka kb ca cb (dj3_inj (Prod.mk.inj e).1) with e | ⟨e, c1, c2⟩
    · exact hab.1 e
    · exact hab.2 e (c1.trans c2.symm)
  · -- the merged assembly is curated, a kept one with its name is not
    rw [allHaplotigs_rec] at e
    have := (primaryLow_eq_all a ka (dj3_inj (Prod.mk.inj e).1)).2
    rw [show a.curated = true from (Prod.mk.inj e).2] at this
    cases this
  · obtain ⟨e, c⟩ := multi_name_eq root v a b ka kb hka hkb (Prod.mk.inj e).1
    exact hab.2 e c

theorem named_names_nodup (outs : List OutAsm) (root v : Str) (named : List NamedAsm)
    (h : nameAssemblies outs root v = .ok named) (hs : NameSafe outs) : (named.map (·.name)).Nodup := by
  refine named_map_nodup (·.name) SepLower outs root v named h hs.sep
    (fun a b ka kb ca cb hab e => ?_) (fun hp hne a ha ka e => ?_)
    (fun hp hnk a ha b hb hab => single_name_ne root v a b hab
      (fun hk => hs.noAdd hp hnk ⟨b, hb, hk⟩ a ha) (fun hk => hs.noAdd hp hnk ⟨a, ha, hk⟩ b hb))
    (fun a b ka kb hka hkb hab e => hab (multi_name_eq root v a b ka kb hka hkb e).1)
  · rcases primaryLow_eq a b ka kb ca cb (dj3_inj e) with e | ⟨e, _, _⟩
    · exact hab.key_ne e
    · exact hab e
  · rw [allHaplotigs_rec] at e
    exact hs.noAll hp hne a ha (primaryLow_eq_all a ka (dj3_inj e)).1

end AgpTpf.CliPlan
