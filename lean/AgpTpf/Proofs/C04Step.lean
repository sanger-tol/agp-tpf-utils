/-
  The line loop of `index_fasta_file` (fasta/index.py; model `indexLine`, `storeInfo`, `indexFasta`) taken apart once.
  A line is empty (IndexError), a header line (`finish` the record before it, then `hdrTail`) or a sequence line (`seqLine`);
  `process_seq_buffer()` occurs in two places only: at the start of `store_info()` and when a sequence line overflows the buffer.
  The memory bound and buffer-size independence (C03Index), the index specification (C04Loop) and the tie of
  the translated source (ImpIndex) all read the loop through the equations of this file.
-/
import AgpTpf.Model.Fasta
import AgpTpf.Proofs.Lib.Py
namespace AgpTpf.C04
def tokOf (hdr : Bytes) : Bytes := (hdr.dropWhile isBSpace).takeWhile (fun b => !isBSpace b)

/-- the flush in `store_info`: `if region_end: seq_regions.append((region_start, region_end))` -/
def closeReg (σ : Int × Option Int × List (Int × Int)) : List (Int × Int) :=
  match σ.2.1 with
  | some r => if r ≠ 0 then σ.2.2 ++ [(σ.1, r)] else σ.2.2
  | none => σ.2.2
end AgpTpf.C04
namespace AgpTpf.IndexProofs
open AgpTpf AgpTpf.C04

/-- what `store_info` appends once the buffer is processed and the name is new -/
def storedK (z : IdxState) : IdxState :=
  let regs := closeReg (z.regionStart, z.regionEnd, z.seqRegions)
  let name := z.name.getD []
  let rr := regionRows name z.nextOid 0 regs
  { z with seqRegions := regs,
           idx := z.idx ++ [(name, { length := z.seqLength, fileOffset := z.fileOffset, rpl := z.rpl.getD 0,
                                     mll := z.rpl.getD 0 + z.lineEndBytes })],
           scaffolds := z.scaffolds ++ [{ name := name, rows :=
             if z.seqLength - rr.2.2 ≠ 0 then rr.1 ++ [Row.gap { length := z.seqLength - rr.2.2, gapType := Gen.fastaGapType }]
             else rr.1 }],
           nextOid := rr.2.1 }

/-- `store_info` after its initial `process_seq_buffer` -/
def storeK (z : IdxState) : R IdxState := if dHas z.idx (z.name.getD []) then .error .value else .ok (storedK z)

theorem storeInfo_eq (a : IdxState) : storeInfo a = storeK (processSeqBuffer a) := by
  unfold storeInfo storeK
  generalize processSeqBuffer a = z
  simp only [bind, Except.bind, pure, Except.pure, throw, throwThe, MonadExceptOf.throw]
  split <;> rfl

/-- `if name: store_info()` — before a header line and at end of file -/
def finish (st : IdxState) : R IdxState := if st.name.isSome then storeInfo st else .ok st

def bumpPos (a : IdxState) (n : Nat) : IdxState := { a with pos := a.pos + n }

def resetHdr (v : IdxState) (name : Str) (b2 : Nat) : IdxState :=
  { v with name := some name, seqLength := 0, rpl := some 0, regionStart := 0, regionEnd := none,
           seqRegions := [], fileOffset := v.pos, lineEndBytes := if b2 = 13 then 2 else 1 }

/-- name token and line ending of a header line -/
def hdrTail (line : Bytes) (v : IdxState) : R IdxState :=
  if (tokOf (line.drop 1)).isEmpty then .error .index
  else bytesToStr (tokOf (line.drop 1)) >>= fun name => pyGet line (-2) >>= fun b2 => .ok (resetHdr v name b2)

def keepOf (leb : Int) (line : Bytes) : Bytes :=
  if line.getLast? = some 10 then line.take (line.length - leb.toNat) else line

/-- `residues_per_line`, `seq_buffer.write(seq)`, `fh.tell()` and the memory observation -/
def addKeep (st : IdxState) (n : Nat) (keep : Bytes) (r : Int) : IdxState :=
  { st with pos := st.pos + n, rpl := some (if r = 0 then (keep.length : Int) else r), buffer := st.buffer ++ keep,
            maxBuffered := max st.maxBuffered (st.buffer ++ keep).length }

/-- a sequence line: `line[:-None]` before any header is TypeError, so is `process_seq_buffer()` there -/
def seqLine (bs : Int) (st : IdxState) (line : Bytes) : R IdxState :=
  if st.rpl = none ∧ line.getLast? = some 10 then .error .type
  else
    let st1 := addKeep st line.length (keepOf st.lineEndBytes line) (st.rpl.getD 0)
    if (st1.buffer.length : Int) > bs then (if st.name.isNone then .error .type else .ok (processSeqBuffer st1))
    else .ok st1

theorem indexLine_nil (bs : Int) (st : IdxState) : indexLine bs st [] = .error .index := rfl

theorem indexLine_header (bs : Int) (st : IdxState) (tl : Bytes) :
    indexLine bs st (62 :: tl) = finish (bumpPos st (62 :: tl).length) >>= hdrTail (62 :: tl) := by
  unfold indexLine hdrTail tokOf finish bumpPos resetHdr
  simp only [pyGet_zero_cons, bind, Except.bind, pure, Except.pure, if_true]
  by_cases hn : st.name.isSome = true
  · simp only [hn, if_true]
    cases storeInfo _ with
    | error e => rfl
    | ok v => dsimp only; split <;> rfl
  · simp only [hn, Bool.false_eq_true, if_false]
    split <;> rfl

theorem indexLine_seq (bs : Int) (st : IdxState) {b0 : Nat} (tl : Bytes) (hb : b0 ≠ 62) :
    indexLine bs st (b0 :: tl) = seqLine bs st (b0 :: tl) := by
  unfold indexLine
  rw [pyGet_zero_cons]
  -- drop the header branch before anything walks over it
  refine (if_neg hb).trans ?_
  generalize b0 :: tl = line
  unfold seqLine
  simp only [bind, Except.bind, pure, Except.pure]
  cases hr : st.rpl with
  | none =>
    by_cases hl : line.getLast? = some 10
    · simp only [hl, and_self, if_true]; rfl
    · simp only [hl, and_false, if_false, Option.getD_none, keepOf, addKeep, if_true]
      rfl
  | some r =>
    simp only [reduceCtorEq, false_and, if_false, Option.getD_some]
    by_cases h0 : r = 0
    · simp only [h0, if_true, addKeep, keepOf]
      rfl
    · simp only [h0, if_false, addKeep, keepOf]
      rfl

theorem indexFasta_eq (lines : List Bytes) (bs : Int) :
    indexFasta lines bs = lines.foldlM (indexLine bs) {} >>= finish >>= fun st =>
      if st.idx.isEmpty then .error .value else .ok st := by
  unfold indexFasta finish
  cases lines.foldlM (indexLine bs) {} with
  | error e => rfl
  | ok st =>
    cases hn : st.name.isSome <;>
      simp only [bind, Except.bind, pure, Except.pure, hn, if_true, Bool.false_eq_true, if_false] <;> rfl

theorem seqLine_seen (bs : Int) {st : IdxState} (line : Bytes) (hI : st.name ≠ none) :
    seqLine bs st line =
      if st.rpl = none ∧ line.getLast? = some 10 then .error .type
      else .ok (if (((st.buffer ++ keepOf st.lineEndBytes line).length : Nat) : Int) > bs
        then processSeqBuffer (addKeep st line.length (keepOf st.lineEndBytes line) (st.rpl.getD 0))
        else addKeep st line.length (keepOf st.lineEndBytes line) (st.rpl.getD 0)) := by
  obtain ⟨nm, hn⟩ := Option.ne_none_iff_exists'.mp hI
  simp only [seqLine, hn, Option.isNone_some, Bool.false_eq_true, if_false]
  split
  · rfl
  · exact (apply_ite Except.ok _ _ _).symm

theorem seqLine_some (bs : Int) {st : IdxState} (line : Bytes) {r : Int} {nm : Str}
    (hr : st.rpl = some r) (hn : st.name = some nm) :
    seqLine bs st line = .ok
      (if (((st.buffer ++ keepOf st.lineEndBytes line).length : Nat) : Int) > bs
        then processSeqBuffer (addKeep st line.length (keepOf st.lineEndBytes line) r)
        else addKeep st line.length (keepOf st.lineEndBytes line) r) := by
  rw [seqLine_seen bs line (by rw [hn]; exact Option.some_ne_none nm), hr]
  exact if_neg fun h => nomatch h.1

theorem seqLine_pre_term (bs : Int) {st : IdxState} {line : Bytes} (hr : st.rpl = none) (hl : line.getLast? = some 10) :
    seqLine bs st line = .error .type := by
  simp only [seqLine, hr, hl, and_self, if_true]

theorem seqLine_ok {bs : Int} {st st' : IdxState} {line : Bytes} (h : seqLine bs st line = .ok st') :
    ∃ r, (st' = addKeep st line.length (keepOf st.lineEndBytes line) r ∧
            (((st.buffer ++ keepOf st.lineEndBytes line).length : Nat) : Int) ≤ bs) ∨
         (st' = processSeqBuffer (addKeep st line.length (keepOf st.lineEndBytes line) r) ∧ st.name.isNone = false) := by
  unfold seqLine at h
  refine ⟨st.rpl.getD 0, ?_⟩
  split at h
  · cases h
  · dsimp only at h
    split at h
    · split at h
      · cases h
      · cases h; exact .inr ⟨rfl, Bool.eq_false_iff.mpr ‹_›⟩
    · cases h; exact .inl ⟨rfl, Int.not_lt.mp ‹_›⟩

/-- `store_info` neither reads nor writes the file position and the memory observation -/
theorem storeK_comm (fp : Int → Int) (fm : Nat → Nat) (z : IdxState) :
    storeK { z with pos := fp z.pos, maxBuffered := fm z.maxBuffered } =
      (storeK z).map fun v => { v with pos := fp v.pos, maxBuffered := fm v.maxBuffered } := by
  unfold storeK
  show (if dHas z.idx (z.name.getD []) = true then _ else _) = Except.map _ (if dHas z.idx (z.name.getD []) = true then _ else _)
  split <;> rfl

theorem finish_bump (a : IdxState) (n : Nat) : finish (bumpPos a n) = (finish a).map (bumpPos · n) := by
  unfold finish
  show (if a.name.isSome = true then _ else _) = _
  split
  · exact storeK_comm (· + (n : Int)) id (processSeqBuffer a)
  · rfl

theorem indexLine_header_error (bs : Int) {st : IdxState} (tl : Bytes) {e : Err} (hf : finish st = .error e) :
    indexLine bs st (62 :: tl) = .error e := by
  rw [indexLine_header, finish_bump, hf]
  rfl

theorem storeK_ok {z v : IdxState} (h : storeK z = .ok v) :
    v.buffer = z.buffer ∧ v.maxBuffered = z.maxBuffered ∧ v.pos = z.pos := by
  unfold storeK at h
  split at h
  · cases h
  · cases h; exact ⟨rfl, rfl, rfl⟩

theorem finish_ok {a v : IdxState} (h : finish a = .ok v) :
    (v.buffer = a.buffer ∨ v.buffer = []) ∧ v.maxBuffered = a.maxBuffered ∧ v.pos = a.pos := by
  unfold finish at h
  split at h
  · obtain ⟨h1, h2, h3⟩ := storeK_ok (storeInfo_eq a ▸ h)
    exact ⟨.inr h1, h2, h3⟩
  · cases h; exact ⟨.inl rfl, rfl, rfl⟩

theorem hdrTail_cases (line : Bytes) :
    (∃ e, ∀ v, hdrTail line v = .error e) ∨ ∃ nm b2, nm ≠ [] ∧ ∀ v, hdrTail line v = .ok (resetHdr v nm b2) := by
  unfold hdrTail
  split
  · exact .inl ⟨_, fun _ => rfl⟩
  · next hne =>
    cases hs : bytesToStr (tokOf (line.drop 1)) with
    | error e => exact .inl ⟨e, fun _ => rfl⟩
    | ok nm =>
      cases pyGet line (-2) with
      | error e => exact .inl ⟨e, fun _ => rfl⟩
      | ok b2 =>
        refine .inr ⟨nm, b2, ?_, fun _ => rfl⟩
        rintro rfl
        unfold bytesToStr at hs
        split at hs
        · simp only [Except.ok.injEq, List.map_eq_nil_iff] at hs
          exact hne (by rw [hs]; rfl)
        · cases hs

theorem hdrTail_ok {line : Bytes} {v st' : IdxState} (h : hdrTail line v = .ok st') :
    ∃ nm b2, nm ≠ [] ∧ st' = resetHdr v nm b2 := by
  rcases hdrTail_cases line with ⟨e, he⟩ | ⟨nm, b2, hne, hok⟩
  · rw [he] at h; cases h
  · rw [hok] at h; cases h; exact ⟨nm, b2, hne, rfl⟩

end AgpTpf.IndexProofs
