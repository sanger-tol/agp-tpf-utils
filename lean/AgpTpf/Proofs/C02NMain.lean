/-
  C02 "remapping never fails": THE MAP OF A WELL-FORMED SCRIPT IS A TILING
  (`Tiling (errLen p q) (ptxOf input s)`).  The fragments of the map are the pieces `(i, k)` of the script, one each
  (`piece_of_mem`, `piece_of_span`), so what the spans of one input scaffold do — ascend, cover `[1, ⌊T·β⌋]`, are long
  (`spansFrom_*`, the facts S1 / S2 of Properties/C02Script.lean state per scaffold) — is said of two fragments of the map
  with one scaffold name.
-/
import AgpTpf.Proofs.C02NSeq
import AgpTpf.Proofs.C02NFront
import AgpTpf.Proofs.C02NHold
import AgpTpf.Proofs.C02SCuts
namespace AgpTpf.C02
open AgpTpf AgpTpf.Pretext

section
variable {input : List Scaffold} {s : Script}

theorem piece_of_mem (hw : WfScript input s) {pf : Fragment} (h : pf ∈ ptxFrags (ptxOf input s)) :
    ∃ i k sc c ab, PieceOf input s pf i k sc c ab := by
  unfold ptxFrags at h
  rw [fragsOf_ptxOf_wf hw] at h
  obtain ⟨bx, hbx, rfl⟩ := List.mem_map.1 h
  obtain ⟨sc, c, ab, P, -⟩ := pieceOf_fragOf hw hbx
  exact ⟨_, _, sc, c, ab, P⟩

variable {p q : Fragment} {i j k k' : Nat} {sc sc' : Scaffold} {c c' : ScafScript} {ab ab' : Nat × Nat}

theorem PieceOf.same (hn : (input.map (·.name)).Nodup) (P : PieceOf input s p i k sc c ab)
    (Q : PieceOf input s q j k' sc' c' ab') (e : p.name = q.name) : i = j ∧ PieceOf input s q i k' sc c ab' := by
  have hij : i = j := (List.getElem?_inj (l := input.map (·.name))
    (by rw [List.length_map]; exact (List.getElem?_eq_some_iff.1 P.hsc).1) hn).1
    (by rw [List.getElem?_map, List.getElem?_map, P.hsc, Q.hsc]; exact congrArg some (P.name.symm.trans (e.trans Q.name)))
  subst hij
  cases P.hsc.symm.trans Q.hsc
  cases P.hc.symm.trans Q.hc
  exact ⟨rfl, Q⟩

theorem PieceOf.bounds (hw : WfScript input s) (P : PieceOf input s p i k sc c ab) :
    1 ≤ p.start ∧ p.start ≤ p.stop ∧ p.stop ≤ (coord s.p s.q c.T : Int) := by
  have := spansFrom_bounds hw.hq hw.hpq (P.span hw).2.1 (P.span hw).1
  rw [P.start, P.stop]
  omega

theorem PieceOf.lt (hw : WfScript input s) (P : PieceOf input s p i k sc c ab) (Q : PieceOf input s q i k' sc c ab')
    (h : k < k') : p.stop < q.start := by
  have hpw := spansFrom_pairwise hw.hq hw.hpq (P.span hw).2.1
  rw [← spans_present P.present, List.pairwise_iff_getElem] at hpw
  obtain ⟨l1, e1⟩ := List.getElem?_eq_some_iff.1 P.hab
  obtain ⟨l2, e2⟩ := List.getElem?_eq_some_iff.1 Q.hab
  have := hpw k k' l1 l2 h
  rw [e1, e2] at this
  rw [P.stop, Q.start]
  exact_mod_cast this

end

theorem script_is_tiling {input : List Scaffold} {s : Script} (hwf : wfScript input s = true)
    (hn : (input.map (·.name)).Nodup) : Tiling (errLen s.p s.q : Int) (ptxOf input s) := by
  have hw := wfScript_spec hwf
  have hpair : ∀ {p q : Fragment}, p ∈ ptxFrags (ptxOf input s) → q ∈ ptxFrags (ptxOf input s) → p.name = q.name →
      ∃ i k k' sc c ab ab', PieceOf input s p i k sc c ab ∧ PieceOf input s q i k' sc c ab' := by
    intro p q hp hq e
    obtain ⟨i, k, sc, c, ab, P⟩ := piece_of_mem hw hp
    obtain ⟨j, k', sc', c', ab', Q⟩ := piece_of_mem hw hq
    exact ⟨i, k, k', sc, c, ab, ab', P, (P.same hn Q e).2⟩
  refine ⟨?_, ?_, ?_, ?_⟩
  · intro p hp
    obtain ⟨i, k, sc, c, ab, P⟩ := piece_of_mem hw hp
    exact (P.bounds hw).2.1
  · -- different places of the map hold different pieces
    unfold PtxDisjoint
    rw [fragsOf_ptxOf_wf hw, List.pairwise_map]
    refine (itemsT_pairwise hw).imp_of_mem fun {a a'} ha ha' hne hname => ?_
    obtain ⟨sc, c, ab, P, -⟩ := pieceOf_fragOf hw ha
    obtain ⟨sc', c', ab', Q, -⟩ := pieceOf_fragOf hw ha'
    obtain ⟨hij, Q⟩ := P.same hn Q hname
    rcases Nat.lt_trichotomy a.2.k a'.2.k with h | h | h
    · exact .inl (P.lt hw Q h)
    · exact absurd (by rw [hij, h]) hne
    · exact .inr (Q.lt hw P h)
  · -- the base `x` lies in `[1, ⌊T·β⌋]`, which the spans of the scaffold cover
    intro p hp q hq hname x hx1 hx2
    obtain ⟨i, k, k', sc, c, ab, ab', P, Q⟩ := hpair hp hq hname
    have hP := P.bounds hw
    have hQ := Q.bounds hw
    obtain ⟨z, rfl⟩ := Int.eq_ofNat_of_zero_le (show 0 ≤ x by omega)
    obtain ⟨y, hy, hy1, hy2⟩ := spansFrom_cover (p := s.p) (q := s.q) (a := 0) (T := c.T) (cuts := c.cuts) z
      (by rw [coord_zero]; omega) (by omega)
    obtain ⟨bz, hbz, -, M⟩ := piece_of_span hw P.hsc P.hc (spans_present P.present ▸ hy)
    exact ⟨_, by unfold ptxFrags; rw [fragsOf_ptxOf_wf hw]; exact List.mem_map_of_mem hbz, M.name.trans P.name.symm,
      by rw [M.start]; exact_mod_cast hy1, by rw [M.stop]; exact_mod_cast hy2⟩
  · intro m hm ⟨p, hp, hpn, hpm⟩ _
    obtain ⟨i, k, k', sc, c, ab, ab', M, P⟩ := hpair hm hp hpn.symm
    refine M.long hw fun e => ?_
    -- an uncut scaffold has one piece
    have hl : (c.spans s.p s.q).length = 1 := by rw [spans_present M.present, spansFrom_length, e]; rfl
    have k1 := (List.getElem?_eq_some_iff.1 M.hab).1
    have k2 := (List.getElem?_eq_some_iff.1 P.hab).1
    obtain rfl : k = k' := by omega
    cases M.hab.symm.trans P.hab
    have := (M.bounds hw).2.1
    rw [P.stop, ← M.stop] at hpm
    omega

end AgpTpf.C02

/-! C02 "remapping never fails": `remap_to_input_assembly` as a whole never raises on a
tiling map whose scaffolds are `PtxScafOk`; the map of a well-formed script is such a map. -/
namespace AgpTpf.C02
open AgpTpf AgpTpf.Pretext OverlapResult
open AgpTpf.C01 (WFInput inputFrags)

/-- Proofs-level form of N1c (`Properties/C02NoError`) -/
theorem cut_remaining_ok_for_tiling' (input ptx : List Scaffold) (prefix_ : Str) (joinGap : Option Gap) (err : Int)
    (hwf : WFInput input) (hnn : InputNonNeg input) (hstr : ∀ f ∈ inputFrags input, f.strand = 1 ∨ f.strand = -1)
    (herr : 0 ≤ err) (hT : Tiling err ptx) (b1 b2 : Build) (fuel : Nat)
    (h1 : findAssemblyOverlaps input ptx (C09.startBuild input prefix_ joinGap err) = .ok b1)
    (h2 : discardOverhanging fuel b1 = .ok b2) :
    ∃ b3, cutRemaining b2 = .ok b3 := by
  have hctx := holdCtx_after_resolver input ptx prefix_ joinGap err hwf hnn hstr herr hT b1 b2 fuel h1 h2
  apply cutRemaining_returns hctx
  intro f hf
  rw [(Pipeline.discardOverhanging_frame h2).2.1, (Pipeline.findAssemblyOverlaps_frame h1).2.2.2.2]
  exact (Pipeline.foldl_max_oid _ 0).2 f hf

theorem remapToInput_ok_of_tiling (input ptx : List Scaffold) (prefix_ : Str) (jg : Gap) (err : Int)
    (hwf : WFInput input) (hnn : InputNonNeg input) (hstr : ∀ f ∈ inputFrags input, f.strand = 1 ∨ f.strand = -1)
    (hrows : ∀ sc ∈ input, sc.rows ≠ []) (hut : ∀ sc ∈ input, ∀ f ∈ sc.fragments, f.tags = [])
    (herr : 0 ≤ err) (hT : Tiling err ptx) (hp : ∀ S ∈ ptx, PtxScafOk input S) :
    ∃ b, remapToInput input ptx prefix_ (some jg) err = .ok b := by
  obtain ⟨b1, h1⟩ := findAssemblyOverlaps_returns hwf.1 hnn hrows ptx hp (Pipeline.initBuild input prefix_ (some jg) err)
  obtain ⟨hm1, _, hj1, _, _⟩ := C01.reg_after_find_aux input ptx _ b1 ⟨rfl, rfl, rfl⟩ h1
  obtain ⟨b2, h2⟩ := discardOverhanging_returns hwf (totalRows b1.store + 2) b1 hm1 (by omega)
  obtain ⟨b3, h3⟩ := cut_remaining_ok_for_tiling' input ptx prefix_ (some jg) err hwf hnn hstr herr hT b1 b2 _ h1 h2
  have hj3 : b3.joinGap = some jg := by
    rw [(Pipeline.cutRemaining_frame h3).1.joinGap, (Pipeline.discardOverhanging_frame h2).1.joinGap, hj1]; rfl
  obtain ⟨b, h4⟩ := addMissing_returns jg input { b3 with store := renameBySize b3.store b3.namer.haplotigScaffolds } hj3 hut
  exact ⟨b, Pipeline.remapToInput_of hwf.1 h1 h2 h3 ((Pipeline.addMissing_eq _ _).trans h4)⟩

theorem script_ptx_ok {input : List Scaffold} {s : Script} (hw : WfScript input s) :
    ∀ S ∈ ptxOf input s, PtxScafOk input S := by
  intro S hS
  obtain ⟨g, n, x, r, t, -, hitems, -, hrows, hfr, hit⟩ := mem_ptxOf_wf hw hS
  have hall : ∀ p ∈ S.fragments, (p.tags = if g.painted then [sPainted] else []) ∧ ∃ sc ∈ input, sc.name = p.name := by
    intro p hp
    rw [hfr] at hp
    obtain ⟨y, hy, rfl⟩ := List.mem_map.1 hp
    obtain ⟨sc, c, ab, P, htags⟩ := pieceOf_fragOf hw (hit y hy)
    exact ⟨htags, sc, P.mem_input, P.name.symm⟩
  refine ⟨⟨_, t, hrows⟩, ?_, fun p hp => (hall p hp).2⟩
  cases hpt : g.painted with
  | false => exact Or.inl fun p hp => by rw [(hall p hp).1, hpt]; rfl
  | true => exact Or.inr ⟨by rw [hfr, hitems]; simp, fun p hp => by rw [(hall p hp).1, hpt]; rfl⟩

end AgpTpf.C02
