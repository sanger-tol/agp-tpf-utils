/-
  C08, part 7 (painted variant, output): the fused scaffolds of a painted unedited map are a painted prefix (the Pretext
  scaffolds, under their own pairwise different names) followed by the absent input scaffolds, and `paintedNamed` is their
  renaming by size — so the output is that of `Run.assembliesFused_primary`.
-/
import AgpTpf.Proofs.C08Out
import AgpTpf.Proofs.C08Check
namespace AgpTpf.C08
open AgpTpf
open AgpTpf.C02 (namedBySize sizeOrderG PaintedPrefix)

structure PaintedOk (input : List Scaffold) (pieces : List Piece) (err : Int) : Prop where
  unedited : Unedited input pieces err
  pnames : (pieces.map (·.pname)).Nodup
  pnonempty : ∀ p ∈ pieces, p.pname ≠ []
  pdisj : ∀ p ∈ pieces, ∀ sc ∈ absentOf input pieces, p.pname ≠ sc.name

theorem paintedFused_names_nodup (input : List Scaffold) (pieces : List Piece) (err : Int)
    (hp : PaintedOk input pieces err) : ((paintedFused input pieces).map (·.name)).Nodup := by
  unfold paintedFused
  rw [List.map_append, List.nodup_append, List.map_map, List.map_map]
  refine ⟨hp.pnames, absentOf_names_nodup pieces hp.unedited.names, ?_⟩
  intro a ha b hb e
  obtain ⟨p, hp', rfl⟩ := List.mem_map.1 ha
  obtain ⟨sc, hsc, rfl⟩ := List.mem_map.1 hb
  exact hp.pdisj p hp' sc hsc e

/-- indices of the painted scaffolds, longest (total contig length) first, ties in Pretext order -/
def sizeOrder (input : List Scaffold) (pieces : List Piece) : List Nat :=
  stableSort (fun i j => decide (fragLen (paintedFused input pieces) i ≥ fragLen (paintedFused input pieces) j))
    (List.range pieces.length)

def sizeRank (input : List Scaffold) (pieces : List Piece) (i : Nat) : Nat := (sizeOrder input pieces).idxOf i + 1

/-- the fused scaffolds after `name_chromosomes`: painted scaffold `i` is called `prefix ++ rank`, the rest is unchanged -/
def paintedNamed (prefix_ : Str) (input : List Scaffold) (pieces : List Piece) : List Scaffold :=
  pieces.mapIdx (fun i p => { paintedOut p with name := prefix_ ++ natToStr (sizeRank input pieces i) }) ++
    (absentOf input pieces).map absentOut

theorem paintedFused_getD_lt (input : List Scaffold) (pieces : List Piece) (i : Nat) (hi : i < pieces.length) :
    (paintedFused input pieces).getD i default = paintedOut pieces[i] := by
  unfold paintedFused
  rw [List.getD_eq_getElem?_getD, List.getElem?_append_left (by simpa using hi)]
  simp [hi]

theorem paintedNamed_rows (prefix_ : Str) (input : List Scaffold) (pieces : List Piece) :
    (paintedNamed prefix_ input pieces).map (·.rows) = (outScaffolds input pieces).map (·.rows) := by
  unfold paintedNamed outScaffolds
  simp only [List.map_append, List.map_map]
  congr 1
  apply List.ext_getElem?
  intro i
  simp [List.getElem?_mapIdx, paintedOut, presentOut, Function.comp_def]

theorem paintedNamed_eq (prefix_ : Str) (input : List Scaffold) (pieces : List Piece) :
    paintedNamed prefix_ input pieces = namedBySize prefix_ (paintedFused input pieces) pieces.length := by
  unfold paintedNamed namedBySize paintedFused
  rw [List.mapIdx_append]
  congr 1
  · apply List.ext_getElem?
    intro i
    simp only [List.getElem?_mapIdx, List.getElem?_map]
    cases h : pieces[i]? with
    | none => rfl
    | some p =>
      have hi : i < pieces.length := (List.getElem?_eq_some_iff.1 h).1
      simp [hi, sizeRank, sizeOrder, sizeOrderG, paintedFused]
  · apply List.ext_getElem?
    intro i
    have : ¬ (i + pieces.length < pieces.length) := by omega
    cases h : (absentOf input pieces)[i]? <;> simp [List.getElem?_mapIdx, h, this]

theorem paintedFused_prefix (input : List Scaffold) (pieces : List Piece) (err : Int) (hp : PaintedOk input pieces err)
    (hne : pieces ≠ []) : PaintedPrefix (paintedFused input pieces) pieces.length := by
  have h := C02.PaintedPrefix.of_append (P := pieces.map paintedOut) (E := (absentOf input pieces).map absentOut)
    (by simpa using hne)
    (by
      intro s hs
      obtain ⟨p, hp', rfl⟩ := List.mem_map.1 hs
      exact ⟨⟨rfl, rfl, rfl⟩, rfl, hp.pnonempty p hp'⟩)
    (by
      intro s hs
      obtain ⟨sc, -, rfl⟩ := List.mem_map.1 hs
      exact ⟨rfl, rfl, rfl⟩)
    (by rw [List.map_map]; exact hp.pnames)
  rwa [List.length_map] at h

theorem paintedNamed_rows_mem (prefix_ : Str) (input : List Scaffold) (pieces : List Piece) (err : Int)
    (hu : Unedited input pieces err) (rows : List Row) :
    rows ∈ (paintedNamed prefix_ input pieces).map (·.rows) ↔ rows ∈ input.map (·.rows) := by
  rw [paintedNamed_rows]
  exact outScaffolds_rows_mem input pieces err hu rows

theorem paintedNamed_rows_perm (prefix_ : Str) (input : List Scaffold) (pieces : List Piece) (err : Int)
    (hu : Unedited input pieces err) :
    ((paintedNamed prefix_ input pieces).map (·.rows)).Perm (input.map (·.rows)) := by
  rw [paintedNamed_rows]
  exact outScaffolds_rows_perm input pieces err hu

/-- **N4 on the build, painted.** -/
theorem assembliesFused_painted (input : List Scaffold) (pieces : List Piece) (err : Int) (hp : PaintedOk input pieces err)
    (hne : pieces ≠ []) (hstr : ∀ sc ∈ input, ∀ f ∈ sc.fragments, f.strand = 1 ∨ f.strand = -1)
    (b : Build) (hstore : b.store = pieces.map (·.resOf true))
    (hextra : b.extra = (absentOf input pieces).map (fun sc => (absentOut sc, none))) :
    ∃ st, assembliesFused input b =
        .ok ([{ key := none, curated := true,
                scaffolds := C20.smartSorted (paintedNamed b.namer.autosomePrefix input pieces) }], st) ∧
      st.cuts = b.cuts ∧ st.breaks = 0 ∧ st.joins = 0 := by
  have hu := hp.unedited
  have hfuse : fuseByName b = paintedFused input pieces :=
    fuseByName_shown true input pieces err hu (paintedFused_names_nodup input pieces err hp) b hstore hextra
  obtain ⟨st, hst, hc, hb, hj⟩ := makeStats_same_rows input (paintedNamed b.namer.autosomePrefix input pieces) b.cuts hstr
    (paintedNamed_rows_mem b.namer.autosomePrefix input pieces err hu)
  have hnil : (paintedNamed b.namer.autosomePrefix input pieces).isEmpty = false :=
    List.isEmpty_eq_false_iff.2 fun e => hne (List.mapIdx_eq_nil_iff.1 (List.append_eq_nil_iff.1 e).1)
  refine ⟨st, ?_, hc, hb, hj⟩
  rw [Run.assembliesFused_primary input b _ pieces.length hfuse (Run.PaintedPrefix.upTo (paintedFused_prefix input pieces err hp hne)),
    ← paintedNamed_eq, C02.primaryOnly, hnil]
  simp only [Bool.false_eq_true, if_false, hst]
  rfl

theorem fragLen_painted (input : List Scaffold) (pieces : List Piece) (i : Nat) (hi : i < pieces.length) :
    fragLen (paintedFused input pieces) i = pieces[i].sc.fragmentsLength := by
  unfold fragLen
  rw [paintedFused_getD_lt input pieces i hi]
  rfl

theorem sizeOrder_sorted (input : List Scaffold) (pieces : List Piece) :
    (sizeOrder input pieces).Pairwise
      (fun i j => fragLen (paintedFused input pieces) i ≥ fragLen (paintedFused input pieces) j) := by
  have := stableSort_sorted
    (fun i j => decide (fragLen (paintedFused input pieces) i ≥ fragLen (paintedFused input pieces) j))
    (fun a b => by simp only [decide_eq_true_eq]; omega)
    (fun a b c h1 h2 => by simp only [decide_eq_true_eq] at h1 h2 ⊢; omega) (List.range pieces.length)
  exact this.imp (fun h => by simpa using h)

def paintedOkB (input : List Scaffold) (pieces : List Piece) (err : Int) : Bool :=
  uneditedB input pieces err && decide ((pieces.map (·.pname)).Nodup) && pieces.all (fun p => !p.pname.isEmpty) &&
  pieces.all (fun p => (absentOf input pieces).all (fun sc => decide (p.pname ≠ sc.name)))

theorem paintedOk_of_check (input : List Scaffold) (pieces : List Piece) (err : Int)
    (h : paintedOkB input pieces err = true) : PaintedOk input pieces err := by
  unfold paintedOkB at h
  simp only [Bool.and_eq_true, decide_eq_true_eq, List.all_eq_true, Bool.not_eq_true'] at h
  obtain ⟨⟨⟨h1, h2⟩, h3⟩, h4⟩ := h
  refine ⟨unedited_of_check _ _ _ h1, h2, fun p hp e => ?_, h4⟩
  have := h3 p hp
  rw [e] at this; simp at this

end AgpTpf.C08
