/- warm = cold: the assembly `index_fasta_file` builds is carried by its AGP file without loss (C15/C17) -/
import AgpTpf.Proofs.C04Loop
import AgpTpf.Proofs.C05Agp
namespace AgpTpf.CliWarm
open AgpTpf AgpTpf.C04 AgpTpf.C05

theorem cold_eq (recs : List Rec) : (recs.foldl addRec {}).scaffolds = expScaffolds 0 recs := by
  rw [foldl_addRec]; rfl

theorem tiled_renum (name : Str) : ∀ (rows : List Row) (oid : Nat) (o : Int), Tiled name oid o rows →
    renumRows oid rows = rows ∧ ∀ r ∈ rows, (('\t' ∉ name → AgpRowOk r) ∧ ('\n' ∉ name → RowNoNl r)) := by
  intro rows
  induction rows with
  | nil => intro oid o _; exact ⟨rfl, fun r hr => nomatch hr⟩
  | cons row rest ih =>
    intro oid o h
    cases row with
    | frag f =>
      obtain ⟨hf, hle, ht⟩ := h
      obtain ⟨e, hall⟩ := ih (oid + 1) f.stop ht
      have h0 : f.oid = oid := by rw [hf]
      have h1 : f.name = name := by rw [hf]
      have h2 : f.tags = [] := by rw [hf]
      have h3 : f.strand = 1 := by rw [hf]
      refine ⟨by simp only [renumRows, e]; rw [← h0], List.forall_mem_cons.2 ⟨⟨fun hn => ?_, fun hn => ?_⟩, hall⟩⟩
      · show _ ∧ _ ∧ _ ∧ _ ∧ _
        rw [h1, h2, h3]
        exact ⟨hn, fun t ht => (nomatch ht), rfl, hle, .inr (.inl rfl)⟩
      · show _ ∧ _
        rw [h1, h2]
        exact ⟨hn, fun t ht => (nomatch ht)⟩
    | gap g =>
      obtain ⟨_, hty, ht⟩ := h
      obtain ⟨e, hall⟩ := ih oid (o + g.length) ht
      refine ⟨by simp only [renumRows, e], List.forall_mem_cons.2 ⟨⟨fun _ => ?_, fun _ => ?_⟩, hall⟩⟩
      · show '\t' ∉ g.gapType; rw [hty]; decide
      · show '\n' ∉ g.gapType; rw [hty]; decide

theorem countFrags_eq (rows : List Row) : countFrags rows = (fragmentsOf rows).length := by
  induction rows with
  | nil => rfl
  | cons r t ih => cases r <;> simp [countFrags, fragmentsOf, ih]

theorem countFrags_specRows (name : Str) (oid : Nat) (res : Bytes) :
    countFrags (specRows name oid res) = (runsOf res).length :=
  (countFrags_eq _).trans (specRows_frag_count name oid res)

theorem specRows_ne_nil (name : Str) (oid : Nat) (res : Bytes) (h : res ≠ []) : specRows name oid res ≠ [] := by
  intro e
  have := specRows_length name oid res
  rw [e] at this
  exact h (List.eq_nil_of_length_eq_zero (Int.natCast_eq_zero.1 this.symm))

theorem canon_cold (recs : List Rec) : ∀ k, canonScaffolds k (expScaffolds k recs) = expScaffolds k recs := by
  induction recs with
  | nil => intro k; rfl
  | cons r t ih =>
    intro k
    simp only [expScaffolds, canonScaffolds]
    rw [(tiled_renum r.name _ k 0 (specRows_tiled r.name k r.res)).1, countFrags_specRows, ih]

theorem namesChain_of_nodup : ∀ (scs : List Scaffold) (cur : Str), cur ∉ scs.map (·.name) → (scs.map (·.name)).Nodup →
    NamesChain cur scs := by
  intro scs
  induction scs with
  | nil => intro _ _ _; trivial
  | cons s t ih =>
    intro cur hc hnd
    simp only [List.map_cons, List.mem_cons, not_or, List.nodup_cons] at hc hnd
    exact ⟨fun h => hc.1 h.symm, ih s.name hnd.1 hnd.2⟩

theorem toNat_ofNat_of_lt : ∀ b, b < 128 → (Char.ofNat b).toNat = b := by decide +kernel

theorem ofNat_eq_of_lt (b : Nat) (c : Nat) (hb : b < 128) (hc : c < 128) (h : Char.ofNat b = Char.ofNat c) : b = c := by
  have h1 : (Char.ofNat b).toNat = b := toNat_ofNat_of_lt _ hb
  have h2 : (Char.ofNat c).toNat = c := toNat_ofNat_of_lt _ hc
  rw [← h1, ← h2, h]

theorem tok_no_space (hdr : Bytes) : ∀ b ∈ tokOf hdr, isBSpace b = false := by
  intro b hb
  unfold tokOf at hb
  simpa using List.all_eq_true.1 List.all_takeWhile b hb

/-- names of well-formed records: no `bytes.isspace` byte at all -/
theorem rec_name (r : Rec) (h : r.WF) :
    r.name ≠ [] ∧ '\t' ∉ r.name ∧ '\n' ∉ r.name ∧
      ∀ c ∈ r.name, c.toNat < 128 ∧ (isSpace c = true → 28 ≤ c.toNat ∧ c.toNat ≤ 31) := by
  have key : ∀ c ∈ r.name, ∃ b, b < 128 ∧ isBSpace b = false ∧ c = Char.ofNat b := by
    intro c hc
    obtain ⟨b, hb, rfl⟩ := List.mem_map.1 hc
    exact ⟨b, h.tok_ascii b hb, tok_no_space r.hdr b hb, rfl⟩
  have ne : ∀ (n : Nat), n < 128 → isBSpace n = true → Char.ofNat n ∉ r.name := by
    intro n hn hsp hmem
    obtain ⟨b, hb, hbs, e⟩ := key _ hmem
    have := ofNat_eq_of_lt n b hn hb e
    subst this; rw [hsp] at hbs; cases hbs
  refine ⟨?_, ne 9 (by decide) (by decide), ne 10 (by decide) (by decide), ?_⟩
  · intro e
    apply h.tok_ne
    unfold Rec.name at e
    exact List.map_eq_nil_iff.1 e
  · intro c hc
    obtain ⟨b, hb, hbs, rfl⟩ := key c hc
    have hn : (Char.ofNat b).toNat = b := toNat_ofNat_of_lt _ hb
    refine ⟨by rw [hn]; exact hb, ?_⟩
    unfold isSpace
    simp only [hn]
    unfold isBSpace at hbs
    simp only [Bool.or_eq_false_iff, Bool.and_eq_false_iff, decide_eq_false_iff_not] at hbs
    simp only [Bool.or_eq_true, Bool.and_eq_true, decide_eq_true_eq, beq_iff_eq]
    omega

/-- `f"Built from FASTA file '{path}'"` -/
def builtFrom (path : Str) : Str := "Built from FASTA file '".toList ++ path ++ ['\'']

theorem builtFrom_ok (path : Str) (h : '\n' ∉ path) : HeaderOk (builtFrom path) := by
  unfold builtFrom
  rw [String.toList_ofList]
  refine ⟨?_, .inl (by decide)⟩
  simp only [List.mem_append, not_or]
  exact ⟨⟨by decide, h⟩, by decide⟩

structure ColdOk (recs : List Rec) : Prop where
  wf : ∀ r ∈ recs, r.WF
  nodup : (recs.map Rec.name).Nodup
  res : ∀ r ∈ recs, r.res ≠ []
  hash : ∀ r ∈ recs, r.name.head? ≠ some '#'

theorem cold_WFAgp (hdr : List Str) (recs : List Rec) (hh : ∀ h ∈ hdr, HeaderOk h) (hok : ColdOk recs) :
    WFAgp { header := hdr, scaffolds := expScaffolds 0 recs } ∧
    NoNewlines { header := hdr, scaffolds := expScaffolds 0 recs } := by
  have hnames := expScaffolds_names recs 0
  constructor
  · refine ⟨hh, ?_, ?_⟩
    · apply namesChain_of_nodup
      · show [] ∉ (expScaffolds 0 recs).map (·.name)
        rw [hnames]
        intro hmem
        obtain ⟨r, hr, e⟩ := List.mem_map.1 hmem
        exact (rec_name r (hok.wf r hr)).1 e
      · show ((expScaffolds 0 recs).map (·.name)).Nodup
        rw [hnames]; exact hok.nodup
    · intro s hs
      obtain ⟨r, hr, k, rfl⟩ := expScaffolds_mem recs 0 s hs
      obtain ⟨n1, n2, _, _⟩ := rec_name r (hok.wf r hr)
      refine ⟨⟨n1, n2, hok.hash r hr⟩, specRows_ne_nil _ _ _ (hok.res r hr), ?_⟩
      intro row hrow
      exact ((tiled_renum r.name _ k 0 (specRows_tiled r.name k r.res)).2 row hrow).1 n2
  · intro s hs
    obtain ⟨r, hr, k, rfl⟩ := expScaffolds_mem recs 0 s hs
    obtain ⟨_, _, n3, _⟩ := rec_name r (hok.wf r hr)
    refine ⟨n3, ?_⟩
    intro row hrow
    exact ((tiled_renum r.name _ k 0 (specRows_tiled r.name k r.res)).2 row hrow).2 n3

theorem cold_canon (hdr : List Str) (recs : List Rec) :
    canonAssembly { header := hdr, scaffolds := expScaffolds 0 recs } = { header := hdr, scaffolds := expScaffolds 0 recs } := by
  unfold canonAssembly
  simp only [canon_cold]

end AgpTpf.CliWarm

namespace AgpTpf.C17
open AgpTpf AgpTpf.CliWarm AgpTpf.C04 AgpTpf.C05

/-- the cold assembly: (i) `WFAgp` — no empty scaffold, consecutive names different, names without tab / leading `#`,
    rows: gap type `scaffold`, fragments untagged, strand 1, start ≤ end; (ii) no newline anywhere; (iii) its object
    ids are already `0,1,2,…` in file order, i.e. it is in reader form. -/
theorem cold_assembly_wf (path : Str) (recs : List Rec) (hp : '\n' ∉ path) (hok : ColdOk recs) :
    let cold : Assembly := { header := [builtFrom path], scaffolds := (recs.foldl addRec {}).scaffolds }
    WFAgp cold ∧ NoNewlines cold ∧ canonAssembly cold = cold := by
  intro cold
  have e : cold = { header := [builtFrom path], scaffolds := expScaffolds 0 recs } := by
    show ({ header := _, scaffolds := _ } : Assembly) = _
    rw [cold_eq]
  rw [e]
  have hh : ∀ h ∈ [builtFrom path], HeaderOk h := List.forall_mem_singleton.2 (builtFrom_ok path hp)
  obtain ⟨h1, h2⟩ := cold_WFAgp [builtFrom path] recs hh hok
  exact ⟨h1, h2, cold_canon _ recs⟩

end AgpTpf.C17
