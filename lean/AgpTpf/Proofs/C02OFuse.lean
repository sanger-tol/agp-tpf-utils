/-
  C02 order, part 1 (O1): the rows of a fused scaffold, EXACTLY.

  `Lib/Fuse.lean` gives `fuseByName b` as one scaffold per key, with the rows `fuseAddAll group []` of the items of that key.
  Here the group is named in terms of the build — `storeContributors b k`, then `extraContributors b k`
  (`group_eq_contributors`) — and its rows are the explicit spec `joinedRows`: contributors' rows joined by the model's
  separators (`group_rows`).  `fuseByName_joined` is `scaffolds_fused_by_name` in those terms.
-/
import AgpTpf.Model.Remap
import AgpTpf.Proofs.Lib.Fuse
namespace AgpTpf.C02
open AgpTpf
open AgpTpf.C09 (FKey Item fuseItems)
open AgpTpf.Fuse (resItem extraItem fuseAddAll fusedOf firstKeys)

/-- the separator `Scaffold.append_scaffold` puts in front of an appended result -/
def storeSep (jg : Option Gap) (built : List Row) : List Row :=
  match jg with
  | some g => if built.isEmpty then [] else [Row.gap g]
  | none => []

theorem appendRows_eq_storeSep (built rows : List Row) (jg : Option Gap) :
    Scaffold.appendRows built rows jg = built ++ storeSep jg built ++ rows := by
  unfold Scaffold.appendRows storeSep
  cases jg with
  | none => simp
  | some g =>
    by_cases h : built.isEmpty = true
    · have : built = [] := by simpa using h
      subst this; simp
    · simp only [h]
      rfl

def joinStore (jg : Option Gap) (built : List Row) : List Res → List Row
  | [] => built
  | r :: rs => joinStore jg (built ++ storeSep jg built ++ r.o.toScaffoldRows) rs

def joinExtra (jg : Option Gap) (built : List Row) : List (Scaffold × Option (Fragment × List Gap)) → List Row
  | [] => built
  | e :: es => joinExtra jg (built ++ gapsBeforeLeftover jg built e.2 ++ e.1.rows) es

/-- **the spec function of O1**: the store contributors (in store order) joined by the join-gap rows, then the
    left-over contributors (in `extra` order), each after its `gaps_before_leftover` rows -/
def joinedRows (jg : Option Gap) (rs : List Res) (es : List (Scaffold × Option (Fragment × List Gap))) : List Row :=
  joinExtra jg (joinStore jg [] rs) es

def isStoreContributor (k : FKey) (r : Res) : Bool :=
  r.added && !r.o.rows.isEmpty && decide ((r.o.tag, r.o.haplotype, r.o.name) = k)

def isExtraContributor (k : FKey) (e : Scaffold × Option (Fragment × List Gap)) : Bool :=
  !e.1.rows.isEmpty && decide ((e.1.tag, e.1.haplotype, e.1.name) = k)

def storeContributors (b : Build) (k : FKey) : List Res := b.store.filter (isStoreContributor k)

def extraContributors (b : Build) (k : FKey) : List (Scaffold × Option (Fragment × List Gap)) :=
  b.extra.filter (isExtraContributor k)

theorem isStoreContributor_iff (k : FKey) (r : Res) :
    isStoreContributor k r = true ↔ r.added = true ∧ r.o.rows ≠ [] ∧ (r.o.tag, r.o.haplotype, r.o.name) = k := by
  unfold isStoreContributor
  simp only [Bool.and_eq_true, Bool.not_eq_true', decide_eq_true_eq, List.isEmpty_eq_false_iff, ne_eq]
  constructor
  · rintro ⟨⟨a, b⟩, c⟩; exact ⟨a, b, c⟩
  · rintro ⟨a, b, c⟩; exact ⟨⟨a, b⟩, c⟩

theorem isExtraContributor_iff (k : FKey) (e : Scaffold × Option (Fragment × List Gap)) :
    isExtraContributor k e = true ↔ e.1.rows ≠ [] ∧ (e.1.tag, e.1.haplotype, e.1.name) = k := by
  unfold isExtraContributor
  simp only [Bool.and_eq_true, Bool.not_eq_true', decide_eq_true_eq, List.isEmpty_eq_false_iff, ne_eq]

theorem group_eq_contributors (b : Build) (k : FKey) :
    (fuseItems b).filter (fun it => decide (it.key = k)) =
      (storeContributors b k).map (resItem b) ++ (extraContributors b k).map (extraItem b) := by
  rw [fuseItems, List.filter_append, List.filter_map, List.filter_map, List.filter_filter, List.filter_filter]
  unfold storeContributors extraContributors
  congr 2
  · exact List.filter_congr fun r _ => Bool.and_comm _ _
  · exact List.filter_congr fun e _ => Bool.and_comm _ _

theorem fuseAddAll_store (b : Build) (l : List Res) : ∀ bl, fuseAddAll (l.map (resItem b)) bl = joinStore b.joinGap bl l := by
  induction l with
  | nil => intro bl; rfl
  | cons r t ih => intro bl; exact (ih _).trans (by rw [joinStore]; congr 1; exact appendRows_eq_storeSep bl _ _)

theorem fuseAddAll_extra (b : Build) (l : List (Scaffold × Option (Fragment × List Gap))) :
    ∀ bl, fuseAddAll (l.map (extraItem b)) bl = joinExtra b.joinGap bl l := by
  induction l with
  | nil => intro bl; rfl
  | cons e t ih => intro bl; exact ih _

theorem group_rows (b : Build) (k : FKey) :
    fuseAddAll ((fuseItems b).filter (fun it => decide (it.key = k))) [] =
      joinedRows b.joinGap (storeContributors b k) (extraContributors b k) := by
  rw [group_eq_contributors, Fuse.fuseAddAll_append, fuseAddAll_store, fuseAddAll_extra]; rfl

theorem mem_firstKeys_iff (b : Build) (k : FKey) :
    k ∈ firstKeys (fuseItems b) ↔ storeContributors b k ≠ [] ∨ extraContributors b k ≠ [] := by
  have h : k ∈ firstKeys (fuseItems b) ↔ (fuseItems b).filter (fun it => decide (it.key = k)) ≠ [] := by
    rw [Fuse.mem_firstKeys, ne_eq, List.filter_eq_nil_iff]
    simp
  rw [h, group_eq_contributors]
  simp [-not_and, Classical.not_and_iff_not_or_not]

/-- **O1**: the fused scaffolds are, in first-occurrence order of the keys, one per key with a contributor, each with the
    labels of its first contributor and the rows `joinedRows …` of all its contributors -/
theorem fuseByName_joined (b : Build) :
    fuseByName b = (firstKeys (fuseItems b)).map (fun k =>
      { (fusedOf ((fuseItems b).filter (fun it => decide (it.key = k)))) with
        rows := joinedRows b.joinGap (storeContributors b k) (extraContributors b k) }) := by
  rw [Fuse.fuseByName_grouped]
  apply List.map_congr_left
  intro k hk
  obtain ⟨it, r, hg, _, _⟩ := Fuse.group_cons hk
  rw [← group_rows, hg]; rfl

def joinGapRows (jg : Option Gap) : List Row :=
  match jg with
  | some g => [Row.gap g]
  | none => []

theorem storeSep_of_ne (jg : Option Gap) (built : List Row) (h : built ≠ []) : storeSep jg built = joinGapRows jg := by
  unfold storeSep joinGapRows
  cases jg with
  | none => rfl
  | some g =>
    have : built.isEmpty = false := by simpa using h
    simp [this]

theorem joinStore_of_ne (jg : Option Gap) (l : List Res) :
    ∀ built, built ≠ [] → joinStore jg built l = built ++ l.flatMap (fun x => joinGapRows jg ++ x.o.toScaffoldRows) := by
  induction l with
  | nil => intro built _; simp [joinStore]
  | cons r t ih =>
    intro built hb
    simp only [joinStore]
    rw [ih _ (by simp [hb]), storeSep_of_ne jg built hb]
    simp [List.flatMap_cons, List.append_assoc]

theorem joinStore_closed (jg : Option Gap) (r : Res) (rs : List Res) (h : r.o.toScaffoldRows ≠ []) :
    joinStore jg [] (r :: rs) = r.o.toScaffoldRows ++ rs.flatMap (fun x => joinGapRows jg ++ x.o.toScaffoldRows) := by
  have h0 : storeSep jg [] = [] := by unfold storeSep; cases jg <;> rfl
  simp only [joinStore, h0, List.nil_append]
  exact joinStore_of_ne jg rs _ h

theorem ordSplit_one {α} (l : List α) (i : Nat) (x : α) (hi : l[i]? = some x) :
    ∃ P Q, l = P ++ x :: Q ∧ P.length = i := by
  obtain ⟨hi', ex⟩ := List.getElem?_eq_some_iff.mp hi
  refine ⟨l.take i, l.drop (i + 1), ?_, by simp; omega⟩
  have e2 : l.drop i = x :: l.drop (i + 1) := by
    rw [List.drop_eq_getElem_cons hi', ex]
  rw [← e2, List.take_append_drop]

theorem ordSplit_two {α} (l : List α) (i j : Nat) (x y : α) (hij : i < j) (hi : l[i]? = some x) (hj : l[j]? = some y) :
    ∃ P M Q, l = P ++ x :: (M ++ y :: Q) ∧ P.length = i ∧ M.length = j - i - 1 := by
  obtain ⟨P, R, rfl, hP⟩ := ordSplit_one l i x hi
  rw [List.getElem?_append_right (by omega), hP, show j - i = (j - i - 1) + 1 by omega, List.getElem?_cons_succ] at hj
  obtain ⟨M, Q, rfl, hM⟩ := ordSplit_one R _ y hj
  exact ⟨P, M, Q, rfl, hP, hM⟩

end AgpTpf.C02
