/- C05 (f): folding a line reader over the lines of a scaffold / an assembly (shared by AGP and TPF) -/
import AgpTpf.Proofs.C05Line
import AgpTpf.Proofs.C05MapM
namespace AgpTpf.C05
open AgpTpf

/-- object ids as the readers assign them: `k, k+1, …` to the fragments in order -/
def renumRows (k : Nat) : List Row → List Row
  | [] => []
  | .frag f :: r => .frag { f with oid := k } :: renumRows (k + 1) r
  | .gap g :: r => .gap g :: renumRows k r

def countFrags : List Row → Nat
  | [] => 0
  | .frag _ :: r => countFrags r + 1
  | .gap _ :: r => countFrags r

/-- what a reader rebuilds from scaffolds: name and rows only (tag, haplotype, rank, … are not in the file),
    fragments numbered from `k` on -/
def canonScaffolds (k : Nat) : List Scaffold → List Scaffold
  | [] => []
  | s :: t => { name := s.name, rows := renumRows k s.rows } :: canonScaffolds (k + countFrags s.rows) t

def canonAssembly (a : Assembly) : Assembly := { header := a.header, scaffolds := canonScaffolds 0 a.scaffolds }

def stepRow (name : Str) (st : ParseState) (row : Row) : R ParseState := addRowOid (st.switchScaffold name) row

def InScaffold (name : Str) (st : ParseState) : Prop := st.currentName = name ∧ st.haveScaffold = true

theorem switchScaffold_same (st : ParseState) (name : Str) (h : st.currentName = name) :
    st.switchScaffold name = st := by
  unfold ParseState.switchScaffold; simp [h]

theorem renumRows_cons (k : Nat) (row : Row) (rest : List Row) :
    renumRows k (row :: rest) = renumRows k [row] ++ renumRows (k + countFrags [row]) rest := by
  cases row <;> rfl

theorem countFrags_cons (row : Row) (rest : List Row) : countFrags (row :: rest) = countFrags [row] + countFrags rest := by
  cases row <;> simp [countFrags, Nat.add_comm]

theorem addRowOid_append (st : ParseState) (row : Row) (pre : List Scaffold) (sc : Scaffold)
    (hh : st.haveScaffold = true) (hs : st.scaffolds = pre ++ [sc]) :
    addRowOid st row = .ok { st with scaffolds := pre ++ [{ sc with rows := sc.rows ++ renumRows st.nextOid [row] }],
                                     nextOid := st.nextOid + countFrags [row] } := by
  cases row <;> (simp only [addRowOid]; rw [addRow_append st _ pre sc hh hs]; rfl)

theorem fold_in_scaffold (P : ParseState → Str → R ParseState) (name : Str) (rows : List Row) :
    ∀ (lines : List Str) (st : ParseState) (pre : List Scaffold) (sc : Scaffold),
    Forall2 (fun line row => ∀ st, InScaffold name st → P st line = stepRow name st row) lines rows →
    InScaffold name st → st.scaffolds = pre ++ [sc] →
    lines.foldlM P st = .ok { st with scaffolds := pre ++ [{ sc with rows := sc.rows ++ renumRows st.nextOid rows }],
                                       nextOid := st.nextOid + countFrags rows } := by
  induction rows with
  | nil =>
    intro lines st pre sc hf hin hs
    cases lines with
    | cons _ _ => exact hf.elim
    | nil =>
      simp only [List.foldlM_nil, renumRows, countFrags, List.append_nil, Nat.add_zero]
      cases st; simp at hs; subst hs; rfl
  | cons row rest ih =>
    intro lines st pre sc hf hin hs
    cases lines with
    | nil => exact hf.elim
    | cons l ls =>
      obtain ⟨h1, h2⟩ := hf
      rw [List.foldlM_cons, h1 st hin, stepRow, switchScaffold_same _ _ hin.1, addRowOid_append st row pre sc hin.2 hs, ok_bind]
      refine Eq.trans (ih ls _ pre _ h2 ⟨hin.1, hin.2⟩ rfl) ?_
      simp only [renumRows_cons _ row rest, countFrags_cons row rest, List.append_assoc, Nat.add_assoc]

theorem fold_scaffold (P : ParseState → Str → R ParseState) (name : Str) (row : Row) (rows : List Row)
    (line : Str) (lines : List Str) (st : ParseState)
    (h0 : ∀ st, P st line = stepRow name st row)
    (hf : Forall2 (fun line row => ∀ st, InScaffold name st → P st line = stepRow name st row) lines rows)
    (hn : name ≠ st.currentName) :
    (line :: lines).foldlM P st =
      .ok { header := st.header, scaffolds := st.scaffolds ++ [{ name := name, rows := renumRows st.nextOid (row :: rows) }],
            currentName := name, haveScaffold := true, nextOid := st.nextOid + countFrags (row :: rows) } := by
  have hsw : st.switchScaffold name =
      { st with currentName := name, haveScaffold := true, scaffolds := st.scaffolds ++ [{ name := name }] } := by
    unfold ParseState.switchScaffold; rw [if_pos hn]
  rw [List.foldlM_cons, h0 st, stepRow, hsw, addRowOid_append _ row st.scaffolds { name := name } rfl rfl, ok_bind]
  refine (fold_in_scaffold P name rows lines _ st.scaffolds _ hf ⟨rfl, rfl⟩ rfl).trans ?_
  simp only [renumRows_cons _ row rows, countFrags_cons row rows, Nat.add_assoc, List.nil_append]

/-- consecutive scaffolds are named differently (the readers open a new scaffold only on a name CHANGE), the
    first one differently from `cur` -/
def NamesChain (cur : Str) : List Scaffold → Prop
  | [] => True
  | s :: t => s.name ≠ cur ∧ NamesChain s.name t

instance : ∀ (cur : Str) (l : List Scaffold), Decidable (NamesChain cur l)
  | _, [] => isTrue trivial
  | cur, s :: t => by
    unfold NamesChain
    have := instDecidableNamesChain s.name t
    infer_instance

/-- the lines of scaffold `s`, as a reader `P` understands them -/
def ScaffoldLines (P : ParseState → Str → R ParseState) (s : Scaffold) (rows' : List Row) (ls : List Str) : Prop :=
  match ls, rows' with
  | line :: lines, row :: rows =>
    (∀ st, P st line = stepRow s.name st row) ∧
    Forall2 (fun line row => ∀ st, InScaffold s.name st → P st line = stepRow s.name st row) lines rows
  | _, _ => False

theorem foldlM_flatten {α β} (f : β → α → R β) (ls : List (List α)) (b : β) :
    ls.flatten.foldlM f b = ls.foldlM (fun b l => l.foldlM f b) b := by
  induction ls generalizing b with
  | nil => rfl
  | cons l t ih =>
    rw [List.flatten_cons, List.foldlM_append, List.foldlM_cons]
    cases l.foldlM f b with
    | error e => rfl
    | ok b' => exact ih b'

/-- `rowsOf s` is what the reader gets back for `s.rows` (identity for AGP, tags dropped for TPF) -/
theorem fold_scaffolds (P : ParseState → Str → R ParseState) (rowsOf : Scaffold → List Row)
    (scs : List Scaffold) :
    ∀ (bodies : List (List Str)) (st : ParseState),
    Forall2 (fun s ls => ScaffoldLines P s (rowsOf s) ls) scs bodies →
    NamesChain st.currentName scs →
    ∃ st', bodies.flatten.foldlM P st = .ok st' ∧ st'.header = st.header ∧
      st'.scaffolds = st.scaffolds ++ canonScaffolds st.nextOid (scs.map (fun s => { s with rows := rowsOf s })) := by
  induction scs with
  | nil =>
    intro bodies st hf _
    cases bodies with
    | cons _ _ => exact hf.elim
    | nil => exact ⟨st, rfl, rfl, by simp [canonScaffolds]⟩
  | cons s t ih =>
    intro bodies st hf hch
    cases bodies with
    | nil => exact hf.elim
    | cons b bt =>
      obtain ⟨hb, hbt⟩ := hf
      obtain ⟨hne, hch'⟩ := hch
      unfold ScaffoldLines at hb
      cases b with
      | nil => exact hb.elim
      | cons line lines =>
        cases hr : rowsOf s with
        | nil => rw [hr] at hb; exact hb.elim
        | cons row rows =>
          rw [hr] at hb
          obtain ⟨h0, hrest⟩ := hb
          have hsc := fold_scaffold P s.name row rows line lines st h0 hrest hne
          rw [List.flatten_cons, List.foldlM_append, hsc]
          obtain ⟨st', h1, h2, h3⟩ := ih bt
            { header := st.header, scaffolds := st.scaffolds ++ [{ name := s.name, rows := renumRows st.nextOid (row :: rows) }],
              currentName := s.name, haveScaffold := true, nextOid := st.nextOid + countFrags (row :: rows) } hbt hch'
          refine ⟨st', h1, h2, ?_⟩
          rw [h3]
          simp [canonScaffolds, hr, List.append_assoc]

end AgpTpf.C05
