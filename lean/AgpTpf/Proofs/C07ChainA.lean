/-
  C07, first clause: the contig ends that face each other at an adjacency.  A terminal fragment shortened at its OUTER
  end (C18 `Short … dl 0` / `Short … 0 dr`) keeps the end that faces its inner neighbour; reversing a pair (as
  `to_scaffold` does for a minus bait) swaps the two facing ends.
-/
import AgpTpf.Proofs.C07Lemmas
import AgpTpf.Proofs.C18
import AgpTpf.Proofs.C11Order
namespace AgpTpf.C07
open AgpTpf
open AgpTpf.C11 (End leftFacing rightFacing facingEnds SameAdj)

def StrandPM (f : Fragment) : Prop := f.strand = 1 ∨ f.strand = -1

/-- the facing contig ends `((name, coordinate, isTail), (name, coordinate, isTail))` of every pair of fragment rows
    that are directly adjacent (NO gap row between them) in an input scaffold.  A cut piece keeps the contig's
    outer end: the facing end of a piece is (name, coordinate, kind) of the piece itself. -/
def inputAdj (input : List Scaffold) : List (End × End) :=
  input.flatMap (fun sc => (adjPairs sc.rows).map (fun p => facingEnds p.1 p.2))

/-- `p`, read as an UNORDERED pair of contig ends, is an input adjacency -/
def IsInputAdj (input : List Scaffold) (p : End × End) : Prop := ∃ q ∈ inputAdj input, SameAdj p q

theorem mem_inputAdj (input : List Scaffold) (q : End × End) :
    q ∈ inputAdj input ↔ ∃ sc ∈ input, ∃ a b, (a, b) ∈ adjPairs sc.rows ∧ q = facingEnds a b := by
  unfold inputAdj
  simp only [List.mem_flatMap, List.mem_map, Prod.exists]
  constructor
  · rintro ⟨sc, hsc, a, b, hab, rfl⟩; exact ⟨sc, hsc, a, b, hab, rfl⟩
  · rintro ⟨sc, hsc, a, b, hab, rfl⟩; exact ⟨sc, hsc, a, b, hab, rfl⟩

theorem isInputAdj_of (input : List Scaffold) (sc : Scaffold) (hsc : sc ∈ input) (a0 b0 : Fragment)
    (h0 : (a0, b0) ∈ adjPairs sc.rows) (p : End × End) (hp : SameAdj p (facingEnds a0 b0)) : IsInputAdj input p :=
  ⟨_, (mem_inputAdj input _).mpr ⟨sc, hsc, a0, b0, h0, rfl⟩, hp⟩

theorem short_facing {f g : Fragment} {dl dr : Int} (h : C18.Short (.frag f) (.frag g) dl dr) :
    f.strand = g.strand ∧ (dr = 0 → leftFacing f = leftFacing g) ∧ (dl = 0 → rightFacing f = rightFacing g) := by
  obtain ⟨f', g', hf, hg, hn, hs, hc⟩ := h
  cases hf; cases hg
  refine ⟨hs, ?_, ?_⟩ <;> intro h0 <;> subst h0
  · unfold leftFacing
    rw [hs, hn]
    split at hc
    · next h1 => simp only [h1, if_true]; rw [hc.2]; simp
    · next h1 => simp only [h1, if_false]; rw [hc.1]; simp
  · unfold rightFacing
    rw [hs, hn]
    split at hc
    · next h1 => simp only [h1, if_true]; rw [hc.1]; simp
    · next h1 => simp only [h1, if_false]; rw [hc.2]; simp

theorem facingEnds_mirror (a b : Fragment) (ha : StrandPM a) (hb : StrandPM b) :
    facingEnds (mirror (a, b)).1 (mirror (a, b)).2 = (facingEnds a b).swap := by
  unfold facingEnds mirror
  simp only [Prod.swap, C11.leftFacing_reverse hb, C11.rightFacing_reverse ha]

/-- the facing-end test of `gaps_before_leftover` is equality of left-facing contig ends (strand ±1) -/
theorem facingEnd_leftFacing (last prev : Fragment) (hp : StrandPM prev) (h : FacingEnd last prev) :
    leftFacing last = leftFacing prev := by
  obtain ⟨hn, hs, hc⟩ := h
  unfold leftFacing
  rw [hs, hn]
  rcases hp with h1 | h1
  · simp only [h1, if_true] at hc ⊢
    have : ¬ ((1 : Int) = -1) := by decide
    simp only [this, if_false] at hc
    rw [hc]
  · have h2 : ¬ (prev.strand = 1) := by rw [h1]; decide
    simp only [h1, if_true] at hc
    simp only [h2, if_false]
    rw [hc]

end AgpTpf.C07
