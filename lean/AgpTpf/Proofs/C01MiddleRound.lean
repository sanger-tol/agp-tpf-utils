/-
  C01, the middle of `remap_to_input_assembly` — part 3 (L2 continued): the bookkeeping of applied fixes, the whole
  resolver round and the loop `discardOverhanging`.
-/
import AgpTpf.Proofs.C01MiddleResolve
namespace AgpTpf.C01
open AgpTpf

/-- recorded Fragment objects are never replaced, no key is dropped from or added to `found` -/
def SameObjects (b b' : Build) : Prop :=
  ∀ k, (dGet? b'.found k).map (·.fragment) = (dGet? b.found k).map (·.fragment)

theorem bookkeeping_shape {b b' : Build} {p : Premise} (hk : p.fragment.keyTuple ∈ b.multi) {fnd : Found}
    (hf : dGet? b.found p.fragment.keyTuple = some fnd) (h : applyFixBookkeeping b p = .ok b') :
    p.sid ∈ fnd.scaffolds ∧
    b'.found = dSet b.found p.fragment.keyTuple { fnd with scaffolds := fnd.scaffolds.erase p.sid } ∧
    b'.multi = (if (fnd.scaffolds.erase p.sid).length ≤ 1 then b.multi.filter (· ≠ p.fragment.keyTuple) else b.multi) := by
  rw [Pipeline.applyFixBookkeeping_eq, if_pos hk, hf] at h
  dsimp only at h
  split at h
  · next hmem => cases h; exact ⟨hmem, rfl, rfl⟩
  · cases h

theorem bookkeeping_step {b b' : Build} {p : Premise} (hreg : RegistryInv b) (hk : p.fragment.keyTuple ∈ b.multi)
    (h : applyFixBookkeeping b p = .ok b') :
    (∀ k s, (holders b' k).count s + (if fixAt k s p then 1 else 0) = (holders b k).count s) ∧
    (∀ k, (holders b' k).length + (if fixOf k p then 1 else 0) = (holders b k).length) ∧
    RegistryInv b' ∧ (b.multi.Nodup → b'.multi.Nodup) ∧
    (∀ k, k ≠ p.fragment.keyTuple → (k ∈ b'.multi ↔ k ∈ b.multi)) ∧ SameObjects b b' := by
  obtain ⟨fnd, hf, h2⟩ := hreg.of_multi hk
  have hh : holders b p.fragment.keyTuple = fnd.scaffolds := holders_of_found hf
  obtain ⟨hmem, hfound, hmulti⟩ := bookkeeping_shape hk hf h
  have hlen : (fnd.scaffolds.erase p.sid).length + 1 = fnd.scaffolds.length := by
    rw [List.length_erase_of_mem hmem]; omega
  have hhold : ∀ k, holders b' k = if k = p.fragment.keyTuple then fnd.scaffolds.erase p.sid else holders b k := by
    intro k
    unfold holders
    rw [hfound, dGet?_dSet]
    by_cases e : p.fragment.keyTuple = k
    · rw [if_pos e, if_pos e.symm]
    · rw [if_neg e, if_neg (fun e' => e e'.symm)]
  have hmem_multi : ∀ k, k ≠ p.fragment.keyTuple → (k ∈ b'.multi ↔ k ∈ b.multi) := by
    intro k hne
    rw [hmulti]
    split
    · simp [List.mem_filter, hne]
    · exact Iff.rfl
  refine ⟨fun k s => ?_, fun k => ?_, ⟨fun k fnd' hk' => ?_, fun k => ?_⟩, fun hnd => ?_, hmem_multi, fun k => ?_⟩
  · rw [hhold]
    by_cases e : k = p.fragment.keyTuple
    · rw [if_pos e, e, hh, List.count_erase]
      by_cases es : s = p.sid
      · have := List.count_pos_iff.mpr hmem
        simp only [fixAt, es, and_self, decide_true, if_true, beq_self_eq_true]
        omega
      · simp [fixAt, Ne.symm es]
    · simp [fixAt, e, Ne.symm e]
  · rw [hhold]
    by_cases e : k = p.fragment.keyTuple
    · rw [if_pos e, e, hh, ← hlen]; simp [fixOf]
    · simp [fixOf, e, Ne.symm e]
  · rw [hfound, dGet?_dSet] at hk'
    split at hk'
    · cases hk'
      exact fun hnil : fnd.scaffolds.erase p.sid = [] => by rw [hnil, List.length_nil] at hlen; omega
    · exact hreg.1 k fnd' hk'
  · by_cases e : k = p.fragment.keyTuple
    · rw [hhold, if_pos e, e, hmulti]
      split
      · simp only [List.mem_filter, ne_eq, not_true_eq_false, decide_false, Bool.false_eq_true, and_false, false_iff]
        omega
      · exact ⟨fun _ => by omega, fun _ => hk⟩
    · rw [hmem_multi k e, hhold, if_neg e]
      exact hreg.2 k
  · rw [hmulti]
    split
    · exact hnd.filter _
    · exact hnd
  · rw [hfound, dGet?_dSet]
    split
    · next e => rw [← e, hf]; rfl
    · rfl

theorem bookkeeping_fold : ∀ (fixes : List Premise) (bc b' : Build), RegistryInv bc → bc.multi.Nodup →
    (fixes.map (fun p => p.fragment.keyTuple)).Nodup → (∀ p ∈ fixes, p.fragment.keyTuple ∈ bc.multi) →
    fixes.foldlM applyFixBookkeeping bc = .ok b' →
    (∀ k s, (holders b' k).count s + fixes.countP (fixAt k s) = (holders bc k).count s) ∧
    (∀ k, (holders b' k).length + fixes.countP (fixOf k) = (holders bc k).length) ∧
    RegistryInv b' ∧ b'.multi.Nodup ∧ SameObjects bc b'
  | [], bc, b', hreg, hnd, _, _, h => by
    cases h
    exact ⟨by simp, by simp, hreg, hnd, fun _ => rfl⟩
  | p :: t, bc, b', hreg, hnd, hkeys, hin, h => by
    rw [List.foldlM_cons] at h
    obtain ⟨b1, hb1, h⟩ := bind_eq_ok.mp h
    rw [List.map_cons, List.nodup_cons] at hkeys
    obtain ⟨s1, s2, hreg1, hnd1, hmulti1, hobj1⟩ := bookkeeping_step hreg (hin p (List.mem_cons_self ..)) hb1
    -- the fixes to come are for other contigs, which are still in `multi`
    have hin1 : ∀ q ∈ t, q.fragment.keyTuple ∈ b1.multi := fun q hq =>
      (hmulti1 _ fun e => hkeys.1 (e ▸ List.mem_map_of_mem (f := fun p : Premise => p.fragment.keyTuple) hq)).mpr
        (hin q (List.mem_cons_of_mem _ hq))
    obtain ⟨c1, c2, c3, c4, c5⟩ := bookkeeping_fold t b1 b' hreg1 (hnd1 hnd) hkeys.2 hin1 h
    refine ⟨fun k s => ?_, fun k => ?_, c3, c4, fun k => (c5 k).trans (hobj1 k)⟩
    · have := c1 k s
      have := s1 k s
      rw [List.countP_cons]
      omega
    · have := c2 k
      have := s2 k
      rw [List.countP_cons]
      omega

/-- L2: a productive round of the resolver keeps the registry invariant (in particular every registered key keeps at
    least one holder), does not touch the set of registered keys or the recorded Fragment objects, and creates no
    Fragment object. -/
theorem reg_resolver_round_aux (input : List Scaffold) (hwf : WFInput input) (b b' : Build) (hm : Mid input b)
    (h : resolverRound b = .ok (some b')) :
    Mid input b' ∧ SameObjects b b' ∧
    b'.nextOid = b.nextOid ∧ b'.extra = b.extra ∧ b'.joinGap = b.joinGap ∧ b'.err = b.err ∧ b'.cuts = b.cuts ∧
    b'.namer = b.namer := by
  obtain ⟨prems, store, fixes, hprems, hv, _, hb2⟩ := Pipeline.resolverRound_ok h
  obtain ⟨hfr, hn, hc⟩ := Pipeline.resolverRound_frame h
  rw [List.foldlM_map] at hv
  have hfin : FInv input b [] store fixes := foldlM_rest (fun rest st => FInv input b rest st.1 st.2)
    (fun _ _ _ _ hF hs => hF.step hs) prems _ _ (.init hwf hm hprems) hv
  obtain ⟨c1, c2, c3, c4, c5⟩ := bookkeeping_fold fixes { b with store := store } b' hm.registry
    hm.multiNodup hfin.fixNodup (fun p hp => (hfin.fixKeys p hp).1) hb2
  have s1 : b'.store = store := (Pipeline.bookkeeping_frame hb2).2.1
  have hholders : ∀ k, holders { b with store := store } k = holders b k := fun _ => rfl
  refine ⟨⟨c3, c4, ?_, ?_, ?_, ?_⟩, c5, hn, hfr.extra, hfr.joinGap, hfr.err, hc, hfr.namer⟩
  · intro k s
    have h1 := c1 k s
    have h2 := hfin.counts k s
    rw [hholders, hm.counts] at h1
    rw [s1]; omega
  · intro k
    have h1 := c2 k
    have h2 := hfin.total k
    rw [hholders, hm.total] at h1
    rw [s1]; omega
  · rw [s1]; exact hfin.slices
  · intro k fnd' hk'
    have := c5 k
    rw [hk'] at this
    cases hb : dGet? b.found k with
    | none => simp [hb] at this
    | some fnd =>
      simp only [hb, Option.map_some, Option.some.injEq] at this
      rw [this]
      exact hm.foundOK k fnd hb

theorem discardOverhanging_mid (input : List Scaffold) (hwf : WFInput input) (fuel : Nat) (b b' : Build)
    (hm : Mid input b) (h : discardOverhanging fuel b = .ok b') :
    Mid input b' ∧ SameObjects b b' ∧
    b'.nextOid = b.nextOid ∧ b'.extra = b.extra ∧ b'.joinGap = b.joinGap ∧ b'.err = b.err ∧ b'.cuts = b.cuts ∧
    b'.namer = b.namer := by
  obtain ⟨hfr, hn, hc⟩ := Pipeline.discardOverhanging_frame h
  have hmid : Mid input b' ∧ SameObjects b b' := by
    have hrounds := Pipeline.discardOverhanging_rounds h
    clear h hfr hn hc
    induction hrounds with
    | refl b => exact ⟨hm, fun _ => rfl⟩
    | step hr _ ih =>
      obtain ⟨q0, q1, _⟩ := reg_resolver_round_aux input hwf _ _ hm hr
      obtain ⟨r0, r1⟩ := ih q0
      exact ⟨r0, fun k => (r1 k).trans (q1 k)⟩
  exact ⟨hmid.1, hmid.2, hn, hfr.extra, hfr.joinGap, hfr.err, hc, hfr.namer⟩

end AgpTpf.C01
