/-
  C02 (script model): which contigs a script's map claims (S5) — the contig of a row is claimed iff its scaffold is
  present and the row begins at or before `⌊T·β⌋`, so the left-over contigs are those of a suffix of the rows — and that
  clean cuts claim no contig twice.
-/
import AgpTpf.Proofs.C02SPieces
namespace AgpTpf.C02
open AgpTpf AgpTpf.Pretext
open AgpTpf.C12 (rowSpan meets meets_iff rowSpan_fst_pos rowSpan_mono rowSpan_len)

/-- **S5, core.** -/
theorem claimed_iff {input : List Scaffold} {s : Script} (hw : WfScript input s) (hin : InputBase input)
    {i : Nat} {sc : Scaffold} {c : ScafScript} (hsc : input[i]? = some sc) (hc : s.scafs[i]? = some c)
    {k : Nat} {f : Fragment} (hk : sc.rows[k]? = some (.frag f)) (hpos : 1 ≤ f.length) :
    f.keyTuple ∈ claimedKeys input (ptxOf input s) ↔
      c.present = true ∧ (rowSpan sc.rows k).1 ≤ (coord s.p s.q c.T : Int) := by
  rw [claimedKeys_ptxOf hw, List.mem_flatMap]
  constructor
  · rintro ⟨bx, hbx, hkey⟩
    obtain ⟨sc', c', ab, P, -⟩ := pieceOf_fragOf hw hbx
    obtain ⟨rfl, rfl, hm⟩ := P.of_key hin hsc hk hkey
    cases P.hc.symm.trans hc
    obtain ⟨hmem, hinc, -⟩ := P.span hw
    have hb := spansFrom_bounds hw.hq hw.hpq hinc hmem
    obtain ⟨_, _, h1, _⟩ := (meets_iff _ _ _ _).1 hm
    exact ⟨P.present, by omega⟩
  · rintro ⟨hp, hle⟩
    have h1 := rowSpan_fst_pos sc.rows (hin.lens sc (List.mem_of_getElem? hsc)) k
    have h2 := rowSpan_len sc.rows k _ hk
    simp only [Row.length] at h2
    -- the piece containing the first base of the contig
    obtain ⟨ab, habm, hz1, hz2⟩ := spansFrom_cover (p := s.p) (q := s.q) (a := 0) (T := c.T) (cuts := c.cuts)
      ((rowSpan sc.rows k).1.toNat) (by rw [coord_zero]; omega) (by omega)
    obtain ⟨bx, hbx, -, P⟩ := piece_of_span hw hsc hc (spans_present hp ▸ habm)
    exact ⟨bx, hbx, (P.mem_keys hin _).2 ⟨k, f, hk, (meets_iff _ _ _ _).2 ⟨f, hk, by omega, by omega⟩, rfl⟩⟩

/-- no contig of `rows` contains both base `c` and base `c + 1` -/
def CleanAt (rows : List Row) (c : Int) : Prop :=
  ∀ k f, rows[k]? = some (.frag f) → (rowSpan rows k).2 ≤ c ∨ c < (rowSpan rows k).1

theorem CleanAt.not_straddle {rows : List Row} {c : Int} (h : CleanAt rows c) {k : Nat} {f : Fragment}
    (hk : rows[k]? = some (.frag f)) (h1 : (rowSpan rows k).1 ≤ c) (h2 : c < (rowSpan rows k).2) : False := by
  rcases h k f hk with h | h
  · omega
  · omega

/-- a row meeting both pieces would straddle the cut at which the earlier piece ends -/
theorem no_common_row {p q : Nat} (hq : 1 ≤ q) (hpq : q ≤ p) {rows : List Row} {cuts : List Nat} {T : Nat}
    (hinc : Steps 1 0 (cuts ++ [T])) (hclean : ∀ t ∈ cuts, CleanAt rows (coord p q t))
    {n n' : Nat} {ab ab' : Nat × Nat} (hn : (spansFrom p q 0 (cuts ++ [T]))[n]? = some ab)
    (hn' : (spansFrom p q 0 (cuts ++ [T]))[n']? = some ab') (hlt : n < n') {k : Nat}
    (hm : meets rows ab.1 ab.2 k = true) (hm' : meets rows ab'.1 ab'.2 k = true) : False := by
  obtain ⟨hl, rfl⟩ := List.getElem?_eq_some_iff.1 hn
  obtain ⟨hl', rfl⟩ := List.getElem?_eq_some_iff.1 hn'
  have h1 := List.pairwise_iff_getElem.1 (spansFrom_pairwise hq hpq hinc) n n' hl hl' hlt
  have hb' := spansFrom_bounds hq hpq hinc (List.getElem_mem hl')
  obtain ⟨f, hf, ha1, ha2⟩ := (meets_iff _ _ _ _).1 hm
  obtain ⟨_, _, hb1, hb2⟩ := (meets_iff _ _ _ _).1 hm'
  rcases (mem_spansFrom (List.getElem_mem hl)).2 with e | ⟨t, ht, e⟩
  · omega
  · rcases hclean t ht k f hf with h | h
    · omega
    · omega

def tailStart (rows : List Row) (E : Int) : Nat :=
  (List.range rows.length).findIdx (fun k => decide (E < (rowSpan rows k).1))

theorem tailStart_le (rows : List Row) (E : Int) : tailStart rows E ≤ rows.length := by
  unfold tailStart
  have := List.findIdx_le_length (p := fun k => decide (E < (rowSpan rows k).1)) (xs := List.range rows.length)
  simpa using this

theorem tailStart_spec (rows : List Row) (hlen : ∀ r ∈ rows, 0 ≤ r.length) (E : Int) (k : Nat) (hk : k < rows.length) :
    k < tailStart rows E ↔ (rowSpan rows k).1 ≤ E := by
  unfold tailStart
  rw [List.lt_findIdx_iff]
  simp only [List.length_range, List.getElem_range, decide_eq_false_iff_not, Int.not_lt]
  constructor
  · exact fun ⟨_, h⟩ => h k (Nat.le_refl k)
  · -- the rows up to `k` begin no later than row `k`
    exact fun h => ⟨hk, fun j hj => Int.le_trans (rowSpan_mono rows hlen hj).1 h⟩

theorem leftover_suffix (keys : List Key) (rows : List Row) (m : Nat)
    (h : ∀ k f, rows[k]? = some (.frag f) → (keys.contains f.keyTuple = true ↔ k < m)) :
    (fragmentsOf rows).filter (fun f => !keys.contains f.keyTuple) = fragmentsOf (rows.drop m) := by
  conv => lhs; rw [← List.take_append_drop m rows]
  rw [fragmentsOf_append, List.filter_append]
  have h1 : (fragmentsOf (rows.take m)).filter (fun f => !keys.contains f.keyTuple) = [] := by
    rw [List.filter_eq_nil_iff]
    intro f hf
    obtain ⟨k, hk⟩ := List.mem_iff_getElem?.1 (mem_fragmentsOf.1 hf)
    rw [List.getElem?_take] at hk
    by_cases hkm : k < m
    · rw [if_pos hkm] at hk
      have := (h k f hk).2 hkm
      rw [this]; decide
    · rw [if_neg hkm] at hk; cases hk
  have h2 : (fragmentsOf (rows.drop m)).filter (fun f => !keys.contains f.keyTuple) = fragmentsOf (rows.drop m) := by
    rw [List.filter_eq_self]
    intro f hf
    obtain ⟨k, hk⟩ := List.mem_iff_getElem?.1 (mem_fragmentsOf.1 hf)
    rw [List.getElem?_drop] at hk
    have := (h (m + k) f hk)
    cases hc : keys.contains f.keyTuple with
    | false => rfl
    | true => have := this.1 hc; omega
  rw [h1, h2, List.nil_append]

/-- **S5.**  The contigs of input scaffold `i` that the map of a well-formed script does not claim are the contigs of the
    rows from `tailStart` on — those beginning behind `⌊T·β⌋` — resp. all contigs when the scaffold is absent. -/
theorem leftovers_suffix {input : List Scaffold} {s : Script} (hw : WfScript input s) (hin : InputBase input)
    (hpos : ∀ sc ∈ input, ∀ f ∈ sc.fragments, 1 ≤ f.length)
    {i : Nat} {sc : Scaffold} {c : ScafScript} (hsc : input[i]? = some sc) (hc : s.scafs[i]? = some c) :
    (fragmentsOf sc.rows).filter (fun f => !(claimedKeys input (ptxOf input s)).contains f.keyTuple) =
      fragmentsOf (sc.rows.drop (if c.present then tailStart sc.rows (coord s.p s.q c.T : Int) else 0)) := by
  have hmem : sc ∈ input := List.mem_of_getElem? hsc
  apply leftover_suffix
  intro k f hk
  have hcl := claimed_iff hw hin hsc hc hk (hpos sc hmem f (frag_mem_fragments hk))
  have hkl : k < sc.rows.length := (List.getElem?_eq_some_iff.1 hk).1
  rw [List.contains_iff_mem, hcl]
  cases hp : c.present with
  | false => simp
  | true =>
    simp only [true_and, if_true]
    exact (tailStart_spec sc.rows (hin.lens sc hmem) _ k hkl).symm

end AgpTpf.C02
