/-
  T1c helper lemmas for `Assembly.smart_sort_scaffolds` (assembly.py):
  `self.scaffolds.sort(key=lambda s: (s.rank, self.name_natural_key(s)))`.

  * Python's `<` on the flat key tuples `first, n₁, t₁, n₂, t₂, …` (`PyRt.keyToksLt?`, `none` = TypeError) against the model's
    `restLe / keyLe / smartLe`: always `some`, and equal to `le && ≠`.
  * `PyRt.sortedByKeyLt?` for an ARBITRARY key function `k` with a hypothesis on what one evaluation returns, and an arbitrary `lt?`
    that is comparable on the keys present: the stable sort by `¬ (b < a)`.
  Nothing here mentions a generated term.
-/
import AgpTpf.Gen.Imp2
import AgpTpf.Properties.C20Imp
namespace AgpTpf.ImpSmartSort
open AgpTpf.C20

def flatRest (r : List (Int × Str)) : List PyRt.KeyTok := r.flatMap (fun p => [.num p.1, .txt p.2])

theorem flatKey_eq (k : NatKey) : flatKey k = .txt k.first :: flatRest k.rest := rfl

theorem flatRest_nil : flatRest [] = [] := rfl
theorem flatRest_cons (n : Int) (t : Str) (r : List (Int × Str)) :
    flatRest ((n, t) :: r) = .num n :: .txt t :: flatRest r := rfl

theorem strLt_of_ne {a b : Str} (h : a ≠ b) : PyRt.strLt a b = strLe a b := by
  unfold PyRt.strLt
  have : (a == b) = false := by simpa using h
  simp [this]

theorem strLt_self (a : Str) : PyRt.strLt a a = false := by
  unfold PyRt.strLt; simp

theorem restLt (a b : List (Int × Str)) :
    PyRt.keyToksLt? (flatRest a) (flatRest b) = some (restLe a b && !decide (a = b)) := by
  induction a generalizing b with
  | nil =>
    cases b with
    | nil => rfl
    | cons q qs => obtain ⟨n', t'⟩ := q; simp [flatRest_nil, flatRest_cons, PyRt.keyToksLt?, restLe]
  | cons p ps ih =>
    obtain ⟨n, t⟩ := p
    cases b with
    | nil => simp [flatRest_nil, flatRest_cons, PyRt.keyToksLt?, restLe]
    | cons q qs =>
      obtain ⟨n', t'⟩ := q
      simp only [flatRest_cons, PyRt.keyToksLt?, restLe, PyRt.KeyTok.num.injEq, PyRt.KeyTok.txt.injEq, gt_iff_lt]
      by_cases hn : n = n'
      · subst hn
        simp only [if_true, Int.lt_irrefl, if_false]
        by_cases ht : t = t'
        · subst ht
          simp only [if_true, ih qs]
          simp
        · simp only [ht, if_false, PyRt.KeyTok.lt?, strLt_of_ne ht]
          simp [ht]
      · simp only [hn, if_false, PyRt.KeyTok.lt?]
        by_cases hlt : n < n'
        · simp [hlt, hn]
        · have hgt : n' < n := by omega
          simp [hlt, hgt]

theorem keyLt (a b : NatKey) :
    PyRt.keyToksLt? (flatKey a) (flatKey b) = some (keyLe a b && !decide (a = b)) := by
  obtain ⟨af, ar⟩ := a
  obtain ⟨bf, br⟩ := b
  simp only [flatKey_eq, PyRt.keyToksLt?, keyLe, PyRt.KeyTok.txt.injEq]
  by_cases hf : af = bf
  · subst hf
    simp only [if_true, restLt]
    simp
  · simp only [hf, if_false, PyRt.KeyTok.lt?, strLt_of_ne hf]
    simp [hf]

theorem smartLt (r₁ r₂ : Int) (a b : NatKey) :
    PyRt.smartKeyLt? (r₁, flatKey a) (r₂, flatKey b)
      = some (smartLe (r₁, a) (r₂, b) && !decide ((r₁, a) = (r₂, b))) := by
  simp only [PyRt.smartKeyLt?, smartLe, gt_iff_lt]
  by_cases hr : r₁ = r₂
  · subst hr
    simp only [if_true, Int.lt_irrefl, if_false, keyLt]
    simp
  · simp only [hr, if_false]
    by_cases hlt : r₁ < r₂
    · simp [hlt, hr]
    · have hgt : r₂ < r₁ := by omega
      simp [hlt, hgt]

theorem not_lt_swap {κ} [DecidableEq κ] {le : κ → κ → Bool} (h : OrderB le) (x y : κ) : (!(le y x && !decide (y = x))) = le x y := by
  by_cases e : y = x
  · subst e; simp [h.refl]
  · simp only [e, decide_false, Bool.not_false, Bool.and_true]
    cases hxy : le x y with
    | true =>
      cases hyx : le y x with
      | true => exact absurd (h.antisymm y x hyx hxy) e
      | false => rfl
    | false =>
      rcases h.total x y with h' | h'
      · rw [h'] at hxy; cases hxy
      · simp [h']

/-- the comparator `list.sort` uses (`x` goes in front of the first `y` that is not `< x`) is the model's `smartLe` -/
theorem not_smartLt_swap (r₁ r₂ : Int) (a b : NatKey) :
    (!((PyRt.smartKeyLt? (r₂, flatKey b) (r₁, flatKey a)).getD false)) = smartLe (r₁, a) (r₂, b) := by
  rw [smartLt, Option.getD_some]
  exact not_lt_swap smartLe_order (r₁, a) (r₂, b)

theorem not_keyLt_swap (a b : NatKey) :
    (!((PyRt.keyToksLt? (flatKey b) (flatKey a)).getD false)) = keyLe a b := by
  rw [keyLt, Option.getD_some]
  exact not_lt_swap keyLe_order a b

theorem sortedByKeyLt_ok {α κ : Type} (lt? : κ → κ → Option Bool) (k : α → R κ) (kf : α → κ) (xs : List α)
    (hk : ∀ x ∈ xs, k x = .ok (kf x))
    (hc : ∀ x ∈ xs, ∀ y ∈ xs, (lt? (kf x) (kf y)).isSome = true) :
    PyRt.sortedByKeyLt? lt? k xs = .ok (stableSort (fun a b => !((lt? (kf b) (kf a)).getD false)) xs) := by
  unfold PyRt.sortedByKeyLt?
  have hm : xs.mapM (fun x => (k x).map (fun d => (d, x))) = .ok (xs.map (fun x => (kf x, x))) :=
    AgpTpf.mapM_ok (by intro x hx; rw [hk x hx]; rfl)
  rw [hm]
  have hall : (xs.map (fun x => (kf x, x))).all
      (fun a => (xs.map (fun x => (kf x, x))).all (fun b => (lt? a.1 b.1).isSome)) = true := by
    simp only [List.all_map, List.all_eq_true, Function.comp]
    intro x hx y hy
    exact hc x hx y hy
  show (if (xs.map (fun x => (kf x, x))).all
      (fun a => (xs.map (fun x => (kf x, x))).all (fun b => (lt? a.1 b.1).isSome)) = true then _ else _) = _
  rw [if_pos hall]
  exact congrArg Except.ok (stableSort_decorated (fun ka kb => !((lt? kb ka).getD false)) kf xs)

theorem sortedByKeyLt_type_error {α κ : Type} (lt? : κ → κ → Option Bool) (k : α → R κ) (kf : α → κ) (xs : List α)
    (hk : ∀ x ∈ xs, k x = .ok (kf x)) (x y : α) (hx : x ∈ xs) (hy : y ∈ xs) (hxy : lt? (kf x) (kf y) = none) :
    PyRt.sortedByKeyLt? lt? k xs = .error .type := by
  unfold PyRt.sortedByKeyLt?
  have hm : xs.mapM (fun x => (k x).map (fun d => (d, x))) = .ok (xs.map (fun x => (kf x, x))) :=
    AgpTpf.mapM_ok (by intro x hx; rw [hk x hx]; rfl)
  rw [hm]
  have hall : ¬ (xs.map (fun x => (kf x, x))).all
      (fun a => (xs.map (fun x => (kf x, x))).all (fun b => (lt? a.1 b.1).isSome)) = true := by
    simp only [List.all_map, List.all_eq_true, Function.comp]
    intro h
    have := h x hx y hy
    rw [hxy] at this
    cases this
  show (if (xs.map (fun x => (kf x, x))).all
      (fun a => (xs.map (fun x => (kf x, x))).all (fun b => (lt? a.1 b.1).isSome)) = true then _ else _) = _
  rw [if_neg hall]

def refKey (heap_b : List Scaffold) (r : Nat) : Int × NatKey := smartKey (PyRt.bsGet heap_b r)

def refSorted (heap_b : List Scaffold) (refs : List Nat) : List Nat :=
  stableSort (fun a b => smartLe (refKey heap_b a) (refKey heap_b b)) refs

theorem sort_refs (heap_b : List Scaffold) (k : Nat → R (Int × List PyRt.KeyTok))
    (hk : ∀ r, k r = .ok ((PyRt.bsGet heap_b r).rank, flatKey (keyOf (PyRt.bsGet heap_b r).name))) (refs : List Nat) :
    PyRt.sortedByKeyLt? PyRt.smartKeyLt? k refs = .ok (refSorted heap_b refs) := by
  rw [sortedByKeyLt_ok PyRt.smartKeyLt? k
    (fun r => ((PyRt.bsGet heap_b r).rank, flatKey (keyOf (PyRt.bsGet heap_b r).name))) refs (fun r _ => hk r)
    (by intro x _ y _; rw [smartLt]; rfl)]
  unfold refSorted
  congr 2
  funext a b
  exact not_smartLt_swap _ _ _ _

theorem refSorted_deref (heap_b : List Scaffold) (refs : List Nat) :
    (refSorted heap_b refs).map (PyRt.bsGet heap_b) = smartSorted (refs.map (PyRt.bsGet heap_b)) := by
  unfold refSorted smartSorted
  exact (stableSort_map _ (PyRt.bsGet heap_b) (fun a b => smartLe (smartKey a) (smartKey b)) (fun _ _ => rfl) refs).symm

theorem refSorted_perm (heap_b : List Scaffold) (refs : List Nat) : (refSorted heap_b refs).Perm refs :=
  AgpTpf.stableSort_perm _ refs

theorem refSorted_stable (heap_b : List Scaffold) (refs : List Nat) (k : Int × NatKey) :
    (refSorted heap_b refs).filter (fun r => decide (refKey heap_b r = k))
      = refs.filter (fun r => decide (refKey heap_b r = k)) := by
  by_cases hk : ∃ a ∈ refs, refKey heap_b a = k
  · obtain ⟨a, _, rfl⟩ := hk
    have hst := stableSort_stable (totalPreorder_comap smartLe_totalPreorder (refKey heap_b)) a refs
    have hiff : ∀ r : Nat, (smartLe (refKey heap_b a) (refKey heap_b r) && smartLe (refKey heap_b r) (refKey heap_b a))
        = decide (refKey heap_b r = refKey heap_b a) := by
      intro r
      rw [Bool.eq_iff_iff]
      simp only [Bool.and_eq_true, decide_eq_true_eq]
      constructor
      · rintro ⟨h1, h2⟩; exact smartLe_order.antisymm _ _ h2 h1
      · intro e; rw [e]; exact ⟨smartLe_order.refl _, smartLe_order.refl _⟩
    simp only [hiff] at hst
    exact hst
  · have hnone : ∀ l : List Nat, (∀ r ∈ l, r ∈ refs) → l.filter (fun r => decide (refKey heap_b r = k)) = [] := by
      intro l hl
      rw [List.filter_eq_nil_iff]
      intro r hr e
      exact hk ⟨r, hl r hr, by simpa using e⟩
    rw [hnone _ (fun r hr => (refSorted_perm heap_b refs).subset hr), hnone _ (fun r hr => hr)]

end AgpTpf.ImpSmartSort
