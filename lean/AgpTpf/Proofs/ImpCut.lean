/-
  T1c helper lemmas for `cut_fragments` (assembly/build_assembly.py): the `for i, x in enumerate(xs)` loop whose body may raise is a
  `List.foldlM` carrying the index; the two halves of the tie (`sorted(…)` = `Pipeline.holderOrder`, the loop = the fold of
  `Pipeline.cutHolder`) stated without any generated term.  The model's `cutFragments` as a fold is `Pipeline.cutFragments_eq`.
-/
import AgpTpf.Model.PyRtHeap
import AgpTpf.Proofs.Lib.Py
import AgpTpf.Proofs.Lib.Pipeline
namespace AgpTpf.ImpCut

theorem error_bind {α β : Type} (e : Err) (f : α → R β) : ((Except.error e : R α) >>= f) = .error e := rfl
theorem ok_map {α β : Type} (a : α) (f : α → β) : (Except.ok a : R α).map f = .ok (f a) := rfl
theorem error_map {α β : Type} (e : Err) (f : α → β) : (Except.error e : R α).map f = .error e := rfl

/-- `for i, x in enumerate(xs): body` with a body that falls through or raises is a `foldlM` with the index in the state:
    `A` = the model's accumulator, `idx` the loop counter it carries, `π` the variables the translated body assigns -/
theorem forIn_enumFrom_foldlM {α σ ρ A : Type} (idx : A → Nat) (π : A → σ)
    (body : Int × α → σ → R (PyRt.Ctl σ ρ)) (step : A → α → R A)
    (hbody : ∀ a x, body ((idx a : Int), x) (π a) = (step a x).map (fun a' => PyRt.Ctl.next (π a')))
    (hidx : ∀ a x a', step a x = .ok a' → idx a' = idx a + 1)
    (xs : List α) (a : A) :
    PyRt.forIn (PyRt.enumerateFrom (idx a : Int) xs) (π a) body
      = (xs.foldlM step a).map (fun a' => PyRt.Done.fell (π a')) := by
  induction xs generalizing a with
  | nil => rfl
  | cons x xs ih =>
    rw [PyRt.enumerateFrom, PyRt.forIn, hbody, List.foldlM_cons]
    cases hs : step a x with
    | error e => rfl
    | ok a' =>
      have h1 : ((idx a : Int) + 1) = (idx a' : Int) := by rw [hidx a x a' hs]; rfl
      simp only [map_ok, ok_bind]
      rw [h1]
      exact ih a'

theorem decide_cast_eq_zero (i : Nat) : decide ((i : Int) = 0) = (i == 0) := by
  cases i
  · rfl
  · simp; omega
theorem decide_cast_eq_cast (i n : Nat) : decide ((i : Int) = (n : Int)) = (i == n) := by
  by_cases h : i = n
  · subst h; simp
  · have : ¬ ((i : Int) = (n : Int)) := by omega
    simp [h, this]

/-- `last_i = len(xs) - 1` for a non-empty list is the model's truncating `xs.length - 1` -/
theorem last_cast {α : Type} (xs : List α) (h : xs ≠ []) : ((xs.length : Int) - 1) = ((xs.length - 1 : Nat) : Int) := by
  have : 0 < xs.length := List.length_pos_iff.mpr h
  omega

/-- `sorted(holders, key=lambda s: s.fragment_start_if_trimmed(frgmnt))` is the model's visiting order -/
theorem sortedByM_holderOrder (store : List Res) (fnd : Found) :
    PyRt.sortedByM (fun s => (getRes store s).fragmentStartIfTrimmed fnd.fragment) fnd.scaffolds = Pipeline.holderOrder store fnd := by
  unfold PyRt.sortedByM Pipeline.holderOrder sortedByKeyM
  rw [map_eq_bind_ok]
  congr 2

/-- `π` packs `sub_fragments`, `store`, `nextOid` into the loop state, in whatever order the translator carries them; `hbody` is asked
    for a non-empty `xs` only (only a non-empty list has passes) -/
theorem cutLoop_is_forIn {ρ σ : Type} (π : List Fragment → List Res → Nat → σ) (f : Fragment) (last : Nat)
    (body : Int × Nat → σ → R (PyRt.Ctl σ ρ))
    (xs : List Nat)
    (hbody : xs ≠ [] → ∀ (i sid : Nat) (subs : List Fragment) (store : List Res) (oid : Nat),
      body ((i : Int), sid) (π subs store oid) =
        ((getRes store sid).trimFragment f (Pipeline.keepFlags f last i).1 (Pipeline.keepFlags f last i).2 oid) >>= fun p =>
          .ok (.next (π (subs ++ [p.2]) (PyRt.updRes store sid p.1) (oid + 1))))
    (b : Build) :
    PyRt.forIn (PyRt.enumerate xs) (π [] b.store b.nextOid) body
      = (xs.foldlM (Pipeline.cutHolder f last) (b, [], 0)).map (fun a => PyRt.Done.fell (π a.2.1 a.1.store a.1.nextOid)) := by
  by_cases hne : xs = []
  · subst hne; rfl
  replace hbody := hbody hne
  refine forIn_enumFrom_foldlM (fun a => a.2.2) (fun a => π a.2.1 a.1.store a.1.nextOid) body (Pipeline.cutHolder f last) ?_
    (fun a sid a' h => (Pipeline.cutHolder_frame (b := a.1) (subs := a.2.1) (i := a.2.2) h).2.2.2.2.2.1) xs (b, [], 0)
  rintro ⟨b', subs, i⟩ sid
  rw [hbody, Pipeline.cutHolder_eq]
  unfold getRes
  cases OverlapResult.trimFragment (b'.store.getD sid default).o f (Pipeline.keepFlags f last i).1 (Pipeline.keepFlags f last i).2
    b'.nextOid <;> rfl

end AgpTpf.ImpCut
