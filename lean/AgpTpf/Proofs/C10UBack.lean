/-
  C10 uniqueness, part 3 (the back half): if the fused scaffolds (`scaffolds_fused_by_name`) satisfy `FusedOk`,
  every output assembly of `assemblies_with_scaffolds_fused` has pairwise different scaffold names.
-/
import AgpTpf.Proofs.C10UName
namespace AgpTpf.C10U
open AgpTpf

/-- the key `scaffolds_fused_by_name` fuses by -/
def tri (s : Scaffold) : Option Str × Option Str × Str := (s.tag, s.haplotype, s.name)

/-- the three tag words that name an output assembly -/
def tagWords : List (Option Str) := [some sContaminant, some sFalseDuplicate, some sHaplotig]

/-- what one fused scaffold must look like (`p` the chromosome prefix, `N` the Pretext scaffold names) -/
structure ScOk (p : Str) (N : List Str) (s : Scaffold) : Prop where
  hapNe : s.haplotype ≠ some []
  hapNoTag : s.haplotype ∉ tagWords
  tagCases : s.tag = none ∨ s.tag ∈ tagWords
  taggedRank : s.tag ≠ none → s.rank ≠ 1 ∧ s.rank ≠ 2
  r1 : s.tag = none → s.rank = 1 → R1Shape N s
  r2 : s.tag = none → s.rank = 2 →
    ∃ t suf, s.name = t ++ suf ∧ isChrNameTag t = true ∧ isNumLetter t = false ∧ SufOk suf ∧ p.isPrefixOf s.name = false
  r3 : s.tag = none → s.rank ≠ 1 → s.rank ≠ 2 → p.isPrefixOf s.name = false

structure FusedOk (G : Option Str → Prop) (p : Str) (N : List Str) (fs : List Scaffold) : Prop where
  sc : ∀ s ∈ fs, ScOk p N s
  triples : (fs.map tri).Nodup
  /-- in the tagged assemblies with a key in `G`, equal names mean equal haplotypes (hence the same scaffold) -/
  tagged : ∀ s ∈ fs, ∀ s' ∈ fs, s.tag ≠ none → G s.tag → s.tag = s'.tag → s.name = s'.name → s.haplotype = s'.haplotype

theorem nodup_map_getD_inj {α β} (f : α → β) (l : List α) (d : α) (hnd : (l.map f).Nodup) (i j : Nat)
    (hi : i < l.length) (hj : j < l.length) (h : f (l.getD i d) = f (l.getD j d)) : i = j := by
  rw [List.getD_eq_getElem?_getD, List.getElem?_eq_getElem hi, List.getD_eq_getElem?_getD,
    List.getElem?_eq_getElem hj] at h
  exact (List.getElem_inj (h₀ := by rwa [List.length_map]) (h₁ := by rwa [List.length_map]) hnd).1
    (by rw [List.getElem_map, List.getElem_map]; exact h)

theorem truthy_of_tagWord {t : Option Str} (h : t ∈ tagWords) : truthy t = true := by
  simp only [tagWords, List.mem_cons, List.not_mem_nil, or_false] at h
  rcases h with rfl | rfl | rfl <;> rfl

theorem key_tagged {p : Str} {N : List Str} {s : Scaffold} (hs : ScOk p N s) (ht : s.tag ≠ none) :
    (C09.asmKey s).1 = s.tag ∧ s.tag ∈ tagWords := by
  rcases hs.tagCases with h | h
  · exact absurd h ht
  · refine ⟨?_, h⟩
    unfold C09.asmKey; rw [if_pos (truthy_of_tagWord h)]

theorem key_untagged {p : Str} {N : List Str} {s : Scaffold} (hs : ScOk p N s) (ht : s.tag = none) :
    (C09.asmKey s).1 = s.haplotype ∧ (C09.asmKey s).1 ∉ tagWords := by
  have hk : (C09.asmKey s).1 = s.haplotype := by
    unfold C09.asmKey
    rw [ht, if_neg (by simp [truthy])]
    rcases C10.truthy_cases s.haplotype with ⟨h1, _⟩ | ⟨h1, h2⟩
    · rw [if_pos h1]
    · rw [if_neg (by simp [h1])]
      rcases h2 with h2 | h2
      · rw [h2]
      · exact absurd h2 hs.hapNe
  exact ⟨hk, by rw [hk]; exact hs.hapNoTag⟩

theorem key_eq {p : Str} {N : List Str} {s s' : Scaffold} (hs : ScOk p N s) (hs' : ScOk p N s')
    (h : (C09.asmKey s).1 = (C09.asmKey s').1) : s.tag = s'.tag ∧ (s.tag = none → s.haplotype = s'.haplotype) := by
  by_cases ht : s.tag = none <;> by_cases ht' : s'.tag = none
  · exact ⟨ht.trans ht'.symm, fun _ => by rw [← (key_untagged hs ht).1, h, (key_untagged hs' ht').1]⟩
  · exact absurd (h ▸ (key_tagged hs' ht').1 ▸ (key_tagged hs' ht').2) (key_untagged hs ht).2
  · exact absurd (h ▸ (key_tagged hs ht).1 ▸ (key_tagged hs ht).2) (key_untagged hs' ht').2
  · exact ⟨by rw [← (key_tagged hs ht).1, h, (key_tagged hs' ht').1], fun h => absurd h ht⟩

/-- **renaming keeps different names different**, given what the new names look like: a numbered chromosome is called
    `<prefix><n><letter?><suffix>` (`h1`; equal such names come from equal old names, `h11`), a name-tagged one
    `<prefix><tag><suffix>` (`h2`), any other scaffold keeps a name outside `<prefix>…` (`h3`) -/
theorem renamed_inj (p : Str) (ok : Nat → Prop) (rk : Nat → Int) (nm nm' : Nat → Str)
    (h1 : ∀ k, ok k → rk k = 1 → ∃ n L suf, nm' k = p ++ natToStr n ++ L ++ suf ∧ LetterOk L ∧ SufOk suf)
    (h2 : ∀ k, ok k → rk k = 2 → nm' k = p ++ nm k ∧
      ∃ t suf, nm k = t ++ suf ∧ isChrNameTag t = true ∧ isNumLetter t = false ∧ SufOk suf)
    (h3 : ∀ k, ok k → ¬ (rk k = 1 ∨ rk k = 2) → nm' k = nm k ∧ p.isPrefixOf (nm k) = false)
    (h11 : ∀ i j, ok i → ok j → rk i = 1 → rk j = 1 → nm' i = nm' j → nm i = nm j)
    (i j : Nat) (hi : ok i) (hj : ok j) (heq : nm' i = nm' j) : nm i = nm j := by
  have hstart : ∀ k, ok k → (rk k = 1 ∨ rk k = 2) → p.isPrefixOf (nm' k) = true := by
    rintro k hk (hr | hr)
    · obtain ⟨n, L, suf, e, _⟩ := h1 k hk hr
      rw [e, List.append_assoc, List.append_assoc]; exact isPrefixOf_append_self p _
    · rw [(h2 k hk hr).1]; exact isPrefixOf_append_self p _
  -- a numbered chromosome is never called like a name-tagged one
  have h12 : ∀ i j, ok i → ok j → rk i = 1 → rk j = 2 → nm' i ≠ nm' j := by
    intro i j hi hj hi1 hj2 heq
    obtain ⟨n, L, suf, e, hL, hsuf⟩ := h1 i hi hi1
    obtain ⟨e', t, suf', hn, htag, hnl, hsuf'⟩ := h2 j hj hj2
    rw [e, e', hn, List.append_assoc, List.append_assoc] at heq
    exact num_ne_tag n L suf t suf' hL hsuf hsuf' htag hnl
      (by rw [List.append_assoc]; exact List.append_cancel_left heq)
  by_cases ci : rk i = 1 ∨ rk i = 2 <;> by_cases cj : rk j = 1 ∨ rk j = 2
  · rcases ci with hi1 | hi2 <;> rcases cj with hj1 | hj2
    · exact h11 i j hi hj hi1 hj1 heq
    · exact absurd heq (h12 i j hi hj hi1 hj2)
    · exact absurd heq.symm (h12 j i hj hi hj1 hi2)
    · rw [(h2 i hi hi2).1, (h2 j hj hj2).1] at heq
      exact List.append_cancel_left heq
  · have := hstart i hi ci
    rw [heq, (h3 j hj cj).1, (h3 j hj cj).2] at this
    cases this
  · have := hstart j hj cj
    rw [← heq, (h3 i hi ci).1, (h3 i hi ci).2] at this
    cases this
  · rw [(h3 i hi ci).1, (h3 j hj cj).1] at heq
    exact heq

/-- **Uniqueness from the fused list.**  `N` lists the Pretext scaffold names (at most `letterBound` of them); `G` the
    assembly keys the statement is about (all curated assemblies qualify whatever `G` says about tag words). -/
theorem fused_names_nodup (G : Option Str → Prop) (input : List Scaffold) (b : Build) (outs : List OutAsm)
    (stats : Stats) (N : List Str)
    (hN : N.length ≤ C10.letterBound) (hok : FusedOk G b.namer.autosomePrefix N (fuseByName b))
    (h : assembliesFused input b = .ok (outs, stats)) :
    ∀ a ∈ outs, G a.key → (a.scaffolds.map (·.name)).Nodup := by
  obtain ⟨fs', hname, rfl, -⟩ := C09.assembliesFused_ok h
  have hfs1 := splitLoop_spec b.namer.autosomePrefix (fuseByName b)
  have hmem := mem_entries b.namer.autosomePrefix (fuseByName b)
  have hnil := splitLoop_haps_nil_iff b.namer.autosomePrefix (fuseByName b)
  obtain ⟨hid, hm, -⟩ := C10.splitLoop_entries b.namer.autosomePrefix (fuseByName b)
  have hhnd := C10.splitLoop_haps_nodup b.namer.autosomePrefix (fuseByName b)
  have hids := asm_ids b.namer.autosomePrefix (fuseByName b)
  generalize C09.splitLoop b.namer.autosomePrefix (fuseByName b) = st at hname hfs1 hmem hnil hid hm hhnd hids ⊢
  obtain ⟨asms, entries, haps, fs1⟩ := st
  generalize b.namer.autosomePrefix = p at *
  generalize fuseByName b = fs at *
  simp only at hname hfs1 hmem hnil hid hm hhnd hids
  have hsc : ∀ j, j < fs.length → ScOk p N (fs.getD j default) := fun j hj => hok.sc _ (Pipeline.getD_mem hj)
  have hr1tag : ∀ j, j < fs.length → (fs.getD j default).rank = 1 → (fs.getD j default).tag = none := by
    intro j hj hr
    cases ht : (fs.getD j default).tag with
    | none => rfl
    | some t => exact absurd hr ((hsc j hj).taggedRank (by rw [ht]; simp)).1
  -- `add_chr_prefix` leaves the rank-1 scaffolds alone
  have hfs1r : ∀ j, (fs.getD j default).rank = 1 → fs1.getD j default = fs.getD j default := fun j hr => by
    rw [hfs1, pfx_name_of_ne _ _ (by rw [hr]; decide)]
  have hshape : ∀ e ∈ entries, R1Shape N (fs1.getD e.2 default) := by
    intro e he
    obtain ⟨h1, h2, _⟩ := (hmem e).1 he
    rw [hfs1r _ h2]
    exact (hsc e.2 h1).r1 (hr1tag e.2 h1 h2) h2
  obtain ⟨hframe, hnew, hinj⟩ := named_spec p N hN fs1 haps entries fs' hhnd hid hm hnil hshape hname
  have hfinal_other : ∀ j, (fs.getD j default).rank ≠ 1 →
      (fs'.getD j default).name = (C09.pfx p (fs.getD j default)).name := by
    intro j hr
    rw [hframe j, hfs1]
    intro hmem'
    obtain ⟨e, he, rfl⟩ := List.mem_map.1 hmem'
    exact hr ((hmem e).1 he).2.1
  have hentry : ∀ j, j < fs.length → (fs.getD j default).rank = 1 →
      (pyStrOpt (C09.asmKey (fs.getD j default)).1, j) ∈ entries := fun j hj hr => (hmem _).2 ⟨hj, hr, rfl⟩
  -- untagged scaffolds of one haplotype: equal new names come from equal old names
  have huntagged : ∀ i j, (i < fs.length ∧ (fs.getD i default).tag = none) → (j < fs.length ∧ (fs.getD j default).tag = none) →
      (C09.asmKey (fs.getD i default)).1 = (C09.asmKey (fs.getD j default)).1 →
      (fs'.getD i default).name = (fs'.getD j default).name → (fs.getD i default).name = (fs.getD j default).name := by
    intro i j hi hj hkey
    refine renamed_inj p (fun k => (k < fs.length ∧ (fs.getD k default).tag = none) ∧
        (C09.asmKey (fs.getD k default)).1 = (C09.asmKey (fs.getD i default)).1)
      (fun k => (fs.getD k default).rank) (fun k => (fs.getD k default).name) (fun k => (fs'.getD k default).name)
      ?_ ?_ ?_ ?_ i j ⟨hi, rfl⟩ ⟨hj, hkey.symm⟩
    · exact fun k hk hr => hnew _ (hentry k hk.1.1 hr)
    · intro k hk hr
      obtain ⟨t, suf, hn, htag, hnl, hsuf, hpre⟩ := (hsc k hk.1.1).r2 hk.1.2 hr
      refine ⟨?_, t, suf, hn, htag, hnl, hsuf⟩
      show (fs'.getD k default).name = _
      rw [hfinal_other k (by rw [hr]; decide)]
      unfold C09.pfx
      rw [if_pos ⟨hr, by rw [hpre]; simp⟩]
    · exact fun k hk hr => ⟨by
        show (fs'.getD k default).name = _
        rw [hfinal_other k (fun h => hr (Or.inl h)), pfx_name_of_ne _ _ (fun h => hr (Or.inr h))],
        (hsc k hk.1.1).r3 hk.1.2 (fun h => hr (Or.inl h)) (fun h => hr (Or.inr h))⟩
    · intro a b ha hb ha1 hb1 heq
      have := hinj _ (hentry a ha.1.1 ha1) _ (hentry b hb.1.1 hb1) (by simp only; rw [ha.2, hb.2]) heq
      rw [hfs1r _ ha1, hfs1r _ hb1] at this
      exact this
  have hclaim : ∀ i j, i < fs.length → j < fs.length → G (C09.asmKey (fs.getD i default)).1 →
      (C09.asmKey (fs.getD i default)).1 = (C09.asmKey (fs.getD j default)).1 →
      (fs'.getD i default).name = (fs'.getD j default).name → i = j := by
    intro i j hi hj hG hkey heq
    have Si := hsc i hi
    have Sj := hsc j hj
    obtain ⟨htag, hhap⟩ := key_eq Si Sj hkey
    -- the triples are pairwise different: it suffices to show equal haplotypes and equal names
    have finish : (fs.getD i default).haplotype = (fs.getD j default).haplotype →
        (fs.getD i default).name = (fs.getD j default).name → i = j := fun e2 e3 =>
      nodup_map_getD_inj tri fs default hok.triples i j hi hj (by unfold tri; rw [htag, e2, e3])
    by_cases hti : (fs.getD i default).tag = none
    · exact finish (hhap hti) (huntagged i j ⟨hi, hti⟩ ⟨hj, htag ▸ hti⟩ hkey heq)
    · -- tagged: the names are untouched
      have hri := Si.taggedRank hti
      have hrj := Sj.taggedRank (htag ▸ hti)
      rw [hfinal_other i hri.1, hfinal_other j hrj.1, pfx_name_of_ne _ _ hri.2, pfx_name_of_ne _ _ hrj.2] at heq
      exact finish (hok.tagged _ (Pipeline.getD_mem hi) _ (Pipeline.getD_mem hj) hti
        (by rw [← (key_tagged Si hti).1]; exact hG) htag heq) heq
  intro a ha hGa
  obtain ⟨asm, hasm, rfl⟩ := List.mem_map.1 ha
  show ((C20.smartSorted (asm.2.2.map (fun sid => fs'.getD sid default))).map (·.name)).Nodup
  have hperm : ((C20.smartSorted (asm.2.2.map (fun sid => fs'.getD sid default))).map (·.name)).Perm
      ((asm.2.2.map (fun sid => fs'.getD sid default)).map (·.name)) := (stableSort_perm _ _).map _
  rw [hperm.nodup_iff, List.map_map, hids asm hasm, List.Nodup, List.pairwise_map]
  refine List.Pairwise.imp_of_mem ?_ (List.nodup_range.filter _)
  intro i j hi hj hij heq
  simp only [List.mem_filter, List.mem_range, decide_eq_true_eq] at hi hj
  exact hij (hclaim i j hi.1 hj.1 (by rw [hi.2]; exact hGa) (hi.2.trans hj.2.symm) heq)

end AgpTpf.C10U
