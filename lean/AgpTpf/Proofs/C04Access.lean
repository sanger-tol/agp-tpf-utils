/-
  C04 helper: random access (`sequence_bytes`) through the index of a record laid out with uniform line width.
-/
import AgpTpf.Proofs.C04Loop
import AgpTpf.Properties.C03
namespace AgpTpf.C04
open AgpTpf

theorem getInfo_expected (pre : List Rec) (r : Rec) (post : List Rec)
    (hnd : ((pre ++ r :: post).map Rec.name).Nodup) :
    getInfo ((pre ++ r :: post).foldl addRec {}).idx r.name = .ok (r.info ((fileOf pre).length : Nat)) := by
  have hn : r.name ∉ (expIdx 0 pre).map Prod.fst := by
    rw [expIdx_keys]
    simp only [List.map_append, List.map_cons] at hnd
    exact fun hm => (List.nodup_append.mp hnd).2.2 _ hm _ (by simp) rfl
  rw [foldl_addRec, expIdx_append]
  simp only [List.nil_append, expIdx, getInfo]
  rw [dGet?_append_of_none _ ((dGet?_none_iff _ _).2 hn), dGet?_cons, if_pos rfl]
  simp

theorem uniform_eq_linesOf {w : Nat} (hw : 0 < w) {lines : List Bytes} (hu : Uniform w lines) :
    lines = WrapProofs.linesOf w lines.flatten := by
  rcases hu with rfl | ⟨full, last, rfl, hfull, h0, hle⟩
  · simp [WrapProofs.linesOf]
  · have hlast : last ≠ [] := List.length_pos_iff.mp h0
    induction full with
    | nil => simp [WrapProofs.linesOf_short hlast hle]
    | cons f fs ih =>
      have hne : (fs ++ [last]).flatten ≠ [] := by simp [hlast]
      rw [List.cons_append, List.flatten_cons, WrapProofs.linesOf_full_append hw (hfull f (by simp)) hne,
        ← ih fun l hl => hfull l (by simp [hl])]

/-- `min w n` residues per line is what the indexer records as `rpl` -/
theorem laidOut_of_uniform (pre : List Rec) (r : Rec) (post : List Rec) {w : Nat} (hw : 0 < w) (hu : Uniform w r.lines)
    (hne : r.res ≠ []) :
    SeqProofs.LaidOut (fileOf (pre ++ r :: post)) (fileOf pre ++ r.hdrLine).length (min w r.res.length)
      (min w r.res.length + r.le.length) r.res := by
  have hpos := List.length_pos_iff.mpr hne
  have hfile : fileOf (pre ++ r :: post) =
      (fileOf pre ++ r.hdrLine) ++ (SeqProofs.renderBody (min w r.res.length) r.le r.res ++ fileOf post) := by
    rw [SeqProofs.renderBody, ← WrapProofs.linesOf_min hne, Rec.res, ← uniform_eq_linesOf hw hu]
    simp [fileOf, Rec.bytes, Rec.fileLines]
  rw [hfile]
  exact C03.rendered_record_laidOut _ (by omega) _ _ _ _

theorem recordOK_of_uniform (pre : List Rec) (r : Rec) (post : List Rec) (w : Nat) (hu : Uniform w r.lines)
    (hne : r.res ≠ []) :
    StreamProofs.RecordOK (fileOf (pre ++ r :: post)) (r.info ((fileOf pre).length : Nat)) r.res := by
  have hpos : 0 < r.lines.flatten.length := List.length_pos_iff.mpr hne
  have hw : 0 < w := by
    rcases hu with h | ⟨_, last, _, _, h0, hle⟩
    · exact absurd (by simp [Rec.res, h]) hne
    · omega
  have hlay := laidOut_of_uniform pre r post hw hu hne
  rw [List.length_append] at hlay
  simp only [StreamProofs.RecordOK, Rec.info, Rec.rpl, rplOf_uniform w r.lines hu, Int.toNat_natCast, ← Int.natCast_add]
  exact ⟨by omega, by omega, by omega, hlay⟩

/-- **random access through the index**: for a record with uniform line width inside a well-formed file,
    `sequence_bytes(info, s, e)` returns exactly residues `s … e` (1-based inclusive). -/
theorem sequenceBytes_record (pre : List Rec) (r : Rec) (post : List Rec) (w : Nat) (hu : Uniform w r.lines)
    (s e : Nat) (hs : 1 ≤ s) (hse : s ≤ e) (hen : e ≤ r.res.length) :
    ∃ log, sequenceBytes (fileOf (pre ++ r :: post)) (r.info ((fileOf pre).length : Nat)) s e = .ok log ∧
      log.data = (r.res.drop (s - 1)).take (e - (s - 1)) := by
  have hne : r.res ≠ [] := by intro h; rw [h] at hen; simp at hen; omega
  obtain ⟨log, h1, h2, _⟩ := StreamProofs.seq_chunk (recordOK_of_uniform pre r post w hu hne) s e
    (by omega) (by omega) (by omega)
  refine ⟨log, h1, ?_⟩
  rw [h2, StreamProofs.slice, SeqProofs.slice0]
  congr <;> omega

end AgpTpf.C04
