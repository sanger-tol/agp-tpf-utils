/-
  C02 (script model): the contigs cut deep inside.  The holders of a contig in the registry `regOf` are the map positions
  of the pieces of its scaffold whose span meets its row (`holder_iff`); two pieces that abut inside the contig form a cut
  site (`site_ok`); sorted by start, consecutive holders abut, so every chain is `ChainOk` and the map is in `DeepCutN`
  (S4', deep cuts).
-/
import AgpTpf.Proofs.C02SCuts
namespace AgpTpf.C02
open AgpTpf AgpTpf.Pretext
open AgpTpf.C12 (rowSpan meets meets_iff rowSpan_len mem_lookup lookup_end_deep lookup_start_deep)

theorem pieceAt_item {input : List Scaffold} {s : Script} (hw : WfScript input s) {n : Nat} {bx : Bool × Placed}
    (hn : (itemsT s)[n]? = some bx) :
    (pieceAt (ptxOf input s) n).2 = fragOf input s bx ∧ n < (allPieces (ptxOf input s)).length := by
  have e : (allPieces (ptxOf input s))[n]?.map Prod.snd = some (fragOf input s bx) := by
    rw [← List.getElem?_map, allPieces_snd, fragsOf_ptxOf_wf hw, List.getElem?_map, hn]; rfl
  obtain ⟨x, hx, hxe⟩ := Option.map_eq_some_iff.1 e
  obtain ⟨h1, h2⟩ := pieceAt_of_getElem? hx
  exact ⟨by rw [h1, hxe], h2⟩

/-- map position `n` holds item `bx`, a piece of input scaffold `i` whose span `ab` meets row `r` -/
structure HolderAt (input : List Scaffold) (s : Script) (i : Nat) (sc : Scaffold) (c : ScafScript) (r n : Nat)
    (bx : Bool × Placed) (ab : Nat × Nat) : Prop where
  item : (itemsT s)[n]? = some bx
  idx : bx.2.sc = i
  piece : PieceOf input s (fragOf input s bx) i bx.2.k sc c ab
  meets : meets sc.rows ab.1 ab.2 r = true

theorem HolderAt.of_span {input : List Scaffold} {s : Script} (hw : WfScript input s) {i : Nat} {sc : Scaffold}
    {c : ScafScript} (hsc : input[i]? = some sc) (hc : s.scafs[i]? = some c) {r n : Nat} {bx : Bool × Placed}
    {ab : Nat × Nat} (hn : (itemsT s)[n]? = some bx) (hi : bx.2.sc = i) (hab : (c.spans s.p s.q)[bx.2.k]? = some ab)
    (hm : C12.meets sc.rows ab.1 ab.2 r = true) : HolderAt input s i sc c r n bx ab := by
  obtain ⟨sc', c', ab', P, -⟩ := pieceOf_fragOf hw (List.mem_of_getElem? hn)
  subst hi
  cases P.hsc.symm.trans hsc
  cases P.hc.symm.trans hc
  cases P.hab.symm.trans hab
  exact ⟨hn, rfl, P, hm⟩

theorem holder_iff {input : List Scaffold} {s : Script} (hw : WfScript input s) (hin : InputBase input) {i : Nat}
    {sc : Scaffold} {c : ScafScript} (hsc : input[i]? = some sc) (hc : s.scafs[i]? = some c) {r : Nat} {F : Fragment}
    (hr : sc.rows[r]? = some (.frag F)) (n : Nat) :
    n ∈ holdersOf input (ptxOf input s) F.keyTuple ↔ ∃ bx ab, HolderAt input s i sc c r n bx ab := by
  rw [mem_holdersOf]
  constructor
  · rintro ⟨x, hx, hk⟩
    have hn : n < (itemsT s).length := by
      have := (List.getElem?_eq_some_iff.1 hx).1
      rwa [← List.length_map (f := Prod.snd), allPieces_snd, fragsOf_ptxOf_wf hw, List.length_map] at this
    have hbx := List.getElem?_eq_getElem hn
    obtain ⟨sc', c', ab, P, -⟩ := pieceOf_fragOf hw (List.mem_of_getElem? hbx)
    have e := (pieceAt_item (input := input) hw hbx).1
    rw [(pieceAt_of_getElem? hx).1] at e
    rw [e] at hk
    obtain ⟨rfl, rfl, hm⟩ := P.of_key hin hsc hr hk
    cases P.hc.symm.trans hc
    exact ⟨_, ab, hbx, rfl, P, hm⟩
  · rintro ⟨bx, ab, hbx, -, P, hm⟩
    obtain ⟨h1, h2⟩ := pieceAt_item (input := input) hw hbx
    refine ⟨_, List.getElem?_eq_getElem h2, ?_⟩
    have : (allPieces (ptxOf input s))[n] = pieceAt (ptxOf input s) n :=
      ((pieceAt_of_getElem? (List.getElem?_eq_getElem h2)).1).symm
    rw [this, h1]
    exact (P.mem_keys hin _).2 ⟨r, F, hr, hm, rfl⟩

section
variable {input : List Scaffold} {s : Script} {i : Nat} {sc : Scaffold} {c : ScafScript} {r : Nat}

theorem HolderAt.start (hw : WfScript input s) {n : Nat} {bx : Bool × Placed} {ab : Nat × Nat}
    (h : HolderAt input s i sc c r n bx ab) : (pieceAt (ptxOf input s) n).2.start = (ab.1 : Int) := by
  rw [(pieceAt_item hw h.item).1, h.piece.start]

theorem HolderAt.bounds (hw : WfScript input s) {n : Nat} {bx : Bool × Placed} {ab : Nat × Nat}
    (h : HolderAt input s i sc c r n bx ab) :
    coord s.p s.q 0 + 1 ≤ ab.1 ∧ ab.1 ≤ ab.2 ∧ ab.2 ≤ coord s.p s.q c.T :=
  spansFrom_bounds hw.hq hw.hpq (h.piece.span hw).2.1 (h.piece.span hw).1

theorem site_ok (hw : WfScript input s) (hin : InputBase input) (hd : DeepScript input s) {F : Fragment}
    (hr : sc.rows[r]? = some (.frag F)) (hstr : F.strand = 1 ∨ F.strand = -1) {a b : Nat} {bxa bxb : Bool × Placed}
    {aba abb : Nat × Nat} (ha : HolderAt input s i sc c r a bxa aba) (hb : HolderAt input s i sc c r b bxb abb)
    (habut : aba.2 + 1 = abb.1) :
    SiteOk input (ptxOf input s) (errLen s.p s.q : Int) ⟨F.keyTuple, F, a, b⟩ := by
  have Pa := ha.piece
  have Pb := hb.piece
  have hlr : (rowSpan sc.rows r).2 - F.length + 1 = (rowSpan sc.rows r).1 := by
    have := rowSpan_len sc.rows r _ hr
    simp only [Row.length] at this
    omega
  have hbdb := hb.bounds hw
  -- the cut `aba.2 | aba.2 + 1` is an interior cut, and row `r` straddles it
  obtain ⟨t, ht, het⟩ : ∃ t ∈ c.cuts, aba.2 = coord s.p s.q t :=
    (mem_spansFrom (Pa.span hw).1).2.resolve_left (by omega)
  obtain ⟨_, _, hra, -⟩ := (meets_iff _ _ _ _).1 ha.meets
  obtain ⟨_, _, -, hrb⟩ := (meets_iff _ _ _ _).1 hb.meets
  obtain ⟨d1, d2⟩ :=
    ((hd _ sc c Pa.hsc Pa.hc Pa.present).cuts t ht r F hr).of_straddle (by omega) (by omega)
  have hlen := hin.lens sc Pa.mem_input
  have hne := List.ne_nil_of_mem ht
  have hE := errLen_pos s.p s.q
  obtain ⟨hspa, hlasta, hdeepa⟩ :=
    lookup_end_deep hlen (Pa.lookup hin ha.meets).2 hr hE (Pa.long hw hne) (by rw [Pa.stop, het]) d1 d2
  obtain ⟨hstb, hheadb, hdeepb⟩ :=
    lookup_start_deep hlen (Pb.lookup hin hb.meets).2 hr hE (Pb.long hw hne) (by rw [Pb.start]; omega) d1 d2
  obtain ⟨hpa, hla⟩ := pieceAt_item hw ha.item
  obtain ⟨hpb, hlb⟩ := pieceAt_item hw hb.item
  rw [← hpa] at hspa hlasta hdeepa
  rw [← hpb] at hstb hheadb hdeepb
  refine ⟨?_, hla, hlb, hlasta, hheadb, ?_, ?_, hdeepa, hdeepb, hstr⟩
  · show a ≠ b
    intro e
    subst e
    cases ha.item.symm.trans hb.item
    obtain ⟨-, -, e⟩ := Pa.unique Pb
    rw [e] at habut
    omega
  · show (pieceAt (ptxOf input s) a).2.stop + 1 = (pieceAt (ptxOf input s) b).2.start
    rw [hpa, hpb, Pa.stop, Pb.start]; omega
  · show (pieceO input (pieceAt (ptxOf input s) a).2).stop - F.length + 1 =
      (pieceO input (pieceAt (ptxOf input s) b).2).start
    rw [hspa, hstb]; exact hlr

theorem holders_disjoint (hw : WfScript input s) {a b : Nat} {bxa bxb : Bool × Placed} {aba abb : Nat × Nat}
    (ha : HolderAt input s i sc c r a bxa aba) (hb : HolderAt input s i sc c r b bxb abb) (hne : a ≠ b) :
    aba.2 < abb.1 ∨ abb.2 < aba.1 := by
  have hpw := List.pairwise_iff_getElem.1 (itemsT_pairwise hw)
  obtain ⟨hla, ea⟩ := List.getElem?_eq_some_iff.1 ha.item
  obtain ⟨hlb, eb⟩ := List.getElem?_eq_some_iff.1 hb.item
  have hk : bxa.2.k ≠ bxb.2.k := by
    intro e
    have hid : (bxa.2.sc, bxa.2.k) = (bxb.2.sc, bxb.2.k) := by rw [ha.idx, hb.idx, e]
    rcases Nat.lt_or_gt_of_ne hne with h | h
    · have := hpw a b hla hlb h; rw [ea, eb] at this; exact this hid
    · have := hpw b a hlb hla h; rw [ea, eb] at this; exact this hid.symm
  have hsp := spansFrom_pairwise hw.hq hw.hpq (ha.piece.span hw).2.1
  rw [← spans_present ha.piece.present] at hsp
  have hpg := List.pairwise_iff_getElem.1 hsp
  obtain ⟨hka, ea'⟩ := List.getElem?_eq_some_iff.1 ha.piece.hab
  obtain ⟨hkb, eb'⟩ := List.getElem?_eq_some_iff.1 hb.piece.hab
  rcases Nat.lt_or_gt_of_ne hk with h | h
  · left; have := hpg _ _ hka hkb h; rw [ea', eb'] at this; exact this
  · right; have := hpg _ _ hkb hka h; rw [ea', eb'] at this; exact this

end

theorem holders_chain_ok {input : List Scaffold} {s : Script} (hw : WfScript input s) (hin : InputBase input)
    (hd : DeepScript input s) {i : Nat} {sc : Scaffold} {c : ScafScript} (hsc : input[i]? = some sc)
    (hc : s.scafs[i]? = some c) {r : Nat} {F : Fragment} (hr : sc.rows[r]? = some (.frag F))
    (hstr : F.strand = 1 ∨ F.strand = -1) {chain : List Nat}
    (hmemc : ∀ n, n ∈ chain ↔ ∃ bx ab, HolderAt input s i sc c r n bx ab) (hnd : chain.Nodup)
    (hsorted : chain.Pairwise
      (fun a b => (pieceAt (ptxOf input s) a).2.start ≤ (pieceAt (ptxOf input s) b).2.start)) :
    Adj (fun a b => SiteOk input (ptxOf input s) (errLen s.p s.q : Int) ⟨F.keyTuple, F, a, b⟩) chain := by
  have hstrict : chain.Pairwise
      (fun a b => (pieceAt (ptxOf input s) a).2.start < (pieceAt (ptxOf input s) b).2.start) := by
    refine List.Pairwise.imp_of_mem ?_ (hsorted.and (List.nodup_iff_pairwise_ne.1 hnd))
    intro a b ha hb hab
    obtain ⟨bxa, aba, hha⟩ := (hmemc a).1 ha
    obtain ⟨bxb, abb, hhb⟩ := (hmemc b).1 hb
    have va := hha.bounds hw
    have vb := hhb.bounds hw
    have := holders_disjoint hw hha hhb hab.2
    have h1 := hab.1
    rw [hha.start hw, hhb.start hw] at h1 ⊢
    omega
  apply adj_intro (fun n => (pieceAt (ptxOf input s) n).2.start) _ chain hstrict
  intro a ha b hb hlt hbetween
  obtain ⟨bxa, aba, hha⟩ := (hmemc a).1 ha
  obtain ⟨bxb, abb, hhb⟩ := (hmemc b).1 hb
  obtain ⟨hma, hinc, -⟩ := hha.piece.span hw
  rw [hha.start hw, hhb.start hw] at hlt
  rcases spansFrom_between hw.hq hw.hpq hinc hma (hhb.piece.span hw).1 (by omega) with habut | ⟨abm, hmm, h1, h2⟩
  · exact site_ok hw hin hd hr hstr hha hhb habut
  · -- a piece between two pieces that meet row `r` meets it as well: a holder between `a` and `b`
    exfalso
    obtain ⟨bxm, hbxm, e, P⟩ := piece_of_span hw hsc hc (spans_present hha.piece.present ▸ hmm)
    obtain ⟨m, hm⟩ := List.mem_iff_getElem?.1 hbxm
    obtain ⟨_, _, hra, -⟩ := (meets_iff _ _ _ _).1 hha.meets
    obtain ⟨_, _, -, hrb⟩ := (meets_iff _ _ _ _).1 hhb.meets
    have hbm := spansFrom_bounds hw.hq hw.hpq hinc hmm
    have hhm : HolderAt input s i sc c r m bxm abm :=
      ⟨hm, e, P, (meets_iff _ _ _ _).2 ⟨_, hr, by omega, by omega⟩⟩
    have hbda := hha.bounds hw
    rcases hbetween m ((hmemc m).2 ⟨bxm, abm, hhm⟩) with h | h
    · rw [hhm.start hw, hha.start hw] at h; omega
    · rw [hhm.start hw, hhb.start hw] at h; omega

theorem script_chain_ok {input : List Scaffold} {s : Script} (hw : WfScript input s) (hin : InputBase input)
    (hd : DeepScript input s)
    (hstr : ∀ sc ∈ input, ∀ f ∈ sc.fragments, f.strand = 1 ∨ f.strand = -1)
    (x : SiteN) (hx : x ∈ sitesN input (ptxOf input s)) :
    ChainOk input (ptxOf input s) (errLen s.p s.q : Int) x := by
  unfold sitesN at hx
  obtain ⟨key, hkey, rfl⟩ := List.mem_map.1 hx
  obtain ⟨fnd, hget, hfkey, -, hsite⟩ := site_casesN input (ptxOf input s) key hkey
  rw [hsite, ← hfkey]
  clear hsite hx
  show Adj _ (sortByIntKey (fun n => (pieceAt (ptxOf input s) n).2.start) fnd.scaffolds)
  have hperm : (sortByIntKey (fun n => (pieceAt (ptxOf input s) n).2.start) fnd.scaffolds).Perm fnd.scaffolds :=
    stableSort_perm _ _
  have hH : holdersOf input (ptxOf input s) key = fnd.scaffolds := by unfold holdersOf; rw [hget]
  -- the registered Fragment object is a contig row of the input scaffold of a piece that found it
  obtain ⟨i, sc, c, r, hsc, hc, hr⟩ : ∃ (i : Nat) (sc : Scaffold) (c : ScafScript) (r : Nat),
      input[i]? = some sc ∧ s.scafs[i]? = some c ∧ sc.rows[r]? = some (Row.frag fnd.fragment) := by
    obtain ⟨x0, hx0, hf0⟩ := regOf_fragment input (ptxOf input s) key fnd hget
    have hx0' : x0.2 ∈ (itemsT s).map (fragOf input s) := by
      rw [← fragsOf_ptxOf_wf hw, ← allPieces_snd]; exact List.mem_map_of_mem hx0
    obtain ⟨bx0, hbx0, e0⟩ := List.mem_map.1 hx0'
    obtain ⟨sc, c, ab0, P0, -⟩ := pieceOf_fragOf hw hbx0
    obtain ⟨r0, hr0⟩ := (hd _ sc c P0.hsc P0.hc P0.present).touch ab0 (List.mem_of_getElem? P0.hab)
    obtain ⟨r, hr, -⟩ :=
      (mem_lookup (hin.lens sc P0.mem_input) (e0 ▸ (P0.lookup hin hr0).2) fnd.fragment).1 hf0
    exact ⟨_, sc, c, r, P0.hsc, P0.hc, hr⟩
  refine holders_chain_ok hw hin hd hsc hc hr (hstr sc (List.mem_of_getElem? hsc) _ (frag_mem_fragments hr))
    (fun n => by rw [hperm.mem_iff, ← hH, ← hfkey, holder_iff hw hin hsc hc hr n])
    (hperm.nodup_iff.2 (hH ▸ holdersOf_nodup _ _ _ (fun x0 _ => pieceKeys_nodup hin x0.2)))
    (stableSort_pairwise _ _)

/-- **S4', deep cuts.**  The map of a well-formed, unpainted script whose interior cuts fall between contigs or deeper than
    `3·errLen` inside a contig is in the class `DeepCutN`. -/
theorem script_deepCutN {input : List Scaffold} {s : Script} (hw : WfScript input s) (hin : InputOk input)
    (hoid : ∀ sc ∈ input, (C18.ids sc.rows).Nodup)
    (hstr : ∀ sc ∈ input, ∀ f ∈ sc.fragments, f.strand = 1 ∨ f.strand = -1)
    (hd : DeepScript input s) (hh : HeadsOk input s) (ht : TailOk input s)
    (hup : ∀ g ∈ s.groups, g.painted = false) :
    DeepCutN input (ptxOf input s) (errLen s.p s.q : Int) :=
  ⟨script_deepBase hw hin hoid hd hh ht hup, fun x hx => script_chain_ok hw hin.toInputBase hd hstr x hx⟩

end AgpTpf.C02
