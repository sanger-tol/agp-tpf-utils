/-
  C08 helpers, part 1 (stages N1, N2): looking up a whole, uncut scaffold and not trimming it.
-/
import AgpTpf.Proofs.Remap.Run
import AgpTpf.Proofs.Lib.Lookup
namespace AgpTpf.C08
open AgpTpf
open AgpTpf.C12 (pre fragAt passes findOverlaps_cases pre_zero pre_succ pre_mono)

structure WfRows (rows : List Row) : Prop where
  ne : rows ≠ []
  headFrag : ∃ f, rows.head? = some (.frag f)
  lastFrag : ∃ f, rows.getLast? = some (.frag f)
  lenNonneg : ∀ r ∈ rows, 0 ≤ r.length
  fragPos : ∀ f, Row.frag f ∈ rows → 1 ≤ f.length

/-- scaffold coordinate of the first base of the last row -/
def lastFragmentStart (rows : List Row) : Int := 1 + rowsLength rows.dropLast

theorem pre_length (rows : List Row) : pre rows rows.length = rowsLength rows := by simp [pre]

theorem pre_dropLast (rows : List Row) : pre rows (rows.length - 1) = rowsLength rows.dropLast := by
  unfold pre; rw [List.dropLast_eq_take]

theorem WfRows.length_pos {rows : List Row} (hw : WfRows rows) : 0 < rows.length := by
  cases rows with
  | nil => exact absurd rfl hw.ne
  | cons _ _ => simp

theorem WfRows.fragAt_zero {rows : List Row} (hw : WfRows rows) : fragAt rows 0 = true := by
  obtain ⟨f, hf⟩ := hw.headFrag
  unfold fragAt
  rw [← List.head?_eq_getElem?, hf]

theorem WfRows.fragAt_last {rows : List Row} (hw : WfRows rows) : fragAt rows (rows.length - 1) = true := by
  obtain ⟨f, hf⟩ := hw.lastFrag
  unfold fragAt
  rw [← List.getLast?_eq_getElem?, hf]

theorem WfRows.pre_one {rows : List Row} (hw : WfRows rows) : 1 ≤ pre rows 1 := by
  obtain ⟨f, hf⟩ := hw.headFrag
  have hp := hw.length_pos
  rw [pre_succ rows 0 hp, pre_zero]
  have h0 : rows[0] = .frag f := by
    rw [List.head?_eq_getElem?, List.getElem?_eq_getElem hp] at hf
    simpa using hf
  have := hw.fragPos f (h0 ▸ List.getElem_mem hp)
  rw [h0]; simp only [Row.length]; omega

theorem WfRows.rowsLength_pos {rows : List Row} (hw : WfRows rows) : 1 ≤ rowsLength rows := by
  have h1 := hw.pre_one
  have h2 := pre_mono rows hw.lenNonneg 1 rows.length hw.length_pos
  rw [pre_length] at h2; omega

theorem WfRows.lastFragmentStart_pos {rows : List Row} (hw : WfRows rows) : 1 ≤ lastFragmentStart rows := by
  unfold lastFragmentStart
  have := pre_mono rows hw.lenNonneg 0 (rows.length - 1) (by omega)
  rw [pre_zero, pre_dropLast] at this; omega

theorem lastFragmentStart_eq (rows : List Row) (r : Row) (h : rows.getLast? = some r) :
    lastFragmentStart rows = rowsLength rows - r.length + 1 := by
  unfold lastFragmentStart
  obtain ⟨ys, rfl⟩ := List.getLast?_eq_some_iff.1 h
  rw [List.dropLast_concat, rowsLength_append]
  simp [rowsLength, sumInts]
  omega

theorem WfRows.lastFragmentStart_le {rows : List Row} (hw : WfRows rows) : lastFragmentStart rows ≤ rowsLength rows := by
  obtain ⟨f, hf⟩ := hw.lastFrag
  have := hw.fragPos f (List.mem_of_getLast? hf)
  rw [lastFragmentStart_eq rows _ hf]
  simp only [Row.length]; omega

/-- **N1.** A forward bait `[1, E]` that reaches into the last contig of a well-formed scaffold finds the WHOLE scaffold:
    all rows, span `1 .. length`. -/
theorem findOverlaps_whole (rows : List Row) (bait : Fragment) (hw : WfRows rows)
    (hs : bait.start = 1) (hE : lastFragmentStart rows ≤ bait.stop) :
    findOverlaps rows bait =
      .ok (some { bait := bait, start := 1, stop := rowsLength rows, rows := rows, name := "matches".toList }) := by
  have hp := hw.length_pos
  have hlp := hw.lastFragmentStart_pos
  have hp0 : passes rows bait.start bait.stop 0 := by
    unfold passes
    rw [pre_zero, hs]
    exact ⟨by omega, hw.pre_one⟩
  have hpl : passes rows bait.start bait.stop (rows.length - 1) := by
    unfold passes
    have e : rows.length - 1 + 1 = rows.length := by omega
    rw [e, pre_length, pre_dropLast, hs]
    unfold lastFragmentStart at hE
    exact ⟨hE, hw.rowsLength_pos⟩
  rcases findOverlaps_cases rows bait hw.ne hw.lenNonneg with ⟨-, hno⟩ | ⟨i, j, hij, hj, h, -, -, -, -, hall⟩
  · exact absurd hp0 (hno 0 hw.fragAt_zero)
  · have hi0 : i = 0 := by have := (hall 0 hw.fragAt_zero hp0).1; omega
    have hjl : j = rows.length - 1 := by have := (hall _ hw.fragAt_last hpl).2; omega
    subst hi0
    rw [h, hjl]
    have e : rows.length - 1 + 1 = rows.length := by omega
    simp only [e, pre_zero, pre_length, List.drop_zero, Nat.sub_zero, List.take_length]
    rfl

end AgpTpf.C08

/-! C08, part 2: the unedited Pretext map as an instance of the explicit run of `Proofs/Remap/Run.lean`.
One Pretext scaffold = one forward piece `[1, E]` of one input scaffold, untagged or tagged `Painted` (`Piece.baitOf`,
`Piece.ptxOf`, `Piece.resOf` with a Bool `painted`); its lookup returns the whole scaffold (`pieceO_piece`), so the piece
is kept as found (`piece_kept`) and claims exactly the contigs of its scaffold (`claimedKeys_pieces`). -/
namespace AgpTpf.C08
open AgpTpf
open AgpTpf.Run (tagsOf rankOf nameOf ScaffoldKept)
open AgpTpf.C02 (lookupPiece pieceO pieceKeys claimedKeys)

/-- one Pretext scaffold of an unedited map: it presents the input scaffold `sc` whole as the piece `[1, stop]` -/
structure Piece where
  pname : Str            -- name of the Pretext scaffold (e.g. `Scaffold_7`)
  sc : Scaffold          -- the input scaffold it shows
  stop : Int             -- the (texel-rounded) end coordinate Pretext reports
  oid : Nat := 0
  deriving Repr

def Piece.bait (p : Piece) : Fragment :=
  { oid := p.oid, name := p.sc.name, start := 1, stop := p.stop, strand := 1, tags := [] }

def Piece.ptx (p : Piece) : Scaffold := { name := p.pname, rows := [.frag p.bait] }

/-- what the build stores for the piece; an unpainted Pretext scaffold takes the name of its first row = the bait = the
    input scaffold -/
def Piece.res (p : Piece) : Res :=
  { o := { bait := p.bait, start := 1, stop := p.sc.length, rows := p.sc.rows, name := p.sc.name, tag := none,
           haplotype := none, rank := 3, originalName := some p.pname, originalTags := some [] },
    added := true }

def Piece.pbait (p : Piece) : Fragment :=
  { oid := p.oid, name := p.sc.name, start := 1, stop := p.stop, strand := 1, tags := [sPainted] }

def Piece.pptx (p : Piece) : Scaffold := { name := p.pname, rows := [.frag p.pbait] }

/-- the name of the stored result: a painted Pretext scaffold keeps its own name -/
def Piece.shownName (p : Piece) : Bool → Str
  | false => p.sc.name
  | true => p.pname

/-- `Piece.bait` (`painted = false`) and `Piece.pbait` (`true`) -/
def Piece.baitOf (p : Piece) (painted : Bool) : Fragment := { p.bait with tags := tagsOf painted }

/-- `Piece.ptx` and `Piece.pptx` -/
def Piece.ptxOf (p : Piece) (painted : Bool) : Scaffold := { name := p.pname, rows := [.frag (p.baitOf painted)] }

/-- `Piece.res`, and for a painted piece the same rows under the PRETEXT scaffold's name, rank 1 -/
def Piece.resOf (p : Piece) (painted : Bool) : Res :=
  { o := { bait := p.baitOf painted, start := 1, stop := p.sc.length, rows := p.sc.rows, name := p.shownName painted,
           tag := none, haplotype := none, rank := rankOf painted, originalName := some p.pname,
           originalTags := some (tagsOf painted) },
    added := true }

/-- hypotheses on one piece (N1 + N2 + naming) -/
structure PieceOk (input : List Scaffold) (err : Int) (p : Piece) : Prop where
  mem : p.sc ∈ input
  wf : WfRows p.sc.rows
  reach : lastFragmentStart p.sc.rows ≤ p.stop          -- the piece reaches into the last contig
  close : p.sc.length - p.stop ≤ err                   -- Pretext's rounding of the scaffold end
  noHap : hapPrefixOfName p.sc.name = none             -- the name does not look like `<hap>_…_<n>`

/-- no `(name, start, end)` triple occurs twice in the whole input -/
def KeysDistinct (input : List Scaffold) : Prop :=
  ((input.flatMap Scaffold.fragments).map Fragment.keyTuple).Nodup

theorem keysNodup_iff (l : List Scaffold) :
    ((l.flatMap Scaffold.fragments).map Fragment.keyTuple).Nodup ↔
      (∀ sc ∈ l, (sc.fragments.map Fragment.keyTuple).Nodup) ∧
        l.Pairwise fun s s' => ∀ f ∈ s.fragments, ∀ g ∈ s'.fragments, f.keyTuple ≠ g.keyTuple := by
  simp only [List.Nodup, List.pairwise_map, List.pairwise_flatMap]

theorem KeysDistinct.within {input : List Scaffold} (h : KeysDistinct input) (sc : Scaffold) (hm : sc ∈ input) :
    (sc.fragments.map Fragment.keyTuple).Nodup :=
  ((keysNodup_iff input).1 h).1 sc hm

theorem KeysDistinct.across {input : List Scaffold} (h : KeysDistinct input) (sc sc' : Scaffold)
    (hm : sc ∈ input) (hm' : sc' ∈ input) (hne : sc.name ≠ sc'.name) :
    ∀ f ∈ sc.fragments, ∀ g ∈ sc'.fragments, f.keyTuple ≠ g.keyTuple := by
  have hp := ((keysNodup_iff input).1 h).2
  refine List.Pairwise.forall_of_forall_of_flip
    (R := fun s s' => s.name ≠ s'.name → ∀ f ∈ s.fragments, ∀ g ∈ s'.fragments, f.keyTuple ≠ g.keyTuple)
    (fun _ _ hn => absurd rfl hn) (List.Pairwise.imp ?_ hp) (List.Pairwise.imp ?_ hp) hm hm' hne
  · exact fun h _ => h
  · exact fun h _ f hf g hg e => h g hg f hf e.symm

theorem KeysDistinct.pieces {input : List Scaffold} (hk : KeysDistinct input) {l : List Scaffold}
    (hm : ∀ sc ∈ l, sc ∈ input) (hnd : (l.map (·.name)).Nodup) :
    ((l.flatMap Scaffold.fragments).map Fragment.keyTuple).Nodup :=
  (keysNodup_iff l).2 ⟨fun sc h => hk.within sc (hm sc h),
    (List.pairwise_map.1 hnd).imp_of_mem fun ha hb hne => hk.across _ _ (hm _ ha) (hm _ hb) hne⟩

def Piece.found (p : Piece) (painted : Bool) : OverlapResult :=
  { bait := p.baitOf painted, start := 1, stop := p.sc.length, rows := p.sc.rows, name := "matches".toList }

theorem lookupPiece_piece {input : List Scaffold} {err : Int} {p : Piece} (hn : (input.map (·.name)).Nodup)
    (hok : PieceOk input err p) (painted : Bool) : lookupPiece input (p.baitOf painted) = some (p.found painted) := by
  unfold lookupPiece
  rw [show (p.baitOf painted).name = p.sc.name from rfl, Pipeline.find?_name hn hok.mem]
  dsimp only
  rw [findOverlaps_whole p.sc.rows (p.baitOf painted) hok.wf rfl hok.reach]
  rfl

theorem pieceO_piece {input : List Scaffold} {err : Int} {p : Piece} (hn : (input.map (·.name)).Nodup)
    (hok : PieceOk input err p) (painted : Bool) : pieceO input (p.baitOf painted) = p.found painted :=
  congrArg (·.getD default) (lookupPiece_piece hn hok painted)

/-- start overhang 0, end overhang `length − E ≤ err`: nothing to trim -/
theorem piece_kept {input : List Scaffold} {err : Int} {p : Piece} (hn : (input.map (·.name)).Nodup) (herr : 0 ≤ err)
    (hok : PieceOk input err p) (painted : Bool) : ScaffoldKept input err painted (p.ptxOf painted) := by
  refine ⟨⟨_, _, rfl⟩, ?_, hok.noHap⟩
  intro q hq
  cases List.mem_singleton.mp hq
  have ho := pieceO_piece hn hok painted
  refine ⟨by rw [lookupPiece_piece hn hok painted]; rfl, rfl, .inl ?_, .inl ?_⟩
  · rw [ho]; show (1 : Int) - 1 ≤ err; omega
  · rw [ho]; exact hok.close

theorem resOf_piece {input : List Scaffold} {err : Int} {p : Piece} (hn : (input.map (·.name)).Nodup)
    (hok : PieceOk input err p) (painted : Bool) :
    Run.resOf painted input (p.ptxOf painted) (p.baitOf painted) = p.resOf painted := by
  unfold Run.resOf
  rw [pieceO_piece hn hok painted]
  cases painted <;> rfl

theorem claimedKeys_pieces {input : List Scaffold} {err : Int} {pieces : List Piece} (hn : (input.map (·.name)).Nodup)
    (hok : ∀ p ∈ pieces, PieceOk input err p) (painted : Bool) :
    claimedKeys input (pieces.map (·.ptxOf painted)) = (pieces.flatMap (·.sc.fragments)).map Fragment.keyTuple := by
  unfold claimedKeys
  rw [List.flatMap_map, List.map_flatMap]
  refine congrArg List.flatten (List.map_congr_left fun p hp => ?_)
  show pieceKeys input (p.baitOf painted) ++ [] = _
  rw [List.append_nil, pieceKeys, pieceO_piece hn (hok p hp) painted]
  rfl

end AgpTpf.C08
