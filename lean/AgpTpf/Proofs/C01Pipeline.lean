/-
  C01 link L1 and the registry at pipeline level: what `find_assembly_overlaps` establishes before the resolver runs.
-/
import AgpTpf.Proofs.C01Store
import AgpTpf.Proofs.Lib.Overlap
import AgpTpf.Proofs.Lib.Pipeline
namespace AgpTpf.C01
open AgpTpf

/-- "a run of rows of an input scaffold" survives the discards (cutting replaces rows by pieces) -/
theorem slices_closed (input : List Scaffold) :
    Pipeline.OpClosed True Pipeline.NoTrim (fun _ r => ∃ sc ∈ input, r.o.rows <:+: sc.rows) where
  mono h := h
  discardStart _ h hd := let ⟨sc, hsc, hi⟩ := h; ⟨sc, hsc, (OverlapResult.discardStart_keeps hd).1.isInfix.trans hi⟩
  discardEnd _ h hd := let ⟨sc, hsc, hi⟩ := h; ⟨sc, hsc, (OverlapResult.discardEnd_keeps hd).1.isInfix.trans hi⟩
  trim hf _ _ := hf.elim

def countKey (k : Key) (rows : List Row) : Nat := (fragmentsOf rows).countP (fun f => decide (f.keyTuple = k))

/-- ids of the results that hold a fragment with key `k`, in store order, once per occurrence; results that were
    not appended to `BuildAssembly.scaffolds` (`added = false`) do not count -/
def holdersFrom (k : Key) : Nat → List (Bool × List Row) → List Nat
  | _, [] => []
  | i, p :: t => (if p.1 then List.replicate (countKey k p.2) i else []) ++ holdersFrom k (i + 1) t

def resProj (r : Res) : Bool × List Row := (r.added, r.o.rows)

def holdersSpec (store : List Res) (k : Key) : List Nat := holdersFrom k 0 (store.map resProj)

theorem holdersFrom_append (k : Key) (i : Nat) (l : List (Bool × List Row)) (p : Bool × List Row) :
    holdersFrom k i (l ++ [p]) =
      holdersFrom k i l ++ (if p.1 then List.replicate (countKey k p.2) (i + l.length) else []) := by
  induction l generalizing i with
  | nil => simp [holdersFrom]
  | cons q t ih =>
    simp only [List.cons_append, holdersFrom, ih, List.length_cons, List.append_assoc]
    have : i + 1 + t.length = i + (t.length + 1) := by omega
    rw [this]

theorem holdersSpec_append (store : List Res) (r : Res) (k : Key) :
    holdersSpec (store ++ [r]) k =
      holdersSpec store k ++ (if r.added then List.replicate (countKey k r.o.rows) store.length else []) := by
  unfold holdersSpec
  rw [List.map_append, List.map_cons, List.map_nil, holdersFrom_append]
  simp [resProj]

/-- the invariant `find_assembly_overlaps` establishes -/
structure PInv (input : List Scaffold) (b : Build) : Prop where
  registry : RegistryInv b
  holders_eq : ∀ k, holders b k = holdersSpec b.store k
  slices : ∀ r ∈ b.store, ∃ sc ∈ input, r.o.rows <:+: sc.rows ∧ sc.name = r.o.bait.name
  added_iff : ∀ r ∈ b.store, r.added = true → r.o.rows ≠ []

theorem PInv.of_empty (input : List Scaffold) {b : Build} (h0 : b.store = [] ∧ b.found = [] ∧ b.multi = []) :
    PInv input b := by
  obtain ⟨e1, e2, e3⟩ := h0
  refine ⟨registryInv_empty b e2 e3, ?_, ?_, ?_⟩
  · intro k; simp [holders, e2, dGet?, holdersSpec, e1, holdersFrom]
  · intro r hr; rw [e1] at hr; cases hr
  · intro r hr; rw [e1] at hr; cases hr

theorem processBait_cases (input : List Scaffold) (scTags : List Str) (orig : Str) (b b' : Build) (bait : Fragment)
    (h : processBait input scTags orig b bait = .ok b') :
    b' = b ∨ ∃ sc n o, sc ∈ input ∧ sc.name = bait.name ∧ o.rows <:+: sc.rows ∧ o.bait = bait ∧
      b' = (fragmentsOf o.rows).foldl (storeOne b.store.length)
        { b with namer := n, store := b.store ++ [{ o := o, added := !o.rows.isEmpty }] } := by
  obtain ⟨sc, hsc, ⟨_, rfl⟩ | ⟨o0, o1, o2, n, hfo, hl, ht, rfl⟩⟩ := Pipeline.processBait_ok h
  · exact Or.inl rfl
  · obtain ⟨hscin, hscname⟩ := Pipeline.lookupScaffold_ok hsc
    obtain ⟨hb0, -, -, hr0⟩ := findOverlaps_fresh hfo
    obtain ⟨-, -, rfl⟩ := labelScaffold_ok hl
    obtain ⟨hr2, hb2⟩ := OverlapResult.trimLarge_keeps ht
    exact Or.inr ⟨sc, n, o2, hscin, hscname, hr2.trans hr0, by rw [hb2]; exact hb0,
      Pipeline.storeFragmentsFound_eq _ _ _⟩

theorem processBait_inv (input : List Scaffold) (scTags : List Str) (orig : Str) (b b' : Build) (bait : Fragment)
    (hinv : PInv input b) (h : processBait input scTags orig b bait = .ok b') :
    PInv input b' ∧ b'.extra = b.extra ∧ b'.joinGap = b.joinGap ∧ b'.err = b.err ∧ b'.cuts = b.cuts := by
  rcases processBait_cases _ _ _ _ _ _ h with rfl | ⟨sc, n, o, hsc, hname, hslice, hbait, rfl⟩
  · exact ⟨hinv, rfl, rfl, rfl, rfl⟩
  · obtain ⟨f1, f2, _, f4, _, f6, f7⟩ := foldl_storeOne_other_fields b.store.length (fragmentsOf o.rows)
      { b with namer := n, store := b.store ++ [{ o := o, added := !o.rows.isEmpty }] }
    refine ⟨⟨foldl_storeOne_inv _ _ _ hinv.registry, ?_, ?_, ?_⟩, f2, f6, f7, f4⟩
    · intro k
      rw [foldl_storeOne_holders, f1, holdersSpec_append]
      show holders b k ++ _ = _
      rw [hinv.holders_eq k]
      cases o.rows <;> simp [countKey, fragmentsOf]
    · exact f1 ▸ List.forall_mem_append.2 ⟨hinv.slices, List.forall_mem_singleton.2 ⟨sc, hsc, hslice, by rw [hbait, hname]⟩⟩
    · exact f1 ▸ List.forall_mem_append.2 ⟨hinv.added_iff, List.forall_mem_singleton.2 (by simp)⟩

/-- what `rename_by_size` cannot change -/
def resCore (r : Res) : Bool × List Row × Fragment := (r.added, r.o.rows, r.o.bait)

theorem renameBySize_core (store : List Res) (ids : List Nat) :
    (renameBySize store ids).map resCore = store.map resCore :=
  Pipeline.renameBySize_map_eq resCore (fun _ _ => rfl) store ids

theorem renameBySize_length (store : List Res) (ids : List Nat) : (renameBySize store ids).length = store.length := by
  have := congrArg List.length (renameBySize_core store ids)
  simpa using this

theorem holdersSpec_of_core (s1 s2 : List Res) (h : s1.map resCore = s2.map resCore) (k : Key) :
    holdersSpec s1 k = holdersSpec s2 k := by
  unfold holdersSpec
  have e : ∀ s : List Res, s.map resProj = (s.map resCore).map (fun c => (c.1, c.2.1)) := by
    intro s; rw [List.map_map]; rfl
  rw [e s1, e s2, h]

theorem mem_of_core (s1 s2 : List Res) (h : s1.map resCore = s2.map resCore) (r : Res) (hr : r ∈ s1) :
    ∃ r2 ∈ s2, resCore r2 = resCore r := by
  have : resCore r ∈ s2.map resCore := h ▸ List.mem_map_of_mem hr
  obtain ⟨r2, h2, e⟩ := List.mem_map.mp this
  exact ⟨r2, h2, e⟩

theorem PInv_of_core (input : List Scaffold) (b : Build) (store' : List Res) (h : store'.map resCore = b.store.map resCore)
    (hinv : PInv input b) : PInv input { b with store := store' } := by
  refine ⟨hinv.registry, ?_, ?_, ?_⟩
  · intro k
    show holders b k = holdersSpec store' k
    rw [hinv.holders_eq k, holdersSpec_of_core _ _ h]
  · intro r hr
    obtain ⟨r2, h2, e⟩ := mem_of_core _ _ h r hr
    obtain ⟨sc, hsc, h3, h4⟩ := hinv.slices r2 h2
    simp only [resCore, Prod.mk.injEq] at e
    exact ⟨sc, hsc, e.2.1 ▸ h3, e.2.2 ▸ h4⟩
  · intro r hr hadd
    obtain ⟨r2, h2, e⟩ := mem_of_core _ _ h r hr
    simp only [resCore, Prod.mk.injEq] at e
    rw [← e.2.1]
    exact hinv.added_iff r2 h2 (e.1.trans hadd)

theorem findAssemblyOverlaps_inv (input ptx : List Scaffold) (b b' : Build) (hinv : PInv input b)
    (h : findAssemblyOverlaps input ptx b = .ok b') :
    PInv input b' ∧ b'.extra = b.extra ∧ b'.joinGap = b.joinGap ∧ b'.err = b.err ∧ b'.cuts = b.cuts :=
  have f := Pipeline.findAssemblyOverlaps_frame h
  ⟨Pipeline.findAssemblyOverlaps_inv (PInv input) h hinv
      (fun _ _ _ _ hx _ => ⟨hx.registry, hx.holders_eq, hx.slices, hx.added_iff⟩)
      (fun _ _ bait _ x x' hx hs => (processBait_inv input _ _ x x' bait hx hs).1)
      (fun x _ hx => PInv_of_core input x _ (renameBySize_core _ _) hx),
    f.1, f.2.2.1, f.2.2.2.1, f.2.1⟩

theorem findAssemblyOverlaps_multi_nodup {input ptx : List Scaffold} {b b' : Build}
    (h : findAssemblyOverlaps input ptx b = .ok b') (hb : b.multi.Nodup) : b'.multi.Nodup := by
  refine Pipeline.findAssemblyOverlaps_inv (fun x => x.multi.Nodup) h hb (fun _ _ _ _ hx _ => hx) ?_ (fun _ _ hx => hx)
  intro _ _ bait _ a a' ha hs
  rcases processBait_cases _ _ _ _ _ _ hs with rfl | ⟨_, _, _, _, _, _, _, rfl⟩
  · exact ha
  · exact foldl_storeOne_multi_nodup _ _ _ ha

end AgpTpf.C01
