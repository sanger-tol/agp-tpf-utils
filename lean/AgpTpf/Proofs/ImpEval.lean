/-
  Evaluating concrete runs: the `example`s and demo theorems of the property files.

  A run of the model or of the translated code on a demo input is a finite fact and is checked by the kernel
  (`decide +kernel`).  What is here keeps the kernel to the run itself: results `R α` are compared by `decide`
  (`instDecEqExcept`); the text of test vectors is read off as character lists without running the UTF-8 decoder
  (`str_lits`, `Decoded`); a run that several examples speak of is evaluated once, as
  `(run).toOption.map view = some value`, and read with `ok_of_view`, `views_of_pair`, `map_view_of`, `entry_of_map_eq`.
-/
namespace AgpTpf.ImpEval

scoped instance instDecEqExcept {ε α} [DecidableEq ε] [DecidableEq α] : DecidableEq (Except ε α)
  | .ok a, .ok b => if h : a = b then isTrue (by rw [h]) else isFalse (fun h' => h (by cases h'; rfl))
  | .error a, .error b => if h : a = b then isTrue (by rw [h]) else isFalse (fun h' => h (by cases h'; rfl))
  | .ok _, .error _ => isFalse (fun h => by cases h)
  | .error _, .ok _ => isFalse (fun h => by cases h)

/-- "whatever the computation returned satisfies `P`" (the fuel hypothesis of the writer ties, on a test vector) is decided by running it -/
scoped instance instDecForallOk {ε α : Type} (x : Except ε α) (P : α → Prop) [∀ a, Decidable (P a)] :
    Decidable (∀ a, x = .ok a → P a) :=
  match x with
  | .ok a => if h : P a then isTrue (fun _ e => by cases e; exact h) else isFalse (fun f => h (f a rfl))
  | .error _ => isTrue (fun _ e => by cases e)

/-- Test vectors, and the constants of the translated text, are written `"…".toList`.  Evaluating that runs the UTF-8 decoder of
    `String` (well-founded recursion over a byte array: milliseconds per character, in the kernel and in `isDefEq` alike).  A
    literal unifies with `String.ofList _`, so `String.toList_ofList` reads the characters off it without evaluating anything;
    `rewrite` takes one literal at a time (`simp` would not find them: a literal is its own key in the discrimination tree;
    `rw` would try `rfl` after every step, which evaluates the goal). -/
scoped macro "str_lits" : tactic => `(tactic| repeat rewrite [String.toList_ofList])

end AgpTpf.ImpEval

namespace AgpTpf

/-- A demo value `x` — a fixture `def x := … "ctgA1".toList …`, or a translated function whose text holds string constants —
    together with the same value with its text read off as character lists:
    `def xC : Decoded x := ⟨_, by unfold x a1 a2 …; str_lits; exact rfl⟩` (name in `unfold` every definition that holds a
    literal; the value is not written out, it is what `x` has become when `rfl` meets it).  `xC.2 : x = xC.1`, so an example
    about `x` begins `rw [xC.2]` and the kernel evaluates on `xC.1`.  Without it EVERY example on `x` decodes all the text
    that the run compares (a name of 10 characters is some 100,000 heartbeats in the kernel, longer ones more than in proportion).  The literals are read off here, in the
    small goal `x = ?v`, and not by `unfold x …; str_lits` in the goal of each run: every step of `str_lits` compares its literal
    with every `.toList` in the goal, so its cost is the product of the two counts.  One `Decoded` per value a run takes as
    input, none for the parts of it.  Never close a goal by `exact`/`rfl` with a literal `"…".toList` on one side and an unreduced
    projection or definition on the other: the unifier unfolds `String.toList` first. -/
abbrev Decoded {α : Type _} (x : α) := { v : α // x = v }

theorem ok_of_view {ε α β} {x : Except ε α} {view : α → β} {v : β} (h : x.toOption.map view = some v) :
    ∃ a, x = .ok a ∧ view a = v := by
  cases x with
  | error e => cases h
  | ok a => exact ⟨a, rfl, Option.some.inj h⟩

theorem views_of_pair {α β γ} {x : Option α} {f : α → β} {g : α → γ} {u : β} {v : γ}
    (h : x.map (fun a => (f a, g a)) = some (u, v)) : x.map f = some u ∧ x.map g = some v := by
  cases x with
  | none => cases h
  | some a => cases h; exact ⟨rfl, rfl⟩

theorem map_view_of {α σ β γ} {x : Option α} {st : α → List σ} {f : σ → β} {vs : List β}
    (h : x.map (fun a => (st a).map f) = some vs) (p : β → γ) :
    x.map (fun a => (st a).map (fun r => p (f r))) = some (vs.map p) := by
  cases x with
  | none => cases h
  | some a => cases h; simp

theorem entry_of_map_eq {α β} {l : List α} {f : α → β} {vs : List β} (h : l.map f = vs) {i : Nat} {v : β}
    (hi : vs[i]? = some v) : ∃ a, l[i]? = some a ∧ f a = v := by
  rw [← h, List.getElem?_map, Option.map_eq_some_iff] at hi
  exact hi

end AgpTpf
