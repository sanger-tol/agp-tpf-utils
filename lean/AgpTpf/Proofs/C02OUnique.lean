/-
  C02 order, part 2 (O1 for `fuseByName`, O2): from the dict to the fused scaffolds and to the output assemblies.
-/
import AgpTpf.Model.Remap
import AgpTpf.Proofs.C02KOut
import AgpTpf.Properties.C01
import AgpTpf.Proofs.C02OFuse
import AgpTpf.Proofs.C09RMain
namespace AgpTpf.C02
open AgpTpf
open AgpTpf.C09 (FKey triple noName routeKey)

/-! ### O1 for the fused scaffolds -/

theorem fuseByName_rows (b : Build) :
    ((fuseByName b).map triple).Nodup ∧
    ∀ s ∈ fuseByName b,
      s.rows = joinedRows b.joinGap (storeContributors b (triple s)) (extraContributors b (triple s)) ∧
      (storeContributors b (triple s) ≠ [] ∨ extraContributors b (triple s) ≠ []) := by
  refine ⟨Fuse.fuseByName_triples_nodup b, ?_⟩
  intro s hs
  rw [fuseByName_joined] at hs
  obtain ⟨k, hk, rfl⟩ := List.mem_map.1 hs
  obtain ⟨it, r, hg, hm, rfl⟩ := Fuse.group_cons hk
  have ht : triple { Fuse.fusedOf ((C09.fuseItems b).filter (fun x => decide (x.key = it.key))) with
      rows := joinedRows b.joinGap (storeContributors b it.key) (extraContributors b it.key) } = it.key := by
    rw [hg]; exact Fuse.item_triple hm
  rw [ht]
  exact ⟨rfl, (mem_firstKeys_iff b it.key).1 hk⟩

theorem fuse_order (b : Build) (i j : Nat) (ri rj : Res) (hij : i < j)
    (hi : b.store[i]? = some ri) (hj : b.store[j]? = some rj) (k : FKey)
    (ci : isStoreContributor k ri = true) (cj : isStoreContributor k rj = true) :
    ∃ s ∈ fuseByName b, triple s = k ∧
      ∃ A B C, s.rows = A ++ ri.o.toScaffoldRows ++ B ++ rj.o.toScaffoldRows ++ C := by
  obtain ⟨P, M, Q, hst, _, _⟩ := ordSplit_two b.store i j ri rj hij hi hj
  have hg := group_eq_contributors b k
  unfold storeContributors at hg
  rw [hst, List.filter_append, List.filter_cons_of_pos ci, List.filter_append, List.filter_cons_of_pos cj] at hg
  simp only [List.map_append, List.map_cons, List.append_assoc, List.cons_append] at hg
  exact Fuse.fused_order b k _ _ _ (Fuse.resItem b ri) (Fuse.resItem b rj) hg

/-! ### O2 at `assembliesFused` level -/

theorem output_order (input : List Scaffold) (b : Build) (outs : List OutAsm) (stats : Stats)
    (h : assembliesFused input b = .ok (outs, stats))
    (i j : Nat) (ri rj : Res) (hij : i < j) (hi : b.store[i]? = some ri) (hj : b.store[j]? = some rj)
    (ai : ri.added = true) (ni : ri.o.rows ≠ []) (aj : rj.added = true) (nj : rj.o.rows ≠ [])
    (hk : (ri.o.tag, ri.o.haplotype, ri.o.name) = (rj.o.tag, rj.o.haplotype, rj.o.name)) :
    ∃ s0 ∈ fuseByName b, triple s0 = (ri.o.tag, ri.o.haplotype, ri.o.name) ∧
      (∀ s1 ∈ fuseByName b, triple s1 = (ri.o.tag, ri.o.haplotype, ri.o.name) → s1 = s0) ∧
      ∃ a ∈ outs, a.key = routeKey ri.o.tag ri.o.haplotype ∧
        ∃ s ∈ a.scaffolds, noName s = noName s0 ∧
          ∃ A B C, s.rows = A ++ ri.o.toScaffoldRows ++ B ++ rj.o.toScaffoldRows ++ C := by
  obtain ⟨s0, hs0, hk0, A, B, C, hrows⟩ := fuse_order b i j ri rj hij hi hj (ri.o.tag, ri.o.haplotype, ri.o.name)
    ((isStoreContributor_iff _ ri).2 ⟨ai, ni, rfl⟩) ((isStoreContributor_iff _ rj).2 ⟨aj, nj, hk.symm⟩)
  refine ⟨s0, hs0, hk0, ?_, ?_⟩
  · intro s1 hs1 hk1
    exact inj_of_nodup_map triple (fuseByName_rows b).1 s1 hs1 s0 hs0 (hk1.trans hk0.symm)
  · obtain ⟨_, hto, _⟩ := C09.assembliesFused_route input b outs stats h
    obtain ⟨a, ha, hak, s, hs, hn⟩ := hto s0 hs0
    have ht : s0.tag = ri.o.tag := congrArg (·.1) hk0
    have hh : s0.haplotype = ri.o.haplotype := congrArg (·.2.1) hk0
    refine ⟨a, ha, by rw [hak, ht, hh], s, hs, hn, A, B, C, ?_⟩
    rw [(C09.noName_fields hn).1]; exact hrows

end AgpTpf.C02

/-! C02 order, part 3: uniqueness for a well-formed input (`C01.WFInput`), from C01 `remap_exactly_once`: fragments that
share a contig base lie in one fused scaffold, so two store results with a fragment each inside ONE output scaffold have
the same key — they were fused into one scaffold, not merely renamed alike.
That the output scaffold of `output_order` is the only one holding a base of either piece is `order_unique`
(Proofs/C02KOut.lean). -/
namespace AgpTpf.C02
open AgpTpf
open AgpTpf.C01 (WFInput)

theorem outputTriples_perm_fused (input : List Scaffold) (b : Build) (outs : List OutAsm) (stats : Stats)
    (haf : assembliesFused input b = .ok (outs, stats)) :
    (C01.outputTriples outs).Perm ((fuseByName b).flatMap (fun s => C01.keysOf s.rows)) := by
  have h1 := C09.assembliesFused_perm input b outs stats haf
  have h2 : C01.outputTriples outs = ((outs.flatMap (·.scaffolds)).map (·.rows)).flatMap C01.keysOf := by
    unfold C01.outputTriples; rw [List.flatMap_map]
  have h3 : ((fuseByName b).flatMap (fun s => C01.keysOf s.rows)) = ((fuseByName b).map (·.rows)).flatMap C01.keysOf := by
    rw [List.flatMap_map]
  rw [h2, h3]
  exact h1.flatMap_right C01.keysOf

theorem frag_one_fused (input ptx : List Scaffold) (prefix_ : Str) (joinGap : Option Gap) (err : Int)
    (outs : List OutAsm) (stats : Stats) (hwf : WFInput input)
    (h : remap input ptx prefix_ joinGap err = .ok (outs, stats))
    (b : Build) (haf : assembliesFused input b = .ok (outs, stats))
    (F F' : Scaffold) (hF : F ∈ fuseByName b) (hF' : F' ∈ fuseByName b) (g g' : Fragment)
    (hg : Row.frag g ∈ F.rows) (hg' : Row.frag g' ∈ F'.rows) (hname : g.name = g'.name) (x : Int)
    (hx : g.start ≤ x ∧ x ≤ g.stop) (hx' : g'.start ≤ x ∧ x ≤ g'.stop) : F = F' := by
  apply Classical.byContradiction
  intro hne
  obtain ⟨a, ha, -, s, hs, hn⟩ := (C09.assembliesFused_route input b outs stats haf).2.1 F hF
  obtain ⟨hone, c1, c2⟩ := C09.shared_base_once hwf h ha hs ((C09.noName_fields hn).1 ▸ hg) hname hx hx'
  rw [← C09.outputTriples_eq, (outputTriples_perm_fused input b outs stats haf).countP_eq] at hone
  obtain ⟨i, hi⟩ := List.mem_iff_getElem?.mp hF
  obtain ⟨j, hj⟩ := List.mem_iff_getElem?.mp hF'
  have := countP_flatMap_two (fun s : Scaffold => C01.keysOf s.rows) (C01.coversK g.name x)
    (fun e => hne (by subst e; exact Option.some.inj (hi.symm.trans hj))) hi hj
  have := C09.countP_pos_of_mem _ _ _ (C09.mem_keysOf_of_frag _ _ hg) c1
  have := C09.countP_pos_of_mem _ _ _ (C09.mem_keysOf_of_frag _ _ hg') c2
  omega

theorem same_scaffold_same_key (input ptx : List Scaffold) (prefix_ : Str) (joinGap : Option Gap) (err : Int)
    (outs : List OutAsm) (stats : Stats) (hwf : WFInput input)
    (h : remap input ptx prefix_ joinGap err = .ok (outs, stats))
    (b : Build) (haf : assembliesFused input b = .ok (outs, stats))
    (ri rj : Res) (hi : ri ∈ b.store) (hj : rj ∈ b.store)
    (ai : ri.added = true) (ni : ri.o.rows ≠ []) (aj : rj.added = true) (nj : rj.o.rows ≠ [])
    (a : OutAsm) (ha : a ∈ outs) (s : Scaffold) (hs : s ∈ a.scaffolds) (gi gj : Fragment)
    (hgi : Row.frag gi ∈ ri.o.toScaffoldRows) (hgj : Row.frag gj ∈ rj.o.toScaffoldRows)
    (hsi : Row.frag gi ∈ s.rows) (hsj : Row.frag gj ∈ s.rows) :
    (ri.o.tag, ri.o.haplotype, ri.o.name) = (rj.o.tag, rj.o.haplotype, rj.o.name) := by
  obtain ⟨_, _, hfrom⟩ := C09.assembliesFused_route input b outs stats haf
  obtain ⟨F, hF, hn, _⟩ := hfrom a ha s hs
  have hrows : s.rows = F.rows := (C09.noName_fields hn).1
  obtain ⟨h1, _, _, _⟩ := C09.fuse_keeps_tag b
  obtain ⟨Fi, hFi, hki, hinfi⟩ := h1 ri hi ai ni
  obtain ⟨Fj, hFj, hkj, hinfj⟩ := h1 rj hj aj nj
  have vi := C09.output_fragment_valid input ptx prefix_ joinGap err outs stats hwf h a ha s hs gi hsi
  have vj := C09.output_fragment_valid input ptx prefix_ joinGap err outs stats hwf h a ha s hs gj hsj
  have e1 : F = Fi := frag_one_fused input ptx prefix_ joinGap err outs stats hwf h b haf F Fi hF hFi gi gi
    (hrows ▸ hsi) (hinfi.subset hgi) rfl gi.start ⟨Int.le_refl _, vi⟩ ⟨Int.le_refl _, vi⟩
  have e2 : F = Fj := frag_one_fused input ptx prefix_ joinGap err outs stats hwf h b haf F Fj hF hFj gj gj
    (hrows ▸ hsj) (hinfj.subset hgj) rfl gj.start ⟨Int.le_refl _, vj⟩ ⟨Int.le_refl _, vj⟩
  rw [← hki, ← hkj, ← e1, ← e2]

end AgpTpf.C02
