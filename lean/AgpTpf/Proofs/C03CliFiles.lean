/-
  C03, last sentences — the FASTA branch of `write_assemblies` / `write_assembly` (scripts/pretext_to_asm.py) as a
  function from the named assemblies to the list of (file name, content) pairs, and its closed form.

  Python mirrored by `writeAssemblyFasta` (one assembly) and `writtenFiles` (the `for asm in out_assemblies.values()`
  loop):
      output_file = out_dir / f"{asm.name}{crtd}{suffix}"          -- `outputFileName`
      out_fh = get_output_filehandle(output_file, clobber, "b")
      FastaStream(out_fh, fai).write_assembly(out_asm)              -- `streamAssembly`
      output_agp = output_file.with_suffix(".agp")                  -- `agpBesideName`
      format_agp(out_asm, get_output_filehandle(output_agp, clobber))   -- `formatAgp`
  Header lines: the assembly objects the CLI writes are built by `Assembly(self.name, curated=curated)`
  (`assemblies_with_scaffolds_fused`) or `Assembly("merge")` (`merge_assemblies`): `header=None`, i.e. `[]`, and nothing
  in `tola` appends to the header of an output assembly afterwards (`add_header_line` is only called by the parsers).
  So the `.agp` written beside a `.fa` has NO `# …` header lines (`cliHeader`).
-/
import AgpTpf.Properties.C01
import AgpTpf.Properties.C03
import AgpTpf.Properties.C06Built
import AgpTpf.Properties.C16Plan
namespace AgpTpf.C03
open AgpTpf AgpTpf.StreamProofs AgpTpf.CliNames AgpTpf.CliPlan

/-- what one output file holds: the bytes of a binary file, or the lines written to a text file -/
inductive FileContent where
  | bytes (b : Bytes)
  | text (lines : List Str)
  deriving DecidableEq, Repr

/-- `Assembly.header` of every assembly object `pretext-to-asm` writes (see the file comment) -/
def cliHeader : List Str := []

def asmOfNamed (n : NamedAsm) : Assembly :=
  { name := n.name, header := cliHeader, scaffolds := n.scaffolds, curated := n.curated }

/-- `write_assembly(fai, out_asm, output_file, "FASTA", clobber)`: the `.fa` file, then the `.agp` beside it.
    `file`, `idx` = the input FASTA and its index (`fai`), `bs` = the index's buffer size, `w` = `line_length`
    (the CLI uses the default 60). -/
def writeAssemblyFasta (file : Bytes) (idx : List (Str × FastaInfo)) (bs w : Int) (suffix : Str) (n : NamedAsm) :
    R (List (Str × FileContent)) := do
  let f := outputFileName n suffix
  let lg ← streamAssembly file idx bs w n.scaffolds
  let g ← agpBesideName f
  let agp ← formatAgp (asmOfNamed n)
  pure [(f, .bytes lg.out), (g, .text agp)]

/-- `write_assemblies(fai, "FASTA", out_dir, suffix, out_assemblies, clobber)`: the loop over the dict values -/
def writtenFiles (file : Bytes) (idx : List (Str × FastaInfo)) (bs w : Int) (suffix : Str) :
    List NamedAsm → R (List (Str × FileContent))
  | [] => .ok []
  | n :: rest => do
    let own ← writeAssemblyFasta file idx bs w suffix n
    let more ← writtenFiles file idx bs w suffix rest
    pure (own ++ more)

/-- `name_assemblies` (a dict: `namedDict`) followed by `write_assemblies` -/
def cliWrittenFiles (file : Bytes) (idx : List (Str × FastaInfo)) (bs w : Int) (outs : List OutAsm)
    (root version suffix : Str) : R (List (Str × FileContent)) := do
  let named ← nameAssemblies outs root version
  writtenFiles file idx bs w suffix (namedDict named)

/-- the FASTA text of a list of scaffolds: one record per scaffold, in order -/
def fastaOf (w : Int) (resOf : Str → Bytes) (scs : List Scaffold) : Bytes :=
  (scs.map (fun sc => recordBytes w sc.name (rowsBody resOf sc.rows))).flatten

/-- the lines `format_agp` writes for a named assembly (`[]` if it raised) -/
def agpLinesOf (n : NamedAsm) : List Str :=
  match formatAgp (asmOfNamed n) with
  | .ok t => t
  | .error _ => []

def specFilesOf (w : Int) (resOf : Str → Bytes) (suffix : Str) (n : NamedAsm) : List (Str × FileContent) :=
  [(outputFileName n suffix, .bytes (fastaOf w resOf n.scaffolds)),
   (stemStr n ++ ".agp".toList, .text (agpLinesOf n))]

theorem writeAssemblyFasta_spec {bs w : Int} (hbs : 1 ≤ bs) (hw : 1 ≤ w) (file : Bytes) (idx : List (Str × FastaInfo))
    (resOf : Str → Bytes) (x : Str) (hx : x ≠ []) (hdot : '.' ∉ x) (n : NamedAsm)
    (hok : ∀ sc ∈ n.scaffolds, ∀ r ∈ sc.rows, RowOK file idx resOf r)
    (hgood : ∀ sc ∈ n.scaffolds, C06.RowsGood sc.rows) (hend : EndsSY n.name) :
    writeAssemblyFasta file idx bs w ('.' :: x) n = .ok (specFilesOf w resOf ('.' :: x) n) := by
  obtain ⟨lg, h1, h2⟩ := fasta_file_is_agp_applied hbs hw file idx resOf n.scaffolds hok
  obtain ⟨bodies, h3, -⟩ := C06.formatAgp_good (asmOfNamed n) hgood
  have h4 : agpBesideName (outputFileName n ('.' :: x)) = .ok (stemStr n ++ ".agp".toList) := by
    rw [outputFileName_eq]
    exact agpBesideName_append (stemStr n) x (stemStr_ne_nil n hend) hx hdot
  unfold writeAssemblyFasta specFilesOf agpLinesOf fastaOf
  simp only [h1, h3, h4, bind, Except.bind, pure, Except.pure, h2]

theorem writtenFiles_spec {bs w : Int} (hbs : 1 ≤ bs) (hw : 1 ≤ w) (file : Bytes) (idx : List (Str × FastaInfo))
    (resOf : Str → Bytes) (x : Str) (hx : x ≠ []) (hdot : '.' ∉ x) :
    ∀ (l : List NamedAsm), (∀ n ∈ l, ∀ sc ∈ n.scaffolds, ∀ r ∈ sc.rows, RowOK file idx resOf r) →
      (∀ n ∈ l, ∀ sc ∈ n.scaffolds, C06.RowsGood sc.rows) → (∀ n ∈ l, EndsSY n.name) →
      writtenFiles file idx bs w ('.' :: x) l = .ok (l.flatMap (specFilesOf w resOf ('.' :: x)))
  | [], _, _, _ => rfl
  | n :: rest, hok, hgood, hend => by
    have ih := writtenFiles_spec hbs hw file idx resOf x hx hdot rest
      (fun m hm => hok m (by simp [hm])) (fun m hm => hgood m (by simp [hm])) (fun m hm => hend m (by simp [hm]))
    have h1 := writeAssemblyFasta_spec hbs hw file idx resOf x hx hdot n (hok n (by simp)) (hgood n (by simp))
      (hend n (by simp))
    unfold writtenFiles
    simp only [h1, ih, bind, Except.bind, pure, Except.pure, List.flatMap_cons]

theorem specFiles_names (w : Int) (resOf : Str → Bytes) (suffix : Str) (l : List NamedAsm) :
    (l.flatMap (specFilesOf w resOf suffix)).map (·.1) = l.flatMap (filesOf .FASTA suffix) := by
  rw [List.map_flatMap]; rfl

theorem fragOK_sub {file : Bytes} {idx : List (Str × FastaInfo)} {resOf : Str → Bytes} {F f : Fragment}
    (hF : FragOK file idx resOf F) (hn : F.name = f.name) (h1 : F.start ≤ f.start) (h2 : f.start ≤ f.stop)
    (h3 : f.stop ≤ F.stop) : FragOK file idx resOf f := by
  obtain ⟨info, hi, hr, a1, _, a3⟩ := hF
  unfold FragOK
  rw [← hn]
  exact ⟨info, hi, hr, by omega, h2, by omega⟩

/-- `InputWithin file idx resOf input`: every contig fragment of the input assembly names an indexed record of the
    FASTA and lies within it -/
def InputWithin (file : Bytes) (idx : List (Str × FastaInfo)) (resOf : Str → Bytes) (input : List Scaffold) : Prop :=
  ∀ F ∈ C01.inputFrags input, FragOK file idx resOf F

theorem remap_frag_origin (input ptx : List Scaffold) (prefix_ : Str) (joinGap : Option Gap) (err : Int)
    (outs : List OutAsm) (stats : Stats) (hwf : C01.WFInput input)
    (h : remap input ptx prefix_ joinGap err = .ok (outs, stats)) :
    ∀ a ∈ outs, ∀ s ∈ a.scaffolds, ∀ f, Row.frag f ∈ s.rows →
      ∃ F ∈ C01.inputFrags input, F.name = f.name ∧ F.start ≤ f.start ∧ f.start ≤ f.stop ∧ f.stop ≤ F.stop := by
  intro a ha s hs f hr
  have hp := (C01.remap_partitions input ptx prefix_ joinGap err outs stats hwf h).2
  have hm : f.keyTuple ∈ C01.outputTriples outs := by
    unfold C01.outputTriples
    refine List.mem_flatMap.mpr ⟨s, List.mem_flatMap.mpr ⟨a, ha, hs⟩, ?_⟩
    exact List.mem_map.mpr ⟨f, mem_fragmentsOf.mpr hr, rfl⟩
  obtain ⟨h1, F, hF, hn, h2, h3⟩ := hp _ hm
  exact ⟨F, hF, hn, h2, h1, h3⟩

theorem remap_rows_ok (file : Bytes) (idx : List (Str × FastaInfo)) (resOf : Str → Bytes)
    (input ptx : List Scaffold) (prefix_ : Str) (joinGap : Option Gap) (err : Int)
    (outs : List OutAsm) (stats : Stats) (hwf : C01.WFInput input)
    (h : remap input ptx prefix_ joinGap err = .ok (outs, stats))
    (hin : InputWithin file idx resOf input) :
    ∀ a ∈ outs, ∀ s ∈ a.scaffolds, ∀ r ∈ s.rows, RowOK file idx resOf r := by
  intro a ha s hs r hr
  cases r with
  | gap g => trivial
  | frag f =>
    obtain ⟨F, hF, hn, h1, h2, h3⟩ := remap_frag_origin input ptx prefix_ joinGap err outs stats hwf h a ha s hs f hr
    exact fragOK_sub (hin F hF) hn h1 h2 h3

theorem named_scaffold_origin (outs : List OutAsm) (root version : Str) (named : List NamedAsm)
    (hn : nameAssemblies outs root version = .ok named) (n : NamedAsm) (hnm : n ∈ named) (s : Scaffold)
    (hs : s ∈ n.scaffolds) : ∃ a ∈ outs, s ∈ a.scaffolds := by
  have hmem : s ∈ allNamedScaffolds named := List.mem_flatMap.mpr ⟨n, hnm, hs⟩
  have hmem' : s ∈ allScaffolds outs := (C09.name_assemblies_conserves outs root version named hn).1.mem_iff.mp hmem
  exact List.mem_flatMap.mp hmem'

end AgpTpf.C03
