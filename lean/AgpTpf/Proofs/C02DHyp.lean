/-
  C02 (deep cuts): the hypotheses.  `PieceKeep`, `ScaffoldKeep` (the untagged case of `Run.ScaffoldKept`): `find_assembly_overlaps`
  keeps every lookup result as found — contigs may be claimed by several pieces.  Then `DeepCut`, and facts about one lookup result.
-/
import AgpTpf.Proofs.C01MiddleFinal
import AgpTpf.Proofs.C18
import AgpTpf.Proofs.Lib.Py
import AgpTpf.Proofs.C02DSpec
import AgpTpf.Proofs.Remap.Run
namespace AgpTpf.C02
open AgpTpf

/-- hypotheses on one piece; `startOk` / `endOk`: each terminal row of the result either sticks out by at most the error
    length or shares at least `err` bases with the piece — nothing for `trim_large_overhangs` to discard -/
structure PieceKeep (input : List Scaffold) (err : Int) (p : Fragment) : Prop where
  found : (lookupPiece input p).isSome = true
  untagged : p.tags = []
  valid : p.start ≤ p.stop
  startOk : (pieceO input p).startOverhang ≤ err ∨ ∃ ov, (pieceO input p).startRowBaitOverlap = .ok ov ∧ err ≤ ov
  endOk : (pieceO input p).endOverhang ≤ err ∨ ∃ ov, (pieceO input p).endRowBaitOverlap = .ok ov ∧ err ≤ ov

structure ScaffoldKeep (input : List Scaffold) (err : Int) (S : Scaffold) : Prop where
  head : ∃ f r, S.rows = .frag f :: r
  pieces : ∀ p ∈ S.fragments, PieceKeep input err p
  noHap : hapPrefixOfName (outName S) = none

theorem ScaffoldKeep.kept {input : List Scaffold} {err : Int} {S : Scaffold} (h : ScaffoldKeep input err S) :
    Run.ScaffoldKept input err false S :=
  ⟨h.head, fun p hp => ⟨(h.pieces p hp).found, (h.pieces p hp).untagged, (h.pieces p hp).startOk, (h.pieces p hp).endOk⟩,
    h.noHap⟩

theorem expectedStore_eq_map (input ptx : List Scaffold) :
    expectedStore input ptx = (allPieces ptx).map (fun x => pieceRes input x.1 x.2) := by
  unfold expectedStore allPieces
  rw [List.map_flatMap]
  simp [List.map_map, Function.comp_def]


theorem pieceAt_mem (ptx : List Scaffold) (i : Nat) (hi : i < (allPieces ptx).length) :
    pieceAt ptx i ∈ allPieces ptx ∧ (allPieces ptx)[i]? = some (pieceAt ptx i) := by
  unfold pieceAt
  rw [List.getD_eq_getElem?_getD, List.getElem?_eq_getElem hi]
  exact ⟨List.getElem_mem hi, rfl⟩

theorem pieceAt_of_getElem? {ptx : List Scaffold} {n : Nat} {x : Scaffold × Fragment} (h : (allPieces ptx)[n]? = some x) :
    pieceAt ptx n = x ∧ n < (allPieces ptx).length := by
  refine ⟨?_, (List.getElem?_eq_some_iff.1 h).1⟩
  unfold pieceAt
  rw [List.getD_eq_getElem?_getD, h]; rfl

theorem mem_allPieces {ptx : List Scaffold} {x : Scaffold × Fragment} (h : x ∈ allPieces ptx) :
    x.1 ∈ ptx ∧ x.2 ∈ x.1.fragments := by
  unfold allPieces at h
  obtain ⟨S, hS, hx⟩ := List.mem_flatMap.1 h
  obtain ⟨p, hp, rfl⟩ := List.mem_map.1 hx
  exact ⟨hS, hp⟩

/-- what is known of the lookup result of a piece (`C18.inv_lookup'`) -/
structure PieceFacts (input : List Scaffold) (p : Fragment) : Prop where
  bait : (pieceO input p).bait = p
  tag : (pieceO input p).tag = none
  ne : (pieceO input p).rows ≠ []
  span : (pieceO input p).stop - (pieceO input p).start + 1 = rowsLength (pieceO input p).rows
  head : ∃ f t, (pieceO input p).rows = .frag f :: t
  last : ∃ f t, (pieceO input p).rows = t ++ [.frag f]
  distinct : (C18.ids (pieceO input p).rows).Nodup
  slice : ∃ sc ∈ input, (pieceO input p).rows <:+: sc.rows

theorem pieceFacts (input : List Scaffold) (p : Fragment) (hids : ∀ sc ∈ input, (C18.ids sc.rows).Nodup)
    (hf : (lookupPiece input p).isSome = true) : PieceFacts input p := by
  obtain ⟨sc, hfind, hfo⟩ := lookupPiece_spec hf
  have hsc : sc ∈ input := List.mem_of_find?_eq_some hfind
  obtain ⟨hb, ht, hne, hinf⟩ := findOverlaps_fresh hfo
  have hI := C18.inv_lookup' (hids sc hsc) hfo
  rcases hI.noTerminalGap with h0 | ⟨h1, h2⟩
  · exact absurd h0 hne
  · exact ⟨hb, ht, hne, hI.span, h1, h2, hI.distinct, sc, hsc, hinf⟩

theorem oid_lt_oid0 (input : List Scaffold) (sc : Scaffold) (hsc : sc ∈ input) (rows : List Row) (hinf : rows <:+: sc.rows)
    (x : Nat) (hx : x ∈ C18.ids rows) : x < oid0 input := by
  unfold C18.ids at hx
  obtain ⟨f, hf, rfl⟩ := List.mem_map.1 hx
  have : f ∈ input.flatMap Scaffold.fragments :=
    List.mem_flatMap.2 ⟨sc, hsc, (fragmentsOf_infix hinf).subset hf⟩
  exact (Pipeline.foldl_max_oid _ 0).2 f this

/-- hypotheses on one cut site `x`: the two pieces abut (`a` ends at `c`, `b` begins at `c + 1`: a PretextView cut); both
    results place the contig at the same scaffold coordinates; each piece shares more than `3·err` bases with the
    contig, or lies wholly inside it (single-row result) and shares at least `err` bases. -/
structure SiteOk (input ptx : List Scaffold) (err : Int) (x : Site) : Prop where
  ne : x.a ≠ x.b
  inA : x.a < (allPieces ptx).length
  inB : x.b < (allPieces ptx).length
  lastA : (pieceO input (pieceAt ptx x.a).2).rows.getLast? = some (.frag x.frag)
  headB : (pieceO input (pieceAt ptx x.b).2).rows.head? = some (.frag x.frag)
  abut : (pieceAt ptx x.a).2.stop + 1 = (pieceAt ptx x.b).2.start
  samePos : (pieceO input (pieceAt ptx x.a).2).stop - x.frag.length + 1 = (pieceO input (pieceAt ptx x.b).2).start
  deepA : ∃ ov, (pieceO input (pieceAt ptx x.a).2).endRowBaitOverlap = .ok ov ∧
    (3 * err < ov ∨ ((pieceO input (pieceAt ptx x.a).2).rows.length = 1 ∧ err ≤ ov))
  deepB : ∃ ov, (pieceO input (pieceAt ptx x.b).2).startRowBaitOverlap = .ok ov ∧
    (3 * err < ov ∨ ((pieceO input (pieceAt ptx x.b).2).rows.length = 1 ∧ err ≤ ov))
  strand : x.frag.strand = 1 ∨ x.frag.strand = -1

/-- **maps that cut deep inside contigs** (each contig shared by at most two pieces) -/
structure DeepCut (input ptx : List Scaffold) (err : Int) : Prop where
  names : (input.map (·.name)).Nodup                       -- `IndexedAssembly.add_scaffold` rejects duplicates
  lens : ∀ sc ∈ input, ∀ r ∈ sc.rows, 0 ≤ r.length         -- monotone index
  oids : ∀ sc ∈ input, (C18.ids sc.rows).Nodup             -- a scaffold does not hold the same Fragment object twice
  errPos : 1 ≤ err                                        -- `err = 1 + ⌊bp per texel⌋`
  scaffolds : ∀ S ∈ ptx, ScaffoldKeep input err S          -- lookups exist, nothing for `trim_large_overhangs` to discard
  two : ∀ k ∈ sharedKeys input ptx, ∃ s t, holdersOf input ptx k = [s, t]   -- one cut per contig
  sitesOk : ∀ x ∈ sites input ptx, SiteOk input ptx err x
  unclaimed : ∀ sc ∈ input, UnclaimedOk (claimedKeys input ptx) sc

/-- the part of `DeepCut` that does not speak about shared contigs -/
structure DeepBase (input ptx : List Scaffold) (err : Int) : Prop where
  names : (input.map (·.name)).Nodup
  lens : ∀ sc ∈ input, ∀ r ∈ sc.rows, 0 ≤ r.length
  oids : ∀ sc ∈ input, (C18.ids sc.rows).Nodup
  errPos : 1 ≤ err
  scaffolds : ∀ S ∈ ptx, ScaffoldKeep input err S
  unclaimed : ∀ sc ∈ input, UnclaimedOk (claimedKeys input ptx) sc

theorem DeepCut.base {input ptx err} (h : DeepCut input ptx err) : DeepBase input ptx err :=
  ⟨h.names, h.lens, h.oids, h.errPos, h.scaffolds, h.unclaimed⟩

theorem DeepBase.piece {input ptx err} (h : DeepBase input ptx err) (i : Nat) (hi : i < (allPieces ptx).length) :
    PieceKeep input err (pieceAt ptx i).2 ∧ PieceFacts input (pieceAt ptx i).2 := by
  obtain ⟨hS, hp⟩ := mem_allPieces (pieceAt_mem ptx i hi).1
  have hk := (h.scaffolds _ hS).pieces _ hp
  exact ⟨hk, pieceFacts input _ h.oids hk.found⟩

theorem site_cases {input ptx err} (h : DeepCut input ptx err) (k : Key) (hk : k ∈ sharedKeys input ptx) :
    ∃ fnd s t, dGet? (regOf input ptx).1 k = some fnd ∧ fnd.scaffolds = [s, t] ∧ fnd.fragment.keyTuple = k ∧
      ((siteOf ptx (regOf input ptx).1 k = ⟨k, fnd.fragment, s, t⟩) ∨
       (siteOf ptx (regOf input ptx).1 k = ⟨k, fnd.fragment, t, s⟩)) := by
  obtain ⟨s, t, hst⟩ := h.two k hk
  unfold holdersOf at hst
  cases hd : dGet? (regOf input ptx).1 k with
  | none => rw [hd] at hst; cases hst
  | some fnd =>
    rw [hd] at hst
    simp only at hst
    refine ⟨fnd, s, t, rfl, hst, (regOf_ok input ptx).keyOk k fnd hd, ?_⟩
    unfold siteOf
    rw [hd]
    simp only [hst]
    split
    · exact Or.inl rfl
    · exact Or.inr rfl

theorem site_key {input ptx err} (h : DeepCut input ptx err) (x : Site) (hx : x ∈ sites input ptx) :
    x.key ∈ sharedKeys input ptx ∧ x = siteOf ptx (regOf input ptx).1 x.key ∧ x.frag.keyTuple = x.key := by
  unfold sites at hx
  obtain ⟨k, hk, rfl⟩ := List.mem_map.1 hx
  obtain ⟨fnd, s, t, _, _, hkey, hc⟩ := site_cases h k hk
  have hkk : (siteOf ptx (regOf input ptx).1 k).key = k := by rcases hc with e | e <;> rw [e]
  refine ⟨by rw [hkk]; exact hk, by rw [hkk], ?_⟩
  rcases hc with e | e <;> rw [e] <;> exact hkey

end AgpTpf.C02
