/-
  Helper lemmas for `Properties/C01ImpRemap.lean` (T1c capstone): the translated Python source of the WHOLE of phase 1,
  `BuildAssembly.remap_to_input_assembly` (`Gen.Imp.BuildAssembly_remap_to_input_assembly`), refines the model's `remapToInput`
  (`Model/Remap.lean`).  The source method is a composition of translated kernels, each of which is tied to the model in its own
  property file; here the ties are composed:

    find_assembly_overlaps   = make_scaffold_name (C09Imp) ; find_overlaps (parameter; C12Imp) ; label_scaffold (C09Imp) ;
                               trim_large_overhangs (the model's, called directly) ; store_fragments_found (C01ImpFound) ;
                               rename_unlocs_by_size (C09Imp)                                  against `findAssemblyOverlaps`
    discard_overhanging_fragments (C01ImpFound)                                                against `discardOverhanging`
    cut_remaining_overhangs  = cut_fragments (C01ImpCut) for every entry of `multi`            against `cutRemaining`
    rename_haplotigs_by_size (C09Imp)                                                          against `renameBySize`
    add_missing_scaffolds_from_input (C01ImpMissing)                                           against `addMissing`

  The plumbing is `ImpFound.Ref` ("the source raises what the model raises, or returns a related value") with its `>>=` /
  `PyRt.forIn` rules.  The generated definitions are unfolded by name; the only generated shape the relations depend on is the
  order of the components of the loop states (sorted by the text of their type, then by variable name, by the translator), which is
  confined to `FSt.pack` / `CSt.pack` and their projections (a state is destructured through `FSt.cases` / `CSt.cases`).
-/
import AgpTpf.Properties.C01ImpFound
import AgpTpf.Properties.C01ImpCut
import AgpTpf.Properties.C09Imp
import AgpTpf.Properties.C12Imp
import AgpTpf.Properties.C12ImpIndex
import AgpTpf.Properties.C01ImpMissing
set_option linter.unusedSimpArgs false
set_option linter.unusedVariables false
namespace AgpTpf.ImpRemap
open AgpTpf ImpFound

theorem ok_bind {α β : Type} (a : α) (f : α → R β) : ((Except.ok a : R α) >>= f) = f a := rfl
theorem error_bind {α β : Type} (e : Err) (f : α → R β) : ((Except.error e : R α) >>= f) = .error e := rfl

theorem Ref.of_src_ok {τ μ : Type} {Q : τ → μ → Prop} {src : R τ} {mdl : R μ} {t : τ} (h : Ref Q src mdl) (hs : src = .ok t) :
    ∃ m, mdl = .ok m ∧ Q t m := by
  subst hs; exact ref_iff_src.1 h

theorem getRes_snoc (store : List Res) (r : Res) : getRes (store ++ [r]) store.length = r.o := by
  rw [getRes, Arena.getD_length_snoc]

theorem rename_unlocs_eq (store : List Res) (s : PyRt.SrcNamer) :
    Gen.Imp.ScaffoldNamer_rename_unlocs_by_size store s = .ok (renameBySize store s.unloc_scaffolds) := by
  unfold Gen.Imp.ScaffoldNamer_rename_unlocs_by_size
  rw [C09.rename_by_size_is_source]
  rfl

theorem rename_haplotigs_eq (store : List Res) (s : PyRt.SrcNamer) :
    Gen.Imp.ScaffoldNamer_rename_haplotigs_by_size store s = .ok (renameBySize store s.haplotig_scaffolds) := by
  unfold Gen.Imp.ScaffoldNamer_rename_haplotigs_by_size
  rw [C09.rename_by_size_is_source]
  rfl

theorem tagsOf_own (sc : Scaffold) : C09.tagsOf sc (some sc.fragmentTags) = sc.fragmentTags := by
  unfold C09.tagsOf
  cases h : sc.fragmentTags <;> simp [h]

/-- `make_scaffold_name(scaffold, scaffold.fragment_tags())` -/
theorem make_name_ref (s : PyRt.SrcNamer) (sc : Scaffold) (hw : C09.WfNamer s) :
    Ref (fun (s' : PyRt.SrcNamer) (n : Namer) => C09.absNamer s' = n ∧ C09.WfNamer s')
      (Gen.Imp.ScaffoldNamer_make_scaffold_name s sc (some sc.fragmentTags))
      (makeScaffoldName (C09.absNamer s) sc.name sc.rows sc.fragmentTags) := by
  obtain ⟨h1, h2⟩ := C09.make_scaffold_name_refines s sc (some sc.fragmentTags)
  rw [tagsOf_own] at h1
  have h1' : (Gen.Imp.ScaffoldNamer_make_scaffold_name s sc (some sc.fragmentTags)).map C09.absNamer
      = (makeScaffoldName (C09.absNamer s) sc.name sc.rows sc.fragmentTags).map id := by
    rw [h1]; cases makeScaffoldName (C09.absNamer s) sc.name sc.rows sc.fragmentTags <;> rfl
  refine (Ref.of_map _ _ h1').mono ?_
  rintro s' n ⟨ha, hs⟩
  exact ⟨ha, ((h2 s' hs).2.2 hw.1)⟩

/-- `input_asm.find_overlaps` as the model has it: the scaffold of the bait's name, then the overlap search in it -/
def overlapsOf (input : List Scaffold) (bait : Fragment) : R (Option OverlapResult) :=
  lookupScaffold input bait.name >>= fun sc => findOverlaps sc.rows bait

/-- the model state a source state stands for; everything else (`extra`, `cuts`, `nextOid`, `joinGap`, `err`) as in `b0` -/
def mkBuild (b0 : Build) (store : List Res) (s : PyRt.SrcNamer) (heap : List Found) (found multi : List (Key × Nat)) : Build :=
  { b0 with store := store, namer := C09.absNamer s, found := C01.absFound heap found, multi := multi.map (·.1) }

/-- the loop state of the translated `find_assembly_overlaps` (both loops).  The translator orders the components by the text of their
    type, then by variable name:
    `(self_found_fragments, self_fragments_found_more_than_once, heap_ff, store, self_scaffold_namer)`.  `FSt.pack` and the
    projections below are the ONLY place that knows this order: a future permutation needs this block edited, nothing else. -/
abbrev FSt := List (Key × Nat) × List (Key × Nat) × List Found × List Res × PyRt.SrcNamer

@[reducible] def FSt.pack (store : List Res) (s : PyRt.SrcNamer) (heap : List Found) (found multi : List (Key × Nat)) : FSt :=
  (found, multi, heap, store, s)
@[reducible] def FSt.store (st : FSt) : List Res := st.2.2.2.1
@[reducible] def FSt.namer (st : FSt) : PyRt.SrcNamer := st.2.2.2.2
@[reducible] def FSt.heap (st : FSt) : List Found := st.2.2.1
@[reducible] def FSt.found (st : FSt) : List (Key × Nat) := st.1
@[reducible] def FSt.multi (st : FSt) : List (Key × Nat) := st.2.1
/-- every state is a `FSt.pack` (used instead of an anonymous-constructor pattern, which would name the components by position) -/
theorem FSt.cases (st : FSt) : ∃ store s heap found multi, st = FSt.pack store s heap found multi :=
  ⟨st.store, st.namer, st.heap, st.found, st.multi, rfl⟩

def RelF (b0 : Build) (st : FSt) (b : Build) : Prop :=
  C09.WfNamer st.namer ∧ C01.Coherent st.heap st.found st.multi ∧
  b = mkBuild b0 st.store st.namer st.heap st.found st.multi

def FindQ (b0 : Build) (t : List Res × List Found × PyRt.SrcNamer × List (Key × Nat) × List (Key × Nat)) (b' : Build) : Prop :=
  RelF b0 (FSt.pack t.1 t.2.2.1 t.2.1 t.2.2.2.1 t.2.2.2.2) b'

theorem find_tie (input ptx : List Scaffold) (b0 : Build) (fo : Fragment → R (Option OverlapResult))
    (hfo : ∀ bait, fo bait = overlapsOf input bait)
    (store : List Res) (s : PyRt.SrcNamer) (heap : List Found) (found multi : List (Key × Nat)) (b : Build)
    (h : RelF b0 (FSt.pack store s heap found multi) b) :
    Ref (FindQ b0) (Gen.Imp.BuildAssembly_find_assembly_overlaps store heap s found multi ptx b0.err fo)
      (findAssemblyOverlaps input ptx b) := by
  unfold Gen.Imp.BuildAssembly_find_assembly_overlaps findAssemblyOverlaps
  dsimp only
  refine forIn_bind_ok (RelF b0) ?step h ?fin
  case fin =>
    rintro st b' hr
    obtain ⟨store', s', heap', found', multi', rfl⟩ := st.cases
    exact Ref.ok hr
  case step =>
    rintro ps - st b hst
    obtain ⟨store, s, heap, found, multi, rfl⟩ := st.cases
    obtain ⟨hw, hc, rfl⟩ := hst
    dsimp only at hw hc ⊢
    refine Ref.bind (make_name_ref s ps hw) ?_
    rintro s1 n ⟨rfl, hw1⟩
    refine forIn_bind (RelF b0) ?bait ⟨hw1, hc, rfl⟩ ?after
    case after =>
      rintro st b' hst
      obtain ⟨store', s', heap', found', multi', rfl⟩ := st.cases
      obtain ⟨hw', hc', rfl⟩ := hst
      dsimp only at hw' hc' ⊢
      rw [rename_unlocs_eq]
      exact Ref.ok ⟨_, rfl, hw', hc', rfl⟩
    case bait =>
      rintro bait - st b hr
      obtain ⟨store, s, heap, found, multi, rfl⟩ := st.cases
      obtain ⟨hw, hc, rfl⟩ := hr
      rw [Pipeline.processBait_eq, hfo, overlapsOf, bind_assoc]
      refine Ref.bind_same fun sc _ => Ref.bind_same fun r _ => ?_
      cases r with
      | none => exact Ref.ok ⟨_, rfl, hw, hc, rfl⟩
      | some o =>
        -- label_scaffold on the result just allocated
        have hl := ImpNamer.label_scaffold_ref (store ++ [{ o := o, added := false }]) s store.length bait ps.fragmentTags ps.name hw
        rw [getRes_snoc] at hl
        refine Ref.bind hl ?_
        rintro ⟨s', st'⟩ ⟨n, o1⟩ ⟨hn, hst, hw'⟩
        dsimp only at hn hst hw' ⊢
        subst hst
        simp only [Arena.updRes_eq_modify, Arena.markAdded_eq_modify, Arena.modify_length_snoc, getRes_snoc]
        -- trim_large_overhangs is the model's on both sides
        refine Ref.bind_same fun o2 _ => ?_
        cases he : o2.rows.isEmpty with
        | true =>
          rw [Pipeline.stored_of_rows_nil _ _ (List.isEmpty_iff.mp he)]
          exact Ref.ok ⟨_, rfl, hw', hc, by simp only [mkBuild, hn]⟩
        | false =>
          rw [Pipeline.stored_of_rows_ne_nil _ _ (fun e => by simp [e] at he)]
          simp only [Bool.not_false, if_true, Bool.false_eq_true, if_false]
          -- store_fragments_found
          rw [bind_assoc]
          refine Ref.bind_src (ImpFound.store_tie
            { mkBuild b0 store s heap found multi with namer := n, store := store ++ [{ o := o2, added := true }] }
            heap found multi store.length hc rfl rfl) ?_
          rintro _ ⟨heap', found', multi', rfl, hc', hb'⟩
          refine Ref.ok ⟨_, rfl, hw', hc', ?_⟩
          simp only [getRes_snoc] at hb'
          exact hb'.trans (by simp only [mkBuild, hn]; rfl)


/-- the loop state of the translated `cut_remaining_overhangs`, components ordered by the text of their type, then by variable name:
    `(self_fragments_found_more_than_once, heap_ff, store, self_assembly_stats_cuts, nextOid)`; the arena and `multi` are not touched
    by the loop.  `CSt.pack` and the projections are the only place that knows the order. -/
abbrev CSt := List (Key × Nat) × List Found × List Res × Int × Nat

@[reducible] def CSt.pack (store : List Res) (heap : List Found) (multi : List (Key × Nat)) (oid : Nat) (cuts : Int) : CSt :=
  (multi, heap, store, cuts, oid)
@[reducible] def CSt.store (st : CSt) : List Res := st.2.2.1
@[reducible] def CSt.heap (st : CSt) : List Found := st.2.1
@[reducible] def CSt.multi (st : CSt) : List (Key × Nat) := st.1
@[reducible] def CSt.oid (st : CSt) : Nat := st.2.2.2.2
@[reducible] def CSt.cuts (st : CSt) : Int := st.2.2.2.1
theorem CSt.cases (st : CSt) : ∃ store heap multi oid cuts, st = CSt.pack store heap multi oid cuts :=
  ⟨st.store, st.heap, st.multi, st.oid, st.cuts, rfl⟩

def RelC (b0 : Build) (heap : List Found) (multi : List (Key × Nat)) (st : CSt) (b : Build) : Prop :=
  st.heap = heap ∧ st.multi = multi ∧ b = { b0 with store := st.store, nextOid := st.oid, cuts := st.cuts }

def CutQ (b0 : Build) (heap : List Found) (t : List Res × Nat × List Found × List (Key × Nat) × Int) (b' : Build) : Prop :=
  t = (b'.store, b'.nextOid, heap, [], b'.cuts) ∧
  b' = { b0 with store := b'.store, nextOid := b'.nextOid, cuts := b'.cuts, multi := [] }

theorem cut_tie (b : Build) (heap : List Found) (found multi : List (Key × Nat))
    (hc : C01.Coherent heap found multi) (hf : b.found = C01.absFound heap found) (hm : b.multi = multi.map (·.1)) :
    Ref (CutQ b heap) (Gen.Imp.BuildAssembly_cut_remaining_overhangs b.store b.nextOid heap multi b.cuts) (cutRemaining b) := by
  unfold Gen.Imp.BuildAssembly_cut_remaining_overhangs cutRemaining
  rw [hm, List.foldlM_map, PyRt.forIn_map]
  refine forIn_bind (RelC b heap multi) ?step ⟨rfl, rfl, rfl⟩ ?fin
  case fin =>
    rintro st b' hst
    obtain ⟨store', heap', multi', oid', cuts', rfl⟩ := st.cases
    obtain ⟨rfl, rfl, rfl⟩ := hst
    exact Ref.ok ⟨rfl, rfl⟩
  case step =>
    rintro kv hkv st b' hst
    obtain ⟨store', heap', multi', oid', cuts', rfl⟩ := st.cases
    obtain ⟨rfl, rfl, rfl⟩ := hst
    dsimp only
    rw [show dGet? b.found kv.1 = some (PyRt.getFound heap' kv.2) by rw [hf]; exact multi_entry_found hc hkv]
    dsimp only
    have hsrc := C01.cut_fragments_is_source { b with store := store', nextOid := oid', cuts := cuts' } (PyRt.getFound heap' kv.2)
    dsimp only at hsrc
    rw [hsrc]
    cases hcf : cutFragments { b with store := store', nextOid := oid', cuts := cuts' } (PyRt.getFound heap' kv.2) with
    | error e => rfl
    | ok b' =>
      have hfr := C01.cut_fragments_frame _ _ _ hcf
      refine Ref.ok ⟨_, rfl, rfl, rfl, ?_⟩
      rw [hfr]

/-- `discardOverhanging` is insensitive to extra fuel (unless it ran out of it) -/
theorem discardOverhanging_mono : ∀ (fuel : Nat) (b : Build) (r : R Build), discardOverhanging fuel b = r → r ≠ .error .other →
    ∀ fuel', fuel ≤ fuel' → discardOverhanging fuel' b = r := by
  intro fuel
  induction fuel with
  | zero => intro b r h hr; simp only [discardOverhanging] at h; exact absurd h.symm hr
  | succ fuel ih =>
    intro b r h hr fuel' hle
    obtain ⟨k, rfl⟩ : ∃ k, fuel' = k + 1 := ⟨fuel' - 1, by omega⟩
    simp only [discardOverhanging] at h ⊢
    by_cases hm : b.multi.isEmpty = true
    · simp only [hm, if_true] at h ⊢; exact h
    · simp only [hm, if_false, Bool.false_eq_true] at h ⊢
      cases hrr : resolverRound b with
      | error e => rw [hrr] at h; exact h
      | ok ob =>
        rw [hrr] at h
        cases ob with
        | none => exact h
        | some b' => exact ih b' r h hr k (by omega)

/-- `IndexedAssembly.__init__`: `for scffld in scaffolds: self.add_scaffold(scffld)`, from the two empty dictionaries -/
def indexInput (input : List Scaffold) : R (List (Str × Scaffold) × List (Str × List Int)) :=
  input.foldlM (fun d sc => Gen.Imp.IndexedAssembly_add_scaffold d.1 d.2 sc) ([], [])

/-- the duplicate-name check `remapToInput` starts with -/
def dupStep (seen : List Str) (s : Scaffold) : R (List Str) :=
  if seen.contains s.name then throw Err.value else pure (seen ++ [s.name])
def dupCheck (input : List Scaffold) : R (List Str) := input.foldlM dupStep []

def dictOf (l : List Scaffold) : List (Str × Scaffold) := l.map (fun sc => (sc.name, sc))
def idxOf (l : List Scaffold) : List (Str × List Int) := l.map (fun sc => (sc.name, buildIndex sc.rows))

/-- `scaffold_by_name`: ValueError for an unknown name -/
def byNameOf (d : List (Str × Scaffold)) (n : Str) : R Scaffold :=
  match dGet? d n with
  | some sc => .ok sc
  | none => .error .value
/-- `self._scaffold_index.get(name)`; `None` (falsy, as the empty list) for an unknown name -/
def indexGetOf (ix : List (Str × List Int)) (n : Str) : List Int := (dGet? ix n).getD []

theorem dGet?_dictOf_isSome (l : List Scaffold) (n : Str) : (dGet? (dictOf l) n).isSome = (l.map (·.name)).contains n := by
  rw [← contains_keys, dictOf, List.map_map]; rfl

theorem index_fold (rest : List Scaffold) : ∀ (pre : List Scaffold),
    rest.foldlM (fun (d : List (Str × Scaffold) × List (Str × List Int)) sc => Gen.Imp.IndexedAssembly_add_scaffold d.1 d.2 sc)
        (dictOf pre, idxOf pre)
      = (rest.foldlM dupStep (pre.map Scaffold.name)).map
          (fun _ => (dictOf (pre ++ rest), idxOf (pre ++ rest))) := by
  induction rest with
  | nil => intro pre; simp [List.foldlM_nil, pure, Except.pure, Except.map]
  | cons sc rest ih =>
    intro pre
    rw [List.foldlM_cons, List.foldlM_cons, C12.add_scaffold_is_source, dGet?_dictOf_isSome]
    have hstep : dupStep (pre.map Scaffold.name) sc
        = if (pre.map Scaffold.name).contains sc.name = true then .error .value else .ok (pre.map Scaffold.name ++ [sc.name]) := rfl
    rw [hstep]
    by_cases h : (pre.map Scaffold.name).contains sc.name = true
    · simp only [h, if_true]; rfl
    · simp only [h, if_false, Bool.false_eq_true]
      -- both dictionaries have the names seen so far as their keys
      have hk : sc.name ∉ pre.map Scaffold.name := fun hm => h (List.contains_iff_mem.mpr hm)
      have hn : dGet? (dictOf pre) sc.name = none := (dGet?_none_iff _ _).2 (by rw [dictOf, List.map_map]; exact hk)
      have hn2 : dGet? (idxOf pre) sc.name = none := (dGet?_none_iff _ _).2 (by rw [idxOf, List.map_map]; exact hk)
      rw [dSet_of_none _ hn, dSet_of_none _ hn2]
      have e1 : dictOf pre ++ [(sc.name, sc)] = dictOf (pre ++ [sc]) := by simp [dictOf]
      have e2 : idxOf pre ++ [(sc.name, buildIndex sc.rows)] = idxOf (pre ++ [sc]) := by simp [idxOf]
      have e3 : pre.map Scaffold.name ++ [sc.name] = (pre ++ [sc]).map Scaffold.name := by simp
      simp only [ok_bind, pure, Except.pure]
      rw [e1, e2, e3, ih (pre ++ [sc])]
      simp only [List.append_assoc, List.singleton_append]

theorem indexInput_eq (input : List Scaffold) :
    indexInput input = (dupCheck input).map (fun _ => (dictOf input, idxOf input)) := by
  have := index_fold input []
  simpa [indexInput, dupCheck, dictOf, idxOf] using this

theorem byNameOf_dictOf (input : List Scaffold) (n : Str) : byNameOf (dictOf input) n = lookupScaffold input n := by
  unfold byNameOf lookupScaffold
  induction input with
  | nil => rfl
  | cons a l ih =>
    simp only [dictOf, List.map_cons, dGet?, List.find?_cons] at ih ⊢
    by_cases h : a.name = n
    · simp [h]
    · simp only [h, if_false, decide_false]; exact ih

theorem indexGetOf_idxOf (input : List Scaffold) (n : Str) (sc : Scaffold) (h : lookupScaffold input n = .ok sc) :
    indexGetOf (idxOf input) n = buildIndex sc.rows := by
  unfold indexGetOf
  unfold lookupScaffold at h
  induction input with
  | nil => simp at h
  | cons a l ih =>
    simp only [idxOf, List.map_cons, dGet?, List.find?_cons] at ih h ⊢
    by_cases hk : a.name = n
    · simp only [hk, decide_true] at h; cases h; simp [hk]
    · simp only [hk, decide_false, if_false] at h ⊢; exact ih h

theorem overlapsOf_is_source (input : List Scaffold) (fuel : Nat) (hfuel : ∀ sc ∈ input, sc.rows.length + 1 < fuel) (bait : Fragment) :
    Gen.Imp.IndexedAssembly_find_overlaps fuel bait (byNameOf (dictOf input)) (indexGetOf (idxOf input)) = overlapsOf input bait := by
  unfold overlapsOf
  cases h : lookupScaffold input bait.name with
  | error e =>
    exact C12.find_overlaps_unknown_scaffold bait fuel _ e (by rw [byNameOf_dictOf, h]) _
  | ok sc =>
    exact C12.find_overlaps_is_source sc bait fuel (hfuel sc (Pipeline.lookupScaffold_ok h).1) _ (by rw [byNameOf_dictOf, h]) _
      (indexGetOf_idxOf _ _ _ h)

/-- `remapToInput` after its duplicate-name check, from any start state -/
def phase1 (input ptx : List Scaffold) (b0 : Build) : R Build :=
  findAssemblyOverlaps input ptx b0 >>= fun b =>
  discardOverhanging (totalRows b.store + 2) b >>= fun b =>
  cutRemaining b >>= fun b =>
  addMissing input { b with store := renameBySize b.store b.namer.haplotigScaffolds }

theorem remapToInput_eq (input ptx : List Scaffold) (prefix_ : Str) (joinGap : Option Gap) (err : Int) :
    remapToInput input ptx prefix_ joinGap err
      = dupCheck input >>= fun _ => phase1 input ptx (Pipeline.initBuild input prefix_ joinGap err) := rfl

/-- the fuel handed to `discard_overhanging_fragments`: what the model uses, or more when the model did not run out of it -/
def FuelOk (input ptx : List Scaffold) (b0 : Build) (fuel : Nat) : Prop :=
  ∀ b1, findAssemblyOverlaps input ptx b0 = .ok b1 →
    fuel = totalRows b1.store + 2 ∨
    (totalRows b1.store + 2 ≤ fuel ∧ discardOverhanging (totalRows b1.store + 2) b1 ≠ .error .other)

/-- the result tuple of the translated `remap_to_input_assembly`:
    `(store, nextOid, heap_lo, added_lo, heap_ff, namer, found, multi, cuts)` -/
abbrev RemapT := List Res × Nat × List PyRt.Leftover × List Nat × List Found × PyRt.SrcNamer × List (Key × Nat) × List (Key × Nat) × Int

def RemapQ (b0 : Build) (t : RemapT) (b : Build) : Prop :=
  ∃ heap_lo heap_ff s found,
    t = (b.store, b.nextOid, heap_lo, List.range heap_lo.length, heap_ff, s, found, [], b.cuts) ∧
    C09.WfNamer s ∧ C01.Coherent heap_ff found [] ∧ (∀ x ∈ heap_lo, ImpMissing.loSrc (ImpMissing.loModel x) = x) ∧
    b = { b0 with store := b.store, nextOid := b.nextOid, cuts := b.cuts, namer := C09.absNamer s,
                  found := C01.absFound heap_ff found, multi := [], extra := b0.extra ++ heap_lo.map ImpMissing.loModel }

theorem missing_ref (input : List Scaffold) (b : Build) (g : Gap) (hg : b.joinGap = some g) (s : PyRt.SrcNamer) (hw : C09.WfNamer s)
    (heap : List Found) (found : List (Key × Nat)) (hn : b.namer = C09.absNamer s) (hf : b.found = C01.absFound heap found) :
    Ref (ImpMissing.MissingQ b) (Gen.Imp.BuildAssembly_add_missing_scaffolds_from_input s input g found) (addMissing input b) := by
  refine ImpMissing.add_missing_tie input b g hg s hw hn.symm found (fun k => ?_)
    (fun s sc _ => (C09.make_scaffold_name_refines s sc none).1)
    (fun s sc s' hws h => ((C09.make_scaffold_name_refines s sc none).2 s' h).2.2 hws.1)
  rw [hf]
  show _ = (dGet? (ImpFound.absFound heap found) k).isSome
  rw [ImpFound.dGet?_absFound]
  cases dGet? found k <;> rfl

theorem phase1_tie (input ptx : List Scaffold) (b0 : Build) (g : Gap) (hg : b0.joinGap = some g)
    (fo : Fragment → R (Option OverlapResult)) (hfo : ∀ bait, fo bait = overlapsOf input bait)
    (s : PyRt.SrcNamer) (heap : List Found) (found multi : List (Key × Nat))
    (h : RelF b0 (FSt.pack b0.store s heap found multi) b0) (fuel : Nat) (hfuel : FuelOk input ptx b0 fuel) :
    Ref (RemapQ b0)
      (Gen.Imp.BuildAssembly_remap_to_input_assembly fuel b0.store b0.nextOid heap s found multi b0.cuts ptx input b0.err g fo)
      (phase1 input ptx b0) := by
  unfold Gen.Imp.BuildAssembly_remap_to_input_assembly phase1
  dsimp only
  -- find_assembly_overlaps
  refine Ref.bind' (find_tie input ptx b0 fo hfo b0.store s heap found multi b0 h) ?_
  rintro ⟨store1, heap1, s1, found1, multi1⟩ b1 - hfa ⟨hw1, hc1, hb1⟩
  dsimp only at hw1 hc1 hb1 ⊢
  -- discard_overhanging_fragments, with the fuel the source was given
  have hfu : discardOverhanging (totalRows b1.store + 2) b1 = discardOverhanging fuel b1 := by
    rcases hfuel b1 hfa with h | ⟨hle, hne⟩
    · rw [h]
    · exact (discardOverhanging_mono _ b1 _ rfl hne fuel hle).symm
  rw [hfu]
  subst hb1
  refine Ref.bind (discard_tie fuel (mkBuild b0 store1 s1 heap1 found1 multi1) heap1 found1 multi1 hc1 rfl rfl) ?_
  rintro ⟨store2, heap2, multi2⟩ b2 ⟨hc2, rfl⟩
  dsimp only at hc2 ⊢
  -- cut_remaining_overhangs
  refine Ref.bind (cut_tie (mkBuild b0 store2 s1 heap2 found1 multi2) heap2 found1 multi2 hc2 rfl rfl) ?_
  rintro _ b3 ⟨rfl, hb3⟩
  -- rename_haplotigs_by_size, add_missing_scaffolds_from_input
  rw [rename_haplotigs_eq]
  simp only [ok_bind]
  refine Ref.bind_ok (missing_ref input { b3 with store := renameBySize b3.store b3.namer.haplotigScaffolds } g
    (by rw [hb3]; exact hg) s1 hw1 heap2 found1 (by rw [hb3]; rfl) (by rw [hb3]; rfl)) ?_
  rintro ⟨heap_lo, added, s4⟩ b4 ⟨ha, hw4, hl, rfl⟩
  dsimp only at ha hw4 hl ⊢
  subst ha
  refine Ref.ok ⟨heap_lo, heap2, s4, found1, ?_, hw4, ⟨hc2.1, hc2.2.1, by simp, by simp⟩, hl, ?_⟩
  · rw [show b3.namer = C09.absNamer s1 by rw [hb3]; rfl]; rfl
  · rw [hb3]; rfl

/-- the whole of phase 1 from the state of `BuildAssembly.__init__`, the duplicate-name check having passed -/
theorem remap_to_input_ref (input ptx : List Scaffold) (prefix_ : Str) (g : Gap) (err : Int) (fuel : Nat) (seen : List Str)
    (hdup : dupCheck input = .ok seen) (hfuel : FuelOk input ptx (Pipeline.initBuild input prefix_ (some g) err) fuel) :
    Ref (RemapQ (Pipeline.initBuild input prefix_ (some g) err))
      (Gen.Imp.BuildAssembly_remap_to_input_assembly fuel [] (Pipeline.initBuild input prefix_ (some g) err).nextOid []
        { autosome_prefix := prefix_ } [] [] 0 ptx input err g (overlapsOf input))
      (remapToInput input ptx prefix_ (some g) err) := by
  rw [remapToInput_eq, hdup]
  exact phase1_tie input ptx _ g rfl (overlapsOf input) (fun _ => rfl) { autosome_prefix := prefix_ } [] [] []
    ⟨⟨Int.le_refl 0, Int.le_refl 0⟩, C01.coherent_empty, rfl⟩ fuel hfuel

end AgpTpf.ImpRemap
