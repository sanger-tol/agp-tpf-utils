/-
  C02 (deep cuts, any number of cuts per contig), part 0: specification functions.
  A shared contig has a CHAIN of holders (`SiteN.chain`, in scaffold order): the first ends inside the contig, the
  last begins inside it, the middle ones lie wholly inside it.
-/
import AgpTpf.Proofs.C02DChain
import AgpTpf.Proofs.C02DOut
namespace AgpTpf.C02
open AgpTpf

structure SiteN where
  key : Key
  frag : Fragment
  chain : List Nat
  deriving DecidableEq, Repr

/-- the holders of a shared contig, sorted by where their baits begin -/
def siteOfN (ptx : List Scaffold) (found : List (Key × Found)) (k : Key) : SiteN :=
  match dGet? found k with
  | some fnd => ⟨k, fnd.fragment, sortByIntKey (fun s => (pieceAt ptx s).2.start) fnd.scaffolds⟩
  | none => ⟨k, default, []⟩

def sitesN (input ptx : List Scaffold) : List SiteN :=
  (sharedKeys input ptx).map (siteOfN ptx (regOf input ptx).1)

/-- each site with the number of object ids used by the sites before it -/
def withOffsets : Nat → List SiteN → List (SiteN × Nat)
  | _, [] => []
  | n, x :: r => (x, n) :: withOffsets (n + x.chain.length) r

/-- object id of the Fragment made for the holder at chain position `p`: holders are visited in contig order -/
def oidAt (base : Nat) (y : SiteN × Nat) (p : Nat) : Nat :=
  base + y.2 + (if y.1.frag.strand = 1 then p else y.1.chain.length - 1 - p)

/-- the start of result `i` is cut iff `i` is in a chain but not its first element; the end iff it is not the last -/
def startCutN (base : Nat) (l : List (SiteN × Nat)) (i : Nat) : Option Nat :=
  l.findSome? (fun y =>
    if 0 < y.1.chain.idxOf i ∧ y.1.chain.idxOf i < y.1.chain.length then some (oidAt base y (y.1.chain.idxOf i)) else none)
def endCutN (base : Nat) (l : List (SiteN × Nat)) (i : Nat) : Option Nat :=
  l.findSome? (fun y =>
    if y.1.chain.idxOf i + 1 < y.1.chain.length then some (oidAt base y (y.1.chain.idxOf i)) else none)

def resDeepN (input : List Scaffold) (base : Nat) (l : List (SiteN × Nat)) (x : (Scaffold × Fragment) × Nat) : Res :=
  { o := cutO (startCutN base l x.2) (endCutN base l x.2) (labelled x.1.1 (pieceO input x.1.2)), added := true }

def storeDeepN (input ptx : List Scaffold) (base : Nat) (l : List (SiteN × Nat)) : List Res :=
  (allPieces ptx).zipIdx.map (resDeepN input base l)

def expectedStoreDeepN (input ptx : List Scaffold) : List Res :=
  storeDeepN input ptx (oid0 input) (withOffsets 0 (sitesN input ptx))

def cutPieceN (input ptx : List Scaffold) (i : Nat) (p : Fragment) : OverlapResult :=
  cutO (startCutN (oid0 input) (withOffsets 0 (sitesN input ptx)) i)
    (endCutN (oid0 input) (withOffsets 0 (sitesN input ptx)) i) (pieceO input p)

def expectedRowsDeepN (input ptx : List Scaffold) (jg : Gap) (qs : List (Fragment × Nat)) : List Row :=
  qs.foldl (fun built q => Scaffold.appendRows built (cutPieceN input ptx q.2 q.1).toScaffoldRows (some jg)) []

def pretextOutDeepN (input ptx : List Scaffold) (jg : Gap) (g : Scaffold × List (Fragment × Nat)) : Scaffold :=
  { name := outName g.1, rows := expectedRowsDeepN input ptx jg g.2, tag := none, haplotype := none, rank := 3,
    originalName := some g.1.name, originalTags := some [] }

def expectedScaffoldsDeepN (input ptx : List Scaffold) (jg : Gap) : List Scaffold :=
  (groupsFrom 0 ptx).map (pretextOutDeepN input ptx jg) ++ (expectedExtra (claimedKeys input ptx) jg input).map (·.1)

end AgpTpf.C02
