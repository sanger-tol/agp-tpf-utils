/-
  C09 routing, part 7: the haplotype of the pieces of a Pretext scaffold.
  Every result created for Pretext scaffold `S` carries the haplotype `make_scaffold_name` computed for `S`, and keeps
  it to the end of `remap_to_input_assembly`.
-/
import AgpTpf.Model.Remap
import AgpTpf.Proofs.C09RLeft
import AgpTpf.Proofs.C09RMain
namespace AgpTpf.C09
open AgpTpf

/-- one Pretext scaffold inside `find_assembly_overlaps` (the loop body, verbatim) -/
def findStep (input : List Scaffold) (b : Build) (ps : Scaffold) : R Build := do
  let tags := ps.fragmentTags
  let n ← makeScaffoldName b.namer ps.name ps.rows tags
  let b := { b with namer := n }
  let b ← ps.fragments.foldlM (processBait input tags ps.name) b
  pure { b with store := renameBySize b.store b.namer.unlocScaffolds }

theorem findAssemblyOverlaps_eq (input ptx : List Scaffold) (b : Build) :
    findAssemblyOverlaps input ptx b = ptx.foldlM (findStep input) b := rfl

theorem findAssemblyOverlaps_split (input pre post : List Scaffold) (S : Scaffold) (b b' : Build)
    (h : findAssemblyOverlaps input (pre ++ S :: post) b = .ok b') :
    ∃ b1 b2, findAssemblyOverlaps input pre b = .ok b1 ∧ findStep input b1 S = .ok b2 ∧
      findAssemblyOverlaps input post b2 = .ok b' := by
  rw [findAssemblyOverlaps_eq, List.foldlM_append, bind_eq_ok] at h
  obtain ⟨b1, h1, h2⟩ := h
  rw [List.foldlM_cons, bind_eq_ok] at h2
  obtain ⟨b2, h2, h3⟩ := h2
  exact ⟨b1, b2, h1, h2, h3⟩

theorem findAssemblyOverlaps_namerOk (input ptx : List Scaffold) (b b' : Build) (hok : C17.NamerOk b.namer)
    (h : findAssemblyOverlaps input ptx b = .ok b') : C17.NamerOk b'.namer :=
  Pipeline.findAssemblyOverlaps_inv (fun x => C17.NamerOk x.namer) h hok
    (fun S _ _ _ hx hn => (makeScaffoldName_spellings (Q := fun kv => kv.2 ≠ []) hx
      (fun t ht e => Scaffold.nil_not_mem_fragmentTags S (e ▸ (List.mem_filter.1 ht).1))
      (fun nm g _ hg => hapPrefixOfName_ne_nil nm g hg) (fun _ _ _ hv => hv) hn).1)
    (fun _ _ p _ x x' hx hs => by
      rcases processBait_created hs with ⟨_, rfl⟩ | ⟨_, _, _, _, _, _, hn, _⟩
      · exact hx
      · unfold C17.NamerOk; rw [hn, (sameMode_bump _ _ _).2.2.2.1]; exact hx)
    (fun _ _ hx => hx)

theorem namerOk_start (input : List Scaffold) (prefix_ : Str) (joinGap : Option Gap) (err : Int) :
    C17.NamerOk (startBuild input prefix_ joinGap err).namer := by
  intro kv h; cases h

/-- **The pieces of a Pretext scaffold keep the scaffold's haplotype to the end.**  For the Pretext scaffold `S` at any
    position of the map: with `bA` the build when `S` is reached and `bB` the build after it, the stored results with
    index `bA.store.length ≤ sid < bB.store.length` — those created for `S` — have, in the build finally returned, the
    haplotype `make_scaffold_name` computed for `S`. -/
theorem remapToInput_piece_haplotype (input pre post : List Scaffold) (S : Scaffold) (prefix_ : Str)
    (joinGap : Option Gap) (err : Int) (b : Build)
    (h : remapToInput input (pre ++ S :: post) prefix_ joinGap err = .ok b) :
    ∃ bA bB n, findAssemblyOverlaps input pre (startBuild input prefix_ joinGap err) = .ok bA ∧
      findStep input bA S = .ok bB ∧ C17.NamerOk bA.namer ∧
      makeScaffoldName bA.namer S.name S.rows S.fragmentTags = .ok n ∧
      bA.store.length ≤ bB.store.length ∧ bB.store.length ≤ b.store.length ∧
      ∀ (sid : Nat) (r : Res), bA.store.length ≤ sid → sid < bB.store.length → b.store[sid]? = some r →
        r.o.haplotype = n.currentHaplotype := by
  obtain ⟨b1, _, h1, _, hfin, _, _, _, _⟩ := remapToInput_summary input (pre ++ S :: post) prefix_ joinGap err b h
  obtain ⟨bA, bB, hA, hB, hP⟩ := findAssemblyOverlaps_split input pre post S _ b1 h1
  obtain ⟨n, hn, _, _, hst⟩ := overlapsStep_oFixed hB
  have hokA := findAssemblyOverlaps_namerOk input pre _ bA (namerOk_start input prefix_ joinGap err) hA
  obtain ⟨tail, htail⟩ := (Pipeline.findAssemblyOverlaps_grows hP).map_prefix (fun r => oFixed r.o) (fun _ _ => rfl)
  -- the label fields of the final store: those of `bA`'s results, then of the pieces of `S`, then of later pieces
  have hall : b.store.map (fun r => oFixed r.o) = bA.store.map (fun r => oFixed r.o) ++
      ((S.fragments.filter (hits input)).map (labelOf n S.fragmentTags S.name) ++ tail) := by
    have hb1 : b.store.map (fun r => oFixed r.o) = b1.store.map (fun r => oFixed r.o) := by
      have := congrArg (List.map Prod.fst) hfin
      rwa [List.map_map, List.map_map] at this
    rw [hb1, ← htail, hst, List.append_assoc]
  have hlenB : bB.store.length = bA.store.length + (S.fragments.filter (hits input)).length := by
    simpa using congrArg List.length hst
  have hlenb : b.store.length = bA.store.length + ((S.fragments.filter (hits input)).length + tail.length) := by
    simpa using congrArg List.length hall
  refine ⟨bA, bB, n, hA, hB, hokA, hn, by omega, by omega, ?_⟩
  intro sid r h1 h2 hr
  have hx : (b.store.map (fun r => oFixed r.o))[sid]? = some (oFixed r.o) := by rw [List.getElem?_map, hr]; rfl
  rw [hall, List.getElem?_append_right (by simpa using h1),
    List.getElem?_append_left (by simp; omega), List.getElem?_map] at hx
  simp only [List.length_map] at hx
  cases hnw : (S.fragments.filter (hits input))[sid - bA.store.length]? with
  | none => rw [hnw] at hx; cases hx
  | some p =>
    rw [hnw] at hx
    exact (congrArg (fun x => x.2.1) (Option.some.inj hx)).symm

end AgpTpf.C09
