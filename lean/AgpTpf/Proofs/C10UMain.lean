/-
  C10 uniqueness, parts 10 and 11: front half + back half = uniqueness of scaffold names in the output assemblies of `remap`, for
  the assembly keys `G` (the tagged assemblies Contaminant / FalseDuplicate only under `TG`); then the two simple instances of the
  general theorem — no condition on the tagged assemblies (the statement then covers every assembly whose key is not Contaminant /
  FalseDuplicate), and clause 7, first form (`TaggedOneHaplotype`): Contaminant / FalseDuplicate scaffolds carry no haplotype.
-/
import AgpTpf.Proofs.C10UFront
import AgpTpf.Properties.C09
namespace AgpTpf.C10U
open AgpTpf

theorem tri_eq_triple (s : Scaffold) : tri s = C09.triple s := rfl

theorem lab_fields (s : Scaffold) : (lab s).tag = s.tag ∧ (lab s).haplotype = s.haplotype ∧ (lab s).name = s.name :=
  ⟨rfl, rfl, rfl⟩

theorem fusedOk_of_front (TG : Par) (G : Option Str → Prop)
    (hG : ∀ k, G k → (k = some sContaminant ∨ k = some sFalseDuplicate) →
      ∀ E E', TG.Q E → TG.Q E' → E.name = E'.name → E.haplotype = E'.haplotype) (p : Str) (N : List Str) (b : Build)
    (hS : StoreOk TG p N b.store) (hE : ∀ e ∈ b.extra, PE TG p N (lab e.1))
    (hnoHap : ∀ e ∈ b.extra, e.1.tag ≠ some sHaplotig) : FusedOk G p N (fuseByName b) := by
  -- a fused scaffold has the label fields of a stored result or of a left-over scaffold; a Haplotig one, of a stored result
  have hpe : ∀ s ∈ fuseByName b, PE TG p N (lab s) ∧ (s.tag = some sHaplotig → ∃ r ∈ b.store, lab s = labRes r) :=
    fused_lab b (fun E => PE TG p N E ∧ (E.tag = some sHaplotig → ∃ r ∈ b.store, E = labRes r))
      (fun r hr => ⟨hS.entries r hr, fun _ => ⟨r, hr, rfl⟩⟩) (fun e he => ⟨hE e he, fun h => absurd h (hnoHap e he)⟩)
  refine ⟨fun s hs => scOk_of_lab p N s (hpe s hs).1.1, Fuse.fuseByName_triples_nodup b, ?_⟩
  intro s hs s' hs' hne hGs htag hname
  have hw : s.tag ∈ tagWords := (hpe s hs).1.1.tagCases.resolve_left hne
  simp only [tagWords, List.mem_cons, List.not_mem_nil, or_false] at hw
  rcases or_assoc.2 hw with hcf | hH
  · exact hG _ hGs hcf (lab s) (lab s') ((hpe s hs).1.2 hcf) ((hpe s' hs').1.2 (htag ▸ hcf)) hname
  · -- both come from stored results, which share their `H_<k>` name
    obtain ⟨r, hr, er⟩ := (hpe s hs).2 hH
    obtain ⟨r', hr', er'⟩ := (hpe s' hs').2 (htag ▸ hH)
    have e := hS.hapInj r hr r' hr' ((congrArg Scaffold.tag er).symm.trans hH)
      ((congrArg Scaffold.tag er').symm.trans (htag ▸ hH))
      ((congrArg Scaffold.name er).symm.trans (hname.trans (congrArg Scaffold.name er')))
    exact (congrArg Scaffold.haplotype (er.trans (e.trans er'.symm)) :)

theorem remap_names_unique_gen (TG : Par) (G : Option Str → Prop)
    (hG : ∀ k, G k → (k = some sContaminant ∨ k = some sFalseDuplicate) →
      ∀ E E', TG.Q E → TG.Q E' → E.name = E'.name → E.haplotype = E'.haplotype)
    (input ptx : List Scaffold) (p : Str) (jg : Option Gap) (err : Int) (outs : List OutAsm) (stats : Stats)
    (h : remap input ptx p jg err = .ok (outs, stats)) (H : C10.NamesOutsideGenerated input ptx p)
    (hNI0 : TG.NI { autosomePrefix := p }) (hPtx : PtxCallback TG input ptx) (hLeft : LeftCallback TG input ptx) :
    ∀ a ∈ outs, G a.key → (a.scaffolds.map (·.name)).Nodup := by
  obtain ⟨b, hb, hfused⟩ := Pipeline.remap_ok_iff.1 h
  obtain ⟨hS, hE, hpre, hnoHap⟩ := front_spec (TG := TG) input ptx p jg err b H hNI0 hPtx hLeft hb
  have hok := fusedOk_of_front TG G hG p (ptx.map (·.name)) b hS hE hnoHap
  rw [← hpre] at hok
  exact fused_names_nodup G input b outs stats (ptx.map (·.name)) (by rw [List.length_map]; exact H.fewScaffolds) hok hfused

def parFree : Par := { Q := fun _ => True, NI := fun _ => True, ni_core := fun _ _ _ h => h }

def parNoHap : Par := { Q := fun E => E.haplotype = none, NI := fun _ => True, ni_core := fun _ _ _ h => h }

theorem ptxCallback_free (input ptx : List Scaffold) : PtxCallback parFree input ptx :=
  fun _ _ _ _ _ _ _ => ⟨trivial, fun _ _ _ _ _ _ => trivial⟩

theorem leftCallback_free (input ptx : List Scaffold) : LeftCallback parFree input ptx :=
  fun _ _ _ _ _ _ _ _ _ => ⟨trivial, fun _ => trivial⟩

theorem ptxCallback_noHap (input ptx : List Scaffold) (HT : C10.TaggedOneHaplotype input ptx) :
    PtxCallback parNoHap input ptx := by
  intro ps hps n n' _ hfacts _
  refine ⟨trivial, fun hmay c _ tg suf _ => ?_⟩
  show n'.currentHaplotype = none
  have hfree := HT.pieces ps hps hmay
  unfold C10.hapFreeSc at hfree
  rw [Bool.and_eq_true] at hfree
  apply hfacts.hapFree
  · intro t ht hcl
    have := List.all_eq_true.1 hfree.1 t ht
    unfold C10.isHapTag at this
    simp only [hcl, decide_true, Bool.not_true] at this
    cases this
  · intro nm hnm
    obtain ⟨f, r, hr, hf⟩ := firstRowName_ok _ _ hnm
    have := hfree.2
    rw [hr] at this
    simp only [List.head?_cons] at this
    rw [← hf]
    exact Option.isNone_iff_eq_none.1 this

theorem leftCallback_noHap (input ptx : List Scaffold) (HT : C10.TaggedOneHaplotype input ptx) :
    LeftCallback parNoHap input ptx := by
  intro sc hsc rows n n' _ hsub hfacts _
  refine ⟨trivial, fun htarget => ?_⟩
  show n'.currentHaplotype = none
  have hall : ∀ f ∈ sc.fragments, f.tags.all (fun t => t.isEmpty || !C10.isHapTag t) = true ∧
      (hapPrefixOfName f.name).isNone = true :=
    fun f hf => (Bool.and_eq_true _ _).mp (HT.leftovers htarget sc hsc f hf)
  apply hfacts.hapFree
  · intro t ht hcl
    obtain ⟨f, hf, h1, h2⟩ := mem_fragmentTags_of_sub hsub ht
    have := List.all_eq_true.1 (hall f hf).1 t h1
    unfold C10.isHapTag at this
    simp only [hcl, decide_true, Bool.not_true, Bool.or_false, List.isEmpty_iff] at this
    exact h2 this
  · intro nm hnm
    obtain ⟨f, hf, rfl⟩ := firstRowName_mem hnm
    exact Option.isNone_iff_eq_none.1 (hall f (hsub f hf)).2

theorem remap_unique_noHap (input ptx : List Scaffold) (p : Str) (jg : Option Gap) (err : Int) (outs : List OutAsm)
    (stats : Stats) (h : remap input ptx p jg err = .ok (outs, stats)) (H : C10.NamesOutsideGenerated input ptx p)
    (HT : C10.TaggedOneHaplotype input ptx) : ∀ a ∈ outs, (a.scaffolds.map (·.name)).Nodup :=
  fun a ha => remap_names_unique_gen parNoHap (fun _ => True)
    (fun _ _ _ E E' (h1 : E.haplotype = none) (h2 : E'.haplotype = none) _ => h1.trans h2.symm)
    input ptx p jg err outs stats h H trivial (ptxCallback_noHap input ptx HT) (leftCallback_noHap input ptx HT) a ha trivial

theorem remap_unique_curated (input ptx : List Scaffold) (p : Str) (jg : Option Gap) (err : Int) (outs : List OutAsm)
    (stats : Stats) (h : remap input ptx p jg err = .ok (outs, stats)) (H : C10.NamesOutsideGenerated input ptx p) :
    ∀ a ∈ outs, a.key ≠ some sContaminant → a.key ≠ some sFalseDuplicate → (a.scaffolds.map (·.name)).Nodup :=
  fun a ha h1 h2 => remap_names_unique_gen parFree (fun k => k ≠ some sContaminant ∧ k ≠ some sFalseDuplicate)
    (fun k hk hc => by rcases hc with hc | hc; exact absurd hc hk.1; exact absurd hc hk.2)
    input ptx p jg err outs stats h H trivial (ptxCallback_free input ptx) (leftCallback_free input ptx) a ha ⟨h1, h2⟩

end AgpTpf.C10U
