/-
  C01 stage S5: the registry of found fragments (`store_fragments_found`).
  One pass of its loop is `storeOne`; `storeOne_found` says what the registry holds afterwards, and the facts about
  holder lists, registered keys and the invariant `RegistryInv`, for the pass and for the whole loop, are read off from it.
-/
import AgpTpf.Model.Remap
import AgpTpf.Proofs.Lib.Pipeline
namespace AgpTpf.C01
open AgpTpf

def holders (b : Build) (k : Key) : List Nat :=
  match dGet? b.found k with
  | some fnd => fnd.scaffolds
  | none => []

def RegistryInv (b : Build) : Prop :=
  (∀ k fnd, dGet? b.found k = some fnd → fnd.scaffolds ≠ []) ∧
  (∀ k, k ∈ b.multi ↔ 2 ≤ (holders b k).length)

theorem holders_of_found {b : Build} {k : Key} {fnd : Found} (hf : dGet? b.found k = some fnd) :
    holders b k = fnd.scaffolds := by
  unfold holders; rw [hf]

theorem RegistryInv.of_multi {b : Build} (h : RegistryInv b) {k : Key} (hk : k ∈ b.multi) :
    ∃ fnd, dGet? b.found k = some fnd ∧ 2 ≤ fnd.scaffolds.length := by
  have h2 := (h.2 k).mp hk
  cases hf : dGet? b.found k with
  | none => simp [holders, hf] at h2
  | some fnd => exact ⟨fnd, rfl, holders_of_found hf ▸ h2⟩

theorem registryInv_empty (b : Build) (h1 : b.found = []) (h2 : b.multi = []) : RegistryInv b := by
  constructor
  · intro k fnd h; rw [h1] at h; cases h
  · intro k; simp [h2, holders, h1, dGet?]

theorem storeOne_found (sid : Nat) (b : Build) (ff : Fragment) (k : Key) :
    dGet? (storeOne sid b ff).found k =
      if ff.keyTuple = k then
        some { fragment := ((dGet? b.found k).map (·.fragment)).getD ff, scaffolds := holders b k ++ [sid] }
      else dGet? b.found k := by
  have key : (storeOne sid b ff).found = dSet b.found ff.keyTuple
      { fragment := ((dGet? b.found ff.keyTuple).map (·.fragment)).getD ff, scaffolds := holders b ff.keyTuple ++ [sid] } := by
    cases h : dGet? b.found ff.keyTuple with
    | some fnd => rw [storeOne_some _ _ _ _ h]; simp [holders, h]
    | none => rw [storeOne_none _ _ _ h, ← dSet_of_none _ h]; simp [holders, h]
  rw [key, dGet?_dSet]
  split
  · next e => subst e; rfl
  · rfl

theorem storeOne_multi (sid : Nat) (b : Build) (ff : Fragment) :
    (storeOne sid b ff).multi = if dHas b.found ff.keyTuple then sAdd b.multi ff.keyTuple else b.multi := by
  cases h : dGet? b.found ff.keyTuple with
  | some fnd => rw [storeOne_some _ _ _ _ h]; simp [dHas, h]
  | none => rw [storeOne_none _ _ _ h]; simp [dHas, h]

theorem storeOne_holders (sid : Nat) (b : Build) (ff : Fragment) (k : Key) :
    holders (storeOne sid b ff) k = holders b k ++ (if ff.keyTuple = k then [sid] else []) := by
  by_cases hk : ff.keyTuple = k
  · rw [if_pos hk, holders, storeOne_found, if_pos hk]
  · rw [if_neg hk, List.append_nil, holders, storeOne_found, if_neg hk]; rfl

theorem storeOne_registered (sid : Nat) (b : Build) (ff : Fragment) (k : Key) :
    (dGet? (storeOne sid b ff).found k).isSome = ((dGet? b.found k).isSome || decide (ff.keyTuple = k)) := by
  rw [storeOne_found]
  split <;> simp [*]

theorem storeOne_inv (sid : Nat) (b : Build) (ff : Fragment) (hinv : RegistryInv b) : RegistryInv (storeOne sid b ff) := by
  obtain ⟨h1, h2⟩ := hinv
  constructor
  · intro k fnd hf
    rw [storeOne_found] at hf
    split at hf
    · cases hf; simp
    · exact h1 k fnd hf
  · intro k
    rw [storeOne_holders, storeOne_multi, List.length_append]
    by_cases hk : ff.keyTuple = k
    · -- the key itself: it joins `multi` exactly if it had a holder before
      subst hk
      rw [if_pos rfl, List.length_singleton]
      cases hf : dGet? b.found ff.keyTuple with
      | none =>
        have h0 : holders b ff.keyTuple = [] := by rw [holders, hf]
        have := h2 ff.keyTuple
        rw [h0] at this ⊢
        simpa [dHas, hf] using this
      | some fnd =>
        have hpos : 0 < (holders b ff.keyTuple).length := by
          rw [holders, hf]; exact List.length_pos_iff.mpr (h1 _ _ hf)
        simp only [dHas, hf, Option.isSome_some, ↓reduceIte, mem_sAdd, or_true, true_iff]
        omega
    · rw [if_neg hk, List.length_nil, Nat.add_zero, ← h2 k]
      split
      · rw [mem_sAdd]; exact or_iff_left (fun e => hk e.symm)
      · exact Iff.rfl

theorem foldl_storeOne_holders (sid : Nat) (frags : List Fragment) (b : Build) (k : Key) :
    holders (frags.foldl (storeOne sid) b) k =
      holders b k ++ List.replicate (frags.countP (fun f => decide (f.keyTuple = k))) sid := by
  induction frags generalizing b with
  | nil => simp
  | cons f r ih =>
    rw [List.foldl_cons, ih, storeOne_holders, List.countP_cons]
    by_cases hk : f.keyTuple = k
    · simp only [hk, ↓reduceIte, decide_true, List.append_assoc]
      rw [List.replicate_succ]; rfl
    · simp [hk]

theorem foldl_storeOne_inv (sid : Nat) (frags : List Fragment) (b : Build) (h : RegistryInv b) :
    RegistryInv (frags.foldl (storeOne sid) b) :=
  foldl_inv RegistryInv _ frags (fun a f ha => storeOne_inv sid a f ha) b h

theorem foldl_storeOne_registered (sid : Nat) (frags : List Fragment) (b : Build) (k : Key) :
    (dGet? (frags.foldl (storeOne sid) b).found k).isSome =
      ((dGet? b.found k).isSome || frags.any (fun f => decide (f.keyTuple = k))) := by
  induction frags generalizing b with
  | nil => simp
  | cons f r ih =>
    rw [List.foldl_cons, ih, storeOne_registered, List.any_cons, Bool.or_assoc]

theorem foldl_storeOne_multi_nodup (sid : Nat) (frags : List Fragment) (b : Build) (h : b.multi.Nodup) :
    (frags.foldl (storeOne sid) b).multi.Nodup := by
  refine foldl_inv (·.multi.Nodup) _ frags (fun a f ha => ?_) b h
  rw [storeOne_multi]; split
  · exact nodup_sAdd _ ha
  · exact ha

theorem foldl_storeOne_other_fields (sid : Nat) (frags : List Fragment) (b : Build) :
    let b' := frags.foldl (storeOne sid) b
    b'.store = b.store ∧ b'.extra = b.extra ∧ b'.namer = b.namer ∧ b'.cuts = b.cuts ∧ b'.nextOid = b.nextOid ∧
    b'.joinGap = b.joinGap ∧ b'.err = b.err := by
  obtain ⟨fd, mu, e⟩ := Pipeline.storeFragmentsFound_frame b sid frags
  rw [Pipeline.storeFragmentsFound_eq] at e
  rw [e]
  exact ⟨rfl, rfl, rfl, rfl, rfl, rfl, rfl⟩

theorem storeOne_fragment_kept (sid : Nat) (b : Build) (ff : Fragment) (k : Key) (fnd : Found)
    (h : dGet? b.found k = some fnd) :
    ∃ fnd', dGet? (storeOne sid b ff).found k = some fnd' ∧ fnd'.fragment = fnd.fragment := by
  rw [storeOne_found, h]
  split
  · exact ⟨_, rfl, rfl⟩
  · exact ⟨fnd, rfl, rfl⟩

end AgpTpf.C01
