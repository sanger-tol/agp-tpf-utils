/-
  T1c helper lemmas for `Properties/C01ImpMissing.lean`: `BuildAssembly.add_missing_scaffolds_from_input`
  (assembly/build_assembly.py) against the model's `missingRows` / `addMissing` (Model/Remap.lean).

  The source's `ScaffoldNamer` object (`PyRt.SrcNamer`) is abstracted to the model's `Namer` (`absNamer`).  The left-over Scaffold
  objects live in an arena, and every write goes through the reference to the object created last.  The separator rows between two
  left-over contigs are a Python slice with `int` indices in the source, `drop`/`take` on `Nat` in the model.  The inner loop
  (`for i, frag in scffld.idx_fragments()`) is the model's `missingRows` loop, which never raises when there is a default gap;
  one pass of the outer loop is the model's `Pipeline.missingStep`; the method as a whole then refines `addMissing` by `forIn_ref`.
  The loop bodies and the continuations are PARAMETERS (only what one pass returns in each reachable situation is asked: `InnerBody`
  for the inner loop), and so are `make_scaffold_name` and its tie to the model's `makeScaffoldName`; only `add_missing_tie`, the
  refinement of the translated method itself, unfolds a generated definition.
-/
import AgpTpf.Model.PyRtHeap
import AgpTpf.Proofs.Lib.Pipeline
import AgpTpf.Proofs.ImpRef
import AgpTpf.Properties.C07ImpLeftover
import AgpTpf.Proofs.Lib.Missing
import AgpTpf.Proofs.Lib.Arena
import AgpTpf.Proofs.C01Missing
namespace AgpTpf.ImpMissing
open AgpTpf ImpLeftover
open AgpTpf.ImpFound (Ref nextRel forIn_ref)
open AgpTpf.Pipeline (missStep missingRows_eq missStep_gap missStep_found missStep_missing sepBefore)

/-- the model's `Namer` of a `ScaffoldNamer` object (a rank that is None reads 0, the counters as naturals) -/
def absNamer (s : PyRt.SrcNamer) : Namer :=
  { autosomePrefix := s.autosome_prefix, currentScaffoldName := s.current_scaffold_name,
    currentRank := s.current_rank.getD 0, currentHaplotype := s.current_haplotype,
    haplotigN := s.haplotig_n.toNat, haplotigScaffolds := s.haplotig_scaffolds,
    primaryHaplotype := s.primary_haplotype, targetTags := s.target_tags,
    unlocN := s.unloc_n.toNat, unlocScaffolds := s.unloc_scaffolds, haplotypeLc := s.haplotype_lc_dict }

def WFNamer (s : PyRt.SrcNamer) : Prop := 0 ≤ s.haplotig_n ∧ 0 ≤ s.unloc_n

/-- the tags `make_scaffold_name(scaffold, fragment_tags)` works with: `if not fragment_tags: fragment_tags = scaffold.fragment_tags()` -/
def tagsOf (sc : Scaffold) (ft : Option (List Str)) : List Str :=
  match ft with
  | some (t :: ts) => t :: ts
  | _ => sc.fragmentTags

/-- the variables of `for row in between: …`: `new_scffld` (a reference into the arena) and the arena.  The ORDER in which the
    translator carries them (by the text of their type, then by name: `heap_lo`, `new_scffld`) is named here, in `ASt` / `ast`, and
    nowhere else -/
abbrev ASt := List PyRt.Leftover × Nat
abbrev ast (r : Nat) (h : List PyRt.Leftover) : ASt := (h, r)

/-- `for row in between: new_scffld.add_row(row)` on the object created last -/
theorem forIn_addRows {ρ : Type} (body : Row → ASt → R (PyRt.Ctl ASt ρ))
    (hbody : ∀ row r h, body row (ast r h) = .ok (.next (ast r (h.modify r (fun x => ({ x.1 with rows := x.1.rows ++ [row] }, x.2))))))
    (between : List Row) (h0 : List PyRt.Leftover) (x : PyRt.Leftover) :
    PyRt.forIn between (ast h0.length (h0 ++ [x])) body
      = .ok (.fell (ast h0.length (h0 ++ [({ x.1 with rows := x.1.rows ++ between }, x.2)]))) := by
  induction between generalizing x with
  | nil => simp [PyRt.forIn]
  | cons row rest ih =>
    rw [PyRt.forIn, hbody, Arena.modify_length_snoc]
    simp only []
    rw [ih]
    simp

/-- the source: `if last_added_i != i - 1: between = rows[last_added_i + 1 : i]; all gaps ? between : [default_gap]` -/
def srcSep (rows : List Row) (g : Gap) (l i : Int) : List Row :=
  if l ≠ i - 1 then
    (if (PyRt.slice rows (some (l + 1)) (some i)).all Row.isGap = true then PyRt.slice rows (some (l + 1)) (some i) else [Row.gap g])
  else []

/-- the model (`sepBefore` with a default gap), indices in `Nat` -/
def sepRows (rows : List Row) (g : Gap) (l i : Nat) : List Row :=
  if l = i - 1 then []
  else if ((rows.drop (l + 1)).take (i - (l + 1))).all Row.isGap then (rows.drop (l + 1)).take (i - (l + 1))
  else [Row.gap g]

theorem srcSep_eq (rows : List Row) (g : Gap) (l i : Nat) (hl : l < i) (hi : i ≤ rows.length) :
    srcSep rows g (l : Int) (i : Int) = sepRows rows g l i := by
  unfold srcSep sepRows
  rw [show ((l : Int) + 1) = ((l + 1 : Nat) : Int) by omega, PyRt.slice_between rows (l + 1) i hi]
  by_cases h : l = i - 1
  · have : ¬ ((l : Int) ≠ (i : Int) - 1) := by omega
    rw [if_neg this, if_pos h]
  · have : (l : Int) ≠ (i : Int) - 1 := by omega
    rw [if_pos this, if_neg h]

theorem sepBefore_some (b : Build) (g : Gap) (hg : b.joinGap = some g) (rows : List Row) (l i : Nat) :
    sepBefore b rows (some l) i = .ok (sepRows rows g l i) := by
  unfold sepBefore sepRows
  simp only [hg]
  split
  · rfl
  · split <;> rfl

/-- the variables of the inner loop: `last_added_i`, `new_scffld` (a reference into the arena), the arena.  The ORDER in which the
    translator carries them (by the text of their type, then by name: `heap_lo`, `last_added_i`, `new_scffld`) is named here, in
    `ISt` / `ist`, and nowhere else -/
abbrev ISt := List PyRt.Leftover × Option Int × Option Nat
abbrev ist (la : Option Int) (r : Option Nat) (h : List PyRt.Leftover) : ISt := (h, la, r)
/-- the accumulator of the model's loop: the rows so far, the index of the row added last, the index of the first row added -/
abbrev MAcc := List Row × Option Nat × Option Nat

/-- the left-over object under construction: `Scaffold(scffld.name)`, `rank = 3`, the rows added so far -/
def mkLo (sc : Scaffold) (out : List Row) : Scaffold := { name := sc.name, rows := out, rank := 3 }

/-- what one pass of `for i, frag in scffld.idx_fragments()` returns (`h0` = the arena when the loop starts): a contig that was
    placed changes nothing; the first left-over contig creates the object; a further one appends the separator rows and itself to the
    object created last -/
structure InnerBody {ρ : Type} (sc : Scaffold) (g : Gap) (found : List (Key × Nat)) (h0 : List PyRt.Leftover)
    (body : Int × Fragment → ISt → R (PyRt.Ctl ISt ρ)) : Prop where
  placed : ∀ i f st, (dGet? found f.keyTuple).isSome = true → body (i, f) st = .ok (.next st)
  first : ∀ (i : Nat) f, (dGet? found f.keyTuple).isSome = false →
    body ((i : Int), f) (ist none none h0) = .ok (.next (ist (some (i : Int)) (some h0.length)
      (h0 ++ [(mkLo sc [Row.frag f], (inputPredecessor sc.rows i).map predToRows)])))
  further : ∀ (l i : Int) f x, (dGet? found f.keyTuple).isSome = false →
    body (i, f) (ist (some l) (some h0.length) (h0 ++ [x])) = .ok (.next (ist (some i) (some h0.length)
      (h0 ++ [({ x.1 with rows := x.1.rows ++ srcSep sc.rows g l i ++ [Row.frag f] }, x.2)])))

/-- the model's loop and the source's before row `k`: nothing added yet; or the rows `out` added, the first of them row `fi` and the last
    row `l`, and the object under construction the last of the arena -/
inductive InnerSim (sc : Scaffold) (h0 : List PyRt.Leftover) (k : Nat) : MAcc → ISt → Prop
  | none : InnerSim sc h0 k ([], none, none) (ist none none h0)
  | some {out : List Row} {l : Nat} (fi : Nat) : out ≠ [] → l < k → InnerSim sc h0 k (out, some l, some fi)
      (ist (some (l : Int)) (some h0.length) (h0 ++ [(mkLo sc out, (inputPredecessor sc.rows fi).map predToRows)]))

theorem InnerSim.mono {sc : Scaffold} {h0 : List PyRt.Leftover} {k k' : Nat} {acc : MAcc} {s : ISt} (h : InnerSim sc h0 k acc s)
    (hk : k ≤ k') : InnerSim sc h0 k' acc s := by
  cases h with
  | none => exact .none
  | some fi hne hl => exact .some fi hne (Nat.lt_of_lt_of_le hl hk)

/-- the inner loop over the rows `rs` from row `k` on: the model's loop succeeds (there is a default gap), and the two stay in step -/
theorem inner_gen {ρ : Type} (b : Build) (g : Gap) (hg : b.joinGap = some g)
    (found : List (Key × Nat)) (hkeys : ∀ k, (dGet? found k).isSome = dHas b.found k)
    (sc : Scaffold) (h0 : List PyRt.Leftover) (body : Int × Fragment → ISt → R (PyRt.Ctl ISt ρ)) (hb : InnerBody sc g found h0 body)
    (rs : List Row) : ∀ (k : Nat), k + rs.length ≤ sc.rows.length → ∀ acc s, InnerSim sc h0 k acc s →
      ∃ acc' s', ((List.range' k rs.length).zip rs).foldlM (missStep b sc.rows) acc = .ok acc' ∧
        InnerSim sc h0 (k + rs.length) acc' s' ∧
        PyRt.forIn (PyRt.idxFragmentsFrom (k : Int) rs) s body = .ok (.fell s') := by
  induction rs with
  | nil => intro k _ acc s hsim; exact ⟨acc, s, rfl, hsim, rfl⟩
  | cons row rs ih =>
    intro k hk acc s hsim
    rw [List.length_cons] at hk
    obtain ⟨acc1, s1, hsim1, hm, hs⟩ : ∃ acc1 s1, InnerSim sc h0 (k + 1) acc1 s1 ∧ missStep b sc.rows acc (k, row) = .ok acc1 ∧
        PyRt.forIn (PyRt.idxFragmentsFrom (k : Int) (row :: rs)) s body
          = PyRt.forIn (PyRt.idxFragmentsFrom ((k : Int) + 1) rs) s1 body := by
      cases row with
      | gap g' => exact ⟨acc, s, hsim.mono (Nat.le_succ k), missStep_gap .., rfl⟩
      | frag f =>
        cases hf : dHas b.found f.keyTuple with
        | true =>
          exact ⟨acc, s, hsim.mono (Nat.le_succ k), missStep_found _ _ _ _ _ hf,
            PyRt.forIn_cons_next (hb.placed _ _ _ (by rw [hkeys]; exact hf)) _⟩
        | false =>
          have hf' : (dGet? found f.keyTuple).isSome = false := by rw [hkeys]; exact hf
          cases hsim with
          | none =>
            exact ⟨_, _, .some (out := [Row.frag f]) k (List.cons_ne_nil _ _) (Nat.lt_succ_self k),
              missStep_missing b sc.rows [] none none k f hf, PyRt.forIn_cons_next (hb.first k f hf') _⟩
          | @some out l fi hne hl =>
            refine ⟨_, _, .some (out := out ++ sepRows sc.rows g l k ++ [Row.frag f]) fi (by simp) (Nat.lt_succ_self k), ?_,
              (PyRt.forIn_cons_next (hb.further l k f _ hf') _).trans ?_⟩
            · rw [missStep_missing b sc.rows out (some l) (some fi) k f hf, sepBefore_some b g hg]; rfl
            · rw [srcSep_eq sc.rows g l k hl (by omega)]; rfl
    obtain ⟨acc', s', h1, h2, h3⟩ := ih (k + 1) (by omega) acc1 s1 hsim1
    rw [List.length_cons, List.range'_succ, List.zip_cons_cons, List.foldlM_cons, hm, hs,
      show k + (rs.length + 1) = k + 1 + rs.length by omega, show ((k : Int) + 1) = ((k + 1 : Nat) : Int) by omega]
    exact ⟨acc', s', h1, h2, h3⟩

/-- the variables of the outer loop: the arena, the namer object, the references passed to `self.add_scaffold`.  The ORDER in which the
    translator carries them (by the text of their type, then by name: `heap_lo`, `added_lo`, `self_scaffold_namer`) is named here, in `OSt` / `ost`, and nowhere else -/
abbrev OSt := List PyRt.Leftover × List Nat × PyRt.SrcNamer
abbrev ost (h : List PyRt.Leftover) (s : PyRt.SrcNamer) (a : List Nat) : OSt := (h, a, s)

/-- a left-over object of the arena as the model keeps it: the Scaffold, and its `input_predecessor` attribute read back as
    `(Fragment, gaps)` (`predOfRows` of Proofs/ImpLeftover.lean) -/
def loModel (x : PyRt.Leftover) : Scaffold × Option (Fragment × List Gap) := (x.1, x.2.bind predOfRows)

def loSrc (e : Scaffold × Option (Fragment × List Gap)) : PyRt.Leftover := (e.1, e.2.map predToRows)

theorem loModel_loSrc (e : Scaffold × Option (Fragment × List Gap)) : loModel (loSrc e) = e := by
  obtain ⟨sc, p⟩ := e
  cases p with
  | none => rfl
  | some p => simp [loModel, loSrc, predOfRows_predToRows]

/-- the loop variables of the source (arena, namer, references) against the model's build state: `b0` = the state before `add_missing` -/
structure OSim' (b0 : Build) (heap : List PyRt.Leftover) (s : PyRt.SrcNamer) (added : List Nat) (b : Build) : Prop where
  added : added = List.range heap.length
  wf : WFNamer s
  eq : b = { b0 with namer := absNamer s, extra := b0.extra ++ heap.map loModel }
  lossless : ∀ x ∈ heap, loSrc (loModel x) = x

def OSim (b0 : Build) (st : OSt) (b : Build) : Prop := ∃ heap s added, st = ost heap s added ∧ OSim' b0 heap s added b

theorem OSim'.snoc {b0 b : Build} {heap : List PyRt.Leftover} {s s' : PyRt.SrcNamer} {added : List Nat} (h : OSim' b0 heap s added b)
    (hw : WFNamer s') {x : PyRt.Leftover} {e : Scaffold × Option (Fragment × List Gap)} (he : loModel x = e)
    (hx : loSrc (loModel x) = x) :
    OSim' b0 (heap ++ [x]) s' (added ++ [heap.length]) { b with namer := absNamer s', extra := b.extra ++ [e] } where
  added := by rw [h.added, List.length_append, List.length_singleton, List.range_succ]
  wf := hw
  eq := by rw [h.eq, List.map_append, ← List.append_assoc, ← he]; rfl
  lossless := fun y hy => (List.mem_append.1 hy).elim (h.lossless y) fun hy => by rw [List.mem_singleton.1 hy]; exact hx

/-- what the end of a pass does to the object: the `Contaminant` tag when targets are in use and this input scaffold has none, the
    haplotype -/
def finish (sc : Scaffold) (h : List PyRt.Leftover) (r : Nat) (s' : PyRt.SrcNamer) : List PyRt.Leftover :=
  PyRt.loSet
    (if (s'.target_tags && !(sc.fragmentTags.contains "Target".toList)) = true then
      PyRt.loSet h r (fun x => { x with tag := some "Contaminant".toList }) else h)
    r (fun x => { x with haplotype := s'.current_haplotype })

theorem pred_roundtrip (o : Option (Fragment × List Gap)) : (o.map predToRows).bind predOfRows = o := by
  cases o with
  | none => rfl
  | some p => simp [predOfRows_predToRows]

theorem newPair_eq (sc : Scaffold) (out : List Row) (fi : Nat) (s' : PyRt.SrcNamer) :
    loModel ({ (mkLo sc out) with
        tag := if (s'.target_tags && !(sc.fragmentTags.contains sTarget)) = true then some sContaminant else (mkLo sc out).tag,
        haplotype := s'.current_haplotype }, (inputPredecessor sc.rows fi).map predToRows)
      = ({ name := sc.name, rows := out, rank := 3,
           tag := if (absNamer s').targetTags = true ∧ ¬ sc.fragmentTags.contains sTarget = true then some sContaminant else none,
           haplotype := (absNamer s').currentHaplotype }, inputPredecessor sc.rows fi) := by
  simp only [loModel, pred_roundtrip, absNamer, mkLo]
  by_cases h1 : s'.target_tags = true <;> by_cases h2 : sc.fragmentTags.contains sTarget = true <;> simp [h1, h2]

theorem finish_snoc (sc : Scaffold) (h0 : List PyRt.Leftover) (x : PyRt.Leftover) (s' : PyRt.SrcNamer) :
    finish sc (h0 ++ [x]) h0.length s' = h0 ++ [({ x.1 with
      tag := if (s'.target_tags && !(sc.fragmentTags.contains "Target".toList)) = true then some "Contaminant".toList else x.1.tag,
      haplotype := s'.current_haplotype }, x.2)] := by
  unfold finish
  by_cases hc : (s'.target_tags && !(sc.fragmentTags.contains "Target".toList)) = true
  · simp only [hc, if_true, Arena.loSet_eq_modify, Arena.modify_length_snoc]
  · simp only [hc, if_false, Arena.loSet_eq_modify, Arena.modify_length_snoc, Bool.false_eq_true]

theorem outer_step {ρ₁ ρ₂ : Type} (b0 : Build) (g : Gap) (hg : b0.joinGap = some g)
    (found : List (Key × Nat)) (hkeys : ∀ k, (dGet? found k).isSome = dHas b0.found k)
    (mk : PyRt.SrcNamer → Scaffold → R PyRt.SrcNamer)
    (hmk : ∀ s sc, WFNamer s → (mk s sc).map absNamer = makeScaffoldName (absNamer s) sc.name sc.rows sc.fragmentTags)
    (hwf : ∀ s sc s', WFNamer s → mk s sc = .ok s' → WFNamer s')
    (sc : Scaffold) (heap : List PyRt.Leftover) (s : PyRt.SrcNamer) (added : List Nat) (b : Build)
    (hsim : OSim' b0 heap s added b)
    (body : Int × Fragment → ISt → R (PyRt.Ctl ISt ρ₁)) (hbody : InnerBody sc g found heap body)
    (K : PyRt.Done ISt ρ₁ → R (PyRt.Ctl OSt ρ₂))
    (hKnone : ∀ la h, K (.fell (ist la none h)) = .ok (.next (ost h s added)))
    (hKsome : ∀ la r h, K (.fell (ist la (some r) h))
        = (mk s (PyRt.loGet h r).1 >>= fun s' => .ok (.next (ost (finish sc h r s') s' (added ++ [r]))))) :
    Ref (nextRel (OSim b0)) (PyRt.forIn (PyRt.idxFragments sc.rows) (ist none none heap) body >>= K) (Pipeline.missingStep b sc) := by
  have hb := hsim.eq
  obtain ⟨acc, s', h1, h2, h3⟩ := inner_gen b g (by rw [hb]; exact hg) found (by rw [hb]; exact hkeys) sc heap body hbody sc.rows 0
    (by omega) _ _ .none
  have hmr : missingRows b sc.rows = .ok (acc.1, acc.2.2) := by rw [missingRows_eq, List.range_eq_range', h1]; rfl
  rw [show PyRt.forIn (PyRt.idxFragments sc.rows) _ body = _ from h3, ok_bind]
  unfold Pipeline.missingStep
  rw [hmr]
  cases h2 with
  | none =>
    -- every contig of this input scaffold was placed: no object, nothing changes
    rw [hKnone]
    exact ⟨_, rfl, _, rfl, heap, s, added, rfl, hsim⟩
  | @some out l fi hne _ =>
    have hemp : out.isEmpty = false := by cases out with | nil => exact (hne rfl).elim | cons a r => rfl
    rw [hKsome, PyRt.loGet, Arena.getD_length_snoc]
    simp only [ok_bind, hemp, Bool.false_eq_true, if_false]
    rw [show b.namer = absNamer s by rw [hb]]
    -- `make_scaffold_name`: the tags are read off the rows, which `mkLo sc out` shares with the model's scaffold
    refine ((ImpFound.ref_abs_iff absNamer).2 (hmk s (mkLo sc out) hsim.wf)).bind' fun s' n hs _ e => ?_
    subst e
    rw [finish_snoc, show ("Target".toList : Str) = sTarget by decide, show ("Contaminant".toList : Str) = sContaminant by decide]
    exact ⟨_, rfl, _, rfl, _, _, _, rfl, hsim.snoc (hwf s _ s' hsim.wf hs) (newPair_eq sc out fi s')
      (by simp only [loSrc, loModel, pred_roundtrip])⟩

/-- what the ties of `add_missing_scaffolds_from_input` say about the pair (source result `(heap, added, s')`, model result); the third
    conjunct: every object's `input_predecessor` is a `(Fragment, gaps)` pair, so that `loModel` loses nothing -/
def MissingQ (b : Build) (t : List PyRt.Leftover × List Nat × PyRt.SrcNamer) (b' : Build) : Prop :=
  t.2.1 = List.range t.1.length ∧ WFNamer t.2.2 ∧ (∀ x ∈ t.1, loSrc (loModel x) = x) ∧
  b' = { b with namer := absNamer t.2.2, extra := b.extra ++ t.1.map loModel }

/-- `outer` = the body of `for scffld in input_asm.scaffolds`, `fin` = what follows the loop -/
theorem whole_refines {ρ : Type} (b : Build) (s : PyRt.SrcNamer) (hs : WFNamer s) (habs : absNamer s = b.namer)
    (outer : Scaffold → OSt → R (PyRt.Ctl OSt ρ))
    (hstep : ∀ sc st b', OSim b st b' → Ref (nextRel (OSim b)) (outer sc st) (Pipeline.missingStep b' sc))
    (fin : PyRt.Done OSt ρ → R (List PyRt.Leftover × List Nat × PyRt.SrcNamer))
    (hfin : ∀ h s' a, fin (.fell (ost h s' a)) = .ok (h, a, s'))
    (input : List Scaffold) :
    Ref (MissingQ b) (PyRt.forIn input (ost [] s []) outer >>= fin) (addMissing input b) := by
  have hsim0 : OSim b (ost [] s []) b := by
    refine ⟨[], s, [], rfl, rfl, hs, ?_, fun x hx => by cases hx⟩
    show b = { b with namer := absNamer s, extra := b.extra ++ [] }
    rw [habs, List.append_nil]
  rw [Pipeline.addMissing_eq]
  refine (forIn_ref (OSim b) Pipeline.missingStep outer input (fun sc _ => hstep sc) (ost [] s []) b hsim0).bind_ok ?_
  rintro _ b' ⟨_, rfl, heap, s1, added, rfl, key⟩
  rw [hfin]
  exact Ref.ok ⟨key.added, key.wf, key.lossless, key.eq⟩

/-- `hmk`, `hwf`: the tie of the one call of `make_scaffold_name` the method makes (`fragment_tags=None`) -/
theorem add_missing_tie (input : List Scaffold) (b : Build) (g : Gap) (hg : b.joinGap = some g)
    (s : PyRt.SrcNamer) (hs : WFNamer s) (habs : absNamer s = b.namer)
    (found : List (Key × Nat)) (hkeys : ∀ k, (dGet? found k).isSome = dHas b.found k)
    (hmk : ∀ s sc, WFNamer s → (Gen.Imp.ScaffoldNamer_make_scaffold_name s sc none).map absNamer
              = makeScaffoldName (absNamer s) sc.name sc.rows sc.fragmentTags)
    (hwf : ∀ s sc s', WFNamer s → Gen.Imp.ScaffoldNamer_make_scaffold_name s sc none = .ok s' → WFNamer s') :
    Ref (MissingQ b) (Gen.Imp.BuildAssembly_add_missing_scaffolds_from_input s input g found) (addMissing input b) := by
  unfold Gen.Imp.BuildAssembly_add_missing_scaffolds_from_input
  dsimp only
  refine whole_refines b s hs habs _ ?_ _ ?_ input
  · -- one pass of `for scffld in input_asm.scaffolds`
    intro sc st b' hsim
    obtain ⟨heap, s1, added, rfl, hsim⟩ := hsim
    refine outer_step b g hg found hkeys (fun s sc => Gen.Imp.ScaffoldNamer_make_scaffold_name s sc none) hmk hwf
      sc heap s1 added b' hsim _ ⟨?_, ?_, ?_⟩ _ ?_ ?_
    · -- the contig was placed
      intro i f st h
      simp only [h, Bool.not_true, Bool.false_eq_true, if_false, ok_bind]
    · -- the first left-over contig of the scaffold
      intro i f h
      simp only [h, Bool.not_false, if_true, C07.input_predecessor_is_source, ok_bind, Arena.loSet_eq_modify, Arena.modify_length_snoc, Arena.loSetPred_eq_modify]
      rfl
    · -- a further one
      intro l i f x h
      simp only [h, Bool.not_false, if_true, Arena.loSet_eq_modify, Arena.modify_length_snoc]
      unfold srcSep
      by_cases h1 : l ≠ i - 1
      · by_cases h2 : (PyRt.slice sc.rows (some (l + 1)) (some i)).all Row.isGap = true
        · simp only [h1, h2, decide_eq_true_eq, ne_eq, not_false_eq_true, if_true]
          rw [forIn_addRows _ (fun _ _ _ => rfl)]
          simp only [ok_bind, Arena.loSet_eq_modify, Arena.modify_length_snoc, List.append_assoc]
        · simp only [h1, h2, decide_eq_true_eq, ne_eq, not_false_eq_true, if_true, if_false, Bool.false_eq_true, ok_bind, Arena.loSet_eq_modify, Arena.modify_length_snoc, List.append_assoc]
      · simp only [h1, decide_eq_true_eq, if_false, ok_bind, Arena.loSet_eq_modify, Arena.modify_length_snoc, List.append_nil]
    · intro la h; rfl
    · intro la r h
      dsimp only
      unfold finish
      congr 1
      funext s'
      by_cases hc : (s'.target_tags && !(sc.fragmentTags.contains "Target".toList)) = true <;>
        simp only [hc, if_true, if_false, Bool.false_eq_true, ok_bind]
  · intro h s' a; rfl

end AgpTpf.ImpMissing
