/-
  C08, part 3: the input scaffolds that are absent from the Pretext map (shorter than a texel).  On an unedited map
  `missingRows` returns nothing for a shown scaffold and the whole scaffold, every gap row included, for an absent one
  (`wholeLeft`; both cases are lemmas of `Lib/Missing.lean`); the left-over scaffold `add_missing` makes of it is the
  scaffold itself.
-/
import AgpTpf.Proofs.C08Find
import AgpTpf.Proofs.Lib.Missing
namespace AgpTpf.C08
open AgpTpf
open AgpTpf.Run (LeftPlain entryOf)

structure AbsentOk (sc : Scaffold) : Prop where
  ne : sc.rows ≠ []
  headFrag : ∃ f, sc.rows.head? = some (.frag f)
  lastFrag : ∃ f, sc.rows.getLast? = some (.frag f)
  untagged : sc.fragmentTags = []
  noHap : ∀ f, sc.rows.head? = some (.frag f) → hapPrefixOfName f.name = none

/-- the left-over scaffold `add_missing` makes of an absent input scaffold -/
def absentOut (sc : Scaffold) : Scaffold := { name := sc.name, rows := sc.rows, rank := 3 }

def wholeLeft (present : Scaffold → Bool) (sc : Scaffold) : List Row × Option Nat :=
  if present sc then ([], none) else (sc.rows, some 0)

theorem missingRows_wholeLeft (present : Scaffold → Bool) (b : Build) (sc : Scaffold)
    (hp : present sc = true → ∀ f ∈ sc.fragments, dHas b.found f.keyTuple = true)
    (ha : present sc = false → AbsentOk sc ∧ ∀ f ∈ sc.fragments, dHas b.found f.keyTuple = false) :
    missingRows b sc.rows = .ok (wholeLeft present sc) := by
  unfold wholeLeft
  cases hpr : present sc with
  | true => exact Pipeline.missingRows_all_found b sc.rows (hp hpr)
  | false => exact Pipeline.missingRows_none_found b sc.rows (ha hpr).1.headFrag (ha hpr).1.lastFrag (ha hpr).2

theorem leftPlain_wholeLeft (present : Scaffold → Bool) (sc : Scaffold) (ha : present sc = false → AbsentOk sc) :
    LeftPlain (wholeLeft present sc).1 := by
  unfold wholeLeft
  cases hpr : present sc with
  | true => exact ⟨fun _ => rfl, fun _ _ e => nomatch e⟩
  | false =>
    refine ⟨fun _ => (ha hpr).untagged, fun r0 rest e => ?_⟩
    obtain ⟨f0, hf0⟩ := (ha hpr).headFrag
    simp only [Bool.false_eq_true, if_false] at e
    rw [e] at hf0
    cases hf0
    exact ⟨f0, rfl, (ha hpr).noHap f0 (by rw [e]; rfl)⟩

/-- no recorded predecessor: the first left-over contig is row 0 -/
theorem filterMap_entryOf_wholeLeft (present : Scaffold → Bool) (l : List Scaffold)
    (hne : ∀ sc ∈ l, present sc = false → sc.rows ≠ []) :
    l.filterMap (fun sc => entryOf sc (wholeLeft present sc)) =
      (l.filter (fun sc => !present sc)).map (fun sc => (absentOut sc, none)) := by
  induction l with
  | nil => rfl
  | cons sc r ih =>
    rw [List.filterMap_cons, List.filter_cons, ih (fun s hs => hne s (by simp [hs]))]
    cases hpr : present sc with
    | true => simp [entryOf, wholeLeft, hpr]
    | false =>
      have he : sc.rows.isEmpty = false := List.isEmpty_eq_false_iff.2 (hne sc (by simp) hpr)
      have hpred : inputPredecessor sc.rows 0 = none := by unfold inputPredecessor; simp [inputPredecessor.go]
      simp [entryOf, wholeLeft, hpr, he, hpred, absentOut]

end AgpTpf.C08

/-! C08, part 4 (stage N3): `remap_to_input_assembly` on an unedited Pretext map, from the explicit run. -/
namespace AgpTpf.C08
open AgpTpf
open AgpTpf.C02 (claimedKeys)

def isPresent (pieces : List Piece) (sc : Scaffold) : Bool := (pieces.map (·.sc.name)).contains sc.name

/-- the input scaffolds missing from the Pretext map (shorter than a texel), in input order -/
def absentOf (input : List Scaffold) (pieces : List Piece) : List Scaffold :=
  input.filter (fun sc => !isPresent pieces sc)

/-- **the unedited Pretext map**: every Pretext scaffold is one whole, forward, untagged piece `[1, E]` of a different
    input scaffold, reaching into its last contig and ending within the error length of its end; the input has pairwise
    different scaffold names and contig keys; input scaffolds not shown at all are well-formed and untagged. -/
structure Unedited (input : List Scaffold) (pieces : List Piece) (err : Int) : Prop where
  names : (input.map (·.name)).Nodup
  keys : KeysDistinct input
  err0 : 0 ≤ err
  piecesOk : ∀ p ∈ pieces, PieceOk input err p
  once : (pieces.map (·.sc.name)).Nodup
  absent : ∀ sc ∈ input, isPresent pieces sc = false → AbsentOk sc

theorem isPresent_iff (pieces : List Piece) (sc : Scaffold) :
    isPresent pieces sc = true ↔ ∃ p ∈ pieces, p.sc.name = sc.name := by
  unfold isPresent
  simp

/-- the claimed contigs are those of the shown scaffolds: a shown scaffold is its piece's, and no contig of another scaffold has
    the same key -/
theorem Unedited.claimed_eq {input : List Scaffold} {pieces : List Piece} {err : Int} (hu : Unedited input pieces err)
    (painted : Bool) {sc : Scaffold} (hsc : sc ∈ input) {f : Fragment} (hf : f ∈ sc.fragments) :
    (claimedKeys input (pieces.map (·.ptxOf painted))).contains f.keyTuple = isPresent pieces sc := by
  rw [claimedKeys_pieces hu.names hu.piecesOk painted, Bool.eq_iff_iff, List.contains_iff_mem, List.mem_map, isPresent_iff]
  constructor
  · rintro ⟨g, hg, e⟩
    obtain ⟨p, hp, hgp⟩ := List.mem_flatMap.1 hg
    exact ⟨p, hp, Classical.byContradiction fun hne => hu.keys.across p.sc sc (hu.piecesOk p hp).mem hsc hne g hgp f hf e⟩
  · rintro ⟨p, hp, hname⟩
    have : p.sc = sc := inj_of_nodup_map (·.name) hu.names _ (hu.piecesOk p hp).mem _ hsc hname
    exact ⟨f, List.mem_flatMap.2 ⟨p, hp, this ▸ hf⟩, rfl⟩

/-- **N3.** `remap_to_input_assembly` on an unedited map, untagged or painted, returns a build with: one stored result
    per Pretext scaffold holding exactly the rows of its input scaffold (`Piece.resOf`: named like the input scaffold,
    rank 3 — painted: like the Pretext scaffold, rank 1 —, no tag, no haplotype); nothing shared (`multi = []`), no cuts;
    the absent input scaffolds as whole left-overs without predecessor. -/
theorem remapToInput_shown (painted : Bool) (input : List Scaffold) (pieces : List Piece) (prefix_ : Str)
    (joinGap : Option Gap) (err : Int) (hu : Unedited input pieces err) :
    ∃ b, remapToInput input (pieces.map (·.ptxOf painted)) prefix_ joinGap err = .ok b ∧
      b.store = pieces.map (·.resOf painted) ∧
      b.extra = (absentOf input pieces).map (fun sc => (absentOut sc, none)) ∧
      b.multi = [] ∧ b.cuts = 0 ∧ b.joinGap = joinGap ∧ b.namer.autosomePrefix = prefix_ := by
  obtain ⟨b, hb, hstore, hextra, rest⟩ := Run.remapToInput_idle painted input (pieces.map (·.ptxOf painted)) prefix_
    joinGap err (wholeLeft (isPresent pieces)) hu.names
    (fun S hS => by obtain ⟨p, hp, rfl⟩ := List.mem_map.1 hS; exact piece_kept hu.names hu.err0 (hu.piecesOk p hp) painted)
    (by
      rw [claimedKeys_pieces hu.names hu.piecesOk painted, ← List.flatMap_map]
      exact hu.keys.pieces (fun sc hsc => by obtain ⟨p, hp, rfl⟩ := List.mem_map.1 hsc; exact (hu.piecesOk p hp).mem)
        (by rw [List.map_map]; exact hu.once))
    (fun sc hsc b hf _ => missingRows_wholeLeft _ b sc
      (fun hpr f hfm => by rw [hf, hu.claimed_eq painted hsc hfm, hpr])
      (fun hpr => ⟨hu.absent sc hsc hpr, fun f hfm => by rw [hf, hu.claimed_eq painted hsc hfm, hpr]⟩))
    (fun sc hsc => leftPlain_wholeLeft _ sc (hu.absent sc hsc))
  refine ⟨b, hb, ?_, ?_, rest⟩
  · rw [hstore, List.flatMap_map]
    have : ∀ p ∈ pieces, (p.ptxOf painted).fragments.map (Run.resOf painted input (p.ptxOf painted)) = [p.resOf painted] :=
      fun p hp => congrArg (· :: []) (resOf_piece hu.names (hu.piecesOk p hp) painted)
    rw [List.flatMap_def, List.map_congr_left this, ← List.flatMap_def]
    exact List.map_eq_flatMap.symm
  · rw [hextra]
    exact filterMap_entryOf_wholeLeft _ input (fun sc hsc hpr => (hu.absent sc hsc hpr).ne)

end AgpTpf.C08
