/-
  C02 core: cutting keeps the core (`trim_fragment` shortens a terminal fragment exactly
  to the bait coordinate, which lies outside the core), and the chain over the whole of `remap_to_input_assembly`.
-/
import AgpTpf.Proofs.C02KResolve
import AgpTpf.Proofs.Remap.Stored
import AgpTpf.Proofs.C07Pipeline
import AgpTpf.Proofs.C09RMain
namespace AgpTpf.C02
open AgpTpf OverlapResult
open AgpTpf.C01 (WFInput inputFrags FragDisjoint)

/-- `KInv` w.r.t. the lookup scaffold, plus the object-identity bookkeeping that lets `trim_fragment(found.fragment)`
    (which finds its row by identity) be read as a call on the first / last row: ids below `N0` are input fragments, all
    ids are below `n` (= `Build.nextOid`) -/
def CRes (input : List Scaffold) (N0 n : Nat) (err : Int) (o : OverlapResult) : Prop :=
  ∃ sc o0, sc ∈ input ∧ sc.name = o.bait.name ∧ findOverlaps sc.rows o.bait = .ok (some o0) ∧
    KInv sc.rows (3 * err) o0.start o0.stop o.bait o ∧ SafeKept sc.rows err (3 * err) o ∧
    ∀ f, Row.frag f ∈ o.rows → f.oid < n ∧ (f.oid < N0 → f ∈ inputFrags input)

theorem CRes.mono {input : List Scaffold} {N0 n n' : Nat} {err : Int} {o : OverlapResult} (h : CRes input N0 n err o)
    (hn : n ≤ n') : CRes input N0 n' err o := by
  obtain ⟨sc, o0, h1, h2, h3, h4, hS, h5⟩ := h
  exact ⟨sc, o0, h1, h2, h3, h4, hS, fun f hf => ⟨Nat.lt_of_lt_of_le (h5 f hf).1 hn, (h5 f hf).2⟩⟩

theorem CRes.of_rres {input : List Scaffold} {N0 n : Nat} {err : Int} {o : OverlapResult}
    (hlt : ∀ f ∈ inputFrags input, f.oid < N0) (hn : N0 ≤ n) (h : RRes input err o) : CRes input N0 n err o := by
  obtain ⟨sc, o0, h1, h2, h3, h4, h5, hS⟩ := h
  obtain ⟨A, B, hs, _⟩ := h5.slice
  exact ⟨sc, o0, h1, h2, h3, h4, hS, C18.OidsOK.of_mem hlt hn fun f hf => C18.frag_mem_input h1 (by rw [hs]; simp [hf])⟩

theorem CRes.congr {input : List Scaffold} {N0 n : Nat} {err : Int} {o o' : OverlapResult} (h : CRes input N0 n err o)
    (hr : o'.rows = o.rows) (hs : o'.start = o.start) (he : o'.stop = o.stop) (hb : o'.bait = o.bait) :
    CRes input N0 n err o' := by
  obtain ⟨sc, o0, h1, h2, h3, h4, hS, h5⟩ := h
  refine ⟨sc, o0, h1, by rw [hb]; exact h2, by rw [hb]; exact h3, ?_, hS.congr hs he hb, fun f hf => h5 f (hr ▸ hf)⟩
  rw [hb]; exact h4.congr hr hs he hb

theorem CRes.trimFragment {input : List Scaffold} {N0 n : Nat} {err : Int} {o o' : OverlapResult} {f new : Fragment}
    {ks ke : Bool} (hwf : WFInput input) (hlt : ∀ g ∈ inputFrags input, g.oid < N0) (herr : 0 ≤ err) (hn : N0 ≤ n)
    (h : CRes input N0 n err o) (hf : f ∈ inputFrags input) (ht : o.trimFragment f ks ke n = .ok (o', new)) :
    CRes input N0 (n + 1) err o' := by
  obtain ⟨sc, o0, h1, h2, h3, hK, hS, hoids⟩ := h
  obtain ⟨hrow, hfresh, -, ho'⟩ := C18.trimFragment_by_identity hwf.2.1 hlt hn hf hoids ht
  have hb := (trimFragment_ends ht).1
  exact ⟨sc, o0, h1, hb ▸ h2, hb ▸ h3, hb ▸ kinv_trimFragment (M := 3 * err) (by omega) hK hrow hfresh ht,
    safeKept_trimFragment hS ht, ho'⟩

/-- `CRes` is kept by the trims of cutting (the discards need the resolver's guards) -/
theorem cres_closed {input : List Scaffold} {N0 : Nat} {err : Int} (hwf : WFInput input)
    (hlt : ∀ g ∈ inputFrags input, g.oid < N0) (herr : 0 ≤ err) :
    Pipeline.OpClosed False (· ∈ inputFrags input) (fun n r => N0 ≤ n ∧ CRes input N0 n err r.o) where
  mono h := ⟨Nat.le_succ_of_le h.1, h.2.mono (Nat.le_succ _)⟩
  discardStart hd := hd.elim
  discardEnd hd := hd.elim
  trim hf h ht := ⟨Nat.le_succ_of_le h.1, h.2.trimFragment hwf hlt herr h.1 hf ht⟩

theorem cutRemaining_cres {input : List Scaffold} {N0 : Nat} {err : Int} (hwf : WFInput input)
    (hlt : ∀ g ∈ inputFrags input, g.oid < N0) (herr : 0 ≤ err) (b b' : Build)
    (hst : ∀ r ∈ b.store, CRes input N0 b.nextOid err r.o) (hf : ∀ kf ∈ b.found, kf.2.fragment ∈ inputFrags input)
    (hn : N0 ≤ b.nextOid) (h : cutRemaining b = .ok b') : ∀ r ∈ b'.store, CRes input N0 b'.nextOid err r.o :=
  fun r hr => ((Pipeline.cutRemaining_evolves_of (P := (· ∈ inputFrags input)) hf h).forall (cres_closed hwf hlt herr)
    (fun r hr => ⟨hn, hst r hr⟩) r hr).2

def PtxDisjoint (ptx : List Scaffold) : Prop := (ptx.flatMap Scaffold.fragments).Pairwise FragDisjoint

instance (ptx : List Scaffold) : Decidable (PtxDisjoint ptx) := by unfold PtxDisjoint; infer_instance

theorem pieces_baits (input : List Scaffold) : ∀ (seen : Bool) (ptx : List Scaffold),
    (C09.pieces input seen ptx).map (·.2.2) = ptx.flatMap (fun S => S.fragments.filter (C09.hits input))
  | _, [] => by simp [C09.pieces]
  | seen, S :: rest => by
    simp only [C09.pieces, List.map_append, List.map_map, List.flatMap_cons]
    rw [pieces_baits input _ rest]
    congr 1
    rw [show ((fun x : Bool × Scaffold × Fragment => x.2.2) ∘ fun p => (seen, S, p)) = id from rfl, List.map_id]

/-- the build after `find_assembly_overlaps` and any number of resolver rounds, for a map with pairwise disjoint pieces -/
structure Resolved (input ptx : List Scaffold) (err : Int) (b : Build) : Prop where
  mid : C01.Mid input b
  storeR : StoreR input err b.store
  disj : BaitsDisj b.store
  baits : b.store.map (·.o.bait) = (C09.pieces input false ptx).map (·.2.2)
  found : ∀ kf ∈ b.found, kf.2.fragment ∈ inputFrags input
  err : b.err = err
  nextOid : b.nextOid = C07.firstNewOid input

theorem resolved_find {input ptx : List Scaffold} {prefix_ : Str} {joinGap : Option Gap} {err : Int}
    (hwf : WFInput input) (hnn : InputNonNeg input) (hdis : PtxDisjoint ptx) (herr : 0 ≤ err) {b1 : Build}
    (h1 : findAssemblyOverlaps input ptx (Pipeline.initBuild input prefix_ joinGap err) = .ok b1) :
    Resolved input ptx err b1 := by
  obtain ⟨hm1, _, _, he1, _⟩ := C01.reg_after_find_aux input ptx _ b1 ⟨rfl, rfl, rfl⟩ h1
  have hS1 := (findAssemblyOverlaps_storeR hwf hnn ptx err herr _ b1 rfl (fun r hr => by cases hr) h1).1
  obtain ⟨hview, _, _⟩ := C09.findAssemblyOverlaps_label input ptx _ b1 h1
  have hb1 : b1.store.map (·.o.bait) = (C09.pieces input false ptx).map (·.2.2) := by
    rw [show b1.store.map (·.o.bait) = (b1.store.map C09.labelView).map (·.2.2.2) by rw [List.map_map]; rfl, hview]
    simp only [Pipeline.initBuild, List.map_nil, List.nil_append, List.map_map]
    rfl
  exact ⟨hm1, hS1, by unfold BaitsDisj; rw [hb1, pieces_baits, ← List.filter_flatMap]; exact hdis.filter _,
    hb1, Pipeline.findAssemblyOverlaps_foundIn (Q := fun _ f => f ∈ inputFrags input)
      (fun _ hsc _ hf => C18.frag_mem_input hsc hf) (Pipeline.FoundIn.nil _) h1,
    he1, (Pipeline.findAssemblyOverlaps_frame h1).2.2.2.2⟩

theorem Resolved.rounds {input ptx : List Scaffold} {err : Int} (hwf : WFInput input) (hnn : InputNonNeg input)
    (herr : 0 ≤ err) {b1 b2 : Build} {fuel : Nat} (hR : Resolved input ptx err b1)
    (h2 : discardOverhanging fuel b1 = .ok b2) : Resolved input ptx err b2 := by
  obtain ⟨hm2, _, hn2, _, _, he2, _⟩ := C01.discardOverhanging_mid input hwf fuel b1 b2 hR.mid h2
  obtain ⟨hS2, hb21⟩ := storeR_discardOverhanging hwf hnn herr fuel b1 b2 hR.mid hR.err hR.storeR hR.disj h2
  exact ⟨hm2, hS2, by unfold BaitsDisj; rw [hb21]; exact hR.disj, hb21.trans hR.baits,
    Pipeline.discardOverhanging_foundIn (Q := fun _ f => f ∈ inputFrags input) hR.found h2, he2.trans hR.err,
    hn2.trans hR.nextOid⟩

/-- **K2, proof.** -/
theorem remapToInput_core (input ptx : List Scaffold) (prefix_ : Str) (joinGap : Option Gap) (err : Int) (b : Build)
    (hwf : WFInput input) (hnn : InputNonNeg input) (hdis : PtxDisjoint ptx) (herr : 0 ≤ err)
    (h : remapToInput input ptx prefix_ joinGap err = .ok b) :
    ∀ r ∈ b.store, ∃ sc o0, sc ∈ input ∧ sc.name = r.o.bait.name ∧ findOverlaps sc.rows r.o.bait = .ok (some o0) ∧
      KInv sc.rows (3 * err) o0.start o0.stop r.o.bait r.o ∧ SafeKept sc.rows err (3 * err) r.o := by
  obtain ⟨b1, b2, b3, h1, h2, h3, h4⟩ := Pipeline.remapToInput_ok h
  have hR := (resolved_find (prefix_ := prefix_) (joinGap := joinGap) hwf hnn hdis herr h1).rounds hwf hnn herr h2
  have hlt : ∀ g ∈ inputFrags input, g.oid < C07.firstNewOid input := (Pipeline.foldl_max_oid _ 0).2
  have hn0 : C07.firstNewOid input ≤ b2.nextOid := Nat.le_of_eq hR.nextOid.symm
  have hC3 := cutRemaining_cres hwf hlt herr b2 b3 (fun r hr => CRes.of_rres hlt hn0 (hR.storeR r hr)) hR.found hn0 h3
  -- renaming and the left-overs read none of the fields of `CRes`
  intro r hr
  rw [(Pipeline.addMissing_frame h4).1] at hr
  obtain ⟨sc, o0, q1, q2, q3, q4, q5, _⟩ := Pipeline.renameBySize_forall (P := fun r => CRes input _ b3.nextOid err r.o)
    (fun _ _ hc => hc.congr rfl rfl rfl rfl) _ hC3 r hr
  exact ⟨sc, o0, q1, q2, q3, q4, q5⟩

end AgpTpf.C02

/-! C02 core: a stored result that was not appended to `BuildAssembly.scaffolds`
(`added = false`, its rows were empty after `trim_large_overhangs`) has no rows — through all of
`remap_to_input_assembly`.  So a result that still has rows at the end WAS appended and is written out. -/
namespace AgpTpf.C02
open AgpTpf OverlapResult

def AddedOK (store : List Res) : Prop := ∀ r ∈ store, r.added = false → r.o.rows = []

theorem AddedOK.added {store : List Res} (h : AddedOK store) {r : Res} (hr : r ∈ store) (hne : r.o.rows ≠ []) :
    r.added = true :=
  Bool.not_eq_false _ |>.mp fun hf => hne (h r hr hf)

theorem created_added {input : List Scaffold} {err : Int} {r : Res} (hc : Pipeline.Created input err r) :
    r.added = false → r.o.rows = [] := by
  obtain ⟨_, _, _, _, _, _, _, _, ha⟩ := hc
  exact fun hf => List.isEmpty_iff.mp (by rw [hf] at ha; simpa using ha.symm)

theorem findAssemblyOverlaps_addedOK (input ptx : List Scaffold) (b b' : Build) (hS : AddedOK b.store)
    (h : findAssemblyOverlaps input ptx b = .ok b') : AddedOK b'.store :=
  (Pipeline.findAssemblyOverlaps_grows h).forall (fun _ => created_added) (fun _ _ hr => hr) hS

/-- an edit succeeds only on a result that has rows -/
theorem added_closed {dr : Prop} {fr : Fragment → Prop} :
    Pipeline.OpClosed dr fr (fun _ r => r.added = false → r.o.rows = []) :=
  .plain
    (fun _ _ hp h ha => absurd (hp ha) (Pipeline.rows_ne_nil_of_discardStart h))
    (fun _ _ hp h ha => absurd (hp ha) (Pipeline.rows_ne_nil_of_discardEnd h))
    (fun _ _ _ _ _ _ _ hp h ha => absurd (hp ha) (Pipeline.rows_ne_nil_of_trimFragment h))

theorem discardOverhanging_addedOK (fuel : Nat) (b b' : Build) (hS : AddedOK b.store)
    (h : discardOverhanging fuel b = .ok b') : AddedOK b'.store :=
  (Pipeline.discardOverhanging_evolves h).forall added_closed hS

theorem remapToInput_addedOK (input ptx : List Scaffold) (prefix_ : Str) (joinGap : Option Gap) (err : Int) (b : Build)
    (h : remapToInput input ptx prefix_ joinGap err = .ok b) : AddedOK b.store :=
  Pipeline.remapToInput_forall added_closed (fun _ => created_added) (fun _ _ _ hr => hr) h

end AgpTpf.C02
