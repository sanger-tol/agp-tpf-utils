/- the output plan in closed form (`outputPlan_eq`: when it raises, and the list `planOf` otherwise) and that its file names are
   pairwise different (C16 P2) -/
import AgpTpf.Proofs.CliPlanPath
import AgpTpf.Proofs.CliPlanNames
import AgpTpf.Proofs.Lib.Py
namespace AgpTpf.CliPlan
open AgpTpf
theorem nodup_append_of_sep {α} (P : α → Prop) {l₁ l₂ : List α} (h₁ : l₁.Nodup) (h₂ : l₂.Nodup)
    (hP : ∀ a ∈ l₁, P a) (hN : ∀ b ∈ l₂, ¬ P b) : (l₁ ++ l₂).Nodup :=
  List.nodup_append.2 ⟨h₁, h₂, fun a ha b hb e => hN b hb (e ▸ hP a ha)⟩

theorem rtake (x a : Str) (k : Nat) (hk : k ≤ a.length) : (x ++ a).reverse.take k = a.reverse.take k := by
  rw [List.reverse_append, List.take_append_of_le_length (by simpa using hk)]

def dictStep (d : List (Option Str × NamedAsm)) (n : NamedAsm) : List (Option Str × NamedAsm) := dSet d n.key n

theorem namedDict_eq (l : List NamedAsm) : namedDict l = (l.foldl dictStep []).map (·.2) := rfl

theorem dictFold_eq (l : List NamedAsm) (d : List (Option Str × NamedAsm)) :
    l.foldl dictStep d = dSetAll d (l.map fun n => (n.key, n)) := by
  rw [dSetAll, List.foldl_map]; rfl

theorem namedDict_inv (l : List NamedAsm) :
    ((l.foldl dictStep []).map (·.1)).Nodup ∧ ∀ e ∈ l.foldl dictStep [], e.2 ∈ l ∧ e.1 = e.2.key := by
  rw [dictFold_eq]
  refine ⟨dSetAll_keys_nodup _ List.nodup_nil, fun e he => ?_⟩
  rcases mem_dSetAll he with h | h
  · cases h
  · obtain ⟨n, hn, rfl⟩ := List.mem_map.1 h; exact ⟨hn, rfl⟩

theorem namedDict_mem (l : List NamedAsm) (n : NamedAsm) (h : n ∈ namedDict l) : n ∈ l := by
  obtain ⟨e, he, rfl⟩ := List.mem_map.1 h
  exact ((namedDict_inv l).2 e he).1

theorem namedDict_nodup (l : List NamedAsm) : (namedDict l).Nodup := by
  obtain ⟨h1, h2⟩ := namedDict_inv l
  -- the entries are determined by their keys
  refine nodup_map_of_inj_on _ (List.Pairwise.of_map (·.1) (fun a b hne e => hne (by rw [e])) h1) ?_
  intro x hx y hy e
  exact Prod.ext (by rw [(h2 x hx).2, (h2 y hy).2, e]) e

theorem namedDict_of_nodup (l : List NamedAsm) (h : (l.map (·.key)).Nodup) : namedDict l = l := by
  rw [namedDict_eq, dictFold_eq, dSetAll_of_fresh _ [] (by rwa [List.map_map])]
  simp [List.map_map, Function.comp_def]

theorem namedDict_stems (l : List NamedAsm) (h : (l.map stemKey).Nodup) : ((namedDict l).map stemKey).Nodup :=
  nodup_map_of_inj_on _ (namedDict_nodup l)
    (fun x hx y hy e => AgpTpf.inj_of_nodup_map stemKey h x (namedDict_mem l x hx) y (namedDict_mem l y hy) e)

/-- `{asm.name}{".curated" if asm.curated}` -/
def stemStr (n : NamedAsm) : Str := n.name ++ (if n.curated then ".curated".toList else [])

theorem outputFileName_eq (n : NamedAsm) (sfx : Str) : outputFileName n sfx = stemStr n ++ sfx := rfl

/-- the files `write_assembly` opens for one assembly -/
def filesOf (fmt : Fmt) (sfx : Str) (n : NamedAsm) : List Str :=
  if fmt = .FASTA then [stemStr n ++ sfx, stemStr n ++ ".agp".toList] else [stemStr n ++ sfx]

theorem EndsSY.ne_nil {s : Str} (h : EndsSY s) : s ≠ [] := by
  intro e; subst e; rcases h with h | h <;> cases h

theorem stemStr_ne_nil (n : NamedAsm) (h : EndsSY n.name) : stemStr n ≠ [] := by
  unfold stemStr
  intro e
  exact h.ne_nil (List.append_eq_nil_iff.1 e).1

/-- the files `write_assembly` opens for one assembly, whatever the suffix is -/
def ownFiles (fmt : Fmt) (sfx : Str) (n : NamedAsm) : List Str :=
  if fmt = .FASTA then [outputFileName n sfx, pathStem (outputFileName n sfx) ++ ".agp".toList] else [outputFileName n sfx]

theorem assemblyFiles_eq (fmt : Fmt) (sfx : Str) : ∀ l : List NamedAsm,
    assemblyFiles fmt sfx l =
      if fmt = .FASTA ∧ ∃ n ∈ l, outputFileName n sfx = [] then .error .value else .ok (l.flatMap (ownFiles fmt sfx))
  | [] => by simp [assemblyFiles]
  | a :: r => by
    rw [assemblyFiles, assemblyFiles_eq fmt sfx r, agpBesideName_eq]
    unfold ownFiles
    by_cases hf : fmt = .FASTA
    · by_cases ha : outputFileName a sfx = []
      · simp [hf, ha]; rfl
      · by_cases hr : ∃ n ∈ r, outputFileName n sfx = []
        · simp [hf, ha, hr]; rfl
        · simp [hf, ha, hr]; rfl
    · simp [hf]; rfl

/-- with a one-dot suffix the AGP beside a FASTA file has the same stem -/
theorem ownFiles_eq {fmt : Fmt} {sfx w : Str} (hx : ExtFacts fmt sfx w) (n : NamedAsm) (h : EndsSY n.name) :
    ownFiles fmt sfx n = filesOf fmt sfx n := by
  unfold ownFiles filesOf
  rw [outputFileName_eq, hx.eq, pathStem_append _ _ (stemStr_ne_nil n h) hx.ne hx.nodot]

theorem assemblyFiles_ok (fmt : Fmt) (w : Str) (hw : w ≠ []) (hdot : '.' ∉ w) (l : List NamedAsm)
    (h : ∀ n ∈ l, EndsSY n.name) : assemblyFiles fmt ('.' :: w) l = .ok (l.flatMap (filesOf fmt ('.' :: w))) := by
  rw [assemblyFiles_eq, if_neg, List.flatMap_def, List.flatMap_def]
  · refine congrArg (fun x => Except.ok (List.flatten x)) (List.map_congr_left fun n hn => ?_)
    unfold ownFiles filesOf
    rw [outputFileName_eq, pathStem_append _ _ (stemStr_ne_nil n (h n hn)) hw hdot]
  · rintro ⟨_, n, hn, e⟩
    rw [outputFileName_eq] at e
    exact stemStr_ne_nil n (h n hn) (List.append_eq_nil_iff.1 e).1

/-- the plan when nothing raises -/
def planOf (outName : Str) (writeLog : Bool) (named : List NamedAsm) (fmt : Fmt) (sfx pre : Str) : List Str :=
  (if writeLog then [pathStem outName ++ ".log".toList] else []) ++ [pathStem outName ++ ".info.yaml".toList] ++
    named.flatMap (ownFiles fmt sfx) ++ chrListFiles pre named ++
    (if (chromosomesReport pre named).isEmpty then [] else [pathStem outName ++ ".chr_report.csv".toList])

theorem outputPlan_eq (outName : Str) (writeLog : Bool) (named : List NamedAsm) (fmt : Fmt) (sfx pre : Str) :
    outputPlan outName writeLog named fmt sfx pre =
      if outName = [] ∨ '/' ∈ pathStem outName ∨ (fmt = .FASTA ∧ ∃ n ∈ named, outputFileName n sfx = [])
      then .error .value else .ok (planOf outName writeLog named fmt sfx pre) := by
  unfold outputPlan planOf
  rw [logFileName_eq, infoYamlName_eq, chrReportName_eq, assemblyFiles_eq]
  by_cases h1 : outName = []
  · simp only [h1, true_or, if_true]; cases writeLog <;> rfl
  by_cases h2 : '/' ∈ pathStem outName
  · simp only [h1, h2, true_or, or_true, false_or, if_true, if_false]; cases writeLog <;> rfl
  by_cases h3 : fmt = .FASTA ∧ ∃ n ∈ named, outputFileName n sfx = []
  · simp only [h1, h2, h3, or_true, false_or, if_true, if_false]; cases writeLog <;> rfl
  · simp only [h1, h2, h3, or_false, false_or, if_false]
    cases writeLog <;> cases (chromosomesReport pre named).isEmpty <;> rfl

theorem outputPlan_ok (outName : Str) (writeLog : Bool) (named : List NamedAsm) (fmt : Fmt) (sfx pre : Str)
    (plan : List Str) (h : outputPlan outName writeLog named fmt sfx pre = .ok plan) :
    plan = planOf outName writeLog named fmt sfx pre := by
  rw [outputPlan_eq] at h
  split at h
  · cases h
  · exact (Except.ok.inj h).symm

theorem outputPlan_isOk (outName : Str) (writeLog : Bool) (named : List NamedAsm) (fmt : Fmt) (sfx pre : Str)
    (hne : outName ≠ []) (hsl : '/' ∉ outName) (hends : ∀ n ∈ named, EndsSY n.name) :
    outputPlan outName writeLog named fmt sfx pre = .ok (planOf outName writeLog named fmt sfx pre) := by
  rw [outputPlan_eq, if_neg]
  rintro (h | h | ⟨_, n, hn, h⟩)
  · exact hne h
  · exact hsl (List.mem_of_mem_take h)
  · rw [outputFileName_eq] at h
    exact stemStr_ne_nil n (hends n hn) (List.append_eq_nil_iff.1 h).1

theorem mem_plan (named : List NamedAsm) (suffix : Str) (n : NamedAsm) (hn : n ∈ named)
    (outName : Str) (writeLog : Bool) (fmt : Fmt) (prefix_ : Str) (plan : List Str)
    (hplan : outputPlan outName writeLog named fmt suffix prefix_ = .ok plan) : outputFileName n suffix ∈ plan := by
  rw [outputPlan_ok _ _ _ _ _ _ _ hplan]
  unfold planOf
  refine List.mem_append_left _ (List.mem_append_left _ (List.mem_append_right _ (List.mem_flatMap.2 ⟨n, hn, ?_⟩)))
  unfold ownFiles; split <;> simp

/-- `cliOutputPlan` runs `setup_logging` and the yaml name before `parse_output_file` / `name_assemblies`; as far as the
    result goes they are the calls `outputPlan` repeats -/
theorem cliOutputPlan_ok_iff (outName : Str) (writeLog : Bool) (outs : List OutAsm) (pre : Str) (plan : List Str) :
    cliOutputPlan outName writeLog outs pre = .ok plan ↔
      ∃ fmt root version sfx named, parseOutputFile outName = .ok (fmt, root, version, sfx) ∧
        nameAssemblies outs root version = .ok named ∧
        outputPlan outName writeLog (namedDict named) fmt sfx pre = .ok plan := by
  unfold cliOutputPlan
  constructor
  · intro h
    cases writeLog <;> simp only [Bool.false_eq_true, if_true, if_false, bind_eq_ok, pure_eq_ok, Except.ok.injEq, exists_eq_left'] at h
    · obtain ⟨⟨fmt, root, version, sfx⟩, hp, _, _, named, hn, h⟩ := h
      exact ⟨fmt, root, version, sfx, named, hp, hn, h⟩
    · obtain ⟨_, _, ⟨fmt, root, version, sfx⟩, hp, _, _, named, hn, h⟩ := h
      exact ⟨fmt, root, version, sfx, named, hp, hn, h⟩
  · rintro ⟨fmt, root, version, sfx, named, hp, hn, h⟩
    have hbad := h
    rw [outputPlan_eq] at hbad
    split at hbad
    · cases hbad
    · next hb =>
      have h1 : outName ≠ [] := fun e => hb (.inl e)
      have h2 : ¬ (outName = [] ∨ '/' ∈ pathStem outName) := fun e => hb (e.elim .inl (fun e => .inr (.inl e)))
      rw [logFileName_eq, if_neg h1, infoYamlName_eq, if_neg h2, hp]
      cases writeLog <;> simp only [Bool.false_eq_true, if_true, if_false, ok_bind, pure_eq_ok, hn, h]

theorem mem_filesOf (fmt : Fmt) (sfx : Str) (n : NamedAsm) (x : Str) (h : x ∈ filesOf fmt sfx n) :
    x = stemStr n ++ sfx ∨ (fmt = .FASTA ∧ x = stemStr n ++ ".agp".toList) := by
  unfold filesOf at h
  split at h
  · next hf =>
    simp only [List.mem_cons, List.not_mem_nil, or_false] at h
    rcases h with h | h
    · exact .inl h
    · exact .inr ⟨hf, h⟩
  · simp only [List.mem_cons, List.not_mem_nil, or_false] at h; exact .inl h

theorem mem_chrListFiles (pre : Str) (named : List NamedAsm) (x : Str) (h : x ∈ chrListFiles pre named) :
    ∃ n ∈ named, n.curated = true ∧ x = n.name ++ ".chromosome.list.csv".toList := by
  unfold chrListFiles at h
  obtain ⟨n, hn, hx⟩ := List.mem_filterMap.1 h
  split at hx
  · next hc => cases hx; exact ⟨n, hn, hc.1, rfl⟩
  · cases hx

/-- two different file stems never give the same `{stem}` string: no name ends in ".curated" -/
theorem stemStr_ne (n m : NamedAsm) (hn : EndsSY n.name) (hm : EndsSY m.name) (h : stemKey n ≠ stemKey m) :
    stemStr n ≠ stemStr m := by
  intro e
  unfold stemStr at e
  have bad : ∀ (a b : Str), EndsSY b → a ++ ".curated".toList ≠ b := by
    rw [String.toList_ofList]
    rintro a b hb rfl
    simp [EndsSY, List.getLast?_append] at hb
  cases hcn : n.curated <;> cases hcm : m.curated <;> simp only [hcn, hcm, if_true, Bool.false_eq_true, if_false, List.append_nil] at e
  · exact h (by unfold stemKey; rw [e, hcn, hcm])
  · exact bad _ _ hn e.symm
  · exact bad _ _ hm e
  · exact h (by unfold stemKey; rw [List.append_cancel_right e, hcn, hcm])

theorem files_nodup (fmt : Fmt) (sfx w : Str) (hx : ExtFacts fmt sfx w) (named : List NamedAsm)
    (hends : ∀ n ∈ named, EndsSY n.name) (hst : (named.map stemKey).Nodup) :
    (named.flatMap (filesOf fmt sfx)).Nodup := by
  unfold List.Nodup
  rw [List.pairwise_flatMap]
  have hagp : '.' ∉ ['a', 'g', 'p'] := by decide
  constructor
  · intro n _
    unfold filesOf
    split
    · next hf =>
      simp only [List.pairwise_cons, List.mem_singleton, List.not_mem_nil, false_imp_iff, implies_true,
        List.Pairwise.nil, and_true, forall_eq]
      rw [hx.eq]
      exact ne_of_lastSeg_ne _ _ _ _ hx.nodot hagp (hx.notAgp hf)
    · simp
  · unfold List.Nodup at hst
    rw [List.pairwise_map] at hst
    refine hst.imp_of_mem (fun {n m} hn hm hne x hxn y hym => ?_)
    have hs := stemStr_ne n m (hends n hn) (hends m hm) hne
    rcases mem_filesOf fmt sfx n x hxn with rfl | ⟨hf, rfl⟩ <;> rcases mem_filesOf fmt sfx m y hym with rfl | ⟨hf', rfl⟩
    · intro e; exact hs (List.append_cancel_right e)
    · rw [hx.eq]; exact ne_of_lastSeg_ne _ _ _ _ hx.nodot hagp (hx.notAgp hf')
    · rw [hx.eq]; exact (ne_of_lastSeg_ne _ _ _ _ hx.nodot hagp (hx.notAgp hf)).symm
    · intro e; exact hs (List.append_cancel_right e)

theorem chr_nodup (pre : Str) (named : List NamedAsm) (hst : (named.map stemKey).Nodup) :
    (chrListFiles pre named).Nodup := by
  unfold chrListFiles List.Nodup
  rw [List.pairwise_filterMap]
  unfold List.Nodup at hst
  rw [List.pairwise_map] at hst
  refine hst.imp (fun {n m} hne x hx y hy => ?_)
  split at hx
  · next hcn =>
    split at hy
    · next hcm =>
      cases hx; cases hy
      intro e
      unfold chrListName at e
      exact hne (by unfold stemKey; rw [List.append_cancel_right e, hcn.1, hcm.1])
    · cases hy
  · cases hx

/-- **P2 core**: the plan has no repeated name -/
theorem plan_nodup (outName : Str) (writeLog : Bool) (named : List NamedAsm) (fmt : Fmt) (sfx pre : Str)
    (plan : List Str) (h : outputPlan outName writeLog named fmt sfx pre = .ok plan)
    (hsfx : SuffixOk fmt sfx) (hends : ∀ n ∈ named, EndsSY n.name) (hst : (named.map stemKey).Nodup) :
    plan.Nodup := by
  obtain ⟨w, hx⟩ := hsfx.extFacts
  rw [outputPlan_ok _ _ _ _ _ _ _ h]
  unfold planOf
  rw [List.flatMap_def, List.map_congr_left fun n hn => ownFiles_eq hx n (hends n hn), ← List.flatMap_def]
  generalize hlog : (if writeLog = true then [pathStem outName ++ ".log".toList] else []) = log
  generalize hrep : (if (chromosomesReport pre named).isEmpty = true then []
    else [pathStem outName ++ ".chr_report.csv".toList]) = rep
  -- the five groups of the plan are told apart by their extension, the two `.csv` groups by the letter before it
  have eLog : ∀ x ∈ log, lastSeg x = ['l', 'o', 'g'] := by
    subst hlog; split
    · exact List.forall_mem_singleton.2 (lastSeg_append _ _ (by decide))
    · exact fun _ h => nomatch h
  have eYaml : lastSeg (pathStem outName ++ ".info.yaml".toList) = ['y', 'a', 'm', 'l'] := by
    rw [String.toList_ofList]; exact lastSeg_append _ _ (by decide)
  have eFiles : ∀ x ∈ named.flatMap (filesOf fmt sfx), lastSeg x ∉ [['l', 'o', 'g'], ['y', 'a', 'm', 'l'], ['c', 's', 'v']] := by
    intro x hx'
    obtain ⟨n, _, hxn⟩ := List.mem_flatMap.1 hx'
    rcases mem_filesOf fmt sfx n x hxn with rfl | ⟨_, rfl⟩
    · rw [hx.eq, lastSeg_append_dot _ _ hx.nodot]; exact hx.notSide
    · rw [String.toList_ofList, lastSeg_append _ _ (by decide)]; decide
  have eChr : ∀ x ∈ chrListFiles pre named, lastSeg x = ['c', 's', 'v'] ∧ x.reverse.take 6 = ['v', 's', 'c', '.', 't', 's'] := by
    intro x hx'
    obtain ⟨n, _, _, rfl⟩ := mem_chrListFiles pre named x hx'
    rw [String.toList_ofList]
    exact ⟨lastSeg_append _ _ (by decide), rtake _ _ 6 (by decide)⟩
  have eRep : ∀ x ∈ rep, lastSeg x = ['c', 's', 'v'] ∧ x.reverse.take 6 = ['v', 's', 'c', '.', 't', 'r'] := by
    subst hrep; split
    · exact fun _ h => nomatch h
    · rw [String.toList_ofList]
      exact List.forall_mem_singleton.2 ⟨lastSeg_append _ _ (by decide), rtake _ _ 6 (by decide)⟩
  have nLog : log.Nodup := by subst hlog; split <;> simp
  have nRep : rep.Nodup := by subst hrep; split <;> simp
  have hHead : ∀ x ∈ log ++ [pathStem outName ++ ".info.yaml".toList], lastSeg x ∈ [['l', 'o', 'g'], ['y', 'a', 'm', 'l']] :=
    List.forall_mem_append.2 ⟨fun x hx' => by rw [eLog x hx']; decide,
      List.forall_mem_singleton.2 (by rw [eYaml]; decide)⟩
  have hNoCsv : ∀ x ∈ log ++ [pathStem outName ++ ".info.yaml".toList] ++ named.flatMap (filesOf fmt sfx),
      lastSeg x ≠ ['c', 's', 'v'] :=
    List.forall_mem_append.2 ⟨fun x hx' e => absurd (e ▸ hHead x hx') (by decide),
      fun x hx' e => eFiles x hx' (by rw [e]; decide)⟩
  refine nodup_append_of_sep (fun x => lastSeg x = ['c', 's', 'v'] → x.reverse.take 6 = ['v', 's', 'c', '.', 't', 's'])
    (nodup_append_of_sep (fun x => lastSeg x ≠ ['c', 's', 'v'])
      (nodup_append_of_sep (fun x => lastSeg x ∈ [['l', 'o', 'g'], ['y', 'a', 'm', 'l']])
        (nodup_append_of_sep (fun x => lastSeg x = ['l', 'o', 'g']) nLog (List.pairwise_singleton _ _) eLog
          (List.forall_mem_singleton.2 (by rw [eYaml]; decide)))
        (files_nodup fmt sfx w hx named hends hst) hHead
        (fun x hx' hm => eFiles x hx' (List.mem_of_mem_take (i := 2) hm)))
      (chr_nodup pre named hst) hNoCsv (fun x hx' hn => hn (eChr x hx').1))
    nRep
    (List.forall_mem_append.2 ⟨fun x hx' e => absurd e (hNoCsv x hx'), fun x hx' _ => (eChr x hx').2⟩)
    (fun x hx' hp => absurd ((hp (eRep x hx').1).symm.trans (eRep x hx').2) (by decide))

theorem file_names_nodup (sfx : Str) (named : List NamedAsm) (hends : ∀ n ∈ named, EndsSY n.name)
    (hst : (named.map stemKey).Nodup) : (named.map (fun n => outputFileName n sfx)).Nodup := by
  unfold List.Nodup at hst ⊢
  rw [List.pairwise_map] at hst ⊢
  refine hst.imp_of_mem (fun {n m} hn hm hne e => ?_)
  rw [outputFileName_eq, outputFileName_eq] at e
  exact stemStr_ne n m (hends n hn) (hends m hm) hne (List.append_cancel_right e)

theorem named_files_nodup (outs : List OutAsm) (root v sfx : Str) (named : List NamedAsm)
    (h : nameAssemblies outs root v = .ok named) (hs : FileSafe outs) : (named.map (fun n => outputFileName n sfx)).Nodup :=
  file_names_nodup sfx named (named_ends outs root v named h) (named_stems_nodup outs root v named h hs)

end AgpTpf.CliPlan
