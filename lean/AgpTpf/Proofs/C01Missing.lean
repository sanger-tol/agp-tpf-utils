/-
  C01 stage S4 (`missingRows`): what the left-over scaffold made from one input scaffold holds.  The loop has a normal
  form without indices (`Pipeline.leftoverRows`, Lib/Missing); which gap rows it writes is said there by the runs of gap
  rows between two contigs (`C07.missingRows_runs`) and turned into the index form `GapOK` here.
-/
import AgpTpf.Model.Remap
import AgpTpf.Proofs.C07Runs
import AgpTpf.Proofs.Lib.Rows
import AgpTpf.Proofs.Lib.Py
namespace AgpTpf.C01
open AgpTpf
open AgpTpf.C07 (adjPairs gapRuns)

theorem getD_eq_gap {rows : List Row} {i : Nat} {g : Gap} (h : rows.getD i default = .gap g) :
    rows[i]? = some (.gap g) := by
  rw [List.getD_eq_getElem?_getD] at h
  cases h' : rows[i]? with
  | none => rw [h'] at h; cases h
  | some x => rw [h'] at h; simpa using h

def isMissing (b : Build) (p : Nat × Row) : Bool :=
  match p.2 with
  | .frag f => !dHas b.found f.keyTuple
  | .gap _ => false

/-- what separators `missingRows` may insert: an input gap row out of the run of gap rows directly in front of a
    left-over fragment (row `j` is the gap, row `i` the fragment, rows `j … i-1` are all gaps), or the join gap -/
def GapOK (b : Build) (rows : List Row) (g : Gap) : Prop :=
  (∃ (j i : Nat) (f : Fragment), j < i ∧ rows[i]? = some (.frag f) ∧ dHas b.found f.keyTuple = false ∧ rows[j]? = some (.gap g) ∧
    ∀ k, j ≤ k → k < i → ∃ g', rows[k]? = some (.gap g')) ∨
  b.joinGap = some g

theorem fragmentsOf_all_gaps (l : List Row) (h : ∀ x ∈ l, ∃ g, x = Row.gap g) : fragmentsOf l = [] :=
  fragmentsOf_eq_nil fun x hx => Row.isGap_iff.2 (h x hx)

/-- in a row list that does not end with a gap row, a gap row behind a contig lies in a run of gap rows between two
    contigs; `M0` are the gap rows passed since the contig `a` -/
theorem gap_mem_run (g : Gap) : ∀ (l : List Row) (a : Fragment) (M0 : List Gap),
    (∀ g', (M0.map Row.gap ++ l).getLast? ≠ some (.gap g')) → (g ∈ M0 ∨ Row.gap g ∈ l) →
    ∃ (B : List Row) (a' : Fragment) (M : List Gap) (c : Fragment) (O : List Row),
      Row.frag a :: (M0.map Row.gap ++ l) = B ++ .frag a' :: (M.map Row.gap ++ .frag c :: O) ∧ g ∈ M
  | [], a, M0, hl, hg => by
    rcases hg with hg | hg
    · have hne := List.ne_nil_of_mem hg
      exact absurd (by simp [List.getLast?_map, List.getLast?_eq_some_getLast hne]) (hl (M0.getLast hne))
    · cases hg
  | .gap g1 :: t, a, M0, hl, hg => by
    have e : M0.map Row.gap ++ .gap g1 :: t = (M0 ++ [g1]).map Row.gap ++ t := by simp
    rw [e] at hl ⊢
    refine gap_mem_run g t a (M0 ++ [g1]) hl ?_
    rcases hg with hg | hg
    · exact .inl (List.mem_append_left _ hg)
    · rcases List.mem_cons.mp hg with e' | hg
      · cases e'; exact .inl (by simp)
      · exact .inr hg
  | .frag c :: t, a, M0, hl, hg => by
    rcases hg with hg | hg
    · exact ⟨[], a, M0, c, t, rfl, hg⟩
    · have hg' : Row.gap g ∈ t := by simpa using hg
      obtain ⟨B, a', M, c', O, e, hM⟩ := gap_mem_run g t c [] (fun g' h' => hl g' (by
        rw [List.getLast?_append, List.getLast?_cons, show t.getLast? = _ from h']; rfl)) (.inr hg')
      exact ⟨.frag a :: (M0.map Row.gap ++ B), a', M, c', O, by simp only [List.map_nil, List.nil_append] at e; simp [e], hM⟩

theorem gapOK_of_run (b : Build) (B O : List Row) (a c : Fragment) (M : List Gap) (g : Gap) (hg : g ∈ M)
    (hc : dHas b.found c.keyTuple = false) : GapOK b (B ++ .frag a :: (M.map Row.gap ++ .frag c :: O)) g := by
  obtain ⟨M1, M2, rfl⟩ := List.append_of_mem hg
  -- `P` is everything in front of the gap row, `G` the gap rows from it on
  have e : B ++ .frag a :: ((M1 ++ g :: M2).map Row.gap ++ .frag c :: O) =
      (B ++ .frag a :: M1.map Row.gap) ++ ((g :: M2).map Row.gap ++ .frag c :: O) := by simp
  rw [e]
  generalize B ++ Row.frag a :: M1.map Row.gap = P
  generalize hG : g :: M2 = G
  have hgG : G[0]? = some g := by rw [← hG]; rfl
  have hlen : 0 < G.length := by rw [← hG]; simp
  refine .inl ⟨P.length, P.length + G.length, c, by omega, ?_, hc, ?_, fun k h1 h2 => ?_⟩
  · rw [List.getElem?_append_right (by omega), Nat.add_sub_cancel_left,
      List.getElem?_append_right (by simp), List.length_map, Nat.sub_self]
    rfl
  · rw [List.getElem?_append_right (Nat.le_refl _), Nat.sub_self, List.getElem?_append_left (by simpa using hlen),
      List.getElem?_map, hgG]
    rfl
  · obtain ⟨d, rfl⟩ := Nat.exists_eq_add_of_le h1
    have hd : d < G.length := by omega
    rw [List.getElem?_append_right (by omega), Nat.add_sub_cancel_left, List.getElem?_append_left (by simpa using hd),
      List.getElem?_map, List.getElem?_eq_getElem hd]
    exact ⟨_, rfl⟩

theorem missingRows_spec (b : Build) (rows out : List Row) (first : Option Nat)
    (h : missingRows b rows = .ok (out, first)) :
    fragmentsOf out = (fragmentsOf rows).filter (fun f => !dHas b.found f.keyTuple) ∧
    (∀ g, Row.gap g ∈ out → GapOK b rows g) ∧
    (∀ pr ∈ adjPairs out, pr ∈ adjPairs rows) ∧
    (∀ g, out.head? ≠ some (.gap g)) ∧ (∀ g, out.getLast? ≠ some (.gap g)) ∧
    first = (((List.range rows.length).zip rows).find? (isMissing b)).map Prod.fst := by
  obtain ⟨hl, hfirst⟩ := Pipeline.missingRows_ok_iff.mp h
  have hfrags := Pipeline.leftoverRows_fragments _ _ rows none out hl
  obtain ⟨hhead, hlast⟩ := Pipeline.leftoverRows_ends _ _ rows none out hl
  have hruns := C07.missingRows_runs b rows out first h
  refine ⟨hfrags, fun g hg => ?_, fun pr hp => ?_, hhead rfl, hlast, hfirst⟩
  · -- the gap row lies in a run of `out`; the run is a run of `rows` in front of a left-over contig, or the join gap
    cases out with
    | nil => cases hg
    | cons x l =>
      cases x with
      | gap g0 => exact absurd rfl (hhead rfl g0)
      | frag a =>
        obtain ⟨B, a', M, c, O, e, hM⟩ := gap_mem_run g l a [] (fun g' h' => hlast g' (by
          rw [List.getLast?_cons, show l.getLast? = _ from h']; rfl)) (.inr (by simpa using hg))
        simp only [List.map_nil, List.nil_append] at e
        rcases hruns (a', M, c) ((C07.mem_gapRuns_iff _ _ _ _).mpr ⟨B, O, e⟩) with hr | ⟨j, hj, hM1⟩
        · obtain ⟨B', O', rfl⟩ := C07.gapRuns_decomp rows a' c M hr
          refine gapOK_of_run b B' O' a' c M g hM ?_
          have : c ∈ fragmentsOf (Row.frag a :: l) := by rw [e]; simp [fragmentsOf_append, fragmentsOf]
          rw [hfrags] at this
          simpa using (List.mem_filter.mp this).2
        · simp only at hM1
          rw [hM1] at hM
          cases List.mem_singleton.mp hM
          exact .inr hj
  · obtain ⟨a, c⟩ := pr
    rcases hruns _ ((C07.gapRuns_nil_iff_adjPairs out a c).mpr hp) with hr | ⟨j, _, hM⟩
    · exact (C07.gapRuns_nil_iff_adjPairs rows a c).mp hr
    · cases hM

end AgpTpf.C01
