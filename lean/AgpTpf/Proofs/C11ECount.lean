/-
  C11 end to end: counting the rows of the build returned by `remap_to_input_assembly`.  The cutting loop replaces rows
  one for one; under the registry invariant `Mid` (C01) the sum over the multiply-found keys of (holders − 1) is counted
  per key of the input (`mid_count`); so the cut counter of the returned build is
  #store rows + #left-over rows − #input fragments (`remapToInput_cuts`).
-/
import AgpTpf.Proofs.C01MiddleFinal
import AgpTpf.Proofs.Lib.Sum
import AgpTpf.Proofs.C11Cuts
import AgpTpf.Proofs.C11Stats
import AgpTpf.Proofs.Remap.Phase2
namespace AgpTpf.C11
open AgpTpf
open AgpTpf.C01 (WFInput inputFrags Mid storeFrags extraFrags holders hasKey)

def fragCount (r : Res) : Nat := (C01.resFrags r).length

theorem storeFrags_length (s : List Res) : (storeFrags s).length = (s.map fragCount).sum := by
  unfold storeFrags; rw [List.length_flatMap]; rfl

/-- `cut_remaining_overhangs` only calls `trim_fragment`, which replaces one fragment row by one -/
theorem cutRemaining_fragCount {b b' : Build} (h : cutRemaining b = .ok b') :
    (storeFrags b'.store).length = (storeFrags b.store).length := by
  rw [storeFrags_length, storeFrags_length,
    (Pipeline.cutRemaining_evolves h).map_eq fragCount (fun _ _ hd => hd.elim) (fun _ _ hd => hd.elim) ?_]
  intro r f ks ke n o' new ht
  obtain ⟨A, B, g, e1, e2, -⟩ := C01.trimFragment_frags ht
  unfold fragCount C01.resFrags
  dsimp only
  split
  · rw [e1, e2, List.length_append, List.length_append, List.length_cons, List.length_cons]
  · rfl

theorem key_term (b : Build) (hreg : C01.RegistryInv b) (k : Key) :
    ((holders b k).length : Int) + (if dHas b.found k then 0 else 1) - 1 =
      if k ∈ b.multi then cutsOfKey b.found k else 0 := by
  have hmul := hreg.2 k
  cases hf : dGet? b.found k with
  | none =>
    have hh : holders b k = [] := by simp [holders, hf]
    have hnm : k ∉ b.multi := by
      intro hmem; have := hmul.mp hmem; rw [hh] at this; simp at this
    simp [hh, dHas, hf, hnm]
  | some fnd =>
    have hh : holders b k = fnd.scaffolds := C01.holders_of_found hf
    have hpos : 0 < fnd.scaffolds.length := List.length_pos_iff.mpr (hreg.1 k fnd hf)
    rw [hh] at hmul ⊢
    by_cases hmem : k ∈ b.multi
    · simp only [dHas, hf, Option.isSome_some, ↓reduceIte, hmem, cutsOfKey]
      omega
    · have : ¬ 2 ≤ fnd.scaffolds.length := fun h2 => hmem (hmul.mpr h2)
      simp only [dHas, hf, Option.isSome_some, ↓reduceIte, hmem]
      omega

theorem mid_count (input : List Scaffold) (hwf : WFInput input) (b : Build) (hm : Mid input b) :
    sumInts (b.multi.map (cutsOfKey b.found)) =
      ((storeFrags b.store).length : Int) +
        (((inputFrags input).filter (fun f => !dHas b.found f.keyTuple)).length : Int) -
        ((inputFrags input).length : Int) := by
  have hnd : ((inputFrags input).map Fragment.keyTuple).Nodup := hwf.2.2.1
  have hA : ((storeFrags b.store).length : Int) =
      sumInts (((inputFrags input).map Fragment.keyTuple).map (fun k => ((holders b k).length : Int))) := by
    have := length_eq_sum_countP (fun (k : Key) (g : Fragment) => hasKey k g)
      ((inputFrags input).map Fragment.keyTuple) (storeFrags b.store) (by
        intro g hg
        have hgin := hm.store_input g hg
        have h1 := sumInts_indicator (1 : Int) g.keyTuple _ hnd
        rw [if_pos (List.mem_map_of_mem hgin)] at h1
        refine Eq.trans ?_ h1
        apply sumInts_map_congr
        intro k _
        simp [hasKey])
    rw [this]
    apply sumInts_map_congr
    intro k _
    rw [hm.total]
  have hB : (((inputFrags input).filter (fun f => !dHas b.found f.keyTuple)).length : Int) =
      sumInts (((inputFrags input).map Fragment.keyTuple).map (fun k => if dHas b.found k then (0 : Int) else 1)) := by
    rw [← List.countP_eq_length_filter, countP_eq_sumInts, List.map_map]
    apply sumInts_map_congr
    intro f _
    simp only [Function.comp]
    cases dHas b.found f.keyTuple <;> simp
  have hC : ((inputFrags input).length : Int) =
      sumInts (((inputFrags input).map Fragment.keyTuple).map (fun _ => (1 : Int))) := by
    rw [sumInts_map_one, List.length_map]
  rw [hA, hB, hC, ← sumInts_map_lin3]
  rw [sumInts_map_congr _ _ _ (fun k _ => key_term b hm.registry k)]
  have hr := sumInts_restrict (cutsOfKey b.found) _ hnd b.multi hm.multiNodup ?sub
  · rw [← hr]
    apply sumInts_map_congr
    intro k _
    congr
  · intro k hk
    obtain ⟨fnd, hf, -⟩ := hm.registry.of_multi hk
    obtain ⟨hkey, hin⟩ := hm.foundOK k fnd hf
    rw [← hkey]
    exact List.mem_map_of_mem hin

theorem cutsOfKey_pos (b : Build) (hreg : C01.RegistryInv b) (k : Key) (hk : k ∈ b.multi) : 1 ≤ cutsOfKey b.found k := by
  obtain ⟨fnd, hf, h2⟩ := hreg.of_multi hk
  rw [cutsOfKey, hf]
  show 1 ≤ (fnd.scaffolds.length : Int) - 1
  omega

theorem remapToInput_cuts (input ptx : List Scaffold) (prefix_ : Str) (joinGap : Option Gap) (err : Int) (b : Build)
    (hwf : WFInput input) (h : remapToInput input ptx prefix_ joinGap err = .ok b) :
    b.cuts = ((storeFrags b.store).length : Int) + ((extraFrags b.extra).length : Int) - ((inputFrags input).length : Int) ∧
    0 ≤ b.cuts := by
  obtain ⟨b1, b2, b3, hb1, hb2, hb3, hb4⟩ := Pipeline.remapToInput_ok h
  obtain ⟨hm1, hx1, -, -, hc1⟩ := C01.reg_after_find_aux input ptx _ b1 ⟨rfl, rfl, rfl⟩ hb1
  obtain ⟨hm2, -, -, hx2, -, -, hc2, -⟩ := C01.discardOverhanging_mid input hwf _ b1 b2 hm1 hb2
  obtain ⟨f3, d3, -⟩ := Pipeline.cutRemaining_frame hb3
  obtain ⟨e1, -, e3⟩ := C01.addMissing_spec input _ b hb4
  have hcuts : b.cuts = sumInts (b2.multi.map (cutsOfKey b2.found)) := by
    rw [(Pipeline.addMissing_frame hb4).2.2.2.1]
    show b3.cuts = _
    rw [cutRemaining_cuts b2 b3 hb3, hc2, hc1]
    exact Int.zero_add _
  have hS : (storeFrags b.store).length = (storeFrags b2.store).length := by
    rw [e1, ← cutRemaining_fragCount hb3]
    exact congrArg List.length (C01.storeFrags_of_core _ _ (C01.renameBySize_core _ _))
  have hE : extraFrags b.extra = (inputFrags input).filter (fun f => !dHas b2.found f.keyTuple) := by
    rw [e3]
    show extraFrags b3.extra ++ List.filter (fun f => !dHas b3.found f.keyTuple) _ = _
    rw [f3.extra, hx2, hx1, d3]; rfl
  refine ⟨by rw [hcuts, hS, hE]; exact mid_count input hwf b2 hm2, ?_⟩
  rw [hcuts]
  exact sumInts_map_nonneg _ _ fun k hk => by have := cutsOfKey_pos b2 hm2.registry k hk; omega

theorem remap_stats_cuts (input ptx : List Scaffold) (prefix_ : Str) (joinGap : Option Gap) (err : Int)
    (outs : List OutAsm) (stats : Stats) (h : remap input ptx prefix_ joinGap err = .ok (outs, stats)) :
    ∃ b, remapToInput input ptx prefix_ joinGap err = .ok b ∧ stats.cuts = b.cuts := by
  obtain ⟨b, hb, hs, -⟩ := C09.remap_fused input ptx prefix_ joinGap err outs stats h
  obtain ⟨-, rfl⟩ := makeStats_ok' hs
  exact ⟨b, hb, rfl⟩

theorem length_flatMap_keysOf (l : List Scaffold) :
    (l.flatMap (fun s => C01.keysOf s.rows)).length = (l.flatMap Scaffold.fragments).length := by
  rw [List.length_flatMap, List.length_flatMap]; simp only [C01.keysOf, Scaffold.fragments, List.length_map]

end AgpTpf.C11
