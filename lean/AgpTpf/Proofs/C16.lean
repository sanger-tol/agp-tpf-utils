/- C16 — helper lemmas about the insertion-ordered dict and `runOutputs` -/
import AgpTpf.Model.Outputs
import AgpTpf.Proofs.Lib.Py
namespace AgpTpf.C16
open AgpTpf AgpTpf.Outputs

theorem dHas_true_iff {κ ν} [DecidableEq κ] (d : List (κ × ν)) (k : κ) :
    dHas d k = true ↔ ∃ v, dGet? d k = some v := dHas_eq_true_iff d k

theorem dGet?_append_new {κ ν} [DecidableEq κ] (d : List (κ × ν)) (k : κ) (v : ν)
    (h : dHas d k = false) : dGet? (d ++ [(k, v)]) k = some v := by
  rw [dGet?_append_of_none _ ((dHas_eq_false_iff d k).1 h), dGet?_cons, if_pos rfl]

theorem dHas_append_other {κ ν} [DecidableEq κ] (d : List (κ × ν)) (k q : κ) (v : ν)
    (hq : q ≠ k) : dHas (d ++ [(k, v)]) q = dHas d q := by
  unfold dHas
  rw [dGet?_append, dGet?_cons, if_neg (Ne.symm hq)]
  cases dGet? d q <;> rfl

theorem find?_congr' {α} (f g : α → Bool) (l : List α) (h : ∀ x ∈ l, f x = g x) :
    l.find? f = l.find? g := by
  induction l with
  | nil => rfl
  | cons a r ih =>
    have ha : f a = g a := h a (by simp)
    have hr := ih (fun x hx => h x (by simp [hx]))
    simp only [List.find?, ha, hr]

/-! ### `runOutputs false` (open mode `x`) -/

theorem run_x_cons_has (fs : FS) (p : Str) (rest : List Str) (h : dHas fs p = true) :
    runOutputs false fs (p :: rest) = { fs := fs, exit := 1, errorPath := some p } := by
  simp [runOutputs, openOutput, openMode, h]

theorem run_x_cons_new (fs : FS) (p : Str) (rest : List Str) (h : dHas fs p = false) :
    runOutputs false fs (p :: rest) = runOutputs false (fs ++ [(p, .new)]) rest := by
  simp [runOutputs, openOutput, openMode, h]

theorem run_w_cons (fs : FS) (p : Str) (rest : List Str) :
    runOutputs true fs (p :: rest) = runOutputs true (dSet fs p .new) rest := by
  simp [runOutputs, openOutput, openMode]

theorem run_x_prefix (fs : FS) (outs : List Str) :
    ∃ added : FS, (runOutputs false fs outs).fs = fs ++ added ∧ ∀ e ∈ added, e.2 = Content.new := by
  induction outs generalizing fs with
  | nil => exact ⟨[], by simp [runOutputs], by simp⟩
  | cons p rest ih =>
    cases h : dHas fs p with
    | true => rw [run_x_cons_has fs p rest h]; exact ⟨[], by simp, by simp⟩
    | false =>
      rw [run_x_cons_new fs p rest h]
      obtain ⟨added, h1, h2⟩ := ih (fs ++ [(p, .new)])
      refine ⟨(p, .new) :: added, by simp [h1], ?_⟩
      intro e he
      rcases List.mem_cons.1 he with rfl | he
      · rfl
      · exact h2 e he

theorem run_x_preserves (fs : FS) (outs : List Str) (p : Str) (v : Content)
    (h : dGet? fs p = some v) : dGet? (runOutputs false fs outs).fs p = some v := by
  obtain ⟨added, h1, _⟩ := run_x_prefix fs outs
  rw [h1]; exact dGet?_append_of_some added h

theorem run_x_error (fs : FS) (outs : List Str) (hnd : outs.Nodup) :
    (runOutputs false fs outs).errorPath = outs.find? (fun p => dHas fs p) := by
  induction outs generalizing fs with
  | nil => simp [runOutputs]
  | cons p rest ih =>
    have hp : p ∉ rest := (List.nodup_cons.1 hnd).1
    cases h : dHas fs p with
    | true => rw [run_x_cons_has fs p rest h]; simp [List.find?, h]
    | false =>
      rw [run_x_cons_new fs p rest h, ih _ (List.nodup_cons.1 hnd).2]
      simp only [List.find?, h]
      apply find?_congr'
      intro q hq
      have : q ≠ p := fun e => hp (e ▸ hq)
      rw [dHas_append_other fs p q .new this]

theorem run_x_exit (fs : FS) (outs : List Str) :
    (runOutputs false fs outs).exit = if (runOutputs false fs outs).errorPath.isSome then 1 else 0 := by
  induction outs generalizing fs with
  | nil => simp [runOutputs]
  | cons p rest ih =>
    cases h : dHas fs p with
    | true => rw [run_x_cons_has fs p rest h]; simp
    | false => rw [run_x_cons_new fs p rest h]; exact ih _

theorem run_x_all_new (fs : FS) (outs : List Str) (hnd : outs.Nodup)
    (hfree : ∀ p ∈ outs, dHas fs p = false) :
    ∀ p ∈ outs, dGet? (runOutputs false fs outs).fs p = some Content.new := by
  induction outs generalizing fs with
  | nil => simp
  | cons p rest ih =>
    have hp : p ∉ rest := (List.nodup_cons.1 hnd).1
    have h : dHas fs p = false := hfree p (by simp)
    rw [run_x_cons_new fs p rest h]
    intro q hq
    rcases List.mem_cons.1 hq with rfl | hq
    · exact run_x_preserves _ rest _ _ (dGet?_append_new fs _ .new h)
    · apply ih _ (List.nodup_cons.1 hnd).2 _ q hq
      intro r hr
      have : r ≠ p := fun e => hp (e ▸ hr)
      rw [dHas_append_other fs p r .new this]
      exact hfree r (by simp [hr])

/-! ### `runOutputs true` (open mode `w`) -/

theorem run_w_ok (fs : FS) (outs : List Str) :
    (runOutputs true fs outs).exit = 0 ∧ (runOutputs true fs outs).errorPath = none := by
  induction outs generalizing fs with
  | nil => simp [runOutputs]
  | cons p rest ih => rw [run_w_cons]; exact ih _

theorem run_w_other (fs : FS) (outs : List Str) (q : Str) (hq : q ∉ outs) :
    dGet? (runOutputs true fs outs).fs q = dGet? fs q := by
  induction outs generalizing fs with
  | nil => simp [runOutputs]
  | cons p rest ih =>
    rw [run_w_cons, ih _ (fun h => hq (by simp [h]))]
    exact dGet?_dSet_ne fs .new (fun e => hq (by simp [e]))

theorem run_w_new (fs : FS) (outs : List Str) (p : Str) (hp : p ∈ outs) :
    dGet? (runOutputs true fs outs).fs p = some Content.new := by
  induction outs generalizing fs with
  | nil => simp at hp
  | cons a rest ih =>
    rw [run_w_cons]
    by_cases hr : p ∈ rest
    · exact ih _ hr
    · rcases List.mem_cons.1 hp with rfl | h
      · rw [run_w_other _ rest _ hr]; exact dGet?_dSet_self fs _ .new
      · exact absurd h hr

theorem run_w_length_ge (fs : FS) (outs : List Str) : fs.length ≤ (runOutputs true fs outs).fs.length := by
  induction outs generalizing fs with
  | nil => simp [runOutputs]
  | cons p rest ih =>
    rw [run_w_cons]
    refine Nat.le_trans ?_ (ih _)
    clear ih
    induction fs with
    | nil => simp [dSet]
    | cons a r ih2 =>
      obtain ⟨k', v'⟩ := a
      simp only [dSet]; split <;> simp [ih2]

end AgpTpf.C16
