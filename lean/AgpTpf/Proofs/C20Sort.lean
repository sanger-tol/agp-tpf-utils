/-
  Helper lemmas for C20: `smartSort` / `sortedByName` as a stable sort over pure keys.
-/
import AgpTpf.Proofs.C20
import AgpTpf.Proofs.C20Order
namespace AgpTpf.C20
open AgpTpf

def smartKey (s : Scaffold) : Int × NatKey := (s.rank, keyOf s.name)

theorem stableSort_decorated {α κ} (le : κ → κ → Bool) (key : α → κ) (l : List α) :
    (stableSort (fun a b => le a.1 b.1) (l.map (fun x => (key x, x)))).map (·.2)
      = stableSort (fun a b => le (key a) (key b)) l := by
  rw [stableSort_map (fun a b => le (key a) (key b)) (fun x => (key x, x)) _ (fun _ _ => rfl), List.map_map]
  exact List.map_id _

theorem totalPreorder_comap {α κ} {le : κ → κ → Bool} (h : TotalPreorder le) (key : α → κ) :
    TotalPreorder (fun a b => le (key a) (key b)) :=
  ⟨fun _ _ => h.total _ _, fun _ _ _ => h.trans _ _ _⟩

theorem smartLe_totalPreorder : TotalPreorder smartLe :=
  ⟨smartLe_order.total, smartLe_order.trans⟩

theorem keyLe_totalPreorder : TotalPreorder keyLe :=
  ⟨keyLe_order.total, keyLe_order.trans⟩

/-- the list `smart_sort_scaffolds` leaves behind -/
def smartSorted (scs : List Scaffold) : List Scaffold :=
  stableSort (fun a b => smartLe (smartKey a) (smartKey b)) scs

theorem smartSort_eq' (scs : List Scaffold) : smartSort scs = .ok (smartSorted scs) := by
  unfold smartSort
  rw [mapM_ok (f := fun (s : Scaffold) => (do let k ← naturalKey s.name; pure ((s.rank, k), s) : R _))
    (g := fun s => (smartKey s, s)) (l := scs) (by intro s _; rw [naturalKey_eq]; rfl)]
  exact congrArg Except.ok (stableSort_decorated smartLe smartKey scs)

def nameSorted (scs : List Scaffold) : List Scaffold :=
  stableSort (fun a b => keyLe (keyOf a.name) (keyOf b.name)) scs

theorem sortedByName_eq' (scs : List Scaffold) : sortedByName scs = .ok (nameSorted scs) := by
  unfold sortedByName
  rw [mapM_ok (f := fun (s : Scaffold) => (do let k ← naturalKey s.name; pure (k, s) : R _))
    (g := fun s => (keyOf s.name, s)) (l := scs) (by intro s _; rw [naturalKey_eq]; rfl)]
  exact congrArg Except.ok (stableSort_decorated keyLe (fun (s : Scaffold) => keyOf s.name) scs)

theorem stableSort_perm_invariant_of_nodup {α κ} {le : κ → κ → Bool} (h : TotalPreorder le)
    (anti : ∀ a b, le a b = true → le b a = true → a = b) (key : α → κ) {l₁ l₂ : List α}
    (hp : l₁.Perm l₂) (hn : (l₁.map key).Nodup) :
    stableSort (fun a b => le (key a) (key b)) l₁ = stableSort (fun a b => le (key a) (key b)) l₂ := by
  have h' := totalPreorder_comap h key
  have p1 := stableSort_perm (fun a b => le (key a) (key b)) l₁
  have p2 := stableSort_perm (fun a b => le (key a) (key b)) l₂
  refine List.Perm.eq_of_pairwise (le := fun a b => le (key a) (key b) = true) ?_
    (stableSort_sorted h' l₁) (stableSort_sorted h' l₂) (p1.trans (hp.trans p2.symm))
  intro a b ha hb hab hba
  exact inj_of_nodup_map key hn a (p1.subset ha) b (hp.symm.subset (p2.subset hb)) (anti _ _ hab hba)

end AgpTpf.C20
