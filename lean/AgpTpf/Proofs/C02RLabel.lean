/-
  C02 returns, part 3: the label fields (`tag`, `haplotype`, `rank`, `original_name`) of the stored results when every
  Pretext scaffold carries no tag, or just `Painted` — what `ChrNamer` will see.
-/
import AgpTpf.Proofs.Lib.Namer
import AgpTpf.Proofs.C09RHap
import AgpTpf.Proofs.C09RMain
import AgpTpf.Proofs.C02RTail
namespace AgpTpf.C02R
open AgpTpf

abbrev FixedT := (Option Str × Option Str × Int × Option Str × Option (List Str) × Fragment) × Bool

/-- untagged, with an original name; rank 3 for an unpainted map (`unp`); haplotype `h0` when every first row's name
    yields the haplotype `h0` (`hp = some h0`; `h0 = none`: no name has the haplotype shape) -/
def labOK (unp : Bool) (hp : Option (Option Str)) (x : FixedT) : Prop :=
  x.1.1 = none ∧ truthy x.1.2.2.2.1 = true ∧ (unp = true → x.1.2.2.1 = 3) ∧ (∀ h0, hp = some h0 → x.1.2.1 = h0)

def LabOK (unp : Bool) (hp : Option (Option Str)) (r : Res) : Prop := labOK unp hp (C09.fixedOf r)

theorem labOK_iff (unp : Bool) (hp : Option (Option Str)) (r : Res) :
    LabOK unp hp r ↔ r.o.tag = none ∧ truthy r.o.originalName = true ∧ (unp = true → r.o.rank = 3) ∧
      (∀ h0, hp = some h0 → r.o.haplotype = h0) := Iff.rfl

structure ScOK (unp : Bool) (hp : Option (Option Str)) (S : Scaffold) : Prop where
  name : S.name ≠ []
  stags : S.fragmentTags = [] ∨ S.fragmentTags = [sPainted]
  unp : unp = true → S.fragmentTags = []
  ptags : ∀ p ∈ S.fragments, p.tags = [] ∨ p.tags = [sPainted]
  first : ∃ nm, firstRowName S.rows = .ok nm ∧ (∀ h0, hp = some h0 → hapPrefixOfName nm = h0)

def NI (hp : Option (Option Str)) (n : Namer) : Prop :=
  n.targetTags = false ∧ n.primaryHaplotype = none ∧
  ∀ g, hp = some (some g) → n.haplotypeLc = [] ∨ n.haplotypeLc = [(lowerStr g, g)]

theorem msn_plain {n n' : Namer} {scName : Str} {rows : List Row} {tags : List Str}
    (ht : tags = [] ∨ tags = [sPainted]) (h : makeScaffoldName n scName rows tags = .ok n') :
    n'.targetTags = n.targetTags ∧ n'.primaryHaplotype = n.primaryHaplotype ∧ (tags = [] → n'.currentRank = 3) ∧
    ∃ nm, firstRowName rows = .ok nm ∧
      n'.haplotypeLc = (match hapPrefixOfName nm with
        | none => n.haplotypeLc
        | some g => (dSetDefault n.haplotypeLc (lowerStr g) g).1) ∧
      n'.currentHaplotype = primarySubst n.primaryHaplotype
        ((hapPrefixOfName nm).map fun g => (dSetDefault n.haplotypeLc (lowerStr g) g).2) := by
  have hcls : hapTags tags = [] ∧ chrTags tags = [] ∧ tags.contains sTarget = false ∧ sPrimary ∉ tags := by
    rcases ht with rfl | rfl <;> decide
  obtain ⟨src, hsrc, p1, p2, p3⟩ := makeScaffoldName_haplotype hcls.2.2.2 (by rw [hcls.1]; exact fun _ ht => nomatch ht) h
  rw [hcls.1] at hsrc
  obtain ⟨nm, hnm, rfl⟩ := hsrc
  refine ⟨by rw [makeScaffoldName_frame h, hcls.2.2.1, Bool.or_false], p1, fun e => ?_, nm, hnm, p2, p3⟩
  have := makeScaffoldName_name h
  rw [hcls.2.1, e] at this
  exact this.2.2

theorem dSetDefault_single {lc : List (Str × Str)} {g : Str} (hlc : lc = [] ∨ lc = [(lowerStr g, g)]) :
    dSetDefault lc (lowerStr g) g = ([(lowerStr g, g)], g) := by
  unfold dSetDefault
  rcases hlc with e | e <;> rw [e] <;> simp [dGet?]

theorem tagRule_plain (scTags : List Str) (p : Fragment) (hp : p.tags = [] ∨ p.tags = [sPainted]) :
    C09.tagRule false scTags p = none := by
  unfold C09.tagRule
  rcases hp with e | e <;> rw [e] <;> simp <;> decide

theorem processBaits_labOK (unp : Bool) (hp : Option (Option Str)) (input : List Scaffold) (scTags : List Str) (orig : Str)
    (horig : orig ≠ []) (ps : List Fragment) (hps : ∀ p ∈ ps, p.tags = [] ∨ p.tags = [sPainted])
    (b b' : Build) (h : ps.foldlM (processBait input scTags orig) b = .ok b')
    (ht : b.namer.targetTags = false) (hr : unp = true → b.namer.currentRank = 3)
    (hh : ∀ h0, hp = some h0 → b.namer.currentHaplotype = h0) (hst : ∀ r ∈ b.store, LabOK unp hp r) :
    C09.SameMode b.namer b'.namer ∧ ∀ r ∈ b'.store, LabOK unp hp r := by
  obtain ⟨sm, _, hv⟩ := C09.processBaits_oFixed input scTags orig ps h
  refine ⟨sm, fun r hrm => ?_⟩
  have hm : C09.oFixed r.o ∈ b'.store.map (fun r => C09.oFixed r.o) := List.mem_map_of_mem hrm
  rw [hv] at hm
  rcases List.mem_append.1 hm with hm | hm
  · obtain ⟨r0, hr0, e⟩ := List.mem_map.1 hm
    have h0 := hst r0 hr0
    unfold LabOK labOK C09.fixedOf at h0 ⊢
    rwa [← e]
  · -- a new result carries `labelOf` of its fragment: no tag, the namer's rank and haplotype, the Pretext scaffold's name
    obtain ⟨p, hpm, e⟩ := List.mem_map.1 hm
    have htag := tagRule_plain scTags p (hps p (List.mem_filter.mp hpm).1)
    simp only [C09.labelOf, C09.oFixed, ht, htag, truthy, Bool.false_eq_true, if_false, Prod.mk.injEq] at e
    obtain ⟨e1, e2, e3, e4, _⟩ := e
    refine ⟨e1.symm, ?_, fun hu => e3.symm.trans (hr hu), fun h0 hn => e2.symm.trans (hh h0 hn)⟩
    show truthy r.o.originalName = true
    rw [← e4]
    cases orig with
    | nil => exact absurd rfl horig
    | cons c t => rfl

theorem overlapsStep_labOK (unp : Bool) (hp : Option (Option Str)) (input : List Scaffold) (b b' : Build) (S : Scaffold)
    (hS : ScOK unp hp S) (h : Pipeline.overlapsStep input b S = .ok b') (hn : NI hp b.namer)
    (hst : ∀ r ∈ b.store, LabOK unp hp r) : NI hp b'.namer ∧ ∀ r ∈ b'.store, LabOK unp hp r := by
  obtain ⟨n, b2, hmk, hb2, rfl⟩ := Pipeline.overlapsStep_ok h
  obtain ⟨m1, m2, m3, nm', hnm', hlc', hcur⟩ := msn_plain hS.stags hmk
  obtain ⟨nm, hfirst, hnm⟩ := hS.first
  cases hnm'.symm.trans hfirst
  rw [hn.2.1] at hcur
  have hhap : ∀ h0, hp = some h0 → n.currentHaplotype = h0 := by
    intro h0 hno
    rw [hcur, hnm h0 hno]
    cases h0 with
    | none => rfl
    | some g => exact congrArg some (congrArg Prod.snd (dSetDefault_single (hn.2.2 g hno)))
  have hlc : ∀ g, hp = some (some g) → n.haplotypeLc = [] ∨ n.haplotypeLc = [(lowerStr g, g)] := by
    intro g hno
    rw [hlc', hnm (some g) hno]
    exact .inr (congrArg Prod.fst (dSetDefault_single (hn.2.2 g hno)))
  obtain ⟨sm, hall⟩ := processBaits_labOK unp hp input S.fragmentTags S.name hS.name S.fragments hS.ptags
    { b with namer := n } b2 hb2 (by show n.targetTags = false; rw [m1]; exact hn.1)
    (fun hu => m3 (hS.unp hu)) hhap hst
  refine ⟨⟨?_, ?_, ?_⟩, ?_⟩
  · show b2.namer.targetTags = false
    rw [sm.1]; show n.targetTags = false; rw [m1]; exact hn.1
  · show b2.namer.primaryHaplotype = none
    rw [sm.2.2.2.2]; show n.primaryHaplotype = none; rw [m2]; exact hn.2.1
  · intro g hno
    show b2.namer.haplotypeLc = [] ∨ b2.namer.haplotypeLc = [(lowerStr g, g)]
    rw [sm.2.2.2.1]; exact hlc g hno
  · exact Pipeline.renameBySize_forall (fun _ _ hr => hr) _ hall

theorem findAssemblyOverlaps_labOK (unp : Bool) (hp : Option (Option Str)) (input ptx : List Scaffold)
    (hsc : ∀ S ∈ ptx, ScOK unp hp S) (b b' : Build) (h : findAssemblyOverlaps input ptx b = .ok b')
    (hn : NI hp b.namer) (hst : ∀ r ∈ b.store, LabOK unp hp r) :
    NI hp b'.namer ∧ ∀ r ∈ b'.store, LabOK unp hp r := by
  rw [Pipeline.findAssemblyOverlaps_eq] at h
  exact foldlM_inv (fun x : Build => NI hp x.namer ∧ ∀ r ∈ x.store, LabOK unp hp r) h ⟨hn, hst⟩
    (fun x S hS x' hx hs => overlapsStep_labOK unp hp input x x' S (hsc S hS) hs hx.1 hx.2)

theorem remapToInput_labOK (unp : Bool) (hp : Option (Option Str)) (input ptx : List Scaffold) (prefix_ : Str) (joinGap : Option Gap)
    (err : Int) (b : Build) (hsc : ∀ S ∈ ptx, ScOK unp hp S)
    (h : remapToInput input ptx prefix_ joinGap err = .ok b) : ∀ r ∈ b.store, LabOK unp hp r := by
  obtain ⟨b1, b4, h1, _, hfix, _⟩ := C09.remapToInput_summary input ptx prefix_ joinGap err b h
  have := findAssemblyOverlaps_labOK unp hp input ptx hsc _ b1 h1 ⟨rfl, rfl, fun _ _ => Or.inl rfl⟩
    (fun r hr => by cases hr)
  exact (List.forall_mem_map (P := labOK unp hp)).1 (hfix ▸ (List.forall_mem_map (P := labOK unp hp)).2 this.2)

end AgpTpf.C02R
