/-
  C01 stage S1: the cut QC (`qcPasses`) implies an exact tiling.
  Sorted by `(start, end)`, every adjacent pair of valid sub-fragments that abuts does so in the forward direction
  (`Follows`); a `Follows`-chain covers the interval from its first start to its last end exactly once, and the QC's length
  check makes that interval the original fragment's.
-/
import AgpTpf.Model.Remap
import AgpTpf.Proofs.Lib.Py
namespace AgpTpf.C01
open AgpTpf

def AdjRel {α} (r : α → α → Prop) : List α → Prop
  | [] => True
  | [_] => True
  | a :: b :: l => r a b ∧ AdjRel r (b :: l)

theorem adjRel_of_pairwise {α} {r : α → α → Prop} : ∀ {l : List α}, l.Pairwise r → AdjRel r l
  | [], _ => trivial
  | [_], _ => trivial
  | _ :: b :: _, h =>
    ⟨(List.pairwise_cons.1 h).1 b (List.mem_cons_self ..), adjRel_of_pairwise (List.pairwise_cons.1 h).2⟩

/-- `zip(l, l[1:])` lists the consecutive pairs -/
theorem adjRel_of_pairs {α} (r : α → α → Prop) : ∀ (l : List α), (∀ p ∈ l.zip (l.drop 1), r p.1 p.2) → AdjRel r l
  | [], _ => trivial
  | [_], _ => trivial
  | a :: b :: l, h =>
    ⟨h (a, b) (List.mem_cons_self ..), adjRel_of_pairs r (b :: l) (fun p hp => h p (List.mem_cons_of_mem _ hp))⟩

theorem adjRel_mono {α} (r s : α → α → Prop) (l : List α) (h : ∀ a b, r a b → s a b) (hl : AdjRel r l) : AdjRel s l := by
  induction l with
  | nil => trivial
  | cons a t ih =>
    cases t with
    | nil => trivial
    | cons b l' => exact ⟨h _ _ hl.1, ih hl.2⟩

def Follows (a b : Fragment) : Prop := a.name = b.name ∧ a.stop + 1 = b.start

def coversB (x : Int) (s : Fragment) : Bool := decide (s.start ≤ x ∧ x ≤ s.stop)

/-- number of fragments of `l` that contain base `x` (names ignored: used on same-named lists) -/
def coverCount (l : List Fragment) (x : Int) : Nat := (l.filter (coversB x)).length

theorem coverCount_perm {l₁ l₂ : List Fragment} (p : l₁.Perm l₂) (x : Int) : coverCount l₁ x = coverCount l₂ x :=
  (p.filter _).length_eq

theorem coverCount_cons (a : Fragment) (l : List Fragment) (x : Int) :
    coverCount (a :: l) x = (if a.start ≤ x ∧ x ≤ a.stop then 1 else 0) + coverCount l x := by
  unfold coverCount
  by_cases h : a.start ≤ x ∧ x ≤ a.stop
  · rw [List.filter_cons_of_pos (p := coversB x) (decide_eq_true h), if_pos h, List.length_cons, Nat.add_comm]
  · rw [List.filter_cons_of_neg (p := coversB x) (by simpa [coversB] using h), if_neg h, Nat.zero_add]

theorem cover_glue {p q r x : Int} (h1 : p ≤ q) (h2 : q + 1 ≤ r) :
    ((if p ≤ x ∧ x ≤ q then 1 else 0) + if q + 1 ≤ x ∧ x ≤ r then 1 else 0) = if p ≤ x ∧ x ≤ r then 1 else 0 := by
  by_cases hx : x ≤ q
  · have e2 : ¬ (q + 1 ≤ x ∧ x ≤ r) := fun h => by omega
    rw [if_neg e2, Nat.add_zero]
    simp only [and_iff_left hx, and_iff_left (show x ≤ r by omega)]
  · have e1 : ¬ (p ≤ x ∧ x ≤ q) := fun h => hx h.2
    rw [if_neg e1, Nat.zero_add]
    simp only [and_iff_right (show q + 1 ≤ x by omega), and_iff_right (show p ≤ x by omega)]

theorem chain_facts (a : Fragment) (l : List Fragment)
    (hv : ∀ s ∈ a :: l, s.start ≤ s.stop) (hc : AdjRel Follows (a :: l)) :
    ∃ last, (a :: l).getLast? = some last ∧
      sumInts ((a :: l).map Fragment.length) = last.stop - a.start + 1 ∧
      a.start ≤ last.stop ∧
      (∀ s ∈ a :: l, s.name = a.name) ∧
      ∀ x, coverCount (a :: l) x = if a.start ≤ x ∧ x ≤ last.stop then 1 else 0 := by
  induction l generalizing a with
  | nil =>
    have ha := hv a (List.mem_cons_self ..)
    refine ⟨a, rfl, by simp [sumInts, Fragment.length], ha, ?_, fun x => by rw [coverCount_cons]; rfl⟩
    intro s hs
    cases List.mem_singleton.mp hs
    rfl
  | cons b l ih =>
    obtain ⟨last, hlast, hsum, hle, hall, hcnt⟩ := ih b (fun s hs => hv s (List.mem_cons_of_mem _ hs)) hc.2
    obtain ⟨hname, hab⟩ : Follows a b := hc.1
    have hva := hv a (List.mem_cons_self ..)
    have hal : a.stop + 1 ≤ last.stop := hab ▸ hle
    refine ⟨last, by rw [List.getLast?_cons_cons]; exact hlast, ?_, by omega, ?_, ?_⟩
    · rw [List.map_cons, sumInts, hsum, Fragment.length]; omega
    · intro s hs
      rcases List.mem_cons.mp hs with rfl | hs'
      · rfl
      · exact (hall s hs').trans hname.symm
    · intro x
      rw [coverCount_cons, hcnt x, ← hab]
      exact cover_glue hva hal

def sortedSubs (subs : List Fragment) : List Fragment := stableSort lexLe subs

theorem lexLe_total (a b : Fragment) : lexLe a b = true ∨ lexLe b a = true := by
  unfold lexLe; grind

theorem lexLe_trans (a b c : Fragment) : lexLe a b = true → lexLe b c = true → lexLe a c = true := by
  unfold lexLe; grind

/-- the two checks of the QC that matter: the lengths add up, and all consecutive pairs of the sorted list abut -/
theorem qcPasses_unfold (f : Fragment) (subs : List Fragment) (h : qcPasses f subs = true) :
    f.length = sumInts (subs.map Fragment.length) ∧
    (((sortedSubs subs).zip ((sortedSubs subs).drop 1)).filter (fun p => p.1.abuts p.2)).length + 1 = subs.length := by
  unfold qcPasses at h
  simp only [Bool.and_eq_true, decide_eq_true_eq, beq_iff_eq] at h
  obtain ⟨⟨⟨h1, _⟩, h3⟩, _⟩ := h
  refine ⟨h1, ?_⟩
  unfold sortedSubs
  omega

theorem follows_of_abuts_sorted : ∀ (l : List Fragment), (∀ s ∈ l, s.start ≤ s.stop) →
    AdjRel (fun a b => a.abuts b = true) l → AdjRel (fun a b => lexLe a b = true) l → AdjRel Follows l
  | [], _, _, _ => trivial
  | [_], _, _, _ => trivial
  | a :: b :: l, hv, h1, h2 => by
    refine ⟨?_, follows_of_abuts_sorted (b :: l) (fun s hs => hv s (List.mem_cons_of_mem _ hs)) h1.2 h2.2⟩
    have ha := hv a (List.mem_cons_self ..)
    have hb := hv b (List.mem_cons_of_mem _ (List.mem_cons_self ..))
    have hab := h1.1
    have hle := h2.1
    unfold Fragment.abuts at hab
    unfold lexLe at hle
    unfold Follows
    grind

theorem qc_sorted_follows (f : Fragment) (subs : List Fragment) (hv : ∀ s ∈ subs, s.start ≤ s.stop)
    (h : qcPasses f subs = true) : subs ≠ [] ∧ AdjRel Follows (sortedSubs subs) := by
  obtain ⟨_, h2⟩ := qcPasses_unfold f subs h
  have hperm : (sortedSubs subs).Perm subs := AgpTpf.stableSort_perm _ _
  have hne : subs ≠ [] := by
    intro e; subst e; simp at h2
  refine ⟨hne, ?_⟩
  -- as many abutting pairs as pairs
  have hplen : ((sortedSubs subs).zip ((sortedSubs subs).drop 1)).length + 1 = subs.length := by
    rw [List.length_zip, List.length_drop, hperm.length_eq]
    have : 0 < subs.length := List.length_pos_iff.mpr hne
    omega
  have hall : ∀ p ∈ (sortedSubs subs).zip ((sortedSubs subs).drop 1), p.1.abuts p.2 = true :=
    List.length_filter_eq_length_iff.mp (by omega)
  exact follows_of_abuts_sorted _ (fun s hs => hv s (hperm.mem_iff.mp hs)) (adjRel_of_pairs _ _ hall)
    (adjRel_of_pairwise (stableSort_sorted lexLe lexLe_total lexLe_trans subs))

theorem countP_le_one_not_lt {α} (p : α → Bool) {l : List α} (h : l.countP p ≤ 1) {i j : Nat} {s t : α}
    (hi : l[i]? = some s) (hj : l[j]? = some t) (hs : p s = true) (ht : p t = true) : ¬ i < j := by
  intro hlt
  have h1 : 0 < (l.take j).countP p :=
    List.countP_pos_iff.mpr ⟨s, List.mem_of_getElem? (by rw [List.getElem?_take, if_pos hlt]; exact hi), hs⟩
  have h2 : 0 < (l.drop j).countP p :=
    List.countP_pos_iff.mpr ⟨t, List.mem_of_getElem? (i := 0) (by rw [List.getElem?_drop]; exact hj), ht⟩
  have := List.countP_append (p := p) (l₁ := l.take j) (l₂ := l.drop j)
  rw [List.take_append_drop] at this
  omega

theorem coverCount_one_unique (subs : List Fragment) (x : Int) (h : coverCount subs x = 1) :
    (∃ s ∈ subs, s.start ≤ x ∧ x ≤ s.stop) ∧
    ∀ (i j : Nat) (s t : Fragment), subs[i]? = some s → subs[j]? = some t →
      (s.start ≤ x ∧ x ≤ s.stop) → (t.start ≤ x ∧ x ≤ t.stop) → i = j := by
  rw [coverCount, ← List.countP_eq_length_filter] at h
  constructor
  · obtain ⟨s, hs, hc⟩ := List.countP_pos_iff.mp (by omega : 0 < subs.countP (coversB x))
    exact ⟨s, hs, of_decide_eq_true hc⟩
  · intro i j s t hi hj hs ht
    exact Nat.le_antisymm
      (Nat.le_of_not_lt (countP_le_one_not_lt _ (Nat.le_of_eq h) hj hi (decide_eq_true ht) (decide_eq_true hs)))
      (Nat.le_of_not_lt (countP_le_one_not_lt _ (Nat.le_of_eq h) hi hj (decide_eq_true hs) (decide_eq_true ht)))

theorem qc_tiles_aux (f : Fragment) (subs : List Fragment) (hv : ∀ s ∈ subs, s.start ≤ s.stop)
    (h : qcPasses f subs = true) :
    subs ≠ [] ∧
    (sortedSubs subs).Perm subs ∧ AdjRel Follows (sortedSubs subs) ∧
    sumInts (subs.map Fragment.length) = f.length ∧
    (∀ s ∈ subs, ∀ t ∈ subs, s.name = t.name) ∧
    ((∀ s ∈ subs, f.start ≤ s.start ∧ s.stop ≤ f.stop) →
      ∀ x, coverCount subs x = if f.start ≤ x ∧ x ≤ f.stop then 1 else 0) := by
  obtain ⟨hne, hchain⟩ := qc_sorted_follows f subs hv h
  obtain ⟨hlen, _⟩ := qcPasses_unfold f subs h
  have hperm : (sortedSubs subs).Perm subs := AgpTpf.stableSort_perm _ _
  cases hs : sortedSubs subs with
  | nil =>
    rw [hs] at hperm
    exact absurd hperm.symm.eq_nil hne
  | cons a l =>
    rw [hs] at hperm hchain
    obtain ⟨last, hlast, hsum, hle, hall, hcnt⟩ := chain_facts a l (fun s hs' => hv s (hperm.mem_iff.mp hs')) hchain
    have hsum' : sumInts (subs.map Fragment.length) = last.stop - a.start + 1 := by
      rw [← hsum]; exact sumInts_perm (hperm.map _).symm
    refine ⟨hne, hperm, hchain, hlen.symm, ?_, ?_⟩
    · intro s hs' t ht
      exact (hall s (hperm.mem_iff.mpr hs')).trans (hall t (hperm.mem_iff.mpr ht)).symm
    · -- a chain inside `f` that is as long as `f` starts and ends where `f` does
      intro hin x
      have ha := hin a (hperm.mem_iff.mp (List.mem_cons_self ..))
      have hl := hin last (hperm.mem_iff.mp (List.mem_of_getLast? hlast))
      have : f.length = last.stop - a.start + 1 := hlen.trans hsum'
      unfold Fragment.length at this
      obtain ⟨e1, e2⟩ : a.start = f.start ∧ last.stop = f.stop := by omega
      rw [← coverCount_perm hperm x, hcnt x, e1, e2]

end AgpTpf.C01
