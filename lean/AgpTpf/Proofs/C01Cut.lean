/-
  Helper lemmas for C01 stages S2 (`trimFragment`) and S1+S2 (`cutFragments`).
-/
import AgpTpf.Proofs.C01Qc
import AgpTpf.Proofs.Lib.Pipeline
import AgpTpf.Proofs.Lib.Overlap
namespace AgpTpf.C01
open AgpTpf

theorem trim_within_aux (o : OverlapResult) (trim : Fragment) (ks ke : Bool) (oid : Nat)
    (o' : OverlapResult) (new : Fragment) (h : o.trimFragment trim ks ke oid = .ok (o', new)) :
    trim.start ≤ new.start ∧ new.stop ≤ trim.stop ∧ new.start ≤ new.stop ∧
    new.name = trim.name ∧ new.strand = trim.strand ∧ new.oid = oid := by
  obtain ⟨a, b, -, -, -, -, rfl, hle, -⟩ := OverlapResult.trimFragment_ok_iff.mp h
  obtain ⟨h1, h2⟩ := OverlapResult.trimPiece_within o trim oid (OverlapResult.startCut_nonneg o a ks)
    (OverlapResult.endCut_nonneg o b ke)
  exact ⟨h1, h2, hle, rfl, rfl, rfl⟩

/-- body of the loop in `cutFragments` (verbatim) -/
def cutStep (f : Fragment) (last : Nat) (acc : Build × List Fragment × Nat) (sid : Nat) :
    R (Build × List Fragment × Nat) := do
    let (b, subs, i) := acc
    let r := b.store.getD sid default
    let ks := i == 0
    let ke := i == last
    let (ks, ke) := if f.strand = -1 then (ke, ks) else (ks, ke)
    let (o, new) ← r.o.trimFragment f ks ke b.nextOid
    pure ({ b with store := setAt b.store sid { r with o := o }, nextOid := b.nextOid + 1 }, subs ++ [new], i + 1)

theorem cutStep_eq : @cutStep = @Pipeline.cutHolder := rfl

/-- the holders in the order `cut_fragments` visits them -/
def cutOrder (b : Build) (fnd : Found) : R (List Nat) := do
  let keyed ← fnd.scaffolds.mapM (fun sid => do
    let k ← (getRes b.store sid).fragmentStartIfTrimmed fnd.fragment
    pure (k, sid))
  pure ((stableSort (fun (a c : Int × Nat) => a.1 ≤ c.1) keyed).map (·.2))

theorem cutOrder_eq (b : Build) (fnd : Found) : cutOrder b fnd = Pipeline.holderOrder b.store fnd := rfl

/-- the sub-fragments `cut_fragments` creates (before its QC) -/
def cutSubs (b : Build) (fnd : Found) : R (List Fragment) := do
  let ordered ← cutOrder b fnd
  let r ← ordered.foldlM (cutStep fnd.fragment (ordered.length - 1)) (b, [], 0)
  pure r.2.1

/-- what `trim_within` gives for every piece -/
def PieceOf (f s : Fragment) : Prop :=
  f.start ≤ s.start ∧ s.stop ≤ f.stop ∧ s.start ≤ s.stop ∧ s.name = f.name ∧ s.strand = f.strand

theorem PieceOf.self {f : Fragment} (h : f.start ≤ f.stop) : PieceOf f f := ⟨Int.le_refl _, Int.le_refl _, h, rfl, rfl⟩

theorem cutLoop_pieces {f : Fragment} {last : Nat} {l : List Nat} {b b' : Build} {subs : List Fragment} {n : Nat}
    (h : l.foldlM (Pipeline.cutHolder f last) (b, [], 0) = .ok (b', subs, n)) :
    subs.length = l.length ∧ b'.cuts = b.cuts ∧ ∀ s ∈ subs, PieceOf f s := by
  obtain ⟨_, _, _, hc, _, _, hl⟩ := Pipeline.cutLoop_frame h
  refine ⟨by simpa using hl, hc, ?_⟩
  refine foldlM_inv (fun st => ∀ s ∈ st.2.1, PieceOf f s) h (fun _ hs => nomatch hs) ?_
  intro ⟨b1, subs1, i⟩ sid _ st' hP hs
  obtain ⟨o, new, ht, rfl⟩ := Pipeline.cutHolder_ok hs
  intro s hs
  rcases List.mem_append.mp hs with hs | hs
  · exact hP s hs
  · cases List.mem_singleton.mp hs
    obtain ⟨h1, h2, h3, h4, h5, _⟩ := trim_within_aux _ _ _ _ _ _ _ ht
    exact ⟨h1, h2, h3, h4, h5⟩

end AgpTpf.C01
