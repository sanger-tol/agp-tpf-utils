/-
  T1c / C11 — the tie between the model's `Scaffold.junctionSet` / `junctionsByPrefix` and the translated source
  (`Gen.Imp.Scaffold_fragment_junction_set`, `Gen.Imp.Assembly_fragment_junctions_by_asm_prefix`, Gen/Imp3.lean).
  The iterator loop `while True: this = next(itr) …` is treated over an ARBITRARY body that does what one pass does (`JBody`);
  only the three `…Src_…` theorems unfold the generated definitions, and the loop bodies enter there through side goals
  closed by `cases` + `rfl`.
-/
import AgpTpf.Gen.Imp3
import AgpTpf.Proofs.Lib.PyRt
namespace AgpTpf.ImpJunctions
open AgpTpf

theorem asmPrefixMatch_lower (name : Str) : (PyRt.asmPrefixMatch name).map lowerStr = asmPrefixOfName name := by
  unfold PyRt.asmPrefixMatch asmPrefixOfName
  simp only []
  generalize List.dropWhile isDigit (List.dropWhile isAlpha name) = rest
  split
  · split <;> rfl
  · split
    · rename_i hne; exact absurd rfl (hne _)
    · rfl

/-- the state of the loop, packed in the translator's order (by the Lean text of the type, then by name): `(itr, junctions, prev)` -/
abbrev JSt := List Fragment × List Junction × Fragment
abbrev JSt.pack (itr : List Fragment) (junctions : List Junction) (prev : Fragment) : JSt := (itr, junctions, prev)

/-- what one pass through the body of `while True:` does: `next(itr)` raises StopIteration → `break`; otherwise the junction tuple of
    `prev` and the new item is added to the set (it may raise), the new item becomes `prev` -/
def JBody {ρ : Type} (body : JSt → R (PyRt.Ctl JSt ρ)) : Prop :=
  ∀ itr J prev, body (JSt.pack itr J prev) =
    match itr with
    | [] => .ok (.brk (JSt.pack itr J prev))
    | t :: r => junctionTuple prev t >>= fun j => .ok (.next (JSt.pack r (sAdd J j) t))

/-- the loop spends one pass per item and one more for the pass that sees StopIteration; with less fuel it runs out after the items it got to -/
theorem junctionLoop {ρ : Type} (cond : JSt → R Bool) (body : JSt → R (PyRt.Ctl JSt ρ))
    (hcond : ∀ s, cond s = .ok true) (hbody : JBody body)
    (fuel : Nat) (itr : List Fragment) (J : List Junction) (prev : Fragment) :
    PyRt.whileLoop fuel (JSt.pack itr J prev) cond body =
      (junctionsOfFrags (prev :: itr.take fuel) >>= fun js =>
        if itr.length < fuel then .ok (.fell (JSt.pack [] (js.foldl sAdd J) (itr.getLastD prev))) else .error .other) := by
  induction fuel generalizing itr J prev with
  | zero => rfl
  | succ fuel ih =>
    rw [PyRt.whileLoop, hcond]
    simp only []
    rw [hbody]
    cases itr with
    | nil => rfl
    | cons t r =>
      simp only [List.take_succ_cons, junctionsOfFrags, List.length_cons, Nat.add_lt_add_iff_right]
      cases junctionTuple prev t with
      | error e => rfl
      | ok j =>
        simp only [bind, Except.bind, List.getLastD_cons] at ih ⊢
        rw [ih r (sAdd J j) t]
        cases junctionsOfFrags (t :: List.take fuel r) <;> rfl

theorem junctionSet_eq (s : Scaffold) :
    s.junctionSet = (junctionsOfFrags s.fragments >>= fun js => .ok (js.foldl sAdd [])) := rfl

theorem scaffoldJunctionSetSrc_eq (s : Scaffold) (fuel : Nat) (h : s.fragments.length ≤ fuel) :
    Gen.Imp.Scaffold_fragment_junction_set fuel s = s.junctionSet := by
  unfold Gen.Imp.Scaffold_fragment_junction_set
  rw [junctionSet_eq]
  simp only []
  cases hf : s.fragments with
  | nil => rfl
  | cons a r =>
    rw [hf] at h
    simp only [PyRt.iterNext]
    rw [junctionLoop _ _ (fun _ => rfl) _ fuel r [] a, List.take_of_length_le (by simp only [List.length_cons] at h; omega)]
    simp only [show r.length < fuel by simp only [List.length_cons] at h; omega, if_true]
    · cases junctionsOfFrags (a :: r) <;> rfl
    · intro itr J prev; cases itr <;> rfl

theorem scaffoldJunctionSetSrc_short (s : Scaffold) (fuel : Nat) (h : fuel < s.fragments.length) :
    Gen.Imp.Scaffold_fragment_junction_set fuel s
      = (junctionsOfFrags (s.fragments.take (fuel + 1)) >>= fun _ => .error .other) := by
  unfold Gen.Imp.Scaffold_fragment_junction_set
  simp only []
  cases hf : s.fragments with
  | nil => rw [hf] at h; simp at h
  | cons a r =>
    rw [hf] at h
    simp only [PyRt.iterNext, List.take_succ_cons]
    rw [junctionLoop _ _ (fun _ => rfl) _ fuel r [] a]
    simp only [show ¬ r.length < fuel by simp only [List.length_cons] at h; omega, if_false]
    · cases junctionsOfFrags (a :: List.take fuel r) <;> rfl
    · intro itr J prev; cases itr <;> rfl

def prefixStep (acc : List (Option Str × List Junction)) (sc : Scaffold) : R (List (Option Str × List Junction)) :=
  match sc.fragments with
  | [] => pure acc
  | f :: _ => do
    let js ← sc.junctionSet
    let k := asmPrefixOfName f.name
    let cur := (dGet? acc k).getD []
    pure (dSet acc k (sUnion cur js))

theorem junctionsByPrefix_eq (scs : List Scaffold) : junctionsByPrefix scs = scs.foldlM prefixStep [] := rfl

theorem junctionsByPrefixSrc_eq (scs : List Scaffold) (fuel : Nat) (h : ∀ s ∈ scs, (Scaffold.fragments s).length ≤ fuel) :
    Gen.Imp.Assembly_fragment_junctions_by_asm_prefix fuel scs = junctionsByPrefix scs := by
  unfold Gen.Imp.Assembly_fragment_junctions_by_asm_prefix
  rw [junctionsByPrefix_eq]
  simp only []
  rw [PyRt.forIn_foldlM prefixStep ?_]
  · cases List.foldlM prefixStep [] scs <;> rfl
  · intro sc hsc d
    rw [scaffoldJunctionSetSrc_eq sc fuel (h sc hsc)]
    unfold prefixStep
    cases hf : sc.fragments with
    | nil => rfl
    | cons f r =>
      simp only [PyRt.iterNext]
      rw [← asmPrefixMatch_lower]
      cases sc.junctionSet with
      | error e => rfl
      | ok js => cases PyRt.asmPrefixMatch f.name <;> rfl

end AgpTpf.ImpJunctions
