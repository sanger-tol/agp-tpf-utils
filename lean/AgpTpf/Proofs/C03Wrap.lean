/-
  The line wrapper of `FastaStream.write_scaffold` (`writeChunk`) — helper lemmas for C03 / C13.
  First, for every `want` (also `≤ 0`): one pass of `writeChunk` written out (`ImpStream.writeChunk_succ`) and its independence of
  the fuel (`ImpStream.writeChunk_spec`), which the tie to the translated `while True` loop reads.
  `wrapGo` is a byte-at-a-time specification of the wrapper state machine; `linesOf` the closed form of its output.
-/
import AgpTpf.Model.Fasta
namespace AgpTpf.ImpStream
open AgpTpf

/-- what `chunk.read(want)` returns when `chunk` is what is left -/
def seqOf (want : Int) (chunk : Bytes) : Bytes := if want < 0 then chunk else chunk.take want.toNat

theorem writeChunk_succ (w : Int) (f : Nat) (want : Int) (chunk : Bytes) :
    writeChunk w (f + 1) want chunk =
      if (seqOf want chunk).isEmpty then ([], want)
      else if want - ((seqOf want chunk).length : Int) = 0 then
        (seqOf want chunk ++ [10] ++ (writeChunk w f w (chunk.drop (seqOf want chunk).length)).1,
         (writeChunk w f w (chunk.drop (seqOf want chunk).length)).2)
      else
        (seqOf want chunk ++ (writeChunk w f (want - ((seqOf want chunk).length : Int)) (chunk.drop (seqOf want chunk).length)).1,
         (writeChunk w f (want - ((seqOf want chunk).length : Int)) (chunk.drop (seqOf want chunk).length)).2) := by
  rw [writeChunk]
  simp only [← seqOf.eq_1]
  by_cases h1 : (seqOf want chunk).isEmpty = true
  · simp only [h1, if_true]
  · by_cases h2 : want - ((seqOf want chunk).length : Int) = 0
    · simp only [h1, h2, if_true, if_false, Bool.false_eq_true]
    · simp only [h1, h2, if_false, Bool.false_eq_true, List.append_nil]

theorem seqOf_length_pos {want : Int} {chunk : Bytes} (h : ¬ (seqOf want chunk).isEmpty = true) :
    0 < (seqOf want chunk).length := by
  apply List.length_pos_iff.mpr
  intro h'; exact h (by simp [h'])

theorem seqOf_length_le (want : Int) (chunk : Bytes) : (seqOf want chunk).length ≤ chunk.length := by
  unfold seqOf; split
  · exact Nat.le_refl _
  · rw [List.length_take]; omega

theorem writeChunk_spec (w : Int) (n : Nat) : ∀ (f : Nat) (want : Int) (chunk : Bytes), chunk.length ≤ n → n < f →
    writeChunk w f want chunk = writeChunk w (n + 1) want chunk := by
  induction n with
  | zero =>
    intro f want chunk hl hf
    obtain ⟨f, rfl⟩ : ∃ k, f = k + 1 := ⟨f - 1, by omega⟩
    have : chunk = [] := List.eq_nil_of_length_eq_zero (by omega)
    subst this
    simp [writeChunk_succ, seqOf]
  | succ n ih =>
    intro f want chunk hl hf
    obtain ⟨f, rfl⟩ : ∃ k, f = k + 1 := ⟨f - 1, by omega⟩
    rw [writeChunk_succ, writeChunk_succ w (n + 1)]
    by_cases hemp : (seqOf want chunk).isEmpty = true
    · simp only [hemp, if_true]
    · have hpos := seqOf_length_pos hemp
      have hd : (chunk.drop (seqOf want chunk).length).length ≤ n := by rw [List.length_drop]; omega
      rw [ih f _ _ hd (by omega), ih f _ _ hd (by omega)]

end AgpTpf.ImpStream

namespace AgpTpf.WrapProofs
open AgpTpf

/-- byte-at-a-time line wrapper: `want` = bytes still missing in the current line; a newline is written as soon
    as a line is full.  Returns the written bytes and the new `want`. -/
def wrapGo (w : Int) : Int → Bytes → Bytes × Int
  | want, [] => ([], want)
  | want, b :: bs =>
    if want = 1 then (b :: 10 :: (wrapGo w w bs).1, (wrapGo w w bs).2)
    else (b :: (wrapGo w (want - 1) bs).1, (wrapGo w (want - 1) bs).2)

theorem wrapGo_append (w : Int) : ∀ (c₁ c₂ : Bytes) (want : Int),
    wrapGo w want (c₁ ++ c₂)
      = ((wrapGo w want c₁).1 ++ (wrapGo w (wrapGo w want c₁).2 c₂).1, (wrapGo w (wrapGo w want c₁).2 c₂).2)
  | [], c₂, want => by simp [wrapGo]
  | b :: c₁, c₂, want => by
    simp only [List.cons_append, wrapGo]
    split
    · rw [wrapGo_append w c₁ c₂ w]; simp
    · rw [wrapGo_append w c₁ c₂ (want - 1)]; simp

theorem wrapGo_short (w : Int) : ∀ (s : Bytes) (want : Int), (s.length : Int) < want →
    wrapGo w want s = (s, want - s.length)
  | [], want, _ => by simp [wrapGo]
  | b :: s, want, h => by
    simp only [List.length_cons, Int.natCast_add, Int.cast_ofNat_Int] at h
    have h1 : want ≠ 1 := by omega
    simp only [wrapGo, h1, if_false]
    rw [wrapGo_short w s (want - 1) (by omega)]
    simp only [List.length_cons, Int.natCast_add, Int.cast_ofNat_Int, Prod.mk.injEq, true_and]
    omega

theorem wrapGo_full (w : Int) : ∀ (s : Bytes) (want : Int), 1 ≤ want → (s.length : Int) = want →
    wrapGo w want s = (s ++ [10], w)
  | [], want, h1, h => by simp at h; omega
  | b :: s, want, h1, h => by
    simp only [List.length_cons, Int.natCast_add, Int.cast_ofNat_Int] at h
    by_cases h2 : want = 1
    · have : s = [] := by
        have : s.length = 0 := by omega
        exact List.length_eq_zero_iff.mp this
      subst this
      simp [wrapGo, h2]
    · simp only [wrapGo, h2, if_false]
      rw [wrapGo_full w s (want - 1) (by omega) (by omega)]
      simp

/-- `writeChunk` (the `while True: chunk.read(want)` loop) is the byte-wise wrapper, for a positive line length, `1 ≤ want`
    (`want = 0` reads nothing and drops the chunk) and the fuel `streamRow` passes (`chunk.length + 1`) or more. -/
theorem writeChunk_eq_wrapGo (w : Int) (hw1 : 1 ≤ w) : ∀ (fuel : Nat) (want : Int) (chunk : Bytes),
    1 ≤ want → chunk.length + 1 ≤ fuel → writeChunk w fuel want chunk = wrapGo w want chunk
  | 0, _, _, _, hf => absurd hf (Nat.not_succ_le_zero _)
  | fuel + 1, want, chunk, h1, hf => by
    have hseq : ImpStream.seqOf want chunk = chunk.take want.toNat := if_neg (by omega)
    rw [ImpStream.writeChunk_succ, hseq]
    by_cases hlt : (chunk.length : Int) < want
    · -- the whole chunk fits without filling the line; the next read is empty
      rw [List.take_of_length_le (by omega), wrapGo_short w chunk want hlt, List.drop_length]
      cases chunk with
      | nil => simp
      | cons b t =>
        rw [if_neg (by simp), if_neg (by omega), writeChunk_eq_wrapGo w hw1 fuel _ [] (by omega) (by simp at hf ⊢; omega)]
        simp [wrapGo]
    · -- the read fills the line; what is left starts a fresh one
      have hn : (chunk.take want.toNat).length = want.toNat := List.length_take_of_le (by omega)
      rw [if_neg (by rw [List.isEmpty_iff_length_eq_zero, hn]; omega), if_pos (by omega), hn,
        writeChunk_eq_wrapGo w hw1 fuel w _ hw1 (by rw [List.length_drop]; omega)]
      conv => rhs; rw [← List.take_append_drop want.toNat chunk, wrapGo_append, wrapGo_full w _ want h1 (by omega)]

/-- the `want` after writing `s`: `w - ((w - want + |s|) mod w)`, i.e. the column advances by `|s|` modulo `w`. -/
theorem wrapGo_want (w : Int) (hw : 1 ≤ w) : ∀ (s : Bytes) (want : Int), 1 ≤ want → want ≤ w →
    (wrapGo w want s).2 = w - ((w - want + s.length) % w)
  | [], want, h1, h2 => by
    simp only [wrapGo, List.length_nil, Int.natCast_zero, Int.add_zero]
    rw [Int.emod_eq_of_lt (by omega) (by omega)]; omega
  | b :: s, want, h1, h2 => by
    simp only [wrapGo, List.length_cons, Int.natCast_add, Int.cast_ofNat_Int]
    split
    · next h =>
      rw [wrapGo_want w hw s w (by omega) (by omega)]
      subst h
      have : w - 1 + ((s.length : Int) + 1) = (w - w + s.length) + w := by omega
      rw [this, Int.add_emod_right]
    · next h =>
      rw [wrapGo_want w hw s (want - 1) (by omega) (by omega)]
      have : w - (want - 1) + (s.length : Int) = w - want + ((s.length : Int) + 1) := by omega
      rw [this]

theorem wrapGo_want_range (w : Int) (hw : 1 ≤ w) (s : Bytes) (want : Int) (h1 : 1 ≤ want) (h2 : want ≤ w) :
    1 ≤ (wrapGo w want s).2 ∧ (wrapGo w want s).2 ≤ w := by
  rw [wrapGo_want w hw s want h1 h2]
  have := Int.emod_nonneg (w - want + s.length) (show w ≠ 0 by omega)
  have := Int.emod_lt_of_pos (w - want + s.length) (show 0 < w by omega)
  omega

/-- writing a list of chunks one after the other, as `write_scaffold` does: written bytes and final `want` -/
def writeAll (w : Int) : Int → List Bytes → Bytes × Int
  | want, [] => ([], want)
  | want, c :: cs =>
    ((writeChunk w (c.length + 1) want c).1 ++ (writeAll w (writeChunk w (c.length + 1) want c).2 cs).1,
     (writeAll w (writeChunk w (c.length + 1) want c).2 cs).2)

theorem wrapGo_want_pos (w : Int) (hw : 1 ≤ w) : ∀ (s : Bytes) (want : Int), 1 ≤ want → 1 ≤ (wrapGo w want s).2
  | [], _, h => h
  | _ :: s, want, h => by
    rw [wrapGo]
    split
    · exact wrapGo_want_pos w hw s w hw
    · exact wrapGo_want_pos w hw s (want - 1) (by omega)

theorem writeAll_append (w : Int) : ∀ (a b : List Bytes) (want : Int),
    writeAll w want (a ++ b) =
      ((writeAll w want a).1 ++ (writeAll w (writeAll w want a).2 b).1, (writeAll w (writeAll w want a).2 b).2)
  | [], b, want => by simp [writeAll]
  | c :: a, b, want => by simp [writeAll, writeAll_append w a b]

/-- chunks written one after the other go through the byte-wise wrapper as one string: the bytes written do not depend on how
    they were cut into chunks -/
theorem writeAll_eq_wrapGo (w : Int) (hw : 1 ≤ w) : ∀ (cs : List Bytes) (want : Int), 1 ≤ want →
    writeAll w want cs = wrapGo w want cs.flatten
  | [], want, _ => by simp [writeAll, wrapGo]
  | c :: cs, want, h => by
    rw [writeAll, writeChunk_eq_wrapGo w hw _ want c h (Nat.le_refl _),
      writeAll_eq_wrapGo w hw cs _ (wrapGo_want_pos w hw c want h), List.flatten_cons, wrapGo_append]

/-- the lines of a record body of width `w`: consecutive slices of `w` bytes, the last one shorter if need be;
    no line for an empty body. -/
def linesOf (w : Nat) (s : Bytes) : List Bytes :=
  if h : w = 0 ∨ s.length ≤ w then (if s = [] then [] else [s])
  else s.take w :: linesOf w (s.drop w)
termination_by s.length
decreasing_by simp only [List.length_drop]; omega

theorem linesOf_short {w : Nat} {s : Bytes} (hs : s ≠ []) (hl : s.length ≤ w) : linesOf w s = [s] := by
  rw [linesOf, dif_pos (Or.inr hl), if_neg hs]

theorem linesOf_full_append {w : Nat} (hw : 0 < w) {l s : Bytes} (hl : l.length = w) (hs : s ≠ []) :
    linesOf w (l ++ s) = l :: linesOf w s := by
  have hpos := List.length_pos_iff.mpr hs
  rw [linesOf, dif_neg (by simp only [List.length_append]; omega), ← hl, List.take_left, List.drop_left]

theorem linesOf_min {w : Nat} {s : Bytes} (hs : s ≠ []) : linesOf w s = linesOf (min w s.length) s := by
  by_cases h : s.length ≤ w
  · rw [linesOf_short hs h, linesOf_short hs (by omega)]
  · rw [show min w s.length = w by omega]

/-- what `write_scaffold` writes after the header for a body `s`: wrapper from a fresh line, plus the final
    newline when the last line is incomplete. -/
def wrapBody (w : Int) (s : Bytes) : Bytes :=
  if (wrapGo w w s).2 ≠ w then (wrapGo w w s).1 ++ [10] else (wrapGo w w s).1

theorem wrapBody_eq_lines (w : Nat) (hw : 1 ≤ w) (s : Bytes) :
    wrapBody (w : Int) s = ((linesOf w s).map (· ++ [10])).flatten := by
  fun_induction linesOf w s with
  | case1 h => simp [wrapBody, wrapGo]
  | case2 s h hs =>
    have hl : s.length ≤ w := by omega
    have hpos : 0 < s.length := List.length_pos_iff.mpr hs
    unfold wrapBody
    by_cases he : s.length = w
    · rw [wrapGo_full (w : Int) s w (by omega) (by omega)]; simp
    · rw [wrapGo_short (w : Int) s w (by omega)]
      have : ¬ ((w : Int) - (s.length : Int) = w) := by omega
      simp [this]
  | case3 s h ih =>
    have hl : w < s.length := by omega
    have hsplit : s = List.take w s ++ List.drop w s := (List.take_append_drop _ _).symm
    have htl : ((List.take w s).length : Int) = w := by simp only [List.length_take]; omega
    have key : wrapGo (w : Int) w s
        = ((List.take w s ++ [10]) ++ (wrapGo (w : Int) w (List.drop w s)).1, (wrapGo (w : Int) w (List.drop w s)).2) := by
      conv => lhs; rw [hsplit]
      rw [wrapGo_append, wrapGo_full (w : Int) _ w (by omega) htl]
    unfold wrapBody at ih ⊢
    rw [key]
    simp only [List.map_cons, List.flatten_cons, ← ih]
    split <;> simp

theorem linesOf_flatten (w : Nat) (s : Bytes) : (linesOf w s).flatten = s := by
  fun_induction linesOf w s with
  | case1 h => simp
  | case2 s h hs => simp
  | case3 s h ih => simp [ih]

theorem linesOf_len (w : Nat) (hw : 1 ≤ w) (s : Bytes) : ∀ l ∈ linesOf w s, 1 ≤ l.length ∧ l.length ≤ w := by
  fun_induction linesOf w s with
  | case1 h => simp
  | case2 s h hs =>
    intro l hl
    simp only [List.mem_singleton] at hl
    subst hl
    have := List.length_pos_iff.mpr hs
    omega
  | case3 s h ih =>
    intro l hl
    rcases List.mem_cons.mp hl with rfl | hl
    · simp only [List.length_take]; omega
    · exact ih l hl

theorem linesOf_full (w : Nat) (hw : 1 ≤ w) (s : Bytes) : ∀ l ∈ (linesOf w s).dropLast, l.length = w := by
  fun_induction linesOf w s with
  | case1 h => simp
  | case2 s h hs => simp
  | case3 s h ih =>
    intro l hl
    have hne : linesOf w (List.drop w s) ≠ [] := by
      intro hnil
      have := linesOf_flatten w (List.drop w s)
      rw [hnil] at this
      have := congrArg List.length this
      simp only [List.flatten_nil, List.length_nil, List.length_drop] at this
      omega
    rw [List.dropLast_cons_of_ne_nil hne] at hl
    rcases List.mem_cons.mp hl with rfl | hl
    · simp only [List.length_take]; omega
    · exact ih l hl

theorem linesOf_count (w : Nat) (hw : 1 ≤ w) (s : Bytes) : (linesOf w s).length = (s.length + w - 1) / w := by
  fun_induction linesOf w s with
  | case1 h =>
    simp only [List.length_nil]
    rw [Nat.div_eq_of_lt]; omega
  | case2 s h hs =>
    have := List.length_pos_iff.mpr hs
    simp only [List.length_singleton]
    have : s.length + w - 1 = (s.length - 1) + 1 * w := by omega
    rw [this, Nat.add_mul_div_right _ _ (by omega), Nat.div_eq_of_lt (by omega)]
  | case3 s h ih =>
    simp only [List.length_cons, ih, List.length_drop]
    have : s.length + w - 1 = (s.length - w + w - 1) + 1 * w := by omega
    rw [this, Nat.add_mul_div_right _ _ (by omega)]

theorem mem_linesOf (w : Nat) (s : Bytes) : ∀ l ∈ linesOf w s, ∀ b ∈ l, b ∈ s := by
  intro l hl b hb
  rw [← linesOf_flatten w s]
  exact List.mem_flatten.mpr ⟨l, hl, hb⟩

end AgpTpf.WrapProofs
