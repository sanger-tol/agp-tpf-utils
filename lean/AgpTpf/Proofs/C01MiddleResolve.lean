/-
  C01, the middle of `remap_to_input_assembly` — part 2 (L2): the store side of one round of the overhang resolver,
  for a well-formed input.  A premise formed from `Mid` points at a terminal row of its holder (`Valid`); applying it takes
  one copy of its contig off the store; `FInv` is what the `make_fixes` loop over the premise lists (`fixOne`) keeps.
-/
import AgpTpf.Proofs.C01MiddleBase
namespace AgpTpf.C01
open AgpTpf

def Premise.key (p : Premise) : Key := p.fragment.keyTuple

/-- the premise still points at the current terminal row of its result, which counts for the registry -/
def Valid (store : List Res) (p : Premise) : Prop :=
  ∃ r, store[p.sid]? = some r ∧ r.added = true ∧
    (match p.kind with
     | .start => r.o.rows.head? = some (.frag p.fragment)
     | .stop => r.o.rows.getLast? = some (.frag p.fragment))

theorem getD_of_getElem? {store : List Res} {sid : Nat} {r : Res} (h : store[sid]? = some r) :
    store.getD sid default = r := by
  rw [List.getD_eq_getElem?_getD, h]; rfl

theorem storeFrags_set_count (q : Fragment → Bool) (store : List Res) (sid : Nat) (r r' : Res)
    (h : store[sid]? = some r) :
    (storeFrags (store.set sid r')).countP q + (resFrags r).countP q =
      (storeFrags store).countP q + (resFrags r').countP q := by
  obtain ⟨hlt, rfl⟩ := List.getElem?_eq_some_iff.mp h
  rw [List.set_eq_take_append_cons_drop, if_pos hlt]
  conv => rhs; rw [← List.take_append_drop sid store, ← List.getElem_cons_drop hlt]
  simp only [storeFrags, List.flatMap_append, List.flatMap_cons, List.countP_append]
  omega

theorem holdCount_set (store : List Res) (sid : Nat) (r r' : Res) (h : store[sid]? = some r) (k : Key) (s : Nat) :
    holdCount (store.set sid r') k s = if s = sid then (resFrags r').countP (hasKey k) else holdCount store k s := by
  unfold holdCount
  rw [List.getElem?_set]
  have hlt : sid < store.length := (List.getElem?_eq_some_iff.mp h).1
  by_cases e : s = sid
  · subst e; simp [hlt]
  · have : ¬ sid = s := fun e' => e e'.symm
    simp [this, e]

theorem holdCount_self (store : List Res) (sid : Nat) (r : Res) (h : store[sid]? = some r) (k : Key) :
    holdCount store k sid = (resFrags r).countP (hasKey k) := by
  unfold holdCount; rw [h]

theorem apply_spec {p : Premise} {store store' : List Res} (hv : Valid store p) (h : p.apply store = .ok store') :
    ∃ r o' A B, store[p.sid]? = some r ∧ r.added = true ∧ store' = store.set p.sid { r with o := o' } ∧
      r.o.rows = A ++ o'.rows ++ B ∧ fragmentsOf (A ++ B) = [p.fragment] := by
  obtain ⟨r, hr, hadd, hk⟩ := hv
  obtain ⟨o', ho, rfl⟩ := Pipeline.apply_ok h
  unfold Premise.discard getRes at ho
  rw [getD_of_getElem? hr] at ho ⊢
  cases hkind : p.kind with
  | start =>
    rw [hkind] at hk ho
    obtain ⟨d, G, T, hrows, hG, _, rfl⟩ := OverlapResult.discardStart_ok ho
    rw [hrows] at hk
    cases hk
    exact ⟨r, _, .frag p.fragment :: G, [], hr, hadd, rfl, by rw [hrows]; simp,
      by rw [List.append_nil, fragmentsOf_cons_frag, fragmentsOf_eq_nil hG]⟩
  | stop =>
    rw [hkind] at hk ho
    obtain ⟨d, G, T, hrows, hG, _, rfl⟩ := OverlapResult.discardEnd_ok ho
    rw [hrows, List.getLast?_concat] at hk
    cases hk
    exact ⟨r, _, [], G ++ [.frag p.fragment], hr, hadd, rfl, by rw [hrows]; simp,
      by rw [List.nil_append, fragmentsOf_append, fragmentsOf_eq_nil hG]; rfl⟩

theorem Valid.apply {p q : Premise} {store store' : List Res} (hv : Valid store p) (h : p.apply store = .ok store')
    (hq : Valid store q) (hne : q.fragment ≠ p.fragment) : Valid store' q := by
  obtain ⟨r, o', A, B, hr, _, rfl, hrows, hAB⟩ := apply_spec hv h
  obtain ⟨rq, hrq, haq, hkq⟩ := hq
  by_cases hs : q.sid = p.sid
  · rw [hs, hr] at hrq
    cases hrq
    have hnot : Row.frag q.fragment ∉ A ++ B := fun m => hne (by simpa [hAB] using mem_fragmentsOf.mpr m)
    rw [List.mem_append, not_or] at hnot
    refine ⟨{ r with o := o' }, by rw [hs, List.getElem?_set_self (List.getElem?_eq_some_iff.mp hr).1], haq, ?_⟩
    rw [hrows] at hkq
    cases hkind : q.kind with
    | start => rw [hkind] at hkq; exact head?_of_append3 hkq hnot.1 hnot.2
    | stop => rw [hkind] at hkq; exact getLast?_of_append3 hkq hnot.1 hnot.2
  · exact ⟨rq, by rw [List.getElem?_set_ne (fun e => hs e.symm)]; exact hrq, haq, hkq⟩

def fixAt (k : Key) (s : Nat) (p : Premise) : Bool := decide (p.fragment.keyTuple = k ∧ p.sid = s)
def fixOf (k : Key) (p : Premise) : Bool := decide (p.fragment.keyTuple = k)

/-- the ledger of an application: the holder has one copy less of the premise's contig (`q` arbitrary: an equation between
    multisets, said by counts) -/
theorem apply_resFrags {p : Premise} {store store' : List Res} (hv : Valid store p) (h : p.apply store = .ok store') :
    ∃ r r', store[p.sid]? = some r ∧ store' = store.set p.sid r' ∧
      ∀ q : Fragment → Bool, (resFrags r').countP q + (if q p.fragment then 1 else 0) = (resFrags r).countP q := by
  obtain ⟨r, o', A, B, hr, hadd, rfl, hrows, hAB⟩ := apply_spec hv h
  refine ⟨r, _, hr, rfl, fun q => ?_⟩
  have := congrArg (List.countP q) hAB
  rw [fragmentsOf_append, List.countP_append, List.countP_singleton] at this
  simp only [resFrags, hadd, if_true, hrows, fragmentsOf_append, List.countP_append]
  omega

theorem apply_holdCount {p : Premise} {store store' : List Res} (hv : Valid store p) (h : p.apply store = .ok store')
    (k : Key) (s : Nat) : holdCount store' k s + (if fixAt k s p then 1 else 0) = holdCount store k s := by
  obtain ⟨r, r', hr, rfl, hres⟩ := apply_resFrags hv h
  rw [holdCount_set _ _ _ _ hr]
  by_cases hs : s = p.sid
  · rw [if_pos hs, hs, holdCount_self _ _ _ hr, ← hres (hasKey k)]
    simp [fixAt, hasKey]
  · rw [if_neg hs, if_neg (by simp [fixAt, Ne.symm hs]), Nat.add_zero]

theorem apply_storeFrags {p : Premise} {store store' : List Res} (hv : Valid store p) (h : p.apply store = .ok store')
    (q : Fragment → Bool) : (storeFrags store').countP q + (if q p.fragment then 1 else 0) = (storeFrags store).countP q := by
  obtain ⟨r, r', hr, rfl, hres⟩ := apply_resFrags hv h
  have := storeFrags_set_count q store p.sid r r' hr
  have := hres q
  omega

theorem firstIs_true {o : OverlapResult} {f : Fragment} (h : o.firstIs f = .ok true) :
    ∃ g t, o.rows = .frag g :: t ∧ g.oid = f.oid := by
  obtain ⟨r, t, hr, e⟩ := OverlapResult.firstIs_ok_iff.mp h
  obtain ⟨g, rfl, hg⟩ := OverlapResult.rowIs_true e.symm
  exact ⟨g, t, hr, hg⟩

theorem lastIs_true {o : OverlapResult} {f : Fragment} (h : o.lastIs f = .ok true) :
    ∃ g t, o.rows = t ++ [.frag g] ∧ g.oid = f.oid := by
  obtain ⟨t, r, hr, e⟩ := OverlapResult.lastIs_ok_iff.mp h
  obtain ⟨g, rfl, hg⟩ := OverlapResult.rowIs_true e.symm
  exact ⟨g, t, hr, hg⟩

theorem premise_valid {input : List Scaffold} (hwf : WFInput input) {b : Build} (hm : Mid input b) {k : Key} {fnd : Found}
    (hf : dGet? b.found k = some fnd) {sid : Nat} (hsid : sid ∈ fnd.scaffolds) {p : Premise}
    (hp : Pipeline.premiseOf b.store fnd.fragment sid = .ok (some p)) : Valid b.store p ∧ p.fragment.keyTuple = k := by
  obtain ⟨hkey, hfin⟩ := hm.foundOK k fnd hf
  obtain ⟨e1, e2, hs, he⟩ := Pipeline.premiseOf_some hp
  obtain ⟨r, hr, hadd⟩ := hm.holder_added (k := k) (holders_of_found hf ▸ hsid)
  have hres : getRes b.store sid = r.o := by unfold getRes; rw [getD_of_getElem? hr]
  -- the terminal row has the recorded object's id, so it IS the recorded object
  have hg : ∀ g, Row.frag g ∈ r.o.rows → g.oid = fnd.fragment.oid → g = fnd.fragment := fun g hg1 hg2 =>
    hwf.oid_inj (mem_inputFrags_of_slice (hm.slices r (List.mem_of_getElem? hr)) hg1) hfin hg2
  refine ⟨⟨r, e1 ▸ hr, hadd, ?_⟩, e2 ▸ hkey⟩
  rw [hres] at hs he
  cases hkind : p.kind with
  | start =>
    obtain ⟨g, t, hrows, hoid⟩ := firstIs_true (hs hkind)
    obtain rfl := hg g (by rw [hrows]; simp) hoid
    simp [hrows, e2]
  | stop =>
    obtain ⟨g, t, hrows, hoid⟩ := lastIs_true (he hkind).2
    obtain rfl := hg g (by rw [hrows]; simp) hoid
    simp [hrows, e2]

/-- state of the loop over the premise lists: `rest` are the lists still to be looked at -/
structure FInv (input : List Scaffold) (b : Build) (rest : List (Key × List Premise)) (store : List Res)
    (fixes : List Premise) : Prop where
  counts : ∀ k s, holdCount store k s + fixes.countP (fixAt k s) = holdCount b.store k s
  total : ∀ k, (storeFrags store).countP (hasKey k) + fixes.countP (fixOf k) = (storeFrags b.store).countP (hasKey k)
  valid : ∀ e ∈ rest, ∀ p ∈ e.2, Valid store p ∧ p.fragment.keyTuple = e.1 ∧ e.1 ∈ b.multi
  restNodup : (rest.map (·.1)).Nodup
  fixNodup : (fixes.map (fun p => p.fragment.keyTuple)).Nodup
  fixKeys : ∀ p ∈ fixes, p.fragment.keyTuple ∈ b.multi ∧ p.fragment.keyTuple ∉ rest.map (·.1)
  slices : ∀ r ∈ store, ∃ sc ∈ input, r.o.rows <:+: sc.rows

theorem FInv.init {input : List Scaffold} (hwf : WFInput input) {b : Build} (hm : Mid input b)
    {prems : List (Key × List Premise)} (h : Pipeline.roundPremises b = .ok prems) : FInv input b prems b.store [] := by
  have hF := Pipeline.roundPremises_filed (Q := fun p => Valid b.store p ∧ p.fragment.keyTuple ∈ b.multi) h
    (fun k hk fnd hf sid hsid p hp => let ⟨hv, hkey⟩ := premise_valid hwf hm hf hsid hp; ⟨hv, hkey ▸ hk⟩)
  exact ⟨by simp, by simp, fun e he p hp => let ⟨hk, hv, hmul⟩ := (hF.2 e he).2 p hp; ⟨hv, hk, hk ▸ hmul⟩, hF.1, by simp,
    (by intro p hp; cases hp), hm.slices⟩

section
variable {input : List Scaffold} {b : Build} {e : Key × List Premise} {rest : List (Key × List Premise)}
  {store : List Res} {fixes : List Premise}

theorem FInv.pending (hF : FInv input b (e :: rest) store fixes) (s : Nat) :
    holdCount store e.1 s = holdCount b.store e.1 s := by
  have h0 : fixes.countP (fixAt e.1 s) = 0 :=
    List.countP_eq_zero.mpr fun q hq hc => (hF.fixKeys q hq).2 (by
      simp only [fixAt, decide_eq_true_eq] at hc; rw [hc.1]; exact List.mem_cons_self ..)
  have := hF.counts e.1 s
  omega

theorem FInv.tail (hF : FInv input b (e :: rest) store fixes) : FInv input b rest store fixes :=
  ⟨hF.counts, hF.total, fun e' he' => hF.valid e' (List.mem_cons_of_mem _ he'), (List.nodup_cons.mp hF.restNodup).2,
    hF.fixNodup, fun q hq => ⟨(hF.fixKeys q hq).1, fun hm => (hF.fixKeys q hq).2 (List.mem_cons_of_mem _ hm)⟩, hF.slices⟩

/-- a premise of the list in turn is applied.  Its contig has no other fix in this round and no premise list to come, so
    the premises to come still point at the ends of their results -/
theorem FInv.apply (hF : FInv input b (e :: rest) store fixes) {p : Premise} (hp : p ∈ e.2) {store1 : List Res}
    (happ : p.apply store = .ok store1) : FInv input b rest store1 (fixes ++ [p]) := by
  obtain ⟨hval, hkey, hmulti⟩ := hF.valid e (List.mem_cons_self ..) p hp
  have hnd : e.1 ∉ rest.map (·.1) ∧ _ := List.nodup_cons.mp hF.restNodup
  have ht := hF.tail
  refine ⟨fun k s => ?_, fun k => ?_, fun e' he' q hq => ?_, ht.restNodup, ?_, fun q hq => ?_,
    (Pipeline.apply_evolves 0 happ).forall (slices_closed input) hF.slices⟩
  · have := hF.counts k s
    have := apply_holdCount hval happ k s
    rw [List.countP_append, List.countP_singleton]
    omega
  · have := hF.total k
    have := apply_storeFrags hval happ (hasKey k)
    rw [List.countP_append, List.countP_singleton, show fixOf k p = hasKey k p.fragment from rfl]
    omega
  · obtain ⟨hvq, hkq, hmq⟩ := ht.valid e' he' q hq
    exact ⟨hval.apply happ hvq fun heq => hnd.1 (by rw [← hkey, ← heq, hkq]; exact List.mem_map_of_mem he'), hkq, hmq⟩
  · rw [List.map_append, List.map_singleton, List.nodup_append]
    refine ⟨hF.fixNodup, by simp, fun a ha c hc heq => ?_⟩
    obtain ⟨q, hq, rfl⟩ := List.mem_map.mp ha
    rw [List.mem_singleton.mp hc, hkey] at heq
    exact (hF.fixKeys q hq).2 (heq ▸ List.mem_map_of_mem (List.mem_cons_self ..))
  · rcases List.mem_append.mp hq with hq | hq
    · exact ht.fixKeys q hq
    · cases List.mem_singleton.mp hq
      exact ⟨hkey ▸ hmulti, hkey ▸ hnd.1⟩

theorem FInv.step {err : Int} {store1 : List Res} {fixes1 : List Premise} (hinv : FInv input b (e :: rest) store fixes)
    (hst1 : fixOne err (store, fixes) e.2 = .ok (store1, fixes1)) : FInv input b rest store1 fixes1 := by
  rcases Pipeline.fixOne_ok' hst1 with ⟨rfl, rfl⟩ | ⟨p, hch, happ, rfl⟩
  · exact hinv.tail
  · exact hinv.apply hch.mem happ

end

end AgpTpf.C01
