/-
  Helper lemmas for `Properties/C01ImpFound.lean`: the translated Python source of `BuildAssembly.store_fragments_found` and
  `BuildAssembly.discard_overhanging_fragments` (`Gen.Imp.BuildAssembly_*`) against the hand-written model
  (`Model/Remap.lean`: `storeFragmentsFound`, `applyFixBookkeeping`, `resolverRound`, `discardOverhanging`).

  The source keeps the `FoundFragment` objects in an arena `heap : List Found`; its two dictionaries map a contig key to a
  REFERENCE into the arena.  The model keeps the VALUES in `Build.found` and only the keys in `Build.multi`.  So the tie is a
  refinement (`Ref`, Proofs/ImpRef.lean: the source raises what the model raises, or returns a related value): `absFound` reads
  the model's `found` off the source state, `Coherent` is the invariant under which the aliasing of the source (the same object
  reachable from both dictionaries) is invisible.

  The generated definitions are unfolded by name; the proofs then follow the control flow by case analysis on MODEL-level
  quantities (`dGet? found k`, `removeFirst …`, `addPremise …`) and close each case with `simp` and the lemmas on the
  dictionaries, the arena, `absFound` and `Coherent`; no generated sub-term is mentioned literally.  The order of the components
  of the loop states is the only generated shape the relations `RelS` / `RelP` / `RelB` / `RelD` depend on.
-/
import AgpTpf.Properties.C02Imp
import AgpTpf.Proofs.ImpRef
import AgpTpf.Proofs.Lib.Arena
import AgpTpf.Proofs.Lib.Pipeline
set_option linter.unusedSimpArgs false
set_option linter.unusedVariables false
namespace AgpTpf.ImpFound
open AgpTpf

theorem contains_keys {κ ν : Type} [DecidableEq κ] [BEq κ] [LawfulBEq κ] (d : List (κ × ν)) (k : κ) :
    (d.map (·.1)).contains k = (dGet? d k).isSome := by
  rw [Bool.eq_iff_iff, List.contains_iff_mem, dGet?_isSome_iff]

theorem getFound_set (heap : List Found) (r r' : Nat) (f : Found) :
    PyRt.getFound (heap.set r f) r' = if r = r' ∧ r < heap.length then f else PyRt.getFound heap r' := by
  simp only [PyRt.getFound, List.getD_eq_getElem?_getD, List.getElem?_set]
  by_cases h : r = r'
  · subst h
    by_cases hl : r < heap.length <;> simp [hl]
  · simp [h]

theorem getFound_set_self {heap : List Found} {r : Nat} (f : Found) (h : r < heap.length) :
    PyRt.getFound (heap.set r f) r = f := by
  simp [getFound_set, h]

theorem getFound_append_lt {heap : List Found} {r : Nat} (f : Found) (h : r < heap.length) :
    PyRt.getFound (heap ++ [f]) r = PyRt.getFound heap r := by
  simp [PyRt.getFound, List.getD_eq_getElem?_getD, List.getElem?_append_left h]

/-- `fnd.add_scaffold(s)` through a reference, as the write of the updated object (out of range both leave the arena alone) -/
theorem foundAdd_eq_set (heap : List Found) (r s : Nat) :
    PyRt.foundAdd heap r s
      = heap.set r { PyRt.getFound heap r with scaffolds := (PyRt.getFound heap r).scaffolds ++ [s] } := by
  rw [Arena.foundAdd_eq_modify, Arena.modify_eq_set_getD]; rfl

/-- `heap_ff.append(FoundFragment(ff)); fnd.add_scaffold(s)`: the new object is the last one of the arena -/
theorem foundAdd_new (heap : List Found) (ff : Fragment) (s : Nat) :
    PyRt.foundAdd (heap ++ [{ fragment := ff, scaffolds := [] }]) heap.length s
      = heap ++ [{ fragment := ff, scaffolds := [s] }] := by
  rw [Arena.foundAdd_eq_modify, Arena.modify_length_snoc]; rfl

theorem foundRemove_some {heap : List Found} {r s : Nat} {rest : List Nat} (h : r < heap.length)
    (hr : removeFirst (PyRt.getFound heap r).scaffolds s = some rest) :
    PyRt.foundRemove heap r s = .ok (heap.set r { PyRt.getFound heap r with scaffolds := rest }) := by
  have e : PyRt.getFound heap r = heap[r] := by simp [PyRt.getFound, List.getD_eq_getElem?_getD, h]
  rw [e] at hr
  simp [PyRt.foundRemove, hr, e, h]

theorem foundRemove_none {heap : List Found} {r s : Nat}
    (hr : removeFirst (PyRt.getFound heap r).scaffolds s = none) : PyRt.foundRemove heap r s = .error .value := by
  simp [PyRt.foundRemove, hr]

/-- what the model sees of the source's `self.found_fragments`: the VALUES behind the references -/
def absFound (heap : List Found) (found : List (Key × Nat)) : List (Key × Found) :=
  found.map (fun kv => (kv.1, PyRt.getFound heap kv.2))

theorem dGet?_absFound (heap : List Found) (found : List (Key × Nat)) (k : Key) :
    dGet? (absFound heap found) k = (dGet? found k).map (PyRt.getFound heap) :=
  dGet?_mapVal (PyRt.getFound heap) found k

theorem absFound_set_notin {heap : List Found} {found : List (Key × Nat)} {r : Nat} (f : Found)
    (h : r ∉ found.map (·.2)) : absFound (heap.set r f) found = absFound heap found := by
  unfold absFound
  apply List.map_congr_left
  intro kv hkv
  have : r ≠ kv.2 := fun e => h (e ▸ List.mem_map_of_mem (f := (·.2)) hkv)
  simp [getFound_set, this]

theorem absFound_set {heap : List Found} {found : List (Key × Nat)} {k : Key} {r : Nat} (f : Found)
    (hn : (found.map (·.2)).Nodup) (hk : dGet? found k = some r) (hr : r < heap.length) :
    absFound (heap.set r f) found = dSet (absFound heap found) k f := by
  induction found with
  | nil => simp [dGet?] at hk
  | cons p rest ih =>
    obtain ⟨k', r'⟩ := p
    simp only [List.map_cons, List.nodup_cons] at hn
    simp only [dGet?] at hk
    split at hk
    · next hkk =>
      subst hkk
      simp only [Option.some.injEq] at hk
      subst hk
      have := absFound_set_notin (heap := heap) f hn.1
      simp only [absFound] at this
      simp [absFound, dSet, getFound_set_self f hr, this]
    · next hkk =>
      have hne : r ≠ r' := by
        intro e
        have := dGet?_mem hk
        exact hn.1 (e ▸ List.mem_map_of_mem (f := (·.2)) this)
      have h1 : PyRt.getFound (heap.set r f) r' = PyRt.getFound heap r' := by simp [getFound_set, hne]
      show (k', PyRt.getFound (heap.set r f) r') :: absFound (heap.set r f) rest
        = dSet ((k', PyRt.getFound heap r') :: absFound heap rest) k f
      rw [ih hn.2 hk, h1]
      simp [dSet, hkk]

theorem absFound_append {heap : List Found} {found : List (Key × Nat)} (f : Found)
    (h : ∀ kv ∈ found, kv.2 < heap.length) : absFound (heap ++ [f]) found = absFound heap found := by
  unfold absFound
  apply List.map_congr_left
  intro kv hkv
  simp [getFound_append_lt f (h kv hkv)]

/-- the source's two dictionaries are coherent: references are in range, no two entries of `found` hold the same object, every
    `multi` entry is the `found` entry of the same key (the same OBJECT), and `multi` is a dictionary (no key twice) -/
def Coherent (heap : List Found) (found multi : List (Key × Nat)) : Prop :=
  (∀ kv ∈ found, kv.2 < heap.length) ∧ (found.map (·.2)).Nodup ∧
  (∀ kv ∈ multi, dGet? found kv.1 = some kv.2) ∧ (multi.map (·.1)).Nodup

theorem coherent_empty : Coherent [] [] [] := by simp [Coherent]

theorem Coherent.lt {heap : List Found} {found multi : List (Key × Nat)} (h : Coherent heap found multi)
    {k : Key} {r : Nat} (hk : dGet? found k = some r) : r < heap.length := h.1 _ (dGet?_mem hk)

theorem Coherent.set {heap : List Found} {found multi : List (Key × Nat)} (h : Coherent heap found multi)
    (r : Nat) (f : Found) : Coherent (heap.set r f) found multi := by
  refine ⟨?_, h.2.1, h.2.2.1, h.2.2.2⟩
  intro kv hkv; simpa using h.1 kv hkv

theorem Coherent.dSet_multi {heap : List Found} {found multi : List (Key × Nat)} (h : Coherent heap found multi)
    {k : Key} {r : Nat} (hk : dGet? found k = some r) : Coherent heap found (dSet multi k r) := by
  refine ⟨h.1, h.2.1, ?_, ?_⟩
  · intro kv hkv
    rcases mem_dSet hkv with hm | rfl
    · exact h.2.2.1 kv hm
    · exact hk
  · rw [dSet_keys]; exact nodup_sAdd k h.2.2.2

theorem Coherent.new {heap : List Found} {found multi : List (Key × Nat)} (h : Coherent heap found multi)
    {k : Key} (f : Found) : Coherent (heap ++ [f]) (found ++ [(k, heap.length)]) multi := by
  refine ⟨?_, ?_, ?_, h.2.2.2⟩
  · intro kv hkv
    rcases List.mem_append.mp hkv with hm | hm
    · have := h.1 kv hm; simp; omega
    · simp at hm; subst hm; simp
  · rw [List.map_append]
    refine List.nodup_append.mpr ⟨h.2.1, by simp, ?_⟩
    intro a ha b hb
    simp at hb; subst hb
    obtain ⟨kv, hkv, rfl⟩ := List.mem_map.mp ha
    have := h.1 kv hkv
    omega
  · intro kv hkv
    exact dGet?_append_of_some _ (h.2.2.1 kv hkv)

theorem Coherent.dDel_multi {heap : List Found} {found multi : List (Key × Nat)} (h : Coherent heap found multi)
    (k : Key) : Coherent heap found (dDel multi k) := by
  refine ⟨h.1, h.2.1, ?_, ?_⟩
  · intro kv hkv; exact h.2.2.1 kv ((dDel_sublist multi k).subset hkv)
  · exact ((dDel_sublist multi k).map (·.1)).nodup h.2.2.2

/-- the loop state of the translated `store_fragments_found` in the translator's canonical order (carried variables sorted by
    type, then by name: `self_found_fragments`, `self_fragments_found_more_than_once : List (Key × Nat)`, then `heap_ff : List Found`).
    Everything below goes through `SSt.pack`, the named projections and `SSt.exists_pack`; a change of the order is repaired here only. -/
abbrev SSt : Type := List (Key × Nat) × List (Key × Nat) × List Found
namespace SSt
abbrev pack (heap : List Found) (found multi : List (Key × Nat)) : SSt := (found, multi, heap)
abbrev heap (s : SSt) : List Found := s.2.2
abbrev found (s : SSt) : List (Key × Nat) := s.1
abbrev multi (s : SSt) : List (Key × Nat) := s.2.1
theorem exists_pack (s : SSt) : ∃ heap found multi, s = pack heap found multi := ⟨s.heap, s.found, s.multi, rfl⟩
@[simp] theorem heap_pack (h : List Found) (f m : List (Key × Nat)) : (pack h f m).heap = h := rfl
@[simp] theorem found_pack (h : List Found) (f m : List (Key × Nat)) : (pack h f m).found = f := rfl
@[simp] theorem multi_pack (h : List Found) (f m : List (Key × Nat)) : (pack h f m).multi = m := rfl
end SSt

def RelS (b0 : Build) (s : SSt) (b : Build) : Prop :=
  Coherent s.heap s.found s.multi ∧ b = { b0 with found := absFound s.heap s.found, multi := s.multi.map (·.1) }

theorem absFound_new {heap : List Found} {found : List (Key × Nat)} (k : Key) (f : Found)
    (h : ∀ kv ∈ found, kv.2 < heap.length) :
    absFound (heap ++ [f]) (found ++ [(k, heap.length)]) = absFound heap found ++ [(k, f)] := by
  have := absFound_append f h
  simp only [absFound] at this
  simp only [absFound, List.map_append, this]
  simp [PyRt.getFound]

theorem relS_new {b0 b : Build} {multi found : List (Key × Nat)} {heap : List Found} {ff : Fragment} (sid : Nat)
    (h : RelS b0 (SSt.pack heap found multi) b) (hk : dGet? found ff.keyTuple = none) :
    RelS b0 (SSt.pack (PyRt.foundAdd (heap ++ [{ fragment := ff, scaffolds := [] }]) heap.length sid)
             (dSet found ff.keyTuple heap.length) multi) (C01.storeOne sid b ff) := by
  obtain ⟨hc, rfl⟩ := h
  simp only [SSt.heap_pack, SSt.found_pack, SSt.multi_pack] at hc ⊢
  rw [foundAdd_new, dSet_of_none _ hk]
  refine ⟨hc.new _, ?_⟩
  simp [C01.storeOne, dGet?_absFound, hk, absFound_new _ _ hc.1]

theorem relS_old {b0 b : Build} {multi found : List (Key × Nat)} {heap : List Found} {ff : Fragment} {r : Nat} (sid : Nat)
    (h : RelS b0 (SSt.pack heap found multi) b) (hk : dGet? found ff.keyTuple = some r) :
    RelS b0 (SSt.pack (PyRt.foundAdd heap r sid) found (dSet multi ff.keyTuple r)) (C01.storeOne sid b ff) := by
  obtain ⟨hc, rfl⟩ := h
  simp only [SSt.heap_pack, SSt.found_pack, SSt.multi_pack] at hc ⊢
  rw [foundAdd_eq_set]
  refine ⟨(hc.dSet_multi hk).set _ _, ?_⟩
  simp [C01.storeOne, dGet?_absFound, hk, absFound_set _ hc.2.1 hk (hc.lt hk), dSet_keys]

def StoreQ (b : Build) (t : List Res × List Found × List (Key × Nat) × List (Key × Nat)) (m : Build) : Prop :=
  ∃ heap' found' multi', t = (b.store, heap', found', multi') ∧ Coherent heap' found' multi' ∧
    m = { b with found := absFound heap' found', multi := multi'.map (·.1) }

theorem store_tie (b : Build) (heap : List Found) (found multi : List (Key × Nat)) (sid : Nat)
    (hc : Coherent heap found multi) (hf : b.found = absFound heap found) (hm : b.multi = multi.map (·.1)) :
    Ref (StoreQ b) (Gen.Imp.BuildAssembly_store_fragments_found b.store heap found multi sid)
      (.ok (storeFragmentsFound b sid (fragmentsOf (getRes b.store sid).rows))) := by
  unfold Gen.Imp.BuildAssembly_store_fragments_found
  rw [Pipeline.storeFragmentsFound_eq]
  refine forIn_pure_bind (RelS b) (C01.storeOne sid) b ?_ ⟨hc, ?_⟩ ?_
  · intro ff _ s m hr
    obtain ⟨heap, found, multi, rfl⟩ := SSt.exists_pack s
    cases hk : dGet? found ff.keyTuple with
    | none => exact ⟨_, by simp [hk], relS_new sid hr hk⟩
    | some r => exact ⟨_, by simp [hk], relS_old sid hr hk⟩
  · rw [← hf, ← hm]
  · rintro s ⟨hc', hb'⟩
    obtain ⟨heap', found', multi', rfl⟩ := SSt.exists_pack s
    exact ⟨_, rfl, heap', found', multi', rfl, hc', hb'⟩

/-- the model state a source state `(heap, multi, store)` (with the untouched `found`) stands for; everything else as in `b0` -/
def mkB (b0 : Build) (st : List Res) (heap : List Found) (found multi : List (Key × Nat)) : Build :=
  { b0 with store := st, found := absFound heap found, multi := multi.map (·.1) }

@[simp] theorem mkB_store (b0 st heap found multi) : (mkB b0 st heap found multi).store = st := rfl
@[simp] theorem mkB_found (b0 st heap found multi) : (mkB b0 st heap found multi).found = absFound heap found := rfl
@[simp] theorem mkB_multi (b0 st heap found multi) : (mkB b0 st heap found multi).multi = multi.map (·.1) := rfl
@[simp] theorem mkB_err (b0 st heap found multi) : (mkB b0 st heap found multi).err = b0.err := rfl
theorem mkB_with_store (b0 st st' heap found multi) :
    { mkB b0 st heap found multi with store := st' } = mkB b0 st' heap found multi := rfl

/-- no fix made ⇒ `make_fixes` left every OverlapResult alone (so `break` leaves the loop with the state it was entered with) -/
theorem fixes_nil_store {err : Int} {store store' : List Res} {pss : List (List Premise)}
    (h : pss.foldlM (fixOne err) (store, []) = .ok (store', [])) : store' = store := by
  refine foldlM_inv (fun (s : List Res × List Premise) => s.2 = [] → s.1 = store) h (fun _ => rfl) ?_ rfl
  rintro ⟨st, fx⟩ ps - ⟨st', fx'⟩ hs hstep
  rcases Pipeline.fixOne_ok hstep with ⟨rfl, rfl⟩ | ⟨p, -, rfl⟩
  · exact hs
  · intro hnil; simp at hnil

/-- the state of the premise loops — `(ovr_resolver, store)` — against the model's premise dictionary -/
def RelP (st : List Res) (s : List (Key × List Premise) × List Res) (m : List (Key × List Premise)) : Prop :=
  s.2 = st ∧ s.1 = m

/-- the state of the `for premise in fixes_made` loop in the translator's canonical order (by type, then by name:
    `self_fragments_found_more_than_once : List (Key × Nat)`, then `heap_ff : List Found`) -/
abbrev BSt : Type := List (Key × Nat) × List Found
namespace BSt
abbrev pack (heap : List Found) (multi : List (Key × Nat)) : BSt := (multi, heap)
abbrev heap (s : BSt) : List Found := s.2
abbrev multi (s : BSt) : List (Key × Nat) := s.1
theorem exists_pack (s : BSt) : ∃ heap multi, s = pack heap multi := ⟨s.heap, s.multi, rfl⟩
@[simp] theorem heap_pack (h : List Found) (m : List (Key × Nat)) : (pack h m).heap = h := rfl
@[simp] theorem multi_pack (h : List Found) (m : List (Key × Nat)) : (pack h m).multi = m := rfl
end BSt

/-- the state of the `while multi:` loop in the translator's canonical order (`self_fragments_found_more_than_once : List (Key × Nat)`,
    `heap_ff : List Found`, `store : List Res`) -/
abbrev DSt : Type := List (Key × Nat) × List Found × List Res
namespace DSt
abbrev pack (heap : List Found) (multi : List (Key × Nat)) (store : List Res) : DSt := (multi, heap, store)
abbrev heap (s : DSt) : List Found := s.2.1
abbrev multi (s : DSt) : List (Key × Nat) := s.1
abbrev store (s : DSt) : List Res := s.2.2
theorem exists_pack (s : DSt) : ∃ heap multi store, s = pack heap multi store := ⟨s.heap, s.multi, s.store, rfl⟩
@[simp] theorem heap_pack (h : List Found) (m : List (Key × Nat)) (st : List Res) : (pack h m st).heap = h := rfl
@[simp] theorem multi_pack (h : List Found) (m : List (Key × Nat)) (st : List Res) : (pack h m st).multi = m := rfl
@[simp] theorem store_pack (h : List Found) (m : List (Key × Nat)) (st : List Res) : (pack h m st).store = st := rfl
end DSt

def RelB (b0 : Build) (found : List (Key × Nat)) (st : List Res) (s : BSt) (b : Build) : Prop :=
  Coherent s.heap found s.multi ∧ b = mkB b0 st s.heap found s.multi

def RelD (b0 : Build) (found : List (Key × Nat)) (s : DSt) (b : Build) : Prop :=
  Coherent s.heap found s.multi ∧ b = mkB b0 s.store s.heap found s.multi

theorem multi_entry_found {heap : List Found} {found multi : List (Key × Nat)} (hc : Coherent heap found multi)
    {k : Key} {r : Nat} (h : (k, r) ∈ multi) : dGet? (absFound heap found) k = some (PyRt.getFound heap r) := by
  rw [dGet?_absFound, hc.2.2.1 _ h]; rfl

theorem bookkeeping_absent (b0 : Build) (st : List Res) {heap : List Found} {found multi : List (Key × Nat)} {p : Premise}
    (hd : dGet? multi p.fragment.keyTuple = none) :
    applyFixBookkeeping (mkB b0 st heap found multi) p = .ok (mkB b0 st heap found multi) := by
  simp only [applyFixBookkeeping, mkB_multi, contains_keys, hd, Option.isSome_none, Bool.false_eq_true, if_false]

theorem bookkeeping_present (b0 : Build) (st : List Res) {heap : List Found} {found multi : List (Key × Nat)} {p : Premise}
    {r : Nat} (hc : Coherent heap found multi) (hd : dGet? multi p.fragment.keyTuple = some r) :
    applyFixBookkeeping (mkB b0 st heap found multi) p =
      match removeFirst (PyRt.getFound heap r).scaffolds p.sid with
      | none => .error .value
      | some rest => .ok (mkB b0 st (heap.set r { PyRt.getFound heap r with scaffolds := rest }) found
                            (if rest.length ≤ 1 then dDel multi p.fragment.keyTuple else multi)) := by
  have hfound : dGet? found p.fragment.keyTuple = some r := hc.2.2.1 _ (dGet?_mem hd)
  simp only [applyFixBookkeeping, mkB_multi, mkB_found, contains_keys, hd, Option.isSome_some, if_true,
    multi_entry_found hc (dGet?_mem hd)]
  cases removeFirst (PyRt.getFound heap r).scaffolds p.sid with
  | none => rfl
  | some rest =>
    simp only []
    have hset := absFound_set { PyRt.getFound heap r with scaffolds := rest } hc.2.1 hfound (hc.lt hfound)
    by_cases hl : rest.length ≤ 1
    · simp only [hl, if_true, mkB, ← hset, dDel_keys _ hc.2.2.2]
    · simp only [hl, if_false, mkB, ← hset]

/-- how one pass through the body of `while multi:` ends, against `resolverRound`: `break` with the state it started from, or on to
    the next pass with a related state -/
def RoundQ {σ ρ : Type} (Rel : σ → Build → Prop) (s : σ) (t : PyRt.Ctl σ ρ) (mo : Option Build) : Prop :=
  match mo with
  | none => t = .brk s
  | some b' => ∃ s', t = .next s' ∧ Rel s' b'

theorem whileLoop_bind {σ ρ τ' : Type} (Rel : σ → Build → Prop) {cond : σ → R Bool} {body : σ → R (PyRt.Ctl σ ρ)}
    {Q' : τ' → Build → Prop} {k : PyRt.Done σ ρ → R τ'}
    (hcond : ∀ s b, Rel s b → cond s = .ok (!b.multi.isEmpty))
    (hbody : ∀ s b, Rel s b → b.multi.isEmpty = false → Ref (RoundQ Rel s) (body s) (resolverRound b))
    (hk : ∀ s b, Rel s b → Ref Q' (k (.fell s)) (.ok b)) (fuel : Nat) (s : σ) (b : Build) (hr : Rel s b) :
    Ref Q' (PyRt.whileLoop fuel s cond body >>= k) (discardOverhanging fuel b) := by
  -- the same fuel on both sides: the invariant is indexed by it
  refine Ref.bind_ok (Q := fellRel Rel) (whileLoop_keeps _ _ cond body
    (fun n s => ∃ b', Rel s b' ∧ discardOverhanging n b' = discardOverhanging fuel b) ?_ ?_ fuel s ⟨b, hr, rfl⟩)
    fun _ b' ⟨s', e, hr'⟩ => e ▸ hk s' b' hr'
  · rintro s ⟨b', -, he⟩; exact he.symm
  · rintro n s ⟨b', hr', he⟩
    rw [hcond s b' hr']
    rw [discardOverhanging] at he
    cases hc : b'.multi.isEmpty with
    | true => rw [hc, if_pos rfl] at he; rw [← he]; exact ⟨_, rfl, s, rfl, hr'⟩
    | false =>
      rw [hc, if_neg Bool.false_ne_true] at he
      refine (hbody s b' hr' hc).elim_src (P := Keeps _ _ _) (fun e h => ?_) fun c o h hq => ?_
      · rw [h] at he; exact he.symm
      · rw [h] at he
        cases o with
        | none => rw [show c = .brk s from hq, ← he]; exact ⟨_, rfl, s, rfl, hr'⟩
        | some b'' => obtain ⟨s', rfl, hr''⟩ := hq; exact ⟨b'', hr'', he⟩

def DiscardQ (b0 : Build) (found : List (Key × Nat)) (t : List Res × List Found × List (Key × Nat)) (b' : Build) : Prop :=
  Coherent t.2.1 found t.2.2 ∧ b' = mkB b0 t.1 t.2.1 found t.2.2

theorem discard_tie (fuel : Nat) (b : Build) (heap : List Found) (found multi : List (Key × Nat))
    (hc : Coherent heap found multi) (hf : b.found = absFound heap found) (hm : b.multi = multi.map (·.1)) :
    Ref (DiscardQ b found) (Gen.Imp.BuildAssembly_discard_overhanging_fragments fuel b.store heap multi b.err)
      (discardOverhanging fuel b) := by
  unfold Gen.Imp.BuildAssembly_discard_overhanging_fragments
  refine whileLoop_bind (RelD b found) ?hcond ?hbody ?hk fuel _ b ⟨hc, ?init⟩
  case init => simp only [mkB, ← hf, ← hm]
  case hcond =>
    rintro s b' ⟨_, rfl⟩
    obtain ⟨heap, multi, store, rfl⟩ := DSt.exists_pack s
    cases multi <;> rfl
  case hk =>
    rintro s b' ⟨hc', hb'⟩
    obtain ⟨heap, multi, store, rfl⟩ := DSt.exists_pack s
    exact ⟨_, rfl, hc', hb'⟩
  case hbody =>
    rintro s b' ⟨hc', rfl⟩ _
    obtain ⟨heap, multi, store, rfl⟩ := DSt.exists_pack s
    simp only [DSt.pack, DSt.heap, DSt.multi, DSt.store] at hc' ⊢
    simp only [Pipeline.resolverRound_eq, Pipeline.roundPremises, mkB_multi, mkB_found, mkB_store, mkB_err]
    rw [PyRt.forIn_map, List.foldlM_map]
    refine forIn_bind (RelP store) ?ostep ⟨rfl, rfl⟩ ?ocont
    case ostep =>
      -- `for fnd in multi.values(): for scffld in fnd.scaffolds: add_overhang_premise(fnd.fragment, scffld)`
      rintro kv hkv ⟨prems, st⟩ m ⟨rfl, rfl⟩
      simp only [multi_entry_found hc' hkv]
      refine forIn_bind_ok (RelP st) ?istep ⟨rfl, rfl⟩ ?icont
      case istep =>
        rintro sid _ ⟨prems', st'⟩ m' ⟨rfl, rfl⟩
        simp only [C02.add_overhang_premise_is_source]
        cases addPremise st' prems' (PyRt.getFound heap kv.2).fragment sid with
        | error e => rfl
        | ok p => exact ⟨_, rfl, _, rfl, rfl, rfl⟩
      case icont =>
        rintro ⟨prems', st'⟩ m' ⟨rfl, rfl⟩
        exact ⟨_, rfl, _, rfl, rfl, rfl⟩
    case ocont =>
      -- `fixes_made = ovr_resolver.make_fixes()`
      rintro ⟨prems, st⟩ m ⟨rfl, rfl⟩
      simp only [C02.make_fixes_is_source]
      refine Ref.bind (Ref.refl _) ?_
      rintro ⟨store2, fixes⟩ _ ⟨rfl, hfx⟩
      cases fixes with
      | nil =>
        -- `break`: no fix was made, so no OverlapResult changed
        have := fixes_nil_store hfx
        subst this
        exact ⟨_, rfl, rfl⟩
      | cons p0 ps =>
        simp only [List.isEmpty_cons, Bool.not_false, if_true, Bool.false_eq_true, if_false]
        refine forIn_bind (RelB b found store2) ?bstep ⟨hc', rfl⟩ ?bcont
        case bstep =>
          -- `for premise in fixes_made:` the bookkeeping
          rintro p _ s1 m ⟨hc1, rfl⟩
          obtain ⟨heap1, multi1, rfl⟩ := BSt.exists_pack s1
          simp only [BSt.pack, BSt.heap, BSt.multi] at hc1 ⊢
          cases hd : dGet? multi1 p.fragment.keyTuple with
          | none =>
            rw [bookkeeping_absent _ _ hd]
            exact ⟨_, rfl, _, rfl, hc1, rfl⟩
          | some r =>
            have hlt : r < heap1.length := hc1.lt (hc1.2.2.1 _ (dGet?_mem hd))
            rw [bookkeeping_present _ _ hc1 hd]
            cases hr : removeFirst (PyRt.getFound heap1 r).scaffolds p.sid with
            | none => simp only [foundRemove_none hr]; rfl
            | some rest =>
              simp only [foundRemove_some hlt hr, bind, Except.bind, getFound_set_self _ hlt, PyRt.dictDel, dHas, hd,
                Option.isSome_some, if_true]
              by_cases hl : rest.length ≤ 1
              · have hl' : Int.ofNat rest.length ≤ 1 := by simp only [Int.ofNat_eq_natCast]; omega
                simp only [hl, hl', decide_true, if_true]
                exact ⟨_, rfl, _, rfl, (hc1.set _ _).dDel_multi _, rfl⟩
              · have hl' : ¬ Int.ofNat rest.length ≤ 1 := by simp only [Int.ofNat_eq_natCast]; omega
                simp only [hl, hl', decide_false, if_false, Bool.false_eq_true]
                exact ⟨_, rfl, _, rfl, hc1.set _ _, rfl⟩
        case bcont =>
          rintro s2 b2 ⟨hc2, hb2⟩
          obtain ⟨heap2, multi2, rfl⟩ := BSt.exists_pack s2
          exact ⟨_, rfl, _, rfl, hc2, hb2⟩

/-- any `Build` will do to carry the model side of `store_tie` / `discard_tie` when only the source state is of interest -/
def dummyBuild : Build := { namer := { autosomePrefix := [] }, nextOid := 0, joinGap := none, err := 0 }

theorem store_coherent (store : List Res) (heap : List Found) (found multi : List (Key × Nat)) (sid : Nat)
    (hc : Coherent heap found multi) :
    ∃ heap' found' multi',
      Gen.Imp.BuildAssembly_store_fragments_found store heap found multi sid = .ok (store, heap', found', multi') ∧
      Coherent heap' found' multi' := by
  obtain ⟨t, ht, heap', found', multi', rfl, hc', _⟩ :=
    store_tie (mkB dummyBuild store heap found multi) heap found multi sid hc rfl rfl
  exact ⟨heap', found', multi', ht, hc'⟩

end AgpTpf.ImpFound
