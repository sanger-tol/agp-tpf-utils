/-
  C01 stage S3 (`fuseByName`): each of the two append operations (a stored result; a left-over scaffold behind the gap
  rows `gaps_before_leftover` returns) adds the `(name, start, end)` triples of the appended rows and no other, which is
  what the conservation of the triples (`fuse_fragments`, Properties/C01) rests on; and what one append does to the pairs of
  adjacent rows and to `NoTerminalGap` (`adjPairs_appendRows`, `noTerminalGap_appendRows`), which the C07 clauses about fused
  scaffolds carry along a group with `Fuse.fuseByName_all` (`Lib/Fuse`).
-/
import AgpTpf.Proofs.C01Missing
import AgpTpf.Proofs.Lib.Rows
import AgpTpf.Proofs.Lib.Fuse
namespace AgpTpf.C01
open AgpTpf
open AgpTpf.C07 (adjPairs seam adjPairs_append adjPairs_append_gap NoTerminalGap)

def keysOf (rows : List Row) : List Key := (fragmentsOf rows).map Fragment.keyTuple

theorem keysOf_appendRows (rows othr : List Row) (g : Option Gap) :
    keysOf (Scaffold.appendRows rows othr g) = keysOf rows ++ keysOf othr := by
  simp [keysOf, Scaffold.fragmentsOf_appendRows]

theorem keysOf_toScaffoldRows (o : OverlapResult) : (keysOf o.toScaffoldRows).Perm (keysOf o.rows) := by
  unfold OverlapResult.toScaffoldRows keysOf
  split
  · rw [fragmentsOf_map_reverse, fragmentsOf_reverse, List.map_map]
    have : (Fragment.keyTuple ∘ Fragment.reverse) = Fragment.keyTuple := by
      funext f; rfl
    rw [this, List.map_reverse]
    exact List.reverse_perm _
  · exact List.Perm.refl _

theorem gap_mem_map_reverse (l : List Row) (g : Gap) : Row.gap g ∈ l.map Row.reverse ↔ Row.gap g ∈ l := by
  induction l with
  | nil => simp
  | cons x t ih => cases x <;> simp [Row.reverse, ih]

theorem gap_mem_toScaffoldRows (o : OverlapResult) (g : Gap) : Row.gap g ∈ o.toScaffoldRows ↔ Row.gap g ∈ o.rows := by
  unfold OverlapResult.toScaffoldRows
  split
  · rw [gap_mem_map_reverse, List.mem_reverse]
  · exact Iff.rfl

theorem adjPairs_appendRows (rows othr : List Row) (g : Option Gap) :
    adjPairs (Scaffold.appendRows rows othr g) =
      adjPairs rows ++ (match g with | some _ => [] | none => seam rows othr) ++ adjPairs othr := by
  unfold Scaffold.appendRows
  cases g with
  | none => simp [adjPairs_append]
  | some gg =>
    simp only
    split
    · next h => simp only [List.isEmpty_iff] at h; subst h; simp
    · rw [adjPairs_append_gap]; simp

theorem noTerminalGap_appendRows (rows othr : List Row) (g : Option Gap)
    (h1 : rows = [] ∨ NoTerminalGap rows) (h2 : NoTerminalGap othr) (hne : othr ≠ []) :
    NoTerminalGap (Scaffold.appendRows rows othr g) ∧ Scaffold.appendRows rows othr g ≠ [] := by
  have key : ∀ mid : List Row, rows ≠ [] → NoTerminalGap rows → NoTerminalGap (rows ++ mid ++ othr) := by
    intro mid hr hn
    constructor
    · intro gg hh
      cases rows with
      | nil => exact hr rfl
      | cons x t => exact hn.1 gg (by simpa using hh)
    · intro gg hh
      rw [List.getLast?_append] at hh
      cases ho : othr.getLast? with
      | none => exact hne (List.getLast?_eq_none_iff.mp ho)
      | some x => rw [ho] at hh; exact h2.2 gg (ho.trans hh)
  unfold Scaffold.appendRows
  cases g with
  | none =>
    simp only
    by_cases hr : rows = []
    · subst hr; exact ⟨by simpa using h2, by simpa using hne⟩
    · exact ⟨by simpa using key [] hr (h1.resolve_left hr), by simp [hne]⟩
  | some gg =>
    simp only
    split
    · exact ⟨h2, hne⟩
    · next hr =>
      simp only [List.isEmpty_iff] at hr
      exact ⟨key [Row.gap gg] hr (h1.resolve_left hr), by simp⟩

theorem gapsBeforeLeftover_nil (jg : Option Gap) (pred : Option (Fragment × List Gap)) :
    gapsBeforeLeftover jg [] pred = [] := rfl

theorem gapsBeforeLeftover_rows (jg : Option Gap) (built : List Row) (pred : Option (Fragment × List Gap)) :
    ∀ x ∈ gapsBeforeLeftover jg built pred,
      ∃ g, x = Row.gap g ∧ (jg = some g ∨ ∃ prev gaps, pred = some (prev, gaps) ∧ g ∈ gaps) := by
  intro x hx
  unfold gapsBeforeLeftover at hx
  split at hx
  · cases hx
  · have hd : ∀ x ∈ (match jg with | some g => [Row.gap g] | none => ([] : List Row)), ∃ g, x = Row.gap g ∧ jg = some g := by
      intro x hx
      cases jg with
      | none => cases hx
      | some g => simp only [List.mem_cons, List.not_mem_nil, or_false] at hx; exact ⟨g, hx, rfl⟩
    simp only at hx
    cases pred with
    | none => obtain ⟨g, e, hj⟩ := hd x hx; exact ⟨g, e, Or.inl hj⟩
    | some p =>
      obtain ⟨prev, gaps⟩ := p
      cases hr : built.reverse with
      | nil => rw [hr] at hx; obtain ⟨g, e, hj⟩ := hd x hx; exact ⟨g, e, Or.inl hj⟩
      | cons y t =>
        rw [hr] at hx
        cases y with
        | gap g0 => obtain ⟨g, e, hj⟩ := hd x hx; exact ⟨g, e, Or.inl hj⟩
        | frag last =>
          simp only at hx
          by_cases hc : last.name = prev.name ∧ last.strand = prev.strand ∧
              (if prev.strand = -1 then last.start else last.stop) = (if prev.strand = -1 then prev.start else prev.stop)
          · rw [if_pos hc] at hx
            obtain ⟨g, hg, rfl⟩ := List.mem_map.mp hx
            exact ⟨g, rfl, Or.inr ⟨prev, gaps, rfl, hg⟩⟩
          · rw [if_neg hc] at hx
            obtain ⟨g, e, hj⟩ := hd x hx; exact ⟨g, e, Or.inl hj⟩

theorem gapsBeforeLeftover_gaps (jg : Option Gap) (built : List Row) (pred : Option (Fragment × List Gap)) :
    ∀ x ∈ gapsBeforeLeftover jg built pred, ∃ g, x = Row.gap g :=
  fun x hx => let ⟨g, e, _⟩ := gapsBeforeLeftover_rows jg built pred x hx; ⟨g, e⟩

theorem keysOf_leftover_add (jg : Option Gap) (built rows : List Row) (pred : Option (Fragment × List Gap)) :
    keysOf (built ++ gapsBeforeLeftover jg built pred ++ rows) = keysOf built ++ keysOf rows := by
  simp [keysOf, fragmentsOf_append, fragmentsOf_all_gaps _ (gapsBeforeLeftover_gaps jg built pred)]

/-- triples held by the results that were appended to `BuildAssembly.scaffolds` -/
def storeKeys (l : List Res) : List Key := l.flatMap (fun r => if r.added then keysOf r.o.rows else [])

def extraKeys (l : List (Scaffold × Option (Fragment × List Gap))) : List Key := l.flatMap (fun e => keysOf e.1.rows)

end AgpTpf.C01
