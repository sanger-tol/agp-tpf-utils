/-
  C02 — helper lemmas for M2 (the guards of `trimLargeOverhangs`; a discard at one end keeps the row at the other) and
  M6 (`orientRow`: the strand of a row times the piece orientation).
-/
import AgpTpf.Properties.C18
namespace AgpTpf.C02
open AgpTpf OverlapResult

/-- the early return of `trim_large_overhangs` -/
def EarlyKeep (o : OverlapResult) (err : Int) : Prop := o.rows.length = 1 ∧ o.bait.length > err

/-- the condition under which `discard_start()` is called -/
def StartGuard (o : OverlapResult) (err : Int) : Prop :=
  o.startOverhang > err ∧ ∃ ov, o.startRowBaitOverlap = .ok ov ∧ ov < err

/-- the condition under which `discard_end()` is called (evaluated on the result AFTER the start was handled) -/
def EndGuard (o : OverlapResult) (err : Int) : Prop :=
  o.endOverhang > err ∧ ∃ ov, o.endRowBaitOverlap = .ok ov ∧ ov < err

theorem not_startGuard {o : OverlapResult} {err ov : Int} (hov : o.startRowBaitOverlap = .ok ov) (hge : err ≤ ov) :
    ¬ StartGuard o err := by
  rintro ⟨_, ov', hv', hlt⟩
  rw [hov] at hv'; cases hv'; omega

theorem not_endGuard {o : OverlapResult} {err ov : Int} (hov : o.endRowBaitOverlap = .ok ov) (hge : err ≤ ov) :
    ¬ EndGuard o err := by
  rintro ⟨_, ov', hv', hlt⟩
  rw [hov] at hv'; cases hv'; omega

theorem trimLarge_char {o o' : OverlapResult} {err : Int} (h : trimLargeOverhangs o err = .ok o') :
    (EarlyKeep o err ∧ o' = o) ∨
    (¬ EarlyKeep o err ∧
      ∃ o1, ((StartGuard o err ∧ discardStart o = .ok o1) ∨ (¬ StartGuard o err ∧ o1 = o)) ∧
        ((StartGuard o err ∧ o1.rows = [] ∧ o' = o1) ∨
         (¬ (StartGuard o err ∧ o1.rows = []) ∧
            ((EndGuard o1 err ∧ discardEnd o1 = .ok o') ∨ (¬ EndGuard o1 err ∧ o' = o1))))) := by
  obtain h0 | ⟨he, ⟨o1, d⟩, hs, h2⟩ := trimLarge_phases h
  · exact .inl h0
  · refine .inr ⟨he, o1, ?_⟩
    obtain ⟨hg, hd, rfl⟩ | ⟨hg, hp⟩ := trimStartPhase_ok hs
    · exact ⟨.inl ⟨hg, hd⟩, (trimEndPhase_ok h2).imp (fun h1 => ⟨hg, h1.2⟩) (.imp_left fun h1 hh => h1 ⟨rfl, hh.2⟩)⟩
    · cases hp
      exact ⟨.inr ⟨hg, rfl⟩, .inr ((trimEndPhase_ok h2).elim (fun h1 => nomatch h1.1) (.imp_left fun _ hh => hg hh.1))⟩

theorem discardEnd_keeps_head {o o' : OverlapResult} {f : Fragment} {t : List Row} (hr : o.rows = .frag f :: t)
    (ht : t ≠ []) (h : discardEnd o = .ok o') : ∃ t', o'.rows = .frag f :: t' ∧ o'.start = o.start ∧ o'.bait = o.bait := by
  obtain ⟨d, G, T, hrows, hG, -, rfl⟩ := discardEnd_ok h
  rw [hr] at hrows
  cases T with
  | nil =>
    cases G with
    | nil => cases hrows; exact absurd rfl ht
    | cons g G' => cases hrows; exact absurd (hG _ (List.mem_cons_self ..)) (by simp [Row.isGap])
  | cons x T' => cases hrows; exact ⟨T', rfl, rfl, rfl⟩

theorem discardStart_keeps_last {o o' : OverlapResult} {f : Fragment} {t : List Row} (hr : o.rows = t ++ [.frag f])
    (ht : t ≠ []) (h : discardStart o = .ok o') : ∃ t', o'.rows = t' ++ [.frag f] ∧ o'.stop = o.stop ∧ o'.bait = o.bait := by
  obtain ⟨d, G, T, hrows, hG, -, rfl⟩ := discardStart_ok h
  rw [hr] at hrows
  rcases list_nil_or_concat T with rfl | ⟨T', x, rfl⟩
  · rcases list_nil_or_concat G with rfl | ⟨G', g, rfl⟩
    · cases t with
      | nil => exact absurd rfl ht
      | cons y t' => cases t' <;> cases hrows
    · have h2 : t ++ [Row.frag f] = (d :: G') ++ [g] := by simpa using hrows
      have h3 := List.append_inj_right' h2 rfl
      rw [List.cons.injEq] at h3
      exact absurd (hG g (by simp)) (by rw [← h3.1]; simp [Row.isGap])
  · have h2 : t ++ [Row.frag f] = (d :: G ++ T') ++ [x] := by simpa using hrows
    have h3 := List.append_inj_right' h2 rfl
    rw [List.cons.injEq] at h3
    exact ⟨T', by rw [h3.1], rfl, rfl⟩

theorem lastIs_ok_of_ne {o : OverlapResult} (f : Fragment) (h : o.rows ≠ []) : ∃ b, lastIs o f = .ok b := by
  rcases list_nil_or_concat o.rows with h0 | ⟨t, x, h0⟩
  · exact absurd h0 h
  · exact ⟨_, lastIs_concat o f x t h0⟩

theorem firstIs_ok_of_ne {o : OverlapResult} (f : Fragment) (h : o.rows ≠ []) : ∃ a, firstIs o f = .ok a := by
  cases h0 : o.rows with
  | nil => exact absurd h0 h
  | cons x t => exact ⟨_, firstIs_cons o f x t h0⟩

def orientRow (s : Int) : Row → Row
  | .frag f => .frag { f with strand := f.strand * s }
  | .gap g => .gap g

theorem orientRow_one (r : Row) : orientRow 1 r = r := by
  cases r with
  | frag f => simp [orientRow]
  | gap g => rfl

theorem orientRow_neg_one (r : Row) : orientRow (-1) r = Row.reverse r := by
  cases r with
  | frag f =>
    simp only [orientRow, Row.reverse, Fragment.reverse]
    congr 2; omega
  | gap g => rfl

theorem map_orientRow_one (l : List Row) : l.map (orientRow 1) = l :=
  (List.map_congr_left fun r _ => orientRow_one r).trans (List.map_id' l)

end AgpTpf.C02
