/-
  C06 (composition), part 1: the row predicate `Good` (= `StrandOk ∧ RowStrict`, what `format_agp` needs for a
  strictly valid file) is kept by everything `remap` does to a row (`Proofs/Remap/Rows.lean`): reversal negates a strand,
  a cut piece passed `Fragment.__init__`; and the strict form of `formatAgp_valid_at` for assemblies whose rows are all `Good`.
-/
import AgpTpf.Proofs.C06Cols
import AgpTpf.Proofs.C04Access
import AgpTpf.Proofs.Remap.Rows
namespace AgpTpf.C06
open AgpTpf

/-- what `format_agp_valid_strict` asks of a row -/
def Good (r : Row) : Prop := StrandOk r ∧ RowStrict r

def RowsGood (rows : List Row) : Prop := ∀ x ∈ rows, Good x

instance (r : Row) : Decidable (Good r) := by unfold Good; infer_instance

theorem RowsGood.subset {a b : List Row} (h : RowsGood b) (hs : ∀ x ∈ a, x ∈ b) : RowsGood a :=
  fun x hx => h x (hs x hx)

theorem Good.reverse {x : Row} (h : Good x) : Good x.reverse := by
  cases x with
  | gap g => exact h
  | frag f =>
    obtain ⟨h1, h2⟩ := h
    refine ⟨?_, h2⟩
    simp only [Row.reverse, Fragment.reverse, StrandOk] at h1 ⊢
    omega

theorem good_closed (input : List Scaffold) : RemapRows.RowClosed input Good :=
  ⟨fun _ => Good.reverse, fun F _ new hp hs => ⟨show new.strand = 0 ∨ new.strand = 1 ∨ new.strand = -1 from hp.2.2.2.2 ▸ hs, hp.2.2.1⟩⟩

open AgpTpf.C05

/-- `formatAgp_valid_at` with `strict = true` -/
theorem formatAgp_good (a : Assembly) (hg : ∀ s ∈ a.scaffolds, RowsGood s.rows) :
    ∃ bodies : List (List (List Str)),
      formatAgp a = .ok (a.header.map (fun h => Gen.agpHeaderPrefix ++ h ++ ['\n']) ++
                          (bodies.map (List.map lineOfCols)).flatten) ∧
      Forall2 (fun (s : Scaffold) colss => colss.length = s.rows.length ∧
                  ValidAgpLines true s.name 0 0 colss s.length) a.scaffolds bodies :=
  formatAgp_valid_at true a (fun s hs r hr => (hg s hs r hr).1) (fun _ s hs r hr => (hg s hs r hr).2)

end AgpTpf.C06

/-! C06 (composition), part 2: the assembly `index_fasta_file` derives from a FASTA has only `Good` rows
(forward untagged fragments with `start ≤ end`, gaps of positive length and type "scaffold"), so its `.agp`
rendering is strictly valid and each object ends at the record's length — the length stored in the index. -/
namespace AgpTpf.C06
open AgpTpf AgpTpf.C04 AgpTpf.C05
/-- the only rows `store_info` creates: a forward, untagged fragment or a gap of type "scaffold" -/
def IndexRow (r : Row) : Prop :=
  match r with
  | .frag f => f.strand = 1 ∧ f.tags = []
  | .gap g => g.gapType = Gen.fastaGapType

instance (r : Row) : Decidable (IndexRow r) := by unfold IndexRow; cases r <;> infer_instance

theorem fastaGapType_expected : Gen.fastaGapType = "scaffold".toList := by decide

theorem tiled_good (name : Str) : ∀ (rows : List Row) (oid : Nat) (o : Int), Tiled name oid o rows →
    ∀ r ∈ rows, Good r ∧ IndexRow r := by
  intro rows
  induction rows with
  | nil => intro _ _ _ r hr; cases hr
  | cons x t ih =>
    intro oid o h r hr
    rcases List.mem_cons.mp hr with rfl | hr'
    · cases r with
      | frag f =>
        obtain ⟨h1, h2, -⟩ := h
        have hs : f.strand = 1 := by rw [h1]
        have ht : f.tags = [] := by rw [h1]
        exact ⟨⟨Or.inr (Or.inl hs), h2⟩, hs, ht⟩
      | gap g =>
        obtain ⟨h1, h2, -⟩ := h
        refine ⟨⟨trivial, by omega, ?_⟩, h2⟩
        rw [h2]; decide
    · cases x <;> exact ih _ _ h.2.2 r hr'

/-- what the derived assembly looks like, record by record -/
def RecScaffold (r : Rec) (s : Scaffold) : Prop :=
  s.name = r.name ∧ s.length = r.res.length ∧ ∀ x ∈ s.rows, StrandOk x ∧ RowStrict x ∧ IndexRow x

theorem expScaffolds_recScaffold : ∀ (recs : List Rec) (oid : Nat), Forall2 RecScaffold recs (expScaffolds oid recs)
  | [], _ => trivial
  | r :: t, oid => by
    refine ⟨⟨rfl, specRows_length _ _ _, fun x hx => ?_⟩, expScaffolds_recScaffold t _⟩
    obtain ⟨⟨a, b⟩, c⟩ := tiled_good r.name _ oid 0 (specRows_tiled r.name oid r.res) x hx
    exact ⟨a, b, c⟩

theorem expected_scaffolds (recs : List Rec) : Forall2 RecScaffold recs (recs.foldl addRec {}).scaffolds := by
  rw [foldl_addRec]
  exact expScaffolds_recScaffold recs _

theorem expected_info (recs : List Rec) (hnd : (recs.map Rec.name).Nodup) (r : Rec) (hr : r ∈ recs) :
    ∃ info, getInfo (recs.foldl addRec {}).idx r.name = .ok info ∧ info.length = r.res.length := by
  obtain ⟨pre, post, rfl⟩ := List.append_of_mem hr
  exact ⟨_, getInfo_expected pre r post hnd, rfl⟩

/-- the `.agp` rendering of the derived assembly, for any header lines: strictly valid, object by object, last end =
    the length in the record's index entry = the number of residues of the record -/
theorem built_index_valid (hdr : List Str) (recs : List Rec) (hnd : (recs.map Rec.name).Nodup)
    (idx : List (Str × FastaInfo)) (scs : List Scaffold)
    (hi : idx = (recs.foldl addRec {}).idx) (hs : scs = (recs.foldl addRec {}).scaffolds) :
    Forall2 RecScaffold recs scs ∧
    ∃ bodies : List (List (List Str)),
      formatAgp { header := hdr, scaffolds := scs } =
        .ok (hdr.map (fun h => Gen.agpHeaderPrefix ++ h ++ ['\n']) ++ (bodies.map (List.map lineOfCols)).flatten) ∧
      Forall2 (fun (r : Rec) colss => ∃ info, getInfo idx r.name = .ok info ∧ info.length = r.res.length ∧
                  ValidAgpLines true r.name 0 0 colss info.length) recs bodies := by
  subst hi hs
  have h1 := expected_scaffolds recs
  refine ⟨h1, ?_⟩
  have hgood : ∀ s ∈ (recs.foldl addRec {}).scaffolds, RowsGood s.rows := by
    intro s hs
    exact h1.forall_right (Q := fun s => RowsGood s.rows) (fun _ _ _ hp x hx => ⟨(hp.2.2 x hx).1, (hp.2.2 x hx).2.1⟩) s hs
  obtain ⟨bodies, hb1, hb2⟩ := formatAgp_good { header := hdr, scaffolds := (recs.foldl addRec {}).scaffolds } hgood
  refine ⟨bodies, hb1, ?_⟩
  have hcomp : Forall2 (fun (r : Rec) (colss : List (List Str)) => ValidAgpLines true r.name 0 0 colss r.res.length)
      recs bodies := by
    refine Forall2.comp ?_ h1 hb2
    intro r s colss hp hq
    rw [← hp.1, ← hp.2.1]; exact hq.2
  refine Forall2.imp_of_mem ?_ hcomp
  intro r colss hr _ hv
  obtain ⟨info, hg, hl⟩ := expected_info recs hnd r hr
  exact ⟨info, hg, hl, by rw [hl]; exact hv⟩

end AgpTpf.C06
