/- C15 — the inductive invariant of the atomic cache protocol -/
import AgpTpf.Model.Cache
namespace AgpTpf.C15
open AgpTpf.Cache

/-- (F) a cache file that is present is complete, not from the future, and either renders the current FASTA
    content or is not newer than the FASTA file. -/
def fileInv (content fm clock : Nat) (f : Option FileV) : Prop :=
  ∀ v, f = some v → v.written = v.total ∧ (v.src = content ∨ v.mtime ≤ fm) ∧ v.mtime ≤ clock

def cur (content : Nat) (f : Option FileV) : Prop := ∀ v, f = some v → v.src = content

/-- (P) what each program counter knows, relative to the current FASTA (which cannot change while the process is
    inside `auto_load`). -/
def procInv (content fm clock : Nat) (fai agp : Option FileV) : PC → Prop
  | .start => True
  | .statted m => m = fm
  | .faiOk m => m = fm ∧ cur content fai
  | .bothOk => cur content fai ∧ cur content agp
  | .loadedFai snap => snap.written = snap.total ∧ snap.src = content ∧ cur content agp
  | .index0 => True
  | .readFasta c => c = content
  | .writingFai c _ t => c = content ∧ t ≤ clock
  | .faiClosed c t => c = content ∧ t ≤ clock
  | .faiDone c => c = content
  | .writingAgp c _ t => c = content ∧ t ≤ clock
  | .agpClosed c t => c = content ∧ t ≤ clock
  | .done r c => goodResult (.done r c) = true
  | .crashed => True

structure Inv (s : State) : Prop where
  atomic : s.atomic = true
  mclock : s.fastaMtime ≤ s.clock
  fai : fileInv s.fastaContent s.fastaMtime s.clock s.fai
  agp : fileInv s.fastaContent s.fastaMtime s.clock s.agp
  procs : ∀ pc ∈ s.procs, procInv s.fastaContent s.fastaMtime s.clock s.fai s.agp pc

theorem inv_init (ft at_ : Nat) : Inv (init true ft at_) := by
  refine ⟨rfl, by simp [init], ?_, ?_, ?_⟩ <;> simp [init, fileInv]

/-- a process that is idle has an invariant that mentions no mutable part of the state -/
theorem procInv_idle {c fm clk fai agp pc} (c' fm' clk' : Nat) (fai' agp' : Option FileV)
    (hi : pc.idle = true) (h : procInv c fm clk fai agp pc) : procInv c' fm' clk' fai' agp' pc := by
  cases pc with
  | start | done r c | crashed => exact h
  | _ => exact absurd hi Bool.false_ne_true

theorem cur_none {c} : cur c none := fun _ h => nomatch h

theorem cur_some {c} {v : FileV} (hv : v.src = c) : cur c (some v) := fun _ h => Option.some.inj h ▸ hv

/-- `procInv` sees the clock only as an upper bound and the cache files only through `cur` -/
theorem procInv_mono {c fm clk clk' fai fai' agp agp' pc} (hclk : clk ≤ clk')
    (hf : cur c fai → cur c fai') (ha : cur c agp → cur c agp')
    (h : procInv c fm clk fai agp pc) : procInv c fm clk' fai' agp' pc := by
  cases pc with
  | faiOk m => exact ⟨h.1, hf h.2⟩
  | bothOk => exact ⟨hf h.1, ha h.2⟩
  | loadedFai snap => exact ⟨h.1, h.2.1, ha h.2.2⟩
  | writingFai c k t | faiClosed c t | writingAgp c k t | agpClosed c t => exact ⟨h.1, Nat.le_trans h.2 hclk⟩
  | _ => exact h

theorem fileInv_some {c fm clk} {v : FileV} (hw : v.written = v.total) (hs : v.src = c) (ht : v.mtime ≤ clk) :
    fileInv c fm clk (some v) := fun _ h => Option.some.inj h ▸ ⟨hw, .inl hs, ht⟩

theorem newer_cur {c fm clk f} (h : fileInv c fm clk f) (hn : newer f fm = true) : cur c f := by
  intro v hv
  subst hv
  have := h v rfl
  simp [newer] at hn
  omega

/-- what one file operation of a process must establish: it touches at most the two cache files, and what it
    leaves there keeps the invariants -/
def StepOK (s : State) (r : State × PC) : Prop :=
  ∃ fai agp pc', r = ({ s with fai := fai, agp := agp }, pc') ∧
    fileInv s.fastaContent s.fastaMtime s.clock fai ∧ fileInv s.fastaContent s.fastaMtime s.clock agp ∧
    procInv s.fastaContent s.fastaMtime s.clock fai agp pc' ∧
    (cur s.fastaContent s.fai → cur s.fastaContent fai) ∧ (cur s.fastaContent s.agp → cur s.fastaContent agp)

theorem stepOK_same {s : State} (hI : Inv s) (pc' : PC)
    (h : procInv s.fastaContent s.fastaMtime s.clock s.fai s.agp pc') : StepOK s (s, pc') :=
  ⟨s.fai, s.agp, pc', rfl, hI.fai, hI.agp, h, id, id⟩

theorem step_inv (s : State) (hI : Inv s) (pc : PC)
    (hp : procInv s.fastaContent s.fastaMtime s.clock s.fai s.agp pc) :
    StepOK s (stepProc s pc) := by
  have hat := hI.atomic
  have hfai := hI.fai
  have hagp := hI.agp
  cases pc with
  | start | index0 => exact stepOK_same hI _ rfl
  | statted m =>
    simp only [procInv] at hp; subst hp
    simp only [stepProc]
    apply stepOK_same hI
    split
    · next hn => exact ⟨rfl, newer_cur hfai hn⟩
    · trivial
  | faiOk m =>
    obtain ⟨rfl, hc⟩ := hp
    simp only [stepProc]
    apply stepOK_same hI
    split
    · next hn => exact ⟨hc, newer_cur hagp hn⟩
    · trivial
  | bothOk =>
    obtain ⟨hc1, hc2⟩ := hp
    simp only [stepProc]
    cases hf : s.fai with
    | none => exact stepOK_same hI _ rfl
    | some v => exact stepOK_same hI _ ⟨(hfai v hf).1, hc1 v hf, hc2⟩
  | loadedFai snap =>
    obtain ⟨hs1, hs2, hc2⟩ := hp
    simp only [stepProc]
    cases ha : s.agp with
    | none => exact stepOK_same hI _ rfl
    | some v =>
      exact stepOK_same hI _ (by simp [procInv, goodResult, FileV.complete, (hagp v ha).1, hc2 v ha, hs1, hs2])
  -- opening, writing and closing the temporary file of either cache file leaves the file system as it is
  | readFasta c | faiDone c =>
    simp only [procInv] at hp; subst hp
    simp only [stepProc, hat, if_true]
    exact stepOK_same hI _ ⟨rfl, Nat.le_refl _⟩
  | writingFai c k t | writingAgp c k t =>
    obtain ⟨rfl, ht⟩ := hp
    simp only [stepProc, hat, if_true]
    split <;> exact stepOK_same hI _ ⟨rfl, Nat.le_refl _⟩
  | faiClosed c t =>
    obtain ⟨rfl, ht⟩ := hp
    exact ⟨_, s.agp, _, rfl, fileInv_some rfl rfl ht, hagp, rfl, fun _ => cur_some rfl, id⟩
  | agpClosed c t =>
    obtain ⟨rfl, ht⟩ := hp
    exact ⟨s.fai, _, _, rfl, hfai, fileInv_some rfl rfl ht, by simp [procInv, goodResult], id, fun _ => cur_some rfl⟩
  | done r c | crashed => exact stepOK_same hI _ hp

theorem fileInv_none {c fm clk} : fileInv c fm clk none := fun _ h => nomatch h

theorem fileInv_tick {c fm clk f} (h : fileInv c fm clk f) : fileInv c fm (clk + 1) f := by
  intro v hv; have := h v hv; omega

/-- the FASTA is rewritten now: every cache file becomes "not newer" -/
theorem fileInv_rewrite {c fm clk f} (h : fileInv c fm clk f) : fileInv (c + 1) clk clk f := by
  intro v hv; have := h v hv; omega

theorem inv_applyOp (s : State) (hI : Inv s) (op : Op) : Inv (applyOp s op) := by
  have ⟨hat, hmc, hfai, hagp, hpr⟩ := hI
  cases op with
  | tick =>
    exact ⟨hat, Nat.le_succ_of_le hmc, fileInv_tick hfai, fileInv_tick hagp,
      fun pc h => procInv_mono (Nat.le_succ _) id id (hpr pc h)⟩
  | rewriteFasta =>
    simp only [applyOp]
    split
    · next hall =>
      exact ⟨hat, Nat.le_refl _, fileInv_rewrite hfai, fileInv_rewrite hagp,
        fun pc h => procInv_idle _ _ _ _ _ (List.all_eq_true.1 hall pc h) (hpr pc h)⟩
    · exact hI
  | deleteFai =>
    exact ⟨hat, hmc, fileInv_none, hagp, fun pc h => procInv_mono (Nat.le_refl _) (fun _ => cur_none) id (hpr pc h)⟩
  | deleteAgp =>
    exact ⟨hat, hmc, hfai, fileInv_none, fun pc h => procInv_mono (Nat.le_refl _) id (fun _ => cur_none) (hpr pc h)⟩
  | spawn =>
    refine ⟨hat, hmc, hfai, hagp, fun pc h => ?_⟩
    rcases List.mem_append.1 h with h | h
    · exact hpr pc h
    · cases List.mem_singleton.1 h; trivial
  | crash p =>
    simp only [applyOp]
    split
    · next pc hpc =>
      split
      · exact hI
      · refine ⟨hat, hmc, hfai, hagp, fun q hq => ?_⟩
        rcases List.mem_or_eq_of_mem_set hq with hq | rfl
        · exact hpr q hq
        · trivial
    · exact hI
  | step p =>
    simp only [applyOp]
    split
    · next pc hpc =>
      obtain ⟨fai, agp, pc', e, hf, ha, hp, cf, ca⟩ := step_inv s hI pc (hpr pc (List.mem_of_getElem? hpc))
      rw [e]
      refine ⟨hat, hmc, hf, ha, fun q hq => ?_⟩
      rcases List.mem_or_eq_of_mem_set hq with hq | rfl
      · exact procInv_mono (Nat.le_refl _) cf ca (hpr q hq)
      · exact hp
    · exact hI

theorem inv_run (s : State) (hI : Inv s) (ops : List Op) : Inv (run s ops) :=
  List.foldlRecOn ops applyOp hI fun s hs op _ => inv_applyOp s hs op

theorem inv_safe (s : State) (hI : Inv s) : safe s = true := by
  unfold safe
  apply List.all_eq_true.2
  intro pc hpc
  have := hI.procs pc hpc
  cases pc <;> first | rfl | exact this

end AgpTpf.C15
