/-
  A small concrete indexed FASTA file and scaffold satisfying the hypotheses of the stream theorems
  (non-vacuity fixtures shared by C03 / C13 / C14).
-/
import AgpTpf.Proofs.C03Stream
namespace AgpTpf.StreamExample
open AgpTpf AgpTpf.StreamProofs AgpTpf.SeqProofs

/-- record `x` = AACCNNGTTAC -/
def exRes : Bytes := [65, 65, 67, 67, 78, 78, 71, 84, 84, 65, 67]
/-- `>x\nAACC\nNNGT\nTAC\n` : the record in lines of 4 -/
def exFile : Bytes := [62, 120, 10, 65, 65, 67, 67, 10, 78, 78, 71, 84, 10, 84, 65, 67, 10]
def exInfo : FastaInfo := { length := 11, fileOffset := 3, rpl := 4, mll := 5 }
def exIdx : List (Str × FastaInfo) := [("x".toList, exInfo)]
def exResOf : Str → Bytes := fun _ => exRes
/-- `x:1-4(+) gap(2) x:6-10(-)` -/
def exScaffold : Scaffold := { name := "s".toList, rows :=
  [.frag { name := "x".toList, start := 1, stop := 4, strand := 1 }, .gap { length := 2, gapType := [] },
   .frag { name := "x".toList, start := 6, stop := 10, strand := -1 }] }

/-- `x:1-4(?) gap(1) x:6-10(+)` : a scaffold with an unknown-strand fragment (finding F9) -/
def exUnknown : Scaffold := { name := "s".toList, rows :=
  [.frag { name := "x".toList, start := 1, stop := 4, strand := 0 }, .gap { length := 1, gapType := [] },
   .frag { name := "x".toList, start := 6, stop := 10, strand := 1 }] }

theorem exLaidOut : LaidOut exFile 3 4 5 exRes := by
  have hb : ∀ L, L < 3 → ∀ c, c < 4 → L * 4 + c < exRes.length → exFile[3 + 5 * L + c]? = exRes[L * 4 + c]? := by
    decide
  intro L c hc h
  exact hb L (by simp only [exRes, List.length_cons, List.length_nil] at h; omega) c hc h

theorem exRecordOK : RecordOK exFile exInfo exRes :=
  ⟨by decide, by decide, by decide, exLaidOut⟩

theorem exFragOK (f : Fragment) (hn : f.name = "x".toList) (h1 : 1 ≤ f.start) (h2 : f.start ≤ f.stop) (h3 : f.stop ≤ 11) :
    FragOK exFile exIdx exResOf f :=
  ⟨exInfo, by rw [hn]; rfl, exRecordOK, h1, h2, h3⟩

theorem exRowsOK : ∀ r ∈ exScaffold.rows, RowOK exFile exIdx exResOf r := by
  intro r hr
  simp only [exScaffold, List.mem_cons, List.not_mem_nil, or_false] at hr
  rcases hr with rfl | rfl | rfl
  · exact exFragOK _ rfl (by decide) (by decide) (by decide)
  · trivial
  · exact exFragOK _ rfl (by decide) (by decide) (by decide)

/-- the model indexes this very file to this very index entry (buffer size 3) -/
example : (indexFasta (bLines exFile) 3).toOption.map (·.idx) = some exIdx := by decide +kernel

end AgpTpf.StreamExample
