/-
  T1c helper lemmas for three small kernels (`add_scaffold`, `append_scaffold`, `qc_sub_fragments`): loop lemmas over `PyRt.forIn`,
  `PyRt.slice l none (some (-1))`, `PyRt.enumerate` + `pyGet (i+1)`.
  Nothing here mentions a generated term: the lemmas are about the run-time combinators and the model functions only.
-/
import AgpTpf.Model.Lookup
import AgpTpf.Model.Remap
import AgpTpf.Proofs.Lib.PyRt
namespace AgpTpf.ImpSmall
open AgpTpf

theorem ok_bind {α β : Type} (a : α) (f : α → R β) : ((Except.ok a : R α) >>= f) = f a := rfl

/-- the loop state of `add_scaffold` as the translator packs it (carried variables ordered by type, then name: `idx : List Int`, `end : Int`) -/
abbrev idxPack (e : Int) (idx : List Int) : List Int × Int := (idx, e)

/-- one pass of `end += row.length; idx.append(end)` -/
def idxStep (s : List Int × Int) (row : Row) : List Int × Int := idxPack (s.2 + row.length) (s.1 ++ [s.2 + row.length])

theorem foldl_idxStep (rows : List Row) (e : Int) (idx : List Int) :
    rows.foldl idxStep (idxPack e idx) = idxPack (e + rowsLength rows) (idx ++ cumEnds e rows) := by
  induction rows generalizing e idx with
  | nil => simp [rowsLength, sumInts, cumEnds]
  | cons r rs ih =>
    rw [List.foldl_cons, show idxStep (idxPack e idx) r = idxPack (e + r.length) (idx ++ [e + r.length]) from rfl, ih]
    simp only [cumEnds, rowsLength, List.map_cons, sumInts, List.append_assoc, List.cons_append,
      List.nil_append, idxPack]
    rw [Int.add_assoc]

theorem appendRows_some (rows othr : List Row) (g : Gap) :
    Scaffold.appendRows rows othr (some g) = (if (!rows.isEmpty) = true then rows ++ [Row.gap g] else rows) ++ othr := by
  unfold Scaffold.appendRows
  cases rows <;> simp

/-- `append_scaffold(othr, gap)` on the rows, for an arbitrary row object `gap` (Python: `if gap and self.rows: self.add_row(gap)`,
    then `self.rows.extend(othr.rows)`) -/
def appendRowsRow (rows othr : List Row) (gap : Option Row) : List Row :=
  match gap with
  | some r => if rows.isEmpty then othr else rows ++ [r] ++ othr
  | none => rows ++ othr

/-- the same, written as the two statements of the Python -/
theorem appendRowsRow_eq (rows othr : List Row) (gap : Option Row) :
    appendRowsRow rows othr gap
      = (match gap with
         | some r => if rows.isEmpty then rows else rows ++ [r]
         | none => rows) ++ othr := by
  unfold appendRowsRow
  cases gap with
  | none => rfl
  | some r => cases rows <;> simp

theorem appendRowsRow_some (rows othr : List Row) (r : Row) :
    appendRowsRow rows othr (some r) = (if (!rows.isEmpty) = true then rows ++ [r] else rows) ++ othr := by
  unfold appendRowsRow
  cases rows <;> simp

theorem appendRowsRow_gap (rows othr : List Row) (g : Option Gap) :
    appendRowsRow rows othr (g.map Row.gap) = Scaffold.appendRows rows othr g := by
  cases g <;> rfl

theorem lexLe2_key_eq_lexLe :
    (fun (a b : Fragment) => PyRt.lexLe2 (a.start, a.stop) (b.start, b.stop)) = lexLe := by
  funext a b
  unfold PyRt.lexLe2 lexLe
  by_cases h1 : a.start < b.start
  · simp [h1]
  · by_cases h2 : a.start > b.start
    · have : ¬ a.start = b.start := by omega
      simp [h1, h2, this]
    · have : a.start = b.start := by omega
      simp [this]

def consPairs {α : Type} (l : List α) : List (α × α) := l.zip (l.drop 1)

/-! ### positional form of the same loop: WHAT the k-th pass computes, whatever the iterable is

`for i, a in enumerate(L[:-1]): b = L[i + 1]` and `for i in range(len(L) - 1): a = L[i]; b = L[i + 1]` are the same loop: the k-th
item of the iterable leads the body to the k-th consecutive pair of `L`.  `forIn_consPairs` asks for exactly that (plus the number
of items); the facts below say what the k-th item of each iterable is, so that `simp` can close the hypothesis on the spot. -/

theorem consPairs_length {α : Type} (L : List α) : (consPairs L).length = L.length - 1 := by
  unfold consPairs
  simp only [List.length_zip, List.length_drop]
  omega

theorem consPairs_getElem {α : Type} (L : List α) (k : Nat) (h : k < (consPairs L).length) :
    (consPairs L)[k] = (L[k]'(by rw [consPairs_length] at h; omega), L[k + 1]'(by rw [consPairs_length] at h; omega)) := by
  have h' : k < (L.zip (L.drop 1)).length := h
  show (L.zip (L.drop 1))[k]'h' = _
  simp only [List.getElem_zip, List.getElem_drop]
  congr 2
  omega

theorem forIn_consPairs {ι α σ ρ : Type} (L : List α) (step : α → α → σ → σ) (xs : List ι)
    (body : ι → σ → R (PyRt.Ctl σ ρ)) (hlen : xs.length = L.length - 1)
    (hbody : ∀ (k : Nat) (h1 : k < xs.length) (h2 : k + 1 < L.length) (s : σ),
      body xs[k] s = .ok (.next (step L[k] L[k + 1] s)))
    (s : σ) :
    PyRt.forIn xs s body = .ok (.fell ((consPairs L).foldl (fun s p => step p.1 p.2 s) s)) := by
  refine PyRt.forIn_getElem (consPairs L) (fun p s => step p.1 p.2 s) xs body (by rw [hlen, consPairs_length]) ?_ s
  intro k h1 h2 s'
  rw [consPairs_getElem L k h2]
  exact hbody k h1 (by rw [consPairs_length] at h2; omega) s'

theorem pyGet_natCast_succ {α : Type} (l : List α) (k : Nat) (h : k + 1 < l.length) : pyGet l ((k : Int) + 1) = .ok l[k + 1] :=
  pyGet_of_lt l (k + 1) h

/-- the whole first loop of `qc_sub_fragments`: `for i, a in enumerate(L[:-1]): b = L[i + 1]; …` -/
theorem forIn_enum_dropLast {α σ ρ : Type} (L : List α) (step : α → α → σ → σ)
    (body : Int × α → σ → R (PyRt.Ctl σ ρ))
    (hbody : ∀ (i : Int) (a b : α) (s : σ), pyGet L (i + 1) = .ok b → body (i, a) s = .ok (.next (step a b s)))
    (s : σ) :
    PyRt.forIn (PyRt.enumerate (PyRt.slice L none (some (-1)))) s body
      = .ok (.fell ((consPairs L).foldl (fun s p => step p.1 p.2 s) s)) :=
  forIn_consPairs L step _ body (by rw [PyRt.length_enumerate, PyRt.length_slice_none_neg_one])
    (fun k h1 h2 s => by
      rw [PyRt.getElem_enumerate, PyRt.getElem_slice_none_neg_one]
      exact hbody k _ _ s (pyGet_natCast_succ L k h2)) s

theorem length_rangeUp (a b : Int) : (PyRt.rangeUp a b).length = (b - a).toNat := PyRt.length_rangeUp a b

theorem getElem_rangeUp (a b : Int) (k : Nat) (h : k < (PyRt.rangeUp a b).length) : (PyRt.rangeUp a b)[k] = a + (k : Int) :=
  PyRt.getElem_rangeUp a b k h

/-- the state of the first loop as the translator packs it (carried variables ordered by type, then by name:
    `pairs_with_gaps : List …`, `abut_count : Int`, `overlap_count : Int`).  Everything below goes through `QSt.pack` and the three
    named projections, so a change of the order is repaired here only. -/
abbrev QSt : Type := List (Fragment × Fragment × Option Int) × Int × Int
namespace QSt
abbrev pack (abut over : Int) (pairs : List (Fragment × Fragment × Option Int)) : QSt := (pairs, abut, over)
abbrev abut (s : QSt) : Int := s.2.1
abbrev over (s : QSt) : Int := s.2.2
abbrev pairs (s : QSt) : List (Fragment × Fragment × Option Int) := s.1
theorem eta (s : QSt) : s = pack s.abut s.over s.pairs := rfl
@[simp] theorem abut_pack (a o : Int) (p : List (Fragment × Fragment × Option Int)) : (pack a o p).abut = a := rfl
@[simp] theorem over_pack (a o : Int) (p : List (Fragment × Fragment × Option Int)) : (pack a o p).over = o := rfl
@[simp] theorem pairs_pack (a o : Int) (p : List (Fragment × Fragment × Option Int)) : (pack a o p).pairs = p := rfl
end QSt

def qcStep (a b : Fragment) (s : QSt) : QSt :=
  QSt.pack (if a.abuts b then s.abut + 1 else s.abut)
   (if a.overlaps b then s.over + 1 else s.over)
   (if (match a.gapBetween b with | some v => decide (v ≠ 0) | none => false) then s.pairs ++ [(a, b, a.gapBetween b)] else s.pairs)

theorem foldl_qcStep (pairs : List (Fragment × Fragment)) (s : QSt) :
    let r := pairs.foldl (fun s p => qcStep p.1 p.2 s) s
    r.abut = s.abut + ((pairs.filter (fun p => p.1.abuts p.2)).length : Int) ∧
    r.over = s.over + ((pairs.filter (fun p => p.1.overlaps p.2)).length : Int) ∧
    r.pairs.length = s.pairs.length +
      (pairs.filter (fun p => match p.1.gapBetween p.2 with | some g => g ≠ 0 | none => false)).length := by
  induction pairs generalizing s with
  | nil => simp
  | cons p ps ih =>
    simp only [List.foldl_cons]
    obtain ⟨h1, h2, h3⟩ := ih (qcStep p.1 p.2 s)
    simp only [h1, h2, h3, List.filter_cons]
    refine ⟨?_, ?_, ?_⟩
    · unfold qcStep; by_cases h : p.1.abuts p.2 <;> simp [h] <;> omega
    · unfold qcStep; by_cases h : p.1.overlaps p.2 <;> simp [h] <;> omega
    · unfold qcStep
      cases hg : p.1.gapBetween p.2 with
      | none => simp
      | some v =>
        by_cases hv : v = 0
        · simp [hv]
        · simp [hv]; omega

/-- the three counts `qcPasses` looks at, named (so that proofs can treat them as opaque numbers) -/
def abutCount (subs : List Fragment) : Nat :=
  ((consPairs (stableSort lexLe subs)).filter (fun p => p.1.abuts p.2)).length
def overCount (subs : List Fragment) : Nat :=
  ((consPairs (stableSort lexLe subs)).filter (fun p => p.1.overlaps p.2)).length
def gapCount (subs : List Fragment) : Nat :=
  ((consPairs (stableSort lexLe subs)).filter
    (fun p => match p.1.gapBetween p.2 with | some g => g ≠ 0 | none => false)).length

theorem qcPasses_eq (orig : Fragment) (subs : List Fragment) :
    qcPasses orig subs =
      (decide (orig.length = sumInts (subs.map Fragment.length)) && overCount subs == 0 &&
        (abutCount subs : Int) == (subs.length : Int) - 1 && gapCount subs == 0) := rfl

theorem qc_loop_counts (subs : List Fragment) :
    let r := (consPairs (stableSort lexLe subs)).foldl (fun s p => qcStep p.1 p.2 s) (QSt.pack 0 0 [])
    r.abut = (abutCount subs : Int) ∧ r.over = (overCount subs : Int) ∧ r.pairs.length = gapCount subs := by
  obtain ⟨h1, h2, h3⟩ := foldl_qcStep (consPairs (stableSort lexLe subs)) (QSt.pack 0 0 [])
  simp only [QSt.abut_pack, QSt.over_pack, QSt.pairs_pack, Int.zero_add, List.length_nil, Nat.zero_add] at h1 h2 h3
  exact ⟨h1, h2, h3⟩

/-- the second loop (`for … in pairs_with_gaps: msg += …`) -/
theorem foldl_const_true {α : Type} (xs : List α) (m : Bool) :
    xs.foldl (fun (_ : Bool) (_ : α) => true) m = (m || !xs.isEmpty) := by
  cases xs with
  | nil => simp
  | cons x xs =>
    simp only [List.foldl_cons, List.isEmpty_cons, Bool.not_false, Bool.or_true]
    induction xs with
    | nil => rfl
    | cons y ys ih => simpa using ih

end AgpTpf.ImpSmall
