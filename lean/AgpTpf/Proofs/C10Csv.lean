/-
  `chromosomeNameCsv` against a recursive spec; the loop with the row constructor a variable (`chrStep`), since the
  chromosome report (Model/CliPlan `chromosomesReportAsm`) runs the same loop.
-/
import AgpTpf.Model.Remap
import AgpTpf.Proofs.Lib.Py
namespace AgpTpf.C10
open AgpTpf

def isChrRank (s : Scaffold) : Bool := decide (s.rank = (1 : Int) ∨ s.rank = (2 : Int))

/-- the earlier chromosome-list scaffold that came from the same Pretext scaffold, if any -/
def earlierSame (earlier : List Scaffold) (s : Scaffold) : Option Scaffold :=
  if truthy s.originalName then earlier.find? (fun e => e.originalName = s.originalName) else none

/-- one CSV line, given the rank-1/2 scaffolds before it -/
def csvLine (prefix_ : Str) (earlier : List Scaffold) (s : Scaffold) : Str × Str × Bool :=
  match earlierSame earlier s with
  | some e => (s.name, replaceFirst prefix_ [] e.name, false)
  | none => (s.name, replaceFirst prefix_ [] s.name, true)

def csvSpec (prefix_ : Str) : List Scaffold → List Scaffold → List (Str × Str × Bool)
  | _, [] => []
  | earlier, s :: r => csvLine prefix_ earlier s :: csvSpec prefix_ (earlier ++ [s]) r

/-- the loop body `chromosome_name_csv` and `chromosomes_report_csv` (assembly_stats.py) share: `mk` makes the row from the
    scaffold, its chromosome name and the `localised` flag -/
def chrStep {β : Type} (mk : Scaffold → Str → Bool → β) (prefix_ : Str) (acc : List β × List (Option Str × Str))
    (s : Scaffold) : List β × List (Option Str × Str) :=
  let (out, seen) := acc
  if s.rank = (1 : Int) ∨ s.rank = (2 : Int) then
    match (if truthy s.originalName then dGet? seen s.originalName else none) with
    | some cn => (out ++ [mk s cn false], seen)
    | none =>
      let cn := replaceFirst prefix_ [] s.name
      (out ++ [mk s cn true], dSet seen s.originalName cn)
  else acc

def chrSpec {β : Type} (mk : Scaffold → Str → Bool → β) (prefix_ : Str) : List Scaffold → List Scaffold → List β
  | _, [] => []
  | earlier, s :: r =>
    mk s (csvLine prefix_ earlier s).2.1 (csvLine prefix_ earlier s).2.2 :: chrSpec mk prefix_ (earlier ++ [s]) r

def mkCsv (s : Scaffold) (cn : Str) (loc : Bool) : Str × Str × Bool := (s.name, cn, loc)

def csvStep (prefix_ : Str) : List (Str × Str × Bool) × List (Option Str × Str) → Scaffold →
    List (Str × Str × Bool) × List (Option Str × Str) := chrStep mkCsv prefix_

theorem chromosomeNameCsv_eq (prefix_ : Str) (scs : List Scaffold) :
    chromosomeNameCsv prefix_ scs = (scs.foldl (csvStep prefix_) ([], [])).1 := rfl

/-- `seen` remembers, for every truthy Pretext-scaffold name, the chromosome name of the first scaffold that had it -/
def SeenOk (prefix_ : Str) (seen : List (Option Str × Str)) (earlier : List Scaffold) : Prop :=
  ∀ orig, truthy orig = true →
    dGet? seen orig = (earlier.find? (fun e => e.originalName = orig)).map (fun e => replaceFirst prefix_ [] e.name)

theorem seenOk_snoc {prefix_ : Str} {seen : List (Option Str × Str)} {earlier : List Scaffold}
    (hs : SeenOk prefix_ seen earlier) (s : Scaffold) :
    SeenOk prefix_ (match earlierSame earlier s with
      | some _ => seen
      | none => dSet seen s.originalName (replaceFirst prefix_ [] s.name)) (earlier ++ [s]) := by
  intro orig ho
  rw [List.find?_append]
  unfold earlierSame
  split
  · rename_i e he
    rw [hs orig ho]
    cases hfo : earlier.find? (fun e => e.originalName = orig) with
    | some _ => rfl
    | none =>
      split at he
      · have : ¬ s.originalName = orig := fun e' => by rw [e', hfo] at he; cases he
        simp [this]
      · cases he
  · rename_i he
    by_cases e : s.originalName = orig
    · subst e
      rw [if_pos ho] at he
      rw [dGet?_dSet_self, he]; simp
    · rw [dGet?_dSet_ne _ _ e, hs orig ho]
      cases earlier.find? (fun e => e.originalName = orig) <;> simp [e]

theorem chrStep_line {β : Type} (mk : Scaffold → Str → Bool → β) {prefix_ : Str} {seen : List (Option Str × Str)}
    {earlier : List Scaffold} (hs : SeenOk prefix_ seen earlier) (out : List β) (s : Scaffold)
    (hr : s.rank = (1 : Int) ∨ s.rank = (2 : Int)) :
    chrStep mk prefix_ (out, seen) s =
      (out ++ [mk s (csvLine prefix_ earlier s).2.1 (csvLine prefix_ earlier s).2.2],
        match earlierSame earlier s with
        | some _ => seen
        | none => dSet seen s.originalName (replaceFirst prefix_ [] s.name)) := by
  have hl : (if truthy s.originalName = true then dGet? seen s.originalName else none) =
      (earlierSame earlier s).map (fun e => replaceFirst prefix_ [] e.name) := by
    unfold earlierSame
    split
    · rename_i ht; exact hs _ ht
    · rfl
  unfold chrStep csvLine
  simp only [if_pos hr, hl]
  cases earlierSame earlier s <;> rfl

theorem chr_fold {β : Type} (mk : Scaffold → Str → Bool → β) (prefix_ : Str) (scs : List Scaffold) :
    ∀ (out : List β) (seen : List (Option Str × Str)) (earlier : List Scaffold),
      SeenOk prefix_ seen earlier →
      (scs.foldl (chrStep mk prefix_) (out, seen)).1 = out ++ chrSpec mk prefix_ earlier (scs.filter isChrRank) := by
  induction scs with
  | nil => intro out seen earlier _; simp [chrSpec]
  | cons s r ih =>
    intro out seen earlier hs
    rw [List.foldl_cons, List.filter_cons]
    by_cases hr : (s.rank = (1 : Int) ∨ s.rank = (2 : Int))
    · rw [chrStep_line mk hs out s hr, if_pos (by simp [isChrRank, hr]), chrSpec]
      refine (ih _ _ _ (seenOk_snoc hs s)).trans ?_
      rw [List.append_assoc]; rfl
    · have : chrStep mk prefix_ (out, seen) s = (out, seen) := by unfold chrStep; simp only [if_neg hr]
      rw [this, if_neg (by simp [isChrRank, hr])]
      exact ih out seen earlier hs

theorem chr_loop {β : Type} (mk : Scaffold → Str → Bool → β) (prefix_ : Str) (scs : List Scaffold) :
    (scs.foldl (chrStep mk prefix_) ([], [])).1 = chrSpec mk prefix_ [] (scs.filter isChrRank) := by
  rw [chr_fold mk prefix_ scs [] [] [] (by intro orig _; simp [dGet?]), List.nil_append]

theorem chrSpec_mkCsv (prefix_ : Str) : ∀ (rs earlier : List Scaffold), chrSpec mkCsv prefix_ earlier rs = csvSpec prefix_ earlier rs
  | [], _ => rfl
  | s :: r, earlier => by
    rw [chrSpec, csvSpec, chrSpec_mkCsv prefix_ r]
    congr 1
    unfold csvLine mkCsv; split <;> rfl

theorem chromosomeNameCsv_spec (prefix_ : Str) (scs : List Scaffold) :
    chromosomeNameCsv prefix_ scs = csvSpec prefix_ [] (scs.filter isChrRank) := by
  rw [chromosomeNameCsv_eq, ← chrSpec_mkCsv]; exact chr_loop mkCsv prefix_ scs

theorem csvSpec_length (prefix_ : Str) : ∀ (l earlier : List Scaffold),
    (csvSpec prefix_ earlier l).length = l.length ∧ (csvSpec prefix_ earlier l).map (·.1) = l.map (·.name) := by
  intro l
  induction l with
  | nil => intro _; exact ⟨rfl, rfl⟩
  | cons s r ih =>
    intro earlier
    obtain ⟨h1, h2⟩ := ih (earlier ++ [s])
    refine ⟨by simp [csvSpec, h1], ?_⟩
    simp only [csvSpec, List.map_cons, h2]
    congr 1
    unfold csvLine; split <;> rfl

theorem csvSpec_append (prefix_ : Str) : ∀ (pre earlier : List Scaffold) (s : Scaffold) (post : List Scaffold),
    csvSpec prefix_ earlier (pre ++ s :: post) =
      csvSpec prefix_ earlier pre ++ csvLine prefix_ (earlier ++ pre) s :: csvSpec prefix_ (earlier ++ pre ++ [s]) post := by
  intro pre
  induction pre with
  | nil => intro earlier s post; simp [csvSpec]
  | cons a r ih =>
    intro earlier s post
    simp only [List.cons_append, csvSpec]
    rw [ih (earlier ++ [a]) s post]
    simp [List.append_assoc]

theorem csvLine_localised (prefix_ : Str) (earlier : List Scaffold) (s : Scaffold) :
    ((csvLine prefix_ earlier s).2.2 = false ↔
      (truthy s.originalName = true ∧ ∃ e ∈ earlier, e.originalName = s.originalName)) ∧
    ((csvLine prefix_ earlier s).2.2 = true → (csvLine prefix_ earlier s).2.1 = replaceFirst prefix_ [] s.name) := by
  unfold csvLine earlierSame
  by_cases ht : truthy s.originalName = true
  · simp only [if_pos ht]
    cases hf : earlier.find? (fun e => e.originalName = s.originalName) with
    | some e =>
      have hm := List.mem_of_find?_eq_some hf
      have he := List.find?_some hf
      simp only [decide_eq_true_eq] at he
      exact ⟨⟨fun _ => ⟨ht, e, hm, he⟩, fun _ => rfl⟩, fun h => (by cases h)⟩
    | none =>
      refine ⟨⟨fun h => (by cases h), ?_⟩, fun _ => rfl⟩
      rintro ⟨_, e, hm, he⟩
      have := List.find?_eq_none.1 hf e hm
      simp [he] at this
  · simp only [if_neg ht]
    exact ⟨⟨fun h => (by cases h), fun h => absurd h.1 ht⟩, fun _ => trivial⟩

end AgpTpf.C10
