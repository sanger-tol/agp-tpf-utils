/-
  Chunk arithmetic of `fwd_chunks`, `rev_chunks`, `get_gap_iter` (fasta/index.py) — helper lemmas for C03 / C13.
-/
import AgpTpf.Proofs.Lib.Bytes
namespace AgpTpf.ChunkProofs
open AgpTpf

/-- `Tiles bs a stop l`: `l` is a list of consecutive non-empty closed intervals, each at most `bs` long, from `a` to
    `stop` (`[]` tiles only the empty range `a = stop + 1`). -/
def Tiles (bs : Int) : Int → Int → List (Int × Int) → Prop
  | a, stop, [] => a = stop + 1
  | a, stop, c :: r => c.1 = a ∧ c.1 ≤ c.2 ∧ c.2 - c.1 + 1 ≤ bs ∧ c.2 ≤ stop ∧ Tiles bs (c.2 + 1) stop r

theorem chunkBounds_succ (start stop bs : Int) (i : Nat) :
    chunkBounds start stop bs (i + 1) = chunkBounds (start + bs) stop bs i := by
  unfold chunkBounds
  rw [show start + ((i + 1 : Nat) : Int) * bs = start + bs + (i : Int) * bs by
    rw [Int.natCast_succ, Int.add_mul]; omega]

theorem map_chunkBounds_succ (start stop bs : Int) (n : Nat) :
    (List.range (n + 1)).map (chunkBounds start stop bs)
      = (start, min stop (start + bs - 1)) :: (List.range n).map (chunkBounds (start + bs) stop bs) := by
  rw [List.range_succ_eq_map, List.map_cons, List.map_map]
  congr 1
  · simp [chunkBounds]
  · exact List.map_congr_left fun i _ => chunkBounds_succ start stop bs i

theorem tiles_range (bs stop : Int) (hbs : 1 ≤ bs) :
    ∀ (n : Nat) (start : Int), start + (n : Int) * bs ≤ stop → stop < start + (n : Int) * bs + bs →
      Tiles bs start stop ((List.range (n + 1)).map (chunkBounds start stop bs))
  | 0, start, h1, h2 => by
    rw [map_chunkBounds_succ, show min stop (start + bs - 1) = stop by omega]
    exact ⟨rfl, by omega, by omega, Int.le_refl _, rfl⟩
  | n + 1, start, h1, h2 => by
    rw [Int.natCast_succ, Int.add_mul, Int.one_mul] at h1 h2
    have hn : 0 ≤ (n : Int) * bs := Int.mul_nonneg (by omega) (by omega)
    rw [map_chunkBounds_succ, show min stop (start + bs - 1) = start + bs - 1 by omega]
    refine ⟨rfl, by omega, by omega, by omega, ?_⟩
    rw [show start + bs - 1 + 1 = start + bs by omega]
    exact tiles_range bs stop hbs n (start + bs) (by omega) (by omega)

theorem fwdChunkList_eq (start stop bs : Int) (hbs : 1 ≤ bs) (h : start ≤ stop) :
    fwdChunkList start stop bs
      = (List.range ((pyDiv (stop - start) bs).toNat + 1)).map (chunkBounds start stop bs) := by
  unfold fwdChunkList
  have := pyDiv_nonneg (stop - start) bs (by omega) hbs
  have e : (1 + pyDiv (stop - start) bs).toNat = (pyDiv (stop - start) bs).toNat + 1 := by omega
  simp only [e]

theorem fwdChunkList_tiles (start stop bs : Int) (hbs : 1 ≤ bs) (h : start ≤ stop) :
    Tiles bs start stop (fwdChunkList start stop bs) := by
  rw [fwdChunkList_eq start stop bs hbs h]
  have h0 := pyDiv_nonneg (stop - start) bs (by omega) hbs
  have ⟨h1, h2⟩ := pyDiv_spec (stop - start) bs hbs
  have e : (((pyDiv (stop - start) bs).toNat : Nat) : Int) = pyDiv (stop - start) bs := by omega
  apply tiles_range bs stop hbs
  · rw [e]; omega
  · rw [e]; omega

theorem fwdChunkList_ne_nil (start stop bs : Int) (hbs : 1 ≤ bs) (h : start ≤ stop) :
    fwdChunkList start stop bs ≠ [] := by
  rw [fwdChunkList_eq start stop bs hbs h]
  simp [List.range_succ]

theorem revChunkList_eq_reverse (start stop bs : Int) (hbs : 1 ≤ bs) (h : start ≤ stop) :
    revChunkList start stop bs = (fwdChunkList start stop bs).reverse := by
  rw [fwdChunkList_eq start stop bs hbs h]
  unfold revChunkList
  have h0 := pyDiv_nonneg (stop - start) bs (by omega) hbs
  simp only [show ¬ (pyDiv (stop - start) bs < 0) by omega, if_false, List.map_reverse]

theorem Tiles.size_le {bs : Int} : ∀ {l : List (Int × Int)} {a stop : Int}, Tiles bs a stop l →
    ∀ c ∈ l, 1 ≤ c.2 - c.1 + 1 ∧ c.2 - c.1 + 1 ≤ bs
  | [], _, _, _, c, hc => by cases hc
  | d :: r, a, stop, ht, c, hc => by
    obtain ⟨h1, h2, h3, _, h4⟩ := ht
    rcases List.mem_cons.mp hc with rfl | hc
    · omega
    · exact Tiles.size_le h4 c hc

theorem Tiles.within {bs : Int} : ∀ {l : List (Int × Int)} {a stop : Int}, Tiles bs a stop l →
    ∀ c ∈ l, a ≤ c.1 ∧ c.1 ≤ c.2 ∧ c.2 ≤ stop
  | [], _, _, _, c, hc => by cases hc
  | d :: r, a, stop, ht, c, hc => by
    obtain ⟨h1, h2, h3, h5, h4⟩ := ht
    rcases List.mem_cons.mp hc with rfl | hc
    · omega
    · have := Tiles.within h4 c hc
      omega

theorem Tiles.head {bs : Int} {l : List (Int × Int)} {a stop : Int} (h : Tiles bs a stop l) (hne : l ≠ []) :
    (l.head hne).1 = a := by
  cases l with
  | nil => exact absurd rfl hne
  | cons d r => exact h.1

theorem Tiles.last {bs : Int} : ∀ {l : List (Int × Int)} {a stop : Int}, Tiles bs a stop l → (hne : l ≠ []) →
    (l.getLast hne).2 = stop
  | [], _, _, _, hne => absurd rfl hne
  | [d], a, stop, ht, _ => by
    obtain ⟨h1, h2, h3, _, h4⟩ := ht
    simp only [Tiles] at h4
    simp only [List.getLast_singleton]; omega
  | d :: e :: r, a, stop, ht, _ => by
    rw [List.getLast_cons (by simp)]
    exact Tiles.last ht.2.2.2.2 (by simp)

theorem Tiles.consecutive {bs : Int} : ∀ {l : List (Int × Int)} {a stop : Int}, Tiles bs a stop l →
    ∀ k (h : k + 1 < l.length), (l[k + 1]).1 = (l[k]).2 + 1
  | [], _, _, _, k, h => absurd h (Nat.not_lt_zero _)
  | [d], _, _, _, k, h => absurd (Nat.lt_of_succ_lt_succ h) (Nat.not_lt_zero _)
  | d :: e :: r, a, stop, ht, k, h => by
    cases k with
    | zero => exact ht.2.2.2.2.1
    | succ k => exact Tiles.consecutive ht.2.2.2.2 k (Nat.lt_of_succ_lt_succ h)

theorem Tiles.sum {bs : Int} : ∀ {l : List (Int × Int)} {a stop : Int}, Tiles bs a stop l →
    sumInts (l.map (fun c => c.2 - c.1 + 1)) = stop - a + 1
  | [], a, stop, ht => by simp [Tiles] at ht; simp [sumInts]; omega
  | d :: r, a, stop, ht => by
    obtain ⟨h1, h2, h3, _, h4⟩ := ht
    have := Tiles.sum h4
    simp only [List.map_cons, sumInts, this]
    omega

theorem Tiles.glue {bs : Int} (sl : Int → Int → List Nat) (lo : Int)
    (hadd : ∀ a b c, lo ≤ a → a ≤ b → b ≤ c → sl a b ++ sl (b + 1) c = sl a c) :
    ∀ {l : List (Int × Int)} {a stop : Int}, lo ≤ a → Tiles bs a stop l → l ≠ [] →
      (l.map (fun c => sl c.1 c.2)).flatten = sl a stop
  | [], _, _, _, _, hne => absurd rfl hne
  | [d], a, stop, _, ht, _ => by
    obtain ⟨h1, h2, h3, _, h4⟩ := ht
    simp only [Tiles] at h4
    have : d.2 = stop := by omega
    simp [h1, this]
  | d :: e :: r, a, stop, hlo, ht, _ => by
    obtain ⟨h1, h2, h3, h5, h4⟩ := ht
    have ih := Tiles.glue sl lo hadd (by omega) h4 (by simp)
    have hw := Tiles.within h4 e (by simp)
    rw [List.map_cons, List.flatten_cons, ih, ← h1]
    apply hadd <;> omega

def gapChunk (length bs : Int) (i : Nat) : Int :=
  let cs : Int := (i : Int) * bs; let ce := min length (cs + bs); max 0 (ce - cs)

theorem gapChunkList_eq (length bs : Int) :
    gapChunkList length bs = (List.range (1 + pyDiv length bs).toNat).map (gapChunk length bs) := rfl

theorem gapChunk_succ (length bs : Int) (i : Nat) :
    gapChunk length bs (i + 1) = gapChunk (length - bs) bs i := by
  simp only [gapChunk, Int.natCast_succ, Int.add_mul, Int.one_mul]
  omega

theorem map_gapChunk_succ (len bs : Int) (n : Nat) :
    (List.range (n + 1)).map (gapChunk len bs) = max 0 (min len bs) :: (List.range n).map (gapChunk (len - bs) bs) := by
  rw [List.range_succ_eq_map, List.map_cons, List.map_map]
  congr 1
  · simp [gapChunk]
  · exact List.map_congr_left fun i _ => gapChunk_succ len bs i

theorem gap_range (bs : Int) (hbs : 1 ≤ bs) :
    ∀ (n : Nat) (len : Int), (n : Int) * bs ≤ len → len < (n : Int) * bs + bs →
      sumInts ((List.range (n + 1)).map (gapChunk len bs)) = len ∧
      ∀ c ∈ (List.range (n + 1)).map (gapChunk len bs), 0 ≤ c ∧ c ≤ bs
  | 0, len, h1, h2 => by
    rw [map_gapChunk_succ, show max 0 (min len bs) = len by omega]
    simp only [List.range_zero, List.map_nil, sumInts, Int.add_zero, List.mem_singleton, forall_eq, true_and]
    omega
  | n + 1, len, h1, h2 => by
    rw [Int.natCast_succ, Int.add_mul, Int.one_mul] at h1 h2
    have hn : 0 ≤ (n : Int) * bs := Int.mul_nonneg (by omega) (by omega)
    have ⟨ih1, ih2⟩ := gap_range bs hbs n (len - bs) (by omega) (by omega)
    rw [map_gapChunk_succ, show max 0 (min len bs) = bs by omega]
    refine ⟨by rw [sumInts, ih1]; omega, fun c hc => ?_⟩
    rcases List.mem_cons.mp hc with rfl | hc
    · omega
    · exact ih2 c hc

theorem gapChunkList_spec (len bs : Int) (hbs : 1 ≤ bs) :
    sumInts (gapChunkList len bs) = max 0 len ∧ ∀ c ∈ gapChunkList len bs, 0 ≤ c ∧ c ≤ bs := by
  rw [gapChunkList_eq]
  by_cases hl : 0 ≤ len
  · have h0 := pyDiv_nonneg len bs hl hbs
    have ⟨h1, h2⟩ := pyDiv_spec len bs hbs
    have e : (1 + pyDiv len bs).toNat = (pyDiv len bs).toNat + 1 := by omega
    have e' : (((pyDiv len bs).toNat : Nat) : Int) = pyDiv len bs := by omega
    rw [e]
    have := gap_range bs hbs (pyDiv len bs).toNat len (by rw [e']; omega) (by rw [e']; omega)
    rw [this.1]
    exact ⟨by omega, this.2⟩
  · have h0 := pyDiv_neg len bs (by omega) hbs
    have e : (1 + pyDiv len bs).toNat = 0 := by omega
    rw [e]
    simp [sumInts]
    omega

end AgpTpf.ChunkProofs
