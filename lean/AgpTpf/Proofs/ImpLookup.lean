/-
  T1c tie for `IndexedAssembly.find_overlaps` (`find_overlaps_tie`, last): the loops of the translated source
  (`Gen.Imp.IndexedAssembly_find_overlaps`, over `PyRt.whileLoop` / `PyRt.forIn`) compute what the model's recursive functions (`bsearch`,
  `extendLeft`, `extendRight`, `skipGapsRight`, `skipGapsLeft`, `pySlice`, Model/Lookup.lean) compute.

  Every loop lemma is stated for an ARBITRARY condition / body, described only by what one pass does on in-range values (hypotheses
  `hcond` / `hbody`), in the shape such a pass has in the source (an `if` each of whose branches returns, a bind per subscript), so the tie
  never mentions the generated lambda terms: it discharges `hcond` / `hbody` by `simp` with the subscripts that are in range.
-/
import AgpTpf.Gen.Imp
import AgpTpf.Proofs.Lib.Lookup
import AgpTpf.Proofs.ImpRef
namespace AgpTpf.ImpLookup
open AgpTpf AgpTpf.PyRt

theorem pyGet_idxAt (idx : List Int) (k : Nat) (h : k < idx.length) : pyGet idx (k : Int) = .ok (idxAt idx k) := by
  rw [pyGet_of_lt idx k h]
  simp [idxAt, List.getD, List.getElem?_eq_getElem h]

theorem pyGet_pred (idx : List Int) (m : Nat) (h0 : m ≠ 0) (h : m ≤ idx.length) :
    pyGet idx ((m : Int) - 1) = .ok (idxAt idx (m - 1)) := by
  have e : (m : Int) - 1 = ((m - 1 : Nat) : Int) := by omega
  rw [e, pyGet_idxAt idx (m - 1) (by omega)]

/-- Python's `x // 2` is Lean's `x / 2` on `Int` (floor = Euclidean division for a positive divisor): after this rewrite
    `omega` decides any equation between midpoint expressions (`a + (z - a)//2`, `(a + z)//2`, …) -/
theorem pyDiv_two_ediv (x : Int) : pyDiv x 2 = x / 2 := by
  unfold pyDiv
  exact Int.fdiv_eq_ediv_of_nonneg _ (by omega)

theorem pyDiv_two (a z : Nat) (h : a ≤ z) : pyDiv ((z : Int) - (a : Int)) 2 = (((z - a) / 2 : Nat) : Int) := by
  rw [pyDiv_two_ediv]
  omega

/-- the search loop, in front of whatever follows it (`k`): it leaves through `.fell` with the model's result in `ovr`; the final
    `a`, `z` are kept by the source, nothing reads them afterwards.  `mk a z ovr` packs the three variables the loop carries into the
    loop state (nothing here depends on their order) -/
theorem whileLoop_bsearch {σ β : Type} (mk : Int → Int → Option Int → σ) (idx : List Int) (bs be : Int)
    (cond : σ → R Bool)
    (body : σ → R (Ctl σ (Option OverlapResult)))
    (hcond : ∀ (a z : Int) o, cond (mk a z o) = .ok (decide (a < z)))
    (hbody : ∀ (a z m : Nat) o, a < z → z ≤ idx.length → m = a + (z - a) / 2 →
      body (mk (a : Int) (z : Int) o) =
        if idxAt idx m < bs then .ok (.next (mk ((m + 1 : Nat) : Int) (z : Int) o))
        else if rowStart idx m > be then .ok (.next (mk (a : Int) (m : Int) o))
        else .ok (.brk (mk (a : Int) (z : Int) (some (m : Int)))))
    (fuel a z : Nat) (hz : z ≤ idx.length) (hfuel : z - a < fuel)
    (s : σ) (hs : s = mk (a : Int) (z : Int) (none : Option Int))
    (k : Done σ (Option OverlapResult) → R β) (r : R β)
    (hk : ∀ a' z' : Int, k (.fell (mk a' z' ((bsearch idx bs be a z).map Int.ofNat))) = r) :
    (whileLoop fuel s cond body >>= k) = r := by
  subst hs
  induction fuel generalizing a z with
  | zero => omega
  | succ fuel ih =>
    unfold whileLoop
    rw [hcond]
    unfold bsearch at hk
    by_cases h : a < z
    · have h' : ((a : Int) < (z : Int)) := by omega
      simp only [h', decide_true, h, dite_true] at hk ⊢
      rw [hbody a z _ none h hz rfl]
      by_cases h1 : idxAt idx (a + (z - a) / 2) < bs
      · simp only [h1, if_true] at hk ⊢
        exact ih _ _ hz (by omega) hk
      · simp only [h1, if_false] at hk ⊢
        by_cases h2 : rowStart idx (a + (z - a) / 2) > be
        · simp only [h2, if_true] at hk ⊢
          exact ih _ _ (by omega) (by omega) hk
        · simp only [h2, if_false] at hk ⊢
          exact hk _ _
    · have h' : ¬ ((a : Int) < (z : Int)) := by omega
      simp only [h', decide_false, h, dite_false] at hk ⊢
      exact hk _ _

theorem rangeDown_nil {a b : Int} (h : a ≤ b) : rangeDown a b = [] := by
  unfold rangeDown; rw [show (a - b).toNat = 0 by omega]; rfl

theorem rangeDown_cons {a b : Int} (h : b < a) : rangeDown a b = a :: rangeDown (a - 1) b := by
  obtain ⟨n, hn⟩ : ∃ n, (a - b).toNat = n + 1 := ⟨(a - b).toNat - 1, by omega⟩
  simp only [rangeDown, hn, show (a - 1 - b).toNat = n by omega, List.range_succ_eq_map, List.map_cons, List.map_map]
  congr 1
  · simp
  · refine List.map_congr_left fun k _ => ?_
    simp only [Function.comp, Int.ofNat_eq_natCast]
    omega

theorem forIn_extendLeft {ρ : Type} (idx : List Int) (bs : Int) (body : Int → Int → R (Ctl Int ρ))
    (hbody : ∀ (i : Nat) (cur : Int), i < idx.length →
      body (i : Int) cur = if idxAt idx i < bs then .ok (.brk cur) else .ok (.next (i : Int)))
    (k cur : Nat) (hk : k ≤ idx.length) (xs : List Int) (hxs : xs = rangeDown ((k : Int) - 1) (-1))
    (s : Int) (hs : s = (cur : Int)) :
    PyRt.forIn xs s body = .ok (.fell ((extendLeft idx bs k cur : Nat) : Int)) := by
  subst hxs hs
  induction k generalizing cur with
  | zero => rw [rangeDown_nil (by omega)]; rfl
  | succ k ih =>
    rw [rangeDown_cons (by omega), show ((k + 1 : Nat) : Int) - 1 = k from Int.add_sub_cancel (k : Int) 1]
    unfold PyRt.forIn extendLeft
    rw [hbody k _ (by omega)]
    by_cases h : idxAt idx k < bs
    · simp only [h, if_true]
    · simp only [h, if_false]
      exact ih k (by omega)

theorem forIn_extendRight {ρ : Type} (idx : List Int) (be : Int) (body : Int → Int → R (Ctl Int ρ))
    (hbody : ∀ (j : Nat) (cur : Int), 0 < j → j < idx.length →
      body (j : Int) cur = if rowStart idx j > be then .ok (.brk cur) else .ok (.next (j : Int)))
    (cur : Nat) (xs : List Int) (hxs : xs = rangeUp ((cur : Int) + 1) (idx.length : Int))
    (s : Int) (hs : s = (cur : Int)) :
    PyRt.forIn xs s body =
      .ok (.fell ((extendRight idx be (idx.length - (cur + 1)) cur : Nat) : Int)) := by
  subst hxs hs
  generalize hn : idx.length - (cur + 1) = n
  induction n generalizing cur with
  | zero => rw [rangeUp_nil (by omega)]; rfl
  | succ n ih =>
    rw [rangeUp_cons (by omega), show (cur : Int) + 1 = ((cur + 1 : Nat) : Int) from rfl]
    unfold PyRt.forIn extendRight
    rw [hbody (cur + 1) _ (by omega) (by omega)]
    dsimp only
    by_cases h : rowStart idx (cur + 1) > be
    · simp only [h, if_true]
    · simp only [h, if_false]
      exact ih (cur + 1) (by omega)

/-- `while inb(x) and isinstance(rows[x], Gap): x = next(x)` against a fuelled recursion `F` of the model that makes the same pass (`skipGapsRight` walks
    up to `j`, `skipGapsLeft` down to `i`); `msr` bounds the passes that are left, and both sides have fuel for them -/
theorem whileLoop_skip {ρ : Type} (rows : List Row) (inb : Int → Prop) [DecidablePred inb] (next : Int → Int) (F : Nat → Int → R Int)
    (hF : ∀ n x, F (n + 1) x = if inb x then pyGet rows x >>= fun r => if r.isGap then F n (next x) else pure x else pure x)
    (msr : Int → Nat) (hmsr : ∀ x, inb x → msr (next x) < msr x)
    (cond : Int → R Bool) (body : Int → R (Ctl Int ρ))
    (hcond : ∀ x, cond x = if inb x then pyGet rows x >>= fun r => .ok r.isGap else .ok false)
    (hbody : ∀ x, body x = .ok (.next (next x)))
    (f2 f1 : Nat) (x : Int) (h1 : msr x < f1) (h2 : msr x < f2) :
    whileLoop f1 x cond body = (F f2 x).map Done.fell := by
  induction f1 generalizing x f2 with
  | zero => omega
  | succ f1 ih =>
    obtain ⟨f2, rfl⟩ : ∃ k, f2 = k + 1 := ⟨f2 - 1, by omega⟩
    rw [whileLoop_succ, hcond, hbody, hF]
    by_cases h : inb x
    · simp only [h, if_true]
      cases pyGet rows x with
      | error e => rfl
      | ok r =>
        cases hr : r.isGap with
        | false => simp only [ok_bind, hr]; rfl
        | true =>
          simp only [ok_bind, hr, if_true]
          exact ih f2 (next x) (by have := hmsr x h; omega) (by have := hmsr x h; omega)
    · simp only [h, if_false]
      rfl

theorem slice_eq_pySlice {α : Type} (l : List α) (a b : Nat) (hb : b ≤ l.length) :
    PyRt.slice l (some (a : Int)) (some (b : Int)) = pySlice l a b := by
  rw [PyRt.slice_between l a b hb, pySlice, Int.toNat_natCast, Int.toNat_natCast]

/-- same result, same exception, empty scaffolds included; `h`: the index is the one `add_scaffold` built for the scaffold, and there is
    more fuel than any of the `while` loops makes tests (none makes more than `len(rows) + 1`) -/
theorem find_overlaps_tie (bait : Fragment) (fuel : Nat) (byName : Str → R Scaffold) (index : Str → List Int)
    (h : ∀ sc, byName bait.name = .ok sc → sc.rows.length + 1 < fuel ∧ index bait.name = buildIndex sc.rows) :
    Gen.Imp.IndexedAssembly_find_overlaps fuel bait byName index = byName bait.name >>= fun sc => findOverlaps sc.rows bait := by
  unfold findOverlaps
  dsimp only
  unfold Gen.Imp.IndexedAssembly_find_overlaps
  cases hby : byName bait.name with
  | error e => rfl
  | ok sc =>
  obtain ⟨hfuel, hidx⟩ := h sc hby
  rw [ok_bind, ok_bind, hidx]
  -- from here on the source is followed one computation at a time (`bind_eq_of_ok`, `if_neg`): what is still to come is carried
  -- along as it stands, `let`s included, and is reduced only when it is reached
  have hlen : (buildIndex sc.rows).length = sc.rows.length := C12.buildIndex_length _
  generalize buildIndex sc.rows = idx at *
  have hnil : idx = [] ↔ sc.rows = [] := by
    rw [← List.length_eq_zero_iff, hlen, List.length_eq_zero_iff]
  by_cases hemp : sc.rows = []
  · exact (if_pos (by simp [hemp])).trans (if_pos (by simp [hemp])).symm
  refine (if_neg (by simpa using hemp)).trans (Eq.trans ?_ (if_neg (by simpa using hemp)).symm)
  refine (if_neg (by simpa [hnil] using hemp)).trans ?_
  -- the search loop carries `ovr`, `a`, `z`, packed in the translator's canonical order (by type, then by name)
  refine whileLoop_bsearch (fun a z o => (o, a, z)) idx bait.start bait.stop _ _ (fun a z o => by simp) ?hb fuel 0 idx.length
    (Nat.le_refl _) (by omega) _ rfl _ _ fun a' z' => ?_
  case hb =>
    intro a z k o h1 h2 hk
    -- name the midpoint `m` of the source and show by `omega` that it is the model's, however its arithmetic is written
    dsimp -zeta only
    extract_lets +onlyGivenNames m
    have hm : m = (k : Int) := by
      simp only [m, pyDiv_two_ediv]; omega
    clear_value m
    subst hm
    simp only [pyGet_idxAt idx k (by omega), ok_bind]
    by_cases hk0 : k = 0
    · simp [hk0, rowStart, ok_bind]
    · simp [hk0, rowStart, ok_bind, pyGet_pred idx k hk0 (by omega)]
  cases hbs : bsearch idx bait.start bait.stop 0 idx.length with
  | none => rfl
  | some o =>
  dsimp only
  have holt := (C12.bsearch_some idx bait.start bait.stop 0 idx.length o hbs).2.1
  refine bind_eq_of_ok (forIn_extendLeft idx bait.start _ (fun i cur hi => by simp [pyGet_idxAt idx i hi, ok_bind]) o o (by omega)
    _ rfl _ rfl) ?_
  refine bind_eq_of_ok (forIn_extendRight idx bait.stop _ (fun j cur hj0 hj => by
    simp [show j ≠ 0 by omega, pyGet_pred idx j (by omega) (by omega), rowStart, ok_bind]) o _ rfl _ rfl) ?_
  obtain ⟨hio, hjO⟩ := C12.block_bounds idx bait.start bait.stop o idx.length holt
  generalize extendLeft idx bait.start o o = iO at hio ⊢
  generalize extendRight idx bait.stop (idx.length - (o + 1)) o = jO at hio hjO ⊢
  clear holt hbs
  obtain ⟨i, j, ei, ej, hij⟩ := C12.stripGaps_spec sc.rows iO jO hio (hlen ▸ hjO)
  refine Eq.trans ?_ (bind_eq_of_ok ei (bind_eq_of_ok ej rfl)).symm
  refine bind_eq_of_ok ((whileLoop_skip sc.rows (· ≤ (jO : Int)) (· + 1) (skipGapsRight sc.rows · · jO) (fun _ _ => rfl)
    (fun x => ((jO : Int) + 1 - x).toNat) (fun x h => by omega) _ _ (fun x => by simp [bind_ok]) (fun x => by simp)
    (sc.rows.length + 2) fuel _ (by omega) (by omega)).trans (congrArg _ ei)) ?_
  refine bind_eq_of_ok ((whileLoop_skip sc.rows (· ≥ (i : Int)) (· - 1) (skipGapsLeft sc.rows · i ·) (fun _ _ => rfl)
    (fun x => (x + 1 - (i : Int)).toNat) (fun x h => by omega) _ _ (fun x => by simp [bind_ok]) (fun x => by simp)
    (sc.rows.length + 2) fuel _ (by omega) (by omega)).trans (congrArg _ ej)) ?_
  -- the final test, whichever way the source spells it (`not i <= j`, `i > j`, `j < i`): `simp` brings it to a form `omega` decides
  obtain ⟨hle, -⟩ | ⟨jn, rfl, -, hin, hjn, -⟩ := hij
  · exact (if_pos (by simp; omega)).trans (if_pos hle).symm
  · refine (if_neg (by simp; omega)).trans (Eq.trans ?_ (if_neg (not_not_intro (Int.ofNat_le.2 hin))).symm)
    rw [← Int.natCast_add_one, slice_eq_pySlice sc.rows i (jn + 1) (by omega), pyGet_idxAt idx jn (by omega)]
    by_cases hi0 : i = 0
    · simp [hi0, ok_bind]
      try rfl
    · have e : ((i : Int) - 1).toNat = i - 1 := by omega
      simp [hi0, e, ok_bind, pyGet_pred idx i hi0 (by omega)]
      try rfl

end AgpTpf.ImpLookup
