/-
  C02 "remapping never fails": the stages around the resolver and the cutting loop
  never raise: `make_scaffold_name` for tag sets without a haplotype or `Primary` tag, `label_scaffold` without `Unloc`,
  `trim_large_overhangs` on a non-empty result, `process bait` / `find_assembly_overlaps` for maps whose pieces name input
  scaffolds and carry no tag but `Painted`, and `add_missing` with a join gap over an untagged input.
-/
import AgpTpf.Proofs.Remap.Run
import AgpTpf.Properties.C12
import AgpTpf.Proofs.C02KResolve
import AgpTpf.Proofs.C02NRes
import AgpTpf.Proofs.Lib.Rows
import AgpTpf.Proofs.Lib.Missing
namespace AgpTpf.C02
open AgpTpf OverlapResult

/-- with neither a haplotype tag nor `Primary` the haplotype comes from the first row's name, and no branch that is left
    can raise -/
theorem makeScaffoldName_returns {n n1 : Namer} {s : TagScan} {scName nm : Str} {rows : List Row} {tags : List Str}
    (hscan : tags.foldlM scanTag (n, {}) = .ok (n1, s)) (hhap : s.haplotype = none) (hprim : s.primaryTag = false)
    (hfr : firstRowName rows = .ok nm) : ∃ n', makeScaffoldName n scName rows tags = .ok n' := by
  rw [makeScaffoldName_eq, hscan, ok_bind]
  have hstage : ∃ nh, hapStage n1 s rows = .ok nh := by
    unfold hapStage
    rw [hhap, if_neg (by decide), hfr, ok_bind]
    cases hapPrefixOfName nm <;> exact ⟨_, rfl⟩
  refine bind_returns hstage fun nh _ => bind_returns ?_ fun n3 _ => bind_returns ?_ fun p _ => ⟨_, rfl⟩
  · unfold primStage; rw [hprim, if_neg (by simp)]; exact ⟨_, rfl⟩
  · unfold nameStage; exact ite_ok ⟨_, rfl⟩ (ite_ok ⟨_, rfl⟩ (by rw [hfr]; exact ⟨_, rfl⟩))

theorem labelScaffold_returns (n : Namer) (o : OverlapResult) (sid : Nat) (frag : Fragment) (scTags : List Str) (orig : Str)
    (h : frag.tags = [] ∨ frag.tags = [sPainted]) : ∃ v, labelScaffold n o sid frag scTags orig = .ok v := by
  unfold labelScaffold
  have h1 : frag.tags.contains sFalseDuplicate = false := by rcases h with e | e <;> rw [e] <;> decide
  have h2 : frag.tags.contains sHaplotig = false := by rcases h with e | e <;> rw [e] <;> decide
  have h3 : frag.tags.contains sUnloc = false := by rcases h with e | e <;> rw [e] <;> decide
  simp only [h1, h2, h3, Bool.false_eq_true, if_false, pure, Except.pure, bind, Except.bind]
  exact ⟨_, rfl⟩

theorem trimLargeOverhangs_returns {o : OverlapResult} (err : Int) (h : o.rows ≠ []) :
    ∃ o', o.trimLargeOverhangs err = .ok o' := by
  rw [OverlapResult.trimLargeOverhangs_eq]
  refine ite_ok ⟨_, rfl⟩ (bind_returns ?_ fun v hv => ?_)
  · unfold OverlapResult.trimStartPhase
    exact ite_ok (bind_returns (startRowBaitOverlap_returns h) fun _ _ =>
      ite_ok (bind_returns (discardStart_returns h) fun _ _ => ⟨_, rfl⟩) ⟨_, rfl⟩) ⟨_, rfl⟩
  · -- the end phase looks at the last row only if the start phase has left one
    unfold OverlapResult.trimEndPhase
    split
    · exact ⟨_, rfl⟩
    · next hcond =>
      have hne1 : v.1.rows ≠ [] := by
        obtain ⟨_, _, hd⟩ | ⟨_, rfl⟩ := OverlapResult.trimStartPhase_ok hv
        · exact fun e => hcond ⟨hd, by simp [e]⟩
        · exact h
      exact ite_ok (bind_returns (endRowBaitOverlap_returns hne1) fun _ _ =>
        ite_ok (discardEnd_returns hne1) ⟨_, rfl⟩) ⟨_, rfl⟩

theorem addMissing_returns (g : Gap) (l : List Scaffold) (b : Build) (hj : b.joinGap = some g)
    (hu : ∀ sc ∈ l, ∀ f ∈ sc.fragments, f.tags = []) : ∃ b', l.foldlM Pipeline.missingStep b = .ok b' := by
  refine (foldlM_ok_inv (fun b : Build => b.joinGap = some g) (fun b sc hsc hj => ?_) hj).imp fun _ h => h.1
  unfold Pipeline.missingStep
  obtain ⟨⟨rows, first⟩, hm⟩ := Pipeline.missingRows_total b sc.rows g hj
  rw [hm, ok_bind]
  dsimp only
  split
  · exact ⟨b, rfl, hj⟩
  · next hemp =>
    -- a left-over scaffold begins with a contig, and its contigs are input contigs: no tags
    obtain ⟨hl, _⟩ := Pipeline.missingRows_ok_iff.mp hm
    obtain ⟨f0, rest, hrows⟩ : ∃ f0 rest, rows = .frag f0 :: rest := by
      cases hr : rows with
      | nil => rw [hr] at hemp; simp at hemp
      | cons x r =>
        cases x with
        | frag f0 => exact ⟨f0, r, rfl⟩
        | gap g' => exact absurd (by rw [hr]; rfl) ((Pipeline.leftoverRows_ends _ _ _ _ _ hl).1 rfl g')
    have htags : ({ name := sc.name, rows := rows } : Scaffold).fragmentTags = [] :=
      Scaffold.fragmentTags_eq_nil fun f hf => by
        have hf' : f ∈ fragmentsOf rows := hf
        rw [Pipeline.leftoverRows_fragments _ _ _ _ _ hl] at hf'
        exact hu sc hsc f (List.mem_filter.mp hf').1
    obtain ⟨n', hn'⟩ := makeScaffoldName_returns (n := b.namer) (scName := sc.name) (tags := []) (s := {}) rfl rfl rfl
      (show firstRowName rows = .ok f0.name by rw [hrows]; exact C08.firstRowName_cons_frag _ _)
    rw [htags, hn', ok_bind]
    exact ⟨_, rfl, hj⟩

/-- a Pretext scaffold the lookup stage cannot choke on -/
structure PtxScafOk (input : List Scaffold) (S : Scaffold) : Prop where
  head : ∃ f t, S.rows = .frag f :: t
  tags : (∀ p ∈ S.fragments, p.tags = []) ∨ (S.fragments ≠ [] ∧ ∀ p ∈ S.fragments, p.tags = [sPainted])
  names : ∀ p ∈ S.fragments, ∃ sc ∈ input, sc.name = p.name

theorem processBait_returns {input : List Scaffold} (hn : (input.map (·.name)).Nodup) (hnn : InputNonNeg input)
    (hrows : ∀ sc ∈ input, sc.rows ≠ []) (scTags : List Str) (orig : Str) (b : Build) (bait : Fragment)
    (hname : ∃ sc ∈ input, sc.name = bait.name) (htags : bait.tags = [] ∨ bait.tags = [sPainted]) :
    ∃ b', processBait input scTags orig b bait = .ok b' := by
  obtain ⟨sc, hsc, hnm⟩ := hname
  have hl : lookupScaffold input bait.name = .ok sc := by rw [← hnm]; exact Pipeline.lookupScaffold_of hn hsc
  cases hr : findOverlaps sc.rows bait with
  | error e => exact absurd hr (C12.find_overlaps_never_fails sc.rows bait (hrows sc hsc) (hnn sc hsc) e)
  | ok r =>
    cases r with
    | none => exact ⟨b, Pipeline.processBait_none hl hr⟩
    | some o =>
      obtain ⟨⟨n, o1⟩, hv⟩ := labelScaffold_returns b.namer o b.store.length bait scTags orig htags
      obtain ⟨-, -, e1⟩ := labelScaffold_ok hv
      have hne : o1.rows ≠ [] := e1 ▸ (C12.find_overlaps_result sc.rows bait o (hrows sc hsc) (hnn sc hsc) hr).1
      obtain ⟨o2, ho2⟩ := trimLargeOverhangs_returns b.err hne
      exact ⟨_, Pipeline.processBait_found hl hr hv ho2⟩

theorem findAssemblyOverlaps_returns {input : List Scaffold} (hn : (input.map (·.name)).Nodup) (hnn : InputNonNeg input)
    (hrows : ∀ sc ∈ input, sc.rows ≠ []) (ptx : List Scaffold) (hp : ∀ S ∈ ptx, PtxScafOk input S) (b : Build) :
    ∃ b', findAssemblyOverlaps input ptx b = .ok b' := by
  refine Pipeline.findAssemblyOverlaps_total (fun S hS n => ?_) (fun S hS p hpm x => ?_) b
  · obtain ⟨⟨f0, t0, hhead⟩, htags, _⟩ := hp S hS
    have hfr : firstRowName S.rows = .ok f0.name := by rw [hhead]; exact C08.firstRowName_cons_frag _ _
    rcases htags with h | ⟨hne, h⟩
    · rw [Scaffold.fragmentTags_eq_nil h]; exact makeScaffoldName_returns (s := {}) rfl rfl rfl hfr
    · rw [Scaffold.fragmentTags_eq_singleton (by decide) hne h]
      exact makeScaffoldName_returns (n1 := n) (s := { isPainted := true }) (by simp [scanTag]) rfl rfl hfr
  · obtain ⟨_, htags, hnames⟩ := hp S hS
    exact processBait_returns hn hnn hrows _ _ x p (hnames p hpm) (htags.imp (· p hpm) (·.2 p hpm))

end AgpTpf.C02
