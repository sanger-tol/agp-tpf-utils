/-
  C11: `Assembly.junctionSet`, `junctionsByPrefix`, the output sets of `makeStats` and `makeStats` itself, each in
  one equation: a `ValueError` unless every pair of neighbouring fragments has strands ±1 (`AllOk`), else a pure value; and what the
  members of the two sets `makeStats` compares are.
-/
import AgpTpf.Proofs.C11Sets
import AgpTpf.Model.Remap
namespace AgpTpf.C11
open AgpTpf

def JunctionIn (scs : List Scaffold) (j : Junction) : Prop :=
  ∃ sc ∈ scs, ∃ pre a b post, sc.fragments = pre ++ a :: b :: post ∧ junctionTuple a b = .ok j

abbrev AllOk (scs : List Scaffold) : Prop := ∀ sc ∈ scs, PairsOk sc.fragments

theorem junctionSet_ok_strands (sc : Scaffold) (S : List Junction) (h : sc.junctionSet = .ok S) :
    ∀ pre a b post, sc.fragments = pre ++ a :: b :: post →
      (a.strand = 1 ∨ a.strand = -1) ∧ (b.strand = 1 ∨ b.strand = -1) :=
  (pairsOk_iff _).1 ((junctionSet_ok_pairsOk sc).1 ⟨S, h⟩)

theorem junctionIn_iff_mem {scs : List Scaffold} (h : AllOk scs) (j : Junction) :
    JunctionIn scs j ↔ ∃ sc ∈ scs, j ∈ junctionSetOf sc.fragments :=
  exists_congr fun s => and_congr_right fun hs => (mem_junctionSetOf (h s hs) j).symm

def unionSetOf (scs : List Scaffold) : List Junction :=
  scs.foldl (fun acc s => sUnion acc (junctionSetOf s.fragments)) []

theorem asm_junctionSet_eq (a : Assembly) : a.junctionSet =
    if AllOk a.scaffolds then .ok (unionSetOf a.scaffolds) else .error .value := by
  unfold Assembly.junctionSet
  simp only [junctionSet_eq, ite_bind, ok_bind, error_bind, pure_eq_ok]
  exact foldlM_ite _ _ _ _ _

theorem mem_unionSetOf (scs : List Scaffold) (j : Junction) :
    j ∈ unionSetOf scs ↔ ∃ sc ∈ scs, j ∈ junctionSetOf sc.fragments := by
  rw [unionSetOf, mem_foldl_sUnion (fun s : Scaffold => junctionSetOf s.fragments)]
  simp only [List.not_mem_nil, false_or]

def InValues (d : List (Option Str × List Junction)) (j : Junction) : Prop := ∃ p ∈ d, j ∈ p.2

theorem inValues_dSet (d : List (Option Str × List Junction)) (k : Option Str) (js : List Junction) (j : Junction) :
    InValues (dSet d k (sUnion ((dGet? d k).getD []) js)) j ↔ InValues d j ∨ j ∈ js := by
  unfold InValues
  induction d with
  | nil => simp [dSet, dGet?, mem_sUnion]
  | cons p r ih =>
    obtain ⟨k', v'⟩ := p
    rw [dSet_cons, dGet?_cons]
    by_cases hk : k' = k
    · rw [if_pos hk, if_pos hk]
      simp only [List.mem_cons, exists_eq_or_imp, Option.getD_some, mem_sUnion]
      exact or_right_comm
    · rw [if_neg hk, if_neg hk]
      simp only [List.mem_cons, exists_eq_or_imp, ih, or_assoc]

/-- the loop body of `junctionsByPrefix` on a scaffold whose neighbouring fragments all have strands ±1 -/
def prefixStep (acc : List (Option Str × List Junction)) (sc : Scaffold) : List (Option Str × List Junction) :=
  match sc.fragments with
  | [] => acc
  | f :: _ =>
    let k := asmPrefixOfName f.name
    dSet acc k (sUnion ((dGet? acc k).getD []) (junctionSetOf sc.fragments))

/-- the junction sets of the input by assembly-name prefix, strands being ±1 -/
def inSets (input : List Scaffold) : List (Option Str × List Junction) := input.foldl prefixStep []

theorem junctionsByPrefix_eq (input : List Scaffold) : junctionsByPrefix input =
    if AllOk input then .ok (inSets input) else .error .value := by
  unfold junctionsByPrefix inSets
  rw [← foldlM_ite]
  congr 1
  funext acc sc
  unfold prefixStep
  rw [junctionSet_eq]
  cases hf : sc.fragments with
  | nil => rfl
  | cons f r =>
    by_cases hP : PairsOk (f :: r)
    · rw [if_pos hP, if_pos hP]; rfl
    · rw [if_neg hP, if_neg hP]; rfl

theorem inValues_foldl_prefixStep (input : List Scaffold) (acc : List (Option Str × List Junction)) (j : Junction) :
    InValues (input.foldl prefixStep acc) j ↔ InValues acc j ∨ ∃ sc ∈ input, j ∈ junctionSetOf sc.fragments := by
  induction input generalizing acc with
  | nil => simp
  | cons sc scs ih =>
    rw [List.foldl_cons, ih]
    simp only [List.mem_cons, exists_eq_or_imp, ← or_assoc]
    refine or_congr_left ?_
    unfold prefixStep
    cases hf : sc.fragments with
    | nil => simp [junctionSetOf, junctionsOf, adjPairs]
    | cons f r => exact inValues_dSet ..

def JunctionInOuts (outs : List OutAsm) (j : Junction) : Prop := ∃ a ∈ outs, JunctionIn a.scaffolds j

/-- the per-assembly output junction sets computed inside `makeStats` -/
def outSetsOf (outs : List OutAsm) : R (List (Option Str × List Junction)) :=
  outs.mapM (fun (a : OutAsm) => do
    let js ← ({ scaffolds := a.scaffolds } : Assembly).junctionSet
    pure (a.key, js))

def outSets (outs : List OutAsm) : List (Option Str × List Junction) := outs.map fun a => (a.key, unionSetOf a.scaffolds)

theorem outSetsOf_eq (outs : List OutAsm) : outSetsOf outs =
    if ∀ a ∈ outs, AllOk a.scaffolds then .ok (outSets outs) else .error .value := by
  unfold outSetsOf
  simp only [asm_junctionSet_eq, ite_bind, ok_bind, error_bind, pure_eq_ok]
  exact mapM_ite _ _ _ _

/-- the union of a dict of junction sets, as `makeStats` builds it (`input_set |= junc_set`) -/
def unionOf (sets : List (Option Str × List Junction)) : List Junction :=
  sets.foldl (fun acc p => sUnion acc p.2) []

theorem unionOf_nodup (sets : List (Option Str × List Junction)) : (unionOf sets).Nodup :=
  nodup_foldl_sUnion (fun (p : Option Str × List Junction) => p.2) sets [] List.nodup_nil

theorem mem_unionOf (sets : List (Option Str × List Junction)) (j : Junction) :
    j ∈ unionOf sets ↔ InValues sets j := by
  unfold unionOf InValues
  rw [mem_foldl_sUnion (fun (p : Option Str × List Junction) => p.2)]
  simp

theorem mem_unionOf_inSets (input : List Scaffold) (j : Junction) :
    j ∈ unionOf (inSets input) ↔ ∃ sc ∈ input, j ∈ junctionSetOf sc.fragments := by
  rw [mem_unionOf, inSets, inValues_foldl_prefixStep]
  simp [InValues]

theorem mem_unionOf_outSets (outs : List OutAsm) (j : Junction) :
    j ∈ unionOf (outSets outs) ↔ ∃ a ∈ outs, ∃ sc ∈ a.scaffolds, j ∈ junctionSetOf sc.fragments := by
  rw [mem_unionOf]
  constructor
  · rintro ⟨_, hp, hj⟩
    obtain ⟨a, ha, rfl⟩ := List.mem_map.1 hp
    exact ⟨a, ha, (mem_unionSetOf _ j).1 hj⟩
  · rintro ⟨a, ha, hj⟩
    exact ⟨_, List.mem_map_of_mem ha, (mem_unionSetOf _ j).2 hj⟩

theorem mem_inputSet {input : List Scaffold} (h : AllOk input) (j : Junction) : j ∈ unionOf (inSets input) ↔ JunctionIn input j := by
  rw [mem_unionOf_inSets, junctionIn_iff_mem h]

theorem mem_outputSet {outs : List OutAsm} (h : ∀ a ∈ outs, AllOk a.scaffolds) (j : Junction) :
    j ∈ unionOf (outSets outs) ↔ JunctionInOuts outs j := by
  rw [mem_unionOf_outSets]
  exact exists_congr fun a => and_congr_right fun ha => (junctionIn_iff_mem (h a ha) j).symm

/-- one pass of the loop of `make_stats` that fills `per_assembly_stats` -/
def perStep (inSets : List (Option Str × List Junction)) (totalBreaks totalJoins : List Junction)
    (acc : List (Str × Int × Int)) (p : Option Str × List Junction) : List (Str × Int × Int) :=
  let jk := p.1.map lowerStr
  let jk := if truthy p.1 then jk else none
  match dGet? inSets jk with
  | some inSet =>
    if inSet.isEmpty then acc
    else
      let nm := if truthy p.1 then p.1.getD [] else sPrimary
      dSet acc nm (((sInter (sDiff inSet p.2) totalBreaks).length : Int), ((sInter (sDiff p.2 inSet) totalJoins).length : Int))
  | none => acc

/-- what `make_stats` records, given the junction sets per input prefix and per output assembly -/
def statsOf (inSets outSets : List (Option Str × List Junction)) (cuts : Int) : Stats :=
  let tb := sDiff (unionOf inSets) (unionOf outSets)
  let tj := sDiff (unionOf outSets) (unionOf inSets)
  { cuts := cuts, breaks := tb.length, joins := tj.length, perAssembly := outSets.foldl (perStep inSets tb tj) [] }

theorem makeStats_bind (input : List Scaffold) (outs : List OutAsm) (cuts : Int) :
    makeStats input outs cuts =
      junctionsByPrefix input >>= fun i => outSetsOf outs >>= fun o => .ok (statsOf i o cuts) := rfl

theorem makeStats_eq_statsOf (input : List Scaffold) (outs : List OutAsm) (cuts : Int) :
    makeStats input outs cuts =
      if AllOk input ∧ ∀ a ∈ outs, AllOk a.scaffolds then .ok (statsOf (inSets input) (outSets outs) cuts)
      else .error .value := by
  rw [makeStats_bind, junctionsByPrefix_eq, outSetsOf_eq]
  by_cases hI : AllOk input
  · by_cases hO : ∀ a ∈ outs, AllOk a.scaffolds
    · rw [if_pos hI, if_pos hO, if_pos ⟨hI, hO⟩]; rfl
    · rw [if_pos hI, if_neg hO, if_neg (fun h : _ ∧ _ => hO h.2)]; rfl
  · rw [if_neg hI, if_neg (fun h : _ ∧ _ => hI h.1)]; rfl

theorem makeStats_ok' {input : List Scaffold} {outs : List OutAsm} {cuts : Int} {st : Stats}
    (h : makeStats input outs cuts = .ok st) :
    (AllOk input ∧ ∀ a ∈ outs, AllOk a.scaffolds) ∧ st = statsOf (inSets input) (outSets outs) cuts := by
  rw [makeStats_eq_statsOf] at h
  split at h
  · next hok => exact ⟨hok, (Except.ok.inj h).symm⟩
  · cases h

end AgpTpf.C11
