/- C05 (e): what AGP and TPF share at line level — the written line and its columns, the operations on the reader
   state, and the line reader itself (`readLine`, of which `parseAgpLine` and `parseTpfLine` are instances) -/
import AgpTpf.Proofs.Lib.Text
import AgpTpf.Proofs.C05Tables
import AgpTpf.Proofs.C06Cols
namespace AgpTpf.C05
open AgpTpf AgpTpf.C06

theorem splitOnChar_cons_sep (sep : Char) (s : Str) :
    splitOnChar sep (sep :: s) = [] :: splitOnChar sep s := by
  simp [splitOnChar]

theorem pyGet_nat_none {α} (l : List α) (k : Nat) (h : l.length ≤ k) : pyGet l (k : Int) = .error .index :=
  pyGet_of_le l k h

def endsNonSpace (t : Str) : Bool :=
  match t.getLast? with
  | some c => !isSpace c
  | none => false

theorem endsNonSpace_iff {t : Str} : endsNonSpace t = true ↔ ∃ c, t.getLast? = some c ∧ isSpace c = false := by
  unfold endsNonSpace
  cases t.getLast? <;> simp

theorem isCrLf_of_not_isSpace {c : Char} (h : isSpace c = false) : isCrLf c = false := by
  cases hc : isCrLf c with
  | false => rfl
  | true =>
    simp only [isCrLf, Bool.or_eq_true, decide_eq_true_eq] at hc
    rcases hc with rfl | rfl <;> cases h

theorem isBlankLine_lineOfCols (cols : List Str) (f : Str) (c : Char) (hf : f ∈ cols) (hc : c ∈ f)
    (hs : isSpace c = false) : isBlankLine (lineOfCols cols) = false :=
  isBlankLine_false _ c (List.mem_append_left _ (mem_joinWith _ _ _ _ hf hc)) hs

theorem lineOfCols_head_ne_hash {c0 : Str} (rest : List Str) (h : c0.head? ≠ some '#') :
    (lineOfCols (c0 :: rest)).head? ≠ some '#' := by
  cases c0 with
  | nil => cases rest <;> (intro e; cases e)
  | cons c t => cases rest <;> exact h

def RowAvoids (x : Char) : Row → Prop
  | .gap g => x ∉ g.gapType
  | .frag f => x ∉ f.name ∧ ∀ t ∈ f.tags, x ∉ t

/-- add a parsed row the way both readers do: a fragment gets the next object id -/
def addRowOid (st : ParseState) (row : Row) : R ParseState :=
  match row with
  | .gap g => st.addRow (.gap g)
  | .frag f =>
    match st.addRow (.frag { f with oid := st.nextOid }) with
    | .ok st' => .ok { st' with nextOid := st'.nextOid + 1 }
    | .error e => .error e

theorem switchScaffold_idem (st : ParseState) (name : Str) :
    (st.switchScaffold name).switchScaffold name = st.switchScaffold name := by
  unfold ParseState.switchScaffold
  by_cases h : name ≠ st.currentName
  · simp [h]
  · simp [h]

theorem switchScaffold_header (st : ParseState) (name : Str) : (st.switchScaffold name).header = st.header := by
  unfold ParseState.switchScaffold; split <;> rfl

theorem switchScaffold_nextOid (st : ParseState) (name : Str) : (st.switchScaffold name).nextOid = st.nextOid := by
  unfold ParseState.switchScaffold; split <;> rfl

theorem addRow_ok {st : ParseState} {r : Row} {st' : ParseState} (h : st.addRow r = .ok st') :
    st.haveScaffold = true ∧ ∃ pre sc, st.scaffolds = pre ++ [sc] ∧
      st' = { st with scaffolds := pre ++ [{ sc with rows := sc.rows ++ [r] }] } := by
  unfold ParseState.addRow at h
  cases hh : st.haveScaffold with
  | false => simp [hh] at h
  | true =>
    simp only [hh, not_true_eq_false, if_false] at h
    cases hrev : st.scaffolds.reverse with
    | nil => rw [hrev] at h; cases h
    | cons s rest =>
      rw [hrev] at h
      simp only [Except.ok.injEq] at h
      refine ⟨rfl, rest.reverse, s, ?_, ?_⟩
      · have := congrArg List.reverse hrev; simpa using this
      · rw [← h]; simp

theorem addRow_append (st : ParseState) (r : Row) (pre : List Scaffold) (sc : Scaffold)
    (hh : st.haveScaffold = true) (hs : st.scaffolds = pre ++ [sc]) :
    st.addRow r = .ok { st with scaffolds := pre ++ [{ sc with rows := sc.rows ++ [r] }] } := by
  unfold ParseState.addRow
  simp [hh, hs]

theorem addRow_noScaffold (st : ParseState) (r : Row) (h : st.haveScaffold = false) :
    st.addRow r = .error .attribute := by
  unfold ParseState.addRow; simp [h]

def totalRows (st : ParseState) : Nat := (st.scaffolds.map (fun s => s.rows.length)).sum

/-- exactly one row was added: either appended to the current (last) scaffold, all earlier scaffolds and rows
    unchanged, or put as the only row into a newly opened scaffold. -/
def OneRowAdded (st st' : ParseState) : Prop :=
  ∃ r, (∃ pre sc, st.scaffolds = pre ++ [sc] ∧ st'.scaffolds = pre ++ [{ sc with rows := sc.rows ++ [r] }]) ∨
       (∃ name, st'.scaffolds = st.scaffolds ++ [{ name := name, rows := [r] }])

theorem OneRowAdded.totalRows {st st' : ParseState} (h : OneRowAdded st st') :
    totalRows st' = totalRows st + 1 := by
  obtain ⟨r, ⟨pre, sc, h1, h2⟩ | ⟨name, h2⟩⟩ := h
  · unfold C05.totalRows; rw [h1, h2]; simp; omega
  · unfold C05.totalRows; rw [h2]; simp

end AgpTpf.C05

namespace AgpTpf.AsmFormat
open AgpTpf

/-- what `Fragment.__init__` guarantees for every fragment a reader builds -/
def RowParsed (r : Row) : Prop :=
  match r with
  | .frag f => (f.strand = 0 ∨ f.strand = 1 ∨ f.strand = -1) ∧ f.start ≤ f.stop
  | .gap _ => True

instance (r : Row) : Decidable (RowParsed r) := by unfold RowParsed; cases r <;> infer_instance

theorem RowParsed.strandOk {r : Row} (h : RowParsed r) : C06.StrandOk r := by
  cases r with
  | gap g => trivial
  | frag f => exact h.1

theorem mkFragment_ok_iff {oid : Nat} {name : Str} {s e strand : Int} {tags : List Str} {f : Fragment} :
    mkFragment oid name s e strand tags = .ok f ↔ (strand = 0 ∨ strand = 1 ∨ strand = -1) ∧ s ≤ e ∧
      f = { oid := oid, name := name, start := s, stop := e, strand := strand, tags := tags } := by
  unfold mkFragment
  by_cases h1 : strand = 0 ∨ strand = 1 ∨ strand = -1
  · by_cases h2 : s ≤ e
    · rw [if_neg (fun hn => hn h1), if_neg (by omega)]
      exact ⟨fun h => ⟨h1, h2, (Except.ok.inj h).symm⟩, fun h => congrArg _ h.2.2.symm⟩
    · rw [if_neg (fun hn => hn h1), if_pos (by omega)]
      exact ⟨nofun, fun h => absurd h.2.1 h2⟩
  · rw [if_pos h1]
    exact ⟨nofun, fun h => absurd h.1 h1⟩

end AgpTpf.AsmFormat

namespace AgpTpf.C05
open AgpTpf AgpTpf.C06 AgpTpf.AsmFormat

/-- one line of `parse_agp` / `parse_tpf`: blank lines and lines that `skip` says (AGP: `##…`) are passed over, other
    `#` lines give a header text, everything else is cut into tab-separated fields for `fields` -/
def readLine (skip : Str → Bool) (strip : Char → Bool) (fields : ParseState → List Str → R ParseState)
    (st : ParseState) (line : Str) : R ParseState :=
  if isBlankLine line then .ok st
  else if skip line then .ok st
  else if startsWith ['#'] line then
    match headerText line with
    | some h => .ok { st with header := st.header ++ [h] }
    | none => .ok st
  else fields st (splitOnChar '\t' (rstripBy strip line))

theorem startsWith_hash_false (line : Str) (h : line.head? ≠ some '#') : startsWith ['#'] line = false := by
  cases line with
  | nil => rfl
  | cons c t =>
    simp only [List.head?_cons, ne_eq, Option.some.injEq] at h
    simp [startsWith, List.isPrefixOf, Ne.symm h]

theorem readLine_data {skip : Str → Bool} (hskip : ∀ l, skip l = true → startsWith ['#'] l = true) (strip : Char → Bool)
    (fields : ParseState → List Str → R ParseState) (st : ParseState) {line : Str} (hb : isBlankLine line = false)
    (hh : line.head? ≠ some '#') :
    readLine skip strip fields st line = fields st (splitOnChar '\t' (rstripBy strip line)) := by
  have h1 := startsWith_hash_false line hh
  have h2 : skip line = false := by
    cases hs : skip line with
    | false => rfl
    | true => rw [hskip _ hs] at h1; cases h1
  simp only [readLine, hb, h1, h2, Bool.false_eq_true, if_false]

theorem readLine_written {skip : Str → Bool} (hskip : ∀ l, skip l = true → startsWith ['#'] l = true)
    {strip : Char → Bool} (hnl : strip '\n' = true) (hsp : ∀ c, isSpace c = false → strip c = false)
    (fields : ParseState → List Str → R ParseState) (st : ParseState) {c0 : Str} {rest : List Str}
    (htab : ∀ c ∈ c0 :: rest, '\t' ∉ c) (hhash : c0.head? ≠ some '#')
    {l : Str} (hl : (c0 :: rest).getLast? = some l) {x : Char} (hx : l.getLast? = some x) (hxs : isSpace x = false) :
    readLine skip strip fields st (lineOfCols (c0 :: rest)) = fields st (c0 :: rest) := by
  rw [readLine_data hskip strip fields st
    (isBlankLine_lineOfCols _ l x (List.mem_of_getLast? hl) (List.mem_of_getLast? hx) hxs) (lineOfCols_head_ne_hash rest hhash)]
  exact congrArg (fields st) (line_cols '\t' strip hnl _ htab l hl ⟨x, hx, hsp x hxs⟩)

theorem readLine_ok {skip : Str → Bool} (hskip : ∀ l, skip l = true → startsWith ['#'] l = true) {strip : Char → Bool}
    {fields : ParseState → List Str → R ParseState} {st st' : ParseState} {line : Str}
    (h : readLine skip strip fields st line = .ok st') :
    ((isBlankLine line = true ∨ startsWith ['#'] line = true) ∧
      (st' = st ∨ ∃ t, headerText line = some t ∧ st' = { st with header := st.header ++ [t] })) ∨
    (¬ (isBlankLine line = true ∨ startsWith ['#'] line = true) ∧
      fields st (splitOnChar '\t' (rstripBy strip line)) = .ok st') := by
  unfold readLine at h
  split at h
  · exact .inl ⟨.inl ‹_›, .inl (Except.ok.inj h).symm⟩
  · split at h
    · exact .inl ⟨.inr (hskip _ ‹_›), .inl (Except.ok.inj h).symm⟩
    · split at h
      · refine .inl ⟨.inr ‹_›, ?_⟩
        split at h
        · exact .inr ⟨_, ‹_›, (Except.ok.inj h).symm⟩
        · exact .inl (Except.ok.inj h).symm
      · exact .inr ⟨fun hc => hc.elim ‹_› ‹_›, h⟩

/-- what a data line does to the reader state: it may open a scaffold, then appends one row, checked by
    `Fragment.__init__` if it is a fragment, to the last scaffold; only the object counter changes besides -/
def DataStep (st st' : ParseState) : Prop :=
  ∃ (st0 : ParseState) (r : Row) (st'' : ParseState) (n : Nat),
    (st0 = st ∨ ∃ name, st0 = st.switchScaffold name) ∧ RowParsed r ∧ st0.addRow r = .ok st'' ∧
      st' = { st'' with nextOid := n }

theorem DataStep.oneRowAdded {st st' : ParseState} (h : DataStep st st') :
    OneRowAdded st st' ∧ st'.header = st.header := by
  obtain ⟨st0, r, st'', n, h0, _, ha, rfl⟩ := h
  obtain ⟨_, pre, sc, h1, rfl⟩ := addRow_ok ha
  rcases h0 with rfl | ⟨name, rfl⟩
  · exact ⟨⟨r, .inl ⟨pre, sc, h1, rfl⟩⟩, rfl⟩
  · refine ⟨⟨r, ?_⟩, switchScaffold_header st name⟩
    unfold ParseState.switchScaffold at h1
    split at h1
    · obtain ⟨e1, e2⟩ := List.append_inj' h1 rfl
      simp only [List.cons.injEq, and_true] at e2
      exact .inr ⟨name, by simp only [← e1, ← e2]; rfl⟩
    · exact .inl ⟨pre, sc, h1, rfl⟩

/-- "no line is silently skipped, merged or re-homed", for a reader whose data lines are `DataStep`s -/
theorem readLine_one_row_or_error {skip : Str → Bool} (hskip : ∀ l, skip l = true → startsWith ['#'] l = true)
    {strip : Char → Bool} {fields : ParseState → List Str → R ParseState}
    (hf : ∀ st fs st', fields st fs = .ok st' → DataStep st st') (st : ParseState) (line : Str) (st' : ParseState)
    (h : readLine skip strip fields st line = .ok st') :
    (isBlankLine line = true ∨ startsWith ['#'] line = true →
        st'.scaffolds = st.scaffolds ∧ st'.currentName = st.currentName ∧ st'.nextOid = st.nextOid) ∧
    (¬ (isBlankLine line = true ∨ startsWith ['#'] line = true) →
        OneRowAdded st st' ∧ totalRows st' = totalRows st + 1 ∧ st'.header = st.header) := by
  rcases readLine_ok hskip h with ⟨hc, rfl | ⟨t, _, rfl⟩⟩ | ⟨hn, hd⟩
  · exact ⟨fun _ => ⟨rfl, rfl, rfl⟩, fun hn => absurd hc hn⟩
  · exact ⟨fun _ => ⟨rfl, rfl, rfl⟩, fun hn => absurd hc hn⟩
  · obtain ⟨hone, hhdr⟩ := (hf _ _ _ hd).oneRowAdded
    exact ⟨fun hc => absurd hc hn, fun _ => ⟨hone, hone.totalRows, hhdr⟩⟩

end AgpTpf.C05
