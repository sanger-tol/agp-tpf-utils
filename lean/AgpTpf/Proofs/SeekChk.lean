/-
  `readWholeLinesChk` (Model/Fasta.lean: the whole-lines loop of `sequence_bytes` WITH CPython's OSError for a relative seek to a
  negative target) against the unchecked recursion `readWholeLines`, over which `Kernels.runPlan_wholeLines` and
  `ImpFileIO.seqEndPos` are written.
-/
import AgpTpf.Model.Fasta
namespace AgpTpf

/-- some `fh.seek(line_end_bytes, 1)` inside the whole-lines loop has a negative target (Python: OSError).  Same recursion as
    `readWholeLines`. -/
def wholeLinesNeg (file : Bytes) (rpl leb : Int) : Nat → Int → Bool
  | 0, _ => false
  | k + 1, pos =>
    let p := pos + (readAt file pos rpl).length + leb
    decide (p < 0) || wholeLinesNeg file rpl leb k p

theorem wholeLinesNeg_of_leb (file : Bytes) (rpl leb : Int) (hleb : 0 ≤ leb) :
    ∀ (k : Nat) (pos : Int), 0 ≤ pos → wholeLinesNeg file rpl leb k pos = false := by
  intro k
  induction k with
  | zero => intro pos _; rfl
  | succ k ih =>
    intro pos hp
    have h0 : 0 ≤ pos + ((readAt file pos rpl).length : Int) + leb := by omega
    simp only [wholeLinesNeg, Bool.or_eq_false_iff, decide_eq_false_iff_not]
    exact ⟨by omega, ih _ h0⟩

theorem readWholeLinesChk_eq (file : Bytes) (rpl leb : Int) :
    ∀ (k : Nat) (pos : Int) (acc : ReadLog),
      readWholeLinesChk file rpl leb k pos acc =
        if wholeLinesNeg file rpl leb k pos then .error .other else .ok (readWholeLines file rpl leb k pos acc) := by
  intro k
  induction k with
  | zero => intro pos acc; rfl
  | succ k ih =>
    intro pos acc
    simp only [readWholeLinesChk, wholeLinesNeg, readWholeLines]
    by_cases h : pos + ((readAt file pos rpl).length : Int) + leb < 0
    · simp [h]
    · simp only [h, if_false, decide_false, Bool.false_or]
      exact ih _ _

/-- the check never fires for `rpl ≤ mll` (every index the indexer writes): then `0 ≤ line_end_bytes`, and the model has
    checked `pos1` -/
theorem readWholeLinesChk_nonneg (file : Bytes) (rpl leb : Int) (hleb : 0 ≤ leb) (k : Nat) (pos : Int) (acc : ReadLog)
    (hpos : 0 ≤ pos) : readWholeLinesChk file rpl leb k pos acc = .ok (readWholeLines file rpl leb k pos acc) := by
  rw [readWholeLinesChk_eq, wholeLinesNeg_of_leb file rpl leb hleb k pos hpos]
  rfl

theorem readWholeLines_nonneg (file : Bytes) (rpl leb : Int) :
    ∀ (k : Nat) (pos : Int) (acc : ReadLog), 0 ≤ pos → wholeLinesNeg file rpl leb k pos = false →
      0 ≤ (readWholeLines file rpl leb k pos acc).1 := by
  intro k
  induction k with
  | zero => intro pos acc hp _; exact hp
  | succ k ih =>
    intro pos acc hp hn
    simp only [wholeLinesNeg, Bool.or_eq_false_iff, decide_eq_false_iff_not] at hn
    rw [readWholeLines]
    exact ih _ _ (by omega) hn.2

theorem readWholeLinesChk_pos (file : Bytes) (rpl leb : Int) (k : Nat) (pos : Int) (acc : ReadLog) (hpos : 0 ≤ pos)
    (r : Int × ReadLog) (h : readWholeLinesChk file rpl leb k pos acc = .ok r) : 0 ≤ r.1 := by
  rw [readWholeLinesChk_eq] at h
  by_cases hn : wholeLinesNeg file rpl leb k pos = true
  · simp [hn] at h
  · simp only [hn, Bool.false_eq_true, if_false, Except.ok.injEq] at h
    subst h
    exact readWholeLines_nonneg file rpl leb k pos acc hpos (by simpa using hn)

example : readWholeLinesChk [65, 67] 4 (-3) 1 0 {} = .error .other := by rfl
example : (readWholeLinesChk [65, 67, 71, 84, 10, 65, 67, 71, 84, 10] 4 1 2 0 {}).map (fun r => (r.1, r.2.data)) =
    .ok (10, [65, 67, 71, 84, 65, 67, 71, 84]) := by rfl

end AgpTpf
