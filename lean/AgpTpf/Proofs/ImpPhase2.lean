/-
  T1c phase 2 / C10 — helper lemmas for the tie between the translated `BuildAssembly.assemblies_with_scaffolds_fused`
  (`Gen/Imp2.lean`) and the model's `assembliesFused` (`Model/Remap.lean`), and for its composition with phase 1.

  The source's loop state is a FUNCTION of the model's fold state (`toSrc`: the assemblies as a dictionary of references into an
  arena, Proofs/ImpRefDict.lean), and one pass of the source's first loop commutes with it for EVERY model state (the side goal of
  `driver_normal_form`), so the loop needs no invariant.  What the ties of the parts ask for (`NamerWf` for `name_chromosomes`,
  pairwise different keys for `make_stats`) is read off the closed form of the model's fold (`C09.splitLoop_eq`,
  `C09.splitLoop_keys_nodup`); the model's tail is `C09.outsTail_eq`.  `driver_normal_form` is the only proof that unfolds the
  generated driver; the parts are used through `C10ImpName`, `C20ImpSort`, `C07ImpFuse`, `C11ImpJunctions`, `C01ImpRemap`.
-/
import AgpTpf.Proofs.ImpRefDict
import AgpTpf.Proofs.ImpRef
import AgpTpf.Proofs.Lib.Arena
import AgpTpf.Properties.C10ImpName
import AgpTpf.Properties.C20ImpSort
import AgpTpf.Properties.C07ImpFuse
import AgpTpf.Properties.C11ImpJunctions
import AgpTpf.Properties.C01ImpRemap
set_option linter.unusedSimpArgs false
set_option linter.unusedVariables false
namespace AgpTpf.ImpPhase2
open AgpTpf.ImpNameChr
open AgpTpf.ImpFound (Ref ref_abs_iff ref_map_iff)

theorem ok_bind {α β : Type} (a : α) (k : α → R β) : ((Except.ok a : R α) >>= k) = k a := rfl
theorem error_bind {α β : Type} (e : Err) (k : α → R β) : ((Except.error e : R α) >>= k) = .error e := rfl

/-- an output assembly of the model's fold: key, curated, scaffold ids -/
abbrev MAsm := Option Str × Bool × List Nat

def objOf (name : Str) (v : Bool × List Nat) : PyRt.AsmObj := { name := name, curated := v.1, scaffolds := v.2 }

/-- `assemblies.setdefault(key, Assembly(name, curated)).add_scaffold(sid)`: what `refSetDefault` + `aSet` do to the dictionary of
    references and the arena is the model's `C09.addAsm` -/
theorem setDefault_add (name : Str) (asms : List MAsm) (key : Option Str) (cur : Bool) (sid : Nat) :
    (PyRt.refSetDefault (dictFrom 0 asms) (heapOf (objOf name) asms) key ({ name := name, curated := cur } : PyRt.AsmObj)).1
        = dictFrom 0 (C09.addAsm asms (key, cur) sid) ∧
    PyRt.aSet (PyRt.refSetDefault (dictFrom 0 asms) (heapOf (objOf name) asms) key ({ name := name, curated := cur } : PyRt.AsmObj)).2.1
        (PyRt.refSetDefault (dictFrom 0 asms) (heapOf (objOf name) asms) key ({ name := name, curated := cur } : PyRt.AsmObj)).2.2
        (fun a => { a with scaffolds := a.scaffolds ++ [sid] })
      = heapOf (objOf name) (C09.addAsm asms (key, cur) sid) := by
  unfold PyRt.refSetDefault C09.addAsm
  cases h : dGet? asms key with
  | none =>
    rw [dGet?_dictFrom_none 0 asms key h]
    have hl : (heapOf (objOf name) asms).length = asms.length := heapOf_length _ _
    simp only [dictFrom_append, hl, Nat.zero_add, true_and]
    rw [← hl, Arena.aSet_eq_modify, Arena.modify_length_snoc]
    simp [heapOf, objOf]
  | some s =>
    obtain ⟨c, ids⟩ := s
    obtain ⟨i, h1, h2, h3⟩ := dGet?_dictFrom_some (objOf name) 0 asms key (c, ids) h
    obtain ⟨h4, h5⟩ := h3 (c, ids ++ [sid])
    rw [h1]
    simp only [Nat.zero_add, h4, h5, true_and]
    rw [Arena.aSet_eq_modify, Arena.modify_of_some _ h2]
    rfl

/-- the loop state of the source's first loop, in the translator's order (by the Lean text of the type, then by variable name):
    `(assemblies, heap_g, chr_namer_haplotypes_seen, chr_namer_scaffolds, heap_a, heap_b)`.
    `SrcSt.pk` is the ONLY place that knows this order. -/
abbrev SrcSt := List (Option Str × Nat) × List PyRt.GData × List (Str × Bool) × List (Str × Nat) × List PyRt.AsmObj × List Scaffold

@[reducible] def SrcSt.pk (assemblies : List (Option Str × Nat)) (hs : List (Str × Bool)) (scs : List (Str × Nat)) (ha : List PyRt.AsmObj)
    (hb : List Scaffold) (hg : List PyRt.GData) : SrcSt := (assemblies, hg, hs, scs, ha, hb)

/-- the source state that stands for the model's fold state `(asms, entries, haps, fs)`: the i-th assembly is the object `i` of the arena
    `heap_a`; `haplotypes_seen` maps every haplotype text to `True`; no ChrGroup object exists yet -/
def toSrc (name : Str) (m : FusedAcc) : SrcSt :=
  SrcSt.pk (dictFrom 0 m.1) (m.2.2.1.map (fun k => (k, true))) m.2.1 (heapOf (objOf name) m.1) m.2.2.2 []

/-- the model's pass with key, flag and the assembly update named as in `Proofs/Remap/Phase2.lean` -/
theorem fusedStep_eq (prefix_ : Str) (asms : List MAsm) (entries : List (Str × Nat)) (haps : List Str) (fs : List Scaffold) (sid : Nat) :
    fusedStep prefix_ (asms, entries, haps, fs) sid =
      (let s := fs.getD sid default
       let asms' := C09.addAsm asms (C09.asmKey s) sid
       if s.rank = 1 then (asms', entries ++ [(pyStrOpt (C09.asmKey s).1, sid)], sAdd haps (pyStrOpt (C09.asmKey s).1), fs)
       else if s.rank = 2 then (asms', entries, haps, addPrefix prefix_ fs sid)
       else (asms', entries, haps, fs)) := rfl

/-! what the ties of the parts ask of the model's fold, from its closed form (`Proofs/Remap/Phase2.lean`; `fusedSplit b` is
    `C09.splitLoop b.namer.autosomePrefix (fuseByName b)`) -/

theorem fusedSplit_keys_nodup (b : Build) : ((fusedSplit b).1.map (·.1)).Nodup :=
  C09.splitLoop_keys_nodup b.namer.autosomePrefix (fuseByName b)

/-- `chr_namer.scaffolds` never holds more entries than there are fused scaffolds -/
theorem fusedSplit_entries_le (b : Build) : (fusedSplit b).2.1.length ≤ (fuseByName b).length := by
  show (C09.splitLoop b.namer.autosomePrefix (fuseByName b)).2.1.length ≤ _
  rw [C09.splitLoop_entries_eq]
  exact Nat.le_trans (List.length_filterMap_le _ _) (by simp)

theorem namerWf_fusedSplit (b : Build) : NamerWf ((fusedSplit b).2.2.1.map (fun k => (k, true))) (fusedSplit b).2.1 := by
  refine ⟨?_, fun kv hkv => ?_⟩
  · rw [List.map_map, show (fusedSplit b).2.1 = (C09.splitLoop b.namer.autosomePrefix (fuseByName b)).2.1 from rfl,
      ← C09.splitLoop_haps_eq]
    exact (List.map_congr_left fun _ _ => rfl).trans (List.map_id _)
  · obtain ⟨k, _, rfl⟩ := List.mem_map.mp hkv
    rfl

/-- the loop state of the second loop; `sortPk heap_a heap_g` is the only place that knows the translator's order `(heap_g, heap_a)` -/
abbrev SortSt := List PyRt.GData × List PyRt.AsmObj
@[reducible] def sortPk (ha : List PyRt.AsmObj) (hg : List PyRt.GData) : SortSt := (hg, ha)
@[reducible] def SortSt.ha (st : SortSt) : List PyRt.AsmObj := st.2
@[reducible] def SortSt.hg (st : SortSt) : List PyRt.GData := st.1

/-- one pass of `for asm in assemblies.values(): asm.smart_sort_scaffolds()`, for a sort `sortf` of the references that never raises -/
def sortStep (sortf : List Nat → List Nat) (st : SortSt) (asm : Nat) : SortSt :=
  sortPk (PyRt.aSet (SortSt.ha st) asm (fun a => { a with scaffolds := sortf (PyRt.aGet (SortSt.ha st) asm).scaffolds })) (SortSt.hg st)

def sortAsms (sortf : List Nat → List Nat) (asms : List MAsm) : List MAsm := asms.map (fun a => (a.1, a.2.1, sortf a.2.2))

theorem sortAsms_keys (sortf : List Nat → List Nat) (asms : List MAsm) : (sortAsms sortf asms).map (·.1) = asms.map (·.1) := by
  simp [sortAsms, Function.comp_def]

theorem foldl_sortStep_aux (sortf : List Nat → List Nat) (name : Str) (hg : List PyRt.GData) (asms : List MAsm) (pre : List PyRt.AsmObj) :
    (List.range' pre.length asms.length).foldl (sortStep sortf) (sortPk (pre ++ heapOf (objOf name) asms) hg)
      = sortPk (pre ++ heapOf (objOf name) (sortAsms sortf asms)) hg := by
  induction asms generalizing pre with
  | nil => rfl
  | cons a asms ih =>
    have hget : (pre ++ heapOf (objOf name) (a :: asms))[pre.length]? = some (objOf name a.2) := by
      simp [heapOf]
    have hstep : sortStep sortf (sortPk (pre ++ heapOf (objOf name) (a :: asms)) hg) pre.length
        = sortPk ((pre ++ [objOf name (a.2.1, sortf a.2.2)]) ++ heapOf (objOf name) asms) hg := by
      unfold sortStep PyRt.aSet PyRt.aGet
      simp only [sortPk, SortSt.ha, SortSt.hg, hget, List.getD, Option.getD]
      simp [heapOf, objOf]
    rw [List.length_cons, List.range'_succ, List.foldl_cons, hstep]
    have hl : (pre ++ [objOf name (a.2.1, sortf a.2.2)]).length = pre.length + 1 := by simp
    rw [← hl, ih]
    simp [heapOf, sortAsms]

theorem foldl_sortStep (sortf : List Nat → List Nat) (name : Str) (hg : List PyRt.GData) (asms : List MAsm) :
    ((dictFrom 0 asms).map (fun kv => kv.2)).foldl (sortStep sortf) (sortPk (heapOf (objOf name) asms) hg)
      = sortPk (heapOf (objOf name) (sortAsms sortf asms)) hg := by
  have h := foldl_sortStep_aux sortf name hg asms []
  rw [dictFrom_values]
  simpa using h

/-- the `{key: Assembly}` dictionary as the statistics see it -/
def viewOf (name : Str) (heap_b : List Scaffold) (asms : List MAsm) : List (Option Str × Assembly) :=
  asms.map (fun a => (a.1, ({ name := name, curated := a.2.1, scaffolds := a.2.2.map (PyRt.bsGet heap_b) } : Assembly)))

theorem asmDictView_aux (name : Str) (heap_b : List Scaffold) (asms : List MAsm) (pre : List PyRt.AsmObj) :
    PyRt.asmDictView (pre ++ heapOf (objOf name) asms) heap_b (dictFrom pre.length asms) = viewOf name heap_b asms := by
  induction asms generalizing pre with
  | nil => rfl
  | cons a asms ih =>
    obtain ⟨k, c, ids⟩ := a
    have hget : PyRt.aGet (pre ++ heapOf (objOf name) ((k, c, ids) :: asms)) pre.length = objOf name (c, ids) := by
      unfold PyRt.aGet
      simp [heapOf, List.getD]
    have hl : (pre ++ [objOf name (c, ids)]).length = pre.length + 1 := by simp
    have hsplit : pre ++ heapOf (objOf name) ((k, c, ids) :: asms) = (pre ++ [objOf name (c, ids)]) ++ heapOf (objOf name) asms := by
      simp [heapOf]
    have := ih (pre ++ [objOf name (c, ids)])
    rw [hl, ← hsplit] at this
    unfold PyRt.asmDictView at this ⊢
    simp only [dictFrom, List.map_cons, hget, this]
    rfl

theorem asmDictView_eq (name : Str) (heap_b : List Scaffold) (asms : List MAsm) (asms' : List MAsm)
    (hk : asms'.map (·.1) = asms.map (·.1)) :
    PyRt.asmDictView (heapOf (objOf name) asms) heap_b (dictFrom 0 asms') = viewOf name heap_b asms := by
  rw [dictFrom_congr 0 asms' asms hk]
  exact asmDictView_aux name heap_b asms []

def scaffoldsOnly (kv : Option Str × Assembly) : Option Str × Assembly := (kv.1, ({ scaffolds := kv.2.scaffolds } : Assembly))

/-- `make_stats` reads the keys and `.scaffolds` of the output assemblies, nothing else (`name`, `curated`, `header` are not looked at) -/
theorem make_stats_scaffolds_only (b0 j0 : Int) (per : List (Str × List (Str × Int))) (oa : List (Option Str × Assembly))
    (jf : R (List (Option Str × List Junction))) :
    Gen.Imp.AssemblyStats_make_stats b0 j0 per (oa.map scaffoldsOnly) jf = Gen.Imp.AssemblyStats_make_stats b0 j0 per oa jf := by
  unfold Gen.Imp.AssemblyStats_make_stats
  cases jf with
  | error e => rfl
  | ok t1 =>
    simp only [ok_bind]
    rw [PyRt.forIn_map scaffoldsOnly]
    rfl

theorem fused_by_name_eq (b : Build) :
    Gen.Imp.BuildAssembly_scaffolds_fused_by_name b.store (b.extra.map ImpMissing.loSrc) b.joinGap (ImpFuse.builtRefs b)
      = .ok (b.store, fuseByName b, List.range (fuseByName b).length) :=
  C07.scaffolds_fused_by_name_is_source b

/-- what the source returns once `name_chromosomes` has returned `kc`, in terms of the model's fold state -/
def srcRest (name : Str) (b0 j0 : Int) (jf : R (List (Option Str × List Junction))) (asms : List MAsm)
    (kc : List Scaffold × List PyRt.GData × Option (List Nat)) :
    R (List Scaffold × List PyRt.GData × List PyRt.AsmObj × Int × Int × List (Str × List (Str × Int)) × List (Option Str × Nat)) :=
  Gen.Imp.AssemblyStats_make_stats b0 j0 [] (viewOf name kc.1 (sortAsms (ImpSmartSort.refSorted kc.1) asms)) jf >>= fun st =>
    .ok (kc.1, kc.2.1, heapOf (objOf name) (sortAsms (ImpSmartSort.refSorted kc.1) asms), st.1, st.2.1, st.2.2, dictFrom 0 asms)

/-- THE SOURCE IN NORMAL FORM (the only proof that unfolds the generated driver): the first loop is the model's fold (`fusedSplit`) seen
    through `toSrc`; then the source's `name_chromosomes` on what it collected; then every assembly sorted, the statistics -/
theorem driver_normal_form (b : Build) (b0 j0 : Int) (jf : R (List (Option Str × List Junction))) (namer : PyRt.SrcNamer) (name : Str)
    (hp : namer.autosome_prefix = b.namer.autosomePrefix) :
    Gen.Imp.BuildAssembly_assemblies_with_scaffolds_fused b.store (b.extra.map ImpMissing.loSrc) b0 j0 [] jf namer name b.joinGap
        (ImpFuse.builtRefs b)
      = (Gen.Imp.ChrNamer_name_chromosomes (fusedSplit b).2.2.2 [] none ((fusedSplit b).2.2.1.map (fun k => (k, true))) (fusedSplit b).2.1
            b.namer.autosomePrefix >>= srcRest name b0 j0 jf (fusedSplit b).1) := by
  unfold Gen.Imp.BuildAssembly_assemblies_with_scaffolds_fused
  rw [init_eq, hp]
  simp only [ok_bind]
  rw [fused_by_name_eq]
  simp only [ok_bind]
  erw [PyRt.forIn_foldl_enc (toSrc name) (fusedStep b.namer.autosomePrefix) ?_ ([], [], [], fuseByName b)]
  · have hsp : List.foldl (fusedStep b.namer.autosomePrefix) ([], [], [], fuseByName b) (List.range (fuseByName b).length)
        = fusedSplit b := rfl
    rw [hsp]
    simp only [ok_bind, toSrc]
    refine bind_congr (fun kc => ?_)
    rw [PyRt.forIn_foldl (sortStep (ImpSmartSort.refSorted kc.1)) ?_]
    · rw [foldl_sortStep]
      simp only [ok_bind]
      rw [asmDictView_eq name kc.1 _ _ (sortAsms_keys _ _).symm]
      rfl
    · intro asm _ st
      rw [C20.smart_sort_refs]
      rfl
  · -- one pass on the state that stands for `m` gives the state that stands for the model's pass — for EVERY `m`
    rintro sid - ⟨asms, entries, haps, fs⟩
    rw [fusedStep_eq]
    unfold toSrc SrcSt.pk
    -- the pass first chooses key and flag (the tag, else the haplotype, else none): nine cases of a small term; the rest of the
    -- pass goes on from the pair and is split by rank only
    refine bind_eq_of_ok (a := C09.asmKey (PyRt.bsGet fs sid)) ?_ ?_
    · unfold C09.asmKey
      generalize PyRt.bsGet fs sid = s
      obtain ⟨nm, rows, tag, hap, rank, on, ot⟩ := s
      rcases tag with _ | _ | ⟨c, cs⟩ <;> rcases hap with _ | _ | ⟨c', cs'⟩ <;> rfl
    · obtain ⟨h1, h2⟩ := setDefault_add name asms (C09.asmKey (PyRt.bsGet fs sid)).1 (C09.asmKey (PyRt.bsGet fs sid)).2 sid
      simp only [add_scaffold_eq, add_chr_prefix_eq, optStrText_eq, ok_bind, h1, h2]
      -- `PyRt.bsGet fs sid` is the model's `fs.getD sid default`
      by_cases hr1 : (PyRt.bsGet fs sid).rank = 1
      · rw [if_pos (show (fs.getD sid default).rank = 1 from hr1)]
        simp only [hr1, decide_true, if_true, ok_bind, dSet_map_const]
        rfl
      · rw [if_neg (show ¬ (fs.getD sid default).rank = 1 from hr1)]
        by_cases hr2 : (PyRt.bsGet fs sid).rank = 2
        · rw [if_pos (show (fs.getD sid default).rank = 2 from hr2)]
          simp only [decide_eq_false hr1, decide_eq_true hr2, if_true, Bool.false_eq_true, if_false, ok_bind]
          rfl
        · rw [if_neg (show ¬ (fs.getD sid default).rank = 2 from hr2)]
          simp only [hr1, hr2, decide_false, Bool.false_eq_true, if_false, ok_bind]
          rfl

def asmOf (name : Str) (a : OutAsm) : Option Str × Assembly :=
  (a.key, ({ name := name, curated := a.curated, scaffolds := a.scaffolds } : Assembly))

theorem viewOf_sorted (name : Str) (fs : List Scaffold) (asms : List MAsm) :
    viewOf name fs (sortAsms (ImpSmartSort.refSorted fs) asms) = (C09.outsOf fs asms).map (asmOf name) := by
  unfold viewOf sortAsms C09.outsOf
  rw [List.map_map, List.map_map]
  apply List.map_congr_left
  intro a _
  simp only [Function.comp, asmOf, ImpSmartSort.refSorted_deref]
  rfl

theorem asmOf_scaffoldsOnly (name : Str) (outs : List OutAsm) : (outs.map (asmOf name)).map scaffoldsOnly = ImpStats.outItems outs := by
  rw [List.map_map]
  rfl

theorem make_stats_on_view (input : List Scaffold) (name : Str) (outs : List OutAsm) (cuts b0 j0 : Int) (hk : (outs.map (·.key)).Nodup) :
    Gen.Imp.AssemblyStats_make_stats b0 j0 [] (outs.map (asmOf name)) (junctionsByPrefix input)
      = (makeStats input outs cuts).map (fun st => (st.breaks, st.joins, ImpStats.perToSrc st.perAssembly)) := by
  rw [← make_stats_scaffolds_only, asmOf_scaffoldsOnly]
  exact C11.make_stats_is_source_partial input outs cuts b0 j0 hk

theorem outsOf_keys (fs : List Scaffold) (asms : List MAsm) : ((C09.outsOf fs asms).map (·.key)) = asms.map (·.1) := by
  unfold C09.outsOf
  rw [List.map_map]; rfl

/-- what the translated `assemblies_with_scaffolds_fused` returns:
    `(heap_b, heap_g, heap_a, breaks, joins, per_assembly_stats, assemblies)` -/
abbrev FusedT :=
  List Scaffold × List PyRt.GData × List PyRt.AsmObj × Int × Int × List (Str × List (Str × Int)) × List (Option Str × Nat)

/-- what the tie of phase 2 says of the pair (source result, model result): the model's numbers; the `{key: Assembly}` dictionary, read
    through the references, is the model's list of output assemblies; the cut count is the one phase 1 left -/
def FusedQ (name : Str) (cuts : Int) (t : FusedT) (r : List OutAsm × Stats) : Prop :=
  ∃ heap_b heap_g heap_a assemblies,
    t = (heap_b, heap_g, heap_a, r.2.breaks, r.2.joins, ImpStats.perToSrc r.2.perAssembly, assemblies) ∧
    PyRt.asmDictView heap_a heap_b assemblies = r.1.map (asmOf name) ∧ r.2.cuts = cuts

/-- `hcount`: the number of entries of `chr_namer.scaffolds`, at most `ImpChrGroup.chrBound` -/
theorem fused_ref (input : List Scaffold) (b : Build) (namer : PyRt.SrcNamer) (name : Str) (b0 j0 : Int)
    (hp : namer.autosome_prefix = b.namer.autosomePrefix) (hcount : (fusedSplit b).2.1.length ≤ 1114047) :
    Ref (FusedQ name b.cuts)
      (Gen.Imp.BuildAssembly_assemblies_with_scaffolds_fused b.store (b.extra.map ImpMissing.loSrc) b0 j0 [] (junctionsByPrefix input)
        namer name b.joinGap (ImpFuse.builtRefs b))
      (assembliesFused input b) := by
  rw [driver_normal_form b b0 j0 _ namer name hp, assembliesFused_eq]
  have hnc := C10.name_chromosomes_is_source_of_wf (fusedSplit b).2.2.2 [] none ((fusedSplit b).2.2.1.map (fun k => (k, true)))
    (fusedSplit b).2.1 b.namer.autosomePrefix (namerWf_fusedSplit b) hcount
  rw [show ((fusedSplit b).2.2.1.map (fun k => (k, true))).map (·.1) = (fusedSplit b).2.2.1 by simp [Function.comp_def]] at hnc
  -- `name_chromosomes`, then the tail of the model on the arena it returns
  refine ((ref_abs_iff _).2 hnc).bind fun kc fs e => ?_
  subst e
  rw [show fusedRest input b (fusedSplit b).1 kc.1 = _ from C09.outsTail_eq input b _ kc.1]
  unfold srcRest
  rw [viewOf_sorted, make_stats_on_view input name _ b.cuts b0 j0 (by rw [outsOf_keys]; exact fusedSplit_keys_nodup b)]
  refine ((ref_map_iff _).2 rfl).bind' fun _ st _ hms e => ?_
  subst e
  exact Ref.ok ⟨_, _, _, _, rfl, (asmDictView_eq name kc.1 _ _ (sortAsms_keys _ _).symm).trans (viewOf_sorted name kc.1 _),
    by rw [(C11.makeStats_ok' hms).2]; rfl⟩

/-- what the translated `remap_to_input_assembly` returns:
    `(store, nextOid, heap_lo, added_lo, heap_ff, scaffold_namer, found_fragments, fragments_found_more_than_once, cuts)` -/
abbrev Phase1Out :=
  List Res × Nat × List PyRt.Leftover × List Nat × List Found × PyRt.SrcNamer × List (Key × Nat) × List (Key × Nat) × Int

/-- HOW PHASE 1 FEEDS PHASE 2.  The translated phase 1 does not keep the Python list `BuildAssembly.scaffolds`: `add_scaffold(result)` is
    the flag `Res.added` on the store entry (`PyRt.markAdded`), and the left-over objects added are the references `added_lo`.  The
    translated phase 2 takes `self.scaffolds` as a list of `PyRt.BuiltRef`.  This is the list that joins the two: the added
    OverlapResults IN STORE ORDER (a result is created and added, or not, in the same pass of `find_assembly_overlaps`, so the order of
    creation is the order of `self.scaffolds`), then the left-overs in the order `add_missing_scaffolds_from_input` added them (it runs last) -/
def phase2Scaffolds (store : List Res) (added_lo : List Nat) : List PyRt.BuiltRef :=
  ((List.range store.length).filter (fun sid => (store.getD sid default).added)).map PyRt.BuiltRef.res ++ added_lo.map PyRt.BuiltRef.lo

/-- the source's phase 2 on the state phase 1 left (`self.name = name`; `self.assembly_stats` fresh apart from `cuts`, which `make_stats`
    does not touch; the input junction sets computed by the TRANSLATED `fragment_junctions_by_asm_prefix` with `fuelJ`) -/
def sourcePhase2 (input : List Scaffold) (fuelJ : Nat) (name : Str) (b0 j0 : Int) (g : Gap) (p1 : Phase1Out) :=
  Gen.Imp.BuildAssembly_assemblies_with_scaffolds_fused p1.1 p1.2.2.1 b0 j0 []
    (Gen.Imp.Assembly_fragment_junctions_by_asm_prefix fuelJ input) p1.2.2.2.2.2.1 name (some g) (phase2Scaffolds p1.1 p1.2.2.2.1)

/-- the whole remap of the source: `BuildAssembly.__init__` state, `remap_to_input_assembly`, `assemblies_with_scaffolds_fused`;
    result: `(cuts, heap_b, heap_g, heap_a, breaks, joins, per_assembly_stats, assemblies)` -/
def sourceRemap (fuel fuelJ : Nat) (input ptx : List Scaffold) (prefix_ : Str) (g : Gap) (err : Int) (name : Str) (b0 j0 : Int) :=
  Gen.Imp.BuildAssembly_remap_to_input_assembly fuel [] (C01.remapStart input prefix_ (some g) err).nextOid [] { autosome_prefix := prefix_ }
      [] [] 0 ptx input err g (C01.inputOverlaps input) >>= fun (p1 : Phase1Out) =>
    sourcePhase2 input fuelJ name b0 j0 g p1 >>= fun p2 => .ok (p1.2.2.2.2.2.2.2.2, p2)

/-- the whole remap: phase 1 (`ImpRemap.remap_to_input_ref`) hands phase 2 the state `fused_ref` starts from -/
theorem remap_ref (input ptx : List Scaffold) (prefix_ : Str) (g : Gap) (err : Int) (fuel fuelJ : Nat) (name : Str) (b0 j0 : Int)
    (hdup : C01.inputNamesDistinct input) (hfuel : C01.RemapFuel input ptx prefix_ (some g) err fuel)
    (hfj : ∀ s ∈ input, (Scaffold.fragments s).length ≤ fuelJ)
    (hcount : ∀ b, remapToInput input ptx prefix_ (some g) err = .ok b → (fuseByName b).length ≤ 1114047) :
    Ref (fun t r => t.1 = r.2.cuts ∧ FusedQ name r.2.cuts t.2 r)
      (sourceRemap fuel fuelJ input ptx prefix_ g err name b0 j0) (remap input ptx prefix_ (some g) err) := by
  obtain ⟨seen, hseen⟩ := hdup
  unfold remap sourceRemap
  refine (ImpRemap.remap_to_input_ref input ptx prefix_ g err fuel seen hseen hfuel).bind' ?_
  rintro _ b - hm ⟨heap_lo, heap_ff, s, found, rfl, hw, hc, hl, hb⟩
  have hex : b.extra = heap_lo.map ImpMissing.loModel := by rw [hb]; rfl
  have hlo : heap_lo = b.extra.map ImpMissing.loSrc := by
    rw [hex, List.map_map]
    exact ((List.map_congr_left fun x hx => hl x hx).trans (List.map_id _)).symm
  have ht := fused_ref input b s name b0 j0 (by rw [hb]; rfl) (Nat.le_trans (fusedSplit_entries_le b) (hcount b hm))
  unfold sourcePhase2
  simp only []
  -- what phase 1 returned is what `fused_ref` is stated on
  rw [ImpJunctions.junctionsByPrefixSrc_eq input fuelJ hfj,
    show phase2Scaffolds b.store (List.range heap_lo.length) = ImpFuse.builtRefs b by
      unfold phase2Scaffolds ImpFuse.builtRefs; rw [hex, List.length_map],
    show some g = b.joinGap by rw [hb]; rfl]
  subst hlo
  exact ht.bind_ok fun t r hq => Ref.ok ⟨by obtain ⟨_, _, _, _, _, _, hc⟩ := hq; exact hc.symm,
    by obtain ⟨_, _, _, _, _, _, hc⟩ := id hq; exact hc ▸ hq⟩

end AgpTpf.ImpPhase2
