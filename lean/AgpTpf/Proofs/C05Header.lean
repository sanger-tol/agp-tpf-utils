/- C05 (f): header lines — `HeaderOk` is what `headerText` returns and what survives being written and read by any `readLine`;
   written header and data lines are complete lines (`LineOk`) -/
import AgpTpf.Proofs.C05Line
namespace AgpTpf.C05
open AgpTpf AgpTpf.C06

/-- header text that survives `# ` + text + newline → `[#\s]+(.+)`: non-empty, no newline, and either not
    starting with '#' or whitespace (the greedy `[#\s]+` would swallow such a start) or a single such character
    (what the regex backtracks to on an otherwise empty header line).  This is exactly the form of what
    `headerText` returns (`headerText_ok`). -/
def HeaderOk (h : Str) : Prop :=
  match h with
  | [] => False
  | c :: t => '\n' ∉ h ∧ (isHashOrSpace c = false ∨ t = [])

instance (h : Str) : Decidable (HeaderOk h) := by unfold HeaderOk; cases h <;> infer_instance

theorem takeWhile_ne_nl (h rest : Str) (hn : '\n' ∉ h) :
    (h ++ '\n' :: rest).takeWhile (fun c => decide (c ≠ '\n')) = h := by
  rw [List.takeWhile_append_of_pos]
  · simp
  · intro a ha; simp; intro e; exact hn (e ▸ ha)

/-- at the index the regex backtracks to stands a character other than newline, and only newlines (or nothing) follow it -/
theorem lastNonNewlineIdx_spec (l : Str) (k : Nat) (h : lastNonNewlineIdx l = some k) :
    ∃ c t, l.drop k = c :: t ∧ c ≠ '\n' ∧ t.takeWhile (· ≠ '\n') = [] := by
  obtain ⟨h1, h2, h3⟩ := of_getLast?_filter_range _ _ _ h
  refine ⟨l[k], l.drop (k + 1), List.drop_eq_getElem_cons h1, ?_, ?_⟩
  · simpa [List.getD_eq_getElem?_getD, h1] using (of_decide_eq_true h2).2
  · by_cases hk : k + 1 < l.length
    · rw [List.drop_eq_getElem_cons hk, List.takeWhile_cons_of_neg]
      simpa [List.getD_eq_getElem?_getD, hk] using h3 (k + 1) (by omega) hk
    · rw [List.drop_eq_nil_of_le (by omega)]; rfl

theorem lastNonNewlineIdx_single (pfx : Str) (c : Char) (hp : pfx ≠ []) (hc : c ≠ '\n') :
    lastNonNewlineIdx (pfx ++ [c, '\n']) = some pfx.length := by
  have hpos : 1 ≤ pfx.length := List.length_pos_iff.2 hp
  refine getLast?_filter_range _ _ _ (by simp) (by simp [List.getD_eq_getElem?_getD, hc, hpos]) fun k hk hpk => ?_
  have hk' : k < pfx.length + 2 := by simpa using hk
  -- the only index above `pfx.length` holds the newline
  refine Nat.le_of_not_lt fun hlt => ?_
  have : k = pfx.length + 1 := by omega
  subst this
  simp [List.getD_eq_getElem?_getD] at hpk

theorem headerText_format (pfx h : Str) (hp : pfx ≠ []) (hpa : ∀ c ∈ pfx, isHashOrSpace c = true)
    (hh : HeaderOk h) : headerText (pfx ++ h ++ ['\n']) = some h := by
  cases h with
  | nil => exact hh.elim
  | cons c t =>
    obtain ⟨hnl, hc⟩ := hh
    -- `[#\s]+` takes `pfx` and goes on into `c :: t ++ "\n"`
    have hrun (x : Str) : (pfx ++ x).isEmpty = false := by cases pfx with | nil => exact absurd rfl hp | cons _ _ => rfl
    rw [List.append_assoc, headerText]
    simp only [List.takeWhile_append_of_pos hpa, List.dropWhile_append_of_pos hpa, hrun, Bool.false_eq_true, if_false,
      List.cons_append]
    by_cases hcs : isHashOrSpace c = true
    · -- a single '#'/whitespace character: the run swallows the line and the regex backtracks to it
      obtain rfl : t = [] := hc.resolve_left (by simp [hcs])
      have hcn : c ≠ '\n' := fun e => hnl (by simp [e])
      have hd : List.dropWhile isHashOrSpace [c, '\n'] = [] := by simp [hcs, show isHashOrSpace '\n' = true by decide]
      simp only [List.nil_append, hd, lastNonNewlineIdx_single pfx c hp hcn, List.drop_left]
      exact congrArg some (takeWhile_ne_nl [c] [] hnl)
    · rw [List.dropWhile_cons_of_neg hcs]
      exact congrArg some (takeWhile_ne_nl (c :: t) [] hnl)

/-- either way `headerText` returns a `(c :: t).takeWhile (· ≠ '\n')` with `c` no newline: `c` is no '#'/whitespace, or nothing is
    taken after it -/
theorem headerOk_takeWhile (c : Char) (t : Str) (hcn : c ≠ '\n') (ht : isHashOrSpace c = false ∨ t.takeWhile (· ≠ '\n') = []) :
    HeaderOk ((c :: t).takeWhile (· ≠ '\n')) := by
  rw [List.takeWhile_cons_of_pos (by simpa using hcn)]
  refine ⟨fun hm => ?_, ht⟩
  rcases List.mem_cons.1 hm with hm | hm
  · exact hcn hm.symm
  · have := List.all_eq_true.1 List.all_takeWhile _ hm; simp at this

theorem headerText_ok (l : Str) (h : Str) (hh : headerText l = some h) : HeaderOk h := by
  unfold headerText at hh
  dsimp only at hh
  split at hh
  · cases hh
  · cases hd : l.dropWhile isHashOrSpace with
    | nil =>
      rw [hd] at hh
      cases hk : lastNonNewlineIdx l with
      | none => rw [hk] at hh; cases hh
      | some k =>
        obtain ⟨c, t, e, hcn, ht⟩ := lastNonNewlineIdx_spec l k hk
        rw [hk] at hh
        cases hh
        rw [e]
        exact headerOk_takeWhile c t hcn (.inr ht)
    | cons c t =>
      rw [hd] at hh
      cases hh
      have hc : isHashOrSpace c = false := by
        simpa [hd] using List.head_dropWhile_not isHashOrSpace (l := l) (by rw [hd]; simp)
      exact headerOk_takeWhile c t (by intro e; subst e; revert hc; decide) (.inl hc)

theorem readLine_header {skip : Str → Bool} (strip : Char → Bool) (fields : ParseState → List Str → R ParseState)
    (st : ParseState) (pfx h : Str) (hp : pfx.head? = some '#') (hpa : ∀ c ∈ pfx, isHashOrSpace c = true)
    (hs : skip (pfx ++ h ++ ['\n']) = false) (hh : HeaderOk h) :
    readLine skip strip fields st (pfx ++ h ++ ['\n']) = .ok { st with header := st.header ++ [h] } := by
  obtain ⟨t, rfl⟩ := List.head?_eq_some_iff.1 hp
  have h1 : isBlankLine ('#' :: t ++ h ++ ['\n']) = false := isBlankLine_false _ '#' (by simp) (by decide)
  have h3 : startsWith ['#'] ('#' :: t ++ h ++ ['\n']) = true := by simp [startsWith, List.isPrefixOf]
  simp only [readLine, h1, hs, h3, headerText_format _ _ (List.cons_ne_nil _ _) hpa hh, Bool.false_eq_true, if_false, if_true]

theorem fold_headers (P : ParseState → Str → R ParseState) (pfx : Str)
    (hP : ∀ st h, HeaderOk h → P st (pfx ++ h ++ ['\n']) = .ok { st with header := st.header ++ [h] })
    (hdrs : List Str) (hh : ∀ h ∈ hdrs, HeaderOk h) (st : ParseState) :
    (hdrs.map (fun h => pfx ++ h ++ ['\n'])).foldlM P st = .ok { st with header := st.header ++ hdrs } := by
  induction hdrs generalizing st with
  | nil => simp; rfl
  | cons h t ih =>
    rw [List.map_cons, List.foldlM_cons, hP st h (hh h List.mem_cons_self), ok_bind]
    refine (ih (fun x hx => hh x (by simp [hx])) _).trans ?_
    simp

theorem lineOfCols_lineOk (cols : List Str) (h : ∀ c ∈ cols, '\n' ∉ c) : LineOk (lineOfCols cols) :=
  joinWith_lineOk '\t' (by decide) cols h

theorem headerLine_lineOk (pfx h : Str) (hp : '\n' ∉ pfx) (hh : HeaderOk h) : LineOk (pfx ++ h ++ ['\n']) := by
  refine ⟨pfx ++ h, rfl, ?_⟩
  cases h with
  | nil => exact hh.elim
  | cons c t => intro hm; rw [List.mem_append] at hm; rcases hm with hm | hm; exact hp hm; exact hh.1 hm

end AgpTpf.C05
