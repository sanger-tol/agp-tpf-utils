/-
  C02 (deep cuts), part 9: `cut_fragments` for a contig with ANY number of holders, evaluated forwards
  (`cutFragments_chain`): the loop, then the QC of a chain of abutting pieces.
-/
import AgpTpf.Proofs.C02DCut
import AgpTpf.Proofs.Lib.Pipeline
import AgpTpf.Proofs.Lib.Py
namespace AgpTpf.C02
open AgpTpf OverlapResult
open AgpTpf.Pipeline (holderOrder cutHolder)

/-- what the loop does to the build: holder `t.1` gets the result `t.2.1` -/
def applyCuts (b : Build) (T : List (Nat × OverlapResult × Fragment)) : Build :=
  { b with store := T.foldl (fun st t => setAt st t.1 { st.getD t.1 default with o := t.2.1 }) b.store,
           nextOid := b.nextOid + T.length }

theorem foldlM_cutStep_fwd (F : Fragment) (last : Nat) :
    ∀ (T : List (Nat × OverlapResult × Fragment)) (b : Build) (subs : List Fragment) (i : Nat),
      (T.map (·.1)).Nodup →
      (∀ j t, T[j]? = some t →
        (b.store.getD t.1 default).o.trimFragment F (cutFlags F.strand (i + j) last).1 (cutFlags F.strand (i + j) last).2
          (b.nextOid + j) = .ok (t.2.1, t.2.2)) →
      (T.map (·.1)).foldlM (cutHolder F last) (b, subs, i) = .ok (applyCuts b T, subs ++ T.map (·.2.2), i + T.length)
  | [], b, subs, i, _, _ => by
    simp only [List.map_nil, List.foldlM_nil, List.append_nil, List.length_nil, Nat.add_zero, applyCuts, List.foldl_nil]
    rfl
  | t :: T', b, subs, i, hnd, h => by
    simp only [List.map_cons, List.nodup_cons] at hnd
    have h0 := h 0 t rfl
    simp only [Nat.add_zero] at h0
    have hstep : cutHolder F last (b, subs, i) t.1 =
        .ok ({ b with store := setAt b.store t.1 { b.store.getD t.1 default with o := t.2.1 },
                      nextOid := b.nextOid + 1 }, subs ++ [t.2.2], i + 1) := by
      rw [Pipeline.cutHolder_eq]
      show (b.store.getD t.1 default).o.trimFragment F (cutFlags F.strand i last).1 (cutFlags F.strand i last).2 b.nextOid
        >>= _ = _
      rw [h0]; rfl
    simp only [List.map_cons, List.foldlM_cons, hstep, bind, Except.bind]
    rw [foldlM_cutStep_fwd F last T' _ _ _ hnd.2]
    · have e1 : b.nextOid + 1 + T'.length = b.nextOid + (T'.length + 1) := by omega
      have e2 : i + 1 + T'.length = i + (T'.length + 1) := by omega
      simp only [applyCuts, List.foldl_cons, List.length_cons, List.append_assoc, List.cons_append,
        List.nil_append, e1, e2]
    · intro j t' ht'
      have hne : t.1 ≠ t'.1 := by
        intro e
        exact hnd.1 (e ▸ List.mem_map_of_mem (List.mem_of_getElem? ht'))
      have := h (j + 1) t' (by simpa using ht')
      simp only [Pipeline.getD_setAt_ne _ _ _ _ _ hne]
      have e1 : i + 1 + j = i + (j + 1) := by omega
      have e2 : b.nextOid + 1 + j = b.nextOid + (j + 1) := by omega
      rw [e1, e2]
      exact this

def Adj {α} (r : α → α → Prop) : List α → Prop
  | [] => True
  | [_] => True
  | a :: b :: t => r a b ∧ Adj r (b :: t)

theorem adj_get {α} (r : α → α → Prop) : ∀ (l : List α), Adj r l → ∀ p (h : p + 1 < l.length), r (l[p]'(by omega)) (l[p + 1])
  | [], _, p, h => by simp at h
  | [_], _, p, h => by simp at h
  | a :: b :: t, hadj, 0, _ => hadj.1
  | a :: b :: t, hadj, p + 1, h => by
    have := adj_get r (b :: t) hadj.2 p (by simpa using h)
    simpa using this

theorem adj_pairwise {α} (r : α → α → Prop) (htr : ∀ a b c, r a b → r b c → r a c) :
    ∀ (l : List α), Adj r l → l.Pairwise r
  | [], _ => List.Pairwise.nil
  | [a], _ => by simp
  | a :: b :: t, h => by
    have ih := adj_pairwise r htr (b :: t) h.2
    rw [List.pairwise_cons]
    refine ⟨?_, ih⟩
    intro c hc
    rcases List.mem_cons.1 hc with rfl | hc
    · exact h.1
    · exact htr a b c h.1 ((List.pairwise_cons.1 ih).1 c hc)

theorem adj_pred {α} {r : α → α → Prop} : ∀ {a : α} {t : List α}, Adj r (a :: t) → ∀ c ∈ t, ∃ b, r b c
  | a, b :: t, h, c, hc => by
    rcases List.mem_cons.1 hc with rfl | hc
    · exact ⟨a, h.1⟩
    · exact adj_pred h.2 c hc

theorem adj_mem {α} {r : α → α → Prop} : ∀ {l : List α}, Adj r l → 2 ≤ l.length → ∀ c ∈ l, (∃ b, r c b) ∨ ∃ a, r a c
  | a :: b :: t, h, _, c, hc => by
    rcases List.mem_cons.1 hc with rfl | hc
    · exact .inl ⟨b, h.1⟩
    · exact .inr (adj_pred h c hc)

theorem adj_mono {α} (r s : α → α → Prop) (h : ∀ a b, r a b → s a b) : ∀ (l : List α), Adj r l → Adj s l
  | [], _ => trivial
  | [_], _ => trivial
  | a :: b :: t, hadj => ⟨h a b hadj.1, adj_mono r s h (b :: t) hadj.2⟩

theorem adj_of_get {α} (r : α → α → Prop) : ∀ (l : List α),
    (∀ p (h : p + 1 < l.length), r (l[p]'(by omega)) (l[p + 1])) → Adj r l
  | [], _ => trivial
  | [_], _ => trivial
  | a :: b :: t, h => by
    refine ⟨h 0 (by simp), adj_of_get r (b :: t) ?_⟩
    intro p hp
    have := h (p + 1) (by simpa using hp)
    simpa using this

theorem adj_intro {α} (κ : α → Int) (R : α → α → Prop) (l : List α) (hp : l.Pairwise (fun a b => κ a < κ b))
    (h : ∀ a ∈ l, ∀ b ∈ l, κ a < κ b → (∀ m ∈ l, κ m ≤ κ a ∨ κ b ≤ κ m) → R a b) : Adj R l := by
  have hpg := List.pairwise_iff_getElem.1 hp
  refine adj_of_get R l fun p hpl =>
    h _ (List.getElem_mem _) _ (List.getElem_mem _) (hpg p (p + 1) _ hpl p.lt_succ_self) fun m hm => ?_
  -- an element at or before position `p` is no greater than `l[p]`, one behind it no less than `l[p + 1]`
  obtain ⟨j, hj, rfl⟩ := List.mem_iff_getElem.1 hm
  rcases Nat.lt_or_ge p j with hlt | hge
  · rcases Nat.lt_or_eq_of_le (Nat.succ_le_of_lt hlt) with hlt | rfl
    · exact Or.inr (Int.le_of_lt (hpg (p + 1) j hpl hj hlt))
    · exact Or.inr (Int.le_refl _)
  · rcases Nat.lt_or_eq_of_le hge with hlt | rfl
    · exact Or.inl (Int.le_of_lt (hpg j p hj _ hlt))
    · exact Or.inl (Int.le_refl _)

theorem stableSort_of_adj {α} (le : α → α → Bool) : ∀ (l : List α), Adj (fun a b => le a b = true) l →
    stableSort le l = l
  | [], _ => rfl
  | [a], _ => rfl
  | a :: b :: t, h => by
    have ih := stableSort_of_adj le (b :: t) h.2
    show insertBy le a (stableSort le (b :: t)) = _
    rw [ih, insertBy_cons, if_pos h.1]

theorem pairs_all {α} (r : α → α → Prop) : ∀ (l : List α), Adj r l → ∀ p ∈ l.zip (l.drop 1), r p.1 p.2
  | [], _, p, hp => by simp at hp
  | [a], _, p, hp => by simp at hp
  | a :: b :: t, h, p, hp => by
    simp only [List.drop_succ_cons, List.drop_zero, List.zip_cons_cons, List.mem_cons] at hp
    rcases hp with rfl | hp
    · exact h.1
    · exact pairs_all r (b :: t) h.2 p (by simpa using hp)

def Follows' (a b : Fragment) : Prop := a.name = b.name ∧ a.start ≤ a.stop ∧ b.start ≤ b.stop ∧ a.stop + 1 = b.start

theorem chain_length : ∀ (x : Fragment) (t : List Fragment), Adj Follows' (x :: t) →
    sumInts ((x :: t).map Fragment.length) = ((x :: t).getLast (by simp)).stop - x.start + 1
  | x, [], _ => by simp [sumInts, Fragment.length]
  | x, y :: t, h => by
    have ih := chain_length y t h.2
    have h1 := h.1
    simp only [List.map_cons, sumInts] at ih ⊢
    rw [List.getLast_cons (by simp)]
    unfold Follows' at h1
    simp only [Fragment.length] at ih ⊢
    omega

theorem Follows'.qc {a b : Fragment} (h : Follows' a b) :
    lexLe a b = true ∧ a.abuts b = true ∧ a.overlaps b = false ∧ a.gapBetween b = some 0 := by
  obtain ⟨h1, h2, h3, h4⟩ := h
  have e2 : min a.stop b.stop = a.stop := by omega
  have e3 : max a.start b.start = b.start := by omega
  refine ⟨?_, ?_, ?_, ?_⟩
  · unfold lexLe; rw [if_pos (by omega)]
  · unfold Fragment.abuts; simp [h1, h4]
  · unfold Fragment.overlaps; simp only [h1, ne_eq, not_true_eq_false, if_false, decide_eq_false_iff_not]; omega
  · unfold Fragment.gapBetween
    simp only [h1, ne_eq, not_true_eq_false, if_false, e2, e3, show a.stop < b.start by omega, if_true]
    congr 1; omega

/-- the chain is sorted already, every pair of neighbours abuts and none overlaps or leaves a gap, and the lengths add up -/
theorem qc_chain (F x : Fragment) (t : List Fragment) (hadj : Adj Follows' (x :: t)) (hstart : x.start = F.start)
    (hstop : ((x :: t).getLast (by simp)).stop = F.stop) : qcPasses F (x :: t) = true := by
  have hs := stableSort_of_adj lexLe (x :: t) (adj_mono _ _ (fun _ _ h => h.qc.1) _ hadj)
  have hall := fun p hp => (pairs_all Follows' (x :: t) hadj p hp).qc
  unfold qcPasses
  simp only [hs]
  rw [List.filter_eq_self.2 fun p hp => (hall p hp).2.1,
    List.filter_eq_nil_iff.2 fun p hp => Bool.eq_false_iff.1 (hall p hp).2.2.1,
    List.filter_eq_nil_iff.2 fun p hp => by rw [(hall p hp).2.2.2]; simp, chain_length x t hadj, hstop, hstart,
    List.length_zip, List.length_drop]
  simp only [List.length_nil, List.length_cons, Bool.and_eq_true, beq_iff_eq, decide_eq_true_eq]
  refine ⟨⟨⟨rfl, trivial⟩, ?_⟩, trivial⟩
  omega

/-- `T` lists, in visiting order, the holders with the result and the new Fragment `trim_fragment` makes of each. -/
theorem cutFragments_chain (b : Build) (fnd : Found) (T : List (Nat × OverlapResult × Fragment)) (κ : Nat → Int)
    (hκ : ∀ h ∈ fnd.scaffolds, (getRes b.store h).fragmentStartIfTrimmed fnd.fragment = .ok (κ h))
    (hperm : (T.map (·.1)).Perm fnd.scaffolds) (hsorted : (T.map (·.1)).Pairwise (fun a c => κ a < κ c))
    (htrim : ∀ j t, T[j]? = some t →
      (b.store.getD t.1 default).o.trimFragment fnd.fragment (cutFlags fnd.fragment.strand j (T.length - 1)).1
        (cutFlags fnd.fragment.strand j (T.length - 1)).2 (b.nextOid + j) = .ok (t.2.1, t.2.2))
    (x : Fragment) (ts : List Fragment) (hnews : T.map (·.2.2) = x :: ts) (hadj : Adj Follows' (x :: ts))
    (hstart : x.start = fnd.fragment.start) (hstop : ((x :: ts).getLast (by simp)).stop = fnd.fragment.stop) :
    cutFragments b fnd = .ok { applyCuts b T with cuts := b.cuts + ((T.length : Int) - 1) } := by
  have hnd : (T.map (·.1)).Nodup := hsorted.imp (fun h e => by subst e; omega)
  have hlen : (T.map (·.1)).length = T.length := by simp
  rw [Pipeline.cutFragments_eq, Pipeline.holderOrder, sortedByKeyM_of_sorted κ hκ hperm hsorted]
  simp only [bind, Except.bind, hlen]
  rw [foldlM_cutStep_fwd fnd.fragment (T.length - 1) T b [] 0 hnd (by
    intro j t ht
    simp only [Nat.zero_add]
    exact htrim j t ht)]
  simp only [List.nil_append, hnews, qc_chain fnd.fragment x ts hadj hstart hstop, not_true_eq_false, if_false, pure,
    Except.pure]
  have : (x :: ts).length = T.length := by rw [← hnews]; simp
  rw [this]
  rfl

/-- the holders `c` of a contig, listed in scaffold order, are visited forwards for a forward contig and backwards for a
    reverse one; in terms of its position in `c` the holder visited `j`-th keeps the start iff it is the first and the end iff
    it is the last, whatever the strand -/
theorem cutFlags_visit {c : List Nat} (hnd : c.Nodup) {strand : Int} (hstr : strand = 1 ∨ strand = -1) {V : List Nat}
    (hV : (if strand = 1 then c else c.reverse) = V) (j : Nat) (hj : j < V.length) :
    cutFlags strand j (c.length - 1) = (c.idxOf V[j] == 0, c.idxOf V[j] + 1 == c.length) ∧
      (if strand = 1 then c.idxOf V[j] else c.length - 1 - c.idxOf V[j]) = j := by
  unfold cutFlags
  rcases hstr with hs | hs <;> subst hs
  · rw [if_pos rfl] at hV
    subst hV
    rw [hnd.idxOf_getElem j hj, if_neg (by decide)]
    refine ⟨?_, if_pos rfl⟩
    congr 1; rw [Bool.eq_iff_iff, beq_iff_eq, beq_iff_eq]; omega
  · rw [if_neg (by decide)] at hV
    subst hV
    rw [List.length_reverse] at hj
    rw [List.getElem_reverse, hnd.idxOf_getElem _ (by omega), if_pos rfl]
    refine ⟨?_, by rw [if_neg (by decide)]; omega⟩
    congr 1 <;> rw [Bool.eq_iff_iff, beq_iff_eq, beq_iff_eq] <;> omega

end AgpTpf.C02
