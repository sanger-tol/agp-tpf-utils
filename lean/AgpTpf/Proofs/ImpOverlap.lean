/-
  Helper lemmas for `Properties/C18Imp.lean`: the translated Python source of the `OverlapResult` operations
  (`Gen.Imp.OverlapResult_*`) against the hand-written model (`Model/Lookup.lean`): the gap-skipping loops of the source (`while`
  with `pop`, `for … break`, `for … break` that counts + `del rows[:n]`) against `popLeadingGaps` / `leadingGapLength`, then one tie
  lemma per operation.
-/
import AgpTpf.Gen.Imp
import AgpTpf.Proofs.ImpRef
import AgpTpf.Proofs.Lib.Overlap
set_option linter.unusedSimpArgs false
namespace AgpTpf.ImpOverlap
open OverlapResult
open AgpTpf.ImpFound (ref_map_iff whileLoop_keeps keeps_next forIn_takeWhile)

attribute [local simp] pyGet_nil pyGet_zero_cons pyGet_neg_one_snoc PyRt.pop_nil PyRt.pop_zero_cons PyRt.pop_neg_one_snoc
  PyRt.slice_one_none_cons PyRt.setAt_zero_cons PyRt.setAt_neg_one_snoc

theorem neg_one_idx (n : Nat) : ((-1 : Int) + ((n + 1 : Nat) : Int)).toNat = n := by omega

@[simp] theorem sliceRevFrom_neg_two_snoc {α : Type} (l : List α) (x : α) :
    PyRt.sliceRevFrom (l ++ [x]) (-2) = l.reverse := by
  cases l with
  | nil => simp [PyRt.sliceRevFrom]
  | cons y t =>
    have h1 : ¬ ((-2 : Int) + (((y :: t) ++ [x]).length : Int) < 0) := by simp; omega
    have h2 : min (((-2 : Int) + (((y :: t) ++ [x]).length : Int)).toNat + 1) ((y :: t) ++ [x]).length = (y :: t).length := by
      simp; omega
    simp only [PyRt.sliceRevFrom, show ((-2 : Int) < 0) from by omega, if_true, h1, if_false, h2]
    simp

/-- the same with the list given by its reversal, as the model states `discard_end` -/
theorem sliceRevFrom_neg_two_of_reverse {α : Type} {l r : List α} {d : α} (h : l.reverse = d :: r) :
    PyRt.sliceRevFrom l (-2) = r := by
  have : l = r.reverse ++ [d] := by rw [← List.reverse_reverse l, h]; simp
  subst this; simp

theorem rowIsFrag_eq (r : Row) (f : Fragment) : PyRt.rowIsFrag r f = rowIs r f := by
  cases r <;> rfl

/-! The loops of the source that skip gap rows all run over THE LEADING RUN OF GAPS, `rows.takeWhile Row.isGap`; the model's
  `leadingGapLength` / `popLeadingGaps` are its length sum and what is left behind it.  The loop lemmas take the loop condition and body as
  parameters and ask only how they behave on an empty list / on a list with a given first (last) row, so they do not depend on the text of
  the generated condition and body. -/

theorem popLeadingGaps_gap (g : Gap) (r : List Row) (a : Int) :
    popLeadingGaps (.gap g :: r) a = popLeadingGaps r (a + g.length) := by
  simp [popLeadingGaps]

theorem popLeadingGaps_frag (f : Fragment) (r : List Row) (a : Int) :
    popLeadingGaps (.frag f :: r) a = (.frag f :: r, a) := by
  simp [popLeadingGaps]

theorem popLeadingGaps_nil (a : Int) : popLeadingGaps [] a = ([], a) := by
  simp [popLeadingGaps]

theorem popLeadingGaps_fst_eq_dropWhile (r : List Row) (a : Int) : (popLeadingGaps r a).1 = r.dropWhile Row.isGap := by
  rw [popLeadingGaps_eq]

theorem popLeadingGaps_fst (r : List Row) (a b : Int) : (popLeadingGaps r a).1 = (popLeadingGaps r b).1 := by
  rw [popLeadingGaps_eq, popLeadingGaps_eq]

theorem popLeadingGaps_length_le (r : List Row) (a : Int) : (popLeadingGaps r a).1.length ≤ r.length := by
  rw [popLeadingGaps_eq]; exact (List.dropWhile_sublist _).length_le

/-- the result `discard_start`'s loop ends in, from `s` -/
abbrev popFront (s : OverlapResult) : OverlapResult :=
  { s with rows := (popLeadingGaps s.rows s.start).1, start := (popLeadingGaps s.rows s.start).2 }

/-- `while self.rows and isinstance(self.rows[0], Gap): gap = self.rows.pop(0); self.start += gap.length` -/
theorem while_pop_front {ρ : Type} (cond : OverlapResult → R Bool) (body : OverlapResult → R (PyRt.Ctl OverlapResult ρ))
    (hc0 : ∀ s : OverlapResult, s.rows = [] → cond s = .ok false)
    (hc1 : ∀ (s : OverlapResult) x t, s.rows = x :: t → cond s = .ok x.isGap)
    (hb : ∀ (s : OverlapResult) x t, s.rows = x :: t →
      body s = .ok (.next { s with rows := t, start := s.start + x.length }))
    (fuel : Nat) (s : OverlapResult) (h : s.rows.length < fuel) :
    PyRt.whileLoop fuel s cond body = .ok (.fell (popFront s)) := by
  refine (ref_map_iff PyRt.Done.fell).1 (whileLoop_keeps _ (.ok (popFront s)) cond body
    (fun n t => t.rows.length < n ∧ popFront t = popFront s) ?_ ?_ fuel s ⟨h, rfl⟩)
  · rintro t ⟨h, -⟩; omega
  · rintro n t ⟨hn, he⟩
    cases hr : t.rows with
    | nil =>
      have e : popFront t = t := by simp only [popFront, hr, popLeadingGaps_nil]; rw [← hr]
      rw [hc0 t hr, ← he, e]; exact ⟨_, rfl, rfl⟩
    | cons x r =>
      rw [hc1 t x r hr]
      cases x with
      | frag f =>
        have e : popFront t = t := by simp only [popFront, hr, popLeadingGaps_frag]; rw [← hr]
        rw [← he, e]; exact ⟨_, rfl, rfl⟩
      | gap g =>
        simp only [Row.isGap, hb t _ r hr, keeps_next]
        refine ⟨by rw [hr] at hn; simpa using hn, he ▸ ?_⟩
        simp only [popFront, hr, popLeadingGaps_gap, Row.length]

/-- the result `discard_end`'s loop ends in, from `s` whose rows are `rr` reversed -/
abbrev popBack (rr : List Row) (s : OverlapResult) : OverlapResult :=
  { s with rows := (popLeadingGaps rr 0).1.reverse, stop := s.stop - (popLeadingGaps rr 0).2 }

/-- `while self.rows and isinstance(self.rows[-1], Gap): gap = self.rows.pop(-1); self.end -= gap.length`,
    with the rows given by their reversal `rr` -/
theorem while_pop_back {ρ : Type} (cond : OverlapResult → R Bool) (body : OverlapResult → R (PyRt.Ctl OverlapResult ρ))
    (hc0 : ∀ s : OverlapResult, s.rows = [] → cond s = .ok false)
    (hc1 : ∀ (s : OverlapResult) x t, s.rows = t ++ [x] → cond s = .ok x.isGap)
    (hb : ∀ (s : OverlapResult) x t, s.rows = t ++ [x] →
      body s = .ok (.next { s with rows := t, stop := s.stop - x.length }))
    (fuel : Nat) (rr : List Row) (s : OverlapResult) (hs : s.rows = rr.reverse) (h : rr.length < fuel) :
    PyRt.whileLoop fuel s cond body = .ok (.fell (popBack rr s)) := by
  refine (ref_map_iff PyRt.Done.fell).1 (whileLoop_keeps _ (.ok (popBack rr s)) cond body
    (fun n t => ∃ tr, t.rows = tr.reverse ∧ tr.length < n ∧ popBack tr t = popBack rr s) ?_ ?_ fuel s ⟨rr, hs, h, rfl⟩)
  · rintro t ⟨tr, -, h, -⟩; omega
  · rintro n t ⟨tr, ht, hn, he⟩
    cases tr with
    | nil =>
      have hr : t.rows = [] := ht
      have e : popBack [] t = t := by simp only [popBack, popLeadingGaps_nil, List.reverse_nil, Int.sub_zero]; rw [← hr]
      rw [hc0 t hr, ← he, e]; exact ⟨_, rfl, rfl⟩
    | cons x r =>
      have hr : t.rows = r.reverse ++ [x] := by rw [ht, List.reverse_cons]
      rw [hc1 t x _ hr]
      cases x with
      | frag f =>
        have e : popBack (.frag f :: r) t = t := by
          simp only [popBack, popLeadingGaps_frag, List.reverse_cons, Int.sub_zero]; rw [← hr]
        rw [← he, e]; exact ⟨_, rfl, rfl⟩
      | gap g =>
        simp only [Row.isGap, hb t _ _ hr, keeps_next]
        refine ⟨r, rfl, by simpa using hn, he ▸ ?_⟩
        simp only [popBack, popLeadingGaps_eq, Row.length, List.dropWhile_cons, List.takeWhile_cons, Row.isGap, if_true, rowsLength_cons]
        congr 1; omega

theorem foldl_sum_count {σ : Type} (enc : Int → Int → σ) (f : σ → Row → σ)
    (hf : ∀ t k r, f (enc t k) r = enc (t + r.length) (k + 1)) (xs : List Row) (t k : Int) :
    xs.foldl f (enc t k) = enc (t + rowsLength xs) (k + xs.length) := by
  induction xs generalizing t k with
  | nil => simp [rowsLength_nil]
  | cons x xs ih =>
    rw [List.foldl_cons, hf, ih, rowsLength_cons, List.length_cons, Int.add_assoc, Int.natCast_add, Int.add_assoc, Int.add_comm 1]; rfl

/-- `for r in rows: if isinstance(r, Gap): start += r.length else: break` -/
theorem forIn_gaps_add {ρ : Type} (body : Row → Int → R (PyRt.Ctl Int ρ))
    (hg : ∀ r a, r.isGap = true → body r a = .ok (.next (a + r.length)))
    (hf : ∀ r a, r.isGap = false → body r a = .ok (.brk a))
    (l : List Row) (a : Int) : PyRt.forIn l a body = .ok (.fell (a + leadingGapLength l)) := by
  rw [forIn_takeWhile Row.isGap (fun a r => a + r.length) body hg hf,
    foldl_sum_count (fun t _ => t) _ (fun _ _ _ => rfl) _ a 0, leadingGapLength_eq_takeWhile]

/-- `for r in rows: if isinstance(r, Gap): end -= r.length else: break` -/
theorem forIn_gaps_sub {ρ : Type} (body : Row → Int → R (PyRt.Ctl Int ρ))
    (hg : ∀ r a, r.isGap = true → body r a = .ok (.next (a - r.length)))
    (hf : ∀ r a, r.isGap = false → body r a = .ok (.brk a))
    (l : List Row) (a : Int) : PyRt.forIn l a body = .ok (.fell (a - leadingGapLength l)) := by
  have := foldl_sum_count (fun t _ => a - t) (fun a r => a - r.length) (fun _ _ _ => by omega) (l.takeWhile Row.isGap) 0 0
  rw [forIn_takeWhile Row.isGap (fun a r => a - r.length) body hg hf, leadingGapLength_eq_takeWhile]
  simpa using this

theorem drop_takeWhile_length {α : Type} (p : α → Bool) (l : List α) : l.drop (l.takeWhile p).length = l.dropWhile p := by
  induction l with
  | nil => simp
  | cons x t ih => by_cases hp : p x = true <;> simp [List.takeWhile_cons, List.dropWhile_cons, hp, ih]

/-- `del rows[:n_gaps]` where `n_gaps` is (whatever integer expression is equal to) the number of leading gaps -/
theorem slice_from_leading_gaps (r : List Row) (i : Int) (h : i = ((r.takeWhile Row.isGap).length : Int)) :
    PyRt.slice r (some i) none = r.dropWhile Row.isGap := by
  rw [h, PyRt.slice_from, drop_takeWhile_length]

/-- `for row in rows: if not isinstance(row, Gap): break; removed += row.length; n_gaps += 1` -/
theorem forIn_gaps_add_count {ρ : Type} (body : Row → Int × Int → R (PyRt.Ctl (Int × Int) ρ))
    (hg : ∀ r a n, r.isGap = true → body r (a, n) = .ok (.next (a + r.length, n + 1)))
    (hf : ∀ r a n, r.isGap = false → body r (a, n) = .ok (.brk (a, n)))
    (l : List Row) (a n : Int) :
    PyRt.forIn l (a, n) body = .ok (.fell (a + leadingGapLength l, n + ((l.takeWhile Row.isGap).length : Int))) := by
  rw [forIn_takeWhile Row.isGap (fun s r => (s.1 + r.length, s.2 + 1)) body (fun r s => hg r s.1 s.2) (fun r s => hf r s.1 s.2),
    foldl_sum_count (fun t k => (t, k)) _ (fun _ _ _ => rfl), leadingGapLength_eq_takeWhile]

/-- the same loop with the state tuple in the other order, (count, sum): the translator orders loop variables of one type by the
    NAMES of the Python locals (`n_gaps, removed` here), so which component is the count depends on how the source names them -/
theorem forIn_gaps_count_add {ρ : Type} (body : Row → Int × Int → R (PyRt.Ctl (Int × Int) ρ))
    (hg : ∀ r n a, r.isGap = true → body r (n, a) = .ok (.next (n + 1, a + r.length)))
    (hf : ∀ r n a, r.isGap = false → body r (n, a) = .ok (.brk (n, a)))
    (l : List Row) (n a : Int) :
    PyRt.forIn l (n, a) body = .ok (.fell (n + ((l.takeWhile Row.isGap).length : Int), a + leadingGapLength l)) := by
  rw [forIn_takeWhile Row.isGap (fun s r => (s.1 + 1, s.2 + r.length)) body (fun r s => hg r s.1 s.2) (fun r s => hf r s.1 s.2),
    foldl_sum_count (fun t k => (k, t)) _ (fun _ _ _ => rfl), leadingGapLength_eq_takeWhile]

theorem R_ok_bind {α β : Type} (a : α) (f : α → R β) : ((Except.ok a : R α) >>= f) = f a := rfl
theorem R_pure_bind {α β : Type} (a : α) (f : α → R β) : ((pure a : R α) >>= f) = f a := rfl
theorem R_error_bind {α β : Type} (e : Err) (f : α → R β) : ((Except.error e : R α) >>= f) = .error e := rfl
theorem R_pure {α : Type} (a : α) : (pure a : R α) = .ok a := rfl

/-- `Gen.Imp.OverlapResult_discard_start` (`…_discard_end`) takes a `fuel` argument exactly when the source method contains a
    `while` loop; a rewrite of the method with `for` (or no loop) drops the parameter.  `withFuel f fuel` is `f fuel` for a
    generated function that takes fuel and `f` for one that does not (instance chosen by the TYPE of the generated function),
    so that the tie is stated once for both shapes.  Both instances are reducible: `withFuel f fuel o` is `f fuel o` / `f o`
    by `rfl` (`withFuel_fuel`, `withFuel_noFuel`). -/
class TakesFuel (F : Type) where
  withFuel : F → Nat → OverlapResult → R OverlapResult
export TakesFuel (withFuel)
@[reducible] instance instTakesFuelFuel : TakesFuel (Nat → OverlapResult → R OverlapResult) := ⟨fun f fuel => f fuel⟩
@[reducible] instance instTakesFuelNoFuel : TakesFuel (OverlapResult → R OverlapResult) := ⟨fun f _ => f⟩

theorem withFuel_fuel (f : Nat → OverlapResult → R OverlapResult) (fuel : Nat) (o : OverlapResult) :
    withFuel f fuel o = f fuel o := rfl
theorem withFuel_noFuel (f : OverlapResult → R OverlapResult) (fuel : Nat) (o : OverlapResult) :
    withFuel f fuel o = f o := rfl

/-- `discard_start`; a `while` loop makes at most `len(rows)` tests, so `len(rows) ≤ fuel` is enough (and no fuel is needed when
    the source has no `while`) -/
theorem discard_start_tie (o : OverlapResult) (fuel : Nat) (h : o.rows.length ≤ fuel) :
    withFuel Gen.Imp.OverlapResult_discard_start fuel o = o.discardStart := by
  simp only [withFuel_fuel, withFuel_noFuel]
  unfold Gen.Imp.OverlapResult_discard_start discardStart
  cases hr : o.rows with
  | nil => simp [bind, Except.bind]
  | cons d r =>
    simp only [PyRt.pop_zero_cons, bind, Except.bind]
    -- two algorithms: (A) pop the gaps one by one in a `while`; (B) count them in a `for … break`, then `del rows[:n]`
    first
    | (rw [while_pop_front]
       · intro s hs; simp [hs]
       · intro s x t hs; simp [hs]
       · intro s x t hs; simp [hs]
       · rw [hr] at h; simp at h ⊢; omega)
    -- (B) with the loop state ordered (sum, count) or (count, sum)
    | (rw [forIn_gaps_add_count]
       · simp [popLeadingGaps_snd, popLeadingGaps_fst_eq_dropWhile, slice_from_leading_gaps r _ rfl]
         first | done | omega
       · intro r a n hg; simp [hg] <;> omega
       · intro r a n hg; simp [hg])
    | (rw [forIn_gaps_count_add]
       · simp [popLeadingGaps_snd, popLeadingGaps_fst_eq_dropWhile, slice_from_leading_gaps r _ rfl]
         first | done | omega
       · intro r n a hg; simp [hg] <;> omega
       · intro r n a hg; simp [hg])

theorem discard_end_tie (o : OverlapResult) (fuel : Nat) (h : o.rows.length ≤ fuel) :
    Gen.Imp.OverlapResult_discard_end fuel o = o.discardEnd := by
  unfold Gen.Imp.OverlapResult_discard_end discardEnd
  cases hr : o.rows.reverse with
  | nil =>
    have : o.rows = [] := by simpa using hr
    simp [this, bind, Except.bind]
  | cons d r =>
    simp only [PyRt.pop_neg_one_of_reverse hr, bind, Except.bind]
    rw [while_pop_back (rr := r)]
    · simp [popBack, popLeadingGaps_snd, popLeadingGaps_fst r d.length 0]; omega
    · intro s hs; simp [hs]
    · intro s x t hs; simp [hs]
    · intro s x t hs; simp [hs]
    · simp
    · have : o.rows.length = r.length + 1 := by rw [← List.length_reverse, hr]; simp
      omega

theorem overhang_if_start_removed_tie (o : OverlapResult) :
    Gen.Imp.OverlapResult_overhang_if_start_removed o = o.overhangIfStartRemoved := by
  unfold Gen.Imp.OverlapResult_overhang_if_start_removed overhangIfStartRemoved
  cases hr : o.rows with
  | nil => simp [bind, Except.bind]
  | cons d r =>
    simp only [pyGet_zero_cons, PyRt.slice_one_none_cons, bind, Except.bind]
    rw [forIn_gaps_add]
    · intro r a hg; simp [hg]
    · intro r a hg; simp [hg]

theorem overhang_if_end_removed_tie (o : OverlapResult) :
    Gen.Imp.OverlapResult_overhang_if_end_removed o = o.overhangIfEndRemoved := by
  unfold Gen.Imp.OverlapResult_overhang_if_end_removed overhangIfEndRemoved
  cases hr : o.rows.reverse with
  | nil =>
    have : o.rows = [] := by simpa using hr
    simp [this, bind, Except.bind]
  | cons d r =>
    simp only [pyGet_neg_one_of_reverse hr, sliceRevFrom_neg_two_of_reverse hr, bind, Except.bind]
    rw [forIn_gaps_sub]
    · intro r a hg; simp [hg]
    · intro r a hg; simp [hg]

theorem trim_large_overhangs_tie (o : OverlapResult) (err : Int) :
    Gen.Imp.OverlapResult_trim_large_overhangs_imp o err = o.trimLargeOverhangs err := by
  unfold Gen.Imp.OverlapResult_trim_large_overhangs_imp trimLargeOverhangs
  by_cases h1 : o.rows.length = 1 ∧ o.bait.length > err
  · have h1' : (Int.ofNat o.rows.length = 1) := by simp [h1.1]
    simp [h1, h1']
  · have h1' : ¬ ((Int.ofNat o.rows.length = 1) ∧ o.bait.length > err) := by
      intro hh; apply h1; refine ⟨?_, hh.2⟩; have := hh.1; simp at this; omega
    simp only [Bool.and_eq_true, decide_eq_true_eq, h1, h1', if_false]
    -- the generated code joins the branches of an `if` with `>>= fun j => …` and ends each in `.ok`, the model is written with `do`:
    -- both are pushed into the same shape
    simp only [bind_ok, ok_bind, pure_bind, ite_bind, bind_assoc, pure_eq_ok, error_bind]
    simp

theorem fragment_start_if_trimmed_tie (o : OverlapResult) (f : Fragment) :
    Gen.Imp.OverlapResult_fragment_start_if_trimmed o f = o.fragmentStartIfTrimmed f := by
  unfold Gen.Imp.OverlapResult_fragment_start_if_trimmed fragmentStartIfTrimmed firstIs lastIs
  simp only [rowIsFrag_eq]
  by_cases hs : f.strand = 1
  · cases h0 : pyGet o.rows 0 <;> simp [hs, bind, Except.bind, pure, Except.pure]
  · cases h0 : pyGet o.rows (-1) <;> simp [hs, bind, Except.bind, pure, Except.pure]

/-- the string literals of the source are the extracted constants the model uses -/
theorem tags_eq : Gen.cutTag = "Cut".toList ∧ Gen.paintedTag = "Painted".toList := by decide

theorem endOverhang_with_start (o : OverlapResult) (s : Int) : ({ o with start := s }).endOverhang = o.endOverhang := rfl

/-- against the model's `trimFragment` in one piece (`trimFragment_eq`: which of the first / last row is `trim`, the two cuts
    `startCut` / `endCut`, the new `trimPiece`): along the start side, then the end side; the strand is looked at only where
    an overhang is cut (it says at which end of the new fragment the cut falls).  Each step rewrites with the facts of its case,
    so the goal shrinks as the cases multiply -/
theorem trim_fragment_tie (o : OverlapResult) (trim : Fragment) (ks ke : Bool) (newOid : Nat) :
    Gen.Imp.OverlapResult_trim_fragment o trim ks ke newOid = o.trimFragment trim ks ke newOid := by
  rw [trimFragment_eq]
  unfold Gen.Imp.OverlapResult_trim_fragment firstIs lastIs
  simp only [rowIsFrag_eq, ← tags_eq.1, ← tags_eq.2]
  obtain hr | ⟨x, t, hr⟩ : o.rows = [] ∨ ∃ x t, o.rows = x :: t := by cases o.rows <;> simp
  · simp only [hr, pyGet_nil, error_bind]
  · -- non-empty rows: first row `x`, last row `y`; `rows[0] = new` / `rows[-1] = new` cannot fail
    obtain ⟨t', y, hy⟩ := (list_nil_or_concat (x :: t)).resolve_left (List.cons_ne_nil x t)
    have hfirst : pyGet o.rows 0 = .ok x := by rw [hr]; exact pyGet_zero_cons x t
    have hlast : pyGet o.rows (-1) = .ok y := by rw [hr, hy]; exact pyGet_neg_one_snoc t' y
    have hset0 : ∀ z, PyRt.setAt o.rows 0 z = .ok (setFirst o.rows z) := fun z => by rw [hr]; exact PyRt.setAt_zero_cons x z t
    have hset1 : ∀ z, PyRt.setAt o.rows (-1) z = .ok (setLast o.rows z) := fun z => by
      rw [hr, hy, setLast_concat]; exact PyRt.setAt_neg_one_snoc t' y z
    -- `overhang > 0 and not keep` as the condition of `startCut` / `endCut`
    have hand : ∀ (q : Prop) [Decidable q] (k : Bool), ((decide q && !k) = true) = (q ∧ k = false) := by
      intro q _ k; cases k <;> simp
    simp only [hfirst, hlast, ok_bind, pure_eq_ok, hand]
    clear hfirst hand hy hr
    -- the start side: is `trim` the first row, is its overhang cut (then the strand says where)
    cases ha : rowIs x trim
    case' true => by_cases hcs : o.startOverhang > 0 ∧ ks = false
    case' pos => by_cases p : trim.strand = 1
    all_goals simp only [*, decide_true, decide_false, if_true, if_false, Bool.false_eq_true, ok_bind, startCut, true_and, false_and,
      and_self, endOverhang_start]
    all_goals
      cases hb : rowIs y trim <;>
        simp only [*, if_true, if_false, Bool.false_eq_true, Bool.true_eq_false, ok_bind, endCut, true_and, false_and, and_self,
          and_true, and_false, trimPiece_start, trimPiece_stop, List.singleton_append, ite_self, Int.add_zero, Int.sub_zero]
    all_goals
      by_cases hce : o.endOverhang > 0 ∧ ke = false <;>
        simp only [*, and_self, decide_true, decide_false, if_true, if_false, Bool.false_eq_true, ok_bind, ite_self, Int.add_zero,
          Int.sub_zero]
    -- a cut at the end side only: the strand has not been looked at yet
    all_goals
      by_cases p : trim.strand = 1 <;>
        simp only [*, decide_true, decide_false, if_true, if_false, Bool.false_eq_true, ok_bind, Int.add_zero, Int.sub_zero]

end AgpTpf.ImpOverlap
