/-
  C02 core: what holds of a stored result while the resolver runs (before cutting):
  `Slice` — its rows are an exact, unshortened slice of its input scaffold and `start` is the scaffold coordinate of the
  first row; `MeetsBait` — every fragment row still in it overlaps the bait (scaffold coordinates).  Established by the
  lookup (`C12.findOverlaps_cases`: the slice from the first to the last contig row meeting the bait), kept by
  `discard_start` / `discard_end` / `trim_large_overhangs`.
  From these: a terminal row that another result with a DISJOINT bait also holds is not wholly inside the bait
  (`sticks_out_start`, `sticks_out_end`) — the side condition of guard (a) in `GStep`.
-/
import AgpTpf.Proofs.C02KOps
import AgpTpf.Proofs.Lib.Lookup
import AgpTpf.Proofs.C01MiddleBase
namespace AgpTpf.C02
open AgpTpf OverlapResult
open AgpTpf.C18 (Inv ids)
open AgpTpf.C01 (WFInput inputFrags FragDisjoint)

theorem decomp_unique {src A B A' B' : List Row} {f : Fragment} (hd : (ids src).Nodup)
    (h1 : src = A ++ .frag f :: B) (h2 : src = A' ++ .frag f :: B') : A = A' := by
  have key : ∀ (A B A' B' : List Row), src = A ++ .frag f :: B → src = A' ++ .frag f :: B' → A.length ≤ A'.length → A = A' := by
    intro A B A' B' h1 h2 hle
    have h : A ++ .frag f :: B = A' ++ .frag f :: B' := h1.symm.trans h2
    rcases List.append_eq_append_iff.mp h with ⟨C, hA', hB⟩ | ⟨C, hA, hB'⟩
    · cases C with
      | nil => simpa using hA'.symm
      | cons c C' =>
        exfalso
        simp only [List.cons_append, List.cons.injEq] at hB
        obtain ⟨rfl, hB⟩ := hB
        rw [h1, hB, C18.ids_append, C18.ids_cons_frag, C18.ids_append, C18.ids_cons_frag] at hd
        have := (List.nodup_append.mp hd).2.1
        rw [List.nodup_cons] at this
        exact this.1 (by simp)
    · have : C = [] := by
        have hl := congrArg List.length hA
        simp only [List.length_append] at hl
        exact List.eq_nil_of_length_eq_zero (by omega)
      subst this; simpa using hA
  rcases Nat.le_total A.length A'.length with hle | hle
  · exact key A B A' B' h1 h2 hle
  · exact (key A' B' A B h2 h1 hle).symm

theorem decomp_of_getElem? {α} {l : List α} {k : Nat} {x : α} (h : l[k]? = some x) :
    l = l.take k ++ x :: l.drop (k + 1) := by
  obtain ⟨hk, hx⟩ := List.getElem?_eq_some_iff.mp h
  rw [← hx, List.getElem_cons_drop, List.take_append_drop]

theorem scaffold_unique {input : List Scaffold} (hwf : WFInput input) {sc sc' : Scaffold} (h1 : sc ∈ input)
    (h2 : sc' ∈ input) {f : Fragment} (hf : Row.frag f ∈ sc.rows) (hf' : Row.frag f ∈ sc'.rows) : sc = sc' := by
  have hnd : ((inputFrags input).map (·.oid)).Nodup := hwf.2.1
  unfold inputFrags at hnd
  rw [List.map_flatMap] at hnd
  have m := List.mem_map_of_mem (f := (·.oid)) (mem_fragmentsOf.mpr hf)
  have m' := List.mem_map_of_mem (f := (·.oid)) (mem_fragmentsOf.mpr hf')
  rcases pairwise_trichotomy (List.pairwise_flatMap.mp hnd).2 h1 h2 with e | d | d
  · exact e
  · exact absurd rfl (d _ m _ m')
  · exact absurd rfl (d _ m' _ m)

theorem ids_nodup_of_wf {input : List Scaffold} (hwf : WFInput input) {sc : Scaffold} (hsc : sc ∈ input) :
    (ids sc.rows).Nodup := by
  have hsub : sc.fragments.Sublist (inputFrags input) := by
    unfold inputFrags
    rw [List.flatMap_def]
    exact List.sublist_flatten_of_mem (List.mem_map_of_mem hsc)
  exact (hsub.map (·.oid)).nodup hwf.2.1

def Slice (src : List Row) (o : OverlapResult) : Prop :=
  ∃ A B, src = A ++ o.rows ++ B ∧ o.start = 1 + rowsLength A

def MeetsBait (src : List Row) (o : OverlapResult) : Prop :=
  ∀ A f B, src = A ++ .frag f :: B → Row.frag f ∈ o.rows →
    1 + rowsLength A ≤ o.bait.stop ∧ o.bait.start ≤ rowsLength A + f.length

structure RGeo (src : List Row) (o : OverlapResult) : Prop where
  slice : Slice src o
  meets : MeetsBait src o

theorem Slice.first {src : List Row} {o : OverlapResult} {d : Row} {t : List Row} (hg : Slice src o)
    (hr : o.rows = d :: t) : ∃ A B, src = A ++ d :: B ∧ rowsLength A = o.start - 1 := by
  obtain ⟨A, B, hs, ha⟩ := hg
  exact ⟨A, t ++ B, by rw [hs, hr]; simp, by omega⟩

theorem Slice.last {src : List Row} {o : OverlapResult} {d : Row} {t : List Row} (hg : Slice src o)
    (hsp : o.stop - o.start + 1 = rowsLength o.rows) (hr : o.rows = t ++ [d]) :
    ∃ A B, src = A ++ d :: B ∧ rowsLength A = o.stop - d.length := by
  obtain ⟨A, B, hs, ha⟩ := hg
  rw [hr, rowsLength_append, rowsLength_singleton] at hsp
  exact ⟨A ++ t, B, by rw [hs, hr]; simp, by rw [rowsLength_append]; omega⟩

theorem RGeo.shrink {src : List Row} {o o' : OverlapResult} (hg : RGeo src o) {P Q : List Row}
    (hr : o.rows = P ++ o'.rows ++ Q) (hs : o'.start = o.start + rowsLength P) (hb : o'.bait = o.bait) : RGeo src o' := by
  obtain ⟨A, B, hsrc, ha⟩ := hg.slice
  refine ⟨⟨A ++ P, Q ++ B, by rw [hsrc, hr]; simp, by rw [hs, ha, rowsLength_append]; omega⟩, fun A' f B' hs' hm => ?_⟩
  rw [hb]
  exact hg.meets A' f B' hs' (by rw [hr]; simp [hm])

theorem RGeo.discardStart {src : List Row} {o o' : OverlapResult} (hg : RGeo src o) (h : discardStart o = .ok o') :
    RGeo src o' := by
  obtain ⟨d, G, hrows, _, hst, _, hb⟩ := discardStart_full h
  exact hg.shrink (P := d :: G) (Q := []) (by rw [hrows]; simp) (by rw [hst, rowsLength_cons]; omega) hb

theorem RGeo.discardEnd {src : List Row} {o o' : OverlapResult} (hg : RGeo src o) (h : discardEnd o = .ok o') :
    RGeo src o' := by
  obtain ⟨d, G, hrows, _, _, hst, hb⟩ := discardEnd_full h
  exact hg.shrink (P := []) (Q := G ++ [d]) (by rw [hrows]; simp) (by rw [hst, rowsLength_nil]; omega) hb

theorem RGeo.trimLarge {src : List Row} {o o' : OverlapResult} {err : Int} (hg : RGeo src o)
    (h : trimLargeOverhangs o err = .ok o') : RGeo src o' :=
  trimLarge_induct h hg (fun hg _ hd => hg.discardStart hd) (fun hg _ hd => hg.discardEnd hd)

theorem RGeo.congr {src : List Row} {o o' : OverlapResult} (hg : RGeo src o) (hr : o'.rows = o.rows)
    (hs : o'.start = o.start) (hb : o'.bait = o.bait) : RGeo src o' :=
  hg.shrink (P := []) (Q := []) (by rw [hr]; simp) (by rw [hs, rowsLength_nil]; omega) hb

theorem lookup_passing {src : List Row} {bait : Fragment} {o : OverlapResult} (hlen : NonNeg src)
    (h : findOverlaps src bait = .ok (some o)) :
    ∃ i j, i ≤ j ∧ j < src.length ∧ C12.fragAt src i = true ∧ C12.fragAt src j = true ∧
      C12.passes src bait.start bait.stop i ∧ C12.passes src bait.start bait.stop j ∧
      (∀ k, C12.fragAt src k = true → C12.passes src bait.start bait.stop k → i ≤ k ∧ k ≤ j) ∧
      o = C12.sliceResult src bait i j := by
  have hne : src ≠ [] := by rintro rfl; cases h
  rcases C12.findOverlaps_cases src bait hne hlen with ⟨h', -⟩ | ⟨i, j, hij, hj, h', hfi, hfj, hi, hpj, hall⟩
  · rw [h'] at h; cases h
  · rw [h'] at h; cases h
    exact ⟨i, j, hij, hj, hfi, hfj, hi, hpj, hall, rfl⟩

theorem rgeo_lookup {src : List Row} {bait : Fragment} {o : OverlapResult} (hlen : NonNeg src) (hd : (ids src).Nodup)
    (h : findOverlaps src bait = .ok (some o)) : RGeo src o := by
  obtain ⟨i, j, hij, hj, hfi, hfj, hi, hpj, -, rfl⟩ := lookup_passing hlen h
  constructor
  · obtain ⟨A, B, hs, hA, -, -⟩ := C12.slice_decomp hij hj hfi hfj
    exact ⟨A, B, hs, by rw [hA]; rfl⟩
  · intro A f B hs hm
    -- the row is row number `i + t ≤ j` of the scaffold, so it begins before row `j` ends and ends behind row `i`
    obtain ⟨t, ht⟩ := List.mem_iff_getElem?.mp hm
    rw [show (C12.sliceResult src bait i j).rows = (src.drop i).take (j + 1 - i) from rfl, C12.slice_getElem?] at ht
    split at ht
    · next hlt =>
      have hA : A = src.take (i + t) := decomp_unique hd hs (decomp_of_getElem? ht)
      have hAl : A.length = i + t := by rw [hA, List.length_take]; omega
      obtain ⟨_, e1, e2⟩ := pre_of_decomp hs
      rw [hAl] at e1 e2
      have m1 := C12.pre_mono src hlen (i + t) j (by omega)
      have m2 := C12.pre_mono src hlen (i + 1) (i + t + 1) (by omega)
      simp only [Row.length] at e2
      unfold C12.passes at hi hpj
      exact ⟨by show _ ≤ bait.stop; omega, by show bait.start ≤ _; omega⟩
    · cases ht

theorem sticks_out_start {src : List Row} {o o2 : OverlapResult} {f : Fragment} {t : List Row}
    (hg : RGeo src o) (hg2 : RGeo src o2) (hname : o.bait.name = o2.bait.name) (hdis : FragDisjoint o.bait o2.bait)
    (hr : o.rows = .frag f :: t) (hm : Row.frag f ∈ o2.rows) :
    o.start < o.bait.start ∨ o.bait.stop < o.start + (Row.frag f).length - 1 := by
  obtain ⟨A, B, hs, ha⟩ := hg.slice.first hr
  obtain ⟨m1, m2⟩ := hg2.meets A f B hs hm
  have := hdis hname
  simp only [Row.length]
  omega

theorem sticks_out_end {src : List Row} {o o2 : OverlapResult} {f : Fragment} {t : List Row}
    (hI : Inv src o) (hg : RGeo src o) (hg2 : RGeo src o2) (hname : o.bait.name = o2.bait.name)
    (hdis : FragDisjoint o.bait o2.bait) (hr : o.rows = t ++ [.frag f]) (hm : Row.frag f ∈ o2.rows) :
    o.stop - (Row.frag f).length + 1 < o.bait.start ∨ o.bait.stop < o.stop := by
  obtain ⟨A, B, hs, ha⟩ := hg.slice.last hI.span hr
  obtain ⟨m1, m2⟩ := hg2.meets A f B hs hm
  have := hdis hname
  simp only [Row.length] at ha ⊢
  omega

end AgpTpf.C02
