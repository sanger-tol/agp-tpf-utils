/-
  C02 (deep cuts): a map with one cut per contig (`DeepCut`) is a map whose chains have two holders (`DeepCutN`), and on
  such a map the pair specification (`sites`, `cutPiece`, …) agrees with the chain specification (`sitesN`, `cutPieceN`, …).
-/
import AgpTpf.Proofs.C02DNOut
namespace AgpTpf.C02
open AgpTpf

def Site.toN (x : Site) : SiteN := ⟨x.key, x.frag, [x.a, x.b]⟩

/-- the two holders sorted by where their baits begin are `a`, `b`: the baits abut -/
theorem siteOfN_eq {input ptx : List Scaffold} {err : Int} (hd : DeepCut input ptx err) (k : Key)
    (hk : k ∈ sharedKeys input ptx) :
    siteOfN ptx (regOf input ptx).1 k = (siteOf ptx (regOf input ptx).1 k).toN := by
  obtain ⟨fnd, s, t, hget, hst, -, hc⟩ := site_cases hd k hk
  have hok := hd.sitesOk _ (List.mem_map_of_mem hk)
  have habut := hok.abut
  have hval := (hd.base.piece _ hok.inA).1.valid
  unfold siteOfN
  rw [hget]
  rcases hc with e | e <;> rw [e] at habut hval ⊢ <;> simp only at habut hval <;>
    simp only [Site.toN, hst, SiteN.mk.injEq, true_and, sortByIntKey, stableSort, insertBy]
  · rw [if_pos (by simp only [decide_eq_true_eq]; omega)]
  · rw [if_neg (by simp only [decide_eq_true_eq]; omega)]

theorem sitesN_eq {input ptx : List Scaffold} {err : Int} (hd : DeepCut input ptx err) :
    sitesN input ptx = (sites input ptx).map Site.toN := by
  unfold sitesN sites
  rw [List.map_map]
  exact List.map_congr_left (fun k hk => siteOfN_eq hd k hk)

theorem DeepCut.toN {input ptx : List Scaffold} {err : Int} (hd : DeepCut input ptx err) : DeepCutN input ptx err := by
  refine ⟨hd.base, fun x hx => ?_⟩
  rw [sitesN_eq hd] at hx
  obtain ⟨y, hy, rfl⟩ := List.mem_map.1 hx
  exact ⟨hd.sitesOk y hy, trivial⟩

theorem idxOf_pair (a b i : Nat) : [a, b].idxOf i = if a = i then 0 else if b = i then 1 else 2 := by
  simp only [List.idxOf_cons, List.idxOf_nil, Nat.beq_eq_true_eq, cond_eq_ite]
  split
  · rfl
  · split <;> rfl

/-- in chains of two, a piece stands at a position other than the first iff it is the `b` of the site, and at one other
    than the last iff it is the `a`; site number `m` has used `2 * m` object ids -/
theorem cutN_toN (base : Nat) (i : Nat) : ∀ (l : List Site) (n m : Nat), n = 2 * m → (∀ x ∈ l, x.a ≠ x.b) →
    startCutN base (withOffsets n (l.map Site.toN)) i = startCutIn base (l.zipIdx m) i ∧
    endCutN base (withOffsets n (l.map Site.toN)) i = endCutIn base (l.zipIdx m) i
  | [], _, _, _, _ => ⟨rfl, rfl⟩
  | x :: r, n, m, hn, h => by
    obtain ⟨ih1, ih2⟩ := cutN_toN base i r (n + 2) (m + 1) (by omega) (fun y hy => h y (by simp [hy]))
    have hab := h x (by simp)
    unfold startCutN endCutN startCutIn endCutIn at *
    simp only [List.map_cons, withOffsets, List.zipIdx_cons, List.findSome?_cons, List.find?_cons, Site.toN,
      List.length_cons, List.length_nil, idxOf_pair, ih1, ih2]
    by_cases ea : x.a = i
    · have eb : ¬ x.b = i := fun e => hab (ea.trans e.symm)
      simp [ea, eb, oidAt, oidA, hn]
    · by_cases eb : x.b = i
      · simp [ea, eb, oidAt, oidB, hn]
      · simp [ea, eb]

theorem cutsN_toN {input ptx : List Scaffold} {err : Int} (hd : DeepCut input ptx err) (i : Nat) :
    startCutN (oid0 input) (withOffsets 0 (sitesN input ptx)) i = startCutIn (oid0 input) (sites input ptx).zipIdx i ∧
    endCutN (oid0 input) (withOffsets 0 (sitesN input ptx)) i = endCutIn (oid0 input) (sites input ptx).zipIdx i := by
  rw [sitesN_eq hd]
  exact cutN_toN _ i _ 0 0 rfl (fun x hx => (hd.sitesOk x hx).ne)

theorem cutPieceN_eq {input ptx : List Scaffold} {err : Int} (hd : DeepCut input ptx err) :
    cutPieceN input ptx = cutPiece input ptx := by
  funext i p
  unfold cutPieceN cutPiece cutPieceIn
  rw [(cutsN_toN hd i).1, (cutsN_toN hd i).2]

theorem expectedStoreDeepN_eq {input ptx : List Scaffold} {err : Int} (hd : DeepCut input ptx err) :
    expectedStoreDeepN input ptx = expectedStoreDeep input ptx := by
  unfold expectedStoreDeepN storeDeepN expectedStoreDeep storeDeepIn
  apply List.map_congr_left
  intro x _
  unfold resDeepN resDeepIn
  rw [(cutsN_toN hd x.2).1, (cutsN_toN hd x.2).2]

theorem expectedScaffoldsDeepN_eq {input ptx : List Scaffold} {err : Int} (hd : DeepCut input ptx err) (jg : Gap) :
    expectedScaffoldsDeepN input ptx jg = expectedScaffoldsDeep input ptx jg := by
  have h : pretextOutDeepN input ptx jg = pretextOutDeep input ptx jg := by
    funext g
    unfold pretextOutDeepN pretextOutDeep expectedRowsDeepN expectedRowsDeep
    rw [cutPieceN_eq hd]
  unfold expectedScaffoldsDeepN expectedScaffoldsDeep
  rw [h]

theorem cutsN_eq_sites {input ptx : List Scaffold} {err : Int} (hd : DeepCut input ptx err) :
    cutsN input ptx = (sites input ptx).length := by
  unfold cutsN offs
  rw [sitesN_eq hd, List.map_map, List.length_map]
  have : ∀ l : List Site, (l.map ((·.chain.length) ∘ Site.toN)).sum = 2 * l.length := by
    intro l
    induction l with
    | nil => rfl
    | cons a t ih => rw [List.map_cons, List.sum_cons, ih, List.length_cons]; show 2 + _ = _; omega
  rw [this]; omega

end AgpTpf.C02
