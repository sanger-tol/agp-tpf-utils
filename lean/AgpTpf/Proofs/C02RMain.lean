/-
  C02 returns, part 2 (T3): every fragment of a fused scaffold is — up to the strand negation of `to_scaffold()` and the
  re-creation of terminal fragments by `trim_fragment` — a fragment of the input; hence its strand is ±1 when the
  input's are.  `FromInput` is a row predicate kept by reversal and true of every piece cut from an input contig, so it
  holds of every row the build holds (`RemapRows.remapToInput_all`) and of every fused row (`RemapRows.fused_all`).
-/
import AgpTpf.Proofs.Lib.Fuse
import AgpTpf.Proofs.C02NMain
import AgpTpf.Proofs.C02RTail
import AgpTpf.Proofs.C02RLabel
import AgpTpf.Proofs.Remap.Rows
namespace AgpTpf.C02R
open AgpTpf OverlapResult

def FromInput (input : List Scaffold) (g : Fragment) : Prop :=
  ∃ F ∈ C01.inputFrags input, g.name = F.name ∧ F.start ≤ g.start ∧ g.stop ≤ F.stop ∧ g.start ≤ g.stop ∧
    (g.strand = F.strand ∨ g.strand = -1 * F.strand)

def AllFromInput (input : List Scaffold) (rows : List Row) : Prop := ∀ f, Row.frag f ∈ rows → FromInput input f

def Origin (b : Build) (f : Fragment) : Prop :=
  (∃ r ∈ b.store, r.added = true ∧ r.o.rows ≠ [] ∧ Row.frag f ∈ r.o.toScaffoldRows) ∨
  (∃ e ∈ b.extra, Row.frag f ∈ e.1.rows)

theorem fused_fragment_origin (b : Build) : ∀ s ∈ fuseByName b, ∀ f, Row.frag f ∈ s.rows → Origin b f := by
  intro s hs f hf
  generalize hx : Row.frag f = x at hf
  cases RemapRows.fuseByName_rows b s hs x hf with
  | stored hr ha hne h => subst hx; exact .inl ⟨_, hr, ha, hne, h⟩
  | leftover he h => subst hx; exact .inr ⟨_, he, h⟩
  | join e => cases hx
  | pred he hp hg' => cases hx

def FromInputRow (input : List Scaffold) : Row → Prop
  | .frag f => FromInput input f
  | .gap _ => True

theorem fromInput_closed (input : List Scaffold) : RemapRows.RowClosed input (FromInputRow input) := by
  refine ⟨fun x hx => ?_, fun F hF new ⟨p1, p2, p3, p4, p5⟩ _ => ⟨F, hF, p4, p1, p2, p3, .inl p5⟩⟩
  cases x with
  | gap g => trivial
  | frag g =>
    obtain ⟨F, hF, a1, a2, a3, a4, a5⟩ := hx
    refine ⟨F, hF, a1, a2, a3, a4, ?_⟩
    show -1 * g.strand = F.strand ∨ -1 * g.strand = -1 * F.strand
    rcases a5 with e | e <;> rw [e] <;> omega

theorem fused_fromInput (input ptx : List Scaffold) (prefix_ : Str) (joinGap : Option Gap) (err : Int) (b : Build)
    (hwf : C01.WFInput input) (h : remapToInput input ptx prefix_ joinGap err = .ok b) :
    ∀ s ∈ fuseByName b, AllFromInput input s.rows := by
  have hin : ∀ sc ∈ input, ∀ x ∈ sc.rows, FromInputRow input x := by
    intro sc hsc x hx
    cases x with
    | gap _ => trivial
    | frag f =>
      have hF : f ∈ C01.inputFrags input := C01.mem_inputFrags.mpr ⟨sc, hsc, mem_fragmentsOf.mpr hx⟩
      exact ⟨f, hF, rfl, Int.le_refl _, Int.le_refl _, hwf.2.2.2.2 f hF, .inl rfl⟩
  exact fun s hs f hf => RemapRows.fused_all (fromInput_closed input)
    (RemapRows.remapToInput_all (fromInput_closed input) hin (fun _ _ => trivial) h) (fun _ _ => trivial) s hs (.frag f) hf

theorem strOK_of_fromInput (input : List Scaffold) (rows : List Row)
    (hstr : ∀ f ∈ C01.inputFrags input, f.strand = 1 ∨ f.strand = -1) (h : AllFromInput input rows) : StrOK rows := by
  intro f hf
  obtain ⟨F, hF, _, _, _, _, e⟩ := h f hf
  rcases hstr F hF with s | s <;> rcases e with e | e <;> rw [e, s] <;> decide

theorem input_strOK (input : List Scaffold) (hstr : ∀ f ∈ C01.inputFrags input, f.strand = 1 ∨ f.strand = -1) :
    ∀ sc ∈ input, StrOK sc.rows := by
  intro sc hsc f hf
  apply hstr
  unfold C01.inputFrags
  exact List.mem_flatMap.2 ⟨sc, hsc, Scaffold.mem_fragments.2 hf⟩

end AgpTpf.C02R

/-! C02 returns, part 4: `assemblies_with_scaffolds_fused` returns on the build of any map whose Pretext scaffolds satisfy
`ScOK` (unpainted, or all first rows' names of one haplotype): `assembliesFused_ok_of_remapToInput`; the Pretext scaffolds
of a script satisfy `ScOK`.
That `remap` returns for every well-formed script is `script_remap_ok` (Properties/C02Returns.lean). -/
namespace AgpTpf.C02R
open AgpTpf AgpTpf.Pretext
open AgpTpf.C01 (WFInput inputFrags)

def SameLabel (s t : Scaffold) : Prop :=
  s.tag = t.tag ∧ s.haplotype = t.haplotype ∧ s.rank = t.rank ∧ s.originalName = t.originalName

theorem fuse_labels (b : Build) : ∀ s ∈ fuseByName b,
    (∃ r ∈ b.store, r.added = true ∧ s.tag = r.o.tag ∧ s.haplotype = r.o.haplotype ∧ s.rank = r.o.rank ∧
      s.originalName = r.o.originalName) ∨
    (∃ e ∈ b.extra, SameLabel s e.1) := by
  intro s hs
  obtain ⟨it, hit, hl⟩ := Fuse.fuseByName_labels hs
  have h1 := congrArg Scaffold.tag hl
  have h2 := congrArg Scaffold.haplotype hl
  have h3 := congrArg Scaffold.rank hl
  have h4 := congrArg Scaffold.originalName hl
  rcases Fuse.mem_fuseItems.mp hit with ⟨r, hr, ha, _, rfl⟩ | ⟨e, he, _, rfl⟩
  · exact .inl ⟨r, hr, ha, h1, h2, h3, h4⟩
  · exact .inr ⟨e, he, h1, h2, h3, h4⟩

theorem assembliesFused_ok_of_labels (input : List Scaffold) (b : Build) (unp : Bool) (hp : Option (Option Str))
    (hmode : unp = true ∨ ∃ h0, hp = some h0)
    (hstore : ∀ r ∈ b.store, LabOK unp hp r) (hextra : ∀ e ∈ b.extra, e.1.rank = 3)
    (hfs : ∀ s ∈ fuseByName b, StrOK s.rows) (hin : ∀ sc ∈ input, StrOK sc.rows) :
    ∃ outs stats, assembliesFused input b = .ok (outs, stats) := by
  rcases hmode with hu | ⟨h0, hn⟩
  · apply assembliesFused_ok_single input b sNone _ hfs hin
    intro s hs hr
    rcases fuse_labels b s hs with ⟨r, hrm, _, _, _, e3, _⟩ | ⟨e, he, _, _, e3, _⟩
    · obtain ⟨_, _, l3, _⟩ := hstore r hrm
      have h3 : r.o.rank = 3 := l3 hu
      rw [e3, h3] at hr; exact absurd hr (by decide)
    · rw [e3, hextra e he] at hr; exact absurd hr (by decide)
  · apply assembliesFused_ok_single input b (pyStrOpt (C09.routeKey none h0)) _ hfs hin
    intro s hs hr
    rcases fuse_labels b s hs with ⟨r, hrm, _, e1, e2, e3, e4⟩ | ⟨e, he, _, _, e3, _⟩
    · obtain ⟨l1, l2, _, l4⟩ := hstore r hrm
      have h4 : r.o.haplotype = h0 := l4 h0 hn
      have h1 : r.o.tag = none := l1
      have h2 : truthy r.o.originalName = true := l2
      rw [e1, e2, e4, h1, h4]
      exact ⟨rfl, h2⟩
    · rw [e3, hextra e he] at hr; exact absurd hr (by decide)

theorem script_scOK {input : List Scaffold} {s : Script} (hw : C02.WfScript input s) (unp : Bool)
    (hp : Option (Option Str))
    (hu : unp = true → ∀ g ∈ s.groups, g.painted = false)
    (hn : ∀ h0, hp = some h0 → ∀ sc ∈ input, hapPrefixOfName sc.name = h0) :
    ∀ S ∈ ptxOf input s, ScOK unp hp S := by
  intro S hS
  have hok := C02.script_ptx_ok hw S hS
  obtain ⟨g, n, x, r, t, hg, -, hname, -, hfr, hit⟩ := C02.mem_ptxOf_wf hw hS
  have hgm : g ∈ s.groups := List.mem_of_getElem? hg
  have hstags : S.fragmentTags = [] ∨ S.fragmentTags = [sPainted] := by
    rcases hok.tags with h | ⟨hne, h⟩
    · exact Or.inl (Scaffold.fragmentTags_eq_nil h)
    · exact Or.inr (Scaffold.fragmentTags_eq_singleton (by decide) hne h)
  refine ⟨by rw [hname]; exact C02.scaffoldName_ne_nil _, hstags, ?_, ?_, ?_⟩
  · intro hunp
    apply Scaffold.fragmentTags_eq_nil
    intro p hp
    rw [hfr] at hp
    obtain ⟨y, hy, rfl⟩ := List.mem_map.1 hp
    obtain ⟨_, _, _, -, htags⟩ := C02.pieceOf_fragOf hw (hit y hy)
    rw [htags, hu hunp g hgm]; rfl
  · intro p hp
    rcases hok.tags with h | ⟨_, h⟩
    · exact Or.inl (h p hp)
    · exact Or.inr (h p hp)
  · obtain ⟨f, t, hrows⟩ := hok.head
    refine ⟨f.name, ?_, ?_⟩
    · unfold firstRowName; rw [hrows]; rfl
    · intro h0 hno
      have hf : f ∈ S.fragments := by
        unfold Scaffold.fragments; rw [hrows]; simp [fragmentsOf]
      obtain ⟨sc, hsc, e⟩ := hok.names f hf
      rw [← e]; exact hn h0 hno sc hsc

theorem leftover_rank (input ptx : List Scaffold) (prefix_ : Str) (joinGap : Option Gap) (err : Int) (b : Build)
    (h : remapToInput input ptx prefix_ joinGap err = .ok b) : ∀ e ∈ b.extra, e.1.rank = 3 := by
  intro e he
  obtain ⟨_, _, hok⟩ := C09.remapToInput_leftovers input ptx prefix_ joinGap err b h e he
  exact hok.2.2.1

theorem assembliesFused_ok_of_remapToInput (input ptx : List Scaffold) (prefix_ : Str) (joinGap : Option Gap) (err : Int)
    (b : Build) (unp : Bool) (hp : Option (Option Str)) (hmode : unp = true ∨ ∃ h0, hp = some h0)
    (hwf : WFInput input) (hstr : ∀ f ∈ inputFrags input, f.strand = 1 ∨ f.strand = -1)
    (hsc : ∀ S ∈ ptx, ScOK unp hp S) (h : remapToInput input ptx prefix_ joinGap err = .ok b) :
    ∃ outs stats, assembliesFused input b = .ok (outs, stats) := by
  apply assembliesFused_ok_of_labels input b unp hp hmode
  · exact remapToInput_labOK unp hp input ptx prefix_ joinGap err b hsc h
  · exact leftover_rank input ptx prefix_ joinGap err b h
  · intro s hs
    exact strOK_of_fromInput input s.rows hstr (fused_fromInput input ptx prefix_ joinGap err b hwf h s hs)
  · exact input_strOK input hstr

end AgpTpf.C02R
