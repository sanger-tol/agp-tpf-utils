/-
  C02 (deep cuts, any number of cuts per contig), part 2: `cut_remaining_overhangs`.  `ChainOk` speaks of neighbouring
  holders; `Ctx.held` reads it holder by holder once, and `Ctx.due`, `Ctx.trim`, `Ctx.visit` rest on that.
-/
import AgpTpf.Proofs.C02DNHyp
import AgpTpf.Proofs.C02NCut
namespace AgpTpf.C02
open AgpTpf OverlapResult

theorem startCutN_some {base : Nat} {l : List (SiteN × Nat)} {i oid' : Nat} (h : startCutN base l i = some oid') :
    ∃ y ∈ l, 0 < y.1.chain.idxOf i ∧ y.1.chain.idxOf i < y.1.chain.length ∧ oid' = oidAt base y (y.1.chain.idxOf i) := by
  unfold startCutN at h
  obtain ⟨y, hy, hf⟩ := List.exists_of_findSome?_eq_some h
  split at hf
  · next hc => exact ⟨y, hy, hc.1, hc.2, by simpa using hf.symm⟩
  · cases hf

theorem endCutN_some {base : Nat} {l : List (SiteN × Nat)} {i oid' : Nat} (h : endCutN base l i = some oid') :
    ∃ y ∈ l, y.1.chain.idxOf i + 1 < y.1.chain.length ∧ oid' = oidAt base y (y.1.chain.idxOf i) := by
  unfold endCutN at h
  obtain ⟨y, hy, hf⟩ := List.exists_of_findSome?_eq_some h
  split at hf
  · next hc => exact ⟨y, hy, hc, by simpa using hf.symm⟩
  · cases hf

theorem head_of_chain_pos {input ptx : List Scaffold} {err : Int} (hd : DeepCutN input ptx err) (y : SiteN)
    (hy : y ∈ sitesN input ptx) (i : Nat) (h0 : 0 < y.chain.idxOf i) (h1 : y.chain.idxOf i < y.chain.length) :
    (pieceO input (pieceAt ptx i).2).rows.head? = some (.frag y.frag) := by
  have hadj := hd.chains y hy
  obtain ⟨p, hp⟩ : ∃ p, y.chain.idxOf i = p + 1 := ⟨y.chain.idxOf i - 1, by omega⟩
  have hok := adj_get _ _ hadj p (by omega)
  have hi : y.chain[p + 1]'(by omega) = i := by
    have := List.getElem_idxOf h1
    simpa [hp] using this
  have := hok.headB
  simp only [hi] at this
  exact this

theorem last_of_chain_pos {input ptx : List Scaffold} {err : Int} (hd : DeepCutN input ptx err) (y : SiteN)
    (hy : y ∈ sitesN input ptx) (i : Nat) (h1 : y.chain.idxOf i + 1 < y.chain.length) :
    (pieceO input (pieceAt ptx i).2).rows.getLast? = some (.frag y.frag) := by
  have hadj := hd.chains y hy
  have hok := adj_get _ _ hadj (y.chain.idxOf i) h1
  have hi : y.chain[y.chain.idxOf i]'(by omega) = i := List.getElem_idxOf (by omega)
  have := hok.lastA
  simp only [hi] at this
  exact this

/-- a cut at the start of piece `i`'s result was made for the contig that is its first row, a cut at its end for its last
    row: not `x.frag`, the sites `done` being other contigs -/
theorem earlierN {input ptx : List Scaffold} {err : Int} (hd : DeepCutN input ptx err) (x : SiteN)
    (hx : x ∈ sitesN input ptx) (i : Nat) (done : List (SiteN × Nat))
    (hdone : ∀ y ∈ done, y.1 ∈ sitesN input ptx ∧ y.1.key ≠ x.key) (base : Nat) :
    (∀ o', startCutN base done i = some o' → base ≤ o' ∧ (labN input ptx i).rows.head? ≠ some (.frag x.frag)) ∧
    (∀ o', endCutN base done i = some o' → base ≤ o' ∧ (labN input ptx i).rows.getLast? ≠ some (.frag x.frag)) := by
  have other : ∀ y ∈ done, ∀ {r : Option Row}, r = some (.frag y.1.frag) → r ≠ some (.frag x.frag) := fun y hy r e1 e2 => by
    rw [e1] at e2
    exact (hdone y hy).2 (fragN_eq_key_eq input ptx x y.1 hx (hdone y hy).1 (Row.frag.inj (Option.some.inj e2)))
  constructor
  · intro o' hs
    obtain ⟨y, hy, h0, h1, ho⟩ := startCutN_some hs
    exact ⟨by rw [ho]; unfold oidAt; omega, other y hy (head_of_chain_pos hd y.1 (hdone y hy).1 i h0 h1)⟩
  · intro o' hs
    obtain ⟨y, hy, h1, ho⟩ := endCutN_some hs
    exact ⟨by rw [ho]; unfold oidAt; omega, other y hy (last_of_chain_pos hd y.1 (hdone y hy).1 i h1)⟩

/-- the state of the build while `cut_remaining_overhangs` runs: the sites `done` have been cut, using `off` object ids -/
structure CutInvN (input ptx : List Scaffold) (b1 : Build) (done : List (SiteN × Nat)) (off : Nat) (bc : Build) : Prop where
  len : bc.store.length = (allPieces ptx).length
  store : ∀ i, i < (allPieces ptx).length →
    bc.store.getD i default = resDeepN input (oid0 input) done (pieceAt ptx i, i)
  nextOid : bc.nextOid = oid0 input + off
  cuts : bc.cuts = b1.cuts + (off : Int) - (done.length : Int)
  found : bc.found = b1.found
  multi : bc.multi = b1.multi
  namer : bc.namer = b1.namer
  extra : bc.extra = b1.extra
  joinGap : bc.joinGap = b1.joinGap
  err : bc.err = b1.err

/-- everything the step for site `x` is given -/
structure Ctx (input ptx : List Scaffold) (err : Int) (b1 bc : Build) (done : List (SiteN × Nat)) (off : Nat) (x : SiteN) :
    Prop where
  hd : DeepCutN input ptx err
  hx : x ∈ sitesN input ptx
  hdone : ∀ y ∈ done, y.1 ∈ sitesN input ptx ∧ y.1.key ≠ x.key
  hinv : CutInvN input ptx b1 done off bc

/-- the current result of piece `i` -/
def curN (input ptx : List Scaffold) (done : List (SiteN × Nat)) (i : Nat) : OverlapResult :=
  cutO (startCutN (oid0 input) done i) (endCutN (oid0 input) done i) (labN input ptx i)

def oidHN (bc : Build) (x : SiteN) (i : Nat) : Nat :=
  bc.nextOid + (if x.frag.strand = 1 then x.chain.idxOf i else x.chain.length - 1 - x.chain.idxOf i)

theorem startCutN_append (base : Nat) (done : List (SiteN × Nat)) (y : SiteN × Nat) (i : Nat) :
    startCutN base (done ++ [y]) i =
      (startCutN base done i).or
        (if 0 < y.1.chain.idxOf i ∧ y.1.chain.idxOf i < y.1.chain.length then
          some (oidAt base y (y.1.chain.idxOf i)) else none) := by
  unfold startCutN
  rw [List.findSome?_append]
  simp

theorem endCutN_append (base : Nat) (done : List (SiteN × Nat)) (y : SiteN × Nat) (i : Nat) :
    endCutN base (done ++ [y]) i =
      (endCutN base done i).or
        (if y.1.chain.idxOf i + 1 < y.1.chain.length then some (oidAt base y (y.1.chain.idxOf i)) else none) := by
  unfold endCutN
  rw [List.findSome?_append]
  simp

section
variable {input ptx : List Scaffold} {err : Int} {b1 bc : Build} {done : List (SiteN × Nat)} {off : Nat} {x : SiteN}

theorem curN_store (c : Ctx input ptx err b1 bc done off x) (i : Nat) (hi : i < (allPieces ptx).length) :
    bc.store.getD i default = { o := curN input ptx done i, added := true } := by
  rw [c.hinv.store i hi]; rfl

theorem curN_snoc (c : Ctx input ptx err b1 bc done off x) (i : Nat) :
    curN input ptx (done ++ [(x, off)]) i =
      cutO ((startCutN (oid0 input) done i).or
          (if 0 < x.chain.idxOf i ∧ x.chain.idxOf i < x.chain.length then some (oidHN bc x i) else none))
        ((endCutN (oid0 input) done i).or (if x.chain.idxOf i + 1 < x.chain.length then some (oidHN bc x i) else none))
        (labN input ptx i) := by
  have : oidAt (oid0 input) (x, off) (x.chain.idxOf i) = oidHN bc x i := by
    unfold oidAt oidHN; rw [c.hinv.nextOid]
  unfold curN
  rw [startCutN_append, endCutN_append, this]

theorem Ctx.held (c : Ctx input ptx err b1 bc done off x) (h2 : 2 ≤ x.chain.length) :
    ∀ p (hp : p < x.chain.length), x.chain[p] < (allPieces ptx).length ∧
      HeldAt x.frag ((labN input ptx (x.chain[0]'(by omega))).stop - x.frag.length + 1) (labN input ptx x.chain[p])
        (decide (0 < p)) (decide (p + 1 < x.chain.length))
  | 0, _ => by
    have hok := adj_get _ _ (c.hd.chains x c.hx) 0 (by omega)
    rw [decide_eq_true (show 0 + 1 < x.chain.length by omega), decide_eq_false (Nat.lt_irrefl 0)]
    exact ⟨hok.inA, .first (cutGeom_of c.hd.base hok) (lookup_labN c.hd.base (x.chain[0]'(by omega)) hok.inA).valid⟩
  | p + 1, hp => by
    obtain ⟨-, ih⟩ := c.held h2 p (by omega)
    have hok := adj_get _ _ (c.hd.chains x c.hx) p hp
    rw [decide_eq_true (Nat.succ_pos p)]
    exact ⟨hok.inB, .next (cutGeom_of c.hd.base hok) (ih.last (decide_eq_true hp)).2.1
      (lookup_labN c.hd.base x.chain[p + 1] hok.inB) fun hq =>
        ⟨_, cutGeom_of c.hd.base (adj_get _ _ (c.hd.chains x c.hx) (p + 1) (of_decide_eq_true hq))⟩⟩

theorem Ctx.due (c : Ctx input ptx err b1 bc done off x) (h2 : 2 ≤ x.chain.length) (p : Nat) (hp : p < x.chain.length) :
    Due (oid0 input) (labN input ptx x.chain[p]) x.frag (decide (0 < p)) (decide (p + 1 < x.chain.length))
      (startCutN (oid0 input) done x.chain[p]) (endCutN (oid0 input) done x.chain[p]) := by
  obtain ⟨hlt, h⟩ := c.held h2 p hp
  obtain ⟨hS, hE⟩ := earlierN c.hd x c.hx x.chain[p] done c.hdone (oid0 input)
  have none_of : ∀ {o : Option Nat} {q : Prop}, (∀ o', o = some o' → Nat.le (oid0 input) o' ∧ ¬ q) → q → o = none :=
    fun {o} _ ho hq => by cases o with | none => rfl | some o' => exact absurd hq (ho o' rfl).2
  refine ⟨lookup_labN c.hd.base _ hlt, ?_, fun hh => ⟨(h.head hh).1, none_of hS (h.head hh).1, (h.head hh).2.2⟩,
    fun ht => ⟨(h.last ht).1, none_of hE (h.last ht).1, (h.last ht).2.2⟩,
    fun o' ho => ⟨(hS o' ho).1, fun e => (hS o' ho).2 (by rw [e]; rfl)⟩,
    fun o' ho => ⟨(hE o' ho).1, fun e => (hE o' ho).2 (by rw [e]; rfl)⟩⟩
  simp only [decide_eq_true_eq]; omega

theorem Ctx.trim (c : Ctx input ptx err b1 bc done off x) (hnd : x.chain.Nodup) (h2 : 2 ≤ x.chain.length) {i : Nat}
    (hi : i ∈ x.chain) {o' : OverlapResult} {new : Fragment}
    (h : (curN input ptx done i).trimFragment x.frag (x.chain.idxOf i == 0) (x.chain.idxOf i + 1 == x.chain.length)
      (oidHN bc x i) = .ok (o', new)) : o' = curN input ptx (done ++ [(x, off)]) i := by
  obtain ⟨p, hp, rfl⟩ := List.getElem_of_mem hi
  have e1 : (p == 0) = !decide (0 < p) := by rw [Bool.eq_iff_iff]; simp
  have e2 : (p + 1 == x.chain.length) = !decide (p + 1 < x.chain.length) := by rw [Bool.eq_iff_iff]; simp; omega
  rw [hnd.idxOf_getElem p hp, e1, e2] at h
  rw [(c.due h2 p hp).trim h, curN_snoc c, hnd.idxOf_getElem p hp]
  simp only [decide_eq_true_eq, hp, and_true]

theorem Ctx.visit (c : Ctx input ptx err b1 bc done off x) {fnd : Found} (hf : SiteNFacts input ptx x fnd)
    (h2 : 2 ≤ x.chain.length) :
    ∃ lo hi, VisitOK bc fnd (if fnd.fragment.strand = 1 then x.chain else x.chain.reverse) lo hi := by
  have hF := hf.frag
  have hok0 := adj_get _ _ (c.hd.chains x c.hx) 0 (by omega)
  have getRes_eq : ∀ p (hp : p < x.chain.length), getRes bc.store x.chain[p] = curN input ptx done x.chain[p] := fun p hp => by
    unfold getRes; rw [curN_store c _ (c.held h2 p hp).1]
  refine VisitOK.of_scaffold_order (P := (labN input ptx (x.chain[0]'(by omega))).stop - x.frag.length + 1)
    hf.perm (by intro e; rw [e] at h2; simp at h2) (hF ▸ hok0.strand)
    (by rw [← hF]; obtain ⟨h1, h2, h3⟩ := site_arith c.hd.base _ hok0
        have hlenF : _ = x.frag.stop - x.frag.start + 1 := h3.trans rfl; omega)
    (fun p hp => ?_) (fun p hp => ?_)
  · obtain ⟨a, e, ha, he, hae, hs, ht, hhd, htl, rest⟩ := (c.due h2 p hp).holds (c.held h2 p hp).2
    rw [← hF, getRes_eq p hp]
    exact ⟨a, e, ha, he, hae, hs, ht, (fun h0 => hhd (decide_eq_true h0)), (fun h0 => htl (decide_eq_true h0)), rest⟩
  · rw [getRes_eq p (by omega), getRes_eq (p + 1) hp]
    unfold curN
    rw [cutO_bait, cutO_bait]
    exact (cutGeom_of c.hd.base (adj_get _ _ (c.hd.chains x c.hx) p hp)).abut

end

/-- the step of `cut_remaining_overhangs` for one shared contig: `cut_fragments` visits the chain (`cut_ok_of_visit`), and
    what `trim_fragment` returns for each holder is its new state (`Ctx.trim`) -/
theorem chain_step {input ptx : List Scaffold} {err : Int} {b1 bc : Build} {done : List (SiteN × Nat)} {off : Nat}
    {x : SiteN} (c : Ctx input ptx err b1 bc done off x) (fnd : Found) (hf : SiteNFacts input ptx x fnd) :
    ∃ bc', cutFragments bc fnd = .ok bc' ∧
      CutInvN input ptx b1 (done ++ [(x, off)]) (off + x.chain.length) bc' := by
  have hnd := chain_nodup c.hd x c.hx
  have h2 := hf.len
  have hstr : x.frag.strand = 1 ∨ x.frag.strand = -1 := (adj_get _ _ (c.hd.chains x c.hx) 0 (by omega)).strand
  obtain ⟨lo, hi, hV⟩ := c.visit hf h2
  rw [← hf.frag] at hV
  generalize hVdef : (if x.frag.strand = 1 then x.chain else x.chain.reverse) = V at hV
  have hVperm : V.Perm x.chain := by rw [← hVdef]; split; exact .refl _; exact List.reverse_perm _
  have hVlen : V.length = x.chain.length := hVperm.length_eq
  obtain ⟨st, hcut, hlen, hget, hother⟩ := cut_ok_of_visit hV
  refine ⟨_, hcut, ⟨hlen.trans c.hinv.len, fun i hi => ?_, by show bc.nextOid + _ = _; rw [c.hinv.nextOid, hVlen]; omega,
    by show bc.cuts + _ = _; rw [c.hinv.cuts, hVlen]; simp only [List.length_append, List.length_singleton]; omega,
    c.hinv.found, c.hinv.multi, c.hinv.namer, c.hinv.extra, c.hinv.joinGap, c.hinv.err⟩⟩
  show st.getD i default = _
  by_cases hic : i ∈ x.chain
  · obtain ⟨j, hj, rfl⟩ := List.getElem_of_mem (hVperm.mem_iff.2 hic)
    obtain ⟨o', new, ht, hst⟩ := hget j hj
    obtain ⟨hfl, hoid⟩ := cutFlags_visit hnd hstr hVdef j hj
    have e : bc.nextOid + j = oidHN bc x V[j] := by unfold oidHN; rw [hoid]
    rw [← hf.frag, curN_store c _ hi, hVlen, hfl, e] at ht
    rw [hst, curN_store c _ hi, c.trim hnd h2 hic ht]
    rfl
  · rw [hother i (fun h => hic (hVperm.mem_iff.1 h)), c.hinv.store i hi]
    have hidx : x.chain.idxOf i = x.chain.length := List.idxOf_eq_length hic
    unfold resDeepN
    rw [startCutN_append, endCutN_append]
    have hlt : ¬ (x.chain.length + 1 < x.chain.length) := by omega
    simp [hidx, hlt]

def offs (l : List SiteN) : Nat := (l.map (·.chain.length)).sum

theorem withOffsets_append (n : Nat) (l : List SiteN) (x : SiteN) :
    withOffsets n (l ++ [x]) = withOffsets n l ++ [(x, n + offs l)] := by
  induction l generalizing n with
  | nil => simp [withOffsets, offs]
  | cons a t ih =>
    have e : offs (a :: t) = a.chain.length + offs t := rfl
    rw [List.cons_append, withOffsets, withOffsets, ih, e, List.cons_append, Nat.add_assoc]

theorem mem_withOffsets {n : Nat} {l : List SiteN} {y : SiteN × Nat} (h : y ∈ withOffsets n l) : y.1 ∈ l := by
  induction l generalizing n with
  | nil => cases h
  | cons a t ih =>
    simp only [withOffsets, List.mem_cons] at h
    rcases h with rfl | h
    · simp
    · exact List.mem_cons_of_mem _ (ih h)

theorem length_withOffsets (n : Nat) (l : List SiteN) : (withOffsets n l).length = l.length := by
  induction l generalizing n with
  | nil => rfl
  | cons a t ih => simp [withOffsets, ih]

/-- the loop over the shared contigs: once the keys `dks` are done, the sites of `dks` have been cut -/
theorem cutFold_deepN {input ptx : List Scaffold} {err : Int} (hd : DeepCutN input ptx err) (b1 : Build)
    (hfound : b1.found = (regOf input ptx).1) (h0 : CutInvN input ptx b1 [] 0 b1) :
    ∃ bc', (sharedKeys input ptx).foldlM Pipeline.cutMulti b1 = .ok bc' ∧
      CutInvN input ptx b1 (withOffsets 0 (sitesN input ptx)) (offs (sitesN input ptx)) bc' := by
  refine (foldlM_ok_rest (fun ks bc => ∃ dks, sharedKeys input ptx = dks ++ ks ∧
      CutInvN input ptx b1 (withOffsets 0 (dks.map (siteOfN ptx (regOf input ptx).1)))
        (offs (dks.map (siteOfN ptx (regOf input ptx).1))) bc) ?_ (sharedKeys input ptx) b1 ⟨[], rfl, by exact h0⟩).imp
    fun bc' ⟨hfold, dks, hall, hinv⟩ => ⟨hfold, by rw [List.append_nil] at hall; rw [← hall] at hinv; exact hinv⟩
  rintro k ks' bc ⟨dks, hsplit, hinv⟩
  have hnd : (dks ++ k :: ks').Nodup := by rw [← hsplit]; exact (regOf_ok input ptx).multiNodup
  have hk : k ∈ sharedKeys input ptx := by rw [hsplit]; simp
  obtain ⟨fnd, hgetk, -⟩ := site_casesN input ptx k hk
  have hdone : ∀ y ∈ withOffsets 0 (dks.map (siteOfN ptx (regOf input ptx).1)),
      y.1 ∈ sitesN input ptx ∧ y.1.key ≠ (siteOfN ptx (regOf input ptx).1 k).key := by
    intro y hy
    obtain ⟨k', hk', hy1⟩ := List.mem_map.1 (mem_withOffsets hy)
    rw [← hy1, siteOfN_key, siteOfN_key]
    refine ⟨List.mem_map_of_mem (by rw [hsplit]; simp [hk']), ?_⟩
    rintro rfl
    exact (List.nodup_append.1 hnd).2.2 _ hk' _ (by simp) rfl
  have hget : dGet? bc.found k = some fnd := by rw [hinv.found, hfound]; exact hgetk
  obtain ⟨bc1, hcut, hinv1⟩ := chain_step (c := ⟨hd, List.mem_map_of_mem hk, hdone, hinv⟩) fnd (siteOfN_facts hk hgetk)
  refine ⟨bc1, by simp only [Pipeline.cutMulti, hget, hcut], dks ++ [k], by rw [hsplit]; simp, ?_⟩
  simpa [List.map_append, withOffsets_append, offs, List.sum_append] using hinv1

theorem storeN_eq_of_pointwise (input ptx : List Scaffold) (base : Nat) (done : List (SiteN × Nat)) (l : List Res)
    (hlen : l.length = (allPieces ptx).length)
    (h : ∀ i, i < (allPieces ptx).length → l.getD i default = resDeepN input base done (pieceAt ptx i, i)) :
    l = storeDeepN input ptx base done := by
  refine C08.ext_getD _ _ (by simp [hlen, storeDeepN]) fun i hi => ?_
  rw [hlen] at hi
  rw [h i hi, storeDeepN, List.getD_eq_getElem?_getD, List.getElem?_map, List.getElem?_zipIdx, (pieceAt_mem ptx i hi).2]
  simp

/-- number of cuts: one less than the number of holders, for every shared contig -/
def cutsN (input ptx : List Scaffold) : Int :=
  (offs (sitesN input ptx) : Int) - ((sitesN input ptx).length : Int)

theorem cutRemaining_deepN {input ptx : List Scaffold} {err : Int} (hd : DeepCutN input ptx err) (b1 : Build)
    (hstore : b1.store = expectedStore input ptx) (hfound : b1.found = (regOf input ptx).1)
    (hmulti : b1.multi = sharedKeys input ptx) (hoid : b1.nextOid = oid0 input) :
    ∃ b3, cutRemaining b1 = .ok b3 ∧ b3.store = expectedStoreDeepN input ptx ∧ b3.multi = [] ∧
      b3.cuts = b1.cuts + cutsN input ptx ∧ b3.found = b1.found ∧ b3.namer = b1.namer ∧
      b3.extra = b1.extra ∧ b3.joinGap = b1.joinGap ∧ b3.err = b1.err := by
  have hinit : CutInvN input ptx b1 [] 0 b1 := by
    refine ⟨by rw [hstore, expectedStore_eq_map]; simp, fun i hi => ?_, hoid, by simp, rfl, rfl, rfl, rfl, rfl, rfl⟩
    rw [hstore, expectedStore_eq_map, List.getD_eq_getElem?_getD, List.getElem?_map, (pieceAt_mem ptx i hi).2]
    rfl
  obtain ⟨bc, hfold, hinv⟩ := cutFold_deepN hd b1 hfound hinit
  refine ⟨{ bc with multi := [] }, ?_, ?_, rfl, ?_, hinv.found, hinv.namer, hinv.extra, hinv.joinGap, hinv.err⟩
  · rw [Pipeline.cutRemaining_eq, hmulti, hfold]; rfl
  · exact storeN_eq_of_pointwise input ptx _ _ bc.store hinv.len hinv.store
  · show bc.cuts = _
    rw [hinv.cuts, length_withOffsets]
    unfold cutsN sitesN
    omega

end AgpTpf.C02
