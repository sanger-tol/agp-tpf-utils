/- `chromosomes_report_csv` against `chromosome_name_csv` (C10 R1): the same loop (`C10.chrStep`) with another row -/
import AgpTpf.Model.CliPlan
import AgpTpf.Proofs.C10Csv
namespace AgpTpf.C10
open AgpTpf

def mkRep (hap : Str) (s : Scaffold) (cn : Str) (loc : Bool) : ReportRow :=
  { assembly := hap, seqName := s.name, chromosome := cn, localised := loc,
    pretextScaffold := s.originalName, length := s.length, lengthMinusGaps := s.fragmentsLength }

theorem chromosomesReportAsm_eq (prefix_ hap : Str) (scs : List Scaffold) :
    chromosomesReportAsm prefix_ hap scs = (scs.foldl (chrStep (mkRep hap) prefix_) ([], [])).1 := rfl

/-- a report row from the scaffold and its chromosome-list line `(name, chr_name, localised)` -/
def mkRow (hap : Str) (s : Scaffold) (t : Str × Str × Bool) : ReportRow :=
  { assembly := hap, seqName := t.1, chromosome := t.2.1, localised := t.2.2,
    pretextScaffold := s.originalName, length := s.length, lengthMinusGaps := s.fragmentsLength }

def rowLine (r : ReportRow) : Str × Str × Bool := (r.seqName, r.chromosome, r.localised)

theorem rowLine_mkRow (hap : Str) (s : Scaffold) (t : Str × Str × Bool) : rowLine (mkRow hap s t) = t := rfl

theorem repSpec_zip (prefix_ hap : Str) : ∀ (rs earlier : List Scaffold),
    chrSpec (mkRep hap) prefix_ earlier rs =
      (rs.zip (chrSpec mkCsv prefix_ earlier rs)).map (fun p => mkRow hap p.1 p.2)
  | [], _ => rfl
  | s :: r, earlier => by
    rw [chrSpec, chrSpec, List.zip_cons_cons, List.map_cons, repSpec_zip prefix_ hap r]
    rfl

theorem chromosomesReportAsm_spec (prefix_ hap : Str) (scs : List Scaffold) :
    chromosomesReportAsm prefix_ hap scs =
      ((scs.filter isChrRank).zip (chromosomeNameCsv prefix_ scs)).map (fun p => mkRow hap p.1 p.2) := by
  rw [chromosomesReportAsm_eq, chr_loop, repSpec_zip, chromosomeNameCsv_eq]
  exact congrArg (fun l => ((scs.filter isChrRank).zip l).map _) (chr_loop mkCsv prefix_ scs).symm

end AgpTpf.C10
