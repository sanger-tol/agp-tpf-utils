/- C05 (c): gap-type and strand tables -/
import AgpTpf.Model.Text
import AgpTpf.Proofs.Lib.Py
namespace AgpTpf.C05
open AgpTpf

/-- per-character translation (`str.translate` of a `maketrans(frm, to)` table) -/
def trChar (frm to : Str) (c : Char) : Char :=
  match dGet? (frm.zip to) c with | some d => d | none => c

theorem translate_eq_map (frm to s : Str) : translate frm to s = s.map (trChar frm to) := rfl

theorem dGet?_zip_none {frm to : Str} {c : Char} (h : c ∉ frm) : dGet? (frm.zip to) c = none :=
  (dGet?_none_iff _ _).2 fun hm => by
    obtain ⟨p, hp, rfl⟩ := List.mem_map.1 hm
    exact h (List.of_mem_zip hp).1

theorem dGet?_eq_none {κ ν} [DecidableEq κ] {d : List (κ × ν)} {k : κ} (h : ∀ p ∈ d, p.1 ≠ k) : dGet? d k = none := by
  cases hd : dGet? d k with
  | none => rfl
  | some v => exact absurd rfl (h _ (dGet?_mem hd))

theorem trChar_not_mem {frm to : Str} {c : Char} (h : c ∉ frm) : trChar frm to c = c := by
  unfold trChar; rw [dGet?_zip_none h]

theorem trChar_eq_or_mem (frm to : Str) (c : Char) : trChar frm to c = c ∨ trChar frm to c ∈ to := by
  unfold trChar
  cases h : dGet? (frm.zip to) c with
  | none => exact Or.inl rfl
  | some d => exact Or.inr (List.of_mem_zip (dGet?_mem h)).2

theorem mem_translate {frm to s : Str} {x : Char} (h : x ∈ translate frm to s) : x ∈ s ∨ x ∈ to := by
  rw [translate_eq_map, List.mem_map] at h
  obtain ⟨c, hc, rfl⟩ := h
  rcases trChar_eq_or_mem frm to c with e | e
  · exact Or.inl (e.symm ▸ hc)
  · exact Or.inr e

/-- `hinv` ranges over the first table's source alphabet only: a finite check -/
theorem translate_inv {frm to frm' to' : Str} (hinv : ∀ c ∈ frm, trChar frm' to' (trChar frm to c) = c) {s : Str}
    (hs : ∀ c ∈ s, c ∉ frm') : translate frm' to' (translate frm to s) = s := by
  rw [translate_eq_map, translate_eq_map, List.map_map]
  refine (List.map_congr_left fun c hc => ?_).trans (List.map_id s)
  by_cases hm : c ∈ frm
  · exact hinv c hm
  · simp only [Function.comp, trChar_not_mem hm, trChar_not_mem (hs c hc), id]

theorem lowerFrom_spec : ∀ c ∈ Gen.lowerFrom, isUpper c = true ∨ c = '-' := by decide +kernel
theorem upperFrom_spec : ∀ c ∈ Gen.upperFrom, isLower c = true ∨ c = '_' := by decide +kernel
theorem lower_upper_table : ∀ c ∈ Gen.upperFrom,
    trChar Gen.lowerFrom Gen.lowerTo (trChar Gen.upperFrom Gen.upperTo c) = c := by decide +kernel
theorem upper_lower_table : ∀ c ∈ Gen.lowerFrom,
    trChar Gen.upperFrom Gen.upperTo (trChar Gen.lowerFrom Gen.lowerTo c) = c := by decide +kernel

/-- the shape of both gap-type conversions: `d[x]` if present, else a translation of `x` -/
theorem lookup_roundtrip {d d' : List (Str × Str)} {tr tr' : Str → Str} {x : Str}
    (hd : ∀ p ∈ d, dGet? d' p.2 = some p.1)
    (hx : dGet? d x = none → tr' (tr x) = x ∧ ∀ p ∈ d', tr' p.1 ≠ x) :
    (match dGet? d' (match dGet? d x with | some y => y | none => tr x) with
      | some z => z
      | none => tr' (match dGet? d x with | some y => y | none => tr x)) = x := by
  cases h : dGet? d x with
  | some y => simp only [hd _ (dGet?_mem h)]
  | none =>
    obtain ⟨hrt, hne⟩ := hx h
    simp only [dGet?_eq_none fun p hp e => hne p hp (e ▸ hrt), hrt]

/-- a gap type TPF can carry: what `tpfGapTypeOfText` can return as a fixed point -/
def TpfGapType (g : Str) : Prop :=
  (∀ c ∈ g, isUpper c = false ∧ c ≠ '-') ∧ g ≠ "type_2".toList ∧ g ≠ "type_3".toList

instance (g : Str) : Decidable (TpfGapType g) := by unfold TpfGapType; infer_instance

/-- (c) model gap type → TPF text → model gap type. "scaffold" and "contig" go through the dictionaries
    ("TYPE-2", "TYPE-3"); everything else through upper-casing and `_`→`-`.
    FINDING: the gap types "type_2" and "type_3" do NOT round trip (they come back as "scaffold"/"contig"),
    nor does any gap type containing an upper-case letter or '-'. -/
theorem tpfGapType_roundtrip (g : Str) (h : TpfGapType g) :
    tpfGapTypeOfText (tpfGapTypeToText g) = g := by
  obtain ⟨hc, h2, h3⟩ := h
  refine lookup_roundtrip (d := Gen.tpfGapFormatDict) (d' := Gen.tpfGapParseDict) (by decide +kernel) fun _ =>
    ⟨translate_inv lower_upper_table fun c hm hl => ?_, ?_⟩
  · rcases lowerFrom_spec c hl with e | e
    · rw [(hc c hm).1] at e; cases e
    · exact (hc c hm).2 e
  · have : ∀ p ∈ Gen.tpfGapParseDict, translate Gen.lowerFrom Gen.lowerTo p.1 = "type_2".toList ∨
        translate Gen.lowerFrom Gen.lowerTo p.1 = "type_3".toList := by
      repeat rw [String.toList_ofList]
      decide +kernel
    exact fun p hp e => (this p hp).elim (fun e' => h2 (e.symm.trans e')) (fun e' => h3 (e.symm.trans e'))

theorem tpfGapType_scaffold : tpfGapTypeToText "scaffold".toList = "TYPE-2".toList ∧
    tpfGapTypeOfText "TYPE-2".toList = "scaffold".toList := by
  repeat rw [String.toList_ofList]
  decide +kernel

theorem tpfGapType_contig : tpfGapTypeToText "contig".toList = "TYPE-3".toList ∧
    tpfGapTypeOfText "TYPE-3".toList = "contig".toList := by
  repeat rw [String.toList_ofList]
  decide +kernel

theorem tpfGapType_type_2_lost : tpfGapTypeOfText (tpfGapTypeToText "type_2".toList) = "scaffold".toList := by
  repeat rw [String.toList_ofList]
  decide +kernel

theorem tpfGapType_type_3_lost : tpfGapTypeOfText (tpfGapTypeToText "type_3".toList) = "contig".toList := by
  repeat rw [String.toList_ofList]
  decide +kernel

/-- canonical TPF gap-type TEXT: what `tpfGapTypeToText` can produce -/
def TpfGapText (t : Str) : Prop :=
  (∀ c ∈ t, isLower c = false ∧ c ≠ '_') ∧ t ≠ "SCAFFOLD".toList ∧ t ≠ "CONTIG".toList

instance (t : Str) : Decidable (TpfGapText t) := by unfold TpfGapText; infer_instance

theorem not_mem_tpfGapTypeToText {x : Char} {g : Str} (hto : x ∉ Gen.upperTo)
    (hd : ∀ p ∈ Gen.tpfGapFormatDict, x ∉ p.2) (h : x ∉ g) : x ∉ tpfGapTypeToText g := by
  unfold tpfGapTypeToText
  cases hf : dGet? Gen.tpfGapFormatDict g with
  | some t => exact hd _ (dGet?_mem hf)
  | none => exact fun hm => (mem_translate hm).elim h hto

theorem pyGet_out_of_range {α} (l : List α) (i : Int) (h : i < -(l.length : Int) ∨ (l.length : Int) ≤ i) :
    pyGet l i = .error .index := by
  unfold pyGet
  exact if_pos (by split <;> omega)

/-- the AGP strand column; its last character is not eaten by `rstrip()` -/
theorem strandStr_agp (s : Int) (h : s = 0 ∨ s = 1 ∨ s = -1) :
    ∃ t, strandStr Gen.agpStrandStr s = .ok t ∧ lookupStr Gen.agpStrandDict t = .ok s ∧
      '\t' ∉ t ∧ '\n' ∉ t ∧ (∃ c, t.getLast? = some c ∧ isSpace c = false) := by
  rcases h with rfl | rfl | rfl <;> exact ⟨_, rfl, rfl, by decide +kernel⟩

/-- the TPF strand column; its last character is not eaten by `rstrip("\r\n")` -/
theorem strandStr_tpf (s : Int) (h : s = 1 ∨ s = -1) :
    ∃ t, strandStr Gen.tpfStrandStr s = .ok t ∧ lookupStr Gen.tpfStrandDict t = .ok s ∧
      '\t' ∉ t ∧ '\n' ∉ t ∧ (∃ c, t.getLast? = some c ∧ isSpace c = false) := by
  rcases h with rfl | rfl <;> exact ⟨_, rfl, rfl, by decide +kernel, by decide +kernel, _, rfl, by decide +kernel⟩

/-- FINDING: strand 0 is written as "UNKNOWN" in TPF, which the TPF parser rejects (KeyError). -/
theorem tpfStrand_zero_not_parsed :
    strandStr Gen.tpfStrandStr 0 = .ok "UNKNOWN".toList ∧ lookupStr Gen.tpfStrandDict "UNKNOWN".toList = .error .key := by
  rw [String.toList_ofList]
  exact ⟨rfl, rfl⟩

/-- strands outside {-1,0,1}: -2 and -3 are silently written (Python negative indexing) — but a `Fragment`
    cannot hold them (`mkFragment`). -/
theorem strandStr_out_of_range (s : Int) (h : s < -3 ∨ 2 < s) : strandStr Gen.agpStrandStr s = .error .index :=
  pyGet_out_of_range _ s (by simpa [Gen.agpStrandStr] using by omega)

theorem agp_consts : Gen.agpGapCol5 = "U".toList ∧ Gen.agpGapLinkage = "yes".toList ∧ Gen.agpGapEvidence ≠ [] ∧
    Gen.agpFragCol5 = "W".toList ∧ Gen.agpGapComponentTypes.contains Gen.agpGapCol5 = true ∧
    Gen.agpGapComponentTypes.contains Gen.agpFragCol5 = false := by
  repeat rw [String.toList_ofList]
  decide +kernel

end AgpTpf.C05
