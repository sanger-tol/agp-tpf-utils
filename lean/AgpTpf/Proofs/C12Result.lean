/-
  What the lookup of `[a, b]` in a row list returns, in the vocabulary of the C12 specification (`rowSpan`, `meets`;
  read off `find_overlaps_spec_strong`): exactly the fragment rows whose span meets `[a, b]`, the span running from the
  first to the last of them; which rows are first and last; when an end sticks out; queries ending deep inside a row.
-/
import AgpTpf.Properties.C12
import AgpTpf.Proofs.Lib.Rows
import AgpTpf.Proofs.Lib.Overlap
namespace AgpTpf.C12
open AgpTpf

theorem rowSpan_fst (rows : List Row) (k : Nat) : (rowSpan rows k).1 = 1 + pre rows k := rfl
theorem rowSpan_snd (rows : List Row) (k : Nat) : (rowSpan rows k).2 = pre rows (k + 1) := rfl

theorem pre_nonneg (rows : List Row) (hlen : ∀ r ∈ rows, 0 ≤ r.length) (k : Nat) : 0 ≤ pre rows k := by
  have := pre_mono rows hlen 0 k (by omega)
  rw [pre_zero] at this; exact this

theorem rowSpan_fst_pos (rows : List Row) (hlen : ∀ r ∈ rows, 0 ≤ r.length) (k : Nat) : 1 ≤ (rowSpan rows k).1 := by
  have := pre_nonneg rows hlen k
  rw [rowSpan_fst]; omega

theorem rowSpan_mono (rows : List Row) (hlen : ∀ r ∈ rows, 0 ≤ r.length) {i k : Nat} (h : i ≤ k) :
    (rowSpan rows i).1 ≤ (rowSpan rows k).1 ∧ (rowSpan rows i).2 ≤ (rowSpan rows k).2 := by
  have h1 := pre_mono rows hlen i k h
  have h2 := pre_mono rows hlen (i + 1) (k + 1) (by omega)
  simp only [rowSpan_fst, rowSpan_snd]; omega

theorem rowSpan_lt (rows : List Row) (hlen : ∀ r ∈ rows, 0 ≤ r.length) {i k : Nat} (h : i < k) :
    (rowSpan rows i).2 < (rowSpan rows k).1 := by
  have h1 := pre_mono rows hlen (i + 1) k h
  simp only [rowSpan_fst, rowSpan_snd]; omega

theorem rowSpan_len (rows : List Row) (k : Nat) (r : Row) (h : rows[k]? = some r) :
    (rowSpan rows k).2 = (rowSpan rows k).1 + r.length - 1 := by
  obtain ⟨hk, rfl⟩ := List.getElem?_eq_some_iff.1 h
  rw [rowSpan_fst, rowSpan_snd, pre_succ rows k hk]
  omega

theorem meets_between (rows : List Row) (hlen : ∀ r ∈ rows, 0 ≤ r.length) (a b : Int) {i j k : Nat} {f : Fragment}
    (hi : meets rows a b i = true) (hj : meets rows a b j = true) (hik : i ≤ k) (hkj : k ≤ j)
    (hk : rows[k]? = some (.frag f)) : meets rows a b k = true := by
  obtain ⟨_, _, _, hi2⟩ := (meets_iff _ _ _ _).1 hi
  obtain ⟨_, _, hj1, _⟩ := (meets_iff _ _ _ _).1 hj
  have h1 := rowSpan_mono rows hlen hik
  have h2 := rowSpan_mono rows hlen hkj
  exact (meets_iff _ _ _ _).2 ⟨f, hk, by omega, by omega⟩

theorem lookup_some {rows : List Row} {bait : Fragment} {o : OverlapResult} (hlen : ∀ r ∈ rows, 0 ≤ r.length)
    (h : findOverlaps rows bait = .ok (some o)) :
    ∃ i j, meets rows bait.start bait.stop i = true ∧ meets rows bait.start bait.stop j = true ∧
      (∀ k, meets rows bait.start bait.stop k = true → i ≤ k ∧ k ≤ j) ∧
      o.bait = bait ∧ o.start = (rowSpan rows i).1 ∧ o.stop = (rowSpan rows j).2 ∧
      o.rows = (rows.drop i).take (j + 1 - i) := by
  have hne : rows ≠ [] := by
    intro e; subst e; simp [findOverlaps] at h
  rw [find_overlaps_spec_strong rows bait hne hlen] at h
  have h' : bruteForce rows bait = some o := by simpa using h
  obtain ⟨i, j, hi, hj, hall, rfl⟩ := bruteForce_eq_some rows bait o h'
  exact ⟨i, j, hi, hj, hall, rfl, rfl, rfl, rfl⟩

theorem lookup_exists {rows : List Row} {bait : Fragment} (hlen : ∀ r ∈ rows, 0 ≤ r.length) (k : Nat)
    (hk : meets rows bait.start bait.stop k = true) : ∃ o, findOverlaps rows bait = .ok (some o) := by
  have hne : rows ≠ [] := by
    intro e; subst e
    obtain ⟨f, hf, -⟩ := (meets_iff _ _ _ _).1 hk
    simp at hf
  rw [find_overlaps_spec_strong rows bait hne hlen]
  cases hb : bruteForce rows bait with
  | some o => exact ⟨o, rfl⟩
  | none =>
    have := (bruteForce_eq_none_iff rows bait).1 hb k
    rw [hk] at this; cases this

theorem mem_slice (rows : List Row) (i j : Nat) (r : Row) :
    r ∈ (rows.drop i).take (j + 1 - i) ↔ ∃ k, i ≤ k ∧ k ≤ j ∧ rows[k]? = some r := by
  rw [List.mem_iff_getElem?]
  constructor
  · rintro ⟨t, ht⟩
    rw [slice_getElem?] at ht
    by_cases h : t < j + 1 - i
    · rw [if_pos h] at ht
      exact ⟨i + t, by omega, by omega, ht⟩
    · rw [if_neg h] at ht; cases ht
  · rintro ⟨k, h1, h2, hk⟩
    refine ⟨k - i, ?_⟩
    rw [slice_getElem?, if_pos (by omega)]
    have : i + (k - i) = k := by omega
    rw [this]; exact hk

theorem mem_lookup {rows : List Row} {bait : Fragment} {o : OverlapResult} (hlen : ∀ r ∈ rows, 0 ≤ r.length)
    (h : findOverlaps rows bait = .ok (some o)) (f : Fragment) :
    f ∈ fragmentsOf o.rows ↔ ∃ k, rows[k]? = some (.frag f) ∧ meets rows bait.start bait.stop k = true := by
  obtain ⟨i, j, hi, hj, hall, -, -, -, hrows⟩ := lookup_some hlen h
  rw [mem_fragmentsOf, hrows, mem_slice]
  constructor
  · rintro ⟨k, h1, h2, hk⟩
    exact ⟨k, hk, meets_between rows hlen _ _ hi hj h1 h2 hk⟩
  · rintro ⟨k, hk, hm⟩
    obtain ⟨h1, h2⟩ := hall k hm
    exact ⟨k, h1, h2, hk⟩

theorem lookup_ends {rows : List Row} {bait : Fragment} {o : OverlapResult} (hlen : ∀ r ∈ rows, 0 ≤ r.length)
    (h : findOverlaps rows bait = .ok (some o)) :
    ∃ i j fi fj, rows[i]? = some (.frag fi) ∧ rows[j]? = some (.frag fj) ∧
      meets rows bait.start bait.stop i = true ∧ meets rows bait.start bait.stop j = true ∧
      (∀ k, meets rows bait.start bait.stop k = true → i ≤ k ∧ k ≤ j) ∧
      o.bait = bait ∧ o.start = (rowSpan rows i).1 ∧ o.stop = (rowSpan rows j).2 ∧
      o.rows.head? = some (.frag fi) ∧ o.rows.getLast? = some (.frag fj) ∧ o.rows.length = j + 1 - i := by
  obtain ⟨i, j, hi, hj, hall, hb, hs, he, hrows⟩ := lookup_some hlen h
  obtain ⟨fi, hfi, -, -⟩ := (meets_iff _ _ _ _).1 hi
  obtain ⟨fj, hfj, -, -⟩ := (meets_iff _ _ _ _).1 hj
  have hij := (hall i hi).2
  obtain ⟨hjl, -⟩ := List.getElem?_eq_some_iff.1 hfj
  have hl : o.rows.length = j + 1 - i := by rw [hrows, List.length_take, List.length_drop]; omega
  refine ⟨i, j, fi, fj, hfi, hfj, hi, hj, hall, hb, hs, he, ?_, ?_, hl⟩
  · rw [hrows, slice_head? rows hij]; exact hfi
  · rw [hrows, slice_getLast? rows hij hjl]; exact hfj

theorem lookup_start_cases {rows : List Row} {bait : Fragment} {o : OverlapResult} (hlen : ∀ r ∈ rows, 0 ≤ r.length)
    (h : findOverlaps rows bait = .ok (some o)) :
    o.startOverhang ≤ 0 ∨ ∃ i f, rows[i]? = some (.frag f) ∧ (rowSpan rows i).1 < bait.start ∧
      bait.start ≤ (rowSpan rows i).2 := by
  obtain ⟨i, -, fi, -, hfi, -, hi, -, -, hb, hs, -⟩ := lookup_ends hlen h
  obtain ⟨-, -, -, h2⟩ := (meets_iff _ _ _ _).1 hi
  unfold OverlapResult.startOverhang
  rw [hb, hs]
  by_cases h1 : (rowSpan rows i).1 < bait.start
  · exact Or.inr ⟨i, fi, hfi, h1, h2⟩
  · exact Or.inl (by omega)

theorem lookup_end_cases {rows : List Row} {bait : Fragment} {o : OverlapResult} (hlen : ∀ r ∈ rows, 0 ≤ r.length)
    (h : findOverlaps rows bait = .ok (some o)) :
    o.endOverhang ≤ 0 ∨ ∃ j f, rows[j]? = some (.frag f) ∧ (rowSpan rows j).1 ≤ bait.stop ∧
      bait.stop < (rowSpan rows j).2 ∧ o.endOverhang = (rowSpan rows j).2 - bait.stop := by
  obtain ⟨-, j, -, fj, -, hfj, -, hj, -, hb, -, he, -⟩ := lookup_ends hlen h
  obtain ⟨-, -, h1, -⟩ := (meets_iff _ _ _ _).1 hj
  unfold OverlapResult.endOverhang
  rw [hb, he]
  by_cases h2 : bait.stop < (rowSpan rows j).2
  · exact Or.inr ⟨j, fj, hfj, h1, h2, rfl⟩
  · exact Or.inl (by omega)

theorem lookup_end_rows {rows : List Row} {bait : Fragment} {o : OverlapResult} (hlen : ∀ r ∈ rows, 0 ≤ r.length)
    (h : findOverlaps rows bait = .ok (some o)) {r : Nat} {F : Fragment} (hr : rows[r]? = some (.frag F))
    (hm : meets rows bait.start bait.stop r = true) :
    o.bait = bait ∧
    (bait.stop ≤ (rowSpan rows r).2 → o.stop = (rowSpan rows r).2 ∧ o.rows.getLast? = some (.frag F)) ∧
    ((rowSpan rows r).1 ≤ bait.start → o.start = (rowSpan rows r).1 ∧ o.rows.head? = some (.frag F)) ∧
    (bait.stop ≤ (rowSpan rows r).2 → (rowSpan rows r).1 ≤ bait.start → o.rows.length = 1) := by
  obtain ⟨i, j, fi, fj, hfi, hfj, hi, hj, hall, hb, hs, he, hhead, hlast, hl⟩ := lookup_ends hlen h
  obtain ⟨-, -, -, hi2⟩ := (meets_iff _ _ _ _).1 hi
  obtain ⟨-, -, hj1, -⟩ := (meets_iff _ _ _ _).1 hj
  -- a row behind `r` begins behind the query, a row before `r` ends before it
  have hjr : bait.stop ≤ (rowSpan rows r).2 → r = j := fun hin => by
    rcases Nat.lt_or_eq_of_le (hall r hm).2 with hlt | e
    · have := rowSpan_lt rows hlen hlt; omega
    · exact e
  have hir : (rowSpan rows r).1 ≤ bait.start → i = r := fun hin => by
    rcases Nat.lt_or_eq_of_le (hall r hm).1 with hlt | e
    · have := rowSpan_lt rows hlen hlt; omega
    · exact e
  refine ⟨hb, fun hin => ?_, fun hin => ?_, fun h1 h2 => by rw [hl, hir h2, ← hjr h1]; omega⟩
  · cases hjr hin; rw [hr] at hfj; cases hfj; exact ⟨he, hlast⟩
  · cases hir hin; rw [hr] at hfi; cases hfi; exact ⟨hs, hhead⟩

/-- the query ends at a cut `c | c + 1` deeper than `3·E` inside row `r`: `lastA`, `deepA` of `SiteOk` -/
theorem lookup_end_deep {rows : List Row} {bait : Fragment} {o : OverlapResult} (hlen : ∀ r ∈ rows, 0 ≤ r.length)
    (h : findOverlaps rows bait = .ok (some o)) {r : Nat} {F : Fragment} (hr : rows[r]? = some (.frag F)) {E c : Int}
    (hE : 0 < E) (hlong : E ≤ bait.stop - bait.start + 1) (hc : bait.stop = c)
    (h1 : 3 * E < c - (rowSpan rows r).1 + 1) (h2 : 3 * E < (rowSpan rows r).2 - c) :
    o.stop = (rowSpan rows r).2 ∧ o.rows.getLast? = some (.frag F) ∧
      ∃ ov, o.endRowBaitOverlap = .ok ov ∧ (3 * E < ov ∨ (o.rows.length = 1 ∧ E ≤ ov)) := by
  subst hc
  have hm : meets rows bait.start bait.stop r = true := (meets_iff _ _ _ _).2 ⟨F, hr, by omega, by omega⟩
  obtain ⟨hb, hlast, -, hone⟩ := lookup_end_rows hlen h hr hm
  obtain ⟨hs, hlast⟩ := hlast (by omega)
  obtain ⟨t, ht⟩ := List.getLast?_eq_some_iff.1 hlast
  have hl := rowSpan_len rows r _ hr
  refine ⟨hs, hlast, ?_⟩
  rw [OverlapResult.endRowBaitOverlap_ok ht, hb, hs, Int.min_eq_left (by omega),
    show (rowSpan rows r).2 - (Row.frag F).length + 1 = (rowSpan rows r).1 by omega]
  by_cases hin : (rowSpan rows r).1 < bait.start
  · rw [Int.max_eq_left (a := bait.start) (by omega), Int.max_eq_right (a := 0) (by omega)]
    exact ⟨_, rfl, Or.inr ⟨hone (by omega) (by omega), by omega⟩⟩
  · rw [Int.max_eq_right (a := bait.start) (by omega), Int.max_eq_right (a := 0) (by omega)]
    exact ⟨_, rfl, Or.inl (by omega)⟩

/-- the query begins behind a cut `c | c + 1` deeper than `3·E` inside row `r`: `headB`, `deepB` of `SiteOk` -/
theorem lookup_start_deep {rows : List Row} {bait : Fragment} {o : OverlapResult} (hlen : ∀ r ∈ rows, 0 ≤ r.length)
    (h : findOverlaps rows bait = .ok (some o)) {r : Nat} {F : Fragment} (hr : rows[r]? = some (.frag F)) {E c : Int}
    (hE : 0 < E) (hlong : E ≤ bait.stop - bait.start + 1) (hc : bait.start = c + 1)
    (h1 : 3 * E < c - (rowSpan rows r).1 + 1) (h2 : 3 * E < (rowSpan rows r).2 - c) :
    o.start = (rowSpan rows r).1 ∧ o.rows.head? = some (.frag F) ∧
      ∃ ov, o.startRowBaitOverlap = .ok ov ∧ (3 * E < ov ∨ (o.rows.length = 1 ∧ E ≤ ov)) := by
  have hm : meets rows bait.start bait.stop r = true := (meets_iff _ _ _ _).2 ⟨F, hr, by omega, by omega⟩
  obtain ⟨hb, -, hhead, hone⟩ := lookup_end_rows hlen h hr hm
  obtain ⟨hs, hhead⟩ := hhead (by omega)
  obtain ⟨t, ht⟩ := List.head?_eq_some_iff.1 hhead
  have hl := rowSpan_len rows r _ hr
  refine ⟨hs, hhead, ?_⟩
  rw [OverlapResult.startRowBaitOverlap_ok ht, hb, hs, Int.max_eq_left (a := bait.start) (by omega),
    show (rowSpan rows r).1 + (Row.frag F).length - 1 = (rowSpan rows r).2 by omega]
  by_cases hin : bait.stop < (rowSpan rows r).2
  · rw [Int.min_eq_left (by omega), Int.max_eq_right (a := 0) (by omega)]
    exact ⟨_, rfl, Or.inr ⟨hone (by omega) (by omega), by omega⟩⟩
  · rw [Int.min_eq_right (by omega), Int.max_eq_right (a := 0) (by omega)]
    exact ⟨_, rfl, Or.inl (by omega)⟩

end AgpTpf.C12
