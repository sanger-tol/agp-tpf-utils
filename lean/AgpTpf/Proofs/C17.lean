/-
  Helper lemmas for C17: `scanTag` commutes (as an `Except` value) for any two non-empty tags on a namer whose
  haplotype dictionary holds only non-empty spellings; hence `foldlM scanTag` is invariant under permutation.
-/
import AgpTpf.Proofs.Lib.Namer
namespace AgpTpf.C17
open AgpTpf

theorem getSet_snd_ne (n : Namer) (t : Str) (hn : NamerOk n) (ht : t ≠ []) : (n.getSetHaplotype t).2 ≠ [] :=
  let ⟨_, h⟩ := (dSetDefault_all (Q := fun kv => kv.2 ≠ []) t hn ht).2; h

theorem getSet_ok (n : Namer) (t : Str) (hn : NamerOk n) (ht : t ≠ []) : NamerOk (n.getSetHaplotype t).1 :=
  (dSetDefault_all (Q := fun kv => kv.2 ≠ []) t hn ht).1

theorem getSet_target (n : Namer) (t : Str) :
    ({ n with targetTags := true } : Namer).getSetHaplotype t =
      ({ (n.getSetHaplotype t).1 with targetTags := true }, (n.getSetHaplotype t).2) := by
  unfold Namer.getSetHaplotype; rfl

theorem scanTag_ok (st st' : Namer × TagScan) (t : Str) (ht : t ≠ []) (hs : NamerOk st.1)
    (h : scanTag st t = .ok st') : NamerOk st'.1 := by
  obtain ⟨n, s⟩ := st
  rw [scanTag_eq] at h
  cases hc : tagClass t <;> simp only [hc] at h
  · cases h; exact hs
  · cases h; exact hs
  · cases h; exact hs
  · split at h
    · cases h
    · cases h; exact hs
  · split at h
    · cases h
    · cases h; exact getSet_ok n t hs ht
  · cases h; exact hs

theorem guard_comm {α} (p q : Prop) [Decidable p] [Decidable q] (e x : α) :
    (if p then e else if q then e else x) = if q then e else if p then e else x := by
  by_cases p <;> by_cases q <;> simp [*]

theorem scanTag_comm (st : Namer × TagScan) (a b : Str) (ha : a ≠ []) (hb : b ≠ []) (hs : NamerOk st.1) :
    (scanTag st a >>= fun st' => scanTag st' b) = (scanTag st b >>= fun st' => scanTag st' a) := by
  by_cases hab : a = b
  · subst hab; rfl
  obtain ⟨n, s⟩ := st
  have hga := getSet_snd_ne n a hs ha
  have hgb := getSet_snd_ne n b hs hb
  rw [scanTag_eq n s a, scanTag_eq n s b]
  -- each side becomes `if … then error else if … then error else ok …`; tags of different classes write different
  -- fields, so all pairs but the four below close by the rewriting alone
  cases hca : tagClass a <;> cases hcb : tagClass b <;>
    simp only [ite_bind, error_bind, ok_bind, scanTag_eq, hca, hcb, getSet_target]
  -- two chromosome names: the second one always collides with the first
  · simp [truthy_some, ha, hb, hab, Ne.symm hab]
  · exact guard_comm ..
  · exact guard_comm ..
  -- two haplotypes: the second finds the (non-empty) haplotype of the first
  · simp [truthy_some, hga, hgb]

theorem foldlM_scanTag_perm (st : Namer × TagScan) (tags₁ tags₂ : List Str) (hp : tags₁.Perm tags₂)
    (hne : [] ∉ tags₁) (hs : NamerOk st.1) :
    tags₁.foldlM scanTag st = tags₂.foldlM scanTag st :=
  foldlM_perm scanTag (NamerOk ·.1) (· ≠ [])
    (fun s a s' h1 h2 h3 => scanTag_ok s s' a h2 h1 h3)
    (fun s a b h1 h2 h3 => scanTag_comm s a b h2 h3 h1)
    hp st hs (fun _ ha h => hne (h ▸ ha))

theorem makeScaffoldName_ok (n n' : Namer) (scName : Str) (rows : List Row) (tags : List Str)
    (hne : [] ∉ tags) (hn : NamerOk n) (h : makeScaffoldName n scName rows tags = .ok n') : NamerOk n' :=
  (makeScaffoldName_spellings (Q := fun kv => kv.2 ≠ []) hn (fun _ ht e => hne (e ▸ (List.mem_filter.1 ht).1))
    (fun nm g _ hg => hapPrefixOfName_ne_nil nm g hg) (fun _ _ _ hv => hv) h).1

theorem labelScaffold_haplotypeLc (n n' : Namer) (o o' : OverlapResult) (sid : Nat) (frag : Fragment)
    (scTags : List Str) (orig : Str) (h : labelScaffold n o sid frag scTags orig = .ok (n', o')) :
    n'.haplotypeLc = n.haplotypeLc := by
  rw [(labelScaffold_ok h).2.1, bump_frame]

end AgpTpf.C17
