/- C05 (d, e): the TPF name pattern `(.+):(\d+)-(\d+)$`; TPF as a `Dialect` -/
import AgpTpf.Proofs.C05Dialect
import AgpTpf.Proofs.Lib.Text
namespace AgpTpf.C05
open AgpTpf

theorem splitLastColon_append (name coords : Str) (h : ':' ∉ coords) :
    splitLastColon (name ++ ':' :: coords) = some (name, coords) := by
  unfold splitLastColon
  have hr : (name ++ ':' :: coords).reverse = coords.reverse ++ ':' :: name.reverse := by simp
  have hp : ∀ a ∈ coords.reverse, (decide (a ≠ ':')) = true := by
    intro a ha; simp at ha ⊢; intro e; exact h (e ▸ ha)
  simp only [hr]
  rw [List.takeWhile_append_of_pos hp, List.dropWhile_append_of_pos hp]
  simp

theorem tpfNameMatch_digits (name d1 d2 : Str) (hn : name ≠ []) (hnl : '\n' ∉ name)
    (h1 : d1 ≠ []) (h2 : d2 ≠ []) (hd1 : ∀ c ∈ d1, isDigit c = true) (hd2 : ∀ c ∈ d2, isDigit c = true) :
    tpfNameMatch (name ++ [':'] ++ d1 ++ ['-'] ++ d2) = some (name, d1, d2) := by
  have hcol : ∀ d : Str, (∀ c ∈ d, isDigit c = true) → ':' ∉ d := by
    intro d hd hm; have := hd _ hm; revert this; decide
  have hc : ':' ∉ d1 ++ '-' :: d2 := by
    intro hm; simp at hm
    rcases hm with hm | hm
    · exact hcol d1 hd1 hm
    · exact hcol d2 hd2 hm
  have e : name ++ [':'] ++ d1 ++ ['-'] ++ d2 = name ++ ':' :: (d1 ++ '-' :: d2) := by simp
  unfold tpfNameMatch
  rw [e, splitLastColon_append _ _ hc]
  dsimp only
  have hm : ¬ (isDigit '-' = true) := by decide
  rw [List.takeWhile_append_of_pos hd1, List.dropWhile_append_of_pos hd1]
  simp only [List.dropWhile_cons_of_neg hm, List.takeWhile_cons_of_neg hm, List.append_nil]
  exact if_neg (by simpa [List.isEmpty_iff, hn, h1, h2, hnl] using hd2)

/-- (d) "last colon wins": names may contain ':' and '-'. -/
theorem tpfNameMatch_format (name : Str) (s e : Nat) (hn : name ≠ []) (hnl : '\n' ∉ name) :
    tpfNameMatch (name ++ [':'] ++ natToStr s ++ ['-'] ++ natToStr e) = some (name, natToStr s, natToStr e) :=
  tpfNameMatch_digits name _ _ hn hnl (AgpTpf.natToStr_ne_nil s) (AgpTpf.natToStr_ne_nil e)
    (fun _ h => AgpTpf.isDigit_of_mem_natToStr h) (fun _ h => AgpTpf.isDigit_of_mem_natToStr h)

example : tpfNameMatch "a:1-2:b-c:10-20".toList = some ("a:1-2:b-c".toList, "10".toList, "20".toList) := by
  repeat rw [String.toList_ofList]
  decide +kernel

/-- FINDING: a negative start cannot be carried by TPF (`-5` is not `\d+`): the line is rejected. -/
example : tpfNameMatch ("ctg".toList ++ [':'] ++ intToStr (-5) ++ ['-'] ++ intToStr 7) = none := by
  rw [String.toList_ofList]
  decide +kernel

open AgpTpf.C06 AgpTpf.AsmFormat

/-- the part of `parse_tpf`'s loop body after `fields = line.rstrip("\r\n").split("\t")` -/
def tpfFields (st : ParseState) (fields : List Str) : R ParseState := do
    let f0 ← pyGet fields 0
    if f0 = Gen.tpfGapWord then
      if st.haveScaffold then do
        let f2 ← pyGet fields 2
        let f1 ← pyGet fields 1
        let len ← pyInt f2
        st.addRow (.gap { length := len, gapType := tpfGapTypeOfText f1 })
      else throw .value
    else if fields.length = 4 then do
      let f2 ← pyGet fields 2
      let st := st.switchScaffold f2
      let f1 ← pyGet fields 1
      match tpfNameMatch f1 with
      | some (name, d1, d2) => do
        if ¬ st.haveScaffold then throw .attribute
        let f3 ← pyGet fields 3
        let strand ← lookupStr Gen.tpfStrandDict f3
        let s ← pyInt d1
        let e ← pyInt d2
        let f ← mkFragment st.nextOid name s e strand []
        let st ← st.addRow (.frag f)
        pure { st with nextOid := st.nextOid + 1 }
      | none => throw .value
    else throw .value

/-- TPF scaffold names ride in the third column of fragment lines: no tab; not empty (an empty name equals the
    reader's initial `scaffold_name = ""`).  They MAY start with '#'. -/
def TpfScafNameOk (n : Str) : Prop := n ≠ [] ∧ '\t' ∉ n

instance (n : Str) : Decidable (TpfScafNameOk n) := by unfold TpfScafNameOk; infer_instance

/-- row TPF can carry: gap types in lower-case/underscore form (see `TpfGapType`); fragment names non-empty
    without newline (`(.+)`), start ≥ 0 (`\d+`), strand PLUS or MINUS. Tags are not carried. -/
def TpfRowOk (r : Row) : Prop :=
  match r with
  | .gap g => TpfGapType g.gapType ∧ '\t' ∉ g.gapType
  | .frag f => f.name ≠ [] ∧ '\t' ∉ f.name ∧ '\n' ∉ f.name ∧ 0 ≤ f.start ∧ f.start ≤ f.stop ∧
      (f.strand = 1 ∨ f.strand = -1)

instance (r : Row) : Decidable (TpfRowOk r) := by unfold TpfRowOk; cases r <;> infer_instance

def Row.dropTags : Row → Row
  | .frag f => .frag { f with tags := [] }
  | .gap g => .gap g

def tpfRowCols (scName : Str) : Row → R (List Str)
  | .gap g => .ok [Gen.tpfGapWord, tpfGapTypeToText g.gapType, intToStr g.length]
  | .frag f => (strandStr Gen.tpfStrandStr f.strand).map fun ss =>
      [Gen.tpfFragCol1, f.name ++ [':'] ++ intToStr f.start ++ ['-'] ++ intToStr f.stop, scName, ss]

theorem formatTpfRow_eq (scName : Str) (row : Row) :
    formatTpfRow scName row = (tpfRowCols scName row).map lineOfCols := by
  cases row with
  | gap g => rfl
  | frag f => simp only [formatTpfRow, tpfRowCols]; cases strandStr Gen.tpfStrandStr f.strand <;> rfl

theorem formatTpfRow_cols {scName : Str} {row : Row} {line : Str} (h : formatTpfRow scName row = .ok line) :
    ∃ cols, tpfRowCols scName row = .ok cols ∧ line = lineOfCols cols := by
  rw [formatTpfRow_eq] at h
  cases hc : tpfRowCols scName row with
  | error e => rw [hc] at h; cases h
  | ok cols => rw [hc] at h; exact ⟨cols, rfl, (Except.ok.inj h).symm⟩

theorem tpfRowCols_avoids {x : Char} (hx : isSpace x = true) {scName : Str} {row : Row} {cols : List Str}
    (hn : x ∉ scName) (hr : RowAvoids x (Row.dropTags row)) (hc : tpfRowCols scName row = .ok cols) :
    ∀ c ∈ cols, x ∉ c := by
  have no : ∀ {c : Str}, (∀ y ∈ c, isSpace y = false) → x ∉ c := fun hc h => by rw [hc x h] at hx; cases hx
  obtain ⟨k1, k2, k3, k4, k5⟩ : (∀ y ∈ Gen.tpfGapWord, isSpace y = false) ∧ (∀ y ∈ Gen.tpfFragCol1, isSpace y = false) ∧
      (∀ c ∈ Gen.tpfStrandStr, ∀ y ∈ c, isSpace y = false) ∧ (∀ y ∈ Gen.upperTo, isSpace y = false) ∧
      ∀ p ∈ Gen.tpfGapFormatDict, ∀ y ∈ p.2, isSpace y = false := by decide +kernel
  have hi := fun v => no (intToStr_no_space v)
  cases row with
  | gap g =>
    cases hc
    simp only [List.forall_mem_cons]
    exact ⟨no k1, not_mem_tpfGapTypeToText (no k4) (fun p hp => no (k5 p hp)) hr, hi _, nofun⟩
  | frag f =>
    simp only [tpfRowCols] at hc
    cases hss : strandStr Gen.tpfStrandStr f.strand with
    | error e => rw [hss] at hc; cases hc
    | ok ss =>
      rw [hss] at hc; cases hc
      simp only [List.forall_mem_cons]
      refine ⟨no k2, ?_, hn, no (k3 ss (pyGet_mem hss)), nofun⟩
      simp only [List.mem_append, List.mem_singleton, not_or]
      exact ⟨⟨⟨⟨hr.1, by rintro rfl; cases hx⟩, hi _⟩, by rintro rfl; cases hx⟩, hi _⟩

theorem tpfNameMatch_intToStr (name : Str) (s e : Int) (hn : name ≠ []) (hnl : '\n' ∉ name) (hs : 0 ≤ s) (he : 0 ≤ e) :
    tpfNameMatch (name ++ [':'] ++ intToStr s ++ ['-'] ++ intToStr e) = some (name, intToStr s, intToStr e) := by
  rw [intToStr_of_nonneg hs, intToStr_of_nonneg he]
  exact tpfNameMatch_format name _ _ hn hnl

theorem tpfFields_gap (st : ParseState) {fields : List Str} {t : Str} {len : Int}
    (h0 : fields[0]? = some Gen.tpfGapWord) (h1 : fields[1]? = some t) (h2 : fields[2]? = some (intToStr len))
    (hh : st.haveScaffold = true) :
    tpfFields st fields = st.addRow (.gap { length := len, gapType := tpfGapTypeOfText t }) := by
  have g0 : pyGet fields 0 = .ok Gen.tpfGapWord := pyGet_of_getElem? (k := 0) h0
  have g1 : pyGet fields 1 = .ok t := pyGet_of_getElem? (k := 1) h1
  have g2 : pyGet fields 2 = .ok (intToStr len) := pyGet_of_getElem? (k := 2) h2
  simp only [tpfFields, g0, g1, g2, ok_bind, if_true, hh, pyInt_intToStr]

theorem tpfFields_frag (st : ParseState) {fields : List Str} {f0 scName ss : Str} {f : Fragment}
    (h0 : fields[0]? = some f0) (hq : f0 ≠ Gen.tpfGapWord) (hlen : fields.length = 4)
    (h1 : fields[1]? = some (f.name ++ [':'] ++ intToStr f.start ++ ['-'] ++ intToStr f.stop))
    (h2 : fields[2]? = some scName) (h3 : fields[3]? = some ss)
    (hlook : lookupStr Gen.tpfStrandDict ss = .ok f.strand) (hr : TpfRowOk (.frag f)) :
    tpfFields st fields = addRowOid (st.switchScaffold scName) (.frag { f with tags := [] }) := by
  obtain ⟨hne, _, hnl, h0', hse, hstr⟩ := hr
  have g0 : pyGet fields 0 = .ok f0 := pyGet_of_getElem? (k := 0) h0
  have g1 : pyGet fields 1 = .ok _ := pyGet_of_getElem? (k := 1) h1
  have g2 : pyGet fields 2 = .ok scName := pyGet_of_getElem? (k := 2) h2
  have g3 : pyGet fields 3 = .ok ss := pyGet_of_getElem? (k := 3) h3
  simp only [tpfFields, g0, g1, g2, g3, ok_bind, hq, if_false, hlen, if_true,
    tpfNameMatch_intToStr _ _ _ hne hnl h0' (Int.le_trans h0' hse), hlook, pyInt_intToStr,
    mkFragment_ok_iff.2 ⟨Or.inr hstr, hse, rfl⟩, addRowOid]
  cases hh : (st.switchScaffold scName).haveScaffold with
  | true =>
    cases (st.switchScaffold scName).addRow (Row.frag { f with oid := (st.switchScaffold scName).nextOid, tags := [] }) <;> rfl
  | false => rw [addRow_noScaffold _ _ hh]; rfl

theorem RowAvoids.dropTags {x : Char} {r : Row} (h : RowAvoids x r) : RowAvoids x (Row.dropTags r) := by
  cases r with
  | gap g => exact h
  | frag f => exact ⟨h.1, nofun⟩

theorem TpfRowOk.rowParsed {r : Row} (h : TpfRowOk r) : RowParsed r := by
  cases r with
  | gap g => trivial
  | frag f => exact ⟨Or.inr h.2.2.2.2.2, h.2.2.2.2.1⟩

theorem TpfRowOk.avoids_tab {r : Row} (h : TpfRowOk r) : RowAvoids '\t' (Row.dropTags r) := by
  cases r with
  | gap g => exact h.2
  | frag f => exact ⟨h.2.1, nofun⟩

/-- FINDING: a gap line before any fragment line is an error (ValueError) — a scaffold that starts with a gap
    cannot be written to TPF and read back; after another scaffold the gap is silently re-homed to it. -/
theorem parseTpfLine_gap_first (st : ParseState) (rest : List Str)
    (hh : st.haveScaffold = false) : tpfFields st (Gen.tpfGapWord :: rest) = .error .value := by
  simp only [tpfFields, pyGet_zero_cons, ok_bind, if_true, hh, Bool.false_eq_true, if_false]
  rfl

theorem tpfFields_step {st : ParseState} {fields : List Str} {st' : ParseState} (h : tpfFields st fields = .ok st') :
    DataStep st st' := by
  unfold tpfFields at h
  obtain ⟨f0, -, h⟩ := bind_eq_ok.1 h
  split at h
  · split at h
    · obtain ⟨f2, -, h⟩ := bind_eq_ok.1 h
      obtain ⟨f1, -, h⟩ := bind_eq_ok.1 h
      obtain ⟨len, -, h⟩ := bind_eq_ok.1 h
      exact ⟨st, .gap _, st', st'.nextOid, .inl rfl, trivial, h, rfl⟩
    · cases h
  · split at h
    · obtain ⟨f2, -, h⟩ := bind_eq_ok.1 h
      obtain ⟨f1, -, h⟩ := bind_eq_ok.1 h
      split at h
      · split at h
        · cases h
        obtain ⟨f3, -, h⟩ := bind_eq_ok.1 h
        obtain ⟨strand, -, h⟩ := bind_eq_ok.1 h
        obtain ⟨s, -, h⟩ := bind_eq_ok.1 h
        obtain ⟨e, -, h⟩ := bind_eq_ok.1 h
        obtain ⟨f, hf, h⟩ := bind_eq_ok.1 h
        obtain ⟨st'', ha, h'⟩ := bind_eq_ok.1 h
        exact ⟨_, .frag f, st'', _, .inr ⟨f2, rfl⟩, by obtain ⟨h1, h2, rfl⟩ := mkFragment_ok_iff.1 hf; exact ⟨h1, h2⟩, ha,
          (Except.ok.inj h').symm⟩
      · cases h
    · cases h

def Row.isFrag : Row → Bool
  | .frag _ => true
  | .gap _ => false

/-- the first column is `GAP` or `?`; the last one is the gap length or the strand -/
theorem tpfRowCols_ends {name : Str} {row : Row} {cs : List Str} (hr : TpfRowOk row) (hc : tpfRowCols name row = .ok cs) :
    ∃ c0 rest l x, cs = c0 :: rest ∧ c0.head? ≠ some '#' ∧ cs.getLast? = some l ∧ l.getLast? = some x ∧ isSpace x = false := by
  cases row with
  | gap g =>
    cases hc
    obtain ⟨x, hx1, hx2⟩ := intToStr_getLast? g.length
    exact ⟨_, _, _, x, rfl, by decide, rfl, hx1, hx2⟩
  | frag f =>
    obtain ⟨ss, hss, -, -, -, x, hx1, hx2⟩ := strandStr_tpf f.strand hr.2.2.2.2.2
    simp only [tpfRowCols, hss] at hc
    cases hc
    exact ⟨_, _, ss, x, rfl, by decide, rfl, hx1, hx2⟩

theorem tpfFields_cols {name : Str} {row : Row} {cs : List Str} (hr : TpfRowOk row) (hc : tpfRowCols name row = .ok cs)
    (st : ParseState) (h : Row.isFrag row = true ∨ st.haveScaffold = true) :
    tpfFields st cs = addRowOid (if Row.isFrag row = true then st.switchScaffold name else st) (Row.dropTags row) := by
  cases row with
  | gap g =>
    cases hc
    rw [tpfFields_gap st rfl rfl rfl (h.resolve_left nofun), tpfGapType_roundtrip _ hr.1]
    rfl
  | frag f =>
    obtain ⟨ss, hss, hlook, -⟩ := strandStr_tpf f.strand hr.2.2.2.2.2
    simp only [tpfRowCols, hss] at hc
    cases hc
    exact tpfFields_frag st rfl (by decide +kernel) rfl rfl rfl rfl hlook hr

theorem formatTpfRow_ok (name : Str) {r : Row} (h : StrandOk r) : ∃ l, formatTpfRow name r = .ok l := by
  cases r with
  | gap g => exact ⟨_, rfl⟩
  | frag f => rcases h with hs | hs | hs <;> (simp only [formatTpfRow, hs]; exact ⟨_, rfl⟩)

/-- TPF: `tpf.read` is `parseTpfLine`, `tpf.format` is `formatTpf`, `tpf.parse` is `parseTpf`, each by unfolding.  Only fragment
    lines name their scaffold, and the tags do not come back. -/
def tpf : Dialect where
  skip _ := false
  strip := isCrLf
  fields := tpfFields
  hdrPrefix := Gen.tpfHeaderPrefix
  rowLines s := s.rows.mapM (formatTpfRow s.name)
  Cols name row cs := tpfRowCols name row = .ok cs
  back := Row.dropTags
  opens := Row.isFrag
  NameOk n := '\t' ∉ n
  RowOk := TpfRowOk
  skip_hash _ h := Bool.noConfusion h
  strip_nl := rfl
  strip_space _ := isCrLf_of_not_isSpace
  fields_step _ _ _ := tpfFields_step
  prefix_hash := rfl
  prefix_chars := by decide
  prefix_noskip _ := rfl
  prefix_nl := by decide
  rowLines_ok s h := AgpTpf.mapM_ok_of_forall fun r hr => formatTpfRow_ok s.name (h r hr)
  rowLines_cols s ls h := ((mapM_ok_iff _ _ _).1 h).imp fun _ _ => formatTpfRow_cols
  row_strand h := h.rowParsed.strandOk
  name_tab h := h
  row_tab := TpfRowOk.avoids_tab
  back_avoids := RowAvoids.dropTags
  cols_avoid hx hn hr hc := tpfRowCols_avoids hx hn hr hc
  cols_ends _ hr hc := tpfRowCols_ends hr hc
  fields_cols _ hr hc := tpfFields_cols hr hc

/-- (e) "no line is silently skipped, merged or re-homed" for the TPF reader: a blank or `#` line leaves the
    scaffolds untouched; every other line either raises or adds exactly one row (to the current scaffold, or as
    the first row of a newly opened one). -/
theorem tpf_line_one_row_or_error (st : ParseState) (line : Str) (st' : ParseState)
    (h : parseTpfLine st line = .ok st') :
    (isBlankLine line = true ∨ startsWith ['#'] line = true →
        st'.scaffolds = st.scaffolds ∧ st'.currentName = st.currentName ∧ st'.nextOid = st.nextOid) ∧
    (¬ (isBlankLine line = true ∨ startsWith ['#'] line = true) →
        OneRowAdded st st' ∧ totalRows st' = totalRows st + 1 ∧ st'.header = st.header) :=
  tpf.one_row_or_error st line st' h

end AgpTpf.C05
