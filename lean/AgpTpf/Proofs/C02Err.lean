/-
  C02 — helper lemmas for M1: `errLengthOfText` (the `1 + floor(bp_per_texel)` of `BuildAssembly.error_length`,
  computed from the decimal text of the Pretext header).
-/
import AgpTpf.Model.Remap
import AgpTpf.Proofs.Lib.Text
namespace AgpTpf.C02
open AgpTpf

def AllDigits (s : Str) : Prop := ∀ c ∈ s, isDigit c = true

theorem allDigits_iff_all (s : Str) : AllDigits s ↔ s.all isDigit = true := by
  simp [AllDigits, List.all_eq_true]

theorem allDigits_natToStr (n : Nat) : AllDigits (natToStr n) :=
  fun _ hc => isDigit_of_mem_natToStr hc

theorem allDigits_takeWhile (t : Str) : AllDigits (t.takeWhile isDigit) :=
  (allDigits_iff_all _).2 List.all_takeWhile

theorem takeWhile_digits_self {ip : Str} (h : AllDigits ip) : ip.takeWhile isDigit = ip := by
  have := takeWhile_run isDigit ip [] h nofun
  rwa [List.append_nil] at this

theorem dropWhile_digits_self {ip : Str} (h : AllDigits ip) : ip.dropWhile isDigit = [] := by
  have := List.dropWhile_append_of_pos (p := isDigit) (l₂ := []) h
  rwa [List.append_nil] at this

theorem isDigit_dot : isDigit '.' = false := by decide

theorem takeWhile_digits_dot {ip : Str} (fr : Str) (h : AllDigits ip) :
    (ip ++ '.' :: fr).takeWhile isDigit = ip :=
  takeWhile_run isDigit ip _ h fun _ hc => Option.some.inj hc ▸ isDigit_dot

theorem dropWhile_digits_dot {ip : Str} (fr : Str) (h : AllDigits ip) :
    (ip ++ '.' :: fr).dropWhile isDigit = '.' :: fr := by
  rw [List.dropWhile_append_of_pos (by simpa [AllDigits] using h)]
  simp [List.dropWhile, isDigit_dot]

/-- the two accepted shapes: `ip` (non-empty digits) or `ip.fr` (digits either side of ONE dot, not both empty) -/
def DecimalShape (t ip fr : Str) : Prop :=
  AllDigits ip ∧ AllDigits fr ∧
  ((t = ip ∧ fr = [] ∧ ip ≠ []) ∨ (t = ip ++ '.' :: fr ∧ (ip ≠ [] ∨ fr ≠ [])))

theorem errLength_int {ip : Str} (h : AllDigits ip) (hne : ip ≠ []) :
    errLengthOfText ip = .ok (1 + (digitsVal 0 ip : Int)) := by
  unfold errLengthOfText
  simp only [takeWhile_digits_self h, dropWhile_digits_self h]
  cases ip with
  | nil => exact absurd rfl hne
  | cons c cs => simp

theorem errLength_frac {ip fr : Str} (h : AllDigits ip) (hf : AllDigits fr) (hne : ip ≠ [] ∨ fr ≠ []) :
    errLengthOfText (ip ++ '.' :: fr) = .ok (1 + (digitsVal 0 ip : Int)) := by
  unfold errLengthOfText
  simp only [takeWhile_digits_dot fr h, dropWhile_digits_dot fr h]
  have hfa : fr.all isDigit = true := (allDigits_iff_all fr).mp hf
  have : (fr.all isDigit && (!ip.isEmpty || !fr.isEmpty)) = true := by
    rw [hfa]
    rcases hne with h1 | h1
    · cases ip with
      | nil => exact absurd rfl h1
      | cons _ _ => simp
    · cases fr with
      | nil => exact absurd rfl h1
      | cons _ _ => simp
  simp only [this, if_true]

theorem errLength_cases (t : Str) :
    (∃ fr, DecimalShape t (t.takeWhile isDigit) fr) ∨
    ((¬ ∃ ip fr, DecimalShape t ip fr) ∧ errLengthOfText t = .error .value) := by
  -- a text of the shape is accepted (`errLength_int`, `errLength_frac`), so it is enough that a text which is not
  -- rejected has the shape with its leading digit run as `ip`: one case per branch of the test
  suffices h : errLengthOfText t = .error .value ∨ ∃ fr, DecimalShape t (t.takeWhile isDigit) fr by
    refine h.symm.imp_right fun he => ⟨?_, he⟩
    rintro ⟨ip, fr, h1, h2, (⟨rfl, _, hne⟩ | ⟨rfl, hne⟩)⟩
    · rw [errLength_int h1 hne] at he; cases he
    · rw [errLength_frac h1 h2 hne] at he; cases he
  have hsplit : t = t.takeWhile isDigit ++ t.dropWhile isDigit := List.takeWhile_append_dropWhile.symm
  have hip := allDigits_takeWhile t
  unfold errLengthOfText
  cases hrest : t.dropWhile isDigit with
  | nil =>
    rw [hrest, List.append_nil] at hsplit
    by_cases hne : t.takeWhile isDigit = []
    · exact Or.inl (by simp [hne])
    · exact Or.inr ⟨[], hip, nofun, Or.inl ⟨hsplit, rfl, hne⟩⟩
  | cons c fr =>
    rw [hrest] at hsplit
    by_cases hc : c = '.'
    · subst hc
      by_cases hok : (fr.all isDigit && (!(t.takeWhile isDigit).isEmpty || !fr.isEmpty)) = true
      · simp only [Bool.and_eq_true, Bool.or_eq_true, Bool.not_eq_true', List.isEmpty_eq_false_iff] at hok
        exact Or.inr ⟨fr, hip, (allDigits_iff_all fr).2 hok.1, Or.inr ⟨hsplit, hok.2⟩⟩
      · exact Or.inl (by simp only [hok]; rfl)
    · refine Or.inl ?_
      dsimp only
      split
      · rename_i heq; cases heq
      · rename_i heq; exact absurd (List.cons.inj heq).1 hc
      · rfl

end AgpTpf.C02
