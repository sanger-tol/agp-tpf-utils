/-
  Helper lemmas for C20: how `natTokens` behaves under concatenation (prefix `glue`), digit runs,
  numerals, and the resulting key comparisons.
-/
import AgpTpf.Proofs.C20
import AgpTpf.Proofs.C20Order
namespace AgpTpf.C20
open AgpTpf

theorem natTokens_IV (r : Str) : natTokens ('I' :: 'V' :: r) = pushMatch ['I', 'V'] (natTokens r) := by
  simp [natTokens]

theorem natTokens_III (r : Str) :
    natTokens ('I' :: 'I' :: 'I' :: r) = pushMatch ['I', 'I', 'I'] (natTokens r) := by
  simp [natTokens]

def notHead (c : Char) : Str → Prop
  | [] => True
  | d :: _ => d ≠ c

theorem natTokens_II {r : Str} (h : notHead 'I' r) :
    natTokens ('I' :: 'I' :: r) = pushMatch ['I', 'I'] (natTokens r) := by
  cases r with
  | nil => simp [natTokens]
  | cons d r' =>
    have : d ≠ 'I' := h
    rw [natTokens]
    intro r'' e; simp at e; exact this e.1

theorem natTokens_I {r : Str} (h : notHead 'I' r) (h' : notHead 'V' r) :
    natTokens ('I' :: r) = pushMatch ['I'] (natTokens r) := by
  cases r with
  | nil => simp [natTokens]
  | cons d r' =>
    have h1 : d ≠ 'I' := h
    have h2 : d ≠ 'V' := h'
    rw [natTokens]
    · intro r'' e; simp at e; exact h2 e.1
    · intro r'' e; simp at e; exact h1 e.1
    · intro r'' e; simp at e; exact h1 e.1

theorem natTokens_cons {c : Char} (h : c ≠ 'I') (r : Str) : natTokens (c :: r) = consChar c (natTokens r) := by
  rw [natTokens]
  all_goals first
    | (intro _ e _; exact h e)
    | (intro e; exact h e)

/-- the split starts with a digit match directly at position 0 -/
def headDigit (t : Toks) : Bool :=
  match t.first, t.rest with
  | [], (d :: _, _) :: _ => isDigit d
  | _, _ => false

def mergeHead (c : Char) (t : Toks) : Toks :=
  { first := [], rest := match t.rest with | (m, tx) :: r => (c :: m, tx) :: r | [] => [] }

theorem consChar_nondigit {c : Char} (h : isDigit c = false) (t : Toks) :
    consChar c t = { t with first := c :: t.first } := by
  simp [consChar, h]

theorem consChar_digit {c : Char} (h : isDigit c = true) (t : Toks) :
    consChar c t = if headDigit t then mergeHead c t else pushMatch [c] t := by
  unfold consChar headDigit mergeHead
  simp only [h, if_true]
  split
  · next d m tx r hf hr =>
    rw [hr, hf]
  · next hno =>
    split
    · next d m tx r hf hr =>
      by_cases hd : isDigit d = true
      · exact absurd hr (hno d m tx r hf)
      · simp [hd]
    · simp

def startsDigit : Str → Bool
  | [] => false
  | c :: _ => isDigit c

theorem headDigit_pushMatch_numeral {m : Str} (t : Toks) (h : IsNumeral m) : headDigit (pushMatch m t) = false := by
  rcases h with rfl | rfl | rfl | rfl <;> simp [headDigit, pushMatch] <;> decide

theorem headDigit_natTokens (s : Str) : headDigit (natTokens s) = startsDigit s := by
  fun_cases natTokens s
  case case1 => rfl
  case case2 => simp [headDigit, pushMatch, startsDigit]
  case case3 => simp [headDigit, pushMatch, startsDigit]
  case case4 => simp [headDigit, pushMatch, startsDigit]
  case case5 => simp [headDigit, pushMatch, startsDigit]
  case case6 c r _ _ _ _ =>
    unfold consChar
    split
    · next hc =>
      split
      · split <;> simp [headDigit, pushMatch, startsDigit, hc]
      · simp [headDigit, pushMatch, startsDigit, hc]
    · next hc => simp [headDigit, startsDigit, hc]

theorem natTokens_digits {ds : Str} (hne : ds ≠ []) (hd : ∀ c ∈ ds, isDigit c = true) {s : Str} (hs : startsDigit s = false) :
    natTokens (ds ++ s) = pushMatch ds (natTokens s) := by
  induction ds with
  | nil => exact absurd rfl hne
  | cons d ds ih =>
    have hdd := hd d (by simp)
    have hrest : ∀ c ∈ ds, isDigit c = true := fun c hc => hd c (by simp [hc])
    rw [List.cons_append, natTokens_cons (isDigit_ne_I hdd), consChar_digit hdd, headDigit_natTokens]
    cases ds with
    | nil => simp [hs]
    | cons e es =>
      have he := hd e (by simp)
      rw [ih (by simp) hrest]
      simp [startsDigit, he, mergeHead, pushMatch]

/-- append the split of the remainder to the split of the prefix: the text after the last match of the prefix
    continues with the leading text of the remainder -/
def glueRest : List (Str × Str) → Toks → List (Str × Str)
  | [], tx => tx.rest
  | [(m, t)], tx => (m, t ++ tx.first) :: tx.rest
  | p :: q :: r, tx => p :: glueRest (q :: r) tx

def glue (tp tx : Toks) : Toks :=
  match tp.rest with
  | [] => { first := tp.first ++ tx.first, rest := tx.rest }
  | q :: r => { first := tp.first, rest := glueRest (q :: r) tx }

theorem glue_nil (tx : Toks) : glue {} tx = tx := by
  cases tx; simp [glue]

theorem glue_pushMatch (m : Str) (t tx : Toks) : glue (pushMatch m t) tx = pushMatch m (glue t tx) := by
  obtain ⟨f, r⟩ := t
  cases r with
  | nil => simp [glue, pushMatch, glueRest]
  | cons q r => simp [glue, pushMatch, glueRest]

theorem glue_consFirst (c : Char) (t tx : Toks) :
    glue { t with first := c :: t.first } tx = { glue t tx with first := c :: (glue t tx).first } := by
  obtain ⟨f, r⟩ := t
  cases r <;> simp [glue]

def NonEmptyToks (t : Toks) : Prop := t.first ≠ [] ∨ t.rest ≠ []

theorem headDigit_glue {t : Toks} (h : NonEmptyToks t) (tx : Toks) : headDigit (glue t tx) = headDigit t := by
  obtain ⟨f, r⟩ := t
  cases r with
  | nil =>
    have : f ≠ [] := by rcases h with h | h <;> simp_all
    cases f with
    | nil => exact absurd rfl this
    | cons a as => simp [glue, headDigit]
  | cons q r =>
    obtain ⟨m, t⟩ := q
    cases r with
    | nil => cases f <;> cases m <;> simp [glue, glueRest, headDigit]
    | cons q' r' => cases f <;> cases m <;> simp [glue, glueRest, headDigit]

theorem glue_mergeHead {c : Char} {t : Toks} (h : headDigit t = true) (tx : Toks) :
    glue (mergeHead c t) tx = mergeHead c (glue t tx) := by
  obtain ⟨f, r⟩ := t
  cases r with
  | nil => cases f <;> simp [headDigit] at h
  | cons q r =>
    obtain ⟨m, t⟩ := q
    cases r with
    | nil => simp [glue, glueRest, mergeHead]
    | cons q' r' => simp [glue, glueRest, mergeHead]

theorem glue_consChar (c : Char) {t : Toks} (h : NonEmptyToks t) (tx : Toks) :
    glue (consChar c t) tx = consChar c (glue t tx) := by
  by_cases hc : isDigit c = true
  · rw [consChar_digit hc, consChar_digit hc, headDigit_glue h]
    by_cases hh : headDigit t = true
    · simp only [hh, if_true]; exact glue_mergeHead hh tx
    · simp only [hh]; exact glue_pushMatch _ _ _
  · have hc' : isDigit c = false := by simpa using hc
    rw [consChar_nondigit hc', consChar_nondigit hc']
    exact glue_consFirst c t tx

theorem nonEmpty_pushMatch (m : Str) (t : Toks) : NonEmptyToks (pushMatch m t) := .inr (by simp [pushMatch])

theorem nonEmpty_consChar (c : Char) (t : Toks) : NonEmptyToks (consChar c t) := by
  unfold consChar
  split
  · split
    · split
      · exact .inr (List.cons_ne_nil _ _)
      · exact nonEmpty_pushMatch _ _
    · exact nonEmpty_pushMatch _ _
  · exact .inl (List.cons_ne_nil _ _)

theorem nonEmpty_natTokens {s : Str} (h : s ≠ []) : NonEmptyToks (natTokens s) := by
  fun_cases natTokens s
  case case1 => exact absurd rfl h
  all_goals first
    | exact nonEmpty_pushMatch _ _
    | exact nonEmpty_consChar _ _

/-- the prefix is empty or its last character is neither `I` nor an ASCII digit -/
def okPrefix : Str → Bool
  | [] => true
  | [c] => c != 'I' && !isDigit c
  | _ :: r => okPrefix r

theorem okPrefix_cons_cons (c d : Char) (r : Str) : okPrefix (c :: d :: r) = okPrefix (d :: r) := by
  simp [okPrefix]

theorem okPrefix_iff (p : Str) :
    okPrefix p = true ↔ ∀ c, p.getLast? = some c → c ≠ 'I' ∧ isDigit c = false := by
  induction p with
  | nil => simp [okPrefix]
  | cons c r ih =>
    cases r with
    | nil => simp [okPrefix]
    | cons d r' => rw [okPrefix_cons_cons, ih, List.getLast?_cons_cons]

theorem natTokens_append {p : Str} (hp : okPrefix p = true) (x : Str) :
    natTokens (p ++ x) = glue (natTokens p) (natTokens x) := by
  fun_induction natTokens p
  case case1 => simp [glue_nil]
  case case2 r ih =>
    have : okPrefix r = true := by cases r <;> simp_all [okPrefix]
    rw [List.cons_append, List.cons_append, natTokens_IV, ih this, glue_pushMatch]
  case case3 r ih =>
    have : okPrefix r = true := by cases r <;> simp_all [okPrefix]
    rw [List.cons_append, List.cons_append, List.cons_append, natTokens_III, ih this, glue_pushMatch]
  case case4 r hr ih =>
    cases r with
    | nil => simp [okPrefix] at hp
    | cons d r' =>
      have hd : d ≠ 'I' := fun e => hr r' (by rw [e])
      have : okPrefix (d :: r') = true := by simpa [okPrefix] using hp
      rw [List.cons_append, List.cons_append, natTokens_II (by exact hd), ih this, glue_pushMatch]
  case case5 r hV hII hI ih =>
    cases r with
    | nil => simp [okPrefix] at hp
    | cons d r' =>
      have hd : d ≠ 'I' := fun e => hI r' (by rw [e])
      have hd' : d ≠ 'V' := fun e => hV r' (by rw [e])
      have : okPrefix (d :: r') = true := by simpa [okPrefix] using hp
      rw [List.cons_append, natTokens_I (by exact hd) (by exact hd'), ih this, glue_pushMatch]
  case case6 c r h1 h2 h3 h4 ih =>
    have hc : c ≠ 'I' := fun e => h4 e
    rw [List.cons_append, natTokens_cons hc]
    cases r with
    | nil =>
      have hcd : isDigit c = false := by simpa [okPrefix, hc] using hp
      simp [natTokens, consChar_nondigit hcd, glue]
    | cons d r' =>
      have : okPrefix (d :: r') = true := by simpa [okPrefix] using hp
      rw [ih this, glue_consChar c (nonEmpty_natTokens (by simp))]

/-- strict version of `keyLe` (Python `<` on the key tuples) -/
def keyLt (a b : NatKey) : Prop := keyLe a b = true ∧ keyLe b a = false

instance (a b : NatKey) : Decidable (keyLt a b) := by unfold keyLt; infer_instance

/-- key of `match ++ remainder` -/
def kPush (v : Int) (k : NatKey) : NatKey := { first := [], rest := (v, k.first) :: k.rest }

theorem toKey_pushMatch (m : Str) (t : Toks) : toKey (pushMatch m t) = kPush (tokVal m) (toKey t) := by
  simp [toKey, pushMatch, kPush]

theorem keyLe_kPush_same (v : Int) (a b : NatKey) : keyLe (kPush v a) (kPush v b) = keyLe a b := by
  simp [keyLe, kPush, restLe]

theorem keyLt_kPush_of_lt {v w : Int} (h : v < w) (a b : NatKey) : keyLt (kPush v a) (kPush w b) := by
  have h' : ¬ w < v := by omega
  constructor <;> simp [keyLe, kPush, restLe, h, h']

theorem restLe_glueRest (f : Str × Str → Int × Str) (hf : ∀ m t, (f (m, t)).2 = t)
    (hf' : ∀ m t t', (f (m, t)).1 = (f (m, t')).1)
    (q : Str × Str) (r : List (Str × Str)) (tx ty : Toks) :
    restLe ((glueRest (q :: r) tx).map f) ((glueRest (q :: r) ty).map f)
      = (if tx.first = ty.first then restLe (tx.rest.map f) (ty.rest.map f) else strLe tx.first ty.first) := by
  induction r generalizing q with
  | nil =>
    obtain ⟨m, t⟩ := q
    simp only [glueRest, List.map_cons, restLe]
    have e1 : f (m, t ++ tx.first) = ((f (m, t)).1, t ++ tx.first) := Prod.ext (hf' m _ t) (hf m _)
    have e2 : f (m, t ++ ty.first) = ((f (m, t)).1, t ++ ty.first) := Prod.ext (hf' m _ t) (hf m _)
    rw [e1, e2]
    simp only [Int.lt_irrefl, gt_iff_lt, if_false, List.append_cancel_left_eq, strLe_append_left]
  | cons q' r' ih =>
    simp only [glueRest, List.map_cons]
    have := ih q'
    obtain ⟨n, t⟩ := f q
    simp only [restLe, Int.lt_irrefl, gt_iff_lt, if_false, if_true]
    exact this

theorem keyLe_glue (tp tx ty : Toks) :
    keyLe (toKey (glue tp tx)) (toKey (glue tp ty)) = keyLe (toKey tx) (toKey ty) := by
  obtain ⟨f, r⟩ := tp
  cases r with
  | nil => simp only [glue, toKey, keyLe, List.append_cancel_left_eq, strLe_append_left]; rfl
  | cons q r =>
    simp only [glue, toKey, keyLe, if_true]
    exact restLe_glueRest (fun p => (tokVal p.1, p.2)) (fun _ _ => rfl) (fun _ _ _ => rfl) q r tx ty

theorem keyLe_prefix {p : Str} (hp : okPrefix p = true) (x y : Str) :
    keyLe (keyOf (p ++ x)) (keyOf (p ++ y)) = keyLe (keyOf x) (keyOf y) := by
  unfold keyOf
  rw [natTokens_append hp, natTokens_append hp, keyLe_glue]

theorem keyLt_prefix {p : Str} (hp : okPrefix p = true) {x y : Str} (h : keyLt (keyOf x) (keyOf y)) :
    keyLt (keyOf (p ++ x)) (keyOf (p ++ y)) := by
  unfold keyLt at h ⊢
  rw [keyLe_prefix hp, keyLe_prefix hp]; exact h

theorem tokVal_natToStr (n : Nat) : tokVal (natToStr n) = (n : Int) := by
  rw [tokVal_digits (natToStr_ne_nil n) (fun _ => isDigit_of_mem_natToStr), digitsVal_natToStr]

theorem natToStr_no_leading_zero (n : Nat) (h : 0 < n) : (natToStr n).head? ≠ some '0' := by
  unfold natToStr
  induction n using Nat.strongRecOn with
  | _ n ih =>
    rw [Nat.toDigits_eq_if (by omega)]
    split
    · next h' =>
      simp only [List.head?_cons, ne_eq, Option.some.injEq, Nat.digitChar_eq_zero]
      omega
    · next h' =>
      have := ih (n / 10) (by omega) (by omega)
      have hne : Nat.toDigits 10 (n / 10) ≠ [] := Nat.toDigits_ne_nil
      rw [List.head?_append]
      cases hh : Nat.toDigits 10 (n / 10) with
      | nil => exact absurd hh hne
      | cons a as => rw [hh] at this; simpa using this

theorem keyLt_nil_of_ne_nil {s : Str} (h : s ≠ []) : keyLt (keyOf []) (keyOf s) := by
  have hne := nonEmpty_natTokens h
  have h0 : keyOf [] = { first := [], rest := [] } := by simp [keyOf, toKey, natTokens]
  rw [h0]
  unfold keyOf toKey keyLt keyLe
  generalize natTokens s = t at hne
  obtain ⟨f, r⟩ := t
  cases f with
  | cons a as => simp [strLe]
  | nil =>
    cases r with
    | nil => rcases hne with h | h <;> simp at h
    | cons q r => simp [restLe]

/-- `m` is read as one match in front of `s` -/
def TokenAt (m s : Str) : Prop := natTokens (m ++ s) = pushMatch m (natTokens s)

theorem TokenAt.nat (n : Nat) {s : Str} (hs : startsDigit s = false) : TokenAt (natToStr n) s :=
  natTokens_digits (natToStr_ne_nil n) (fun _ => isDigit_of_mem_natToStr) hs
theorem TokenAt.I {s : Str} (h : notHead 'I' s) (h' : notHead 'V' s) : TokenAt ['I'] s := natTokens_I h h'
theorem TokenAt.II {s : Str} (h : notHead 'I' s) : TokenAt ['I', 'I'] s := natTokens_II h
theorem TokenAt.III (s : Str) : TokenAt ['I', 'I', 'I'] s := natTokens_III s
theorem TokenAt.IV (s : Str) : TokenAt ['I', 'V'] s := natTokens_IV s

theorem keyOf_token_append {m s : Str} (h : TokenAt m s) : keyOf (m ++ s) = kPush (tokVal m) (keyOf s) := by
  unfold keyOf; rw [h, toKey_pushMatch]

theorem keyLt_token {p m m' s s' : Str} (hp : okPrefix p = true) (h : TokenAt m s) (h' : TokenAt m' s')
    (hv : tokVal m < tokVal m') : keyLt (keyOf (p ++ m ++ s)) (keyOf (p ++ m' ++ s')) := by
  rw [List.append_assoc, List.append_assoc]
  refine keyLt_prefix hp ?_
  rw [keyOf_token_append h, keyOf_token_append h']
  exact keyLt_kPush_of_lt hv _ _

theorem keyLe_token_same {p m s s' : Str} (hp : okPrefix p = true) (h : TokenAt m s) (h' : TokenAt m s') :
    keyLe (keyOf (p ++ m ++ s)) (keyOf (p ++ m ++ s')) = keyLe (keyOf s) (keyOf s') := by
  rw [List.append_assoc, List.append_assoc, keyLe_prefix hp, keyOf_token_append h, keyOf_token_append h', keyLe_kPush_same]

theorem notHead_iff (c : Char) (s : Str) : notHead c s ↔ s.head? ≠ some c := by
  cases s <;> simp [notHead]

theorem startsDigit_false_iff (s : Str) : startsDigit s = false ↔ ∀ c, s.head? = some c → isDigit c = false := by
  cases s <;> simp [startsDigit]

end AgpTpf.C20
