/-
  C04 helper: specification of `acgtRuns`; buffer independence of `mergeRun` / `processSeqBuffer`, first for the region triple,
  then lifted to `processSeqBuffer` on the whole indexer state.
-/
import AgpTpf.Model.Fasta
namespace AgpTpf.C04
open AgpTpf

theorem acgtRuns_nil_none (pos : Nat) : acgtRuns pos none [] = [] := rfl
theorem acgtRuns_nil_some (pos st : Nat) : acgtRuns pos (some st) [] = [(st, pos)] := rfl
theorem acgtRuns_cons_acgt_none (pos : Nat) (b : Nat) (bs : Bytes) (h : isACGT b = true) :
    acgtRuns pos none (b :: bs) = acgtRuns (pos + 1) (some pos) bs := by simp [acgtRuns, h]
theorem acgtRuns_cons_acgt_some (pos st : Nat) (b : Nat) (bs : Bytes) (h : isACGT b = true) :
    acgtRuns pos (some st) (b :: bs) = acgtRuns (pos + 1) (some st) bs := by simp [acgtRuns, h]
theorem acgtRuns_cons_other_none (pos : Nat) (b : Nat) (bs : Bytes) (h : isACGT b = false) :
    acgtRuns pos none (b :: bs) = acgtRuns (pos + 1) none bs := by simp [acgtRuns, h]
theorem acgtRuns_cons_other_some (pos st : Nat) (b : Nat) (bs : Bytes) (h : isACGT b = false) :
    acgtRuns pos (some st) (b :: bs) = (st, pos) :: acgtRuns (pos + 1) none bs := by simp [acgtRuns, h]

/-- runs inside `[lo, hi]`, each non-empty, sorted, and separated by at least one position. -/
def RunsIn : Nat → Nat → List (Nat × Nat) → Prop
  | _, _, [] => True
  | lo, hi, (s, e) :: rest => lo ≤ s ∧ s < e ∧ e ≤ hi ∧ RunsIn (e + 1) hi rest

theorem RunsIn.mono {lo lo' hi : Nat} {rs : List (Nat × Nat)} (h : RunsIn lo hi rs) (hl : lo' ≤ lo) :
    RunsIn lo' hi rs := by
  cases rs with
  | nil => trivial
  | cons r rest => exact ⟨Nat.le_trans hl h.1, h.2⟩

/-- a run that is open at `pos` started at some `st < pos` and is the first of the list -/
theorem acgtRuns_shape (bs : Bytes) : ∀ (pos : Nat) (cur : Option Nat),
    match cur with
    | none => RunsIn pos (pos + bs.length) (acgtRuns pos none bs)
    | some st => st < pos → RunsIn st (pos + bs.length) (acgtRuns pos (some st) bs) := by
  induction bs with
  | nil => intro pos cur; cases cur <;> simp [acgtRuns, RunsIn]
  | cons b bs ih =>
    intro pos cur
    have hlen : pos + (b :: bs).length = pos + 1 + bs.length := by simp only [List.length_cons]; omega
    rw [hlen]
    cases hb : isACGT b with
    | true =>
      cases cur with
      | none => rw [acgtRuns_cons_acgt_none _ _ _ hb]; exact ih (pos + 1) (some pos) (by omega)
      | some st => intro h; rw [acgtRuns_cons_acgt_some _ _ _ _ hb]; exact ih (pos + 1) (some st) (by omega)
    | false =>
      cases cur with
      | none => rw [acgtRuns_cons_other_none _ _ _ hb]; exact (ih (pos + 1) none).mono (by omega)
      | some st =>
        intro h; rw [acgtRuns_cons_other_some _ _ _ _ hb]
        exact ⟨Nat.le_refl _, h, by omega, ih (pos + 1) none⟩

theorem RunsIn.pairwise {lo hi : Nat} {rs : List (Nat × Nat)} (h : RunsIn lo hi rs) :
    rs.Pairwise (fun a b => a.2 < b.1) ∧ ∀ r ∈ rs, lo ≤ r.1 ∧ r.1 < r.2 ∧ r.2 ≤ hi := by
  induction rs generalizing lo with
  | nil => simp
  | cons r rest ih =>
    obtain ⟨s, e⟩ := r
    obtain ⟨h1, h2, h3, h4⟩ := h
    obtain ⟨ihp, ihb⟩ := ih h4
    refine ⟨?_, ?_⟩
    · rw [List.pairwise_cons]
      refine ⟨fun r hr => ?_, ihp⟩
      have := ihb r hr; simp only; omega
    · intro r hr
      rcases List.mem_cons.mp hr with rfl | hr
      · simp only; omega
      · have := ihb r hr; omega

theorem replicate_snoc {α} (n : Nat) (a : α) (l : List α) :
    List.replicate n a ++ a :: l = List.replicate (n + 1) a ++ l := by
  rw [List.replicate_succ', List.append_assoc]; rfl

/-- the mask a run list stands for between `lo` and `hi`: `true` inside a run, `false` between runs -/
def runsMask : Nat → Nat → List (Nat × Nat) → List Bool
  | lo, hi, [] => List.replicate (hi - lo) false
  | lo, hi, (s, e) :: rest => List.replicate (s - lo) false ++ (List.replicate (e - s) true ++ runsMask e hi rest)


theorem runsMask_acgtRuns (bs : Bytes) : ∀ (pos : Nat) (cur : Option Nat) (lo : Nat),
    match cur with
    | none => lo ≤ pos →
        runsMask lo (pos + bs.length) (acgtRuns pos none bs) = List.replicate (pos - lo) false ++ bs.map isACGT
    | some st => lo ≤ st → st ≤ pos →
        runsMask lo (pos + bs.length) (acgtRuns pos (some st) bs) =
          List.replicate (st - lo) false ++ (List.replicate (pos - st) true ++ bs.map isACGT) := by
  induction bs with
  | nil => intro pos cur lo; cases cur <;> simp [acgtRuns, runsMask]
  | cons b bs ih =>
    intro pos cur lo
    have hlen : pos + (b :: bs).length = pos + 1 + bs.length := by simp only [List.length_cons]; omega
    rw [hlen, List.map_cons]
    cases hb : isACGT b with
    | true =>
      cases cur with
      | none =>
        intro h
        rw [acgtRuns_cons_acgt_none _ _ _ hb, ih (pos + 1) (some pos) lo h (by omega), Nat.add_sub_cancel_left]; rfl
      | some st =>
        intro h1 h2
        rw [acgtRuns_cons_acgt_some _ _ _ _ hb, ih (pos + 1) (some st) lo h1 (by omega), replicate_snoc,
          Nat.sub_add_comm h2]
    | false =>
      cases cur with
      | none =>
        intro h
        rw [acgtRuns_cons_other_none _ _ _ hb, ih (pos + 1) none lo (by omega), replicate_snoc, Nat.sub_add_comm h]
      | some st =>
        intro h1 h2
        rw [acgtRuns_cons_other_some _ _ _ _ hb, runsMask, ih (pos + 1) none pos (by omega), Nat.add_sub_cancel_left]
        rfl

theorem getElem?_true_block (s e : Nat) (hse : s ≤ e) (L : List Bool) (p : Nat) :
    (List.replicate s false ++ (List.replicate (e - s) true ++ L))[p]? = some true ↔
      (s ≤ p ∧ p < e) ∨ (List.replicate e false ++ L)[p]? = some true := by
  simp only [List.getElem?_append, List.getElem?_replicate, List.length_replicate]
  by_cases h1 : p < s
  · simp [h1, show p < e by omega]
  · by_cases h2 : p < e
    · simp [h1, h2, show p - s < e - s by omega]
      omega
    · simp [h1, h2, show ¬ (p - s < e - s) by omega, show p - s - (e - s) = p - e by omega]

theorem runsMask_true_iff (hi p : Nat) (rs : List (Nat × Nat)) : ∀ {lo : Nat}, RunsIn lo hi rs →
    ((List.replicate lo false ++ runsMask lo hi rs)[p]? = some true ↔ ∃ r ∈ rs, r.1 ≤ p ∧ p < r.2) := by
  induction rs with
  | nil => intro lo _; simp [runsMask, List.getElem?_replicate]
  | cons r rest ih =>
    intro lo h
    obtain ⟨s, e⟩ := r
    obtain ⟨h1, h2, h3, h4⟩ := h
    rw [runsMask, ← List.append_assoc, List.replicate_append_replicate, Nat.add_sub_cancel' h1,
      getElem?_true_block s e (Nat.le_of_lt h2), ih (h4.mono (Nat.le_succ e))]
    simp only [List.mem_cons, exists_eq_or_imp]

abbrev RegState := Int × Option Int × List (Int × Int)

theorem acgtRuns_shift (d : Nat) (bs : Bytes) : ∀ (pos : Nat) (cur : Option Nat),
    acgtRuns (pos + d) (cur.map (· + d)) bs = (acgtRuns pos cur bs).map (fun r => (r.1 + d, r.2 + d)) := by
  induction bs with
  | nil => intro pos cur; cases cur <;> simp [acgtRuns]
  | cons b bs ih =>
    intro pos cur
    have h1 : pos + d + 1 = pos + 1 + d := by omega
    cases hb : isACGT b <;> cases cur <;> simp [acgtRuns, hb, h1]
    · exact ih (pos + 1) none
    · exact ih (pos + 1) none
    · exact ih (pos + 1) (some pos)
    · exact ih (pos + 1) (some _)

theorem mergeRun_shift (L : Int) (d : Nat) (σ : RegState) (r : Nat × Nat) :
    mergeRun L σ (r.1 + d, r.2 + d) = mergeRun (L + d) σ r := by
  obtain ⟨rs, re, regs⟩ := σ
  have h1 : L + ((r.1 + d : Nat) : Int) = L + d + r.1 := by omega
  have h2 : L + ((r.2 + d : Nat) : Int) = L + d + r.2 := by omega
  simp only [mergeRun, h1, h2]

theorem foldl_mergeRun_shift (L : Int) (d : Nat) (runs : List (Nat × Nat)) : ∀ (σ : RegState),
    (runs.map (fun r => (r.1 + d, r.2 + d))).foldl (mergeRun L) σ = runs.foldl (mergeRun (L + d)) σ := by
  intro σ; rw [List.foldl_map]; simp only [mergeRun_shift]

/-- the key step: a run closed at `n` and a run opened at `n` are merged into the same state as the joined run -/
theorem mergeRun_join (L : Int) (σ : RegState) (a n b : Nat) :
    mergeRun L (mergeRun L σ (a, n)) (n, b) = mergeRun L σ (a, b) := by
  obtain ⟨rs, re, regs⟩ := σ
  by_cases h : re = some (L + (a : Int)) <;> simp [mergeRun, h]

/-- a run open since `st` may be closed at `pos` and opened again there -/
theorem foldl_reopen (L : Int) (st pos : Nat) (ys : Bytes) : ∀ (k : Nat) (σ : RegState),
    (acgtRuns k (some st) ys).foldl (mergeRun L) σ =
      (acgtRuns k (some pos) ys).foldl (mergeRun L) (mergeRun L σ (st, pos)) := by
  induction ys with
  | nil => intro k σ; simp only [acgtRuns_nil_some, List.foldl_cons, List.foldl_nil, mergeRun_join]
  | cons y ys ih =>
    intro k σ
    cases hy : isACGT y with
    | true => rw [acgtRuns_cons_acgt_some _ _ _ _ hy, acgtRuns_cons_acgt_some _ _ _ _ hy]; exact ih (k + 1) σ
    | false =>
      rw [acgtRuns_cons_other_some _ _ _ _ hy, acgtRuns_cons_other_some _ _ _ _ hy, List.foldl_cons, List.foldl_cons,
        mergeRun_join]

theorem foldl_runs_append (L : Int) (ys : Bytes) (xs : Bytes) : ∀ (pos : Nat) (cur : Option Nat) (σ : RegState),
    (acgtRuns pos cur (xs ++ ys)).foldl (mergeRun L) σ =
      (acgtRuns (pos + xs.length) none ys).foldl (mergeRun L) ((acgtRuns pos cur xs).foldl (mergeRun L) σ) := by
  induction xs with
  | nil =>
    intro pos cur σ
    rw [List.nil_append, List.length_nil, Nat.add_zero]
    cases cur with
    | none => rfl
    | some st =>
      -- the run open at the end of `xs` has been closed there; `ys` continues it, or does not
      rw [acgtRuns_nil_some, List.foldl_cons, List.foldl_nil]
      cases ys with
      | nil => rfl
      | cons y ys =>
        cases hy : isACGT y with
        | true =>
          rw [acgtRuns_cons_acgt_some _ _ _ _ hy, acgtRuns_cons_acgt_none _ _ _ hy]
          exact foldl_reopen L st pos ys (pos + 1) σ
        | false => rw [acgtRuns_cons_other_some _ _ _ _ hy, acgtRuns_cons_other_none _ _ _ hy, List.foldl_cons]
  | cons x xs ih =>
    intro pos cur σ
    rw [List.cons_append, List.length_cons, Nat.add_comm xs.length, ← Nat.add_assoc]
    cases hx : isACGT x <;> cases cur
    · rw [acgtRuns_cons_other_none _ _ _ hx, acgtRuns_cons_other_none _ _ _ hx]; exact ih ..
    · rw [acgtRuns_cons_other_some _ _ _ _ hx, acgtRuns_cons_other_some _ _ _ _ hx]; exact ih ..
    · rw [acgtRuns_cons_acgt_none _ _ _ hx, acgtRuns_cons_acgt_none _ _ _ hx]; exact ih ..
    · rw [acgtRuns_cons_acgt_some _ _ _ _ hx, acgtRuns_cons_acgt_some _ _ _ _ hx]; exact ih ..

/-- **buffer independence on the region triple**: feeding `xs` at sequence length `L` and then `ys` at
    `L + |xs|` gives the same `(regionStart, regionEnd, seqRegions)` as feeding `xs ++ ys` at `L`. -/
theorem foldl_mergeRun_append (L : Int) (xs ys : Bytes) (σ : RegState) :
    (acgtRuns 0 none ys).foldl (mergeRun (L + xs.length)) ((acgtRuns 0 none xs).foldl (mergeRun L) σ) =
      (acgtRuns 0 none (xs ++ ys)).foldl (mergeRun L) σ := by
  have hs := acgtRuns_shift xs.length ys 0 none
  rw [Nat.zero_add] at hs
  rw [foldl_runs_append L ys xs 0 none σ, Nat.zero_add, show acgtRuns xs.length none ys = _ from hs, foldl_mergeRun_shift]

def feed (st : IdxState) (piece : Bytes) : IdxState := processSeqBuffer { st with buffer := piece }

def regTriple (st : IdxState) : RegState := (st.regionStart, st.regionEnd, st.seqRegions)

theorem feed_eq (st : IdxState) (piece : Bytes) :
    feed st piece =
      { st with regionStart := ((acgtRuns 0 none piece).foldl (mergeRun st.seqLength) (regTriple st)).1,
                regionEnd := ((acgtRuns 0 none piece).foldl (mergeRun st.seqLength) (regTriple st)).2.1,
                seqRegions := ((acgtRuns 0 none piece).foldl (mergeRun st.seqLength) (regTriple st)).2.2,
                seqLength := st.seqLength + (piece.length : Nat), buffer := [] } := rfl

theorem feed_append (st : IdxState) (xs ys : Bytes) : feed (feed st xs) ys = feed st (xs ++ ys) := by
  have key := foldl_mergeRun_append st.seqLength xs ys (regTriple st)
  have hlen : st.seqLength + (xs.length : Nat) + (ys.length : Nat) = st.seqLength + ((xs ++ ys).length : Nat) := by
    rw [List.length_append]; omega
  rw [feed_eq (feed st xs) ys, feed_eq st (xs ++ ys), ← key, ← hlen]
  rfl

theorem feed_pieces (st : IdxState) (p : Bytes) (ps : List Bytes) :
    ps.foldl feed (feed st p) = feed st (p ++ ps.flatten) := by
  induction ps generalizing p with
  | nil => simp
  | cons q qs ih =>
    rw [List.foldl_cons, feed_append, ih, List.flatten_cons, List.append_assoc]

end AgpTpf.C04
