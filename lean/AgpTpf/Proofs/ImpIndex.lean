/-
  T1c tie for `index_fasta_file` (fasta/index.py): lemmas for the translated source `Gen.Imp.index_fasta_file_imp`, and the
  tie itself in its strong form (`index_fasta_file_imp_eq`: all four result components).

  The source keeps 13 loop variables, eight of them `None`-able; the model keeps an `IdxState`.  `toSrc st` rebuilds the
  source's variables from the model state (all `None` before the first header, all set after it), `Inv` is the invariant
  that makes the two agree (a name is never empty, `residues_per_line` is set and `line_end_bytes > 0` once a header was
  seen, every region `(start, end)` has `start < end` — so `Fragment(name, start + 1, end, 1)` never raises).  What the model
  does on a line is read off Proofs/C04Step.lean (`indexLine_header`, `indexLine_seq`, `seqLine`).

  Model and source agree on files whose header-less prefix has the shape `preHeaderOk` (they differ on `[b"A", b"A\n"]`,
  see Properties/C04Imp.lean); binary file iteration yields nothing else (`bLines_terminated`, `preHeaderOk_of_terminated`).

  `index_fasta_file_imp_eq` is the simulation.  It is the only place that looks at the generated text, and it goes through
  it the way the Python runs: one statement at a time from the head of the goal (`bind_eq_of_ok`: this computation returns
  that; `ite_eq_of_pos` / `ite_eq_of_neg`: this test goes that way — Proofs/ImpRef.lean), so no step looks at more than the
  statement it is about.  The two inner loops are `PyRt.forIn_foldl_enc_bind` (the body hypotheses are discharged by the
  tactics `proc_body` / `row_body`, which only unfold `mergeRun` / `rowStep` and split cases), `if region_end: …append(…)`
  is `ite_closeReg`, and the name / line-ending part of a header line is `hdrTail_map`: the model's `hdrTail` written in
  the order the source evaluates it, so that the generated text agrees with it up to spelling.  The order of the loop
  variables is written down in `SrcState` / `SrcState.pack` (the 13 of the main loop) and `absReg` / `absRow` (the two
  inner loops), nowhere else; the joins after an `if` are projected by `simp`.
-/
import AgpTpf.Gen.Imp
import AgpTpf.Model.Fasta
import AgpTpf.Proofs.C04Runs
import AgpTpf.Proofs.C04Step
import AgpTpf.Proofs.ImpRef
namespace AgpTpf.ImpIndex
open AgpTpf PyRt AgpTpf.IndexProofs

/-- the source's 13 loop variables, in the translator's canonical order (sorted by the Lean text of their type, then by
    Python variable name, the synthetic `fh.tell()` last): `(idx_dict, asm.scaffolds, seq_regions, file_offset,
    line_end_bytes, region_end, region_start, residues_per_line, seq_length, name, nextOid, seq_buffer, fh.tell())` -/
abbrev SrcState := List (Str × FastaInfo) × List Scaffold × Option (List (Int × Int)) × Option Int × Option Int × Option Int ×
  Option Int × Option Int × Option Int × Option Str × Nat × PyRt.BytesIO × Int

def SrcState.pack (scaffolds : List Scaffold) (fileOffset : Option Int) (idx : List (Str × FastaInfo))
    (lineEndBytes : Option Int) (name : Option Str) (nextOid : Nat) (regionEnd regionStart rpl : Option Int)
    (buf : PyRt.BytesIO) (seqLength : Option Int) (seqRegions : Option (List (Int × Int))) (pos : Int) : SrcState :=
  (idx, scaffolds, seqRegions, fileOffset, lineEndBytes, regionEnd, regionStart, rpl, seqLength, name, nextOid, buf, pos)

/-- the source's variables, from the model state: before the first header everything the Python initialises with `None` is
    `None` (except `residues_per_line`, which a header-less unterminated line sets); after it everything is set.  A tuple
    LITERAL, so that the 13-variable pattern of the generated loop body reduces whatever `st.name` is. -/
def toSrc (st : IdxState) : SrcState :=
  SrcState.pack st.scaffolds (st.name.map fun _ => st.fileOffset) st.idx (st.name.map fun _ => st.lineEndBytes) st.name
    st.nextOid (st.name.bind fun _ => st.regionEnd) (st.name.map fun _ => st.regionStart) st.rpl
    { data := st.buffer, pos := st.buffer.length } (st.name.map fun _ => st.seqLength) (st.name.map fun _ => st.seqRegions)
    st.pos

/-- the region variables of `process_seq_buffer`: `mergeRun` keeps them as `(region_start, region_end, seq_regions)`, the
    translated loop carries them as `(seq_regions, region_end, region_start)` -/
abbrev absReg (t : Int × Option Int × List (Int × Int)) : Option (List (Int × Int)) × Option Int × Option Int :=
  (some t.2.2, t.2.1, some t.1)

/-- the variables of `store_info`'s row loop: `rowStep` keeps them as `(scffld, nextOid, prev)`, the translated loop carries
    them in the canonical order `(prev, nextOid, scffld)` -/
abbrev absRow (t : Scaffold × Nat × (Int × Int)) : (Int × Int) × Nat × Scaffold := (t.2.2, t.2.1, t.1)

theorem error_bind {α β : Type} (e : Err) (f : α → R β) : ((Except.error e : R α) >>= f) = .error e := rfl
theorem map_ok {α β : Type} (a : α) (f : α → β) : Except.map f (Except.ok a : R α) = .ok (f a) := rfl
theorem map_error {α β : Type} (e : Err) (f : α → β) : Except.map f (Except.error e : R α) = .error e := rfl

theorem needInt_some (i : Int) : PyRt.needInt (some i) = .ok i := rfl
theorem needInt_none : PyRt.needInt none = .error .type := rfl
theorem needObj_some {α : Type} (x : α) : PyRt.needObj (some x) = .ok x := rfl
theorem needIter_some {α : Type} (x : List α) : PyRt.needIter (some x) = .ok x := rfl

theorem write_at_end (d x : List Nat) :
    PyRt.BytesIO.write { data := d, pos := d.length } x = { data := d ++ x, pos := (d ++ x).length } := by
  simp [PyRt.BytesIO.write]

theorem seek_truncate (b : PyRt.BytesIO) : (b.seek 0).truncate 0 = { data := [], pos := ([] : List Nat).length } := by
  simp [PyRt.BytesIO.seek, PyRt.BytesIO.truncate]

theorem isBWs_eq : PyRt.isBWs = isBSpace := rfl

theorem ite_cons_ne_nil {α : Type} (c : Prop) [Decidable c] (a b : α) (x y : List α) :
    (if c then a :: x else b :: y) ≠ [] := by
  by_cases h : c
  · rw [if_pos h]; simp
  · rw [if_neg h]; simp

theorem bytesSplitWs_cons_nonws (c : Nat) (cs : Bytes) (h : isBSpace c = false) : PyRt.bytesSplitWs (c :: cs) ≠ [] := by
  simp only [PyRt.bytesSplitWs, isBWs_eq, h, Bool.false_eq_true, if_false]
  cases PyRt.bytesSplitWs cs with
  | nil => simp
  | cons w ws =>
    apply ite_cons_ne_nil

theorem bytesSplitWs_tokOf (l : Bytes) :
    (PyRt.bytesSplitWs l = [] ∧ C04.tokOf l = []) ∨ ∃ ws, PyRt.bytesSplitWs l = C04.tokOf l :: ws ∧ C04.tokOf l ≠ [] := by
  induction l with
  | nil => left; exact ⟨rfl, rfl⟩
  | cons c cs ih =>
    by_cases hc : isBSpace c = true
    · have h1 : PyRt.bytesSplitWs (c :: cs) = PyRt.bytesSplitWs cs := by
        simp [PyRt.bytesSplitWs, isBWs_eq, hc]
      have h2 : C04.tokOf (c :: cs) = C04.tokOf cs := by
        simp [C04.tokOf, hc]
      rw [h1, h2]; exact ih
    · have hc' : isBSpace c = false := by simpa using hc
      right
      have h2 : C04.tokOf (c :: cs) = c :: cs.takeWhile (fun b => !isBSpace b) := by
        simp [C04.tokOf, hc']
      rw [h2]
      cases cs with
      | nil => exact ⟨[], by simp [PyRt.bytesSplitWs, isBWs_eq, hc'], by simp⟩
      | cons d ds =>
        by_cases hd : isBSpace d = true
        · -- the token ends here
          have htw : (d :: ds).takeWhile (fun b => !isBSpace b) = [] := by simp [hd]
          rw [htw]
          rcases ih with ⟨e, _⟩ | ⟨ws, e, _⟩
          · exact ⟨[], by simp only [PyRt.bytesSplitWs, isBWs_eq, hc', Bool.false_eq_true, if_false] at e ⊢; simp [e], by simp⟩
          · refine ⟨C04.tokOf (d :: ds) :: ws, ?_, by simp⟩
            rw [PyRt.bytesSplitWs]
            simp only [isBWs_eq, hc', Bool.false_eq_true, if_false, e, hd, if_true]
        · have hd' : isBSpace d = false := by simpa using hd
          rcases ih with ⟨e, _⟩ | ⟨ws, e, _⟩
          · exact absurd e (bytesSplitWs_cons_nonws d ds hd')
          · have hft : C04.tokOf (d :: ds) = (d :: ds).takeWhile (fun b => !isBSpace b) := by
              simp [C04.tokOf, hd']
            refine ⟨ws, ?_, by simp⟩
            rw [PyRt.bytesSplitWs]
            simp only [isBWs_eq, hc', Bool.false_eq_true, if_false, e, hd', hft]

/-- `line[1:].split()[0]` -/
theorem pyGet_split_zero (l : Bytes) :
    pyGet (PyRt.bytesSplitWs l) 0 = if (C04.tokOf l).isEmpty then .error .index else .ok (C04.tokOf l) := by
  rcases bytesSplitWs_tokOf l with ⟨e, h⟩ | ⟨ws, e, h⟩
  · rw [e, h]; rfl
  · rw [e, pyGet_zero_cons]
    cases hft : C04.tokOf l with
    | nil => exact absurd hft h
    | cons _ _ => rfl

theorem bytesToStr_isEmpty {tok : Bytes} {name : Str} (h : bytesToStr tok = .ok name) : name.isEmpty = tok.isEmpty := by
  unfold bytesToStr at h
  split at h
  · cases h; cases tok <;> rfl
  · cases h

abbrev RegState := Int × Option Int × List (Int × Int)

/-- an open region and all closed ones are non-empty intervals (so `Fragment(name, start + 1, end, 1)` is accepted) -/
def RegInv (t : RegState) : Prop := (∀ r, t.2.1 = some r → t.1 < r) ∧ ∀ p ∈ t.2.2, p.1 < p.2

/-- `if region_end: seq_regions.append((region_start, region_end))` -/
def closeReg (t : RegState) : List (Int × Int) :=
  match t.2.1 with
  | some r => if r ≠ 0 then t.2.2 ++ [(t.1, r)] else t.2.2
  | none => t.2.2

theorem closeReg_lt (t : RegState) (h : RegInv t) : ∀ p ∈ closeReg t, p.1 < p.2 := by
  obtain ⟨rs, re, regs⟩ := t
  intro p hp
  unfold closeReg at hp
  cases re with
  | none => exact h.2 p hp
  | some r =>
    simp only at hp
    split at hp
    · rcases List.mem_append.mp hp with hp | hp
      · exact h.2 p hp
      · simp only [List.mem_singleton] at hp
        subst hp
        exact h.1 r rfl
    · exact h.2 p hp

theorem mergeRun_inv (L : Int) (t : RegState) (run : Nat × Nat) (h : RegInv t) (hr : run.1 < run.2) :
    RegInv (mergeRun L t run) := by
  obtain ⟨rs, re, regs⟩ := t
  obtain ⟨h1, h2⟩ := h
  simp only at h1 h2
  unfold mergeRun
  simp only
  split
  · next heq =>
    refine ⟨?_, h2⟩
    intro r hr'
    simp only [Option.some.injEq] at hr'
    have := h1 _ heq
    omega
  · refine ⟨?_, ?_⟩
    · intro r hr'
      simp only [Option.some.injEq] at hr'
      omega
    · exact closeReg_lt (rs, re, regs) ⟨h1, h2⟩

theorem foldl_mergeRun_inv (L : Int) (runs : List (Nat × Nat)) (hruns : ∀ r ∈ runs, r.1 < r.2) :
    ∀ t, RegInv t → RegInv (runs.foldl (mergeRun L) t) := by
  induction runs with
  | nil => intro t h; exact h
  | cons r rs ih =>
    intro t h
    exact ih (fun x hx => hruns x (List.mem_cons_of_mem _ hx)) _
      (mergeRun_inv L t r h (hruns r (List.mem_cons_self ..)))

theorem acgtRuns_pos (b : Bytes) : ∀ r ∈ acgtRuns 0 none b, r.1 < r.2 := by
  intro r hr
  have h := C04.acgtRuns_shape b 0 none
  exact ((C04.RunsIn.pairwise h).2 r hr).2.1

theorem gapType_eq : ("scaffold".toList : Str) = Gen.fastaGapType := String.toList_ofList

/-- one pass of `for region in seq_regions:` on `(scffld, nextOid, prev)` -/
def rowStep (name : Str) (t : Scaffold × Nat × (Int × Int)) (region : Int × Int) : Scaffold × Nat × (Int × Int) :=
  let sc : Scaffold :=
    if region.1 ≠ t.2.2.2 then
      { t.1 with rows := t.1.rows ++ [Row.gap { length := region.1 - t.2.2.2, gapType := Gen.fastaGapType }] }
    else t.1
  ({ sc with rows := sc.rows ++ [Row.frag { oid := t.2.1, name := name, start := region.1 + 1, stop := region.2,
                                             strand := 1, tags := [] }] }, t.2.1 + 1, region)

theorem mkFragment_ok (oid : Nat) (name : Str) (s e : Int) (h : s < e) :
    mkFragment oid name (s + 1) e 1 [] = .ok { oid := oid, name := name, start := s + 1, stop := e, strand := 1, tags := [] } := by
  unfold mkFragment
  rw [if_neg (by decide), if_neg (by omega)]

theorem foldl_rowStep (name : Str) (regs : List (Int × Int)) : ∀ (sc : Scaffold) (oid : Nat) (prev : Int × Int),
    regs.foldl (rowStep name) (sc, oid, prev) =
        ({ sc with rows := sc.rows ++ (regionRows name oid prev.2 regs).1 }, (regionRows name oid prev.2 regs).2.1,
          regs.getLastD prev) ∧
      (regs.getLastD prev).2 = (regionRows name oid prev.2 regs).2.2 := by
  induction regs with
  | nil => intro sc oid prev; simp [regionRows]
  | cons r rest ih =>
    intro sc oid prev
    obtain ⟨s, e⟩ := r
    obtain ⟨h1, h2⟩ := ih (rowStep name (sc, oid, prev) (s, e)).1 (oid + 1) (s, e)
    have hstep : rowStep name (sc, oid, prev) (s, e) = ((rowStep name (sc, oid, prev) (s, e)).1, oid + 1, (s, e)) := rfl
    rw [List.foldl_cons, hstep, h1]
    refine ⟨?_, by rw [List.getLastD_cons, h2]; rfl⟩
    simp only [regionRows, rowStep, List.getLastD_cons]
    by_cases hs : s ≠ prev.2
    · simp only [hs, if_true, ne_eq, not_false_eq_true, List.append_assoc]
    · simp only [hs, if_false, List.append_assoc, List.nil_append]

theorem processSeqBuffer_eq (st : IdxState) : processSeqBuffer st =
    { st with
      regionStart := ((acgtRuns 0 none st.buffer).foldl (mergeRun st.seqLength) (st.regionStart, st.regionEnd, st.seqRegions)).1,
      regionEnd := ((acgtRuns 0 none st.buffer).foldl (mergeRun st.seqLength) (st.regionStart, st.regionEnd, st.seqRegions)).2.1,
      seqRegions := ((acgtRuns 0 none st.buffer).foldl (mergeRun st.seqLength) (st.regionStart, st.regionEnd, st.seqRegions)).2.2,
      seqLength := st.seqLength + st.buffer.length, buffer := [] } := rfl

/-- the state `store_info()` leaves, given the region triple `t` that `process_seq_buffer()` computed -/
def stored (st : IdxState) (t : RegState) : IdxState :=
  let name := st.name.getD []
  let L := st.seqLength + st.buffer.length
  let rr := regionRows name st.nextOid 0 (closeReg t)
  { st with
    regionStart := t.1, regionEnd := t.2.1, seqLength := L, buffer := [],
    seqRegions := closeReg t,
    idx := st.idx ++ [(name, { length := L, fileOffset := st.fileOffset, rpl := st.rpl.getD 0,
                               mll := st.rpl.getD 0 + st.lineEndBytes })],
    scaffolds := st.scaffolds ++ [{ name := name, rows := if L - rr.2.2 ≠ 0 then rr.1 ++ [Row.gap { length := L - rr.2.2, gapType := Gen.fastaGapType }] else rr.1 }],
    nextOid := rr.2.1 }

theorem storeInfo_eq (st : IdxState) : storeInfo st =
    if (dGet? st.idx (st.name.getD [])).isSome then .error .value
    else .ok (stored st ((acgtRuns 0 none st.buffer).foldl (mergeRun st.seqLength) (st.regionStart, st.regionEnd, st.seqRegions))) := by
  rw [IndexProofs.storeInfo_eq]
  rfl

theorem finish_some {st : IdxState} {n : Str} (hn : st.name = some n) : finish st =
    if (dGet? st.idx n).isSome then .error .value
    else .ok (stored st ((acgtRuns 0 none st.buffer).foldl (mergeRun st.seqLength) (st.regionStart, st.regionEnd, st.seqRegions))) := by
  rw [finish, hn, storeInfo_eq, hn]; rfl

structure Inv (st : IdxState) : Prop where
  nameNe : ∀ n, st.name = some n → n ≠ []
  rplSome : ∀ n, st.name = some n → ∃ r, st.rpl = some r
  lebPos : ∀ n, st.name = some n → 0 < st.lineEndBytes
  reg : RegInv (st.regionStart, st.regionEnd, st.seqRegions)

theorem inv_init : Inv {} := by
  refine ⟨?_, ?_, ?_, ⟨?_, ?_⟩⟩ <;> intro _ h <;> cases h

theorem Inv.fold {st : IdxState} (h : Inv st) :
    RegInv ((acgtRuns 0 none st.buffer).foldl (mergeRun st.seqLength) (st.regionStart, st.regionEnd, st.seqRegions)) :=
  foldl_mergeRun_inv _ _ (acgtRuns_pos _) _ h.reg

theorem Inv.processSeqBuffer {st : IdxState} (h : Inv st) : Inv (processSeqBuffer st) := by
  rw [processSeqBuffer_eq]
  exact ⟨h.nameNe, h.rplSome, h.lebPos, h.fold⟩

theorem Inv.pos {st : IdxState} (h : Inv st) (p : Int) : Inv { st with pos := p } :=
  ⟨h.nameNe, h.rplSome, h.lebPos, h.reg⟩

/-! Where model and source agree: the part of the file before the first header.

  Before any header the source's `line_end_bytes` is `None`, so `line[:-line_end_bytes]` raises TypeError for every
  LF-terminated sequence line.  The model raises it only while `residues_per_line` is still `None`, i.e. for the FIRST
  sequence line; after an unterminated header-less line (which sets `residues_per_line`) it accepts a terminated one.
  Binary file iteration never yields that (only the last line of a file can be unterminated). -/

/-- after a header-less unterminated line: up to the first header (or empty line) no LF-terminated sequence line follows -/
def safeB : List Bytes → Bool
  | [] => true
  | l :: ls =>
    match l with
    | [] => true
    | b :: _ => if b = 62 then true else if l.getLast? = some 10 then false else safeB ls

/-- the lines before the first header: a header-less unterminated line is not followed by an LF-terminated sequence line -/
def preHeaderOk : List Bytes → Bool
  | [] => true
  | l :: ls =>
    match l with
    | [] => true
    | b :: _ => if b = 62 then true else if l.getLast? = some 10 then true else safeB ls

/-- what `for line in fh` yields: every line but the last ends with LF -/
def Terminated (lines : List Bytes) : Prop := ∀ l ∈ lines.dropLast, l.getLast? = some 10

theorem Terminated.tail {l : Bytes} {ls : List Bytes} (h : Terminated (l :: ls)) : Terminated ls := by
  intro x hx
  cases ls with
  | nil => simp at hx
  | cons y ys => exact h x (by rw [List.dropLast_cons_cons]; exact List.mem_cons_of_mem _ hx)

theorem Terminated.head {l y : Bytes} {ys : List Bytes} (h : Terminated (l :: y :: ys)) : l.getLast? = some 10 :=
  h l (by rw [List.dropLast_cons_cons]; exact List.mem_cons_self ..)

theorem terminated_single (l : Bytes) : Terminated [l] := by
  intro x hx; simp at hx

theorem terminated_cons_cons (l y : Bytes) (ys : List Bytes) :
    Terminated (l :: y :: ys) ↔ l.getLast? = some 10 ∧ Terminated (y :: ys) := by
  simp [Terminated, List.dropLast_cons_cons]

theorem bLines_terminated (file : Bytes) : Terminated (bLines file) := by
  induction file with
  | nil => intro x hx; simp [bLines] at hx
  | cons c cs ih =>
    by_cases hc : c = 10
    · subst hc
      simp only [bLines, if_true]
      cases hb : bLines cs with
      | nil => exact terminated_single _
      | cons y ys => rw [hb] at ih; exact (terminated_cons_cons _ _ _).mpr ⟨rfl, ih⟩
    · simp only [bLines, hc, if_false]
      cases hb : bLines cs with
      | nil => exact terminated_single _
      | cons l ls =>
        rw [hb] at ih
        cases ls with
        | nil => exact terminated_single _
        | cons y ys =>
          obtain ⟨h1, h2⟩ := (terminated_cons_cons _ _ _).mp ih
          refine (terminated_cons_cons _ _ _).mpr ⟨?_, h2⟩
          cases l with
          | nil => simp at h1
          | cons d ds => rw [List.getLast?_cons_cons]; exact h1

theorem preHeaderOk_of_terminated (lines : List Bytes) (h : Terminated lines) : preHeaderOk lines = true := by
  cases lines with
  | nil => rfl
  | cons l ls =>
    cases l with
    | nil => rfl
    | cons b tl =>
      simp only [preHeaderOk]
      by_cases hb : b = 62
      · simp [hb]
      · simp only [hb, if_false]
        by_cases hl : (b :: tl).getLast? = some 10
        · simp [hl]
        · simp only [hl, if_false]
          cases ls with
          | nil => rfl
          | cons y ys => exact absurd h.head hl

/-- the loop invariant: `Inv`, and in the header-less part of the file the rest of the lines is of the agreed shape -/
def InvL (st : IdxState) (rest : List Bytes) : Prop :=
  Inv st ∧ (st.name = none → (st.rpl = none → preHeaderOk rest = true) ∧ (st.rpl ≠ none → safeB rest = true))

theorem invL_init (lines : List Bytes) (h : preHeaderOk lines = true) : InvL {} lines :=
  ⟨inv_init, fun _ => ⟨fun _ => h, fun h' => absurd rfl h'⟩⟩

theorem Inv.stored {st : IdxState} (h : Inv st) (t : RegState) (ht : RegInv t) : Inv (stored st t) :=
  ⟨h.nameNe, h.rplSome, h.lebPos, ⟨ht.1, closeReg_lt t ht⟩⟩

theorem Inv.storeInfo {st st' : IdxState} (h : Inv st) (e : storeInfo st = .ok st') : Inv st' := by
  rw [storeInfo_eq] at e
  split at e
  · cases e
  · cases e; exact h.stored _ h.fold

theorem invL_hdrTail {line : Bytes} {st st' : IdxState} (e : hdrTail line st = .ok st') (rest : List Bytes) : InvL st' rest := by
  obtain ⟨name, b2, hne, rfl⟩ := hdrTail_ok e
  refine ⟨⟨?_, ?_, ?_, ⟨?_, ?_⟩⟩, fun hn => nomatch hn⟩
  · intro n hn; cases hn; exact hne
  · intro n _; exact ⟨0, rfl⟩
  · intro n _; show (0 : Int) < if b2 = 13 then 2 else 1; split <;> decide
  · intro r hr; cases hr
  · intro p hp; cases hp

theorem Inv.addKeep {st : IdxState} (h : Inv st) (n : Nat) (keep : Bytes) (r : Int) : Inv (addKeep st n keep r) :=
  ⟨h.nameNe, fun _ _ => ⟨_, rfl⟩, h.lebPos, h.reg⟩

/-- on an LF-terminated sequence line the model raises TypeError while `residues_per_line` is unset, the source while
    `line_end_bytes` is: under the invariant that is the same -/
theorem InvL.rpl_none_iff {st : IdxState} {b0 : Nat} {tl : Bytes} {rest : List Bytes} (h : InvL st ((b0 :: tl) :: rest))
    (hb : b0 ≠ 62) (hl : (b0 :: tl).getLast? = some 10) : st.rpl = none ↔ st.name = none := by
  refine ⟨fun hr => ?_, fun hn => ?_⟩
  · cases hn : st.name with
    | none => rfl
    | some n => obtain ⟨r, hr'⟩ := h.1.rplSome n hn; rw [hr] at hr'; cases hr'
  · cases hr : st.rpl with
    | none => rfl
    | some r => have := (h.2 hn).2 (by rw [hr]; simp); simp [safeB, hb, hl] at this

theorem InvL.safeB_rest {st : IdxState} {b0 : Nat} {tl : Bytes} {rest : List Bytes} (h : InvL st ((b0 :: tl) :: rest))
    (hn : st.name = none) (hb : b0 ≠ 62) (hl : (b0 :: tl).getLast? ≠ some 10) : safeB rest = true := by
  cases hr : st.rpl with
  | none => simpa [preHeaderOk, hb, hl] using (h.2 hn).1 hr
  | some r => simpa [safeB, hb, hl] using (h.2 hn).2 (by rw [hr]; simp)

theorem invL_step (bs : Int) {st st' : IdxState} {line : Bytes} {rest : List Bytes}
    (h : InvL st (line :: rest)) (e : indexLine bs st line = .ok st') : InvL st' rest := by
  cases line with
  | nil => cases e
  | cons b0 tl =>
    by_cases hb : b0 = 62
    · subst hb
      rw [indexLine_header] at e
      obtain ⟨st2, _, e⟩ := bind_eq_ok.1 e
      exact invL_hdrTail e rest
    · rw [indexLine_seq bs st tl hb] at e
      obtain ⟨r, ⟨rfl, _⟩ | ⟨rfl, hn⟩⟩ := seqLine_ok e
      · -- kept without a header: the line was unterminated, or `seqLine` had raised
        refine ⟨h.1.addKeep _ _ _, fun hn => ⟨fun hr => (nomatch hr), fun _ => h.safeB_rest hn hb fun hl => ?_⟩⟩
        rw [seqLine_pre_term bs ((h.rpl_none_iff hb hl).2 hn) hl] at e
        cases e
      · refine ⟨(h.1.addKeep _ _ _).processSeqBuffer, fun hn' => ?_⟩
        rw [show st.name = none from hn'] at hn
        cases hn

/-- `if region_end: seq_regions.append((region_start, region_end))` in the translated form: `c` is the truthiness test,
    `x` the `append` with its `None` checks -/
theorem ite_closeReg {c : Prop} [Decidable c] (rs : Int) (re : Option Int) (regs : List (Int × Int))
    (x : R (Option (List (Int × Int)))) (hc : c ↔ ∃ v, re = some v ∧ v ≠ 0)
    (hx : ∀ v, re = some v → v ≠ 0 → x = .ok (some (regs ++ [(rs, v)]))) :
    (if c then x else .ok (some regs)) = .ok (some (closeReg (rs, re, regs))) := by
  by_cases h : c
  · obtain ⟨v, hv, hv0⟩ := hc.mp h
    rw [if_pos h, hx v hv hv0, hv]
    simp [closeReg, hv0]
  · rw [if_neg h]
    cases re with
    | none => rfl
    | some v =>
      by_cases hv0 : v = 0
      · subst hv0; rfl
      · exact absurd (hc.mpr ⟨v, rfl, hv0⟩) h

/-- `if rem := …: scffld.add_row(Gap(rem, "scaffold"))` -/
theorem ite_scaffold (c : Prop) [Decidable c] (n : Str) (a b : List Row) :
    (if c then ({ name := n, rows := a } : Scaffold) else { name := n, rows := b }) = { name := n, rows := if c then a else b } := by
  split <;> rfl

theorem forIn_bind_error {α σ ρ β : Type} (e : Err) (xs : List α) (s : σ) (body : α → σ → R (Ctl σ ρ)) (k : Done σ ρ → R β)
    (hb : ∀ x s, body x s = .error e) (hk : ∀ s, k (.fell s) = .error e) : (PyRt.forIn xs s body >>= k) = .error e := by
  cases xs with
  | nil => exact hk s
  | cons x xs => rw [PyRt.forIn, hb]; rfl

/-- the body of `process_seq_buffer`'s loop, on the region triple, is `mergeRun` (`L` = the current `seq_length`) -/
macro "proc_body" L:term : tactic => `(tactic| (
  intro m _ t
  obtain ⟨rs, re, regs⟩ := t
  simp only [absReg, mergeRun, ok_bind, needInt_some, needObj_some, Int.ofNat_eq_natCast]
  by_cases h1 : re = some ($L + (m.fst : Int))
  · subst h1; simp only [decide_true, if_true, ok_bind]
  · have h1' : ¬ some ($L + (m.fst : Int)) = re := fun h => h1 h.symm
    cases re with
    | none => simp [ok_bind]
    | some v =>
      have h2 : ¬ v = $L + (m.fst : Int) := fun h => h1 (by rw [h])
      have h2' : ¬ $L + (m.fst : Int) = v := fun h => h2 h.symm
      by_cases hv : v = 0
      · subst hv; simp [h2, h2', ok_bind]
      · simp [h2, h2', hv, ok_bind, needInt_some]))

/-- the body of `store_info`'s row loop is `rowStep` (`hcl`: every region is a non-empty interval) -/
macro "row_body" hcl:term : tactic => `(tactic| (
  intro region hmem t
  obtain ⟨sc, oid, prev⟩ := t
  have hlt := $hcl region hmem
  -- the loop variable may be bound whole (`for region in …: start, end = region`) or by a tuple pattern
  -- (`for start, end in …`): destructure it, so that `region.1` and `match region with | (s, e) => …` both compute
  obtain ⟨rstart, rend⟩ := region
  replace hlt : rstart < rend := hlt
  simp only [absRow, rowStep, mkFragment_ok _ _ _ _ hlt, ok_bind, ite_ok_bind, gapType_eq]
  by_cases hg : rstart = prev.snd <;> simp [hg]))

/-- `name = line[1:].split()[0].decode()` … `line_end_bytes = 2 if line[-2] == 13 else 1`: `hdrTail` in the order the source
    evaluates it — the token (IndexError when there is none), `.decode()`, the test `if not name` (dead: a token is never
    empty), `line[-2]` — with whatever is done with the new state (`G`) -/
theorem hdrTail_map {β : Type} (tl : Bytes) (v : IdxState) (G : IdxState → β) :
    (hdrTail (62 :: tl) v).map G =
      pyGet (bytesSplitWs tl) 0 >>= fun tok => bytesToStr tok >>= fun name =>
        if name.isEmpty then .error .value else
          (pyGet (62 :: tl) (-2)).map Int.ofNat >>= fun b2 =>
            .ok (G { v with name := some name, seqLength := 0, rpl := some 0, regionStart := 0, regionEnd := none,
                            seqRegions := [], fileOffset := v.pos, lineEndBytes := if b2 = 13 then 2 else 1 }) := by
  rw [pyGet_split_zero, hdrTail, List.drop_succ_cons, List.drop_zero]
  cases htok : (C04.tokOf tl).isEmpty with
  | true => rfl
  | false =>
    simp only [Bool.false_eq_true, if_false, ok_bind]
    cases hstr : bytesToStr (C04.tokOf tl) with
    | error e => rfl
    | ok name =>
      rw [ok_bind, ok_bind, bytesToStr_isEmpty hstr, htok]
      cases pyGet (62 :: tl) (-2) with
      | error e => rfl
      | ok b2 =>
        have : (Int.ofNat b2 = 13) = (b2 = 13) := by simp; omega
        simp only [map_ok, ok_bind, this]
        rfl

theorem isEmpty_snoc {α : Type} (l : List α) (x : α) : (l ++ [x]).isEmpty = false := by
  cases l <;> rfl

theorem index_fasta_file_imp_eq (bs : Int) (lines : List Bytes) (h0 : preHeaderOk lines = true) :
    Gen.Imp.index_fasta_file_imp 0 bs lines =
      (indexFasta lines bs).map (fun st => (st.nextOid, st.idx, st.pos, st.scaffolds)) := by
  rw [indexFasta_eq, bind_assoc, map_bind]
  unfold Gen.Imp.index_fasta_file_imp
  refine forIn_abs_fin toSrc (indexLine bs) InvL _ _ _ lines {} (invL_init lines h0) ?hstep ?hfin
  case hfin =>
    intro st hinv
    have hI := hinv.1
    dsimp only [toSrc, SrcState.pack]
    cases hn : st.name with
    | none =>
      simp only [finish, hn, Option.isSome_none, Bool.false_eq_true, if_false, ok_bind]
      cases st.idx.isEmpty <;> rfl
    | some n =>
      obtain ⟨r, hr⟩ := hI.rplSome n hn
      rw [finish_some hn]
      -- `if name:`
      refine ite_eq_of_pos (by rw [List.isEmpty_eq_false_iff.2 (hI.nameNe n hn)]; rfl) ?_
      -- process_seq_buffer()
      refine (forIn_foldl_enc_bind absReg (mergeRun st.seqLength) ?hbody (st.regionStart, st.regionEnd, st.seqRegions) _).trans ?_
      case hbody =>
        simp only [Option.map_some]
        proc_body st.seqLength
      have hreg := hI.fold
      generalize (acgtRuns 0 none st.buffer).foldl (mergeRun st.seqLength) (st.regionStart, st.regionEnd, st.seqRegions) = t
        at hreg ⊢
      obtain ⟨rs', re', regs'⟩ := t
      -- `seq_length += len(seq_bytes)`
      refine bind_eq_of_ok rfl ?_
      -- `if region_end: seq_regions.append(...)`
      refine bind_eq_of_ok (ite_closeReg rs' re' regs' _ ?hc ?hx) ?_
      case hc => cases re' <;> simp
      case hx => intro v hv hv0; subst hv; rfl
      have hcl := closeReg_lt _ hreg
      by_cases hdup : (dGet? st.idx n).isSome = true
      · rw [if_pos hdup, if_pos hdup]; rfl
      · rw [if_neg hdup, if_neg hdup]
        simp only [hr, Option.map_some, needInt_some, needIter_some, ok_bind]
        -- `for region in seq_regions`
        refine (forIn_foldl_enc_bind absRow (rowStep n) ?hbody ({ name := n }, st.nextOid, 0, 0) _).trans ?_
        case hbody => row_body hcl
        obtain ⟨h1, h3⟩ := foldl_rowStep n (closeReg (rs', re', regs')) { name := n } st.nextOid (0, 0)
        rw [h1]
        simp only [ite_ok_bind, h3, List.nil_append, dSet_of_none _ (by simpa using hdup), gapType_eq,
          Int.ofNat_eq_natCast, stored, decide_eq_true_eq, ite_scaffold, isEmpty_snoc, Bool.not_false, if_true,
          Bool.false_eq_true, if_false, map_ok, hn, hr, Option.getD_some]
  case hstep =>
    intro line rest st hinv
    refine ⟨?_, fun t' e => invL_step bs hinv e⟩
    have hI := hinv.1
    cases line with
    | nil => rfl
    | cons b0 tl =>
      -- `line[0]`
      refine bind_eq_of_ok (a := Int.ofNat b0) rfl ?_
      by_cases hb : b0 = 62
      · subst hb
        refine ite_eq_of_pos rfl ?_
        rw [indexLine_header, finish_bump]
        cases hn : st.name with
        | none =>
          simp only [finish, hn, Option.isSome_none, Bool.false_eq_true, if_false, map_ok, ok_bind]
          rw [hdrTail_map, slice_one_none_cons]
          simp only [Bool.not_not, decide_eq_true_eq]
          rfl
        | some n =>
          obtain ⟨r, hr⟩ := hI.rplSome n hn
          rw [finish_some hn]
          -- `if name:`
          refine ite_eq_of_pos (by rw [List.isEmpty_eq_false_iff.2 (hI.nameNe n hn)]; rfl) ?_
          -- process_seq_buffer()
          refine (forIn_foldl_enc_bind absReg (mergeRun st.seqLength) ?hbody (st.regionStart, st.regionEnd, st.seqRegions) _).trans ?_
          case hbody =>
            simp only [Option.map_some]
            proc_body st.seqLength
          have hreg := hI.fold
          generalize (acgtRuns 0 none st.buffer).foldl (mergeRun st.seqLength) (st.regionStart, st.regionEnd, st.seqRegions) = t
            at hreg ⊢
          obtain ⟨rs', re', regs'⟩ := t
          -- `seq_length += len(seq_bytes)`
          refine bind_eq_of_ok rfl ?_
          -- `if region_end: seq_regions.append(...)`
          refine bind_eq_of_ok (ite_closeReg rs' re' regs' _ ?hc ?hx) ?_
          case hc => cases re' <;> simp
          case hx => intro v hv hv0; subst hv; rfl
          have hcl := closeReg_lt _ hreg
          by_cases hdup : (dGet? st.idx n).isSome = true
          · rw [if_pos hdup, if_pos hdup]; rfl
          · rw [if_neg hdup, if_neg hdup]
            simp only [hr, Option.map_some, needInt_some, needIter_some, map_ok, ok_bind]
            -- `for region in seq_regions`
            refine (forIn_foldl_enc_bind absRow (rowStep n) ?hbody ({ name := n }, st.nextOid, 0, 0) _).trans ?_
            case hbody => row_body hcl
            obtain ⟨h1, h3⟩ := foldl_rowStep n (closeReg (rs', re', regs')) { name := n } st.nextOid (0, 0)
            rw [h1]
            simp only [ite_ok_bind, h3, List.nil_append, dSet_of_none _ (by simpa using hdup), seek_truncate,
              gapType_eq, Int.ofNat_eq_natCast]
            rw [hdrTail_map, slice_one_none_cons]
            simp only [Bool.not_not, decide_eq_true_eq, ite_scaffold, stored, hn, hr, Option.getD_some]
            rfl
      · refine ite_eq_of_neg (by simp; omega) ?_
        obtain ⟨x, hx1, hx2⟩ := pyGet_neg_one_of_ne_nil (l := b0 :: tl) (by simp)
        -- `line[-1]`
        refine bind_eq_of_ok (a := Int.ofNat x) (by rw [hx2]; rfl) ?_
        have hx : Int.ofNat x = 10 ↔ (b0 :: tl).getLast? = some 10 := by rw [hx1]; simp; omega
        rw [indexLine_seq bs st tl hb]
        -- `seq = line[:-line_end_bytes] if line[-1] == 10 else line`: TypeError on a terminated line before any header
        by_cases hpre : st.rpl = none ∧ (b0 :: tl).getLast? = some 10
        · rw [seqLine, if_pos hpre]
          refine bind_eq_of_error (ite_eq_of_pos (by simpa using hx.2 hpre.2) ?_)
          rw [(hinv.rpl_none_iff hb hpre.2).1 hpre.1]; rfl
        rw [seqLine, if_neg hpre]
        dsimp only [addKeep]
        refine bind_eq_of_ok (a := keepOf st.lineEndBytes (b0 :: tl)) ?_ ?_
        · cases hn : st.name with
          | none =>
            have hl : ¬ (b0 :: tl).getLast? = some 10 := fun hl => hpre ⟨(hinv.rpl_none_iff hb hl).2 hn, hl⟩
            rw [keepOf, if_neg hl]
            exact ite_eq_of_neg (by simpa using fun h => hl (hx.1 h)) rfl
          | some n =>
            have hleb := hI.lebPos n hn
            obtain ⟨k, hk⟩ := Int.eq_ofNat_of_zero_le (Int.le_of_lt hleb)
            simp only [Option.map_some, keepOf, hx1, hk, needInt_some, ok_bind, slice_none_neg _ k (by omega), Int.toNat_natCast]
            by_cases hx' : x = 10
            · subst hx'; rfl
            · rw [if_neg (by simp; omega), if_neg (by simpa using hx')]
        -- `residues_per_line`
        refine bind_eq_of_ok (a := some (if st.rpl.getD 0 = 0 then ((keepOf st.lineEndBytes (b0 :: tl)).length : Int) else st.rpl.getD 0)) ?_ ?_
        · cases st.rpl with
          | none => rfl
          | some r => by_cases h : r = 0 <;> simp [h]
        simp only [write_at_end]
        by_cases hov : ((st.buffer ++ keepOf st.lineEndBytes (b0 :: tl)).length : Int) > bs
        · rw [if_pos hov]
          -- `process_seq_buffer()`: `seq_length + …` raises TypeError before any header
          cases hn : st.name with
          | none =>
            refine bind_eq_of_error (ite_eq_of_pos (by simpa using hov) (forIn_bind_error .type _ _ _ _ ?_ ?_))
            · intro m s; rfl
            · intro s; rfl
          | some n =>
            refine bind_eq_of_ok (ite_eq_of_pos (by simpa using hov)
              ((forIn_foldl_enc_bind absReg (mergeRun st.seqLength) ?hbody (st.regionStart, st.regionEnd, st.seqRegions) _).trans rfl)) ?_
            case hbody =>
              simp only [Option.map_some]
              proc_body st.seqLength
            simp only [toSrc, SrcState.pack, processSeqBuffer_eq, seek_truncate]
            rfl
        · rw [if_neg hov]
          refine bind_eq_of_ok (ite_eq_of_neg (by simpa using hov) rfl) ?_
          simp only [toSrc, SrcState.pack, map_ok]
          rfl

end AgpTpf.ImpIndex
