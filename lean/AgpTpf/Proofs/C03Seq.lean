/-
  `FastaIndex.sequence_bytes` (fasta/index.py) returns the requested slice of a laid-out record — helper for C03 / C04 / C13.
  Users go through `StreamProofs.seq_chunk`: an index entry that describes the record (`RecordOK`) and 1-based closed coordinates.
-/
import AgpTpf.Proofs.C03Wrap
import AgpTpf.Proofs.Lib.Bytes
namespace AgpTpf.SeqProofs
open AgpTpf

/-- The residues `res` of one record are laid out in `file` from byte `off` in lines of `R` residues, consecutive
    lines `M` bytes apart (`M - R` line-terminator bytes that are not residues):
    residue number `L * R + c` (0-based, column `c < R` of line `L`) is the file byte at `off + M * L + c`. -/
def LaidOut (file : Bytes) (off R M : Nat) (res : Bytes) : Prop :=
  ∀ L c : Nat, c < R → L * R + c < res.length → file[off + M * L + c]? = res[L * R + c]?

def slice0 (res : Bytes) (s e : Nat) : Bytes := (res.drop s).take (e - s)

theorem slice0_append (res : Bytes) (a b c : Nat) (h1 : a ≤ b) (h2 : b ≤ c) :
    slice0 res a b ++ slice0 res b c = slice0 res a c := by
  unfold slice0
  have : c - a = (b - a) + (c - b) := by omega
  rw [this, List.take_add, List.drop_drop]
  congr 3
  omega

theorem slice0_length (res : Bytes) (s e : Nat) (he : e ≤ res.length) : (slice0 res s e).length = e - s := by
  unfold slice0
  simp only [List.length_take, List.length_drop]; omega

/-- the file position of column `c` of line `L`, in the form `sequence_bytes` computes it -/
theorem pos_line (off M L c : Nat) :
    (off : Int) + (c : Int) + (M : Int) * (L : Int) = ((off + M * L + c : Nat) : Int) := by
  push_cast; omega

/-- a read of `n` bytes from column `c` to the end of line `L`, then the seek over the line terminator: the start of line `L + 1` -/
theorem pos_next_line (off R M L c n : Nat) (hn : c + n = R) :
    ((off + M * L + c : Nat) : Int) + (n : Int) + ((M : Int) - (R : Int)) = ((off + M * (L + 1) : Nat) : Int) := by
  rw [Nat.mul_succ]; omega

theorem readAt_line {file res : Bytes} {off R M : Nat} (h : LaidOut file off R M res)
    (L c n : Nat) (hc : c + n ≤ R) (hn : L * R + c + n ≤ res.length) :
    readAt file ((off + M * L + c : Nat) : Int) (n : Int) = slice0 res (L * R + c) (L * R + c + n) := by
  have hneg : ¬ ((n : Int) < 0) := by omega
  simp only [readAt, hneg, if_false, Int.toNat_natCast, slice0, Nat.add_sub_cancel_left]
  apply List.ext_getElem?
  intro i
  simp only [List.getElem?_take, List.getElem?_drop]
  split
  · rw [Nat.add_assoc _ c i, Nat.add_assoc _ c i, h L (c + i) (by omega) (by omega)]
  · rfl

/-- the whole-lines loop from the start of line `L` reads the `k` lines `L … L + k - 1`; every relative seek lands on a line
    start, so none goes below 0 -/
theorem readWholeLines_spec {file res : Bytes} {off R M : Nat} (h : LaidOut file off R M res) :
    ∀ (k L : Nat) (acc : ReadLog), (L + k) * R ≤ res.length →
      readWholeLinesChk file (R : Int) ((M : Int) - (R : Int)) k ((off + M * L : Nat) : Int) acc
        = .ok (((off + M * (L + k) : Nat) : Int),
           { data := acc.data ++ slice0 res (L * R) ((L + k) * R),
             reads := acc.reads ++ List.replicate k (R : Int) })
  | 0, L, acc, _ => by simp [readWholeLinesChk, slice0]
  | k + 1, L, acc, hle => by
    have e1 : L + (k + 1) = L + 1 + k := by omega
    have e2 : (L + 1) * R = L * R + R := Nat.succ_mul L R
    have e3 : (L + 1 + k) * R = (L + 1) * R + k * R := Nat.add_mul _ _ _
    rw [e1] at hle ⊢
    have hd : readAt file ((off + M * L : Nat) : Int) (R : Int) = slice0 res (L * R) ((L + 1) * R) := by
      rw [e2]; exact readAt_line h L 0 R (by omega) (by omega)
    have hp : ((off + M * L : Nat) : Int) + (R : Int) + ((M : Int) - (R : Int)) = ((off + M * (L + 1) : Nat) : Int) :=
      pos_next_line off R M L 0 R (Nat.zero_add R)
    have hnn : ¬ (((off + M * (L + 1) : Nat) : Int) < 0) := by omega
    rw [readWholeLinesChk, hd, slice0_length _ _ _ (by omega), e2, Nat.add_sub_cancel_left, ← e2, hp, if_neg hnn,
      readWholeLines_spec h k (L + 1) _ hle]
    simp only [List.append_assoc, slice0_append res (L * R) ((L + 1) * R) ((L + 1 + k) * R) (by omega) (by omega),
      List.replicate_succ, List.singleton_append]

/-- `last_line = (end - 1) // rpl` for `end = (q + 1 + d) * R + re` beyond line `q`: it is not line `q`, and the last
    whole line (`last_line`, or the one before it when `end % rpl ≠ 0`) is line `q + d` in both cases -/
theorem last_line (R q d re : Nat) (hre : re < R) (hne : 0 < d * R + re) :
    ∃ ql : Nat, pyDiv ((((q + 1 + d) * R + re : Nat) : Int) - 1) R = ql ∧ q ≠ ql ∧
      (if (re : Int) = 0 then (ql : Int) else ql - 1) = ((q + d : Nat) : Int) := by
  by_cases h0 : re = 0
  · have hd : d ≠ 0 := by rintro rfl; omega
    have e : (q + 1 + d) * R = (q + d) * R + R := by rw [Nat.add_right_comm, Nat.succ_mul]
    exact ⟨q + d, (pyDivMod_line R (q + d) (R - 1) (by omega) _ (by omega)).1, by omega, by simp [h0]⟩
  · exact ⟨q + 1 + d, (pyDivMod_line R (q + 1 + d) (re - 1) (by omega) _ (by omega)).1, by omega,
      by rw [if_neg (by omega)]; omega⟩

theorem sequenceBytes_one_line {file res : Bytes} {off R M : Nat} (info : FastaInfo)
    (hoff : info.fileOffset = off) (hrpl : info.rpl = R) (hmll : info.mll = M) (h : LaidOut file off R M res)
    (q r n : Nat) (hn : 0 < n) (hr : r + n ≤ R) (he : q * R + r + n ≤ res.length) :
    sequenceBytes file info (((q * R + r : Nat) : Int) + 1) ((q * R + r + n : Nat) : Int) =
      .ok { data := slice0 res (q * R + r) (q * R + r + n), reads := [(n : Int)] } := by
  obtain ⟨h1d, h1m⟩ := pyDivMod_line R q r (by omega) (((q * R + r : Nat) : Int) + 1 - 1) (Int.add_sub_cancel _ _)
  obtain ⟨h2d, -⟩ := pyDivMod_line R q (r + n - 1) (by omega) (((q * R + r + n : Nat) : Int) - 1) (by omega)
  have hR0 : ¬ ((R : Int) = 0) := by omega
  have hnn : ¬ (((off + M * q + r : Nat) : Int) < 0) := by omega
  have hlen : ((q * R + r + n : Nat) : Int) - (((q * R + r : Nat) : Int) + 1 - 1) = (n : Int) := by omega
  unfold sequenceBytes
  simp only [hoff, hrpl, hmll, h1d, h1m, h2d, pos_line, hR0, hnn, hlen, if_false, if_true, bind, Except.bind, pure,
    Except.pure, throw, throwThe, MonadExceptOf.throw, readAt_line h q r n hr he]

theorem sequenceBytes_lines {file res : Bytes} {off R M : Nat} (info : FastaInfo)
    (hoff : info.fileOffset = off) (hrpl : info.rpl = R) (hmll : info.mll = M)
    (h : LaidOut file off R M res) (q r d re : Nat) (hr : r < R) (hre : re < R) (hne : 0 < d * R + re)
    (he : (q + 1 + d) * R + re ≤ res.length) :
    sequenceBytes file info (((q * R + r : Nat) : Int) + 1) (((q + 1 + d) * R + re : Nat) : Int) =
      .ok { data := slice0 res (q * R + r) ((q + 1 + d) * R + re),
            reads := [(R : Int) - (r : Int)] ++ List.replicate d (R : Int) ++ if re = 0 then [] else [(re : Int)] } := by
  have e1 : (q + 1) * R = q * R + R := Nat.succ_mul _ _
  have e2 : (q + 1 + d) * R = (q + 1) * R + d * R := Nat.add_mul _ _ _
  have le1 : q * R + r ≤ (q + 1) * R := by omega
  have le2 : (q + 1) * R ≤ (q + 1 + d) * R := by omega
  have le3 : (q + 1 + d) * R ≤ res.length := Nat.le_trans (Nat.le_add_right _ _) he
  have hd1 : readAt file ((off + M * q + r : Nat) : Int) ((R : Int) - (r : Int))
      = slice0 res (q * R + r) ((q + 1) * R) := by
    have hrr : r + (R - r) = R := Nat.add_sub_cancel' (Nat.le_of_lt hr)
    have hqr : q * R + r + (R - r) = (q + 1) * R := by rw [Nat.add_assoc, hrr, e1]
    rw [← Int.natCast_sub (Nat.le_of_lt hr), readAt_line h q r _ (Nat.le_of_eq hrr) (hqr ▸ Nat.le_trans le2 le3), hqr]
  have hl1 := slice0_length res (q * R + r) ((q + 1) * R) (Nat.le_trans le2 le3)
  have hp1 := pos_next_line off R M q r ((q + 1) * R - (q * R + r)) (by omega)
  have hwl := readWholeLines_spec h d (q + 1)
    { data := slice0 res (q * R + r) ((q + 1) * R), reads := [(R : Int) - (r : Int)] } le3
  have hlast : readAt file ((off + M * (q + 1 + d) : Nat) : Int) (re : Int)
      = slice0 res ((q + 1 + d) * R) ((q + 1 + d) * R + re) :=
    readAt_line h (q + 1 + d) 0 re (by omega) he
  have hdata := slice0_append res (q * R + r) ((q + 1) * R) ((q + 1 + d) * R) le1 le2
  have hdata' := slice0_append res (q * R + r) ((q + 1 + d) * R) ((q + 1 + d) * R + re) (Nat.le_trans le1 le2)
    (Nat.le_add_right _ _)
  have hk : (((q + d : Nat) : Int) - (q : Int)).toNat = d := by
    rw [Int.natCast_add, Int.add_comm, Int.add_sub_cancel, Int.toNat_natCast]
  have hR0 : ¬ ((R : Int) = 0) := by omega
  have hnn : ∀ n : Nat, ¬ ((n : Int) < 0) := fun n => Int.not_lt.2 (Int.natCast_nonneg n)
  obtain ⟨ql, h2d, hql, hlw⟩ := last_line R q d re hre hne
  obtain ⟨h1d, h1m⟩ := pyDivMod_line R q r hr (((q * R + r : Nat) : Int) + 1 - 1) (Int.add_sub_cancel _ _)
  have hmod := (pyDivMod_line R (q + 1 + d) re hre _ rfl).2
  unfold sequenceBytes
  simp only [hoff, hrpl, hmll, h1d, h1m, h2d, hmod, pos_line, hR0, hnn, hql, hlw, hk, hd1, hl1, hp1, hwl, hlast, hdata,
    hdata', if_false, bind, Except.bind, pure, Except.pure, throw, throwThe, MonadExceptOf.throw, Int.natCast_inj]
  by_cases h0 : re = 0
  · rw [if_neg (by omega), if_pos h0, List.append_nil, h0]; rfl
  · rw [if_pos (by omega), if_neg h0]

theorem sequenceBytes_slice {file res : Bytes} {off R M : Nat} (info : FastaInfo)
    (hoff : info.fileOffset = off) (hrpl : info.rpl = R) (hmll : info.mll = M)
    (hR : 1 ≤ R) (h : LaidOut file off R M res)
    (s e : Nat) (hs : s < e) (he : e ≤ res.length) :
    ∃ rl, sequenceBytes file info ((s : Int) + 1) (e : Int) = .ok rl ∧ rl.data = slice0 res s e ∧
      ∀ r ∈ rl.reads, 0 ≤ r ∧ r ≤ (R : Int) ∧ r ≤ ((e - s : Nat) : Int) := by
  obtain ⟨q, r, hr, rfl⟩ : ∃ q r, r < R ∧ s = q * R + r :=
    ⟨s / R, s % R, Nat.mod_lt _ hR, (Nat.div_add_mod' s R).symm⟩
  have e1 : (q + 1) * R = q * R + R := Nat.succ_mul _ _
  by_cases hone : e ≤ (q + 1) * R
  · obtain ⟨n, rfl⟩ : ∃ n, e = q * R + r + n := ⟨e - (q * R + r), (Nat.add_sub_cancel' (Nat.le_of_lt hs)).symm⟩
    refine ⟨_, sequenceBytes_one_line info hoff hrpl hmll h q r n (Nat.lt_add_right_iff_pos.mp hs) (by omega) he, rfl,
      fun x hx => ?_⟩
    rw [List.mem_singleton.mp hx]; omega
  · -- `e` lies `d` whole lines and `re` residues beyond the end of line `q`
    obtain ⟨d, re, hre, rfl⟩ : ∃ d re, re < R ∧ e = (q + 1 + d) * R + re :=
      ⟨(e - (q + 1) * R) / R, (e - (q + 1) * R) % R, Nat.mod_lt _ hR, by
        have := Nat.div_add_mod' (e - (q + 1) * R) R
        rw [Nat.add_mul]; omega⟩
    have e2 : (q + 1 + d) * R = (q + 1) * R + d * R := Nat.add_mul _ _ _
    refine ⟨_, sequenceBytes_lines info hoff hrpl hmll h q r d re hr hre (by omega) he, rfl, fun x hx => ?_⟩
    simp only [List.mem_append, List.mem_singleton, List.mem_replicate] at hx
    rcases hx with (rfl | ⟨hd, rfl⟩) | hx
    · omega
    · have := Nat.le_mul_of_pos_left R (Nat.pos_of_ne_zero hd)
      omega
    · split at hx
      · cases hx
      · rw [List.mem_singleton.mp hx]; omega

/-- a record body as a FASTA writer renders it: lines of `R` residues (the last one possibly shorter),
    each followed by the line terminator `term` (LF or CR LF). -/
def renderBody (R : Nat) (term res : Bytes) : Bytes := ((WrapProofs.linesOf R res).map (· ++ term)).flatten

theorem lines_getElem (R : Nat) (term post : Bytes) : ∀ (ls : List Bytes),
    (∀ l ∈ ls.dropLast, l.length = R) → (∀ l ∈ ls, l.length ≤ R) →
    ∀ L c : Nat, c < R → L * R + c < ls.flatten.length →
      ((ls.map (· ++ term)).flatten ++ post)[(R + term.length) * L + c]? = ls.flatten[L * R + c]?
  | [], _, _, L, c, _, h2 => by simp at h2
  | [l], _, hle, L, c, hc, h2 => by
    have hl := hle l (by simp)
    simp only [List.flatten_cons, List.flatten_nil, List.append_nil] at h2
    obtain rfl : L = 0 := by
      rcases Nat.eq_zero_or_pos L with h0 | hp
      · exact h0
      · have := Nat.le_mul_of_pos_left R hp
        omega
    simp only [Nat.mul_zero, Nat.zero_mul, Nat.zero_add] at h2 ⊢
    simp only [List.map_cons, List.map_nil, List.flatten_cons, List.flatten_nil, List.append_nil, List.append_assoc]
    rw [List.getElem?_append_left h2]
  | l :: l' :: t, hfull, hle, L, c, hc, h2 => by
    have hl : l.length = R := hfull l (by simp)
    rw [List.map_cons, List.flatten_cons, List.flatten_cons, List.append_assoc, List.append_assoc]
    cases L with
    | zero =>
      simp only [Nat.mul_zero, Nat.zero_mul, Nat.zero_add]
      rw [List.getElem?_append_left (by omega), List.getElem?_append_left (by omega)]
    | succ L =>
      have e1 : (R + term.length) * (L + 1) + c = l.length + (term.length + ((R + term.length) * L + c)) := by
        rw [Nat.mul_succ]; omega
      have e2 : (L + 1) * R + c = l.length + (L * R + c) := by rw [Nat.succ_mul]; omega
      rw [e1, e2, List.getElem?_append_right (Nat.le_add_right _ _), List.getElem?_append_right (Nat.le_add_right _ _),
        Nat.add_sub_cancel_left, Nat.add_sub_cancel_left, List.getElem?_append_right (Nat.le_add_right _ _),
        Nat.add_sub_cancel_left]
      exact lines_getElem R term post (l' :: t) (fun x hx => hfull x (by simp [hx])) (fun x hx => hle x (by simp [hx]))
        L c hc (by rw [e2, List.flatten_cons, List.length_append] at h2; omega)

end AgpTpf.SeqProofs

namespace AgpTpf.StreamProofs
open AgpTpf AgpTpf.SeqProofs

/-- residues `a..b` of a sequence, 1-based and closed as in AGP rows -/
def slice (res : Bytes) (a b : Int) : Bytes := slice0 res (a - 1).toNat b.toNat

theorem slice_append (res : Bytes) (a b c : Int) (h0 : 1 ≤ a) (h1 : a ≤ b) (h2 : b ≤ c) :
    slice res a b ++ slice res (b + 1) c = slice res a c := by
  unfold slice
  rw [show (b + 1 - 1).toNat = b.toNat by omega]
  exact slice0_append res _ _ _ (by omega) (by omega)

theorem slice_length (res : Bytes) (a b : Int) (h0 : 1 ≤ a) (h1 : a ≤ b) (h2 : b ≤ res.length) :
    ((slice res a b).length : Int) = b - a + 1 := by
  unfold slice
  rw [slice0_length _ _ _ (by omega)]
  omega

theorem mem_slice_iff (res : Bytes) (a b : Int) (x : Nat) :
    x ∈ slice res a b ↔ ∃ i : Nat, (a - 1).toNat ≤ i ∧ i < b.toNat ∧ res[i]? = some x := by
  unfold slice slice0
  rw [List.mem_iff_getElem?]
  constructor
  · rintro ⟨k, hk⟩
    rw [List.getElem?_take] at hk
    split at hk
    · rw [List.getElem?_drop] at hk
      exact ⟨(a - 1).toNat + k, by omega, by omega, hk⟩
    · cases hk
  · rintro ⟨i, h1, h2, h3⟩
    refine ⟨i - (a - 1).toNat, ?_⟩
    rw [List.getElem?_take, if_pos (by omega), List.getElem?_drop]
    rw [show (a - 1).toNat + (i - (a - 1).toNat) = i by omega]
    exact h3

theorem slice_subset (res : Bytes) (a b a' b' : Int) (h1 : a' ≤ a) (h2 : b ≤ b') : ∀ x ∈ slice res a b, x ∈ slice res a' b' := by
  intro x hx
  obtain ⟨i, i1, i2, i3⟩ := (mem_slice_iff res a b x).mp hx
  exact (mem_slice_iff res a' b' x).mpr ⟨i, by omega, by omega, i3⟩

theorem slice_getElem? (res : Bytes) (a b x : Int) (h0 : 1 ≤ a) (h1 : a ≤ x) (h2 : x ≤ b) :
    (slice res a b)[(x - a).toNat]? = res[(x - 1).toNat]? := by
  unfold slice slice0
  rw [List.getElem?_take, if_pos (by omega), List.getElem?_drop]
  congr 1
  omega

/-- the index entry `info` describes where the residues `res` lie in `file` -/
def RecordOK (file : Bytes) (info : FastaInfo) (res : Bytes) : Prop :=
  0 ≤ info.fileOffset ∧ 1 ≤ info.rpl ∧ info.rpl ≤ info.mll ∧
  LaidOut file info.fileOffset.toNat info.rpl.toNat info.mll.toNat res

theorem seq_chunk {file : Bytes} {info : FastaInfo} {res : Bytes} (hrec : RecordOK file info res)
    (a b : Int) (h0 : 1 ≤ a) (h1 : a ≤ b) (h2 : b ≤ res.length) :
    ∃ rl, sequenceBytes file info a b = .ok rl ∧ rl.data = slice res a b ∧
      ∀ r ∈ rl.reads, 0 ≤ r ∧ r ≤ b - a + 1 := by
  obtain ⟨ho, hr, hm, hl⟩ := hrec
  obtain ⟨s, rfl⟩ : ∃ s : Nat, a = s + 1 := ⟨(a - 1).toNat, by omega⟩
  obtain ⟨e, rfl⟩ := Int.eq_ofNat_of_zero_le (Int.le_trans (by omega) h1)
  obtain ⟨rl, h1', h2', h3'⟩ := sequenceBytes_slice (file := file) (res := res) info
    (Int.toNat_of_nonneg ho).symm (Int.toNat_of_nonneg (by omega)).symm (Int.toNat_of_nonneg (by omega)).symm
    (by omega) hl s e (by omega) (by omega)
  refine ⟨rl, h1', by rw [h2', slice, Int.add_sub_cancel, Int.toNat_natCast, Int.toNat_natCast], fun r hr' => ?_⟩
  have := h3' r hr'
  omega

end AgpTpf.StreamProofs
