/- asm-format glue: `find_overlapping_fragments` with scaffold names vs `overlappingPairs` -/
import AgpTpf.Model.AsmFormat
import AgpTpf.Properties.C19
import AgpTpf.Proofs.Lib.Rows
namespace AgpTpf.AsmFormat
open AgpTpf AgpTpf.C19

def mkOvPair (p : (Fragment × Str) × (Fragment × Str)) : OvPair := { f1 := p.1.1, s1 := p.1.2, f2 := p.2.1, s2 := p.2.2 }

theorem fragmentsWithScaffold_fst (a : Assembly) : a.fragmentsWithScaffold.map (·.1) = a.allFragments := by
  unfold Assembly.fragmentsWithScaffold Assembly.allFragments
  induction a.scaffolds with
  | nil => rfl
  | cons s t ih =>
    simp only [List.flatMap_cons, List.map_append, ih]
    congr 1
    simp [List.map_map, Function.comp_def]

theorem mem_fragmentsWithScaffold (a : Assembly) (f : Fragment) (n : Str) :
    (f, n) ∈ a.fragmentsWithScaffold ↔ ∃ s ∈ a.scaffolds, f ∈ s.fragments ∧ s.name = n := by
  unfold Assembly.fragmentsWithScaffold
  simp only [List.mem_flatMap, List.mem_map, Prod.mk.injEq]
  constructor
  · rintro ⟨s, hs, g, hg, rfl, rfl⟩; exact ⟨s, hs, hg, rfl⟩
  · rintro ⟨s, hs, hf, rfl⟩; exact ⟨s, hs, f, hf, rfl, rfl⟩

theorem overlappingPairsNamed_spec (l : List (Fragment × Str)) :
    overlappingPairsNamed l = ((allPairs l).filter (fun p => p.1.1.overlaps p.2.1)).map mkOvPair := by
  induction l with
  | nil => rfl
  | cons f r ih =>
    simp only [overlappingPairsNamed, allPairs, List.filter_append, List.map_append, ih]
    congr 1
    clear ih
    induction r with
    | nil => rfl
    | cons g r' ih' =>
      simp only [List.filter, List.map]
      cases h : f.1.overlaps g.1 <;> simp [ih', mkOvPair]

theorem overlappingPairsNamed_nil_iff (l : List (Fragment × Str)) :
    overlappingPairsNamed l = [] ↔ ∀ p ∈ allPairs l, p.1.1.overlaps p.2.1 = false := by
  rw [overlappingPairsNamed_spec]
  simp [List.filter_eq_nil_iff]

theorem allPairs_map {α β} (g : α → β) (l : List α) : allPairs (l.map g) = (allPairs l).map (fun p => (g p.1, g p.2)) := by
  induction l with
  | nil => rfl
  | cons x r ih => simp [allPairs, ih, List.map_map, Function.comp_def]

theorem overlappingPairsNamed_proj (l : List (Fragment × Str)) :
    (overlappingPairsNamed l).map (fun p => (p.f1, p.f2)) = overlappingPairs (l.map (·.1)) := by
  rw [overlappingPairsNamed_spec, find_overlapping_spec, allPairs_map, List.filter_map, List.map_map]
  rfl

theorem findOverlapping_nil_iff (a : Assembly) :
    findOverlappingFragments a = [] ↔
      ∀ i j : Nat, i < j → ∀ f g, a.allFragments[i]? = some f → a.allFragments[j]? = some g → f.overlaps g = false := by
  unfold findOverlappingFragments
  rw [overlappingPairsNamed_nil_iff]
  constructor
  · intro h i j hij f g hf hg
    rw [← fragmentsWithScaffold_fst] at hf hg
    simp only [List.getElem?_map, Option.map_eq_some_iff] at hf hg
    obtain ⟨x, hx, rfl⟩ := hf
    obtain ⟨y, hy, rfl⟩ := hg
    exact h (x, y) ((mem_allPairs_iff _ x y).2 ⟨i, j, hij, hx, hy⟩)
  · intro h p hp
    obtain ⟨x, y⟩ := p
    obtain ⟨i, j, hij, hx, hy⟩ := (mem_allPairs_iff _ x y).1 hp
    refine h i j hij x.1 y.1 ?_ ?_
    · rw [← fragmentsWithScaffold_fst]; simp [hx]
    · rw [← fragmentsWithScaffold_fst]; simp [hy]

/-! ### the STDERR rendering cannot raise for fragments that went through `Fragment.__init__` -/

theorem fragmentStr_ok (f : Fragment) (h : f.strand = 0 ∨ f.strand = 1 ∨ f.strand = -1) : ∃ t, fragmentStr f = .ok t := by
  rcases h with h | h | h <;> (simp only [fragmentStr, fragmentStrandStr, h]; exact ⟨_, rfl⟩)

theorem reportOverlapsText_ok (asmName : Str) (pairs : List OvPair)
    (h : ∀ p ∈ pairs, (p.f1.strand = 0 ∨ p.f1.strand = 1 ∨ p.f1.strand = -1) ∧
                      (p.f2.strand = 0 ∨ p.f2.strand = 1 ∨ p.f2.strand = -1)) :
    ∃ t, reportOverlapsText asmName pairs = .ok t := by
  obtain ⟨ts, hts⟩ := AgpTpf.mapM_ok_of_forall (f := overlapText) (l := pairs) (by
    intro p hp
    obtain ⟨t1, h1⟩ := fragmentStr_ok p.f1 (h p hp).1
    obtain ⟨t2, h2⟩ := fragmentStr_ok p.f2 (h p hp).2
    exact ⟨_, by unfold overlapText; rw [h1, h2]; rfl⟩)
  exact ⟨_, by unfold reportOverlapsText; rw [hts]; rfl⟩

end AgpTpf.AsmFormat
