/-
  The translated Python source of `Assembly.all_vs_all_fragments` (with the callback of `find_overlapping_fragments` inlined)
  against the hand-written model (`Model/AsmFormat.lean`); stated in `Properties/C19Imp.lean`.

  An index loop `for k in range(a, len(l)): … l[k] …` is read as a fold over the suffixes of `l` (`foldTails`).

  The loop lemmas (here and `PyRt.forIn_foldl` of `Lib/PyRt.lean`) take the loop body as a parameter and ask only what one pass
  returns, so they do not depend on the text of the generated body.
-/
import AgpTpf.Gen.Imp
import AgpTpf.Model.AsmFormat
import AgpTpf.Proofs.AsmFormatQc
import AgpTpf.Proofs.Lib.PyRt
set_option linter.unusedSimpArgs false
namespace AgpTpf.ImpScaffold
open AgpTpf.C19 AgpTpf.AsmFormat

def foldTails {α σ : Type} (f : σ → α → List α → σ) : σ → List α → σ
  | s, [] => s
  | s, x :: r => foldTails f (f s x r) r

theorem forIn_rangeUp_foldTails {α σ ρ : Type} (l : List α) (body : Int → σ → R (PyRt.Ctl σ ρ)) (f : σ → α → List α → σ)
    (h : ∀ (k : Nat) (x : α) (s : σ), l[k]? = some x → body (k : Int) s = .ok (.next (f s x (l.drop (k + 1)))))
    (a : Nat) (s : σ) :
    PyRt.forIn (PyRt.rangeUp (a : Int) (l.length : Int)) s body = .ok (.fell (foldTails f s (l.drop a))) := by
  generalize hd : l.length - a = d
  induction d generalizing a s with
  | zero =>
    have hle : l.length ≤ a := by omega
    rw [PyRt.rangeUp_nil (by omega), List.drop_eq_nil_of_le hle]
    rfl
  | succ d ih =>
    have hlt : a < l.length := by omega
    have hx : l[a]? = some l[a] := List.getElem?_eq_getElem hlt
    rw [PyRt.rangeUp_cons (by omega), List.drop_eq_getElem_cons hlt]
    simp only [PyRt.forIn, h a _ s hx, foldTails]
    have := ih (a + 1) (f s l[a] (List.drop (a + 1) l)) (by omega)
    rw [← this]
    congr 2

theorem forIn_rangeUp_foldl {α σ ρ : Type} (l : List α) (body : Int → σ → R (PyRt.Ctl σ ρ)) (f : σ → α → σ)
    (h : ∀ (k : Nat) (x : α) (s : σ), l[k]? = some x → body (k : Int) s = .ok (.next (f s x)))
    (a : Nat) (s : σ) :
    PyRt.forIn (PyRt.rangeUp (a : Int) (l.length : Int)) s body = .ok (.fell ((l.drop a).foldl f s)) := by
  rw [forIn_rangeUp_foldTails l body (fun s x _ => f s x) h a s]
  congr 2
  generalize l.drop a = t
  induction t generalizing s with
  | nil => rfl
  | cons x r ih => simp only [foldTails, List.foldl_cons, ih]

def ovPairs {β : Type} : List (Fragment × β) → List ((Fragment × β) × (Fragment × β))
  | [] => []
  | x :: r => ((r.filter (fun y => x.1.overlaps y.1)).map (fun y => (x, y))) ++ ovPairs r

theorem foldTails_ovPairs {β : Type} (l : List (Fragment × β)) (s : List ((Fragment × β) × (Fragment × β))) :
    foldTails (fun acc x r => acc ++ (r.filter (fun y => x.1.overlaps y.1)).map (fun y => (x, y))) s l = s ++ ovPairs l := by
  induction l generalizing s with
  | nil => simp [foldTails, ovPairs]
  | cons x r ih => simp only [foldTails, ovPairs, ih, List.append_assoc]

theorem ovPairs_eq_filter_allPairs {β : Type} (l : List (Fragment × β)) :
    ovPairs l = (allPairs l).filter (fun p => p.1.1.overlaps p.2.1) := by
  induction l with
  | nil => rfl
  | cons x r ih =>
    simp only [ovPairs, allPairs, List.filter_append, ih, List.filter_map]
    rfl

theorem ovPairs_map {β γ : Type} (g : β → γ) (l : List (Fragment × β)) :
    (ovPairs l).map (fun p => ((p.1.1, g p.1.2), (p.2.1, g p.2.2))) = ovPairs (l.map (fun x => (x.1, g x.2))) := by
  induction l with
  | nil => rfl
  | cons x r ih =>
    simp only [ovPairs, List.map_cons, List.map_append, ih, List.map_map, List.filter_map]
    rfl

theorem overlappingPairsNamed_eq_ovPairs (l : List (Fragment × Str)) :
    overlappingPairsNamed l = (ovPairs l).map mkOvPair := by
  induction l with
  | nil => rfl
  | cons x r ih =>
    simp only [overlappingPairsNamed, ovPairs, List.map_append, ih, List.map_map]
    rfl

/-- the list `frags` of `all_vs_all_fragments`: every fragment with its scaffold OBJECT, scaffold after scaffold -/
def fragsWithScaffoldObj (scaffolds : List Scaffold) : List (Fragment × Scaffold) :=
  scaffolds.flatMap (fun s => s.fragments.map (fun f => (f, s)))

theorem fragsWithScaffoldObj_names (a : Assembly) :
    (fragsWithScaffoldObj a.scaffolds).map (fun x => (x.1, x.2.name)) = a.fragmentsWithScaffold := by
  unfold fragsWithScaffoldObj Assembly.fragmentsWithScaffold
  induction a.scaffolds with
  | nil => rfl
  | cons s t ih => simp only [List.flatMap_cons, List.map_append, ih, List.map_map]; rfl

theorem all_vs_all_tie (scaffolds : List Scaffold) :
    Gen.Imp.Assembly_all_vs_all_fragments_detect scaffolds = .ok (ovPairs (fragsWithScaffoldObj scaffolds)) := by
  unfold Gen.Imp.Assembly_all_vs_all_fragments_detect fragsWithScaffoldObj
  dsimp only
  rw [PyRt.forIn_foldl (fun acc (s : Scaffold) => acc ++ s.fragments.map (fun x => (x, s))) (fun _ _ _ => rfl)]
  simp only [← List.flatMap_eq_foldl, bind, Except.bind, Int.ofNat_eq_natCast]
  generalize List.flatMap (fun s : Scaffold => s.fragments.map (fun x => (x, s))) scaffolds = frags
  have key := forIn_rangeUp_foldTails (ρ := List ((Fragment × Scaffold) × (Fragment × Scaffold))) frags
    (f := fun acc x r => acc ++ (r.filter (fun y => x.1.overlaps y.1)).map (fun y => (x, y)))
  rw [show (0 : Int) = ((0 : Nat) : Int) from rfl, key]
  · simp only [List.drop_zero, foldTails_ovPairs, List.nil_append]
  · intro k x acc hx
    have hk : (k : Int) + 1 = ((k + 1 : Nat) : Int) := by omega
    rw [hk, forIn_rangeUp_foldl (f := fun acc y => if x.1.overlaps y.1 = true then acc ++ [(x, y)] else acc)]
    · simp only [← List.foldl_filter, foldl_append_singleton]
    · intro j y acc' hy
      simp only [pyGet_of_getElem? hx, pyGet_of_getElem? hy, bind, Except.bind]
      cases ho : x.1.overlaps y.1 <;> simp only [Bool.false_eq_true, if_true, if_false]

end AgpTpf.ImpScaffold
