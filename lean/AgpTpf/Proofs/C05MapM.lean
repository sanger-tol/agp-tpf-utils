/- the element-wise relation `Forall2` between two lists, and `mapM` in `Except` through it -/
import AgpTpf.Model.Text
namespace AgpTpf.C05
open AgpTpf

def Forall2 {α β} (P : α → β → Prop) : List α → List β → Prop
  | [], [] => True
  | x :: xs, y :: ys => P x y ∧ Forall2 P xs ys
  | _, _ => False

theorem Forall2.length_eq {α β} {P : α → β → Prop} {l : List α} {ys : List β} (h : Forall2 P l ys) :
    l.length = ys.length := by
  induction l generalizing ys with
  | nil => cases ys with | nil => rfl | cons _ _ => exact h.elim
  | cons x xs ih => cases ys with | nil => exact h.elim | cons y t => simp [ih h.2]

theorem Forall2.imp_of_mem {α β} {P Q : α → β → Prop} {l : List α} {ys : List β}
    (hpq : ∀ x y, x ∈ l → y ∈ ys → P x y → Q x y) (h : Forall2 P l ys) : Forall2 Q l ys := by
  induction l generalizing ys with
  | nil => cases ys with | nil => trivial | cons _ _ => exact h.elim
  | cons x xs ih =>
    cases ys with
    | nil => exact h.elim
    | cons y t =>
      exact ⟨hpq _ _ List.mem_cons_self List.mem_cons_self h.1,
        ih (fun a b ha hb => hpq a b (List.mem_cons_of_mem _ ha) (List.mem_cons_of_mem _ hb)) h.2⟩

theorem Forall2.imp {α β} {P Q : α → β → Prop} {l : List α} {ys : List β} (hpq : ∀ x y, P x y → Q x y)
    (h : Forall2 P l ys) : Forall2 Q l ys :=
  h.imp_of_mem fun x y _ _ => hpq x y

theorem Forall2.flip {α β} {P : α → β → Prop} {l : List α} {ys : List β}
    (h : Forall2 P l ys) : Forall2 (fun y x => P x y) ys l := by
  induction l generalizing ys with
  | nil => cases ys with | nil => trivial | cons _ _ => exact h.elim
  | cons x xs ih =>
    cases ys with
    | nil => exact h.elim
    | cons y t => exact ⟨h.1, ih h.2⟩

theorem Forall2.comp {α β γ} {P : α → β → Prop} {Q : β → γ → Prop} {R : α → γ → Prop}
    (hpq : ∀ x y z, P x y → Q y z → R x z) :
    ∀ {l : List α} {m : List β} {n : List γ}, Forall2 P l m → Forall2 Q m n → Forall2 R l n := by
  intro l
  induction l with
  | nil =>
    intro m n h1 h2
    cases m with
    | nil => cases n with | nil => trivial | cons _ _ => exact h2.elim
    | cons _ _ => exact h1.elim
  | cons x xs ih =>
    intro m n h1 h2
    cases m with
    | nil => exact h1.elim
    | cons y ys =>
      cases n with
      | nil => exact h2.elim
      | cons z zs => exact ⟨hpq _ _ _ h1.1 h2.1, ih h1.2 h2.2⟩

theorem Forall2.map_left {α β γ} {P : γ → β → Prop} (f : α → γ) {l : List α} {ys : List β}
    (h : Forall2 (fun x y => P (f x) y) l ys) : Forall2 P (l.map f) ys := by
  induction l generalizing ys with
  | nil => cases ys with | nil => trivial | cons _ _ => exact h.elim
  | cons x xs ih =>
    cases ys with
    | nil => exact h.elim
    | cons y t => exact ⟨h.1, ih h.2⟩

theorem Forall2.map_right {α β γ} {P : α → γ → Prop} (f : β → γ) {l : List α} {ys : List β}
    (h : Forall2 (fun x y => P x (f y)) l ys) : Forall2 P l (ys.map f) :=
  (Forall2.map_left f h.flip).flip

theorem Forall2.forall_right {α β} {P : α → β → Prop} {Q : β → Prop} {l : List α} {ys : List β}
    (h : Forall2 P l ys) (hq : ∀ x y, x ∈ l → P x y → Q y) : ∀ y ∈ ys, Q y := by
  induction l generalizing ys with
  | nil => cases ys with | nil => exact fun _ hy => nomatch hy | cons _ _ => exact h.elim
  | cons x xs ih =>
    cases ys with
    | nil => exact h.elim
    | cons y t =>
      exact List.forall_mem_cons.2 ⟨hq x y List.mem_cons_self h.1, ih h.2 fun a b ha => hq a b (List.mem_cons_of_mem _ ha)⟩

theorem Forall2.exists_map {α β γ} {Q : α → γ → Prop} (g : γ → β) {l : List α} {ys : List β}
    (h : Forall2 (fun x y => ∃ z, y = g z ∧ Q x z) l ys) : ∃ zs, ys = zs.map g ∧ Forall2 Q l zs := by
  induction l generalizing ys with
  | nil => cases ys with | nil => exact ⟨[], rfl, trivial⟩ | cons _ _ => exact h.elim
  | cons x xs ih =>
    cases ys with
    | nil => exact h.elim
    | cons y t =>
      obtain ⟨⟨z, rfl, hz⟩, ht⟩ := h
      obtain ⟨zs, rfl, hzs⟩ := ih ht
      exact ⟨z :: zs, rfl, hz, hzs⟩

theorem Forall2.length_flatten {α β} {l : List α} {ys : List (List β)} (len : α → Nat)
    (h : Forall2 (fun x y => y.length = len x) l ys) : ys.flatten.length = (l.map len).sum := by
  induction l generalizing ys with
  | nil => cases ys with | nil => rfl | cons _ _ => exact h.elim
  | cons x xs ih =>
    cases ys with
    | nil => exact h.elim
    | cons y t => simp [h.1, ih h.2]

theorem mapM_ok_iff {α β} (f : α → R β) (l : List α) (ys : List β) :
    l.mapM f = .ok ys ↔ Forall2 (fun x y => f x = .ok y) l ys := by
  induction l generalizing ys with
  | nil =>
    simp only [List.mapM_nil]
    constructor
    · intro h; cases h; trivial
    · intro h; cases ys with | nil => rfl | cons _ _ => exact h.elim
  | cons x xs ih =>
    rw [List.mapM_cons]
    constructor
    · intro h
      cases hx : f x with
      | error e => rw [hx] at h; cases h
      | ok y =>
        rw [hx] at h
        cases hxs : xs.mapM f with
        | error e => rw [hxs] at h; cases h
        | ok t =>
          rw [hxs] at h; cases h
          exact ⟨hx, (ih t).1 hxs⟩
    · intro h
      cases ys with
      | nil => exact h.elim
      | cons y t => rw [h.1, (ih _).2 h.2]; rfl

theorem mapM_ok_of_forall {α β} (f : α → R β) (P : α → β → Prop) (l : List α)
    (h : ∀ x ∈ l, ∃ y, f x = .ok y ∧ P x y) :
    ∃ ys, l.mapM f = .ok ys ∧ Forall2 P l ys := by
  induction l with
  | nil => exact ⟨[], rfl, trivial⟩
  | cons x xs ih =>
    obtain ⟨y, hy, hp⟩ := h x (by simp)
    obtain ⟨t, ht, hpt⟩ := ih (fun z hz => h z (by simp [hz]))
    refine ⟨y :: t, ?_, ⟨hp, hpt⟩⟩
    rw [List.mapM_cons, hy, ht]; rfl

theorem mapM_congr_forall2 {α β} (f g : α → R β) (l l' : List α)
    (h : Forall2 (fun x y => f x = g y) l l') : l.mapM f = l'.mapM g := by
  induction l generalizing l' with
  | nil => cases l' with | nil => rfl | cons _ _ => exact h.elim
  | cons x xs ih =>
    cases l' with
    | nil => exact h.elim
    | cons y t => rw [List.mapM_cons, List.mapM_cons, h.1, ih _ h.2]

/-! ### concrete runs, in a form `decide` can evaluate -/

def OkAnd {α} (x : R α) (P : α → Prop) : Prop :=
  match x with
  | .ok a => P a
  | .error _ => False

instance {α} (x : R α) (P : α → Prop) [DecidablePred P] : Decidable (OkAnd x P) := by
  unfold OkAnd; cases x <;> infer_instance

theorem OkAnd.exists {α} {x : R α} {P : α → Prop} (h : OkAnd x P) : ∃ a, x = .ok a ∧ P a := by
  cases x with
  | ok a => exact ⟨a, rfl, h⟩
  | error e => exact h.elim

/-- which exception, without comparing results -/
theorem eq_error_of_map {α} {x : R α} {e : Err} (h : x.map (fun _ => ()) = .error e) : x = .error e := by
  cases x with
  | ok a => cases h
  | error e' => cases h; rfl

end AgpTpf.C05
