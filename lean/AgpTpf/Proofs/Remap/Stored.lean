/-
  The C18 invariant of every stored result, through `remap_to_input_assembly`.
  `Stored input N0 n sc o`: the bait of the stored result `o` names the input scaffold `sc`, in which it finds something;
  `o`'s rows are a contiguous run of `sc`'s rows with only the terminal fragments shortened, `start` / `stop` their scaffold
  coordinates (`C18.Inv`); and the object ids are accounted for (`OidsOK`: below the counter `n`; below `N0`, the first id
  handed to a cut piece, only input objects) — which is what lets `trim_fragment(found.fragment, …)`, which finds its row
  by identity, be read as a call on the first / last row (`trimFragment_by_identity`).
  The invariant holds of what the pass for a Pretext fragment stores (`created_stored`) and is kept by all three edits
  without any guard (`stored_closed`), so it holds of every stored result at every stage (`remapToInput_stored`).  What a
  family knows in addition about a result (C02K: what the resolver's guards protect) it states about the same `sc`.
-/
import AgpTpf.Proofs.C18
import AgpTpf.Proofs.Lib.Pipeline
namespace AgpTpf.C18
open AgpTpf OverlapResult

theorem OidsOK.mono {F : List Fragment} {N0 n n' : Nat} {rows : List Row} (h : OidsOK F N0 n rows) (hn : n ≤ n') :
    OidsOK F N0 n' rows := fun g hg => ⟨Nat.lt_of_lt_of_le (h g hg).1 hn, (h g hg).2⟩

theorem OidsOK.subset {F : List Fragment} {N0 n : Nat} {rows rows' : List Row} (h : OidsOK F N0 n rows)
    (hs : ∀ x ∈ rows', x ∈ rows) : OidsOK F N0 n rows' := fun g hg => h g (hs _ hg)

theorem OidsOK.of_mem {F : List Fragment} {N0 n : Nat} {rows : List Row} (hlt : ∀ g ∈ F, g.oid < N0) (hn : N0 ≤ n)
    (h : ∀ g, Row.frag g ∈ rows → g ∈ F) : OidsOK F N0 n rows :=
  fun g hg => ⟨Nat.lt_of_lt_of_le (hlt g (h g hg)) hn, fun _ => h g hg⟩

theorem frag_mem_input {input : List Scaffold} {sc : Scaffold} (hsc : sc ∈ input) {f : Fragment} (hf : Row.frag f ∈ sc.rows) :
    f ∈ input.flatMap Scaffold.fragments :=
  List.mem_flatMap.mpr ⟨sc, hsc, mem_fragmentsOf.mpr hf⟩

theorem ids_nodup_of_input {input : List Scaffold} (hnd : ((input.flatMap Scaffold.fragments).map (·.oid)).Nodup)
    {sc : Scaffold} (hsc : sc ∈ input) : (ids sc.rows).Nodup := by
  have hsub : sc.fragments.Sublist (input.flatMap Scaffold.fragments) := by
    rw [List.flatMap_def]
    exact List.sublist_flatten_of_mem (List.mem_map_of_mem hsc)
  exact (hsub.map (·.oid)).nodup hnd

structure Stored (input : List Scaffold) (N0 n : Nat) (sc : Scaffold) (o : OverlapResult) : Prop where
  src : lookupScaffold input o.bait.name = .ok sc
  hit : ∃ o0, findOverlaps sc.rows o.bait = .ok (some o0)
  inv : Inv sc.rows o
  oids : OidsOK (input.flatMap Scaffold.fragments) N0 n o.rows

namespace Stored
variable {input : List Scaffold} {N0 n : Nat} {sc : Scaffold} {o : OverlapResult}

theorem mem (h : Stored input N0 n sc o) : sc ∈ input := (Pipeline.lookupScaffold_ok h.src).1

theorem of_bait {n' : Nat} {o' : OverlapResult} (h : Stored input N0 n sc o) (hb : o'.bait = o.bait) (hI : Inv sc.rows o')
    (ho : OidsOK (input.flatMap Scaffold.fragments) N0 n' o'.rows) : Stored input N0 n' sc o' :=
  ⟨hb ▸ h.src, hb ▸ h.hit, hI, ho⟩

theorem congr {o' : OverlapResult} (h : Stored input N0 n sc o) (hb : o'.bait = o.bait) (hr : o'.rows = o.rows)
    (hs : o'.start = o.start) (he : o'.stop = o.stop) : Stored input N0 n sc o' :=
  h.of_bait hb (h.inv.congr hr hs he) (hr ▸ h.oids)

theorem discardStart {o' : OverlapResult} (h : Stored input N0 n sc o) (hd : o.discardStart = .ok o') :
    Stored input N0 n sc o' :=
  h.of_bait (discardStart_keeps hd).2 (inv_discardStart h.inv hd) (h.oids.subset (discardStart_keeps hd).1.subset)

theorem discardEnd {o' : OverlapResult} (h : Stored input N0 n sc o) (hd : o.discardEnd = .ok o') :
    Stored input N0 n sc o' :=
  h.of_bait (discardEnd_keeps hd).2 (inv_discardEnd h.inv hd) (h.oids.subset (discardEnd_keeps hd).1.subset)

/-- besides the invariant: where the row was found and that the id is new, which is what a family's own lemma about
    `trim_fragment` asks for -/
theorem trimFragment {o' : OverlapResult} {f new : Fragment} {ks ke : Bool}
    (hnd : ((input.flatMap Scaffold.fragments).map (·.oid)).Nodup) (hlt : ∀ g ∈ input.flatMap Scaffold.fragments, g.oid < N0)
    (hn : N0 ≤ n) (h : Stored input N0 n sc o) (hf : f ∈ input.flatMap Scaffold.fragments)
    (ht : o.trimFragment f ks ke n = .ok (o', new)) :
    Stored input N0 (n + 1) sc o' ∧ ((∃ t, o.rows = .frag f :: t) ∨ (∃ t, o.rows = t ++ [.frag f])) ∧ n ∉ ids o.rows := by
  obtain ⟨hrow, hfresh, -, ho'⟩ := trimFragment_by_identity hnd hlt hn hf h.oids ht
  refine ⟨h.of_bait (trimFragment_bait ht) ?_ ho', hrow, hfresh⟩
  rcases hrow with ⟨t, hr⟩ | ⟨t, hr⟩
  · exact inv_trimFragment_first h.inv hr hfresh ht
  · exact inv_trimFragment_last h.inv hr hfresh ht

end Stored

/-- the invariant of a slot of the store when the id counter stands at `n` -/
def StoredAt (input : List Scaffold) (N0 n : Nat) (r : Res) : Prop := N0 ≤ n ∧ ∃ sc, Stored input N0 n sc r.o

theorem StoredAt.rename {input : List Scaffold} {N0 n : Nat} (r : Res) (nm : Str) (h : StoredAt input N0 n r) :
    StoredAt input N0 n { r with o := { r.o with name := nm } } :=
  ⟨h.1, h.2.imp fun _ hs => hs.congr rfl rfl rfl rfl⟩

section
variable {input : List Scaffold} {N0 : Nat} (hnd : ((input.flatMap Scaffold.fragments).map (·.oid)).Nodup)
  (hlt : ∀ g ∈ input.flatMap Scaffold.fragments, g.oid < N0)
include hnd hlt

theorem stored_closed {dr : Prop} : Pipeline.OpClosed dr (· ∈ input.flatMap Scaffold.fragments) (StoredAt input N0) where
  mono := fun ⟨hn, sc, h⟩ => ⟨Nat.le_succ_of_le hn, sc, h.of_bait rfl h.inv (h.oids.mono (Nat.le_succ _))⟩
  discardStart := fun _ ⟨hn, sc, h⟩ hd => ⟨hn, sc, h.discardStart hd⟩
  discardEnd := fun _ ⟨hn, sc, h⟩ hd => ⟨hn, sc, h.discardEnd hd⟩
  trim := fun hf ⟨hn, sc, h⟩ ht => ⟨Nat.le_succ_of_le hn, sc, (h.trimFragment hnd hlt hn hf ht).1⟩

theorem created_stored {err : Int} {r : Res} (hc : Pipeline.Created input err r) : StoredAt input N0 N0 r := by
  obtain ⟨bait, sc, o0, o1, hsc, hfo, ⟨hr1, hb1, hs1, he1⟩, ho2, -⟩ := hc
  have hscin := (Pipeline.lookupScaffold_ok hsc).1
  have hb : r.o.bait = bait := ((trimLarge_keeps ho2).2.trans hb1).trans (findOverlaps_fresh hfo).1
  have hI := inv_trimLarge ((inv_lookup' (ids_nodup_of_input hnd hscin) hfo).congr hr1 hs1 he1) ho2
  refine ⟨Nat.le_refl _, sc, hb ▸ hsc, ⟨o0, hb ▸ hfo⟩, hI, OidsOK.of_mem hlt (Nat.le_refl _) (fun g hg => ?_)⟩
  exact frag_mem_input hscin ((findOverlaps_fresh hfo).2.2.2.subset (hr1 ▸ (trimLarge_keeps ho2).1.subset hg))

end

theorem remapToInput_stored {input ptx : List Scaffold} {prefix_ : Str} {joinGap : Option Gap} {err : Int} {b : Build}
    (hnd : ((input.flatMap Scaffold.fragments).map (·.oid)).Nodup)
    (h : remapToInput input ptx prefix_ joinGap err = .ok b) :
    (∀ r ∈ b.store, StoredAt input (Pipeline.initBuild input prefix_ joinGap err).nextOid b.nextOid r) ∧
      Pipeline.FoundIn (fun _ f => f ∈ input.flatMap Scaffold.fragments) b.found := by
  have hlt := Pipeline.initBuild_oid_lt input prefix_ joinGap err
  exact ⟨Pipeline.remapToInput_forall (stored_closed hnd hlt) (fun _ hc => created_stored hnd hlt hc)
      (fun _ r nm hr => StoredAt.rename r nm hr) h,
    Pipeline.remapToInput_foundIn (fun _ hsc _ hf => frag_mem_input hsc hf) h⟩

end AgpTpf.C18
