/-
  The Pretext fragments of a map as lookups into the input: `lookupPiece` / `pieceO` (the result `processBait` gets for
  a fragment), the contig keys a fragment claims, the name an unpainted Pretext scaffold hands on, and a lookup result
  as the store holds it once labelled (`storedAs`).
-/
import AgpTpf.Model.Remap
import AgpTpf.Proofs.Lib.Overlap
import AgpTpf.Proofs.Lib.Py
namespace AgpTpf.C02
open AgpTpf

/-- the lookup `processBait` performs for the Pretext fragment `p`: the input scaffold named `p.name`, then
    `find_overlaps` on it; `none` when the scaffold does not exist, the lookup raises or finds nothing -/
def lookupPiece (input : List Scaffold) (p : Fragment) : Option OverlapResult :=
  match input.find? (fun s => s.name = p.name) with
  | some sc =>
    match findOverlaps sc.rows p with
    | .ok (some o) => some o
    | _ => none
  | none => none

/-- the lookup result of piece `p` (meaningful under `PieceAligned`) -/
def pieceO (input : List Scaffold) (p : Fragment) : OverlapResult := (lookupPiece input p).getD default

/-- keys of the contigs piece `p` claims -/
def pieceKeys (input : List Scaffold) (p : Fragment) : List Key :=
  (fragmentsOf (pieceO input p).rows).map Fragment.keyTuple

def claimedKeys (input ptx : List Scaffold) : List Key :=
  ptx.flatMap (fun S => S.fragments.flatMap (pieceKeys input))

/-- the name an UNPAINTED Pretext scaffold's output gets: the name of its first row (= the input scaffold of its first
    piece) -/
def outName (S : Scaffold) : Str :=
  match S.rows with
  | .frag f :: _ => f.name
  | _ => []

theorem lookupPiece_spec {input : List Scaffold} {p : Fragment} (h : (lookupPiece input p).isSome = true) :
    ∃ sc, input.find? (fun s => s.name = p.name) = some sc ∧ findOverlaps sc.rows p = .ok (some (pieceO input p)) := by
  unfold pieceO
  unfold lookupPiece at h ⊢
  cases hf : input.find? (fun s => s.name = p.name) with
  | none => rw [hf] at h; cases h
  | some sc =>
    rw [hf] at h
    refine ⟨sc, rfl, ?_⟩
    simp only at h ⊢
    cases hfo : findOverlaps sc.rows p with
    | error e => rw [hfo] at h; cases h
    | ok r =>
      cases r with
      | none => rw [hfo] at h; cases h
      | some o => rfl

theorem pieceO_rows_ne {input : List Scaffold} {p : Fragment} (h : (lookupPiece input p).isSome = true) :
    (pieceO input p).rows ≠ [] := by
  obtain ⟨sc, -, hfo⟩ := lookupPiece_spec h
  exact (findOverlaps_fresh hfo).2.2.1

/-- a lookup result stored under the name `nm` with rank `rk`, for a Pretext scaffold `orig` with tag set `tags` -/
def storedAs (nm : Str) (rk : Int) (orig : Str) (tags : List Str) (o : OverlapResult) : Res :=
  { o := { o with name := nm, tag := none, haplotype := none, rank := rk, originalName := some orig,
                  originalTags := some tags }, added := true }

end AgpTpf.C02
