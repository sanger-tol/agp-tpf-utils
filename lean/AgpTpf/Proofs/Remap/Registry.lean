/-
  The registry `find_assembly_overlaps` builds, as a function of the lookup results of the Pretext fragments: which contig
  key is held by which stored results (`regOf`; `holdersOf`, `sharedKeys`), that `store_fragments_found` computes it
  (`storeFragmentsFound_reg`), which keys are registered (`regOf_has`), how many holders a key has (`holdersOf_length`).
-/
import AgpTpf.Proofs.Remap.Pieces
import AgpTpf.Proofs.C01Store
import AgpTpf.Proofs.Lib.Py
import AgpTpf.Proofs.Lib.Pipeline
namespace AgpTpf.C02
open AgpTpf

/-- `found_fragments` and `fragments_found_more_than_once` -/
abbrev Reg := List (Key × Found) × List Key

/-- one iteration of the loop in `store_fragments_found` -/
def regStep (sid : Nat) (r : Reg) (f : Fragment) : Reg :=
  match dGet? r.1 f.keyTuple with
  | some fnd => (dSet r.1 f.keyTuple { fnd with scaffolds := fnd.scaffolds ++ [sid] }, sAdd r.2 f.keyTuple)
  | none => (r.1 ++ [(f.keyTuple, { fragment := f, scaffolds := [sid] })], r.2)

/-- the Pretext pieces (fragment rows of the Pretext scaffolds) in Pretext order, each with its Pretext scaffold;
    the position in this list is the id of the piece's lookup result in the store -/
def allPieces (ptx : List Scaffold) : List (Scaffold × Fragment) :=
  ptx.flatMap (fun S => S.fragments.map (fun p => (S, p)))

def regPiece (input : List Scaffold) (r : Reg) (x : (Scaffold × Fragment) × Nat) : Reg :=
  (fragmentsOf (pieceO input x.1.2).rows).foldl (regStep x.2) r

def regFrom (input : List Scaffold) (l : List ((Scaffold × Fragment) × Nat)) (r : Reg) : Reg :=
  l.foldl (regPiece input) r

def regOf (input ptx : List Scaffold) : Reg := regFrom input (allPieces ptx).zipIdx ([], [])

/-- contigs held by two or more lookup results, in the order `cut_remaining_overhangs` visits them -/
def sharedKeys (input ptx : List Scaffold) : List Key := (regOf input ptx).2

/-- ids of the lookup results holding contig `k`, in Pretext order -/
def holdersOf (input ptx : List Scaffold) (k : Key) : List Nat :=
  match dGet? (regOf input ptx).1 k with
  | some fnd => fnd.scaffolds
  | none => []

theorem storeFragmentsFound_reg (b : Build) (sid : Nat) (frags : List Fragment) :
    storeFragmentsFound b sid frags =
      { b with found := (frags.foldl (regStep sid) (b.found, b.multi)).1,
               multi := (frags.foldl (regStep sid) (b.found, b.multi)).2 } := by
  unfold storeFragmentsFound
  induction frags generalizing b with
  | nil => rfl
  | cons f r ih =>
    simp only [List.foldl_cons]
    rw [ih]
    cases h : dGet? b.found f.keyTuple <;> simp [regStep, h]

theorem allPieces_cons (S : Scaffold) (r : List Scaffold) :
    allPieces (S :: r) = S.fragments.map (fun p => (S, p)) ++ allPieces r := by
  simp [allPieces]

/-- a registry as a `Build` (to use the C01 lemmas about `storeOne`) -/
def regBuild (r : Reg) : Build :=
  { namer := { autosomePrefix := [] }, found := r.1, multi := r.2, nextOid := 0, joinGap := none, err := 0 }

theorem foldl_storeOne_regBuild (sid : Nat) (frags : List Fragment) (r : Reg) :
    frags.foldl (C01.storeOne sid) (regBuild r) = regBuild (frags.foldl (regStep sid) r) :=
  storeFragmentsFound_reg (regBuild r) sid frags

theorem foldl_regStep_has (sid : Nat) (frags : List Fragment) (r : Reg) (k : Key) :
    dHas (frags.foldl (regStep sid) r).1 k = (dHas r.1 k || frags.any (fun f => decide (f.keyTuple = k))) := by
  have := C01.foldl_storeOne_registered sid frags (regBuild r) k
  rwa [foldl_storeOne_regBuild] at this

theorem regFrom_has (input : List Scaffold) (l : List ((Scaffold × Fragment) × Nat)) (r : Reg) (k : Key) :
    dHas (regFrom input l r).1 k =
      (dHas r.1 k || l.any (fun x => (fragmentsOf (pieceO input x.1.2).rows).any (fun f => decide (f.keyTuple = k)))) := by
  unfold regFrom
  induction l generalizing r with
  | nil => simp
  | cons x t ih =>
    rw [List.foldl_cons, ih]
    unfold regPiece
    rw [foldl_regStep_has, List.any_cons, Bool.or_assoc]

theorem any_zipIdx_fst {α} (l : List α) (n : Nat) (f : α → Bool) : (l.zipIdx n).any (fun x => f x.1) = l.any f := by
  induction l generalizing n with
  | nil => rfl
  | cons a t ih => simp [ih]

theorem claimedKeys_eq (input ptx : List Scaffold) :
    claimedKeys input ptx = (allPieces ptx).flatMap (fun x => pieceKeys input x.2) := by
  unfold claimedKeys allPieces
  rw [List.flatMap_assoc]
  congr 1
  funext S
  rw [List.flatMap_map]

theorem regOf_has (input ptx : List Scaffold) (k : Key) :
    dHas (regOf input ptx).1 k = (claimedKeys input ptx).contains k := by
  unfold regOf
  rw [regFrom_has]
  have := any_zipIdx_fst (allPieces ptx) 0
    (fun x => (fragmentsOf (pieceO input x.2).rows).any (fun f => decide (f.keyTuple = k)))
  rw [this, claimedKeys_eq, Bool.eq_iff_iff]
  simp only [dHas, dGet?, Option.isSome_none, Bool.false_or, List.any_eq_true, decide_eq_true_eq, List.contains_iff_mem,
    List.mem_flatMap, pieceKeys, List.mem_map]

structure RegOk (r : Reg) : Prop where
  multiNodup : r.2.Nodup
  keyOk : ∀ k fnd, dGet? r.1 k = some fnd → fnd.fragment.keyTuple = k

theorem regFrom_foundIn {Q : Key → Fragment → Prop} (input : List Scaffold) (l : List ((Scaffold × Fragment) × Nat)) (r : Reg)
    (hl : ∀ y ∈ l, ∀ f ∈ fragmentsOf (pieceO input y.1.2).rows, Q f.keyTuple f) (h : Pipeline.FoundIn Q r.1) :
    Pipeline.FoundIn Q (regFrom input l r).1 := by
  unfold regFrom
  induction l generalizing r with
  | nil => exact h
  | cons y t ih =>
    rw [List.foldl_cons]
    refine ih _ (fun z hz => hl z (by simp [hz])) ?_
    have := Pipeline.storeFragmentsFound_foundIn y.2 _ (regBuild r) h (hl y (by simp))
    rwa [storeFragmentsFound_reg] at this

theorem regFrom_multi_nodup (input : List Scaffold) (l : List ((Scaffold × Fragment) × Nat)) (r : Reg) (h : r.2.Nodup) :
    (regFrom input l r).2.Nodup := by
  unfold regFrom
  induction l generalizing r with
  | nil => exact h
  | cons x t ih =>
    rw [List.foldl_cons]
    apply ih
    have := C01.foldl_storeOne_multi_nodup x.2 (fragmentsOf (pieceO input x.1.2).rows) (regBuild r) h
    rwa [foldl_storeOne_regBuild] at this

theorem regOf_ok (input ptx : List Scaffold) : RegOk (regOf input ptx) :=
  ⟨regFrom_multi_nodup input _ _ List.nodup_nil, fun _ _ h =>
    (regFrom_foundIn (Q := fun k f => f.keyTuple = k) input _ ([], []) (fun _ _ _ _ => rfl) (.nil _)).get h⟩

theorem holders_regBuild (r : Reg) (k : Key) :
    C01.holders (regBuild r) k = (match dGet? r.1 k with | some fnd => fnd.scaffolds | none => []) := rfl

theorem holdersOf_eq (input ptx : List Scaffold) (k : Key) :
    holdersOf input ptx k = C01.holders (regBuild (regOf input ptx)) k := rfl

theorem regFrom_inv (input : List Scaffold) (l : List ((Scaffold × Fragment) × Nat)) (r : Reg)
    (h : C01.RegistryInv (regBuild r)) : C01.RegistryInv (regBuild (regFrom input l r)) := by
  unfold regFrom
  induction l generalizing r with
  | nil => exact h
  | cons x t ih =>
    rw [List.foldl_cons]
    apply ih
    unfold regPiece
    rw [← foldl_storeOne_regBuild]
    exact C01.foldl_storeOne_inv _ _ _ h

theorem regFrom_holders (input : List Scaffold) (l : List ((Scaffold × Fragment) × Nat)) (r : Reg) (k : Key) :
    C01.holders (regBuild (regFrom input l r)) k =
      C01.holders (regBuild r) k ++
        l.flatMap (fun x => List.replicate ((pieceKeys input x.1.2).count k) x.2) := by
  unfold regFrom
  induction l generalizing r with
  | nil => simp
  | cons x t ih =>
    rw [List.foldl_cons, ih]
    unfold regPiece
    rw [← foldl_storeOne_regBuild, C01.foldl_storeOne_holders]
    simp only [List.flatMap_cons, List.append_assoc, pieceKeys]
    congr 2
    rw [List.count_eq_countP, List.countP_map]
    congr 1
    apply List.countP_congr
    intro f _
    simp [Function.comp]

theorem holdersOf_spec (input ptx : List Scaffold) (k : Key) :
    holdersOf input ptx k =
      (allPieces ptx).zipIdx.flatMap (fun x => List.replicate ((pieceKeys input x.1.2).count k) x.2) := by
  rw [holdersOf_eq]
  unfold regOf
  rw [regFrom_holders]
  simp [C01.holders, regBuild, dGet?]

theorem sharedKeys_spec (input ptx : List Scaffold) (k : Key) :
    k ∈ sharedKeys input ptx ↔ 2 ≤ (holdersOf input ptx k).length :=
  (regFrom_inv input (allPieces ptx).zipIdx ([], []) (C01.registryInv_empty _ rfl rfl)).2 k

theorem sum_map_zipIdx_fst {α} (l : List α) (n : Nat) (c : α → Nat) :
    ((l.zipIdx n).map (fun x => c x.1)).sum = (l.map c).sum := by
  induction l generalizing n with
  | nil => rfl
  | cons a t ih => simp [ih]

theorem holdersOf_length (input ptx : List Scaffold) (k : Key) :
    (holdersOf input ptx k).length = (claimedKeys input ptx).count k := by
  rw [holdersOf_spec, claimedKeys_eq, List.count_flatMap, List.length_flatMap]
  simp only [List.length_replicate]
  exact sum_map_zipIdx_fst (allPieces ptx) 0 (fun x => (pieceKeys input x.2).count k)

theorem allPieces_snd (ptx : List Scaffold) : (allPieces ptx).map Prod.snd = ptx.flatMap Scaffold.fragments := by
  unfold allPieces
  rw [List.map_flatMap]
  congr 1; funext S
  rw [List.map_map]; exact List.map_id' _

theorem mem_holdersOf (input ptx : List Scaffold) (key : Key) (n : Nat) :
    n ∈ holdersOf input ptx key ↔ ∃ x, (allPieces ptx)[n]? = some x ∧ key ∈ pieceKeys input x.2 := by
  rw [holdersOf_spec]
  simp only [List.mem_flatMap, List.mem_replicate]
  constructor
  · rintro ⟨y, hy, hc, rfl⟩
    exact ⟨y.1, List.mem_zipIdx_iff_getElem?.1 hy, List.count_pos_iff.1 (by omega)⟩
  · rintro ⟨x, hx, hk⟩
    refine ⟨(x, n), List.mem_zipIdx_iff_getElem?.2 hx, ?_, rfl⟩
    exact Nat.ne_of_gt (List.count_pos_iff.2 hk)

theorem holdersOf_nodup (input ptx : List Scaffold) (key : Key)
    (h : ∀ x ∈ allPieces ptx, (pieceKeys input x.2).Nodup) : (holdersOf input ptx key).Nodup := by
  rw [holdersOf_spec, List.nodup_iff_pairwise_ne, List.pairwise_flatMap]
  constructor
  · intro y hy
    have hc := (List.nodup_iff_count.1 (h y.1 (List.fst_mem_of_mem_zipIdx hy))) key
    have : List.count key (pieceKeys input y.1.2) = 0 ∨ List.count key (pieceKeys input y.1.2) = 1 := by omega
    rcases this with e | e <;> rw [e] <;> simp
  · have hnd : ((allPieces ptx).zipIdx.map Prod.snd).Nodup := by
      rw [List.zipIdx_map_snd]; exact List.nodup_range'
    rw [List.nodup_iff_pairwise_ne, List.pairwise_map] at hnd
    refine List.Pairwise.imp ?_ hnd
    intro a b hab x hx y hy e
    rw [List.mem_replicate] at hx hy
    exact hab (by rw [← hx.2, ← hy.2, e])

theorem regOf_fragment (input ptx : List Scaffold) (k : Key) (fnd : Found)
    (h : dGet? (regOf input ptx).1 k = some fnd) :
    ∃ x ∈ allPieces ptx, fnd.fragment ∈ fragmentsOf (pieceO input x.2).rows :=
  (regFrom_foundIn (Q := fun _ f => ∃ x ∈ allPieces ptx, f ∈ fragmentsOf (pieceO input x.2).rows) input _ ([], [])
    (fun y hy _ hf => ⟨y.1, List.fst_mem_of_mem_zipIdx hy, hf⟩) (.nil _)).get h

end AgpTpf.C02
