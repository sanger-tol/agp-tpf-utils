/-
  The second half of the explicit run (`Proofs/Remap/Run.lean`): from the build to the output.
  * Fusing.  The store is given as GROUPS of relabelled lookup results, one group per output scaffold (`FGroup`); with
    pairwise different names `scaffolds_fused_by_name` returns one scaffold per group (`FGroup.scaffold`, rows
    `fusedRows`), then the left-overs (`fuseByName_groups`) — read off the group-by form of the fold (`Lib/Fuse.lean`):
    the groups are the blocks of the item list.
  * Output.  For a fused list whose first `m ≥ 0` scaffolds are painted, each a chromosome of its own, and whose others
    are rank 3 (`PaintedUpTo`), everything up to `make_stats` is computed: one primary assembly holding the list with the
    painted scaffolds renamed by size (`assembliesFused_primary`).
-/
import AgpTpf.Proofs.Remap.Pieces
import AgpTpf.Proofs.Lib.Fuse
import AgpTpf.Proofs.Remap.Phase2
import AgpTpf.Proofs.C10Name
import AgpTpf.Proofs.C20Sort

namespace AgpTpf.Run
open AgpTpf
open AgpTpf.C09 (Item)
open AgpTpf.C02 (storedAs)

/-- the rows of the scaffold fused from the lookup results `os`, in this order: each turned the way its bait points
    (`toScaffoldRows`), the join gap between consecutive ones (`Scaffold.append_scaffold`) -/
def fusedRows (jg : Option Gap) (os : List OverlapResult) : List Row :=
  os.foldl (fun built o => Scaffold.appendRows built o.toScaffoldRows jg) []

/-- the stored results that make up one output scaffold: name, rank, the Pretext scaffold they come from and its tag set,
    and the lookup results in store order -/
structure FGroup where
  nm : Str
  rk : Int
  orig : Str
  tags : List Str
  os : List OverlapResult

def FGroup.store (g : FGroup) : List Res := g.os.map (storedAs g.nm g.rk g.orig g.tags)

def FGroup.scaffold (jg : Option Gap) (g : FGroup) : Scaffold :=
  { name := g.nm, rows := fusedRows jg g.os, tag := none, haplotype := none, rank := g.rk,
    originalName := some g.orig, originalTags := some g.tags }

theorem fuseByName_groups (b : Build) (gs : List FGroup) (hstore : b.store = gs.flatMap FGroup.store)
    (hne : ∀ g ∈ gs, g.os ≠ [] ∧ ∀ o ∈ g.os, o.rows ≠ [])
    (hE : ∀ e ∈ b.extra, e.1.rows ≠ [] ∧ e.1.tag = none ∧ e.1.haplotype = none)
    (hnc : (gs.map (·.nm) ++ b.extra.map (·.1.name)).Nodup) :
    fuseByName b = gs.map (FGroup.scaffold b.joinGap) ++ b.extra.map (·.1) := by
  -- the items, as blocks: one per group, one per left-over
  let bs : List (C09.FKey × List Item) :=
    gs.map (fun g => ((none, none, g.nm), g.store.map (Fuse.resItem b))) ++
      b.extra.map (fun e => ((none, none, e.1.name), [Fuse.extraItem b e]))
  have hitems : C09.fuseItems b = bs.flatMap (·.2) := by
    rw [C09.fuseItems, List.filter_eq_self.2, List.filter_eq_self.2, hstore, List.flatMap_append, List.flatMap_map,
      List.flatMap_map, List.map_flatMap]
    · exact congrArg _ List.map_eq_flatMap
    · exact fun e he => by simpa using (hE e he).1
    · intro r hr
      rw [hstore] at hr
      obtain ⟨g, hg, hr⟩ := List.mem_flatMap.1 hr
      obtain ⟨o, ho, rfl⟩ := List.mem_map.1 hr
      simpa [storedAs] using (hne g hg).2 o ho
  have hok : BlocksOk Item.key bs := by
    intro c hc
    rcases List.mem_append.1 hc with h | h
    · obtain ⟨g, hg, rfl⟩ := List.mem_map.1 h
      refine ⟨by simpa [FGroup.store] using (hne g hg).1, fun it hit => ?_⟩
      obtain ⟨r, hr, rfl⟩ := List.mem_map.1 hit
      obtain ⟨o, -, rfl⟩ := List.mem_map.1 hr
      rfl
    · obtain ⟨e, he, rfl⟩ := List.mem_map.1 h
      refine ⟨by simp, fun it hit => ?_⟩
      cases List.mem_singleton.1 hit
      show (e.1.tag, e.1.haplotype, e.1.name) = _
      rw [(hE e he).2.1, (hE e he).2.2]
  have hkeys : bs.map (·.1) = (gs.map (·.nm) ++ b.extra.map (·.1.name)).map (fun n => (none, none, n)) := by
    simp only [bs, List.map_append, List.map_map]; rfl
  have hnd : (bs.map (·.1)).Nodup := hkeys ▸ List.Pairwise.map _ (fun a c h e => h (by simpa using e)) hnc
  rw [Fuse.fuseByName_grouped, hitems, Fuse.firstKeys, foldl_sAdd_blocks Item.key bs [] hok (by simpa using hnd),
    List.nil_append, List.map_map]
  rw [List.map_congr_left (g := fun c => Fuse.fusedOf c.2) fun c hc => by
    simp only [Function.comp]; rw [filter_key_blocks Item.key bs c hok hnd hc]]
  simp only [bs, List.map_append, List.map_map]
  -- (a left-over opens its scaffold with nothing in front: `gaps_before_leftover` of no rows is empty)
  congr 1
  refine List.map_congr_left fun g hg => ?_
  obtain ⟨o, t, ho⟩ := List.exists_cons_of_ne_nil (hne g hg).1
  simp only [Function.comp, FGroup.store, FGroup.scaffold, fusedRows, ho, List.map_cons, Fuse.fusedOf, Fuse.fuseAddAll,
    List.foldl_cons, List.foldl_map]
  rfl

end AgpTpf.Run

namespace AgpTpf.C08
open AgpTpf

theorem getD_eq_getElem {α} (l : List α) (d : α) {i : Nat} (h : i < l.length) : l.getD i d = l[i] := by
  rw [List.getD_eq_getElem?_getD, List.getElem?_eq_getElem h]; rfl

theorem ext_getD {α} [Inhabited α] (l1 l2 : List α) (hl : l1.length = l2.length)
    (h : ∀ j, j < l1.length → l1.getD j default = l2.getD j default) : l1 = l2 := by
  apply List.ext_getElem hl
  intro j h1 h2
  rw [← getD_eq_getElem l1 default h1, ← getD_eq_getElem l2 default h2]
  exact h j h1

structure PlainSc (s : Scaffold) : Prop where
  tag : s.tag = none
  hap : s.haplotype = none
  rank : s.rank = 3

structure Plain1 (s : Scaffold) : Prop where
  tag : s.tag = none
  hap : s.haplotype = none
  rank : s.rank = 1

def fragLen (fs : List Scaffold) (i : Nat) : Int := (fs.getD i default).fragmentsLength

end AgpTpf.C08

namespace AgpTpf.C02
open AgpTpf
open AgpTpf.C08 (PlainSc Plain1 fragLen)

/-- indices `0..m-1` by non-increasing total contig length, ties in list order -/
def sizeOrderG (fs : List Scaffold) (m : Nat) : List Nat :=
  stableSort (fun i j => decide (fragLen fs i ≥ fragLen fs j)) (List.range m)

/-- `name_chromosomes` on a fused list whose first `m` scaffolds are painted: scaffold `i < m` is renamed
    `prefix ++ (1 + position of i in the size order)` -/
def namedBySize (prefix_ : Str) (fs : List Scaffold) (m : Nat) : List Scaffold :=
  fs.mapIdx (fun i s => if i < m then { s with name := prefix_ ++ natToStr ((sizeOrderG fs m).idxOf i + 1) } else s)

theorem namedBySize_length (prefix_ : Str) (fs : List Scaffold) (m : Nat) :
    (namedBySize prefix_ fs m).length = fs.length := by simp [namedBySize]

theorem namedBySize_rows (prefix_ : Str) (fs : List Scaffold) (m : Nat) :
    (namedBySize prefix_ fs m).map (·.rows) = fs.map (·.rows) := by
  apply List.ext_getElem?
  intro i
  simp only [namedBySize, List.getElem?_map, List.getElem?_mapIdx]
  cases fs[i]? with
  | none => rfl
  | some s => by_cases h : i < m <;> simp [h]

theorem sizeOrderG_perm (fs : List Scaffold) (m : Nat) : (sizeOrderG fs m).Perm (List.range m) := stableSort_perm _ _

theorem sizeOrderG_sorted (fs : List Scaffold) (m : Nat) :
    (sizeOrderG fs m).Pairwise (fun i j => fragLen fs i ≥ fragLen fs j) := by
  refine (stableSort_sorted (fun i j => decide (fragLen fs i ≥ fragLen fs j)) ?_ ?_ (List.range m)).imp
    (fun h => by simpa using h)
  · intro a b; simp only [decide_eq_true_eq]; omega
  · intro a b c h1 h2; simp only [decide_eq_true_eq] at h1 h2 ⊢; omega

/-- the painted scaffolds of the fused list: the first `m`, each remembering its own (Pretext) name -/
structure PaintedPrefix (fs : List Scaffold) (m : Nat) : Prop where
  le : m ≤ fs.length
  pos : 0 < m
  plain1 : ∀ i (h : i < fs.length), i < m → Plain1 fs[i]
  plain3 : ∀ i (h : i < fs.length), m ≤ i → PlainSc fs[i]
  orig : ∀ i, i < m → (fs.getD i default).originalName = some (fs.getD i default).name
  nonempty : ∀ i, i < m → (fs.getD i default).name ≠ []
  distinct : ∀ i, i + 1 < m → (fs.getD (i + 1) default).name ≠ (fs.getD i default).name

theorem PaintedPrefix.of_append {P E : List Scaffold} (hne : P ≠ [])
    (hP : ∀ s ∈ P, Plain1 s ∧ s.originalName = some s.name ∧ s.name ≠ [])
    (hE : ∀ s ∈ E, PlainSc s) (hnd : (P.map (·.name)).Nodup) : PaintedPrefix (P ++ E) P.length := by
  have hlt : ∀ i (hi : i < P.length), (P ++ E).getD i default = P[i] := fun i hi => by
    rw [List.getD_eq_getElem?_getD, List.getElem?_append_left hi, List.getElem?_eq_getElem hi]; rfl
  refine ⟨by simp, List.length_pos_iff.2 hne, ?_, ?_, ?_, ?_, ?_⟩
  · intro i h hi; rw [List.getElem_append_left hi]; exact (hP _ (List.getElem_mem _)).1
  · intro i h hi; rw [List.getElem_append_right hi]; exact hE _ (List.getElem_mem _)
  · intro i hi; rw [hlt i hi]; exact (hP _ (List.getElem_mem _)).2.1
  · intro i hi; rw [hlt i hi]; exact (hP _ (List.getElem_mem _)).2.2
  · intro i hi e
    rw [hlt _ hi, hlt i (by omega)] at e
    exact List.pairwise_iff_getElem.1 hnd i (i + 1) (by simp; omega) (by simpa using hi) (by omega) (by simpa using e.symm)

/-- the output assemblies for a list of fused scaffolds that are all untagged, without haplotype, rank 3 -/
def primaryOnly (fs : List Scaffold) : List OutAsm :=
  if fs.isEmpty then [] else [{ key := none, curated := true, scaffolds := C20.smartSorted fs }]

end AgpTpf.C02

namespace AgpTpf.Run
open AgpTpf
open AgpTpf.C08 (PlainSc Plain1 fragLen ext_getD)
open AgpTpf.C02 (primaryOnly namedBySize sizeOrderG PaintedPrefix namedBySize_length)
open AgpTpf.C10 (Run groupRuns mergeRun origPairs origOf sortedRuns runLength renameScaffold nameChromosomes_single)

/-- the run of a scaffold that is its own chromosome -/
def solo (fs : List Scaffold) (i : Nat) : Run := ((fs.getD i default).name, [i])

theorem groupRuns_solo (fs : List Scaffold) (m : Nat) (hp : PaintedPrefix fs m) : ∀ k n, k + n = m →
    groupRuns (origPairs fs ((List.range' k n).map (fun i => (sNone, i)))) = (List.range' k n).map (solo fs)
  | _, 0, _ => rfl
  | k, n + 1, h => by
    have ho : origOf fs k = (fs.getD k default).name := by unfold origOf; rw [hp.orig k (by omega)]; rfl
    rw [List.range'_succ, List.map_cons, origPairs, List.map_cons, groupRuns]
    have ih := groupRuns_solo fs m hp (k + 1) n (by omega)
    unfold origPairs at ih
    rw [ih, ho]
    cases n with
    | zero => rfl
    | succ n =>
      rw [List.range'_succ, List.map_cons, solo, mergeRun, if_neg (fun e => hp.distinct k (by omega) e.symm)]
      rfl

theorem sortedRuns_solo (fs : List Scaffold) (m : Nat) :
    sortedRuns fs ((List.range m).map (solo fs)) = (sizeOrderG fs m).map (solo fs) := by
  unfold sortedRuns sizeOrderG
  exact stableSort_map (le := fun i j => decide (fragLen fs i ≥ fragLen fs j)) (solo fs) _
    (fun a b => by simp [runLength, solo, sumInts, fragLen]) _

theorem nameChromosomes_solo (prefix_ : Str) (fs : List Scaffold) (m : Nat) (hp : PaintedPrefix fs m) :
    C10.nameChromosomes prefix_ fs [sNone] ((List.range m).map (fun i => (sNone, i))) = .ok (namedBySize prefix_ fs m) := by
  have hpos := hp.pos
  rw [nameChromosomes_single prefix_ fs sNone _ (by cases m <;> simp_all [List.range_succ])
    (fun e he => by obtain ⟨i, -, rfl⟩ := List.mem_map.1 he; rfl)
    (fun e he => by
      obtain ⟨i, hi, rfl⟩ := List.mem_map.1 he
      have hi : i < m := by simpa using hi
      rw [hp.orig i hi]
      cases hn : (fs.getD i default).name with
      | nil => exact absurd hn (hp.nonempty i hi)
      | cons c r => rfl)]
  have hids : ((List.range m).map (fun i => (sNone, i))).map (·.2) = List.range m := by
    rw [List.map_map]; exact List.map_id _
  obtain ⟨hl, hout, hin⟩ := C10.numbering_core prefix_ fs ((List.range m).map (fun i => (sNone, i)))
    (by rw [hids]; exact List.nodup_range)
  have hg : groupRuns (origPairs fs ((List.range m).map (fun i => (sNone, i)))) = (List.range m).map (solo fs) := by
    rw [List.range_eq_range']; exact groupRuns_solo fs m hp 0 m (by omega)
  rw [hg, sortedRuns_solo] at hl hout hin ⊢
  rw [hids] at hout
  refine congrArg Except.ok ?_
  refine ext_getD _ _ (by rw [hl, namedBySize_length]) fun j hj => ?_
  rw [hl] at hj
  have hget : (namedBySize prefix_ fs m).getD j default =
      if j < m then { (fs.getD j default) with name := prefix_ ++ natToStr ((sizeOrderG fs m).idxOf j + 1) }
      else fs.getD j default := by
    unfold namedBySize
    rw [List.getD_eq_getElem?_getD, List.getElem?_mapIdx, List.getD_eq_getElem?_getD, List.getElem?_eq_getElem hj]
    by_cases h : j < m <;> simp [h]
  rw [hget]
  by_cases hjm : j < m
  · -- `j` is the run at its position in the size order, under its own name
    have hk : (sizeOrderG fs m).idxOf j < (sizeOrderG fs m).length :=
      List.idxOf_lt_length_of_mem ((C02.sizeOrderG_perm fs m).mem_iff.2 (List.mem_range.2 hjm))
    rw [if_pos hjm, hin _ (by simpa using hk) j (by simp [solo, List.getElem_idxOf hk])]
    simp only [List.getElem_map, List.getElem_idxOf hk, solo, renameScaffold]
    rw [C10.replaceAll_self _ _ (hp.nonempty j hjm)]
  · rw [if_neg hjm]
    exact hout j (by simpa using hjm)

/-- the first `m` scaffolds of the fused list are painted (rank 1, each remembering its own name, names non-empty and
    different from the next), the others rank 3; all untagged, no haplotype.  `m = 0`: nothing painted -/
structure PaintedUpTo (fs : List Scaffold) (m : Nat) : Prop where
  le : m ≤ fs.length
  plain1 : ∀ i (h : i < fs.length), i < m → Plain1 fs[i]
  plain3 : ∀ i (h : i < fs.length), m ≤ i → PlainSc fs[i]
  orig : ∀ i, i < m → (fs.getD i default).originalName = some (fs.getD i default).name
  nonempty : ∀ i, i < m → (fs.getD i default).name ≠ []
  distinct : ∀ i, i + 1 < m → (fs.getD (i + 1) default).name ≠ (fs.getD i default).name

theorem PaintedPrefix.upTo {fs : List Scaffold} {m : Nat} (h : PaintedPrefix fs m) : PaintedUpTo fs m :=
  ⟨h.le, h.plain1, h.plain3, h.orig, h.nonempty, h.distinct⟩

theorem paintedUpTo_zero {fs : List Scaffold} (hplain : ∀ s ∈ fs, PlainSc s) : PaintedUpTo fs 0 :=
  ⟨Nat.zero_le _, fun _ _ h => absurd h (Nat.not_lt_zero _), fun _ h _ => hplain _ (List.getElem_mem h),
    fun _ h => absurd h (Nat.not_lt_zero _), fun _ h => absurd h (Nat.not_lt_zero _),
    fun _ h => absurd h (Nat.not_lt_zero _)⟩

theorem PaintedUpTo.plain {fs : List Scaffold} {m : Nat} (hp : PaintedUpTo fs m) {j : Nat} (hj : j < fs.length) :
    (fs.getD j default).tag = none ∧ (fs.getD j default).haplotype = none ∧
      (fs.getD j default).rank = if j < m then 1 else 3 := by
  rw [C08.getD_eq_getElem fs default hj]
  by_cases h : j < m
  · rw [if_pos h]; exact ⟨(hp.plain1 j hj h).tag, (hp.plain1 j hj h).hap, (hp.plain1 j hj h).rank⟩
  · rw [if_neg h]; exact ⟨(hp.plain3 j hj (by omega)).tag, (hp.plain3 j hj (by omega)).hap, (hp.plain3 j hj (by omega)).rank⟩

theorem addAsm_primary (k : Nat) :
    C09.addAsm (if k = 0 then [] else [(none, (true, List.range k))]) (none, true) k = [(none, (true, List.range (k + 1)))] := by
  by_cases h0 : k = 0
  · subst h0; rfl
  · simp [h0, C09.addAsm, dGet?, dSet, List.range_succ]

/-- **the split loop** on such a list: everything goes to the primary assembly, the painted scaffolds are entered for
    chromosome naming under the haplotype `None`, no name gets the prefix (no rank 2) -/
theorem splitLoop_upTo (p : Str) {fs : List Scaffold} {m : Nat} (hp : PaintedUpTo fs m) :
    C09.splitLoop p fs =
      (if fs.length = 0 then [] else [(none, (true, List.range fs.length))], (List.range m).map (fun i => (sNone, i)),
       if m = 0 then [] else [sNone], fs) := by
  have hkey : ∀ j, j < fs.length → C09.asmKey (fs.getD j default) = (none, true) := fun j hj => by
    unfold C09.asmKey; rw [(hp.plain hj).1, (hp.plain hj).2.1]; rfl
  have hasms : ∀ k, k ≤ fs.length → (List.range k).foldl (fun a j => C09.addAsm a (C09.asmKey (fs.getD j default)) j) [] =
      if k = 0 then [] else [(none, (true, List.range k))] := by
    intro k
    induction k with
    | zero => intro _; rfl
    | succ k ih =>
      intro hk
      rw [List.range_succ, List.foldl_append, ih (by omega), List.foldl_cons, List.foldl_nil, hkey k (by omega),
        addAsm_primary, if_neg (Nat.add_one_ne_zero k), List.range_succ]
  have hentry : ∀ j, j < fs.length → C09.entryOf (fs.getD j default) j = if j < m then some (sNone, j) else none :=
    fun j hj => by
      unfold C09.entryOf
      rw [hkey j hj, (hp.plain hj).2.2]
      split <;> rfl
  have hentries : ∀ k, k ≤ fs.length → (List.range k).filterMap (fun j => C09.entryOf (fs.getD j default) j) =
      (List.range (min k m)).map (fun i => (sNone, i)) := by
    intro k
    induction k with
    | zero => intro _; simp
    | succ k ih =>
      intro hk
      rw [List.range_succ, List.filterMap_append, ih (by omega), List.filterMap_cons, hentry k hk, List.filterMap_nil]
      by_cases hkm : k < m
      · rw [if_pos hkm, Nat.min_eq_left (by omega), Nat.min_eq_left (by omega), List.range_succ, List.map_append]; rfl
      · rw [if_neg hkm, List.append_nil, Nat.min_eq_right (by omega), Nat.min_eq_right (by omega)]
  have hfs : fs.map (C09.pfx p) = fs := by
    refine (List.map_congr_left fun s hs => ?_).trans (List.map_id fs)
    obtain ⟨j, hj, rfl⟩ := List.mem_iff_getElem.1 hs
    have hr := (hp.plain hj).2.2
    rw [C08.getD_eq_getElem fs default hj] at hr
    exact if_neg fun h => by rw [h.1] at hr; split at hr <;> cases hr
  rw [C09.splitLoop_eq, hasms _ (Nat.le_refl _), hentries _ (Nat.le_refl _), hfs, Nat.min_eq_right hp.le, List.map_map]
  refine congrArg _ (congrArg _ (congrArg (·, fs) ?_))
  by_cases h0 : m = 0
  · subst h0; rfl
  · rw [if_neg h0]
    exact foldl_sAdd_block (fun i : Nat => sNone) sNone (List.range m) [] (by simpa using h0) (fun _ _ => rfl) (by simp)

theorem namedBySize_zero (prefix_ : Str) (fs : List Scaffold) : namedBySize prefix_ fs 0 = fs := by
  unfold namedBySize
  apply List.ext_getElem?
  intro i
  simp [List.getElem?_mapIdx]

theorem outsOf_primary (fs : List Scaffold) :
    C09.outsOf fs (if fs.length = 0 then [] else [(none, (true, List.range fs.length))]) = primaryOnly fs := by
  unfold C09.outsOf primaryOnly
  cases fs with
  | nil => rfl
  | cons a r =>
    rw [if_neg (by simp)]
    simp only [List.map_cons, List.map_nil, range_map_getD, List.isEmpty_cons, Bool.false_eq_true, if_false]

/-- **split loop + chromosome naming + sorting**: one primary curated assembly (none when nothing was fused) holding the
    fused scaffolds, the painted ones renamed by size; what is left is `make_stats` -/
theorem assembliesFused_primary (input : List Scaffold) (b : Build) (fs : List Scaffold) (m : Nat)
    (hfs : fuseByName b = fs) (hp : PaintedUpTo fs m) :
    assembliesFused input b =
      (makeStats input (primaryOnly (namedBySize b.namer.autosomePrefix fs m)) b.cuts).map
        (fun st => (primaryOnly (namedBySize b.namer.autosomePrefix fs m), st)) := by
  have hname : C09.nameChromosomes fs (if m = 0 then [] else [sNone]) ((List.range m).map (fun i => (sNone, i)))
      b.namer.autosomePrefix = .ok (namedBySize b.namer.autosomePrefix fs m) := by
    rcases Nat.eq_zero_or_pos m with rfl | hpos
    · rw [namedBySize_zero]; rfl
    · rw [if_neg (by omega)]
      exact nameChromosomes_solo _ fs m ⟨hp.le, hpos, hp.plain1, hp.plain3, hp.orig, hp.nonempty, hp.distinct⟩
  rw [C09.assembliesFused_eq', hfs, splitLoop_upTo _ hp]
  dsimp only
  rw [hname, ok_bind, ← namedBySize_length b.namer.autosomePrefix fs m, outsOf_primary]

end AgpTpf.Run
