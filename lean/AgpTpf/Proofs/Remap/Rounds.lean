/-
  The overhang resolver seen from outside, in the vocabulary of `OverlapResult`.
  `RStep err s s'` is one fix of `make_fixes`: one stored result loses its first / last row `f` by `discard_start` /
  `discard_end`, under the sub-texel rule (bait overlap `< err`) or `improves` (what-if overhang `> −3·err`, at least two
  rows), while another stored result still holds `f`.  `discard_overhanging_fragments` is a run of such fixes
  (`discardOverhanging_rrun`, proved once from the registry invariant `Mid` / `FInv`), so a family that needs to know UNDER
  WHICH GUARD a row was discarded reasons about `RStep` and never meets premises, premise lists or `fixOne`.
-/
import AgpTpf.Proofs.C01MiddleFinal
import AgpTpf.Properties.C02

namespace AgpTpf.C01
open AgpTpf OverlapResult

/-- the guard under which the resolver discards the first row: the sub-texel rule, or `improves` -/
def StartFix (err : Int) (o : OverlapResult) : Prop :=
  (∃ ov, o.startRowBaitOverlap = .ok ov ∧ ov < err) ∨
  (∃ a, o.overhangIfStartRemoved = .ok a ∧ a > -3 * err ∧ 2 ≤ o.rows.length)

def EndFix (err : Int) (o : OverlapResult) : Prop :=
  (∃ ov, o.endRowBaitOverlap = .ok ov ∧ ov < err) ∨
  (∃ a, o.overhangIfEndRemoved = .ok a ∧ a > -3 * err ∧ 2 ≤ o.rows.length)

/-- `o'` is `o` after one of the resolver's two discards, with the guard it was made under -/
def Discarded (err : Int) (o o' : OverlapResult) : Prop :=
  (o.discardStart = .ok o' ∧ StartFix err o) ∨ (o.discardEnd = .ok o' ∧ EndFix err o)

theorem Discarded.bait {err : Int} {o o' : OverlapResult} (h : Discarded err o o') : o'.bait = o.bait :=
  h.elim (fun h => (discardStart_keeps h.1).2) (fun h => (discardEnd_keeps h.1).2)

/-- one fix of the overhang resolver -/
inductive RStep (err : Int) (s : List Res) : List Res → Prop
  | start {i : Nat} {r : Res} {f : Fragment} {t : List Row} {o' : OverlapResult} :
      s[i]? = some r → r.o.rows = .frag f :: t → r.o.discardStart = .ok o' → StartFix err r.o →
      (∃ j r', j ≠ i ∧ s[j]? = some r' ∧ Row.frag f ∈ r'.o.rows) → RStep err s (s.set i { r with o := o' })
  | stop {i : Nat} {r : Res} {f : Fragment} {t : List Row} {o' : OverlapResult} :
      s[i]? = some r → r.o.rows = t ++ [.frag f] → r.o.discardEnd = .ok o' → EndFix err r.o →
      (∃ j r', j ≠ i ∧ s[j]? = some r' ∧ Row.frag f ∈ r'.o.rows) → RStep err s (s.set i { r with o := o' })

inductive RRun (err : Int) (s : List Res) : List Res → Prop
  | refl : RRun err s s
  | step {s₁ s₂ : List Res} : RRun err s s₁ → RStep err s₁ s₂ → RRun err s s₂

theorem RRun.trans {err : Int} {a b c : List Res} (h1 : RRun err a b) (h2 : RRun err b c) : RRun err a c := by
  induction h2 with
  | refl => exact h1
  | step _ hs ih => exact .step ih hs

theorem RStep.slot {err : Int} {s s' : List Res} (h : RStep err s s') :
    ∃ i r o', s[i]? = some r ∧ Discarded err r.o o' ∧ s' = s.set i { r with o := o' } := by
  cases h with
  | start hi _ hd hg _ => exact ⟨_, _, _, hi, .inl ⟨hd, hg⟩, rfl⟩
  | stop hi _ hd hg _ => exact ⟨_, _, _, hi, .inr ⟨hd, hg⟩, rfl⟩

theorem RStep.baits {err : Int} {s s' : List Res} (h : RStep err s s') : s'.map (·.o.bait) = s.map (·.o.bait) := by
  obtain ⟨i, r, o', hi, hd, rfl⟩ := h.slot
  exact Pipeline.map_setAt_of_eq (fun r : Res => r.o.bait) s i _ (by rw [getD_of_getElem? hi]; exact hd.bait)

theorem exists_other {l : List Nat} (x : Nat) (h2 : 2 ≤ l.length) (hc : ∀ s, l.count s ≤ 1) : ∃ s ∈ l, s ≠ x := by
  match l, h2 with
  | a :: c :: t, _ =>
    by_cases ha : a = x
    · by_cases hcx : c = x
      · exfalso
        have := hc x
        rw [ha, hcx] at this
        simp at this
      · exact ⟨c, by simp, hcx⟩
    · exact ⟨a, by simp, ha⟩

theorem FInv.other_holder {input : List Scaffold} (hwf : WFInput input) {b : Build} (hm : Mid input b)
    {e : Key × List Premise} {rest : List (Key × List Premise)} {store : List Res} {fixes : List Premise}
    (hF : FInv input b (e :: rest) store fixes) {p : Premise} (hp : p ∈ e.2) :
    ∃ s' r', s' ≠ p.sid ∧ store[s']? = some r' ∧ Row.frag p.fragment ∈ r'.o.rows := by
  obtain ⟨⟨r, hr, _, hk⟩, hkey, hmulti⟩ := hF.valid e (List.mem_cons_self ..) p hp
  obtain ⟨s', hs', hne⟩ := exists_other p.sid ((hm.registry.2 _).mp hmulti)
    (List.nodup_iff_count.mp (hm.holders_nodup hwf e.1))
  have hpos : 0 < holdCount store e.1 s' := by rw [hF.pending, ← hm.counts]; exact List.count_pos_iff.mpr hs'
  obtain ⟨r', hs, _, g, hg, hgk⟩ := holdCount_pos_iff.mp hpos
  have hpm : Row.frag p.fragment ∈ r.o.rows := by
    cases hkind : p.kind with
    | start => rw [hkind] at hk; exact List.mem_of_head? hk
    | stop => rw [hkind] at hk; exact List.mem_of_getLast? hk
  have := hwf.key_inj (mem_inputFrags_of_slice (hF.slices r' (List.mem_of_getElem? hs)) hg)
    (mem_inputFrags_of_slice (hF.slices r (List.mem_of_getElem? hr)) hpm) (hgk.trans hkey.symm)
  exact ⟨s', r', hne, hs, this ▸ hg⟩

theorem FInv.rstep {input : List Scaffold} (hwf : WFInput input) {b : Build} (hm : Mid input b) {err : Int}
    {e : Key × List Premise} {rest : List (Key × List Premise)} {store store1 : List Res} {fixes : List Premise}
    (hF : FInv input b (e :: rest) store fixes) {p : Premise} (hp : p ∈ e.2) (happ : p.apply store = .ok store1)
    (hg : (∃ ov, p.baitOverlap store = .ok ov ∧ ov < err) ∨ p.improves store err = .ok true) :
    RStep err store store1 := by
  obtain ⟨⟨r, hr, _, hk⟩, _, _⟩ := hF.valid e (List.mem_cons_self ..) p hp
  have hgetD : store.getD p.sid default = r := getD_of_getElem? hr
  have hgetRes : getRes store p.sid = r.o := by unfold getRes; rw [hgetD]
  obtain ⟨_, _, o', hdisc, rfl⟩ := C02.apply_only_touches happ
  rw [hgetRes] at hdisc
  rw [hgetD]
  have hother := hF.other_holder hwf hm hp
  have h2 : p.improves store err = .ok true →
      2 ≤ r.o.rows.length ∧ ∃ a, p.overhangIfApplied store = .ok a ∧ a > -3 * err := fun hi => by
    obtain ⟨q, a, ha, hgt, _⟩ := C02.improves_guard hi
    exact ⟨hgetRes ▸ q, a, ha, hgt⟩
  cases hkind : p.kind with
  | start =>
    rw [hkind] at hk hdisc
    obtain ⟨t, hrows⟩ := List.head?_eq_some_iff.mp hk
    refine .start hr hrows hdisc ?_ hother
    rcases hg with ⟨ov, hov, hlt⟩ | hi
    · exact .inl ⟨ov, by simpa only [Premise.baitOverlap, hkind, hgetRes] using hov, hlt⟩
    · obtain ⟨q, a, ha, hgt⟩ := h2 hi
      exact .inr ⟨a, by simpa only [Premise.overhangIfApplied, hkind, hgetRes] using ha, hgt, q⟩
  | stop =>
    rw [hkind] at hk hdisc
    obtain ⟨t, hrows⟩ := List.getLast?_eq_some_iff.mp hk
    refine .stop hr hrows hdisc ?_ hother
    rcases hg with ⟨ov, hov, hlt⟩ | hi
    · exact .inl ⟨ov, by simpa only [Premise.baitOverlap, hkind, hgetRes] using hov, hlt⟩
    · obtain ⟨q, a, ha, hgt⟩ := h2 hi
      exact .inr ⟨a, by simpa only [Premise.overhangIfApplied, hkind, hgetRes] using ha, hgt, q⟩

theorem fixFold_rrun {input : List Scaffold} (hwf : WFInput input) {b : Build} (hm : Mid input b) {err : Int}
    (rest : List (Key × List Premise)) (store : List Res) (fixes : List Premise) (store' : List Res)
    (fixes' : List Premise) (hF : FInv input b rest store fixes)
    (h : rest.foldlM (fun st e => fixOne err st e.2) (store, fixes) = .ok (store', fixes')) : RRun err store store' :=
  (foldlM_rest (fun rest st => FInv input b rest st.1 st.2 ∧ RRun err store st.1)
    (fun _ _ _ _ hP hs => ⟨hP.1.step hs, hP.2.trans (by
      rcases Pipeline.fixOne_ok' hs with ⟨e, _⟩ | ⟨p, hc, happ, _⟩
      · rw [e]; exact .refl
      · exact .step .refl (hP.1.rstep hwf hm hc.mem happ hc.guard))⟩)
    rest (store, fixes) (store', fixes') ⟨hF, .refl⟩ h).2

theorem resolverRound_rrun {input : List Scaffold} (hwf : WFInput input) {b b' : Build} (hm : Mid input b)
    (h : resolverRound b = .ok (some b')) : RRun b.err b.store b'.store := by
  obtain ⟨prems, store, fixes, hprems, hv, _, hb⟩ := Pipeline.resolverRound_ok h
  rw [List.foldlM_map] at hv
  rw [(Pipeline.bookkeeping_frame hb).2.1]
  exact fixFold_rrun hwf hm prems b.store [] store fixes (FInv.init hwf hm hprems) hv

theorem discardOverhanging_rrun {input : List Scaffold} (hwf : WFInput input) {fuel : Nat} {b b' : Build}
    (hm : Mid input b) (h : discardOverhanging fuel b = .ok b') :
    Mid input b' ∧ b'.err = b.err ∧ RRun b.err b.store b'.store := by
  have hR := Pipeline.discardOverhanging_rounds h
  clear h
  induction hR with
  | refl b => exact ⟨hm, rfl, .refl⟩
  | @step b b1 b' hr _ ih =>
    obtain ⟨hm1, _, _, _, _, he, _⟩ := reg_resolver_round_aux input hwf b b1 hm hr
    obtain ⟨q1, q2, q3⟩ := ih hm1
    exact ⟨q1, q2.trans he, (resolverRound_rrun hwf hm hr).trans (he ▸ q3)⟩

end AgpTpf.C01
