/-
  `assemblies_with_scaffolds_fused` after the fusing, said once.
  The split loop has a closed form (`splitLoop_eq`): pass `k` reads scaffold `k`, which no earlier pass has written, so the
  assemblies dict, the `ChrNamer` entries and `haplotypes_seen` are list expressions of the fused scaffolds, and the scaffolds
  themselves pass `add_chr_prefix` pointwise.  `smart_sort_scaffolds` never fails, so the per-assembly sort is a `map`
  (`outsOf`).  Hence `assembliesFused_eq'`: closed-form loop, `name_chromosomes`, `outsOf`, `make_stats`.
-/
import AgpTpf.Model.Remap
import AgpTpf.Proofs.Lib.Py
import AgpTpf.Proofs.Lib.Dict
import AgpTpf.Proofs.Lib.Stages
import AgpTpf.Proofs.C20Sort
namespace AgpTpf.C09
open AgpTpf

abbrev Asms := List (Option Str × Bool × List Nat)
abbrev SplitSt := Asms × List (Str × Nat) × List Str × List Scaffold

/-- the loop body of the split in `assemblies_with_scaffolds_fused` (verbatim) -/
def splitStep (prefix_ : Str) (acc : SplitSt) (sid : Nat) : SplitSt :=
  let (asms, entries, haps, fs) := acc
  let s := fs.getD sid default
  let (key, curated) :=
    if truthy s.tag then (s.tag, false)
    else if truthy s.haplotype then (s.haplotype, true)
    else (none, true)
  let asms := match dGet? asms key with
    | some (c, ids) => dSet asms key (c, ids ++ [sid])
    | none => asms ++ [(key, (curated, [sid]))]
  if s.rank = 1 then
    let h := pyStrOpt key
    (asms, entries ++ [(h, sid)], sAdd haps h, fs)
  else if s.rank = 2 then
    let fs := if prefix_.isPrefixOf s.name then fs else setAt fs sid { s with name := prefix_ ++ s.name }
    (asms, entries, haps, fs)
  else (asms, entries, haps, fs)

def splitLoop (prefix_ : Str) (fs : List Scaffold) : SplitSt :=
  (List.range fs.length).foldl (splitStep prefix_) ([], [], [], fs)

/-- everything after the split loop (verbatim) -/
def finishAssemblies (input : List Scaffold) (b : Build) (st : SplitSt) : R (List OutAsm × Stats) := do
  let prefix_ := b.namer.autosomePrefix
  let (asms, entries, haps, fs) := st
  let fs ←
    if haps.isEmpty then pure fs
    else do
      let groups ← buildGroups fs haps entries
      if groupsHaveErrors groups then throw .chrNamer
      let keyed ← groups.mapM (fun g => do let l ← groupFirstLength fs g; pure (l, g))
      let sorted := (stableSort (fun (a c : Int × GroupData) => a.1 ≥ c.1) keyed).map (·.2)
      pure (((List.range sorted.length).zip sorted).foldl (fun fs (p : Nat × GroupData) => nameGroup fs p.2 prefix_ (p.1 + 1)) fs)
  let outs ← asms.mapM (fun (a : Option Str × Bool × List Nat) => do
    let scs := a.2.2.map (fun sid => fs.getD sid default)
    let scs ← smartSort scs
    pure ({ key := a.1, curated := a.2.1, scaffolds := scs } : OutAsm))
  let stats ← makeStats input outs b.cuts
  pure (outs, stats)

theorem assembliesFused_eq (input : List Scaffold) (b : Build) :
    assembliesFused input b = finishAssemblies input b (splitLoop b.namer.autosomePrefix (fuseByName b)) := rfl

/-- `(key, curated)` the loop computes for one fused scaffold -/
def asmKey (s : Scaffold) : Option Str × Bool :=
  if truthy s.tag then (s.tag, false)
  else if truthy s.haplotype then (s.haplotype, true)
  else (none, true)

theorem asmKey_cases (s : Scaffold) :
    (truthy s.tag = true → asmKey s = (s.tag, false)) ∧
    (¬ truthy s.tag = true → truthy s.haplotype = true → asmKey s = (s.haplotype, true)) ∧
    (¬ truthy s.tag = true → ¬ truthy s.haplotype = true → asmKey s = (none, true)) := by
  unfold asmKey
  refine ⟨fun h => by rw [if_pos h], fun h1 h2 => by rw [if_neg h1, if_pos h2], fun h1 h2 => by rw [if_neg h1, if_neg h2]⟩

def addAsm (asms : Asms) (kc : Option Str × Bool) (sid : Nat) : Asms :=
  match dGet? asms kc.1 with
  | some (c, ids) => dSet asms kc.1 (c, ids ++ [sid])
  | none => asms ++ [(kc.1, (kc.2, [sid]))]

/-- `add_chr_prefix` as the loop applies it: rank 2 only, and only when the name does not start with the prefix already -/
def pfx (p : Str) (s : Scaffold) : Scaffold :=
  if s.rank = 2 ∧ ¬ p.isPrefixOf s.name = true then { s with name := p ++ s.name } else s

/-- what the loop hands to `ChrNamer.add_scaffold` for scaffold `s` with id `j`: rank 1 only, under the assembly key -/
def entryOf (s : Scaffold) (j : Nat) : Option (Str × Nat) :=
  if s.rank = 1 then some (pyStrOpt (asmKey s).1, j) else none

/-- a scaffold with its name blanked: what the split loop and `name_chromosomes` never change -/
def noName (s : Scaffold) : Scaffold := { s with name := [] }

theorem pfx_noName (p : Str) (s : Scaffold) : noName (pfx p s) = noName s := by
  unfold pfx; split <;> rfl

theorem splitStep_eq (p : Str) (asms : Asms) (entries : List (Str × Nat)) (haps : List Str) (fs : List Scaffold)
    (sid : Nat) :
    splitStep p (asms, entries, haps, fs) sid =
      (addAsm asms (asmKey (fs.getD sid default)) sid,
       entries ++ (entryOf (fs.getD sid default) sid).toList,
       ((entryOf (fs.getD sid default) sid).toList.map (·.1)).foldl sAdd haps,
       if (fs.getD sid default).rank = 2 ∧ ¬ p.isPrefixOf (fs.getD sid default).name then
         setAt fs sid (pfx p (fs.getD sid default)) else fs) := by
  unfold splitStep entryOf pfx
  by_cases h1 : (fs.getD sid default).rank = 1
  · have hc : ¬ ((fs.getD sid default).rank = 2 ∧ ¬ p.isPrefixOf (fs.getD sid default).name = true) := fun h => by omega
    simp only [if_pos h1, if_neg hc]; rfl
  · simp only [if_neg h1, Option.toList_none, List.append_nil, List.map_nil, List.foldl_nil]
    by_cases h2 : (fs.getD sid default).rank = 2
    · by_cases h3 : p.isPrefixOf (fs.getD sid default).name = true
      · simp only [if_pos h2, if_pos h3, if_neg (fun h : _ ∧ ¬ _ => h.2 h3)]; rfl
      · simp only [if_pos h2, if_neg h3, if_pos (And.intro h2 h3)]; rfl
    · simp only [if_neg h2, if_neg (fun h : _ ∧ _ => h2 h.1)]; rfl

theorem splitFold_range (p : Str) (fs : List Scaffold) : ∀ k ≤ fs.length,
    (List.range k).foldl (splitStep p) ([], [], [], fs) =
      ((List.range k).foldl (fun a j => addAsm a (asmKey (fs.getD j default)) j) [],
       (List.range k).filterMap (fun j => entryOf (fs.getD j default) j),
       (((List.range k).filterMap (fun j => entryOf (fs.getD j default) j)).map (·.1)).foldl sAdd [],
       (fs.take k).map (pfx p) ++ fs.drop k) := by
  intro k
  induction k with
  | zero => intro _; rfl
  | succ k ih =>
    intro hk
    have hlt : k < fs.length := hk
    rw [List.range_succ, List.foldl_append, List.foldl_cons, List.foldl_nil, ih (Nat.le_of_lt hk), splitStep_eq]
    have hlen : ((fs.take k).map (pfx p)).length = k := by
      rw [List.length_map, List.length_take]; exact Nat.min_eq_left (Nat.le_of_lt hlt)
    -- pass `k` reads scaffold `k`, which is still the original one
    have hget : ((fs.take k).map (pfx p) ++ fs.drop k).getD k default = fs.getD k default := by
      rw [List.getD_eq_getElem?_getD, List.getD_eq_getElem?_getD, List.getElem?_append_right (by omega), hlen, Nat.sub_self,
        List.getElem?_drop]
      rfl
    rw [hget]
    have hfs : (if (fs.getD k default).rank = 2 ∧ ¬ p.isPrefixOf (fs.getD k default).name = true then
          setAt ((fs.take k).map (pfx p) ++ fs.drop k) k (pfx p (fs.getD k default))
        else (fs.take k).map (pfx p) ++ fs.drop k) = (fs.take (k + 1)).map (pfx p) ++ fs.drop (k + 1) := by
      have hd : fs.drop k = fs.getD k default :: fs.drop (k + 1) := by
        rw [List.getD_eq_getElem?_getD, List.getElem?_eq_getElem hlt]; exact List.drop_eq_getElem_cons hlt
      have ht : (fs.take (k + 1)).map (pfx p) = (fs.take k).map (pfx p) ++ [pfx p (fs.getD k default)] := by
        rw [List.take_add_one, List.map_append, List.getElem?_eq_getElem hlt, List.getD_eq_getElem?_getD,
          List.getElem?_eq_getElem hlt]; rfl
      rw [ht, List.append_assoc, hd]
      split
      · unfold setAt
        rw [List.set_append_right _ _ (by omega), hlen, Nat.sub_self]; rfl
      · next hc => congr 2; unfold pfx; rw [if_neg hc]
    have e : List.filterMap (fun j => entryOf (fs.getD j default) j) [k] = (entryOf (fs.getD k default) k).toList := by
      rw [List.filterMap_cons]; cases entryOf (fs.getD k default) k <;> rfl
    rw [hfs, List.filterMap_append, List.map_append, List.foldl_append (f := sAdd), e, List.foldl_append]
    rfl

theorem splitLoop_eq (p : Str) (fs : List Scaffold) :
    splitLoop p fs =
      ((List.range fs.length).foldl (fun a j => addAsm a (asmKey (fs.getD j default)) j) [],
       (List.range fs.length).filterMap (fun j => entryOf (fs.getD j default) j),
       (((List.range fs.length).filterMap (fun j => entryOf (fs.getD j default) j)).map (·.1)).foldl sAdd [],
       fs.map (pfx p)) := by
  unfold splitLoop
  rw [splitFold_range p fs _ (Nat.le_refl _), List.take_length, List.drop_length, List.append_nil]

theorem splitLoop_entries_eq (p : Str) (fs : List Scaffold) :
    (splitLoop p fs).2.1 = (List.range fs.length).filterMap (fun j => entryOf (fs.getD j default) j) := by
  rw [splitLoop_eq]

theorem splitLoop_haps_eq (p : Str) (fs : List Scaffold) :
    (splitLoop p fs).2.2.1 = ((splitLoop p fs).2.1.map (·.1)).foldl sAdd [] := by
  rw [splitLoop_eq]

theorem splitLoop_fs (p : Str) (fs : List Scaffold) : (splitLoop p fs).2.2.2 = fs.map (pfx p) := by
  rw [splitLoop_eq]

theorem splitLoop_noName (p : Str) (fs : List Scaffold) : (splitLoop p fs).2.2.2.map noName = fs.map noName := by
  rw [splitLoop_fs, List.map_map]
  exact List.map_congr_left fun s _ => pfx_noName p s

/-- what `addAsm` stores under the key -/
def asmUpd (cur : Nat → Bool) (v : Option (Bool × List Nat)) (sid : Nat) : Bool × List Nat :=
  match v with
  | some (c, ids) => (c, ids ++ [sid])
  | none => (cur sid, [sid])

theorem addAsm_dStep (key : Nat → Option Str) (cur : Nat → Bool) (asms : Asms) (sid : Nat) :
    addAsm asms (key sid, cur sid) sid = dStep key (asmUpd cur) asms sid := by
  unfold addAsm dStep asmUpd
  cases hg : dGet? asms (key sid) with
  | none => exact (dSet_of_none _ hg).symm
  | some w => rfl

theorem groupVal_asmUpd (cur : Nat → Bool) (r : List Nat) : ∀ (c : Bool) (ids : List Nat),
    groupVal (asmUpd cur) r (some (c, ids)) = some (c, ids ++ r) := by
  induction r with
  | nil => intro c ids; rw [List.append_nil]; rfl
  | cons a t ih =>
    intro c ids
    show groupVal (asmUpd cur) t (some (c, ids ++ [a])) = _
    rw [ih, List.append_assoc]; rfl

/-- the ids filed under key `k`: the fused scaffolds whose `asmKey` is `k`, in order -/
def idsOf (fs : List Scaffold) (k : Option Str) : List Nat :=
  (List.range fs.length).filter fun j => decide ((asmKey (fs.getD j default)).1 = k)

theorem splitLoop_dStep (p : Str) (fs : List Scaffold) :
    (splitLoop p fs).1 = (List.range fs.length).foldl
      (dStep (fun j => (asmKey (fs.getD j default)).1) (asmUpd fun j => (asmKey (fs.getD j default)).2)) [] := by
  rw [splitLoop_eq]
  exact congrArg (fun f => List.foldl f [] _) (funext fun a => funext fun j =>
    addAsm_dStep (fun j => (asmKey (fs.getD j default)).1) (fun j => (asmKey (fs.getD j default)).2) a j)

theorem splitLoop_ids (p : Str) (fs : List Scaffold) : ((splitLoop p fs).1.flatMap (·.2.2)).Perm (List.range fs.length) := by
  rw [splitLoop_dStep]
  have := foldl_dStep_flatMap_perm (fun j => (asmKey (fs.getD j default)).1) (asmUpd fun j => (asmKey (fs.getD j default)).2)
    (·.2) (fun j => [j]) (fun v x => by rcases v with _ | ⟨c, ids⟩ <;> exact .refl _) (List.range fs.length) []
  simpa using this

theorem splitLoop_get (p : Str) (fs : List Scaffold) (k : Option Str) :
    dGet? (splitLoop p fs).1 k =
      match idsOf fs k with
      | [] => none
      | a :: r => some ((asmKey (fs.getD a default)).2, a :: r) := by
  rw [splitLoop_dStep, foldl_dStep_get]
  show groupVal _ (idsOf fs k) none = _
  cases idsOf fs k with
  | nil => rfl
  | cons a r => exact groupVal_asmUpd _ r _ [a]

theorem splitLoop_keys_nodup (p : Str) (fs : List Scaffold) : ((splitLoop p fs).1.map (·.1)).Nodup := by
  rw [splitLoop_dStep, foldl_dStep_keys]; exact nodup_foldl_sAdd _ List.nodup_nil

theorem splitLoop_get_some {p : Str} {fs : List Scaffold} {k : Option Str} {c : Bool} {ids : List Nat}
    (h : dGet? (splitLoop p fs).1 k = some (c, ids)) :
    ids = idsOf fs k ∧ ∃ a r, ids = a :: r ∧ c = (asmKey (fs.getD a default)).2 := by
  rw [splitLoop_get] at h
  cases hf : idsOf fs k with
  | nil => rw [hf] at h; cases h
  | cons a r => rw [hf] at h; cases h; exact ⟨rfl, a, r, rfl, rfl⟩

theorem mem_idsOf {fs : List Scaffold} {k : Option Str} {j : Nat} :
    j ∈ idsOf fs k ↔ j < fs.length ∧ (asmKey (fs.getD j default)).1 = k := by
  unfold idsOf; rw [List.mem_filter, List.mem_range, decide_eq_true_eq]

/-- the `name_chromosomes` step of `finishAssemblies` (verbatim) -/
def nameChromosomes (fs : List Scaffold) (haps : List Str) (entries : List (Str × Nat)) (prefix_ : Str) : R (List Scaffold) :=
    if haps.isEmpty then pure fs
    else do
      let groups ← buildGroups fs haps entries
      if groupsHaveErrors groups then throw .chrNamer
      let keyed ← groups.mapM (fun g => do let l ← groupFirstLength fs g; pure (l, g))
      let sorted := (stableSort (fun (a c : Int × GroupData) => a.1 ≥ c.1) keyed).map (·.2)
      pure (((List.range sorted.length).zip sorted).foldl (fun fs (p : Nat × GroupData) => nameGroup fs p.2 prefix_ (p.1 + 1)) fs)

/-- the per-assembly smart sort of `finishAssemblies` (verbatim) -/
def sortAsms (fs : List Scaffold) (asms : Asms) : R (List OutAsm) :=
  asms.mapM (fun (a : Option Str × Bool × List Nat) => do
    let scs := a.2.2.map (fun sid => fs.getD sid default)
    let scs ← smartSort scs
    pure ({ key := a.1, curated := a.2.1, scaffolds := scs } : OutAsm))

/-- the last three steps of `assembliesFused` -/
def outsTail (input : List Scaffold) (b : Build) (asms : Asms) (fs : List Scaffold) : R (List OutAsm × Stats) := do
  let outs ← asms.mapM (fun (a : Option Str × Bool × List Nat) => do
    let scs := a.2.2.map (fun sid => fs.getD sid default)
    let scs ← smartSort scs
    pure ({ key := a.1, curated := a.2.1, scaffolds := scs } : OutAsm))
  let stats ← makeStats input outs b.cuts
  pure (outs, stats)

/-- the output assemblies cut from the (renamed) scaffold list `fs` along the dict `asms` -/
def outsOf (fs : List Scaffold) (asms : Asms) : List OutAsm :=
  asms.map fun a => { key := a.1, curated := a.2.1, scaffolds := C20.smartSorted (a.2.2.map fun sid => fs.getD sid default) }

theorem sortAsms_eq (fs : List Scaffold) (asms : Asms) : sortAsms fs asms = .ok (outsOf fs asms) := by
  unfold sortAsms outsOf
  exact mapM_ok fun a _ => by dsimp only; rw [C20.smartSort_eq']; rfl

theorem outsTail_eq (input : List Scaffold) (b : Build) (asms : Asms) (fs : List Scaffold) :
    outsTail input b asms fs = (makeStats input (outsOf fs asms) b.cuts).map fun st => (outsOf fs asms, st) := by
  show (sortAsms fs asms >>= fun outs => makeStats input outs b.cuts >>= fun stats => pure (outs, stats)) = _
  rw [sortAsms_eq, ok_bind, map_eq_bind_ok]; rfl

theorem mem_smartSorted {s : Scaffold} {l : List Scaffold} : s ∈ C20.smartSorted l ↔ s ∈ l := mem_stableSort _

theorem outsTail_ok {input : List Scaffold} {b : Build} {asms : Asms} {fs : List Scaffold} {outs : List OutAsm} {stats : Stats}
    (h : outsTail input b asms fs = .ok (outs, stats)) : outs = outsOf fs asms ∧ makeStats input outs b.cuts = .ok stats := by
  rw [outsTail_eq, map_eq_bind_ok] at h
  obtain ⟨st, h2, h⟩ := bind_eq_ok.mp h
  cases h
  exact ⟨rfl, h2⟩

theorem finishAssemblies_eq (input : List Scaffold) (b : Build) (st : SplitSt) :
    finishAssemblies input b st =
      nameChromosomes st.2.2.2 st.2.2.1 st.2.1 b.namer.autosomePrefix >>= outsTail input b st.1 := by
  -- the model continues after the naming block inside each of its branches; the two sides agree whatever a step returns
  obtain ⟨asms, entries, haps, fs⟩ := st
  unfold finishAssemblies nameChromosomes
  by_cases he : haps.isEmpty = true
  · simp only [if_pos he]; rfl
  · simp only [if_neg he]
    cases buildGroups fs haps entries with
    | error e => rfl
    | ok groups =>
      by_cases hg : groupsHaveErrors groups = true
      · simp only [bind, Except.bind, if_pos hg]; rfl
      · simp only [bind, Except.bind, if_neg hg]
        generalize List.mapM (m := R) _ groups = keyed
        cases keyed <;> rfl

theorem assembliesFused_eq' (input : List Scaffold) (b : Build) :
    assembliesFused input b =
      (nameChromosomes (splitLoop b.namer.autosomePrefix (fuseByName b)).2.2.2
          (splitLoop b.namer.autosomePrefix (fuseByName b)).2.2.1 (splitLoop b.namer.autosomePrefix (fuseByName b)).2.1
          b.namer.autosomePrefix >>= fun fs2 =>
        (makeStats input (outsOf fs2 (splitLoop b.namer.autosomePrefix (fuseByName b)).1) b.cuts).map fun st =>
          (outsOf fs2 (splitLoop b.namer.autosomePrefix (fuseByName b)).1, st)) := by
  rw [assembliesFused_eq, finishAssemblies_eq]
  exact bind_congr fun fs2 => outsTail_eq input b _ fs2

theorem assembliesFused_ok {input : List Scaffold} {b : Build} {outs : List OutAsm} {stats : Stats}
    (h : assembliesFused input b = .ok (outs, stats)) :
    ∃ fs2, nameChromosomes (splitLoop b.namer.autosomePrefix (fuseByName b)).2.2.2
        (splitLoop b.namer.autosomePrefix (fuseByName b)).2.2.1 (splitLoop b.namer.autosomePrefix (fuseByName b)).2.1
        b.namer.autosomePrefix = .ok fs2 ∧
      outs = outsOf fs2 (splitLoop b.namer.autosomePrefix (fuseByName b)).1 ∧ makeStats input outs b.cuts = .ok stats := by
  rw [assembliesFused_eq, finishAssemblies_eq] at h
  obtain ⟨fs2, h1, h⟩ := bind_eq_ok.mp h
  exact ⟨fs2, h1, outsTail_ok h⟩

theorem nameGroup_noName (fs : List Scaffold) (g : GroupData) (prefix_ : Str) (n : Nat) :
    (nameGroup fs g prefix_ n).map noName = fs.map noName := by
  unfold nameGroup
  refine foldl_inv (fun x : List Scaffold => x.map noName = fs.map noName) _ g (fun a h ha => ?_) fs rfl
  refine foldl_inv (fun x : List Scaffold => x.map noName = fs.map noName) _ _ (fun a2 q ha2 => ?_) a ha
  refine foldl_inv (fun x : List Scaffold => x.map noName = fs.map noName) _ _ (fun a3 sid ha3 => ?_) a2 ha2
  rw [← ha3]
  exact Pipeline.map_setAt_of_eq noName a3 sid _ rfl

theorem nameChromosomes_noName (fs fs' : List Scaffold) (haps : List Str) (entries : List (Str × Nat)) (prefix_ : Str)
    (h : nameChromosomes fs haps entries prefix_ = .ok fs') : fs'.map noName = fs.map noName := by
  unfold nameChromosomes at h
  split at h
  · cases h; rfl
  · obtain ⟨groups, _, h⟩ := bind_eq_ok.mp h
    split at h
    · cases h
    · obtain ⟨_, _, h⟩ := bind_eq_ok.mp h
      cases h
      exact foldl_inv (fun x : List Scaffold => x.map noName = fs.map noName) _ _
        (fun a q ha => (nameGroup_noName a q.2 prefix_ (q.1 + 1)).trans ha) fs rfl

theorem assembliesFused_noName {input : List Scaffold} {b : Build} {outs : List OutAsm} {stats : Stats}
    (h : assembliesFused input b = .ok (outs, stats)) :
    ∃ fs2, fs2.map noName = (fuseByName b).map noName ∧
      outs = outsOf fs2 (splitLoop b.namer.autosomePrefix (fuseByName b)).1 ∧ makeStats input outs b.cuts = .ok stats := by
  obtain ⟨fs2, h1, h2, h3⟩ := assembliesFused_ok h
  exact ⟨fs2, (nameChromosomes_noName _ _ _ _ _ h1).trans (splitLoop_noName _ _), h2, h3⟩

theorem outsOf_scaffolds (fs : List Scaffold) (asms : Asms) :
    ((outsOf fs asms).flatMap (·.scaffolds)).Perm ((asms.flatMap (·.2.2)).map fun sid => fs.getD sid default) := by
  unfold outsOf
  induction asms with
  | nil => exact .refl _
  | cons a t ih =>
    rw [List.map_cons, List.flatMap_cons, List.flatMap_cons, List.map_append]
    exact (stableSort_perm _ _).append ih

theorem assembliesFused_perm (input : List Scaffold) (b : Build) (outs : List OutAsm) (stats : Stats)
    (h : assembliesFused input b = .ok (outs, stats)) :
    ((outs.flatMap (·.scaffolds)).map (·.rows)).Perm ((fuseByName b).map (·.rows)) := by
  obtain ⟨fs2, hn, rfl, _⟩ := assembliesFused_noName h
  have hrows : fs2.map (·.rows) = (fuseByName b).map (·.rows) := by
    have := congrArg (List.map Scaffold.rows) hn
    rwa [List.map_map, List.map_map] at this
  have hlen : fs2.length = (fuseByName b).length := by simpa using congrArg List.length hn
  have hids := (splitLoop_ids b.namer.autosomePrefix (fuseByName b)).map fun sid => fs2.getD sid default
  rw [← hlen, range_map_getD] at hids
  rw [← hrows]
  exact ((outsOf_scaffolds fs2 _).trans hids).map _

theorem assembliesFused_rows (input : List Scaffold) (b : Build) (outs : List OutAsm) (stats : Stats)
    (h : assembliesFused input b = .ok (outs, stats)) :
    ∀ a ∈ outs, ∀ s ∈ a.scaffolds, ∃ s0 ∈ fuseByName b, s.rows = s0.rows := by
  intro a ha s hs
  have hm : s.rows ∈ (outs.flatMap (·.scaffolds)).map (·.rows) :=
    List.mem_map_of_mem (List.mem_flatMap.mpr ⟨a, ha, hs⟩)
  obtain ⟨s0, hs0, e⟩ := List.mem_map.mp ((assembliesFused_perm input b outs stats h).mem_iff.mp hm)
  exact ⟨s0, hs0, e.symm⟩

theorem remap_fused (input ptx : List Scaffold) (prefix_ : Str) (joinGap : Option Gap) (err : Int)
    (outs : List OutAsm) (stats : Stats) (h : remap input ptx prefix_ joinGap err = .ok (outs, stats)) :
    ∃ b, remapToInput input ptx prefix_ joinGap err = .ok b ∧ makeStats input outs b.cuts = .ok stats ∧
      ∀ a ∈ outs, ∀ s ∈ a.scaffolds, ∃ s0 ∈ fuseByName b, s.rows = s0.rows := by
  obtain ⟨b, hb, haf⟩ := Pipeline.remap_ok_iff.1 h
  exact ⟨b, hb, (assembliesFused_ok haf).choose_spec.2.2, assembliesFused_rows input b outs stats haf⟩

end AgpTpf.C09
