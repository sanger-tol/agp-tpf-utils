/-
  Where the rows that `remap` puts out come from.  Every row of every scaffold of every output assembly is a row of the input, a
  piece that `trim_fragment` cut from an input contig, one of these reversed (`to_scaffold()` of a result found on the minus
  strand), or the join gap: `RowOrigin`, `remap_rowOrigin`.  A row predicate that these four ways of making a row keep
  (`RowClosed`) therefore holds of all output rows (`remap_all`), and of everything the build of `remap_to_input_assembly` holds
  (`remapToInput_all`).  The fuse stage by itself: `FusedRow`, `fuseByName_rows`.
-/
import AgpTpf.Proofs.Lib.Fuse
import AgpTpf.Proofs.C01MiddleBase
import AgpTpf.Proofs.C01Cut
import AgpTpf.Proofs.C01Fuse
import AgpTpf.Proofs.Lib.Missing
import AgpTpf.Proofs.Lib.Pipeline
import AgpTpf.Proofs.Remap.Phase2
namespace AgpTpf.RemapRows
open AgpTpf

/-- where a row of a fused scaffold comes from -/
inductive FusedRow (b : Build) : Row → Prop
  | stored {r : Res} {x : Row} : r ∈ b.store → r.added = true → r.o.rows ≠ [] → x ∈ r.o.toScaffoldRows → FusedRow b x
  | leftover {e : Scaffold × Option (Fragment × List Gap)} {x : Row} : e ∈ b.extra → x ∈ e.1.rows → FusedRow b x
  | join {g : Gap} : b.joinGap = some g → FusedRow b (.gap g)
  | pred {e : Scaffold × Option (Fragment × List Gap)} {prev : Fragment} {gaps : List Gap} {g : Gap} :
      e ∈ b.extra → e.2 = some (prev, gaps) → g ∈ gaps → FusedRow b (.gap g)

theorem fuseByName_rows (b : Build) : ∀ s ∈ fuseByName b, ∀ x ∈ s.rows, FusedRow b x := by
  intro s hs x hx
  rcases Fuse.fuseByName_row hs hx with ⟨r, hr, ha, hne, -, h⟩ | ⟨e, he, -, -, h | ⟨bl, h⟩⟩ | ⟨g, hg, rfl⟩
  · exact .stored hr ha hne h
  · exact .leftover he h
  · obtain ⟨g, rfl, hg | ⟨prev, gaps, hp, hg⟩⟩ := C01.gapsBeforeLeftover_rows _ _ _ x h
    · exact .join hg
    · exact .pred he hp hg
  · exact .join hg

/-- a row predicate that whole-scaffold reversal keeps and that holds of every piece cut from an input contig -/
structure RowClosed (input : List Scaffold) (P : Row → Prop) : Prop where
  reverse : ∀ x, P x → P x.reverse
  piece : ∀ F ∈ C01.inputFrags input, ∀ new, C01.PieceOf F new → (F.strand = 0 ∨ F.strand = 1 ∨ F.strand = -1) →
    P (.frag new)

/-- all rows the build holds satisfy `P`: the stored results, the left-over scaffolds, and the input gap rows recorded with a
    left-over scaffold's predecessor -/
structure BuildAll (P : Row → Prop) (J : Option Gap) (b : Build) : Prop where
  store : ∀ r ∈ b.store, ∀ x ∈ r.o.rows, P x
  joinGap : b.joinGap = J
  extra : ∀ e ∈ b.extra, (∀ x ∈ e.1.rows, P x) ∧ ∀ prev gaps, e.2 = some (prev, gaps) → ∀ g ∈ gaps, P (.gap g)

variable {P : Row → Prop} {input : List Scaffold}

/-- a piece takes name, strand and interval from the REGISTERED Fragment object it is cut from, which is why the trimmed fragment
    has to be an input fragment -/
theorem all_closed (hP : RowClosed input P) {dr : Prop} :
    Pipeline.OpClosed dr (· ∈ C01.inputFrags input) (fun _ r => ∀ x ∈ r.o.rows, P x) :=
  ⟨id,
    fun _ hg h x hx => hg x ((OverlapResult.discardStart_keeps h).1.subset hx),
    fun _ hg h x hx => hg x ((OverlapResult.discardEnd_keeps h).1.subset hx),
    fun {n r f new ks ke o'} hF hg h x hx => by
      rcases OverlapResult.mem_trimFragment_rows h hx with hx | rfl
      · exact hg x hx
      · obtain ⟨p1, p2, p3, p4, p5, -⟩ := C01.trim_within_aux _ _ _ _ _ _ _ h
        obtain ⟨-, -, -, -, -, hs, -⟩ := OverlapResult.trimFragment_ok_iff.mp h
        exact hP.piece f hF new ⟨p1, p2, p3, p4, p5⟩ hs⟩

theorem remapToInput_all (hP : RowClosed input P) {ptx : List Scaffold} {prefix_ : Str} {joinGap : Option Gap} {err : Int}
    {b : Build} (hin : ∀ sc ∈ input, ∀ x ∈ sc.rows, P x) (hJ : ∀ g, joinGap = some g → P (.gap g))
    (h : remapToInput input ptx prefix_ joinGap err = .ok b) : BuildAll P joinGap b := by
  refine ⟨Pipeline.remapToInput_forall (all_closed hP) ?_ (fun _ _ _ hr => hr) h, (Pipeline.remapToInput_frame h).1,
    fun e he => ?_⟩
  · exact fun r hc x hx => let ⟨sc, hsc, hi⟩ := hc.rows_subset; hin sc hsc x (hi.subset hx)
  · -- a left-over scaffold: rows of its input scaffold and join gaps; its predecessor's gaps are input rows
    obtain ⟨sc, hsc, a, first, ha, hv, -, hp⟩ := Pipeline.remapToInput_extra h e he
    refine ⟨fun y hy => ?_, fun prev gaps hpg g hg => ?_⟩
    · rcases Pipeline.missingRows_mem hv y hy with hy | ⟨j, hj, rfl⟩
      · exact hin sc hsc y hy
      · exact hJ j (ha ▸ hj)
    · rw [hp] at hpg
      cases first with
      | none => cases hpg
      | some i => exact hin sc hsc _ (Pipeline.inputPredecessor_gaps_mem hpg g hg)

theorem fused_all (hP : RowClosed input P) {J : Option Gap} {b : Build} (hb : BuildAll P J b)
    (hJ : ∀ g, J = some g → P (.gap g)) : ∀ s ∈ fuseByName b, ∀ x ∈ s.rows, P x := by
  intro s hs x hx
  cases fuseByName_rows b s hs x hx with
  | stored hr _ _ h =>
    rcases OverlapResult.mem_toScaffoldRows h with h | ⟨y, hy, rfl⟩
    · exact hb.store _ hr _ h
    · exact hP.reverse _ (hb.store _ hr _ hy)
  | leftover he h => exact (hb.extra _ he).1 _ h
  | join e => exact hJ _ (hb.joinGap ▸ e)
  | pred he hp hg => exact (hb.extra _ he).2 _ _ hp _ hg

theorem remap_all (hP : RowClosed input P) {ptx : List Scaffold} {prefix_ : Str} {joinGap : Option Gap} {err : Int}
    {outs : List OutAsm} {stats : Stats} (hin : ∀ sc ∈ input, ∀ x ∈ sc.rows, P x) (hJ : ∀ g, joinGap = some g → P (.gap g))
    (h : remap input ptx prefix_ joinGap err = .ok (outs, stats)) : ∀ a ∈ outs, ∀ s ∈ a.scaffolds, ∀ x ∈ s.rows, P x := by
  obtain ⟨b, hb, -, hrows⟩ := C09.remap_fused input ptx prefix_ joinGap err outs stats h
  intro a ha s hs
  obtain ⟨s0, hs0, e⟩ := hrows a ha s hs
  rw [e]; exact fused_all hP (remapToInput_all hP hin hJ hb) hJ s0 hs0

/-- where a row that `remap` puts out comes from -/
inductive RowOrigin (input : List Scaffold) (jg : Option Gap) : Row → Prop
  | input {sc : Scaffold} {x : Row} : sc ∈ input → x ∈ sc.rows → RowOrigin input jg x
  | piece {F new : Fragment} : F ∈ C01.inputFrags input → C01.PieceOf F new →
      (F.strand = 0 ∨ F.strand = 1 ∨ F.strand = -1) → RowOrigin input jg (.frag new)
  | reverse {x : Row} : RowOrigin input jg x → RowOrigin input jg x.reverse
  | join {g : Gap} : jg = some g → RowOrigin input jg (.gap g)

theorem RowOrigin.gap {input : List Scaffold} {jg : Option Gap} {g : Gap} (h : RowOrigin input jg (.gap g)) :
    jg = some g ∨ ∃ sc ∈ input, Row.gap g ∈ sc.rows := by
  generalize hr : Row.gap g = r at h
  induction h with
  | input hsc hx => subst hr; exact .inr ⟨_, hsc, hx⟩
  | piece => cases hr
  | @reverse y _ ih => cases y with
    | gap y => exact ih hr
    | frag _ => cases hr
  | join e => cases hr; exact .inl e

theorem remap_rowOrigin {input ptx : List Scaffold} {prefix_ : Str} {joinGap : Option Gap} {err : Int}
    {outs : List OutAsm} {stats : Stats} (h : remap input ptx prefix_ joinGap err = .ok (outs, stats)) :
    ∀ a ∈ outs, ∀ s ∈ a.scaffolds, ∀ x ∈ s.rows, RowOrigin input joinGap x :=
  remap_all ⟨fun _ => .reverse, fun _ hF _ hp hs => .piece hF hp hs⟩ (fun _ hsc _ hx => .input hsc hx) (fun _ e => .join e) h

end AgpTpf.RemapRows
