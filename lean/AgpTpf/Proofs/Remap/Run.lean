/-
  ONE explicit run of `remap_to_input_assembly`, for maps whose lookup results are stored as found (`PieceKept`: nothing
  for `trim_large_overhangs` to discard) and that claim no contig twice.  Stage by stage the build is an explicit value:
  the store holds one relabelled lookup result per Pretext fragment (`resOf`), the registry is `regFrom` of these
  (`findAssemblyOverlaps_kept`); with no contig shared the resolver, the cutting and the renaming are idle
  (`Pipeline.remapToInput_idle_of`); the left-overs are whatever `missingRows` returns per input scaffold (`L`,
  `addMissing_explicit`).  `remapToInput_idle` puts the stages together.  Untagged and painted Pretext scaffolds run
  through the same lemmas (`painted : Bool`); unedited maps (C08: every fragment shows a whole scaffold) and aligned maps
  (C02A) are instances.
-/
import AgpTpf.Proofs.Remap.Registry
import AgpTpf.Proofs.Lib.Pipeline
import AgpTpf.Proofs.Lib.Overlap
import AgpTpf.Proofs.Lib.Rows

namespace AgpTpf.C08
open AgpTpf

structure NamerPlain (n : Namer) : Prop where
  target : n.targetTags = false
  primary : n.primaryHaplotype = none
  haplotig : n.haplotigScaffolds = []

/-- `make_scaffold_name` for an untagged, unpainted scaffold whose first row is called `nm` -/
def namedPlain (n : Namer) (nm : Str) : Namer :=
  { n with currentHaplotype := none, currentScaffoldName := some nm, currentRank := 3, unlocN := 0, unlocScaffolds := [] }

theorem namedPlain_plain {n : Namer} (h : NamerPlain n) (nm : Str) : NamerPlain (namedPlain n nm) :=
  ⟨h.target, h.primary, h.haplotig⟩

theorem makeScaffoldName_plain (n : Namer) (scName nm : Str) (rows : List Row) (hp : n.primaryHaplotype = none)
    (hfr : firstRowName rows = .ok nm) (hhap : hapPrefixOfName nm = none) :
    makeScaffoldName n scName rows [] = .ok (namedPlain n nm) := by
  unfold makeScaffoldName
  simp [hfr, hhap, hp, truthy, bind, Except.bind, pure, Except.pure, namedPlain]

theorem firstRowName_cons_frag (f : Fragment) (r : List Row) : firstRowName (.frag f :: r) = .ok f.name := by
  unfold firstRowName
  rw [pyGet_zero_cons]
  rfl

def namedPainted (n : Namer) (nm : Str) : Namer :=
  { n with currentHaplotype := none, currentScaffoldName := some nm, currentRank := 1, unlocN := 0, unlocScaffolds := [] }

theorem makeScaffoldName_painted (n : Namer) (scName nm : Str) (rows : List Row) (hp : n.primaryHaplotype = none)
    (hfr : firstRowName rows = .ok nm) (hhap : hapPrefixOfName nm = none) :
    makeScaffoldName n scName rows [sPainted] = .ok (namedPainted n scName) := by
  unfold makeScaffoldName
  simp [scanTag, hfr, hhap, hp, truthy, bind, Except.bind, pure, Except.pure, namedPainted]

theorem labelScaffold_unlabelled (n : Namer) (o : OverlapResult) (sid : Nat) (bait : Fragment) (scTags : List Str)
    (orig nm : Str) (ht : ∀ t ∈ [sContaminant, sFalseDuplicate, sHaplotig, sUnloc], t ∉ bait.tags)
    (htar : n.targetTags = false) (hcur : n.currentScaffoldName = some nm) :
    labelScaffold n o sid bait scTags orig =
      .ok (n, { o with name := nm, tag := o.tag, haplotype := n.currentHaplotype, rank := n.currentRank,
                       originalName := some orig, originalTags := some scTags }) := by
  have h1 := ht sContaminant (by simp)
  have h2 := ht sFalseDuplicate (by simp)
  have h3 := ht sHaplotig (by simp)
  have h4 := ht sUnloc (by simp)
  unfold labelScaffold
  simp [h1, h2, h3, h4, htar, hcur, bind, Except.bind, pure, Except.pure]

end AgpTpf.C08

namespace AgpTpf.Run
open AgpTpf
open AgpTpf.C08 (NamerPlain namedPlain namedPlain_plain namedPainted makeScaffoldName_plain makeScaffoldName_painted
  firstRowName_cons_frag labelScaffold_unlabelled)
open AgpTpf.C02 (lookupPiece pieceO pieceKeys claimedKeys outName storedAs lookupPiece_spec pieceO_rows_ne regFrom
  regPiece regOf allPieces storeFragmentsFound_reg)

/-- hypotheses on one Pretext fragment of a scaffold with tag set `tags`: it has a lookup result, which
    `trim_large_overhangs` leaves alone (each end sticks out by at most the error length or shares that much with the
    bait), and it carries exactly the scaffold's tags -/
structure PieceKept (input : List Scaffold) (err : Int) (tags : List Str) (p : Fragment) : Prop where
  found : (lookupPiece input p).isSome = true
  tags : p.tags = tags
  startOk : (pieceO input p).startOverhang ≤ err ∨ ∃ ov, (pieceO input p).startRowBaitOverlap = .ok ov ∧ err ≤ ov
  endOk : (pieceO input p).endOverhang ≤ err ∨ ∃ ov, (pieceO input p).endRowBaitOverlap = .ok ov ∧ err ≤ ov

/-- what painting a Pretext scaffold changes: its tag set, … -/
def tagsOf : Bool → List Str
  | false => []
  | true => [sPainted]

/-- … the rank of its results, … -/
def rankOf : Bool → Int
  | false => 3
  | true => 1

theorem tagsOf_unlabelled (painted : Bool) :
    ∀ t ∈ [sContaminant, sFalseDuplicate, sHaplotig, sUnloc], t ∉ tagsOf painted := by
  cases painted <;> decide

/-- … and their name: an untagged scaffold hands on the name of its first row, a painted one its own -/
def nameOf : Bool → Scaffold → Str
  | false, S => outName S
  | true, S => S.name

/-- what is stored for fragment `p` of Pretext scaffold `S` -/
def resOf (painted : Bool) (input : List Scaffold) (S : Scaffold) (p : Fragment) : Res :=
  storedAs (nameOf painted S) (rankOf painted) S.name (tagsOf painted) (pieceO input p)

structure ScaffoldKept (input : List Scaffold) (err : Int) (painted : Bool) (S : Scaffold) : Prop where
  head : ∃ f r, S.rows = .frag f :: r
  pieces : ∀ p ∈ S.fragments, PieceKept input err (tagsOf painted) p
  noHap : hapPrefixOfName (outName S) = none

theorem processBait_kept (input : List Scaffold) (painted : Bool) (S : Scaffold) (nm : Str) (p : Fragment) (b : Build)
    (hp : PieceKept input b.err (tagsOf painted) p)
    (hcur : b.namer.currentScaffoldName = some nm) (hhap : b.namer.currentHaplotype = none)
    (htar : b.namer.targetTags = false) :
    ∃ b', processBait input (tagsOf painted) S.name b p = .ok b' ∧
      b'.store = b.store ++ [storedAs nm b.namer.currentRank S.name (tagsOf painted) (pieceO input p)] ∧
      (b'.found, b'.multi) = regPiece input (b.found, b.multi) ((S, p), b.store.length) ∧
      b'.namer = b.namer ∧ b'.err = b.err := by
  obtain ⟨sc, hfind, hfo⟩ := lookupPiece_spec hp.found
  have h1 : lookupScaffold input p.name = .ok sc := by unfold lookupScaffold; rw [hfind]
  refine ⟨_, Pipeline.processBait_found h1 hfo
    (labelScaffold_unlabelled b.namer _ _ p _ S.name nm (hp.tags ▸ tagsOf_unlabelled painted) htar hcur)
    (OverlapResult.trimLarge_noop _ _ hp.startOk hp.endOk), ?_⟩
  rw [Pipeline.stored_of_rows_ne_nil, storeFragmentsFound_reg]
  · refine ⟨?_, rfl, rfl, rfl⟩
    simp [storedAs, hhap, (findOverlaps_fresh hfo).2.1]
  · exact pieceO_rows_ne hp.found

theorem processBaits_kept (input : List Scaffold) (painted : Bool) (S : Scaffold) (nm : Str) (ps : List Fragment) (b : Build)
    (hp : ∀ p ∈ ps, PieceKept input b.err (tagsOf painted) p)
    (hcur : b.namer.currentScaffoldName = some nm) (hhap : b.namer.currentHaplotype = none)
    (htar : b.namer.targetTags = false) :
    ∃ b', ps.foldlM (processBait input (tagsOf painted) S.name) b = .ok b' ∧
      b'.store = b.store ++ ps.map (fun p => storedAs nm b.namer.currentRank S.name (tagsOf painted) (pieceO input p)) ∧
      (b'.found, b'.multi) = regFrom input ((ps.map (fun p => (S, p))).zipIdx b.store.length) (b.found, b.multi) ∧
      b'.namer = b.namer ∧ b'.err = b.err := by
  induction ps generalizing b with
  | nil => exact ⟨b, rfl, by simp, rfl, rfl, rfl⟩
  | cons p r ih =>
    obtain ⟨b1, e1, s1, f1, n1, r1⟩ := processBait_kept input painted S nm p b (hp p (by simp)) hcur hhap htar
    obtain ⟨b2, e2, s2, f2, n2, r2⟩ := ih b1 (fun q hq => r1 ▸ hp q (by simp [hq])) (n1 ▸ hcur) (n1 ▸ hhap) (n1 ▸ htar)
    refine ⟨b2, ?_, ?_, ?_, n2.trans n1, r2.trans r1⟩
    · simp only [List.foldlM_cons, e1, bind, Except.bind]; exact e2
    · rw [s2, s1, n1]; simp
    · rw [f2, f1, s1]
      simp [regFrom, List.zipIdx_cons]

theorem fragmentTags_kept {input : List Scaffold} {err : Int} {painted : Bool} {S : Scaffold}
    (hS : ScaffoldKept input err painted S) : S.fragmentTags = tagsOf painted := by
  obtain ⟨f0, r0, hrows⟩ := hS.head
  cases painted with
  | false => exact Scaffold.fragmentTags_eq_nil (fun f hf => (hS.pieces f hf).tags)
  | true =>
    exact Scaffold.fragmentTags_eq_singleton (by decide) (by simp [Scaffold.fragments, hrows, fragmentsOf])
      (fun f hf => (hS.pieces f hf).tags)

theorem makeScaffoldName_kept {input : List Scaffold} {err : Int} {painted : Bool} {S : Scaffold}
    (hS : ScaffoldKept input err painted S) (n : Namer) (hp : n.primaryHaplotype = none) :
    ∃ n', makeScaffoldName n S.name S.rows (tagsOf painted) = .ok n' ∧
      n'.currentScaffoldName = some (nameOf painted S) ∧ n'.currentRank = rankOf painted ∧
      n'.currentHaplotype = none ∧ n'.unlocScaffolds = [] ∧ n'.targetTags = n.targetTags ∧
      n'.primaryHaplotype = n.primaryHaplotype ∧ n'.haplotigScaffolds = n.haplotigScaffolds ∧
      n'.autosomePrefix = n.autosomePrefix := by
  obtain ⟨f0, r0, hrows⟩ := hS.head
  have hon : outName S = f0.name := by unfold outName; rw [hrows]
  have hh : hapPrefixOfName f0.name = none := hon ▸ hS.noHap
  have hfr : firstRowName S.rows = .ok f0.name := by rw [hrows]; exact firstRowName_cons_frag _ _
  cases painted with
  | false =>
    exact ⟨_, makeScaffoldName_plain n _ f0.name _ hp hfr hh, by rw [nameOf, hon]; rfl, rfl, rfl, rfl, rfl, rfl, rfl, rfl⟩
  | true => exact ⟨_, makeScaffoldName_painted n _ f0.name _ hp hfr hh, rfl, rfl, rfl, rfl, rfl, rfl, rfl, rfl⟩

theorem overlapsStep_kept (painted : Bool) (input : List Scaffold) (S : Scaffold) (b : Build)
    (hS : ScaffoldKept input b.err painted S) (hplain : NamerPlain b.namer) :
    ∃ b', Pipeline.overlapsStep input b S = .ok b' ∧
      b'.store = b.store ++ S.fragments.map (resOf painted input S) ∧
      (b'.found, b'.multi) = regFrom input ((S.fragments.map (fun p => (S, p))).zipIdx b.store.length) (b.found, b.multi) ∧
      NamerPlain b'.namer ∧ b'.namer.autosomePrefix = b.namer.autosomePrefix ∧ b'.err = b.err := by
  obtain ⟨n', hn, c1, c2, c3, c4, c5, c6, c7, c8⟩ := makeScaffoldName_kept hS b.namer hplain.primary
  obtain ⟨b1, e1, s1, f1, n1, r1⟩ := processBaits_kept input painted S (nameOf painted S) S.fragments
    { b with namer := n' } hS.pieces c1 c3 (c5.trans hplain.target)
  rw [← fragmentTags_kept hS] at hn e1
  refine ⟨_, Pipeline.overlapsStep_of hn e1, ?_, f1, ?_, ?_, r1⟩
  · simp only [n1, c4, Pipeline.renameBySize_nil]; rw [s1]; simp only [c2]; rfl
  · show NamerPlain b1.namer
    rw [n1]; exact ⟨c5.trans hplain.target, c6.trans hplain.primary, c7.trans hplain.haplotig⟩
  · show b1.namer.autosomePrefix = _
    rw [n1]; exact c8

theorem findAssemblyOverlaps_kept (painted : Bool) (input ptx : List Scaffold) (b : Build)
    (hS : ∀ S ∈ ptx, ScaffoldKept input b.err painted S) (hplain : NamerPlain b.namer) :
    ∃ b', findAssemblyOverlaps input ptx b = .ok b' ∧
      b'.store = b.store ++ ptx.flatMap (fun S => S.fragments.map (resOf painted input S)) ∧
      (b'.found, b'.multi) = regFrom input ((allPieces ptx).zipIdx b.store.length) (b.found, b.multi) ∧
      NamerPlain b'.namer ∧ b'.namer.autosomePrefix = b.namer.autosomePrefix := by
  rw [Pipeline.findAssemblyOverlaps_eq]
  induction ptx generalizing b with
  | nil => exact ⟨b, rfl, by simp, rfl, hplain, rfl⟩
  | cons S r ih =>
    obtain ⟨b1, e1, s1, f1, p1, a1, r1⟩ := overlapsStep_kept painted input S b (hS S (by simp)) hplain
    obtain ⟨b2, e2, s2, f2, p2, a2⟩ := ih b1 (fun T hT => r1 ▸ hS T (by simp [hT])) p1
    refine ⟨b2, ?_, ?_, ?_, p2, a2.trans a1⟩
    · simp only [List.foldlM_cons, e1, bind, Except.bind]; exact e2
    · rw [s2, s1]; simp
    · rw [f2, f1, s1, C02.allPieces_cons, List.zipIdx_append]
      simp [regFrom, List.foldl_append]

theorem sharedKeys_eq_nil {input ptx : List Scaffold} (h : (claimedKeys input ptx).Nodup) :
    C02.sharedKeys input ptx = [] := by
  refine List.eq_nil_iff_forall_not_mem.2 fun k hk => ?_
  have h2 := (C02.sharedKeys_spec input ptx k).1 hk
  rw [C02.holdersOf_length] at h2
  have := List.nodup_iff_count.1 h k
  omega

/-- what `make_scaffold_name` and the Target rule need of left-over rows: no tags; the first row, if any, is a contig
    whose name is not shaped `<hap>_…_<digits>` -/
structure LeftPlain (rows : List Row) : Prop where
  untagged : ∀ nm, ({ name := nm, rows := rows } : Scaffold).fragmentTags = []
  head : ∀ r0 rest, rows = r0 :: rest → ∃ f0, r0 = .frag f0 ∧ hapPrefixOfName f0.name = none

/-- the left-over scaffold (with its recorded predecessor) made of input scaffold `sc` when `missingRows` returns `L` -/
def entryOf (sc : Scaffold) (L : List Row × Option Nat) : Option (Scaffold × Option (Fragment × List Gap)) :=
  if L.1.isEmpty then none
  else some ({ name := sc.name, rows := L.1, rank := 3 },
             match L.2 with
             | some i => inputPredecessor sc.rows i
             | none => none)

theorem missingStep_explicit (b : Build) (sc : Scaffold) (L : List Row × Option Nat) (hplain : NamerPlain b.namer)
    (hm : missingRows b sc.rows = .ok L) (hL : LeftPlain L.1) :
    ∃ n, NamerPlain n ∧ n.autosomePrefix = b.namer.autosomePrefix ∧
      Pipeline.missingStep b sc = .ok { b with namer := n, extra := b.extra ++ (entryOf sc L).toList } := by
  unfold Pipeline.missingStep entryOf
  rw [hm]
  obtain ⟨rows, first⟩ := L
  cases rows with
  | nil =>
    refine ⟨b.namer, hplain, rfl, ?_⟩
    simp [bind, Except.bind, pure, Except.pure]
  | cons r0 rest =>
    obtain ⟨f0, rfl, hh⟩ := hL.head r0 rest rfl
    have hname : makeScaffoldName b.namer sc.name (Row.frag f0 :: rest) [] = .ok (namedPlain b.namer f0.name) :=
      makeScaffoldName_plain b.namer _ f0.name _ hplain.primary (firstRowName_cons_frag _ _) hh
    refine ⟨namedPlain b.namer f0.name, namedPlain_plain hplain _, rfl, ?_⟩
    simp only [bind, Except.bind, List.isEmpty_cons, Bool.false_eq_true, if_false, hL.untagged sc.name, hname, pure,
      Except.pure]
    simp [namedPlain, hplain.target]
    cases first <;> rfl

theorem addMissing_explicit (L : Scaffold → List Row × Option Nat) (l : List Scaffold) (b : Build)
    (hplain : NamerPlain b.namer)
    (hm : ∀ sc ∈ l, ∀ b' : Build, b'.found = b.found → b'.joinGap = b.joinGap → missingRows b' sc.rows = .ok (L sc))
    (hL : ∀ sc ∈ l, LeftPlain (L sc).1) :
    ∃ b', l.foldlM Pipeline.missingStep b = .ok b' ∧
      b'.extra = b.extra ++ l.filterMap (fun sc => entryOf sc (L sc)) ∧
      NamerPlain b'.namer ∧ b'.namer.autosomePrefix = b.namer.autosomePrefix := by
  induction l generalizing b with
  | nil => exact ⟨b, rfl, by simp, hplain, rfl⟩
  | cons sc r ih =>
    obtain ⟨n, hn, hpre, hstep⟩ := missingStep_explicit b sc (L sc) hplain (hm sc (by simp) b rfl rfl) (hL sc (by simp))
    obtain ⟨b', e, h1, h2, h3⟩ := ih { b with namer := n, extra := b.extra ++ (entryOf sc (L sc)).toList } hn
      (fun s hs b' hf hj => hm s (by simp [hs]) b' hf hj) (fun s hs => hL s (by simp [hs]))
    refine ⟨b', ?_, ?_, h2, h3.trans hpre⟩
    · simp only [List.foldlM_cons, hstep, bind, Except.bind]; exact e
    · rw [h1, List.filterMap_cons]
      cases entryOf sc (L sc) <;> simp

theorem remapToInput_idle (painted : Bool) (input ptx : List Scaffold) (prefix_ : Str) (joinGap : Option Gap) (err : Int)
    (L : Scaffold → List Row × Option Nat)
    (hnames : (input.map (·.name)).Nodup) (hS : ∀ S ∈ ptx, ScaffoldKept input err painted S)
    (hdis : (claimedKeys input ptx).Nodup)
    (hm : ∀ sc ∈ input, ∀ b : Build, (∀ k, dHas b.found k = (claimedKeys input ptx).contains k) → b.joinGap = joinGap →
      missingRows b sc.rows = .ok (L sc))
    (hL : ∀ sc ∈ input, LeftPlain (L sc).1) :
    ∃ b, remapToInput input ptx prefix_ joinGap err = .ok b ∧
      b.store = ptx.flatMap (fun S => S.fragments.map (resOf painted input S)) ∧
      b.extra = input.filterMap (fun sc => entryOf sc (L sc)) ∧
      b.multi = [] ∧ b.cuts = 0 ∧ b.joinGap = joinGap ∧ b.namer.autosomePrefix = prefix_ := by
  obtain ⟨b1, e1, hstore, hreg, hplain, hpre⟩ := findAssemblyOverlaps_kept painted input ptx
    (Pipeline.initBuild input prefix_ joinGap err) hS ⟨rfl, rfl, rfl⟩
  obtain ⟨fextra, fcuts, fjg, -, -⟩ := Pipeline.findAssemblyOverlaps_frame e1
  have hreg' : (b1.found, b1.multi) = regOf input ptx := hreg
  have hm1 : b1.multi = [] := by
    have : b1.multi = C02.sharedKeys input ptx := by unfold C02.sharedKeys; rw [← hreg']
    rw [this, sharedKeys_eq_nil hdis]
  have hkeys : ∀ k, dHas b1.found k = (claimedKeys input ptx).contains k := by
    intro k
    have : b1.found = (regOf input ptx).1 := by rw [← hreg']
    rw [this]; exact C02.regOf_has input ptx k
  obtain ⟨b2, e2, gextra, -, gpre⟩ := addMissing_explicit L input b1 hplain
    (fun sc hsc b' hf hj => hm sc hsc b' (fun k => by rw [hf]; exact hkeys k) (hj.trans fjg)) hL
  obtain ⟨gstore, -, gmulti, gcuts, -, gjg, -⟩ := Pipeline.addMissing_frame (Pipeline.addMissing_eq input b1 ▸ e2)
  refine ⟨b2, Pipeline.remapToInput_idle_of hnames e1 hm1 hplain.haplotig (Pipeline.addMissing_eq input b1 ▸ e2), ?_, ?_,
    gmulti.trans hm1, gcuts.trans fcuts, gjg.trans fjg, gpre.trans hpre⟩
  · rw [gstore, hstore]; rfl
  · rw [gextra, fextra]; rfl

end AgpTpf.Run
