/-
  C03 end to end, output side: a FASTA text written by `FastaStream.write_assembly` (`fastaOf`) read back by the tool's
  OWN indexer (`indexFasta`): it is a well-formed file of records (`C04.Rec`), one per scaffold, so indexing succeeds
  exactly as C04 describes — provided the scaffold names are pairwise different — and the index lists the scaffold names
  in order with the record lengths.
-/
import AgpTpf.Proofs.C03CliFasta
namespace AgpTpf.C03
open AgpTpf AgpTpf.StreamProofs AgpTpf.WrapProofs AgpTpf.C04

/-- a name a FASTA header line carries unchanged: non-empty, ASCII, no whitespace (the indexer keeps the first
    whitespace-separated token of the header line and decodes it as ASCII) -/
def PlainName (s : Str) : Prop := s ≠ [] ∧ ∀ c ∈ s, c.toNat < 128 ∧ isBSpace c.toNat = false

instance (s : Str) : Decidable (PlainName s) := by unfold PlainName; infer_instance

def recOfScaffold (w : Nat) (resOf : Str → Bytes) (sc : Scaffold) : Rec :=
  { hdr := strToBytes sc.name, le := [10], lines := linesOf w (rowsBody resOf sc.rows) }

theorem recOfScaffold_bytes (w : Nat) (hw : 1 ≤ w) (resOf : Str → Bytes) (sc : Scaffold) :
    (recOfScaffold w resOf sc).bytes = recordBytes (w : Int) sc.name (rowsBody resOf sc.rows) := by
  rw [recordBytes_lines w hw]
  simp [Rec.bytes, Rec.fileLines, Rec.hdrLine, recOfScaffold, recordLines]

theorem fileOf_recOfScaffold (w : Nat) (hw : 1 ≤ w) (resOf : Str → Bytes) (scs : List Scaffold) :
    fileOf (scs.map (recOfScaffold w resOf)) = fastaOf (w : Int) resOf scs := by
  unfold fileOf fastaOf
  rw [List.map_map]
  congr 1
  apply List.map_congr_left
  intro sc _
  exact recOfScaffold_bytes w hw resOf sc

theorem recOfScaffold_res (w : Nat) (resOf : Str → Bytes) (sc : Scaffold) :
    (recOfScaffold w resOf sc).res = rowsBody resOf sc.rows := by
  simp [Rec.res, recOfScaffold, linesOf_flatten]

theorem tokOf_plain (s : Str) (h : PlainName s) : tokOf (strToBytes s) = strToBytes s := by
  have hb : ∀ b ∈ strToBytes s, isBSpace b = false := by
    intro b hb
    obtain ⟨c, hc, rfl⟩ := List.mem_map.mp hb
    exact (h.2 c hc).2
  unfold tokOf
  cases hs : strToBytes s with
  | nil => rfl
  | cons a t =>
    rw [hs] at hb
    rw [List.dropWhile_cons_of_neg (by simp [hb a (by simp)]), ← List.append_nil (a :: t),
      List.takeWhile_append_of_pos (fun x hx => by simp [hb x hx])]
    rfl

theorem recOfScaffold_name (w : Nat) (resOf : Str → Bytes) (sc : Scaffold) (h : PlainName sc.name) :
    (recOfScaffold w resOf sc).name = sc.name := by
  unfold Rec.name Rec.tok
  show (tokOf (strToBytes sc.name)).map Char.ofNat = sc.name
  rw [tokOf_plain sc.name h, map_ofNat_strToBytes]

theorem recOfScaffold_wf (w : Nat) (resOf : Str → Bytes) (sc : Scaffold) (h : PlainName sc.name)
    (hb : CleanBytes (rowsBody resOf sc.rows)) : (recOfScaffold w resOf sc).WF := by
  have hbytes : ∀ b ∈ strToBytes sc.name, b < 128 ∧ isBSpace b = false := by
    intro b hb'
    obtain ⟨c, hc, rfl⟩ := List.mem_map.mp hb'
    exact h.2 c hc
  refine ⟨Or.inl ⟨rfl, ?_⟩, ?_, ?_, ?_, ?_⟩
  · intro e
    have := (hbytes 13 (List.mem_of_getLast? e)).2
    revert this; decide
  · intro e
    have := (hbytes 10 e).2
    revert this; decide
  · show tokOf (strToBytes sc.name) ≠ []
    rw [tokOf_plain sc.name h]
    intro e
    unfold strToBytes at e
    exact h.1 (List.map_eq_nil_iff.mp e)
  · show ∀ b ∈ tokOf (strToBytes sc.name), b < 128
    rw [tokOf_plain sc.name h]
    exact fun b hb' => (hbytes b hb').1
  · intro l hl
    have hl' : l ∈ linesOf w (rowsBody resOf sc.rows) := hl
    refine ⟨fun e => (hb 10 (mem_linesOf w _ l hl' 10 e)).2 rfl, ?_⟩
    cases l with
    | nil => simp
    | cons c t =>
      intro e
      simp only [List.head?_cons, Option.some.injEq] at e
      exact (hb c (mem_linesOf w _ _ hl' c (by simp))).1 e

theorem expIdx_lengths (recs : List Rec) : ∀ (p : Int),
    (expIdx p recs).map (fun e => (e.1, e.2.length)) = recs.map (fun r => (r.name, ((r.res.length : Nat) : Int))) := by
  induction recs with
  | nil => intro p; rfl
  | cons r t ih => intro p; simp only [expIdx, List.map_cons, ih, Rec.info]

theorem map_recOfScaffold_name (w : Nat) (resOf : Str → Bytes) (scs : List Scaffold)
    (hplain : ∀ sc ∈ scs, PlainName sc.name) :
    (scs.map (recOfScaffold w resOf)).map Rec.name = scs.map (·.name) := by
  rw [List.map_map]
  exact List.map_congr_left fun sc hsc => recOfScaffold_name w resOf sc (hplain sc hsc)

theorem map_recOfScaffold_wf (w : Nat) (resOf : Str → Bytes) (scs : List Scaffold)
    (hplain : ∀ sc ∈ scs, PlainName sc.name) (hb : ∀ sc ∈ scs, CleanBytes (rowsBody resOf sc.rows)) :
    ∀ r ∈ scs.map (recOfScaffold w resOf), r.WF := by
  intro r hr
  obtain ⟨sc, hsc, rfl⟩ := List.mem_map.mp hr
  exact recOfScaffold_wf w resOf sc (hplain sc hsc) (hb sc hsc)

theorem fastaOf_reindexes (bs : Int) (w : Nat) (hw : 1 ≤ w) (resOf : Str → Bytes) (scs : List Scaffold)
    (hne : scs ≠ []) (hplain : ∀ sc ∈ scs, PlainName sc.name) (hnd : (scs.map (·.name)).Nodup)
    (hb : ∀ sc ∈ scs, CleanBytes (rowsBody resOf sc.rows)) :
    ∃ st, indexFasta (bLines (fastaOf (w : Int) resOf scs)) bs = .ok st ∧
      st.idx.map (fun e => (e.1, e.2.length)) =
        scs.map (fun sc => (sc.name, (((rowsBody resOf sc.rows).length : Nat) : Int))) := by
  obtain ⟨st, e, hi, _⟩ := indexFasta_fileOf bs (scs.map (recOfScaffold w resOf)) (by simpa using hne)
    (map_recOfScaffold_wf w resOf scs hplain hb) (by rw [map_recOfScaffold_name w resOf scs hplain]; exact hnd)
  rw [fileOf_recOfScaffold w hw] at e
  refine ⟨st, e, ?_⟩
  rw [hi, foldl_addRec, List.nil_append, expIdx_lengths, List.map_map]
  apply List.map_congr_left
  intro sc hsc
  simp only [Function.comp, recOfScaffold_name w resOf sc (hplain sc hsc), recOfScaffold_res]

/-- with two scaffolds of the same (plain) name the tool's own indexer REJECTS the text: `ValueError`
    ("More than one sequence named …") -/
theorem fastaOf_reindex_fails (bs : Int) (w : Nat) (hw : 1 ≤ w) (resOf : Str → Bytes) (scs : List Scaffold)
    (hplain : ∀ sc ∈ scs, PlainName sc.name) (hdup : ¬ (scs.map (·.name)).Nodup)
    (hb : ∀ sc ∈ scs, CleanBytes (rowsBody resOf sc.rows)) :
    indexFasta (bLines (fastaOf (w : Int) resOf scs)) bs = .error .value := by
  rw [← fileOf_recOfScaffold w hw]
  exact indexFasta_dup bs _ (map_recOfScaffold_wf w resOf scs hplain hb)
    (by rw [map_recOfScaffold_name w resOf scs hplain]; exact hdup)

end AgpTpf.C03
