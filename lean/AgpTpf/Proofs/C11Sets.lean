/-
  C11: the consecutive pairs of a fragment list; `junctionsOfFrags` and `Scaffold.junctionSet` in one
  equation each; scaffold reversal.
-/
import AgpTpf.Proofs.C11Order
import AgpTpf.Proofs.Lib.Rows
namespace AgpTpf.C11
open AgpTpf

def adjPairs {α : Type} : List α → List (α × α)
  | a :: b :: r => (a, b) :: adjPairs (b :: r)
  | _ => []

theorem adjPairs_cons_cons {α : Type} (a b : α) (r : List α) : adjPairs (a :: b :: r) = (a, b) :: adjPairs (b :: r) := rfl

theorem mem_adjPairs {α : Type} {a b : α} : ∀ {l : List α}, (a, b) ∈ adjPairs l ↔ ∃ pre post, l = pre ++ a :: b :: post
  | [] => ⟨nofun, fun ⟨pre, _, e⟩ => by cases pre <;> cases e⟩
  | [_] => ⟨nofun, fun ⟨pre, _, e⟩ => by rcases pre with _ | ⟨_, _ | _⟩ <;> cases e⟩
  | x :: y :: r => by
    rw [adjPairs_cons_cons, List.mem_cons, mem_adjPairs (l := y :: r)]
    constructor
    · rintro (h | ⟨pre, post, h⟩)
      · cases h; exact ⟨[], r, rfl⟩
      · exact ⟨x :: pre, post, by rw [h]; rfl⟩
    · rintro ⟨pre, post, h⟩
      cases pre with
      | nil => cases h; exact .inl rfl
      | cons z pre => exact .inr ⟨pre, post, (List.cons.inj h).2⟩

theorem adjPairs_map {α β : Type} (f : α → β) : ∀ l : List α, adjPairs (l.map f) = (adjPairs l).map (fun p => (f p.1, f p.2))
  | [] => rfl
  | [_] => rfl
  | a :: b :: r => congrArg ((f a, f b) :: ·) (adjPairs_map f (b :: r))

theorem adjPairs_concat {α : Type} (x : α) :
    ∀ l : List α, adjPairs (l ++ [x]) = adjPairs l ++ (l.getLast?.map (·, x)).toList
  | [] => rfl
  | [_] => rfl
  | a :: b :: r => congrArg ((a, b) :: ·) (adjPairs_concat x (b :: r))

theorem adjPairs_reverse {α : Type} : ∀ l : List α, adjPairs l.reverse = (adjPairs l).reverse.map Prod.swap
  | [] => rfl
  | [_] => rfl
  | a :: b :: r => by
    rw [List.reverse_cons, adjPairs_concat, adjPairs_reverse (b :: r), List.getLast?_reverse, adjPairs_cons_cons,
      List.reverse_cons, List.map_append]
    rfl

theorem jf_eq_mapM : ∀ l : List Fragment, junctionsOfFrags l = (adjPairs l).mapM fun p => junctionTuple p.1 p.2
  | [] => rfl
  | [_] => rfl
  | a :: b :: r => by rw [adjPairs_cons_cons, List.mapM_cons, ← jf_eq_mapM (b :: r)]; rfl

def PairsOk (l : List Fragment) : Prop :=
  ∀ p ∈ adjPairs l, (p.1.strand = 1 ∨ p.1.strand = -1) ∧ (p.2.strand = 1 ∨ p.2.strand = -1)

instance (l : List Fragment) : Decidable (PairsOk l) := by unfold PairsOk; infer_instance

theorem pairsOk_iff (l : List Fragment) : PairsOk l ↔
    ∀ pre a b post, l = pre ++ a :: b :: post → (a.strand = 1 ∨ a.strand = -1) ∧ (b.strand = 1 ∨ b.strand = -1) :=
  ⟨fun h pre a b post e => h (a, b) (mem_adjPairs.2 ⟨pre, post, e⟩),
   fun h p hp => let ⟨pre, post, e⟩ := mem_adjPairs.1 hp; h pre p.1 p.2 post e⟩

/-- the junction tuples of a list whose neighbours all have strands ±1 -/
def junctionsOf (l : List Fragment) : List Junction := (adjPairs l).map fun p => encodeAdj (facingEnds p.1 p.2)

theorem jf_eq (l : List Fragment) :
    junctionsOfFrags l = if PairsOk l then .ok (junctionsOf l) else .error .value := by
  rw [jf_eq_mapM]
  simp only [junctionTuple_eq]
  exact mapM_ite _ _ _ _

theorem jf_ok_iff (l : List Fragment) :
    (∃ js, junctionsOfFrags l = .ok js) ↔
      ∀ pre a b post, l = pre ++ a :: b :: post → (a.strand = 1 ∨ a.strand = -1) ∧ (b.strand = 1 ∨ b.strand = -1) := by
  rw [jf_eq, ite_ok_iff, pairsOk_iff]

theorem mem_junctionsOf {l : List Fragment} (h : PairsOk l) (j : Junction) :
    j ∈ junctionsOf l ↔ ∃ pre a b post, l = pre ++ a :: b :: post ∧ junctionTuple a b = .ok j := by
  simp only [junctionsOf, List.mem_map, Prod.exists]
  constructor
  · rintro ⟨a, b, hp, rfl⟩
    obtain ⟨pre, post, e⟩ := mem_adjPairs.1 hp
    exact ⟨pre, a, b, post, e, junctionTuple_eq_encodeAdj a b (h _ hp).1 (h _ hp).2⟩
  · rintro ⟨pre, a, b, post, e, ht⟩
    have hp := mem_adjPairs.2 ⟨pre, post, e⟩
    rw [junctionTuple_eq_encodeAdj a b (h _ hp).1 (h _ hp).2] at ht
    exact ⟨a, b, hp, Except.ok.inj ht⟩

theorem reverse_strand_iff (a : Fragment) : (a.reverse.strand = 1 ∨ a.reverse.strand = -1) ↔ (a.strand = 1 ∨ a.strand = -1) := by
  simp only [Fragment.reverse]; omega

/-- reversing a scaffold turns the junction `a b` into `b.reverse a.reverse` -/
theorem junctionTuple_reverse_any (a b : Fragment) : junctionTuple b.reverse a.reverse = junctionTuple a b := by
  rw [junctionTuple_eq, junctionTuple_eq]
  by_cases h : (a.strand = 1 ∨ a.strand = -1) ∧ (b.strand = 1 ∨ b.strand = -1)
  · rw [if_pos h, if_pos ⟨(reverse_strand_iff b).2 h.2, (reverse_strand_iff a).2 h.1⟩,
      encodeAdj_congr (q := facingEnds a b) (.inr ⟨leftFacing_reverse h.2, rightFacing_reverse h.1⟩)]
  · rw [if_neg h, if_neg fun h' => h ⟨(reverse_strand_iff a).1 h'.2, (reverse_strand_iff b).1 h'.1⟩]

theorem jf_reverse (l : List Fragment) :
    junctionsOfFrags (l.reverse.map Fragment.reverse) = (junctionsOfFrags l).map List.reverse := by
  rw [jf_eq_mapM, jf_eq_mapM, adjPairs_map, adjPairs_reverse, List.map_map, mapM_map]
  simp only [Function.comp, Prod.swap, junctionTuple_reverse_any]
  simp only [junctionTuple_eq]
  rw [mapM_ite, mapM_ite]
  simp only [List.mem_reverse, List.map_reverse]
  split <;> rfl

theorem junctionSet_eq_map (s : Scaffold) :
    s.junctionSet = (junctionsOfFrags s.fragments).map fun js => js.foldl sAdd [] := by
  unfold Scaffold.junctionSet
  cases junctionsOfFrags s.fragments <;> rfl

theorem junctionSet_ok_iff (s : Scaffold) (S : List Junction) :
    s.junctionSet = .ok S ↔ ∃ js, junctionsOfFrags s.fragments = .ok js ∧ S = js.foldl sAdd [] := by
  rw [junctionSet_eq_map]
  cases junctionsOfFrags s.fragments <;> simp [Except.map, eq_comm]

theorem junctionSet_nodup (s : Scaffold) (S : List Junction) (h : s.junctionSet = .ok S) : S.Nodup := by
  obtain ⟨js, -, rfl⟩ := (junctionSet_ok_iff s S).1 h
  exact nodup_foldl_sAdd _ List.nodup_nil

theorem junctionSet_reverse (s : Scaffold) :
    s.reverse.junctionSet = (junctionsOfFrags s.fragments).map fun js => js.reverse.foldl sAdd [] := by
  rw [junctionSet_eq_map, Scaffold.reverse_fragments, jf_reverse]
  cases junctionsOfFrags s.fragments <;> rfl

def junctionSetOf (l : List Fragment) : List Junction := (junctionsOf l).foldl sAdd []

theorem junctionSet_eq (s : Scaffold) :
    s.junctionSet = if PairsOk s.fragments then .ok (junctionSetOf s.fragments) else .error .value := by
  rw [junctionSet_eq_map, jf_eq]
  split <;> rfl

theorem mem_junctionSetOf {l : List Fragment} (h : PairsOk l) (j : Junction) :
    j ∈ junctionSetOf l ↔ ∃ pre a b post, l = pre ++ a :: b :: post ∧ junctionTuple a b = .ok j := by
  rw [junctionSetOf, mem_foldl_sAdd, ← mem_junctionsOf h]
  simp

theorem junctionSet_ok_pairsOk (s : Scaffold) : (∃ S, s.junctionSet = .ok S) ↔ PairsOk s.fragments := by
  rw [junctionSet_eq, ite_ok_iff]

end AgpTpf.C11
