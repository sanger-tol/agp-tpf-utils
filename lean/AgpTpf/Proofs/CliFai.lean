/- `.fai` rows: `splitWords`, `loadIndexLine`, `loadIndex` (C15/C17 warm = cold) -/
import AgpTpf.Model.Cli
import AgpTpf.Proofs.Lib.Text
import AgpTpf.Proofs.Lib.Py
namespace AgpTpf.CliFai
open AgpTpf
/-! ### `splitWords` — `line.split()`: how `load_index` reads a row in the source before its fix f770cde; the defect is stated on it -/

theorem head_of_dropWhile_eq_cons {α} (p : α → Bool) (l : List α) (a : α) (r : List α)
    (h : l.dropWhile p = a :: r) : p a = false := by
  have := List.head?_dropWhile_not p l
  rwa [h] at this

theorem rest_shorter (s : Str) (a : Char) (r : Str) (ht : s.dropWhile isSpace = a :: r) :
    ((a :: r).dropWhile (fun c => !isSpace c)).length < s.length := by
  have ha : isSpace a = false := head_of_dropWhile_eq_cons _ _ _ _ ht
  rw [List.dropWhile_cons, if_pos (by simp [ha])]
  have h2 : (a :: r).length ≤ s.length := ht ▸ (List.dropWhile_sublist _).length_le
  exact Nat.lt_of_lt_of_le (Nat.lt_succ_of_le (List.dropWhile_sublist _).length_le) h2

/-- `splitWords` without its (dead) `[w]` branch -/
theorem splitWords_eq (s : Str) :
    splitWords s =
      if (s.dropWhile isSpace).isEmpty then []
      else ((s.dropWhile isSpace).takeWhile (fun c => !isSpace c)) ::
             splitWords ((s.dropWhile isSpace).dropWhile (fun c => !isSpace c)) := by
  cases s with
  | nil => rw [splitWords]; rfl
  | cons c cs =>
    rw [splitWords]
    case x_1 => intro h; cases h
    generalize ht : (c :: cs).dropWhile isSpace = t
    cases t with
    | nil => simp
    | cons a r =>
      simp only [List.isEmpty_cons, Bool.false_eq_true, if_false]
      rw [dif_pos (rest_shorter _ a r ht)]

theorem splitWords_nil : splitWords [] = [] := by rw [splitWords]

theorem splitWords_space (c : Char) (s : Str) (hc : isSpace c = true) : splitWords (c :: s) = splitWords s := by
  rw [splitWords_eq (c :: s), splitWords_eq s, List.dropWhile_cons, if_pos hc]

theorem splitWords_all_space (s : Str) (h : ∀ c ∈ s, isSpace c = true) : splitWords s = [] := by
  induction s with
  | nil => exact splitWords_nil
  | cons c cs ih =>
    rw [splitWords_space c cs (h c (by simp))]; exact ih (fun x hx => h x (by simp [hx]))

theorem splitWords_word (w : Str) (sp : Char) (rest : Str) (hne : w ≠ [])
    (hw : ∀ c ∈ w, isSpace c = false) (hsp : isSpace sp = true) :
    splitWords (w ++ sp :: rest) = w :: splitWords rest := by
  rw [splitWords_eq]
  have hd : (w ++ sp :: rest).dropWhile isSpace = w ++ sp :: rest := by
    cases w with
    | nil => exact absurd rfl hne
    | cons a t => rw [List.cons_append, List.dropWhile_cons, if_neg (by simp [hw a (by simp)])]
  rw [hd]
  have hemp : (w ++ sp :: rest).isEmpty = false := by cases w <;> simp
  rw [hemp]
  simp only [Bool.false_eq_true, if_false]
  have hw' : ∀ x ∈ w, (!isSpace x) = true := fun x hx => by rw [hw x hx]; rfl
  rw [List.takeWhile_append_of_pos hw', List.dropWhile_append_of_pos hw', List.takeWhile_cons_of_neg (by simp [hsp]),
    List.dropWhile_cons_of_neg (by simp [hsp]), List.append_nil, splitWords_space sp rest hsp]

theorem splitWords_words (s : Str) : ∀ w ∈ splitWords s, w ≠ [] ∧ ∀ c ∈ w, isSpace c = false := by
  generalize hn : s.length = n
  induction n using Nat.strongRecOn generalizing s with
  | _ n ih =>
    intro w hw
    rw [splitWords_eq] at hw
    generalize ht : s.dropWhile isSpace = t at hw
    cases t with
    | nil => simp at hw
    | cons a r =>
      have ha : isSpace a = false := head_of_dropWhile_eq_cons _ _ _ _ ht
      simp only [List.isEmpty_cons, Bool.false_eq_true, if_false] at hw
      rcases List.mem_cons.1 hw with rfl | hw
      · constructor
        · rw [List.takeWhile_cons]; simp [ha]
        · intro c hc
          simpa using List.all_eq_true.1 List.all_takeWhile c hc
      · exact ih _ (hn ▸ rest_shorter s a r ht) _ rfl w hw

/-- what the `line.split()` reader needs of a name -/
def WordOk (n : Str) : Prop := n ≠ [] ∧ ∀ c ∈ n, isSpace c = false

instance (n : Str) : Decidable (WordOk n) := by unfold WordOk; exact inferInstance

/-- a name usable in a `.fai` file read by `line.rstrip("\n").split("\t")`: no tab; and no newline, so that the row
    stays one line of the file.  (It may be empty and may contain blanks or any other white space.) -/
def NameOk (n : Str) : Prop := '\t' ∉ n ∧ '\n' ∉ n

instance (n : Str) : Decidable (NameOk n) := by unfold NameOk; exact inferInstance

theorem faiRow_eq (e : Str × FastaInfo) :
    faiRow e = e.1 ++ '\t' :: (intToStr e.2.length ++ '\t' :: (intToStr e.2.fileOffset ++ '\t' ::
      (intToStr e.2.rpl ++ '\t' :: (intToStr e.2.mll ++ '\n' :: [])))) := by
  simp [faiRow, joinWith]

theorem splitWords_faiRow (e : Str × FastaInfo) (h : WordOk e.1) :
    splitWords (faiRow e) =
      [e.1, intToStr e.2.length, intToStr e.2.fileOffset, intToStr e.2.rpl, intToStr e.2.mll] := by
  have ht : isSpace '\t' = true := by decide
  have hn : isSpace '\n' = true := by decide
  rw [faiRow_eq,
    splitWords_word _ _ _ h.1 h.2 ht,
    splitWords_word _ _ _ (intToStr_ne_nil _) (intToStr_no_space _) ht,
    splitWords_word _ _ _ (intToStr_ne_nil _) (intToStr_no_space _) ht,
    splitWords_word _ _ _ (intToStr_ne_nil _) (intToStr_no_space _) ht,
    splitWords_word _ _ _ (intToStr_ne_nil _) (intToStr_no_space _) hn,
    splitWords_nil]

def rowFields (e : Str × FastaInfo) : List Str :=
  [e.1, intToStr e.2.length, intToStr e.2.fileOffset, intToStr e.2.rpl, intToStr e.2.mll]

theorem rowFields_avoid (e : Str × FastaInfo) (c : Char) (hc : c ≠ '-') (hd : isDigit c = false) (h : c ∉ e.1) :
    ∀ f ∈ rowFields e, c ∉ f := by
  intro f hf
  simp only [rowFields, List.mem_cons, List.not_mem_nil, or_false] at hf
  have num : ∀ i : Int, c ∉ intToStr i := fun i hm => by
    rcases mem_intToStr hm with rfl | h'
    · exact hc rfl
    · rw [h'] at hd; cases hd
  rcases hf with rfl | rfl | rfl | rfl | rfl
  · exact h
  all_goals exact num _

/-- `rstrip` stops at the last column, which ends in a digit -/
theorem splitFaiLine_faiRow (e : Str × FastaInfo) (h : '\t' ∉ e.1) : splitFaiLine (faiRow e) = rowFields e := by
  obtain ⟨c, hc, hs⟩ := intToStr_getLast? e.2.mll
  refine line_cols '\t' (· == '\n') rfl (rowFields e) (rowFields_avoid e '\t' (by decide) (by decide) h) _ rfl ⟨c, hc, ?_⟩
  cases hcn : c == '\n' with
  | false => rfl
  | true => rw [eq_of_beq hcn] at hs; cases hs

theorem loadIndexLine_faiRow (e : Str × FastaInfo) (h : '\t' ∉ e.1) : loadIndexLine (faiRow e) = .ok e := by
  unfold loadIndexLine
  rw [splitFaiLine_faiRow e h]
  simp only [rowFields, pyInt_intToStr]
  rfl

theorem faiRow_lineOk (e : Str × FastaInfo) (h : '\n' ∉ e.1) : LineOk (faiRow e) :=
  joinWith_lineOk '\t' (by decide) _ (rowFields_avoid e '\n' (by decide) (by decide) h)

theorem pyInt_error (s : Str) (e : Err) (h : pyInt s = .error e) : e = .value := by
  rw [pyInt_eq] at h
  split at h
  · cases h; rfl
  · cases h

theorem bind_error_of {α β : Type} {x : R α} {f : α → R β} {e e0 : Err} (hx : ∀ e', x = .error e' → e' = e0)
    (hf : ∀ a e', f a = .error e' → e' = e0) (h : (x >>= f) = .error e) : e = e0 := by
  cases x with
  | error e1 => exact hx e (by cases h; rfl)
  | ok a => exact hf a e h

theorem loadIndexLine_error (line : Str) (e : Err) (h : loadIndexLine line = .error e) : e = .value := by
  unfold loadIndexLine at h
  split at h
  · exact bind_error_of (pyInt_error _) (fun _ _ => bind_error_of (pyInt_error _) (fun _ _ =>
      bind_error_of (pyInt_error _) (fun _ _ => bind_error_of (pyInt_error _) (fun _ _ h => by cases h)))) h
  · cases h; rfl

theorem loadIndexLine_ok_iff (line : Str) (e : Str × FastaInfo) :
    loadIndexLine line = .ok e ↔
      ∃ a b c d, splitFaiLine line = [e.1, a, b, c, d] ∧ pyInt a = .ok e.2.length ∧ pyInt b = .ok e.2.fileOffset ∧
        pyInt c = .ok e.2.rpl ∧ pyInt d = .ok e.2.mll := by
  unfold loadIndexLine
  split
  · next n a b c d heq =>
    simp only [heq, bind_eq_ok, pure_eq_ok, Except.ok.injEq]
    constructor
    · rintro ⟨l, ha, o, hb, r, hc, m, hd, rfl⟩
      exact ⟨a, b, c, d, rfl, ha, hb, hc, hd⟩
    · rintro ⟨a', b', c', d', hs, ha, hb, hc, hd⟩
      cases hs
      exact ⟨_, ha, _, hb, _, hc, _, hd, rfl⟩
  · next hne =>
    constructor
    · intro h; cases h
    · rintro ⟨a, b, c, d, hs, _⟩; exact absurd hs (hne _ _ _ _ _)

def loadStep (acc : List (Str × FastaInfo)) (l : Str) : R (List (Str × FastaInfo)) := do
  let e ← loadIndexLine l; pure (dSet acc e.1 e.2)

theorem loadIndex_eq (lines : List Str) : loadIndex lines = lines.foldlM loadStep [] := rfl

theorem foldlM_loadStep_rows (acc es : List (Str × FastaInfo))
    (hok : ∀ e ∈ es, '\t' ∉ e.1) (hd : ((acc ++ es).map Prod.fst).Pairwise (· ≠ ·)) :
    (es.map faiRow).foldlM loadStep acc = .ok (acc ++ es) := by
  have := foldlM_map (fun (acc : List (Str × FastaInfo)) e => dSet acc e.1 e.2) loadIndexLine (es.map faiRow) acc
  rw [mapM_map, mapM_ok (g := id) fun e he => loadIndexLine_faiRow e (hok e he), List.map_id] at this
  exact this.trans (congrArg Except.ok (dSetAll_of_fresh es acc (by rwa [List.map_append] at hd)))

theorem foldlM_loadStep_error (acc : List (Str × FastaInfo)) (lines : List Str) (l : Str) (hl : l ∈ lines)
    (e : Err) (he : loadIndexLine l = .error e) :
    lines.foldlM loadStep acc = .error .value := by
  induction lines generalizing acc with
  | nil => cases hl
  | cons x xs ih =>
    rw [List.foldlM_cons]
    cases hx : loadIndexLine x with
    | error e1 =>
      have : loadStep acc x = .error e1 := by unfold loadStep; rw [hx]; rfl
      rw [this, loadIndexLine_error _ _ hx]; rfl
    | ok y =>
      have : loadStep acc x = .ok (dSet acc y.1 y.2) := by unfold loadStep; rw [hx]; rfl
      rw [this]
      rcases List.mem_cons.1 hl with rfl | hmem
      · rw [hx] at he; cases he
      · exact ih _ hmem

/-! ### evaluating `splitWords` by kernel reduction (it is well-founded, so `rfl` / `decide` need a structural twin) -/

def splitWordsF : Nat → Str → List Str
  | 0, _ => []
  | n + 1, s =>
    let t := s.dropWhile isSpace
    if t.isEmpty then [] else
      t.takeWhile (fun c => !isSpace c) :: splitWordsF n (t.dropWhile (fun c => !isSpace c))

theorem splitWords_fuel (n : Nat) (s : Str) (h : s.length ≤ n) : splitWords s = splitWordsF n s := by
  induction n generalizing s with
  | zero =>
    have : s = [] := List.eq_nil_of_length_eq_zero (by omega)
    subst this; rw [splitWords_nil]; rfl
  | succ n ih =>
    rw [splitWords_eq, splitWordsF]
    generalize ht : s.dropWhile isSpace = t
    cases t with
    | nil => simp
    | cons a r =>
      simp only [List.isEmpty_cons, Bool.false_eq_true, if_false]
      rw [ih _ (Nat.le_of_lt_succ (Nat.lt_of_lt_of_le (rest_shorter s a r ht) h))]

end AgpTpf.CliFai
