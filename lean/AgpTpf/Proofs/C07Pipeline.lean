/-
  C07 at pipeline level: no stored result and no left-over scaffold of `remap_to_input_assembly` begins or ends with a
  gap row (`find_overlaps` skips terminal gaps, `discard_start/end` pop them, `trim_fragment` writes a fragment,
  left-over scaffolds start and end with a fragment).
-/
import AgpTpf.Proofs.C07Lemmas
import AgpTpf.Proofs.C01Pipeline
import AgpTpf.Proofs.Lib.Rows
import AgpTpf.Proofs.Lib.Overlap
import AgpTpf.Proofs.Lib.Pipeline
import AgpTpf.Proofs.Lib.Missing
import AgpTpf.Proofs.Lib.Lookup
namespace AgpTpf.C07
open AgpTpf

theorem findOverlaps_noTerminalGap (rows : List Row) (bait : Fragment) (o : OverlapResult)
    (h : findOverlaps rows bait = .ok (some o)) : NoTerminalGap o.rows ∧ o.rows ≠ [] := by
  obtain ⟨i, j, hij, hj, hfi, hfj, rfl⟩ := C12.findOverlaps_some h
  show NoTerminalGap ((rows.drop i).take (j + 1 - i)) ∧ (rows.drop i).take (j + 1 - i) ≠ []
  obtain ⟨_, _, _, _, _, ⟨f, e⟩ | ⟨f, m, g, e⟩⟩ := C12.slice_decomp hij hj hfi hfj
  · rw [e]
    exact ⟨⟨fun g hg => (by cases hg), fun g hg => (by cases hg)⟩, List.cons_ne_nil _ _⟩
  · rw [e]
    refine ⟨⟨fun g' hg => (by cases hg), fun g' hg => ?_⟩, List.cons_ne_nil _ _⟩
    rw [List.getLast?_concat] at hg
    cases hg

def StoreNTG (store : List Res) : Prop := ∀ r ∈ store, NoTerminalGap r.o.rows
def ExtraNTG (extra : List (Scaffold × Option (Fragment × List Gap))) : Prop := ∀ e ∈ extra, NoTerminalGap e.1.rows

theorem noTerminalGap_nil : NoTerminalGap [] := by unfold NoTerminalGap; simp

theorem discardStart_ntg (o o' : OverlapResult) (hn : NoTerminalGap o.rows) (h : o.discardStart = .ok o') :
    NoTerminalGap o'.rows := by
  obtain ⟨d, G, T, hr, _, hT, rfl⟩ := OverlapResult.discardStart_ok h
  have hsuf : T <:+ o.rows := hr ▸ (List.suffix_append G T).trans (List.suffix_cons _ _)
  rcases hT with rfl | ⟨f, T', rfl⟩
  · exact noTerminalGap_nil
  · exact ⟨fun g hg => (by cases hg), fun g hg => hn.2 g (suffix_getLast? hsuf (List.cons_ne_nil _ _) ▸ hg)⟩

theorem discardEnd_ntg (o o' : OverlapResult) (hn : NoTerminalGap o.rows) (h : o.discardEnd = .ok o') :
    NoTerminalGap o'.rows := by
  obtain ⟨d, G, T, hr, _, hT, rfl⟩ := OverlapResult.discardEnd_ok h
  have hpre : T <+: o.rows := hr ▸ ⟨G ++ [d], by simp⟩
  rcases hT with rfl | ⟨f, T', rfl⟩
  · exact noTerminalGap_nil
  · exact ⟨fun g hg => hn.1 g (prefix_head? hpre (by simp) ▸ hg), fun g hg => (by simp at hg)⟩

theorem trimLargeOverhangs_ntg (o o' : OverlapResult) (err : Int) (hn : NoTerminalGap o.rows)
    (h : o.trimLargeOverhangs err = .ok o') : NoTerminalGap o'.rows := by
  rcases OverlapResult.trimLarge_cases h with rfl | h1 | h1 | ⟨o1, h1, h2⟩
  · exact hn
  · exact discardStart_ntg _ _ hn h1
  · exact discardEnd_ntg _ _ hn h1
  · exact discardEnd_ntg _ _ (discardStart_ntg _ _ hn h1) h2

theorem trimFragment_ntg (o : OverlapResult) (trim : Fragment) (ks ke : Bool) (oid : Nat)
    (o' : OverlapResult) (new : Fragment) (hn : NoTerminalGap o.rows)
    (h : o.trimFragment trim ks ke oid = .ok (o', new)) : NoTerminalGap o'.rows := by
  rcases OverlapResult.trimFragment_rows h with ⟨t, g, hr, -, hr'⟩ | ⟨t, g, hr, -, hr'⟩
  · rw [hr] at hn; rw [hr']
    refine ⟨fun g' hg => hn.1 g' ?_, fun g' hg => (by simp at hg)⟩
    cases t with
    | nil => cases hg
    | cons z t' => exact hg
  · rw [hr] at hn; rw [hr']
    refine ⟨fun g' hg => (by cases hg), fun g' hg => hn.2 g' ?_⟩
    cases t with
    | nil => cases hg
    | cons z t' => simpa [List.getLast?_cons_cons] using hg

theorem ntg_closed {dr : Prop} {fr : Fragment → Prop} : Pipeline.OpClosed dr fr (fun _ r => NoTerminalGap r.o.rows) :=
  .plain (fun _ _ hn h => discardStart_ntg _ _ hn h) (fun _ _ hn h => discardEnd_ntg _ _ hn h)
    (fun _ _ _ _ _ _ _ hn h => trimFragment_ntg _ _ _ _ _ _ _ hn h)

theorem leftover_ntg {jg : Option Gap} {sc : Scaffold} {e : Scaffold × Option (Fragment × List Gap)}
    (h : Pipeline.LeftoverOf jg sc e) : NoTerminalGap e.1.rows := by
  obtain ⟨a, first, _, hv, _, _⟩ := h
  obtain ⟨h1, h2⟩ := Pipeline.leftoverRows_ends _ _ _ _ _ (Pipeline.missingRows_ok_iff.mp hv).1
  exact ⟨h1 rfl, h2⟩

/-- the first object id `remap_to_input_assembly` hands to a cut piece -/
def firstNewOid (input : List Scaffold) : Nat :=
  (input.flatMap Scaffold.fragments).foldl (fun m f => max m (f.oid + 1)) 0

theorem remapToInput_ntg (input ptx : List Scaffold) (prefix_ : Str) (joinGap : Option Gap) (err : Int) (b : Build)
    (h : remapToInput input ptx prefix_ joinGap err = .ok b) : StoreNTG b.store ∧ ExtraNTG b.extra :=
  ⟨Pipeline.remapToInput_forall ntg_closed
      (fun _ ⟨_, _, _, _, _, hfo, hl, ht, _⟩ =>
        trimLargeOverhangs_ntg _ _ _ (hl.1 ▸ (findOverlaps_noTerminalGap _ _ _ hfo).1) ht)
      (fun _ _ _ hr => hr) h,
    fun e he => let ⟨_, _, hl⟩ := Pipeline.remapToInput_extra h e he; leftover_ntg hl⟩

end AgpTpf.C07
