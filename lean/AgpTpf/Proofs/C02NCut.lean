/-
  C02 "remapping never fails": `cut_fragments` SUCCEEDS (the QC passes) whenever the
  holders of the contig, in the order `cut_fragments` visits them, own abutting stretches of the contig (`VisitOK`).
  No restriction on the number of holders, on the strand, or on the Pretext tags.  `VisitOK.of_scaffold_order` gives
  `VisitOK` from the holders listed by ascending bait, in scaffold coordinates: the one place where a reverse contig is
  turned round.
-/
import AgpTpf.Proofs.C02NTrim
import AgpTpf.Proofs.C02DChain
namespace AgpTpf.C02
open AgpTpf OverlapResult

/-- is the contig the row at the LOW side of the result (contig coordinates)?  first row for a forward contig, last row
    for a reverse one (`a` = it is the first row, `c` = it is the last row) -/
def lowB (F : Fragment) (a c : Bool) : Bool := if F.strand = 1 then a else c
def highB (F : Fragment) (a c : Bool) : Bool := if F.strand = 1 then c else a
def ovLow (o : OverlapResult) (F : Fragment) : Int := if F.strand = 1 then o.startOverhang else o.endOverhang
def ovHigh (o : OverlapResult) (F : Fragment) : Int := if F.strand = 1 then o.endOverhang else o.startOverhang

theorem fsit_eval (o : OverlapResult) (F : Fragment) (a c : Bool) (hs : firstIs o F = .ok a) (he : lastIs o F = .ok c)
    (hstr : F.strand = 1 ∨ F.strand = -1) :
    o.fragmentStartIfTrimmed F = .ok (if lowB F a c = true then F.start + ovLow o F else F.start) := by
  unfold fragmentStartIfTrimmed lowB ovLow
  rcases hstr with c3 | c3
  · cases a <;> simp [c3, hs, bind, Except.bind, pure, Except.pure]
  · have c4 : ¬ (F.strand = 1) := by omega
    cases c <;> simp [c4, he, bind, Except.bind, pure, Except.pure]

theorem start_lt_lo {n : Nat} {lo hi : Nat → Int} {s : Int} (geo : ∀ j, j < n → s ≤ hi j)
    (abut : ∀ j, j + 1 < n → hi j + 1 = lo (j + 1)) : ∀ {j : Nat}, 0 < j → j < n → s < lo j
  | i + 1, _, hj => by
    have h1 := abut i hj
    have h2 := geo i (Nat.lt_of_succ_lt hj)
    omega

theorem hi_lt_stop {n : Nat} {lo hi : Nat → Int} {t : Int} (geo : ∀ j, j < n → lo j ≤ t)
    (abut : ∀ j, j + 1 < n → hi j + 1 = lo (j + 1)) {j : Nat} (hj : j + 1 < n) : hi j < t := by
  have h1 := abut j hj
  have h2 := geo (j + 1) hj
  omega

theorem hi_mono {n : Nat} {lo hi : Nat → Int} (geo : ∀ j, j < n → lo j ≤ hi j)
    (abut : ∀ j, j + 1 < n → hi j + 1 = lo (j + 1)) {i : Nat} : ∀ {j : Nat}, i ≤ j → j < n → hi i ≤ hi j
  | 0, h, _ => by cases Nat.le_zero.mp h; exact Int.le_refl _
  | j + 1, h, hj => by
    rcases Nat.le_or_eq_of_le_succ h with h' | rfl
    · have h1 := hi_mono geo abut h' (Nat.lt_of_succ_lt hj)
      have h2 := abut j hj
      have h3 := geo (j + 1) hj
      omega
    · exact Int.le_refl _

theorem trimLow_cutFlags (o : OverlapResult) (F : Fragment) (a c : Bool) (j last : Nat)
    (hstr : F.strand = 1 ∨ F.strand = -1) :
    trimLow o F a c (cutFlags F.strand j last).1 (cutFlags F.strand j last).2 =
      if lowB F a c = true ∧ 0 < ovLow o F ∧ j ≠ 0 then ovLow o F else 0 := by
  unfold trimLow startCut endCut cutFlags lowB ovLow
  rcases hstr with c3 | c3 <;> simp [c3]

theorem trimHigh_cutFlags (o : OverlapResult) (F : Fragment) (a c : Bool) (j last : Nat)
    (hstr : F.strand = 1 ∨ F.strand = -1) :
    trimHigh o F a c (cutFlags F.strand j last).1 (cutFlags F.strand j last).2 =
      if highB F a c = true ∧ 0 < ovHigh o F ∧ j ≠ last then ovHigh o F else 0 := by
  unfold trimHigh startCut endCut cutFlags highB ovHigh
  rcases hstr with c3 | c3 <;> simp [c3]

/-- **the holders in visiting order own abutting stretches of the contig.**
    `V` = the holder ids in the order `cut_fragments` visits them; `lo j … hi j` = the stretch of the contig (contig
    coordinates; it may stick out of the contig for the first and the last holder) that the bait of the `j`-th holder
    covers. -/
structure VisitOK (b : Build) (fnd : Found) (V : List Nat) (lo hi : Nat → Int) : Prop where
  perm : V.Perm fnd.scaffolds
  ne : V ≠ []
  strand : fnd.fragment.strand = 1 ∨ fnd.fragment.strand = -1
  valid : fnd.fragment.start ≤ fnd.fragment.stop
  geo : ∀ j, j < V.length → lo j ≤ hi j ∧ fnd.fragment.start ≤ hi j ∧ lo j ≤ fnd.fragment.stop
  abut : ∀ j, j + 1 < V.length → hi j + 1 = lo (j + 1)
  res : ∀ j (h : j < V.length), ∃ a c,
    firstIs (getRes b.store V[j]) fnd.fragment = .ok a ∧ lastIs (getRes b.store V[j]) fnd.fragment = .ok c ∧
    (a = true ∨ c = true) ∧
    (lowB fnd.fragment a c = true → ovLow (getRes b.store V[j]) fnd.fragment = lo j - fnd.fragment.start) ∧
    (highB fnd.fragment a c = true → ovHigh (getRes b.store V[j]) fnd.fragment = fnd.fragment.stop - hi j) ∧
    (0 < j → lowB fnd.fragment a c = true) ∧ (j + 1 < V.length → highB fnd.fragment a c = true)

section
variable {b : Build} {fnd : Found} {V : List Nat} {lo hi : Nat → Int}

theorem VisitOK.piece_valid (h : VisitOK b fnd V lo hi) {j : Nat} (hj : j < V.length) :
    (if j = 0 then fnd.fragment.start else lo j) ≤ (if j + 1 = V.length then fnd.fragment.stop else hi j) := by
  have := h.geo j hj
  have := h.valid
  split <;> split <;> omega

/-- what `trim_fragment` leaves of the contig in the `j`-th holder: `lo j … hi j`, except that the first holder keeps the
    contig's first base and the last its last base -/
theorem VisitOK.trim_amounts (h : VisitOK b fnd V lo hi) {j : Nat} (hj : j < V.length) {a c : Bool}
    (hs : firstIs (getRes b.store V[j]) fnd.fragment = .ok a) (he : lastIs (getRes b.store V[j]) fnd.fragment = .ok c) :
    fnd.fragment.start + trimLow (getRes b.store V[j]) fnd.fragment a c
        (cutFlags fnd.fragment.strand j (V.length - 1)).1 (cutFlags fnd.fragment.strand j (V.length - 1)).2 =
      (if j = 0 then fnd.fragment.start else lo j) ∧
    fnd.fragment.stop - trimHigh (getRes b.store V[j]) fnd.fragment a c
        (cutFlags fnd.fragment.strand j (V.length - 1)).1 (cutFlags fnd.fragment.strand j (V.length - 1)).2 =
      (if j + 1 = V.length then fnd.fragment.stop else hi j) := by
  obtain ⟨a', c', hs', he', _, hl, hh, hlow, hhigh⟩ := h.res j hj
  cases hs.symm.trans hs'
  cases he.symm.trans he'
  rw [trimLow_cutFlags _ _ _ _ _ _ h.strand, trimHigh_cutFlags _ _ _ _ _ _ h.strand]
  constructor
  · by_cases h0 : j = 0
    · rw [if_pos h0, if_neg (fun q => q.2.2 h0), Int.add_zero]
    · have p := hlow (Nat.pos_of_ne_zero h0)
      have := start_lt_lo (fun i hi => (h.geo i hi).2.1) h.abut (Nat.pos_of_ne_zero h0) hj
      rw [if_neg h0, if_pos ⟨p, by rw [hl p]; omega, h0⟩, hl p]; omega
  · by_cases h0 : j + 1 = V.length
    · rw [if_pos h0, if_neg (fun q => q.2.2 (by omega)), Int.sub_zero]
    · have p := hhigh (by omega)
      have := hi_lt_stop (fun i hi => (h.geo i hi).2.2) h.abut (j := j) (by omega)
      rw [if_neg h0, if_pos ⟨p, by rw [hh p]; omega, by omega⟩, hh p]; omega

theorem VisitOK.trim (h : VisitOK b fnd V lo hi) (j : Nat) (hj : j < V.length) (oid : Nat) :
    ∃ o' new, (b.store.getD V[j] default).o.trimFragment fnd.fragment
        (cutFlags fnd.fragment.strand j (V.length - 1)).1 (cutFlags fnd.fragment.strand j (V.length - 1)).2 oid =
        .ok (o', new) ∧
      new.start = (if j = 0 then fnd.fragment.start else lo j) ∧
      new.stop = (if j + 1 = V.length then fnd.fragment.stop else hi j) ∧ new.name = fnd.fragment.name := by
  obtain ⟨a, c, hs, he, hac, _⟩ := h.res j hj
  obtain ⟨k1, k2⟩ := h.trim_amounts hj hs he
  exact ⟨_, _, (trimFragment_ok_iff (o := getRes b.store V[j])).mpr ⟨a, c, hs, he, hac, Or.inr h.strand, rfl,
    (by show _ + trimLow .. ≤ _ - trimHigh ..; rw [k1, k2]; exact h.piece_valid hj), rfl⟩, k1, k2, rfl⟩

theorem VisitOK.key (h : VisitOK b fnd V lo hi) (j : Nat) (hj : j < V.length) :
    ∃ v, (getRes b.store V[j]).fragmentStartIfTrimmed fnd.fragment = .ok v ∧ v ≤ hi j ∧ (0 < j → v = lo j) := by
  obtain ⟨a, c, hs, he, hac, hl, hh, hlow, hhigh⟩ := h.res j hj
  have hg := h.geo j hj
  refine ⟨_, fsit_eval _ _ a c hs he h.strand, ?_, ?_⟩
  · split
    · next hb => rw [hl hb]; omega
    · omega
  · intro h0
    rw [if_pos (hlow h0), hl (hlow h0)]; omega

/-- the sort keys of `cut_fragments` (`fragment_start_if_trimmed`) exist and ascend strictly along `V` -/
theorem VisitOK.sort_keys (h : VisitOK b fnd V lo hi) : ∃ κ : Nat → Int,
    (∀ s ∈ fnd.scaffolds, (getRes b.store s).fragmentStartIfTrimmed fnd.fragment = .ok (κ s)) ∧
    V.Pairwise (fun a c => κ a < κ c) := by
  let κ : Nat → Int := fun s =>
    match (getRes b.store s).fragmentStartIfTrimmed fnd.fragment with
    | .ok v => v
    | .error _ => 0
  have hκV : ∀ j (hj : j < V.length), (getRes b.store V[j]).fragmentStartIfTrimmed fnd.fragment = .ok (κ V[j]) ∧
      κ V[j] ≤ hi j ∧ (0 < j → κ V[j] = lo j) := by
    intro j hj
    obtain ⟨v, hv, h1, h2⟩ := h.key j hj
    have : κ V[j] = v := by simp only [κ, hv]
    rw [this]; exact ⟨hv, h1, h2⟩
  refine ⟨κ, fun s hs => ?_, ?_⟩
  · obtain ⟨j, hj, rfl⟩ := List.getElem_of_mem (h.perm.symm.subset hs)
    exact (hκV j hj).1
  · rw [List.pairwise_iff_getElem]
    intro i j hi' hj' hij
    obtain ⟨j, rfl⟩ : ∃ j', j = j' + 1 := ⟨j - 1, by omega⟩
    have h1 := (hκV i hi').2.1
    have h2 := (hκV (j + 1) hj').2.2 (Nat.succ_pos j)
    have h3 := hi_mono (fun i hi => (h.geo i hi).1) h.abut (Nat.le_of_lt_succ hij) (Nat.lt_of_succ_lt hj')
    have h4 := h.abut j hj'
    omega

theorem VisitOK.chain (h : VisitOK b fnd V lo hi) {l : List Fragment} (hlen : l.length = V.length)
    (hget : ∀ j (hj : j < l.length), l[j].start = (if j = 0 then fnd.fragment.start else lo j) ∧
      l[j].stop = (if j + 1 = V.length then fnd.fragment.stop else hi j) ∧ l[j].name = fnd.fragment.name) :
    ∃ x ts, l = x :: ts ∧ Adj Follows' (x :: ts) ∧ x.start = fnd.fragment.start ∧
      ((x :: ts).getLast (by simp)).stop = fnd.fragment.stop := by
  have hn : 0 < V.length := List.length_pos_iff.mpr h.ne
  cases l with
  | nil => simp at hlen; omega
  | cons x ts =>
    refine ⟨x, ts, rfl, adj_of_get _ _ fun p hp => ?_, ?_, ?_⟩
    · obtain ⟨s1, t1, m1⟩ := hget p (by omega)
      obtain ⟨s2, t2, m2⟩ := hget (p + 1) hp
      refine ⟨m1.trans m2.symm, ?_, ?_, ?_⟩
      · rw [s1, t1]; exact h.piece_valid (by omega)
      · rw [s2, t2]; exact h.piece_valid (by omega)
      · rw [t1, s2, if_neg (by omega), if_neg (by omega)]; exact h.abut p (by omega)
    · exact (hget 0 (by simp)).1
    · rw [List.getLast_eq_getElem, (hget ((x :: ts).length - 1) (by simp)).2.1, if_pos (by omega)]

end

theorem reverse_pos {α} {l : List α} {j : Nat} (hj : j < l.reverse.length) :
    ∃ p, ∃ hp : p < l.length, l.reverse[j] = l[p] ∧ p + j + 1 = l.length := by
  rw [List.length_reverse] at hj
  exact ⟨l.length - 1 - j, by omega, List.getElem_reverse _, by omega⟩

/-- **`VisitOK` from the holders in SCAFFOLD order, in scaffold coordinates.**  The contig row stands at the scaffold
    positions `P … P + len − 1`; `c` lists its holders by ascending bait.  A reverse contig is visited from the last holder
    to the first. -/
theorem VisitOK.of_scaffold_order {b : Build} {fnd : Found} {c : List Nat} {P : Int}
    (hperm : c.Perm fnd.scaffolds) (hne : c ≠ [])
    (hstr : fnd.fragment.strand = 1 ∨ fnd.fragment.strand = -1) (hval : fnd.fragment.start ≤ fnd.fragment.stop)
    (hres : ∀ p (h : p < c.length), ∃ a e,
      firstIs (getRes b.store c[p]) fnd.fragment = .ok a ∧ lastIs (getRes b.store c[p]) fnd.fragment = .ok e ∧
      (a = true ∨ e = true) ∧ (a = true → (getRes b.store c[p]).start = P) ∧
      (e = true → (getRes b.store c[p]).stop = P + fnd.fragment.length - 1) ∧
      (0 < p → a = true) ∧ (p + 1 < c.length → e = true) ∧
      (getRes b.store c[p]).bait.start ≤ (getRes b.store c[p]).bait.stop ∧
      P ≤ (getRes b.store c[p]).bait.stop ∧ (getRes b.store c[p]).bait.start ≤ P + fnd.fragment.length - 1)
    (habut : ∀ p (h : p + 1 < c.length),
      (getRes b.store (c[p]'(by omega))).bait.stop + 1 = (getRes b.store c[p + 1]).bait.start) :
    ∃ lo hi, VisitOK b fnd (if fnd.fragment.strand = 1 then c else c.reverse) lo hi := by
  have hlenF : fnd.fragment.length = fnd.fragment.stop - fnd.fragment.start + 1 := rfl
  rcases hstr with hs | hs
  · rw [if_pos hs]
    refine ⟨fun j => fnd.fragment.start + ((getRes b.store (c.getD j 0)).bait.start - P),
      fun j => fnd.fragment.start + ((getRes b.store (c.getD j 0)).bait.stop - P),
      hperm, hne, .inl hs, hval, fun j hj => ?_, fun j hj => ?_, fun j hj => ?_⟩
    · obtain ⟨a, e, -, -, -, -, -, -, -, h1, h2, h3⟩ := hres j hj
      rw [← List.getElem_eq_getD (h := hj) 0]; omega
    · have := habut j hj
      rw [← List.getElem_eq_getD (h := hj) 0, ← List.getElem_eq_getD (h := Nat.lt_of_succ_lt hj) 0]; omega
    · obtain ⟨a, e, ha, he, hae, h1, h2, h3, h4, -⟩ := hres j hj
      rw [← List.getElem_eq_getD (h := hj) 0]
      refine ⟨a, e, ha, he, hae, ?_, ?_, ?_, ?_⟩ <;> simp only [lowB, highB, ovLow, ovHigh, if_pos hs]
      · intro h; unfold startOverhang; have := h1 h; omega
      · intro h; unfold endOverhang; have := h2 h; omega
      · exact h3
      · exact h4
  · have hn : ¬ fnd.fragment.strand = 1 := by omega
    have hl : c.reverse.length = c.length := List.length_reverse
    rw [if_neg hn]
    refine ⟨fun j => fnd.fragment.stop - ((getRes b.store (c.reverse.getD j 0)).bait.stop - P),
      fun j => fnd.fragment.stop - ((getRes b.store (c.reverse.getD j 0)).bait.start - P),
      (List.reverse_perm c).trans hperm, by simpa using hne, .inr hs, hval, fun j hj => ?_, fun j hj => ?_,
      fun j hj => ?_⟩
    · obtain ⟨p, hp, e, -⟩ := reverse_pos hj
      obtain ⟨a, e', -, -, -, -, -, -, -, h1, h2, h3⟩ := hres p hp
      rw [← List.getElem_eq_getD (h := hj) 0, e]; omega
    · obtain ⟨p, hp, e1, k1⟩ := reverse_pos (Nat.lt_of_succ_lt hj)
      obtain ⟨p', hp', e2, k2⟩ := reverse_pos hj
      obtain rfl : p = p' + 1 := by omega
      have := habut p' hp
      rw [← List.getElem_eq_getD (h := hj) 0, ← List.getElem_eq_getD (h := Nat.lt_of_succ_lt hj) 0, e1, e2]; omega
    · obtain ⟨p, hp, e, k⟩ := reverse_pos hj
      obtain ⟨a, e', ha, he, hae, h1, h2, h3, h4, -⟩ := hres p hp
      rw [← List.getElem_eq_getD (h := hj) 0, e]
      refine ⟨a, e', ha, he, hae, ?_, ?_, ?_, ?_⟩ <;> simp only [lowB, highB, ovLow, ovHigh, if_neg hn]
      · intro h; unfold endOverhang; have := h2 h; omega
      · intro h; unfold startOverhang; have := h1 h; omega
      · intro h; exact h4 (by omega)
      · intro h; exact h3 (by omega)

/-- the list `cutFragments_chain` wants: holder id, trimmed result, new Fragment, in visiting order -/
def cutT (b : Build) (F : Fragment) (V : List Nat) : List (Nat × OverlapResult × Fragment) :=
  V.zipIdx.map (fun x =>
    (x.1, match (b.store.getD x.1 default).o.trimFragment F (cutFlags F.strand x.2 (V.length - 1)).1
              (cutFlags F.strand x.2 (V.length - 1)).2 (b.nextOid + x.2) with
          | .ok p => p
          | .error _ => default))

theorem cutT_fst (b : Build) (F : Fragment) (V : List Nat) : (cutT b F V).map (·.1) = V := by
  unfold cutT
  rw [List.map_map]
  exact List.zipIdx_map_fst 0 V

theorem cutT_get (b : Build) (F : Fragment) (V : List Nat) (j : Nat) (hj : j < V.length) :
    (cutT b F V)[j]? = some (V[j],
      match (b.store.getD V[j] default).o.trimFragment F (cutFlags F.strand j (V.length - 1)).1
              (cutFlags F.strand j (V.length - 1)).2 (b.nextOid + j) with
          | .ok p => p
          | .error _ => default) := by
  unfold cutT
  rw [List.getElem?_map, List.getElem?_zipIdx, List.getElem?_eq_getElem hj]
  simp

theorem foldl_setAt_slots (T : List (Nat × OverlapResult × Fragment)) :
    ∀ (st : List Res), (T.map (·.1)).Nodup → (∀ t ∈ T, t.1 < st.length) →
      (T.foldl (fun st t => setAt st t.1 { st.getD t.1 default with o := t.2.1 }) st).length = st.length ∧
      (∀ t ∈ T, (T.foldl (fun st t => setAt st t.1 { st.getD t.1 default with o := t.2.1 }) st).getD t.1 default =
        { st.getD t.1 default with o := t.2.1 }) ∧
      ∀ i, i ∉ T.map (·.1) →
        (T.foldl (fun st t => setAt st t.1 { st.getD t.1 default with o := t.2.1 }) st).getD i default = st.getD i default := by
  induction T with
  | nil => intro st _ _; exact ⟨rfl, fun _ h => (by cases h), fun _ _ => rfl⟩
  | cons t T' ih =>
    intro st hnd hlt
    rw [List.map_cons, List.nodup_cons] at hnd
    obtain ⟨h1, h2, h3⟩ := ih (setAt st t.1 { st.getD t.1 default with o := t.2.1 }) hnd.2
      (fun u hu => by rw [Pipeline.length_setAt]; exact hlt u (List.mem_cons_of_mem _ hu))
    simp only [List.foldl_cons]
    refine ⟨by rw [h1, Pipeline.length_setAt], fun u hu => ?_, fun i hi => ?_⟩
    · rcases List.mem_cons.1 hu with rfl | hu
      · rw [h3 _ hnd.1, Pipeline.getD_setAt_self _ _ _ _ (hlt u (List.mem_cons_self ..))]
      · rw [h2 u hu, Pipeline.getD_setAt_ne _ _ _ _ _ fun e => hnd.1 (by rw [e]; exact List.mem_map_of_mem hu)]
    · rw [List.map_cons, List.mem_cons, not_or] at hi
      rw [h3 i hi.2, Pipeline.getD_setAt_ne _ _ _ _ _ (Ne.symm hi.1)]

/-- **`cut_fragments` succeeds** for a contig whose holders own abutting stretches: the QC passes. -/
theorem cut_ok_of_visit {b : Build} {fnd : Found} {V : List Nat} {lo hi : Nat → Int} (h : VisitOK b fnd V lo hi) :
    ∃ st, cutFragments b fnd =
        .ok { b with store := st, nextOid := b.nextOid + V.length, cuts := b.cuts + ((V.length : Int) - 1) } ∧
      st.length = b.store.length ∧
      (∀ j (hj : j < V.length), ∃ o' new, (b.store.getD V[j] default).o.trimFragment fnd.fragment
          (cutFlags fnd.fragment.strand j (V.length - 1)).1 (cutFlags fnd.fragment.strand j (V.length - 1)).2
          (b.nextOid + j) = .ok (o', new) ∧ st.getD V[j] default = { b.store.getD V[j] default with o := o' }) ∧
      ∀ s, s ∉ V → st.getD s default = b.store.getD s default := by
  obtain ⟨T, hfst, hget⟩ : ∃ T : List (Nat × OverlapResult × Fragment), T.map (·.1) = V ∧
      ∀ j (hj : j < V.length), ∃ o' new, (b.store.getD V[j] default).o.trimFragment fnd.fragment
        (cutFlags fnd.fragment.strand j (V.length - 1)).1 (cutFlags fnd.fragment.strand j (V.length - 1)).2
        (b.nextOid + j) = .ok (o', new) ∧ T[j]? = some (V[j], o', new) ∧
      new.start = (if j = 0 then fnd.fragment.start else lo j) ∧
      new.stop = (if j + 1 = V.length then fnd.fragment.stop else hi j) ∧ new.name = fnd.fragment.name := by
    refine ⟨cutT b fnd.fragment V, cutT_fst .., fun j hj => ?_⟩
    obtain ⟨o', new, ht, n⟩ := h.trim j hj (b.nextOid + j)
    exact ⟨o', new, ht, by rw [cutT_get b fnd.fragment V j hj, ht], n⟩
  have hlenT : T.length = V.length := by rw [← hfst, List.length_map]
  obtain ⟨κ, hκ, hsorted⟩ := h.sort_keys
  obtain ⟨x, ts, hnews, hadj, hstart, hstop⟩ := h.chain (l := T.map (·.2.2)) (by rw [List.length_map, hlenT])
    (fun j hj => by
      rw [List.length_map, hlenT] at hj
      obtain ⟨o', new, _, hT, n⟩ := hget j hj
      have : (T.map (·.2.2))[j]? = some new := by rw [List.getElem?_map, hT]; rfl
      rw [(List.getElem?_eq_some_iff.mp this).2]; exact n)
  have hcut := cutFragments_chain b fnd T κ hκ (hfst ▸ h.perm) (hfst ▸ hsorted)
    (fun j t ht => by
      rw [hlenT]
      have hj : j < V.length := hlenT ▸ (List.getElem?_eq_some_iff.mp ht).1
      obtain ⟨o', new, h1, h2, _⟩ := hget j hj
      rw [h2] at ht; cases ht; exact h1)
    x ts hnews hadj hstart hstop
  -- a holder has rows, so its id is a slot of the store
  have hnd : V.Nodup := hsorted.imp fun hlt e => by subst e; omega
  have hrange : ∀ t ∈ T, t.1 < b.store.length := by
    intro t ht
    obtain ⟨j, hj, e⟩ := List.getElem_of_mem (hfst ▸ List.mem_map_of_mem (f := Prod.fst) ht)
    obtain ⟨o', new, htrim, _⟩ := hget j hj
    rw [← e]
    exact Pipeline.lt_length_of_rows_ne_nil (Pipeline.rows_ne_nil_of_trimFragment htrim)
  obtain ⟨hl, hin, hout⟩ := foldl_setAt_slots T b.store (hfst ▸ hnd) hrange
  refine ⟨_, by rw [hcut]; unfold applyCuts; rw [hlenT], hl, fun j hj => ?_, fun s hs => hout s (hfst ▸ hs)⟩
  obtain ⟨o', new, h1, h2, _⟩ := hget j hj
  exact ⟨o', new, h1, hin _ (List.mem_of_getElem? h2)⟩

end AgpTpf.C02
