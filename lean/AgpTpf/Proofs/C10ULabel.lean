/-
  C10 uniqueness, part 6: one `label_scaffold` call.  Given what `make_scaffold_name` left in the namer (`CtxOk`),
  the labelled piece satisfies the per-scaffold conditions of the uniqueness proof (`PE`) under every name it can come to
  bear: its own (`pieceName_ok`) and, for an Unloc piece, any `<current>_unloc_<k>` (`pe_piece`).
-/
import AgpTpf.Proofs.C10UHyp
import AgpTpf.Proofs.C09RLabel
namespace AgpTpf.C10U
open AgpTpf

/-- label fields of a lookup result, as a rows-less scaffold -/
def labO (o : OverlapResult) : Scaffold :=
  { name := o.name, tag := o.tag, haplotype := o.haplotype, rank := o.rank,
    originalName := o.originalName, originalTags := o.originalTags }

theorem labRes_eq (r : Res) : labRes r = labO r.o := rfl

/-- the namer fields `CtxOk` reads -/
def SameCore (n n' : Namer) : Prop :=
  n'.currentScaffoldName = n.currentScaffoldName ∧ n'.currentHaplotype = n.currentHaplotype ∧
  n'.currentRank = n.currentRank ∧ n'.targetTags = n.targetTags ∧ n'.haplotypeLc = n.haplotypeLc ∧
  n'.primaryHaplotype = n.primaryHaplotype ∧ n'.autosomePrefix = n.autosomePrefix

theorem SameCore.refl (n : Namer) : SameCore n n := ⟨rfl, rfl, rfl, rfl, rfl, rfl, rfl⟩

/-- the two parameters of the store invariant that depend on which clause 7 is assumed: `Q`, the condition kept on
    Contaminant / FalseDuplicate scaffolds, and `NI`, an invariant of the namer (a function of the fields `SameCore`
    compares) -/
structure Par where
  Q : Scaffold → Prop
  NI : Namer → Prop
  ni_core : ∀ n n', SameCore n n' → NI n → NI n'

/-- per-scaffold conditions: `ScOk`, and `Q` on Contaminant / FalseDuplicate scaffolds -/
def PE (TG : Par) (p : Str) (N : List Str) (E : Scaffold) : Prop :=
  ScOk p N E ∧ ((E.tag = some sContaminant ∨ E.tag = some sFalseDuplicate) → TG.Q E)

def specialPiece (frs : List Fragment) : Bool :=
  frs.any (fun f => f.tags.contains sContaminant || f.tags.contains sFalseDuplicate)

/-- what `make_scaffold_name` must have left in the namer for the pieces of one Pretext scaffold (`orig` its name,
    `scTags` its tag set, `frs` its fragments, `c` the current scaffold name) -/
structure CtxOk (TG : Par) (p : Str) (N : List Str) (n : Namer) (orig : Str) (scTags : List Str)
    (frs : List Fragment) (c : Str) : Prop where
  cur : n.currentScaffoldName = some c
  hapOk : HapOk n.currentHaplotype
  tagged : ∀ tg, (tg = some sContaminant ∨ tg = some sFalseDuplicate) → ∀ suf, SufOk suf →
    (suf = [] ∨ scTags.contains sPainted = true) →
    (specialPiece frs = true ∨ (n.targetTags = true ∧ ¬ scTags.contains sTarget = true)) →
    TG.Q { name := c ++ suf, tag := tg, haplotype := n.currentHaplotype, rank := 3, originalName := some orig,
           originalTags := some scTags }
  plain : ∀ suf, SufOk suf → (suf = [] ∨ scTags.contains sPainted = true) →
    ScOk p N { name := c ++ suf, tag := none, haplotype := n.currentHaplotype, rank := n.currentRank,
               originalName := some orig, originalTags := some scTags }

theorem CtxOk.of_sameCore {TG : Par} {p : Str} {N : List Str} {n n' : Namer} {orig : Str} {scTags : List Str}
    {frs : List Fragment} {c : Str} (h : CtxOk TG p N n orig scTags frs c) (hs : SameCore n n') :
    CtxOk TG p N n' orig scTags frs c := by
  obtain ⟨s1, s2, s3, s4, _, _, _⟩ := hs
  exact ⟨s1.trans h.cur, by rw [s2]; exact h.hapOk, by rw [s2, s4]; exact h.tagged, by rw [s2, s3]; exact h.plain⟩

theorem NamerGood.of_sameCore {n n' : Namer} (h : NamerGood n) (hs : SameCore n n') : NamerGood n' := by
  obtain ⟨_, _, _, _, s5, s6, _⟩ := hs
  unfold NamerGood; rw [s5, s6]; exact h

/-- a rank-3 scaffold (unplaced, or filed in a tagged assembly) -/
theorem scOk_rank3 {p : Str} {N : List Str} {s : Scaffold} (hr : s.rank = 3) (hh : HapOk s.haplotype)
    (ht : s.tag = none ∨ s.tag ∈ tagWords) (hp : s.tag = none → p.isPrefixOf s.name = false) : ScOk p N s :=
  ⟨hh.ne_nil, hh.not_tagWord, ht, fun _ => hr ▸ by decide, fun _ h => absurd (hr ▸ h) (by decide),
    fun _ h => absurd (hr ▸ h) (by decide), fun h _ _ => hp h⟩

theorem pe_hap {TG : Par} {p : Str} {N : List Str} {n : Namer} {orig : Str} {scTags : List Str}
    {frs : List Fragment} {c : Str} (hctx : CtxOk TG p N n orig scTags frs c) (nm : Str) :
    PE TG p N { name := nm, tag := some sHaplotig, haplotype := n.currentHaplotype, rank := 3, originalName := some orig,
                originalTags := some scTags } :=
  ⟨scOk_rank3 rfl hctx.hapOk (Or.inr (by simp [tagWords])) (fun h => nomatch h),
    fun hcf => hcf.elim (absurd · (by decide : some sHaplotig ≠ some sContaminant))
      (absurd · (by decide : some sHaplotig ≠ some sFalseDuplicate))⟩

theorem pe_cf {TG : Par} {p : Str} {N : List Str} {n : Namer} {orig : Str} {scTags : List Str}
    {frs : List Fragment} {c : Str} (hctx : CtxOk TG p N n orig scTags frs c) (tg : Option Str)
    (htg : tg = some sContaminant ∨ tg = some sFalseDuplicate) (suf : Str) (hs : SufOk suf)
    (hp : suf = [] ∨ scTags.contains sPainted = true)
    (hsp : specialPiece frs = true ∨ (n.targetTags = true ∧ ¬ scTags.contains sTarget = true)) :
    PE TG p N { name := c ++ suf, tag := tg, haplotype := n.currentHaplotype, rank := 3, originalName := some orig,
                originalTags := some scTags } :=
  ⟨scOk_rank3 rfl hctx.hapOk (Or.inr (by rcases htg with h | h <;> simp [h, tagWords]))
      (fun h => by rcases htg with e | e <;> rw [e] at h <;> cases h),
    fun _ => hctx.tagged tg htg suf hs hp hsp⟩

theorem pe_plain {TG : Par} {p : Str} {N : List Str} {n : Namer} {orig : Str} {scTags : List Str}
    {frs : List Fragment} {c : Str} (hctx : CtxOk TG p N n orig scTags frs c) (suf : Str) (hs : SufOk suf)
    (hp : suf = [] ∨ scTags.contains sPainted = true) :
    PE TG p N { name := c ++ suf, tag := none, haplotype := n.currentHaplotype, rank := n.currentRank,
                originalName := some orig, originalTags := some scTags } :=
  ⟨hctx.plain suf hs hp, fun h => by rcases h with h | h <;> cases h⟩

theorem contains_of_mem_special {frs : List Fragment} {frag : Fragment} (hfr : frag ∈ frs)
    (h : frag.tags.contains sContaminant = true ∨ frag.tags.contains sFalseDuplicate = true) :
    specialPiece frs = true := by
  unfold specialPiece
  rw [List.any_eq_true]
  exact ⟨frag, hfr, by rw [Bool.or_eq_true]; exact h⟩

theorem sameCore_bump (n : Namer) (sid : Nat) (p : Fragment) : SameCore n (bump n sid p) := by
  rw [bump_frame]; exact ⟨rfl, rfl, rfl, rfl, rfl, rfl, rfl⟩

/-- admissible names: any for a Haplotig piece; `c ++ suf` (`suf` empty, or `_unloc_<k>` in a painted scaffold) otherwise -/
theorem pe_piece {TG : Par} {p : Str} {N : List Str} {n : Namer} {orig : Str} {scTags : List Str} {frs : List Fragment} {c : Str}
    (hctx : CtxOk TG p N n orig scTags frs c) {frag : Fragment} (hfr : frag ∈ frs) (nm : Str)
    (hnm : C10.isHapPiece frag = true ∨ ∃ suf, nm = c ++ suf ∧ SufOk suf ∧ (suf = [] ∨ scTags.contains sPainted = true)) :
    PE TG p N { name := nm, tag := C09.tagRule n.targetTags scTags frag, haplotype := n.currentHaplotype,
                rank := if truthy (C09.tagRule n.targetTags scTags frag) then 3 else n.currentRank,
                originalName := some orig, originalTags := some scTags } := by
  by_cases hh : C10.isHapPiece frag = true
  · rw [(C09.tagRule_hap _ _ _).2 hh]; exact pe_hap hctx nm
  obtain ⟨suf, rfl, hs, hp⟩ := hnm.resolve_left hh
  have hne := fun e => hh ((C09.tagRule_hap n.targetTags scTags frag).1 e)
  unfold C09.tagRule at hne ⊢
  by_cases h1 : frag.tags.contains sFalseDuplicate = true
  · rw [if_pos h1]
    exact pe_cf hctx _ (.inr rfl) suf hs hp (.inl (contains_of_mem_special hfr (.inr h1)))
  rw [if_neg h1] at hne ⊢
  by_cases h2 : frag.tags.contains sHaplotig = true
  · exact absurd (if_pos h2) hne
  rw [if_neg h2]
  by_cases h3 : frag.tags.contains sContaminant = true ∨ (n.targetTags = true ∧ ¬ scTags.contains sTarget = true)
  · rw [if_pos h3]
    exact pe_cf hctx _ (.inl rfl) suf hs hp (h3.imp (fun h => contains_of_mem_special hfr (.inl h)) id)
  · rw [if_neg h3]; exact pe_plain hctx suf hs hp

theorem pieceName_unloc {n : Namer} {c : Str} {frag : Fragment} (hc : n.currentScaffoldName = some c)
    (hh : C10.isHapPiece frag = false) (hu : C10.isUnlocPiece frag = true) :
    pieceName n frag = c ++ C10.unlocSuffix (n.unlocN + 1) := by
  unfold pieceName C10.unlocName
  rw [hh, if_neg Bool.false_ne_true, hu, if_pos rfl, hc, List.append_assoc, toList_unloc]; rfl

theorem pieceName_ok {TG : Par} {p : Str} {N : List Str} {n : Namer} {orig : Str} {scTags : List Str} {frs : List Fragment} {c : Str}
    (hctx : CtxOk TG p N n orig scTags frs c) {frag : Fragment}
    (hpaint : C10.isUnlocPiece frag = true → scTags.contains sPainted = true) :
    C10.isHapPiece frag = true ∨ ∃ suf, pieceName n frag = c ++ suf ∧ SufOk suf ∧ (suf = [] ∨ scTags.contains sPainted = true) := by
  cases hh : C10.isHapPiece frag
  · refine .inr ?_
    cases hu : C10.isUnlocPiece frag
    · refine ⟨[], ?_, .inl rfl, .inl rfl⟩
      unfold pieceName
      rw [hh, if_neg Bool.false_ne_true, hu, if_neg Bool.false_ne_true, hctx.cur, List.append_nil]; rfl
    · exact ⟨_, pieceName_unloc hctx.cur hh hu, .inr ⟨_, rfl⟩, .inr (hpaint hu)⟩
  · exact .inl rfl

end AgpTpf.C10U
