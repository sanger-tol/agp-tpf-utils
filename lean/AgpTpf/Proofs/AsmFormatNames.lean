/-
 asm-format glue: what both readers guarantee about scaffold NAMES: two scaffolds that follow each other are
   differently named (a line with the current name never opens a new scaffold).
   Nothing more: the same name can come back later (`s1, s2, s1`).
-/
import AgpTpf.Proofs.AsmFormatRun
namespace AgpTpf.AsmFormat
open AgpTpf AgpTpf.C05

def AdjDiff : List Str → Prop
  | a :: b :: r => a ≠ b ∧ AdjDiff (b :: r)
  | _ => True

instance : ∀ l : List Str, Decidable (AdjDiff l)
  | [] => isTrue trivial
  | [_] => isTrue trivial
  | a :: b :: r => by
    unfold AdjDiff
    have := instDecidableAdjDiff (b :: r)
    infer_instance

theorem AdjDiff_snoc (l : List Str) (x y : Str) (h : AdjDiff (l ++ [x])) (hxy : x ≠ y) : AdjDiff (l ++ [x] ++ [y]) := by
  induction l with
  | nil => exact ⟨hxy, trivial⟩
  | cons a t ih =>
    cases t with
    | nil => exact ⟨h.1, hxy, trivial⟩
    | cons b t' => exact ⟨h.1, ih h.2⟩

def scNames (scs : List Scaffold) : List Str := scs.map (·.name)

structure NamesInv (st : ParseState) : Prop where
  chain : AdjDiff (scNames st.scaffolds)
  last : st.haveScaffold = true → ∃ pre sc, st.scaffolds = pre ++ [sc] ∧ sc.name = st.currentName
  none : st.haveScaffold = false → st.scaffolds = []

theorem switchScaffold_namesInv (st : ParseState) (name : Str) (h : NamesInv st) : NamesInv (st.switchScaffold name) := by
  unfold ParseState.switchScaffold
  by_cases hn : name ≠ st.currentName
  · rw [if_pos hn]
    refine ⟨?_, fun _ => ⟨st.scaffolds, { name := name }, rfl, rfl⟩, fun hc => by cases hc⟩
    show AdjDiff (scNames (st.scaffolds ++ [{ name := name }]))
    cases hh : st.haveScaffold with
    | false => rw [h.none hh]; trivial
    | true =>
      obtain ⟨pre, sc, e, hname⟩ := h.last hh
      have hc := h.chain
      rw [e] at hc ⊢
      simp only [scNames, List.map_append, List.map_cons, List.map_nil] at hc ⊢
      exact AdjDiff_snoc _ _ _ hc (by rw [hname]; exact fun e => hn e.symm)
  · rw [if_neg hn]; exact h

theorem addRow_namesInv {st : ParseState} {r : Row} {st' : ParseState} (h : NamesInv st) (ha : st.addRow r = .ok st') :
    NamesInv st' := by
  obtain ⟨hh, pre, sc, h1, h2⟩ := addRow_ok ha
  subst h2
  obtain ⟨pre', sc', e', hname⟩ := h.last hh
  rw [h1] at e'
  obtain ⟨ep, es⟩ := List.append_inj' e' rfl
  simp only [List.cons.injEq, and_true] at es
  subst ep es
  refine ⟨?_, fun _ => ⟨pre, _, rfl, hname⟩, fun hc => by rw [hh] at hc; cases hc⟩
  have hc := h.chain
  rw [h1] at hc
  simpa [scNames] using hc

theorem namesInv_congr {st st' : ParseState} (h : NamesInv st) (e1 : st'.scaffolds = st.scaffolds)
    (e2 : st'.currentName = st.currentName) (e3 : st'.haveScaffold = st.haveScaffold) : NamesInv st' :=
  ⟨by rw [e1]; exact h.chain, fun hh => by rw [e1, e2]; exact h.last (e3 ▸ hh), fun hh => by rw [e1]; exact h.none (e3 ▸ hh)⟩

theorem namesInv_init : NamesInv {} := ⟨trivial, fun h => (by cases h), fun _ => rfl⟩

theorem parseFh_adjDiff {inFmt : Fmt} {n : Str} {lines : List Str} {asm : Assembly}
    (h : parseFh inFmt n lines = .ok asm) : AdjDiff (scNames asm.scaffolds) := by
  obtain ⟨st, hst, -, e⟩ := parseFh_invariant NamesInv namesInv_init switchScaffold_namesInv
    (fun _ _ _ _ hs ha => addRow_namesInv hs ha) (fun _ _ hs => namesInv_congr hs rfl rfl rfl)
    (fun _ _ _ _ hs => namesInv_congr hs rfl rfl rfl) h
  rw [e]; exact hst.chain

end AgpTpf.AsmFormat

/-! asm-format glue: `ValidAgp` — coordinate validity of a whole written AGP text — and the header guarantee of the readers -/
namespace AgpTpf.C06
open AgpTpf AgpTpf.C05 AgpTpf.AsmFormat

def agpCommentLine (h : Str) : Str := Gen.agpHeaderPrefix ++ h ++ ['\n']

/-- `text` is a coordinate-valid AGP file holding the objects `objs` = (name, length), in this order:
    first comment lines `# …` (one line each: no newline inside), then for every object its lines — columns joined
    by tabs, newline-terminated — which tile the object from 1 to its length with part numbers 1, 2, …
    (`ValidAgpLines`, Proofs/C06Cols.lean; every numeric column is read back with `int()`).
    With `strict`, additionally every line has start ≤ end and every gap line names a gap type.
    NOT part of it: that object names are pairwise different. -/
def ValidAgp (strict : Bool) (text : Str) (objs : List (Str × Int)) : Prop :=
  ∃ (hdr : List Str) (bodies : List (List (List Str))),
    text = (hdr.map agpCommentLine ++ (bodies.map (List.map lineOfCols)).flatten).flatten ∧
    (∀ h ∈ hdr, '\n' ∉ h) ∧
    Forall2 (fun (o : Str × Int) colss => ValidAgpLines strict o.1 0 0 colss o.2) objs bodies

def agpObjects (a : Assembly) : List (Str × Int) := a.scaffolds.map (fun s => (s.name, s.length))

theorem formatAgp_validAgp (strict : Bool) (a : Assembly) (hs : ∀ s ∈ a.scaffolds, ∀ r ∈ s.rows, StrandOk r)
    (hp : strict = true → ∀ s ∈ a.scaffolds, ∀ r ∈ s.rows, RowStrict r) (hh : ∀ h ∈ a.header, '\n' ∉ h) :
    ∃ ls, formatAgp a = .ok ls ∧ ValidAgp strict ls.flatten (agpObjects a) := by
  obtain ⟨bodies, hf, hb⟩ := formatAgp_valid_at strict a hs hp
  exact ⟨_, hf, a.header, bodies, rfl, hh, Forall2.map_left _ (hb.imp fun _ _ h => h.2)⟩

theorem parseFh_headerOk {inFmt : Fmt} {n : Str} {lines : List Str} {asm : Assembly}
    (h : parseFh inFmt n lines = .ok asm) : ∀ x ∈ asm.header, HeaderOk x := by
  obtain ⟨st, hst, e, -⟩ := parseFh_invariant (fun st => ∀ x ∈ st.header, HeaderOk x) (fun _ hx => nomatch hx)
    (fun st name hs => by rw [switchScaffold_header]; exact hs)
    (fun st r st' _ hs ha => by obtain ⟨_, pre, sc, _, rfl⟩ := addRow_ok ha; exact hs) (fun _ _ hs => hs)
    (fun st line t ht hs x hx => (List.mem_append.1 hx).elim (hs x) fun hx => by
      rw [List.mem_singleton.1 hx]; exact headerText_ok line t ht) h
  rw [e]; exact hst

theorem HeaderOk.no_nl {h : Str} (hh : HeaderOk h) : '\n' ∉ h := by
  cases h with
  | nil => exact hh.elim
  | cons c t => exact hh.1

/-- the part of `RowStrict` the readers do NOT guarantee -/
def GapStrict (r : Row) : Prop :=
  match r with
  | .gap g => 1 ≤ g.length ∧ g.gapType ≠ []
  | .frag _ => True

instance (r : Row) : Decidable (GapStrict r) := by unfold GapStrict; cases r <;> infer_instance

def GapsStrict (a : Assembly) : Prop := ∀ s ∈ a.scaffolds, ∀ r ∈ s.rows, GapStrict r

instance (a : Assembly) : Decidable (GapsStrict a) := by unfold GapsStrict; infer_instance

theorem rowStrict_of_parsed {r : Row} (hr : RowParsed r) (hg : GapStrict r) : RowStrict r := by
  cases r with
  | gap g => exact hg
  | frag f => exact hr.2

end AgpTpf.C06
