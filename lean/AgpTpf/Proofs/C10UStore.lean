/-
  C10 uniqueness, part 7: the store invariant of `find_assembly_overlaps`.
    * every stored result satisfies the per-scaffold conditions `PE`;
    * `namer.haplotig_scaffolds` lists the Haplotig-tagged results in order of creation, and they are called
      `H_1 … H_<counter>` (so they are pairwise differently named, which is what the final `rename_by_size` needs);
    * while one Pretext scaffold is processed, the results listed in `namer.unloc_scaffolds` are not Haplotig-tagged, are
      called `<current>_unloc_<k>` and would satisfy `PE` under any such name — so `rename_by_size` keeps the invariant.
  First the label fields of a stored lookup result (`tag, haplotype, rank, originalName, …`) and its `name`, under the names the
  uniqueness proof uses: the definitions are those of `Proofs/C09RFixed.lean` over again, and the facts are the ones proved there
  (no stage between `find_assembly_overlaps` and `rename_by_size` touches these fields, `C09.evolves_fixedN`; `rename_by_size`
  changes `name` only).
-/
import AgpTpf.Properties.C10
import AgpTpf.Proofs.C10ULabel
import AgpTpf.Proofs.Lib.Py
import AgpTpf.Proofs.C09RFixed
namespace AgpTpf.C10U
open AgpTpf

/-- the label fields of an `OverlapResult`: everything but `rows`, `start`, `stop` and `name` -/
def oFixed (o : OverlapResult) : Option Str × Option Str × Int × Option Str × Option (List Str) × Fragment :=
  (o.tag, o.haplotype, o.rank, o.originalName, o.originalTags, o.bait)

def fixedOf (r : Res) : (Option Str × Option Str × Int × Option Str × Option (List Str) × Fragment) × Bool :=
  (oFixed r.o, r.added)

def fixedN (r : Res) : ((Option Str × Option Str × Int × Option Str × Option (List Str) × Fragment) × Bool) × Str :=
  (fixedOf r, r.o.name)

theorem fixedOf_of_fixedN {s1 s2 : List Res} (h : s1.map fixedN = s2.map fixedN) : s1.map fixedOf = s2.map fixedOf :=
  C09.fixedOf_of_fixedN h

theorem renameBySize_fixedOf (store : List Res) (ids : List Nat) :
    (renameBySize store ids).map fixedOf = store.map fixedOf :=
  C09.renameBySize_fixedOf store ids


theorem getD_append_lt {α} (l : List α) (x d : α) (i : Nat) (h : i < l.length) : (l ++ [x]).getD i d = l.getD i d := by
  simp only [List.getD_eq_getElem?_getD]
  rw [List.getElem?_append_left h]

theorem getD_append_len {α} (l : List α) (x d : α) : (l ++ [x]).getD l.length d = x := by
  simp only [List.getD_eq_getElem?_getD]
  rw [List.getElem?_append_right (Nat.le_refl _)]
  simp

theorem mem_getD {α} (l : List α) (x d : α) (h : x ∈ l) : ∃ j, j < l.length ∧ l.getD j d = x := by
  obtain ⟨j, hj, e⟩ := List.mem_iff_getElem.1 h
  refine ⟨j, hj, ?_⟩
  rw [List.getD_eq_getElem?_getD, List.getElem?_eq_getElem hj]; simpa using e

def hapIds (s : List Res) : List Nat :=
  (List.range s.length).filter fun i => decide ((s.getD i default).o.tag = some sHaplotig)

theorem mem_hapIds {s : List Res} {i : Nat} : i ∈ hapIds s ↔ i < s.length ∧ (s.getD i default).o.tag = some sHaplotig := by
  unfold hapIds; rw [List.mem_filter, List.mem_range, decide_eq_true_eq]

theorem hapIds_snoc (s : List Res) (r : Res) :
    hapIds (s ++ [r]) = hapIds s ++ (if r.o.tag = some sHaplotig then [s.length] else []) := by
  unfold hapIds
  rw [List.length_append, List.length_singleton, List.range_succ, List.filter_append,
    List.filter_congr fun i hi => by rw [getD_append_lt _ _ _ _ (List.mem_range.1 hi)]]
  congr 1
  rw [List.filter_cons, getD_append_len, List.filter_nil]
  by_cases h : r.o.tag = some sHaplotig
  · rw [if_pos (decide_eq_true h), if_pos h]
  · rw [if_neg (by rwa [decide_eq_true_eq]), if_neg h]

/-- the store invariant in closed form: `haplotig_scaffolds` lists the Haplotig-tagged results in order of creation, and they
    are called `H_1 … H_n` -/
structure SInv (TG : Par) (p : Str) (N : List Str) (b : Build) : Prop where
  entries : ∀ r ∈ b.store, PE TG p N (labRes r)
  good : NamerGood b.namer
  ni : TG.NI b.namer
  pre : b.namer.autosomePrefix = p
  ids : b.namer.haplotigScaffolds = hapIds b.store
  names : b.namer.haplotigScaffolds.map (C10.nameOf b.store) = (List.range' 1 b.namer.haplotigN).map C10.hapName

/-- … and while the fragments of one Pretext scaffold (current name `c`) are looked up, its unlocs so far -/
structure UInv (TG : Par) (p : Str) (N : List Str) (c : Str) (b : Build) : Prop where
  nodup : b.namer.unlocScaffolds.Nodup
  each : ∀ i ∈ b.namer.unlocScaffolds, i < b.store.length ∧ (b.store.getD i default).o.tag ≠ some sHaplotig ∧
    (∃ k, (b.store.getD i default).o.name = c ++ C10.unlocSuffix k) ∧
    ∀ suf, SufOk suf → PE TG p N (labRes (C10.withName (b.store.getD i default) (c ++ suf)))

theorem SInv.congr {TG : Par} {p : Str} {N : List Str} {b b' : Build} (h : SInv TG p N b) (hn : b'.namer = b.namer)
    (hlen : b'.store.length = b.store.length)
    (htag : ∀ i, (b'.store.getD i default).o.tag = (b.store.getD i default).o.tag)
    (hname : ∀ i, (b.store.getD i default).o.tag = some sHaplotig →
      (b'.store.getD i default).o.name = (b.store.getD i default).o.name)
    (hent : ∀ r ∈ b'.store, PE TG p N (labRes r)) : SInv TG p N b' := by
  have hids : hapIds b'.store = hapIds b.store := by
    unfold hapIds; rw [hlen]; exact List.filter_congr fun i _ => by rw [htag]
  refine ⟨hent, hn ▸ h.good, hn ▸ h.ni, hn ▸ h.pre, by rw [hn, hids]; exact h.ids, ?_⟩
  rw [hn, ← h.names]
  exact List.map_congr_left fun i hi => hname i (mem_hapIds.1 (h.ids ▸ hi)).2

theorem SInv.snoc {TG : Par} {p : Str} {N : List Str} {b b' : Build} {r : Res} (h : SInv TG p N b)
    (hst : b'.store = b.store ++ [r]) (hcore : SameCore b.namer b'.namer) (hpe : PE TG p N (labRes r))
    (hhap : (r.o.tag = some sHaplotig ∧ r.o.name = C10.hapName (b.namer.haplotigN + 1) ∧
        b'.namer.haplotigN = b.namer.haplotigN + 1 ∧
        b'.namer.haplotigScaffolds = b.namer.haplotigScaffolds ++ [b.store.length]) ∨
      (r.o.tag ≠ some sHaplotig ∧ b'.namer.haplotigN = b.namer.haplotigN ∧
        b'.namer.haplotigScaffolds = b.namer.haplotigScaffolds)) : SInv TG p N b' := by
  have hold : b.namer.haplotigScaffolds.map (C10.nameOf b'.store) = b.namer.haplotigScaffolds.map (C10.nameOf b.store) :=
    List.map_congr_left fun i hi => by
      unfold C10.nameOf; rw [hst, getD_append_lt _ _ _ _ (mem_hapIds.1 (h.ids ▸ hi)).1]
  refine ⟨fun r' hr' => ?_, h.good.of_sameCore hcore, TG.ni_core _ _ hcore h.ni, hcore.2.2.2.2.2.2.trans h.pre, ?_, ?_⟩
  · rcases List.mem_append.1 (hst ▸ hr') with h' | h'
    · exact h.entries r' h'
    · cases List.mem_singleton.1 h'; exact hpe
  · rw [hst, hapIds_snoc, ← h.ids]
    rcases hhap with ⟨t, _, _, e⟩ | ⟨t, _, e⟩
    · rw [e, if_pos t]
    · rw [e, if_neg t, List.append_nil]
  · rcases hhap with ⟨_, hnm, eN, e⟩ | ⟨_, eN, e⟩
    · rw [e, eN, List.map_append, hold, h.names, List.range'_1_concat, List.map_append, Nat.add_comm 1]
      congr 1
      unfold C10.nameOf; rw [hst, List.map_singleton, getD_append_len, hnm]; rfl
    · rw [e, eN, hold, h.names]

theorem append_created {TG : Par} {p : Str} {N : List Str} {c : Str} {orig : Str} {scTags : List Str} {frs : List Fragment}
    (b b' : Build) (r : Res) {frag : Fragment}
    (hF : SInv TG p N b) (hU : UInv TG p N c b) (hctx : CtxOk TG p N b.namer orig scTags frs c) (hfr : frag ∈ frs)
    (hpaint : C10.isUnlocPiece frag = true → scTags.contains sPainted = true)
    (hst : b'.store = b.store ++ [r]) (hfix : C09.oFixed r.o = C09.labelOf b.namer scTags orig frag)
    (hname : r.o.name = pieceName b.namer frag) (hn : b'.namer = bump b.namer b.store.length frag) :
    SInv TG p N b' ∧ UInv TG p N c b' := by
  simp only [C09.oFixed, C09.labelOf, Prod.mk.injEq] at hfix
  obtain ⟨f1, f2, f3, f4, f5, _⟩ := hfix
  -- the new result, under any admissible name
  have hpe : ∀ x, (C10.isHapPiece frag = true ∨ ∃ suf, x = c ++ suf ∧ SufOk suf ∧ (suf = [] ∨ scTags.contains sPainted = true)) →
      PE TG p N (labRes (C10.withName r x)) := by
    intro x hx
    have := pe_piece hctx hfr x hx
    unfold labRes C10.withName; simp only [f1, f2, f3, f4, f5]; exact this
  have htag : r.o.tag = some sHaplotig ↔ C10.isHapPiece frag = true := f1 ▸ C09.tagRule_hap _ _ _
  have hhap := bump_haplotig b.namer b.store.length frag
  have hunl := bump_unloc b.namer b.store.length frag
  rw [← hn] at hhap hunl
  constructor
  · refine hF.snoc hst (hn ▸ sameCore_bump _ _ _) (hpe r.o.name (hname ▸ pieceName_ok hctx hpaint)) (hhap.imp ?_ ?_)
    · rintro ⟨t, e⟩
      exact ⟨htag.2 t, by rw [hname]; unfold pieceName; rw [t, if_pos rfl], e⟩
    · rintro ⟨t, e⟩
      exact ⟨fun h => Bool.false_ne_true (t ▸ htag.1 h), e⟩
  · have hkeep : ∀ i ∈ b.namer.unlocScaffolds, i < b'.store.length ∧
        (b'.store.getD i default).o.tag ≠ some sHaplotig ∧
        (∃ k, (b'.store.getD i default).o.name = c ++ C10.unlocSuffix k) ∧
        ∀ suf, SufOk suf → PE TG p N (labRes (C10.withName (b'.store.getD i default) (c ++ suf))) := by
      intro i hi
      obtain ⟨a1, a2⟩ := hU.each i hi
      rw [hst, getD_append_lt _ _ _ _ a1, List.length_append]
      exact ⟨Nat.lt_succ_of_lt a1, a2⟩
    rcases hunl with ⟨hh, hu, e⟩ | e
    · refine ⟨?_, fun i hi => ?_⟩
      · rw [e, List.nodup_append]
        exact ⟨hU.nodup, by simp, fun a ha x hx => by
          cases List.mem_singleton.1 hx; exact fun e' => Nat.lt_irrefl _ (e' ▸ (hU.each a ha).1)⟩
      · rcases List.mem_append.1 (e ▸ hi) with h | h
        · exact hkeep i h
        · cases List.mem_singleton.1 h
          rw [hst, getD_append_len, List.length_append]
          exact ⟨Nat.lt_succ_self _, fun ht => Bool.false_ne_true (hh ▸ htag.1 ht),
            ⟨_, hname.trans (pieceName_unloc hctx.cur hh hu)⟩,
            fun suf hsuf => hpe _ (.inr ⟨suf, rfl, hsuf, .inr (hpaint hu)⟩)⟩
    · exact ⟨e ▸ hU.nodup, e ▸ hkeep⟩

theorem rename_props (store : List Res) (ids : List Nat) (hnd : ids.Nodup) (hlt : ∀ i ∈ ids, i < store.length) :
    (renameBySize store ids).length = store.length ∧
    (∀ j, j ∉ ids → (renameBySize store ids).getD j default = store.getD j default) ∧
    (∀ j, ∃ x, (renameBySize store ids).getD j default = C10.withName (store.getD j default) x) ∧
    (∀ j ∈ ids, ∃ j' ∈ ids, (renameBySize store ids).getD j default =
        C10.withName (store.getD j default) (store.getD j' default).o.name) ∧
    (ids.map (fun i => ((renameBySize store ids).getD i default).o.name)).Perm
      (ids.map (fun i => (store.getD i default).o.name)) := by
  by_cases hne : ids = []
  · subst hne
    rw [Pipeline.renameBySize_nil]
    exact ⟨rfl, fun _ _ => rfl, fun j => ⟨(store.getD j default).o.name, rfl⟩, fun j hj => (by cases hj), List.Perm.refl _⟩
  · obtain ⟨_, _, _, _, _, hperm, hlen, hout, hwith, _⟩ := C10.rename_by_size store ids hne hnd hlt
    refine ⟨hlen, hout, hwith, ?_, hperm⟩
    intro j hj
    obtain ⟨x, hx⟩ := hwith j
    have hxn : C10.nameOf (renameBySize store ids) j = x := by unfold C10.nameOf; rw [hx]; rfl
    have hm : x ∈ ids.map (C10.nameOf (renameBySize store ids)) := by
      rw [← hxn]; exact List.mem_map.2 ⟨j, hj, rfl⟩
    have hm' := hperm.mem_iff.1 hm
    obtain ⟨j', hj', e⟩ := List.mem_map.1 hm'
    exact ⟨j', hj', by rw [hx, ← e]; rfl⟩

theorem withName_tag (r : Res) (x : Str) : (C10.withName r x).o.tag = r.o.tag := rfl
theorem withName_name (r : Res) (x : Str) : (C10.withName r x).o.name = x := rfl

theorem rename_unloc_inv {TG : Par} {p : Str} {N : List Str} {c : Str} (b : Build) (hF : SInv TG p N b)
    (hU : UInv TG p N c b) :
    SInv TG p N { b with store := renameBySize b.store b.namer.unlocScaffolds } := by
  obtain ⟨hlen, hout, hwith, hin, _⟩ := rename_props b.store b.namer.unlocScaffolds hU.nodup
    (fun i hi => (hU.each i hi).1)
  refine hF.congr rfl hlen (fun j => ?_) (fun j ht => ?_) (fun r hr => ?_)
  · obtain ⟨x, hx⟩ := hwith j
    exact congrArg (·.o.tag) hx
  · -- a Haplotig result is not listed as unloc
    exact congrArg (·.o.name) (hout j fun hj => (hU.each j hj).2.1 ht)
  · obtain ⟨j, hj, e⟩ := mem_getD _ r default hr
    rw [hlen] at hj
    by_cases hju : j ∈ b.namer.unlocScaffolds
    · -- renamed to `c_unloc_<k>`, the name of some unloc
      obtain ⟨j', hj', e'⟩ := hin j hju
      obtain ⟨k, hk⟩ := (hU.each j' hj').2.2.1
      rw [← e, e', hk]
      exact (hU.each j hju).2.2.2 _ (Or.inr ⟨k, rfl⟩)
    · rw [← e, hout j hju]
      exact hF.entries _ (Pipeline.getD_mem hj)

theorem pe_rename_tagged {TG : Par} {p : Str} {N : List Str} (r : Res) (x : Str) (ht : r.o.tag = some sHaplotig)
    (h : PE TG p N (labRes r)) : PE TG p N (labRes (C10.withName r x)) := by
  obtain ⟨hs, _⟩ := h
  have hne : r.o.tag ≠ none := by rw [ht]; simp
  refine ⟨⟨hs.hapNe, hs.hapNoTag, hs.tagCases, hs.taggedRank, fun h => absurd h hne, fun h => absurd h hne,
    fun h => absurd h hne⟩, ?_⟩
  intro hcf
  have e : (labRes (C10.withName r x)).tag = some sHaplotig := ht
  rw [e] at hcf
  rcases hcf with h | h <;> exact absurd h (by decide)

/-! ### the final `rename_by_size`
It reads the Haplotig results index by index: -/

structure FInv (TG : Par) (p : Str) (N : List Str) (b : Build) : Prop where
  entries : ∀ r ∈ b.store, PE TG p N (labRes r)
  good : NamerGood b.namer
  ni : TG.NI b.namer
  pre : b.namer.autosomePrefix = p
  hapNodup : b.namer.haplotigScaffolds.Nodup
  hapLt : ∀ i ∈ b.namer.haplotigScaffolds, i < b.store.length
  hapIff : ∀ i, i < b.store.length →
    ((b.store.getD i default).o.tag = some sHaplotig ↔ i ∈ b.namer.haplotigScaffolds)
  hapBound : ∀ i, i < b.store.length → (b.store.getD i default).o.tag = some sHaplotig →
    ∃ k, k ≤ b.namer.haplotigN ∧ (b.store.getD i default).o.name = C10.hapName k
  hapInj : ∀ i j, i < b.store.length → j < b.store.length → (b.store.getD i default).o.tag = some sHaplotig →
    (b.store.getD j default).o.tag = some sHaplotig →
    (b.store.getD i default).o.name = (b.store.getD j default).o.name → i = j

theorem SInv.finv {TG : Par} {p : Str} {N : List Str} {b : Build} (h : SInv TG p N b) : FInv TG p N b := by
  have hmem : ∀ i, i ∈ b.namer.haplotigScaffolds ↔ i < b.store.length ∧ (b.store.getD i default).o.tag = some sHaplotig :=
    fun i => h.ids ▸ mem_hapIds
  have hnd : (b.namer.haplotigScaffolds.map (C10.nameOf b.store)).Nodup := by
    rw [h.names]
    exact List.Pairwise.map _ (fun a b hab e => hab (C10.hapName_inj a b e)) (List.nodup_range' 1)
  refine ⟨h.entries, h.good, h.ni, h.pre, h.ids ▸ List.nodup_range.filter _, fun i hi => ((hmem i).1 hi).1,
    fun i hi => ⟨fun ht => (hmem i).2 ⟨hi, ht⟩, fun hm => ((hmem i).1 hm).2⟩, fun i hi ht => ?_, fun i j hi hj hti htj e => ?_⟩
  · have : C10.nameOf b.store i ∈ (List.range' 1 b.namer.haplotigN).map C10.hapName :=
      h.names ▸ List.mem_map_of_mem ((hmem i).2 ⟨hi, ht⟩)
    obtain ⟨k, hk, e⟩ := List.mem_map.1 this
    exact ⟨k, Nat.le_of_lt_add_one (Nat.add_comm 1 _ ▸ (List.mem_range'_1.1 hk).2), e.symm⟩
  · exact inj_of_nodup_map _ hnd i ((hmem i).2 ⟨hi, hti⟩) j ((hmem j).2 ⟨hj, htj⟩) e

/-- what is left of the invariant after the final `rename_by_size` of the haplotigs: `PE` everywhere, and
    Haplotig-tagged results pairwise differently named -/
structure StoreOk (TG : Par) (p : Str) (N : List Str) (store : List Res) : Prop where
  entries : ∀ r ∈ store, PE TG p N (labRes r)
  hapInj : ∀ r ∈ store, ∀ r' ∈ store, r.o.tag = some sHaplotig → r'.o.tag = some sHaplotig → r.o.name = r'.o.name →
    labRes r = labRes r'

theorem rename_hap_ok {TG : Par} {p : Str} {N : List Str} (b : Build) (hF : FInv TG p N b) :
    StoreOk TG p N (renameBySize b.store b.namer.haplotigScaffolds) := by
  obtain ⟨hlen, hout, hwith, hin, hperm⟩ := rename_props b.store b.namer.haplotigScaffolds hF.hapNodup hF.hapLt
  have htag : ∀ j, ((renameBySize b.store b.namer.haplotigScaffolds).getD j default).o.tag =
      (b.store.getD j default).o.tag := by
    intro j; obtain ⟨x, hx⟩ := hwith j; rw [hx]; rfl
  -- the old names over the ids are pairwise different, hence so are the new ones
  have hnd_old : (b.namer.haplotigScaffolds.map (fun i => (b.store.getD i default).o.name)).Nodup := by
    rw [List.Nodup, List.pairwise_map]
    refine hF.hapNodup.imp_of_mem ?_
    intro i j hi hj hij hnm
    exact hij (hF.hapInj i j (hF.hapLt i hi) (hF.hapLt j hj) ((hF.hapIff i (hF.hapLt i hi)).2 hi)
      ((hF.hapIff j (hF.hapLt j hj)).2 hj) hnm)
  have hnd_new := hperm.nodup_iff.2 hnd_old
  refine ⟨?_, ?_⟩
  · intro r hr
    obtain ⟨j, hj, e⟩ := mem_getD _ r default hr
    rw [hlen] at hj
    by_cases hju : j ∈ b.namer.haplotigScaffolds
    · obtain ⟨x, hx⟩ := hwith j
      rw [← e, hx]
      apply pe_rename_tagged
      · exact (hF.hapIff j hj).2 hju
      · exact hF.entries _ (Pipeline.getD_mem hj)
    · rw [hout j hju] at e
      rw [← e]; exact hF.entries _ (Pipeline.getD_mem hj)
  · intro r hr r' hr' ht ht' hnm
    obtain ⟨i, hi, ei⟩ := mem_getD _ r default hr
    obtain ⟨j, hj, ej⟩ := mem_getD _ r' default hr'
    rw [hlen] at hi hj
    have hiu : i ∈ b.namer.haplotigScaffolds := by
      apply (hF.hapIff i hi).1; rw [← htag, ei]; exact ht
    have hju : j ∈ b.namer.haplotigScaffolds := by
      apply (hF.hapIff j hj).1; rw [← htag, ej]; exact ht'
    have : i = j := by
      apply inj_of_nodup_map (fun i => ((renameBySize b.store b.namer.haplotigScaffolds).getD i default).o.name)
        hnd_new i hiu j hju
      simp only [ei, ej]; exact hnm
    subst this
    rw [← ei, ← ej]

end AgpTpf.C10U
