/-
  T1c / C11 — the tie between the model's `makeStats` / `Assembly.junctionSet` and the translated source
  (`Gen.Imp.AssemblyStats_make_stats`, `Gen.Imp.Assembly_fragment_junction_set`).

  Model side: storing pairwise different keys one after the other into an insertion-ordered dictionary appends them
  (`dSetAll_of_fresh`); the loop over `output_assemblies.items()` is the model's `mapM`, then two folds (`outLoop_eq`); the loop that
  fills `per_assembly_stats` is the model's fold under the value conversion `perToSrc` (`perLoop_eq`).
  Only `assemblyJunctionSetSrc_eq` and `makeStatsSrc_eq` unfold the generated definitions.  They go through `PyRt.forIn_foldl` /
  `PyRt.forIn_foldlM`; a loop body enters through a side goal `∀ x ∈ xs, ∀ s, body x s = …` that is closed by case analysis
  (`cases`/`split`) + `rfl`, never by spelling out a generated sub-term.
-/
import AgpTpf.Gen.Imp
import AgpTpf.Proofs.C11Stats
import AgpTpf.Proofs.Lib.PyRt
namespace AgpTpf.ImpStats
open AgpTpf

/-- what the loop over `output_assemblies.items()` does to its state in one pass.  The translator carries the loop variables ordered by
    the Lean text of their type, then by name: `(output_junction_sets, output_set)` -/
def outStep (s : List (Option Str × List Junction) × List Junction) (x : Option Str × Assembly) :
    R (List (Option Str × List Junction) × List Junction) :=
  x.2.junctionSet >>= fun js => .ok (dSet s.1 x.1 js, sUnion s.2 js)

/-- the source's view of the output assemblies: `(key, Assembly object)` pairs -/
abbrev outItems (outs : List OutAsm) : List (Option Str × Assembly) :=
  outs.map (fun a => (a.key, ({ scaffolds := a.scaffolds } : Assembly)))

theorem outSetsOf_cons (a : OutAsm) (outs : List OutAsm) :
    C11.outSetsOf (a :: outs) =
      (({ scaffolds := a.scaffolds } : Assembly).junctionSet >>= fun js =>
       C11.outSetsOf outs >>= fun rest => .ok ((a.key, js) :: rest)) := by
  simp only [C11.outSetsOf, List.mapM_cons, bind_assoc, pure_bind]
  rfl

/-- Python: `output_set |= junc_set; output_junction_sets[name] = junc_set` -/
theorem outLoop_eq (outs : List OutAsm) (os : List Junction) (d : List (Option Str × List Junction)) :
    (outItems outs).foldlM outStep (d, os) =
      (C11.outSetsOf outs >>= fun outSets =>
        .ok (outSets.foldl (fun d p => dSet d p.1 p.2) d, outSets.foldl (fun acc p => sUnion acc p.2) os)) := by
  induction outs generalizing os d with
  | nil => rfl
  | cons a outs ih =>
    rw [outSetsOf_cons]
    simp only [outItems, List.map_cons, List.foldlM_cons] at ih ⊢
    rw [outStep]
    cases ({ scaffolds := a.scaffolds } : Assembly).junctionSet with
    | error e => rfl
    | ok js =>
      simp only [bind, Except.bind] at ih ⊢
      rw [ih]
      cases C11.outSetsOf outs with
      | error e => rfl
      | ok rest => rfl

theorem outSetsOf_keys (outs : List OutAsm) (outSets : List (Option Str × List Junction))
    (h : C11.outSetsOf outs = .ok outSets) : outSets.map (·.1) = outs.map (·.key) := by
  rw [C11.outSetsOf_eq] at h
  split at h
  · cases h; simp [C11.outSets]
  · cases h

theorem outDict_eq (outs : List OutAsm) (outSets : List (Option Str × List Junction))
    (h : C11.outSetsOf outs = .ok outSets) (hk : (outs.map (·.key)).Nodup) :
    outSets.foldl (fun d p => dSet d p.1 p.2) [] = outSets := by
  exact dSetAll_of_fresh outSets [] (by simpa [outSetsOf_keys outs outSets h] using hk)

/-- the per-assembly record of the source (`{"manual_breaks": b, "manual_joins": j}`) for the model's pair `(b, j)` -/
def recToSrc (v : Int × Int) : List (Str × Int) := [("manual_breaks".toList, v.1), ("manual_joins".toList, v.2)]

/-- the model's `perAssembly` as the source's `per_assembly_stats` -/
def perToSrc (per : List (Str × Int × Int)) : List (Str × List (Str × Int)) := per.map (fun e => (e.1, recToSrc e.2))

/-- `junc_key = name.lower() if name else None` -/
def srcKey (name : Option Str) : Option Str := if truthy name then name.map lowerStr else none
/-- `name or "Primary"` -/
def srcName (name : Option Str) : Str := if truthy name then name.getD [] else sPrimary

/-- one pass of the source's last loop, written with the model's vocabulary -/
def perStepS (inSets : List (Option Str × List Junction)) (totalBreaks totalJoins : List Junction)
    (acc : List (Str × List (Str × Int))) (p : Option Str × List Junction) : List (Str × List (Str × Int)) :=
  match dGet? inSets (srcKey p.1) with
  | none => acc
  | some inSet =>
    if (!inSet.isEmpty) = true then
      dSet acc (srcName p.1)
        (recToSrc (((sInter (sDiff inSet p.2) totalBreaks).length : Int), ((sInter (sDiff p.2 inSet) totalJoins).length : Int)))
    else acc

theorem perStep_eq (inSets : List (Option Str × List Junction)) (tb tj : List Junction)
    (acc : List (Str × Int × Int)) (p : Option Str × List Junction) :
    perToSrc (C11.perStep inSets tb tj acc p) = perStepS inSets tb tj (perToSrc acc) p := by
  unfold C11.perStep perStepS srcKey srcName
  simp only []
  cases dGet? inSets (if truthy p.1 = true then Option.map lowerStr p.1 else none) with
  | none => rfl
  | some inSet =>
    cases inSet with
    | nil => rfl
    | cons j js => exact dSet_mapVal recToSrc _ _ _

theorem perLoop_eq (inSets : List (Option Str × List Junction)) (tb tj : List Junction)
    (sets : List (Option Str × List Junction)) (acc : List (Str × Int × Int)) :
    sets.foldl (perStepS inSets tb tj) (perToSrc acc) = perToSrc (sets.foldl (C11.perStep inSets tb tj) acc) :=
  List.foldl_hom perToSrc fun acc p => (perStep_eq inSets tb tj acc p).symm

/-- the loop `for junc_set in input_junction_sets.values(): input_set |= junc_set` computes the model's `inputSet` -/
theorem inputSet_eq (inSets : List (Option Str × List Junction)) :
    (inSets.map (fun kv => kv.2)).foldl (fun acc js => sUnion acc js) [] = C11.unionOf inSets := by
  rw [C11.unionOf, List.foldl_map]

/-- the call `scffld.fragment_junction_set()` is a parameter `r` applied to the loop variable -/
theorem assemblyJunctionSetSrc_eq (scs : List Scaffold) (r : Scaffold → R (List Junction)) :
    Gen.Imp.Assembly_fragment_junction_set scs r
      = scs.foldlM (fun acc (sc : Scaffold) => do let js ← r sc; pure (sUnion acc js)) [] := by
  unfold Gen.Imp.Assembly_fragment_junction_set
  simp only []
  rw [PyRt.forIn_foldlM (fun acc (sc : Scaffold) => do let js ← r sc; pure (sUnion acc js)) ?_]
  · cases List.foldlM (fun acc (sc : Scaffold) => do let js ← r sc; pure (sUnion acc js)) [] scs <;> rfl
  · intro x _ s; cases r x <;> rfl

theorem foldlM_const_eq (scs : List Scaffold) (r : R (List Junction)) (h : ∀ s ∈ scs, s.junctionSet = r)
    (acc : List Junction) :
    scs.foldlM (fun acc (_ : Scaffold) => do let js ← r; pure (sUnion acc js)) acc
      = scs.foldlM (fun acc (s : Scaffold) => do let js ← s.junctionSet; pure (sUnion acc js)) acc := by
  induction scs generalizing acc with
  | nil => rfl
  | cons s scs ih =>
    rw [List.foldlM_cons, List.foldlM_cons, h s (by simp)]
    cases r with
    | error e => rfl
    | ok js => exact ih (fun s hs => h s (List.mem_cons_of_mem _ hs)) _

/-- `AssemblyStats.make_stats` as translated, for ALL inputs (no hypothesis on the keys): the model's three stages, except that the
    last loop runs over the DICTIONARY built from `outSets` (`output_junction_sets[name] = junc_set`), not over `outSets` itself, and
    starts from the `per_assembly_stats` the object already has.  The incoming `self.breaks` / `self.joins` are overwritten. -/
theorem makeStatsSrc_eq (input : List Scaffold) (outs : List OutAsm) (b0 j0 : Int) (per0 : List (Str × List (Str × Int))) :
    Gen.Imp.AssemblyStats_make_stats b0 j0 per0 (outItems outs) (junctionsByPrefix input) =
      (junctionsByPrefix input >>= fun inSets =>
       C11.outSetsOf outs >>= fun outSets =>
       let tb := sDiff (C11.unionOf inSets) (C11.unionOf outSets)
       let tj := sDiff (C11.unionOf outSets) (C11.unionOf inSets)
       .ok ((tb.length : Int), (tj.length : Int),
            (outSets.foldl (fun d p => dSet d p.1 p.2) []).foldl (perStepS inSets tb tj) per0)) := by
  unfold Gen.Imp.AssemblyStats_make_stats
  cases junctionsByPrefix input with
  | error e => rfl
  | ok inSets =>
    simp only [bind, Except.bind]
    rw [PyRt.forIn_foldl (fun acc js => sUnion acc js) ?_, inputSet_eq]
    · simp only []
      rw [PyRt.forIn_foldlM outStep ?_, outLoop_eq]
      · cases C11.outSetsOf outs with
        | error e => rfl
        | ok outSets =>
          simp only [bind, Except.bind, map_ok]
          rw [PyRt.forIn_foldl (perStepS inSets (sDiff (C11.unionOf inSets) (C11.unionOf outSets))
            (sDiff (C11.unionOf outSets) (C11.unionOf inSets))) ?_]
          · rfl
          · -- the body of the last loop, by cases on `name` (None / "" / non-empty), on the `.get` and on the truth of the set
            rintro ⟨_ | (_ | ⟨c, cs⟩), js⟩ - s <;>
              simp only [perStepS, srcKey, srcName, truthy, Bool.false_eq_true, if_false, if_true, Option.map, Option.getD] <;>
              split <;> rename_i hd <;> simp only [hd] <;> first | rfl | (split <;> rfl)
      · intro x _ s; unfold outStep; cases x.2.junctionSet <;> rfl
    · intro x _ s; rfl

end AgpTpf.ImpStats
