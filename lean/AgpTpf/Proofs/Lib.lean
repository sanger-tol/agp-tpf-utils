import AgpTpf.Proofs.Lib.Py
import AgpTpf.Proofs.Lib.PyRt
import AgpTpf.Proofs.Lib.Text
import AgpTpf.Proofs.Lib.Order
import AgpTpf.Proofs.Lib.Sum
import AgpTpf.Proofs.Lib.Bytes
import AgpTpf.Proofs.Lib.Dict
import AgpTpf.Proofs.Lib.Arena
import AgpTpf.Proofs.Lib.Rows
import AgpTpf.Proofs.Lib.Lookup
import AgpTpf.Proofs.Lib.Overlap
import AgpTpf.Proofs.Lib.Namer
import AgpTpf.Proofs.Lib.Stages
import AgpTpf.Proofs.Lib.Resolver
import AgpTpf.Proofs.Lib.Find
import AgpTpf.Proofs.Lib.Pipeline
import AgpTpf.Proofs.Lib.Missing
import AgpTpf.Proofs.Lib.Fuse
