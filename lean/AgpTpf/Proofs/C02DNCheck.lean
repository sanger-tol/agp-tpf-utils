/-
  C02 (deep cuts, any number of cuts per contig), part 4: a Bool checker for `DeepCutN`, and the cut count.
-/
import AgpTpf.Proofs.C02DNOut
import AgpTpf.Proofs.C02DCheck
namespace AgpTpf.C02
open AgpTpf

def adjB {α} (f : α → α → Bool) : List α → Bool
  | [] => true
  | [_] => true
  | a :: b :: t => f a b && adjB f (b :: t)

theorem adj_of_adjB {α} (f : α → α → Bool) (r : α → α → Prop) (h : ∀ a b, f a b = true → r a b) :
    ∀ (l : List α), adjB f l = true → Adj r l
  | [], _ => trivial
  | [_], _ => trivial
  | a :: b :: t, hl => by
    simp only [adjB, Bool.and_eq_true] at hl
    exact ⟨h a b hl.1, adj_of_adjB f r h (b :: t) hl.2⟩

def deepBaseB (input ptx : List Scaffold) (err : Int) : Bool :=
  decide ((input.map (·.name)).Nodup) &&
  input.all (fun sc => sc.rows.all (fun r => decide (0 ≤ r.length))) &&
  input.all (fun sc => decide ((C18.ids sc.rows).Nodup)) &&
  decide (1 ≤ err) &&
  ptx.all (scaffoldKeepB input err) &&
  input.all (fun sc => sc.fragments.all (fun f =>
    (claimedKeys input ptx).contains f.keyTuple || (decide (f.tags = []) && decide (hapPrefixOfName f.name = none))))

theorem deepBase_of_check (input ptx : List Scaffold) (err : Int) (h : deepBaseB input ptx err = true) :
    DeepBase input ptx err := by
  unfold deepBaseB at h
  simp only [Bool.and_eq_true, decide_eq_true_eq, List.all_eq_true, Bool.or_eq_true] at h
  obtain ⟨⟨⟨⟨⟨h1, h2⟩, h3⟩, h4⟩, h5⟩, h8⟩ := h
  refine ⟨h1, h2, h3, h4, fun S hS => scaffoldKeep_of_check input err S (h5 S hS), ?_⟩
  intro sc hsc f hf hc
  rcases h8 sc hsc f hf with h | h
  · rw [hc] at h; cases h
  · exact h

def deepCutNB (input ptx : List Scaffold) (err : Int) : Bool :=
  deepBaseB input ptx err &&
  (sitesN input ptx).all (fun x => adjB (fun a b => siteOkB input ptx err ⟨x.key, x.frag, a, b⟩) x.chain)

theorem deepCutN_of_check (input ptx : List Scaffold) (err : Int) (h : deepCutNB input ptx err = true) :
    DeepCutN input ptx err := by
  unfold deepCutNB at h
  simp only [Bool.and_eq_true, List.all_eq_true] at h
  refine ⟨deepBase_of_check input ptx err h.1, ?_⟩
  intro x hx
  exact adj_of_adjB _ _ (fun a b hab => siteOk_of_check input ptx err _ hab) _ (h.2 x hx)

def incidencesN (input ptx : List Scaffold) : Nat :=
  ((sharedKeys input ptx).map (fun k => (holdersOf input ptx k).length)).sum

theorem cutsN_eq (input ptx : List Scaffold) :
    cutsN input ptx = (incidencesN input ptx : Int) - ((sharedKeys input ptx).length : Int) := by
  unfold cutsN incidencesN offs sitesN
  rw [List.length_map, List.map_map]
  congr 2
  apply congrArg
  apply List.map_congr_left
  intro k hk
  obtain ⟨fnd, hget, -, -, he⟩ := site_casesN input ptx k hk
  simp only [Function.comp, he, holdersOf, hget]
  exact (stableSort_perm _ _).length_eq

end AgpTpf.C02
