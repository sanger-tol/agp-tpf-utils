/- C15 — an indexing run that nobody disturbs: it rebuilds both cache files (either protocol) -/
import AgpTpf.Proofs.C15
namespace AgpTpf.C15
open AgpTpf.Cache

/-- the complete `.fai` / `.agp` a solo indexing run started in `s0` leaves behind -/
def fullFai (s0 : State) : FileV :=
  { src := s0.fastaContent, written := s0.faiTotal, total := s0.faiTotal, mtime := s0.clock }
def fullAgp (s0 : State) : FileV :=
  { src := s0.fastaContent, written := s0.agpTotal, total := s0.agpTotal, mtime := s0.clock }

/-- progress invariant of an indexing run that nobody disturbs -/
def soloQ (s0 : State) (fai agp : Option FileV) : PC → Prop
  | .start => (newer fai s0.fastaMtime && newer agp s0.fastaMtime) = false
  | .statted m => m = s0.fastaMtime ∧ (newer fai s0.fastaMtime && newer agp s0.fastaMtime) = false
  | .faiOk m => m = s0.fastaMtime ∧ newer agp s0.fastaMtime = false
  | .index0 => True
  | .readFasta c => c = s0.fastaContent
  | .writingFai c k _ => c = s0.fastaContent ∧ k ≤ s0.faiTotal
  | .faiClosed c t => c = s0.fastaContent ∧ t = s0.clock
  | .faiDone c => c = s0.fastaContent ∧ fai = some (fullFai s0)
  | .writingAgp c k _ => c = s0.fastaContent ∧ k ≤ s0.agpTotal ∧ fai = some (fullFai s0)
  | .agpClosed c t => c = s0.fastaContent ∧ t = s0.clock ∧ fai = some (fullFai s0)
  | .done r c => r = .indexed s0.fastaContent ∧ c = s0.fastaContent ∧ fai = some (fullFai s0) ∧
      agp = some (fullAgp s0)
  | _ => False

/-- upper bound on the number of file operations still to do -/
def soloMu (s0 : State) : PC → Nat
  | .start => s0.faiTotal + s0.agpTotal + 10
  | .statted _ => s0.faiTotal + s0.agpTotal + 9
  | .faiOk _ => s0.faiTotal + s0.agpTotal + 8
  | .index0 => s0.faiTotal + s0.agpTotal + 7
  | .readFasta _ => s0.faiTotal + s0.agpTotal + 6
  | .writingFai _ k _ => (s0.faiTotal - k) + s0.agpTotal + 5
  | .faiClosed _ _ => s0.agpTotal + 4
  | .faiDone _ => s0.agpTotal + 3
  | .writingAgp _ k _ => (s0.agpTotal - k) + 2
  | .agpClosed _ _ => 1
  | _ => 0

/-- Under the in-place protocol the operation may write the `.fai` / `.agp`, hence `fai'`, `agp'`. -/
theorem solo_stepProc (s0 : State) (fai agp : Option FileV) (procs : List PC) (pc : PC)
    (hq : soloQ s0 fai agp pc) :
    ∃ fai' agp' pc', stepProc { s0 with fai := fai, agp := agp, procs := procs } pc =
        ({ s0 with fai := fai', agp := agp', procs := procs }, pc') ∧
      soloQ s0 fai' agp' pc' ∧ soloMu s0 pc' ≤ soloMu s0 pc - 1 := by
  cases pc <;> simp only [soloQ] at hq <;> simp only [stepProc]
  case start => exact ⟨_, _, _, rfl, ⟨rfl, hq⟩, by dsimp only [soloMu]; omega⟩
  case statted m =>
    obtain ⟨rfl, hq⟩ := hq
    by_cases h : newer fai s0.fastaMtime = true
    · rw [if_pos h]
      exact ⟨_, _, _, rfl, ⟨rfl, by simpa [h] using hq⟩, by dsimp only [soloMu]; omega⟩
    · rw [if_neg h]
      exact ⟨_, _, _, rfl, trivial, by dsimp only [soloMu]; omega⟩
  case faiOk m =>
    obtain ⟨rfl, hq⟩ := hq
    rw [hq, if_neg Bool.false_ne_true]
    exact ⟨_, _, _, rfl, trivial, by dsimp only [soloMu]; omega⟩
  case index0 => exact ⟨_, _, _, rfl, rfl, by dsimp only [soloMu]; omega⟩
  case readFasta c => split <;> exact ⟨_, _, _, rfl, ⟨hq, Nat.zero_le _⟩, by dsimp only [soloMu]; omega⟩
  case writingFai c k t =>
    obtain ⟨rfl, hk⟩ := hq
    by_cases h : k < s0.faiTotal
    · rw [if_pos h]
      split <;> exact ⟨_, _, _, rfl, ⟨rfl, h⟩, by dsimp only [soloMu]; omega⟩
    · rw [if_neg h]
      split <;> exact ⟨_, _, _, rfl, ⟨rfl, rfl⟩, by dsimp only [soloMu]; omega⟩
  case faiClosed c t =>
    obtain ⟨rfl, rfl⟩ := hq
    exact ⟨_, _, _, rfl, ⟨rfl, rfl⟩, by dsimp only [soloMu]; omega⟩
  case faiDone c => split <;> exact ⟨_, _, _, rfl, ⟨hq.1, Nat.zero_le _, hq.2⟩, by dsimp only [soloMu]; omega⟩
  case writingAgp c k t =>
    obtain ⟨rfl, hk, hf⟩ := hq
    by_cases h : k < s0.agpTotal
    · rw [if_pos h]
      split <;> exact ⟨_, _, _, rfl, ⟨rfl, h, hf⟩, by dsimp only [soloMu]; omega⟩
    · rw [if_neg h]
      split
      · exact ⟨_, _, _, rfl, ⟨rfl, rfl, hf⟩, by dsimp only [soloMu]; omega⟩
      · exact ⟨_, _, _, rfl, ⟨rfl, rfl, hf, rfl⟩, by dsimp only [soloMu]; omega⟩
  case agpClosed c t =>
    obtain ⟨rfl, rfl, hf⟩ := hq
    exact ⟨_, _, _, rfl, ⟨rfl, rfl, hf, rfl⟩, by dsimp only [soloMu]; omega⟩
  case done r c => exact ⟨_, _, _, rfl, hq, Nat.zero_le _⟩

/-- process `p` of `s` is inside a solo run that started in `s0` and needs at most `m` more operations -/
def SoloAt (s0 : State) (p m : Nat) (s : State) : Prop :=
  ∃ fai agp procs pc, s = { s0 with fai := fai, agp := agp, procs := procs } ∧
    procs[p]? = some pc ∧ soloQ s0 fai agp pc ∧ soloMu s0 pc ≤ m

theorem solo_step (s0 : State) (p m : Nat) (s : State) (h : SoloAt s0 p m s) :
    SoloAt s0 p (m - 1) (applyOp s (.step p)) := by
  obtain ⟨fai, agp, procs, pc, rfl, hpc, hq, hm⟩ := h
  obtain ⟨fai', agp', pc', e, hq', hm'⟩ := solo_stepProc s0 fai agp procs pc hq
  have hlt : p < procs.length := (List.getElem?_eq_some_iff.1 hpc).1
  refine ⟨fai', agp', procs.set p pc', pc', ?_, by simp [hlt], hq', by omega⟩
  simp only [applyOp, hpc, e]

theorem solo_run (s0 : State) (p m : Nat) (s : State) (h : SoloAt s0 p m s) (n : Nat) :
    SoloAt s0 p (m - n) (run s (List.replicate n (.step p))) := by
  induction n generalizing s m with
  | zero => simpa [run] using h
  | succ n ih =>
    have := ih (m - 1) _ (solo_step s0 p m s h)
    simpa [run, List.replicate_succ, Nat.sub_sub, Nat.add_comm] using this

theorem solo_done (s0 : State) (p : Nat) (s : State) (h : SoloAt s0 p 0 s) :
    s.procs[p]? = some (.done (.indexed s0.fastaContent) s0.fastaContent) ∧
    s.fai = some (fullFai s0) ∧ s.agp = some (fullAgp s0) ∧
    s.fastaContent = s0.fastaContent ∧ s.fastaMtime = s0.fastaMtime ∧ s.clock = s0.clock := by
  obtain ⟨fai, agp, procs, pc, rfl, hpc, hq, hm⟩ := h
  cases pc with
  | done r c =>
    obtain ⟨rfl, rfl, rfl, rfl⟩ := hq
    exact ⟨hpc, rfl, rfl, rfl, rfl, rfl⟩
  | bothOk | loadedFai _ | crashed => exact hq.elim
  | _ => exact absurd hm (Nat.not_succ_le_zero _)
end AgpTpf.C15
