/-
  T1c phase 2 / C10 — helper lemmas for the tie between the translated `ChrGroup` methods (`Gen/Imp2.lean`) and the group functions
  of the model (`Model/Remap.lean`: `newGroup`, `groupAdd`, `groupFirstLength`, `multiChrList`, `nameGroup`).

  A ChrGroup object of the source is the ENCODING `conG g` of a group `g` of the model (original names as `some k`): `dGet?` / `dSet`
  commute with `conG` without side conditions, and `add_scaffold_to_haplotype` on `conG g` is `conG (groupAdd g …)`.  The abstraction
  `absG` goes back (a `None` key to `""`); `KeysSome d` says exactly that `d` is an encoding (`conG (absG d) = d`), which is how the
  statements about arbitrary `data` are read off.  Per kernel: the generated definition in normal form (`…_nf`), then the tie; the
  `…_nf` lemmas and `length_of_first_tie` are the only proofs that unfold a generated definition.
-/
import AgpTpf.Gen.Imp2
import AgpTpf.Proofs.ImpScaffold
import AgpTpf.Proofs.Lib.Text
import AgpTpf.Proofs.Lib.Arena
set_option linter.unusedSimpArgs false
set_option linter.unusedVariables false
namespace AgpTpf.ImpChrGroup

/-- one haplotype's dictionary `original name → scaffold references`: the source keys are what `Scaffold.original_name` holds
    (`Option Str`), the model's are `Str`.  `some k ↦ k`; a `None` key maps to `[]` (unreachable: `build_groups` raises ValueError before it
    stores a None / empty name — the invariant `KeysSome` / `KeysNonEmpty` says so). -/
def absHapSet (hs : PyRt.HapSet) : List (Str × List Nat) := hs.map (fun e => (e.1.getD [], e.2))

def absG (d : PyRt.GData) : GroupData := d.map (fun kv => (kv.1, absHapSet kv.2))

def HapKeysSome (hs : PyRt.HapSet) : Prop := ∀ e ∈ hs, ∃ s, e.1 = some s

def KeysSome (d : PyRt.GData) : Prop := ∀ kv ∈ d, HapKeysSome kv.2

/-- what `build_groups` guarantees: it raises ValueError on a scaffold whose `original_name` is None or "" -/
def KeysNonEmpty (d : PyRt.GData) : Prop := ∀ kv ∈ d, ∀ e ∈ kv.2, ∃ c r, e.1 = some (c :: r)

theorem KeysNonEmpty.keysSome {d : PyRt.GData} (h : KeysNonEmpty d) : KeysSome d := by
  intro kv hkv e he
  obtain ⟨c, r, hcr⟩ := h kv hkv e he
  exact ⟨_, hcr⟩

def keysNonEmptyB (d : PyRt.GData) : Bool :=
  d.all (fun kv => kv.2.all (fun e => match e.1 with | some (_ :: _) => true | _ => false))

theorem keysNonEmpty_of_B (d : PyRt.GData) (h : keysNonEmptyB d = true) : KeysNonEmpty d := by
  intro kv hkv e he
  have h1 := List.all_eq_true.mp h kv hkv
  have h2 := List.all_eq_true.mp h1 e he
  match hk : e.1 with
  | some (c :: r) => exact ⟨c, r, rfl⟩
  | some [] => rw [hk] at h2; cases h2
  | none => rw [hk] at h2; cases h2

theorem keysSome_nil : KeysSome [] := by intro kv h; cases h

theorem absG_length (d : PyRt.GData) : (absG d).length = d.length := by simp [absG]
theorem absHapSet_length (hs : PyRt.HapSet) : (absHapSet hs).length = hs.length := by simp [absHapSet]

theorem dGet?_absG (d : PyRt.GData) (hap : Str) : dGet? (absG d) hap = (dGet? d hap).map absHapSet :=
  dGet?_mapVal absHapSet d hap

theorem keys_absG (d : PyRt.GData) : (absG d).map (·.1) = d.map (·.1) := by simp [absG, Function.comp_def]

end AgpTpf.ImpChrGroup

namespace AgpTpf.ImpBuildGroups

def conHapSet (h : List (Str × List Nat)) : PyRt.HapSet := h.map (fun e => (some e.1, e.2))
def conG (g : GroupData) : PyRt.GData := g.map (fun kv => (kv.1, conHapSet kv.2))

end AgpTpf.ImpBuildGroups

namespace AgpTpf.ImpChrGroup
open AgpTpf.ImpBuildGroups (conG conHapSet)

theorem absHapSet_conHapSet (h : List (Str × List Nat)) : absHapSet (conHapSet h) = h := by
  simp only [conHapSet, absHapSet, List.map_map]
  exact (List.map_congr_left fun e _ => rfl).trans (List.map_id h)

theorem absG_conG (g : GroupData) : absG (conG g) = g := by
  simp only [conG, absG, List.map_map]
  exact (List.map_congr_left fun kv _ => by simp only [Function.comp, absHapSet_conHapSet]; rfl).trans (List.map_id g)

theorem conHapSet_absHapSet (h : PyRt.HapSet) (hk : HapKeysSome h) : conHapSet (absHapSet h) = h := by
  simp only [conHapSet, absHapSet, List.map_map]
  refine (List.map_congr_left fun e he => ?_).trans (List.map_id h)
  obtain ⟨s, hs⟩ := hk e he
  simp only [Function.comp, hs, Option.getD_some]
  rw [← hs]; rfl

theorem conG_absG (d : PyRt.GData) (hk : KeysSome d) : conG (absG d) = d := by
  simp only [conG, absG, List.map_map]
  exact (List.map_congr_left fun kv hkv => by simp only [Function.comp, conHapSet_absHapSet _ (hk kv hkv)]; rfl).trans (List.map_id d)

theorem dGet?_conG (g : GroupData) (hap : Str) : dGet? (conG g) hap = (dGet? g hap).map conHapSet := dGet?_mapVal conHapSet g hap

theorem conG_dSet (g : GroupData) (hap : Str) (h : List (Str × List Nat)) : conG (dSet g hap h) = dSet (conG g) hap (conHapSet h) :=
  dSet_mapVal conHapSet g hap h

theorem dGet?_conHapSet (h : List (Str × List Nat)) (o : Str) : dGet? (conHapSet h) (some o) = dGet? h o :=
  dGet?_mapKey some (fun _ _ e => Option.some.inj e) h o

theorem conHapSet_dSet (h : List (Str × List Nat)) (o : Str) (v : List Nat) : conHapSet (dSet h o v) = dSet (conHapSet h) (some o) v :=
  dSet_mapKey some (fun _ _ e => Option.some.inj e) h o v

theorem conHapSet_isEmpty (h : List (Str × List Nat)) : (conHapSet h).isEmpty = h.isEmpty := by cases h <;> rfl

/-- `last_orig` as the Python variable holds it (`None` before the first scaffold) against the model's `lastOrig.getD []`: when no key
    is `""`, neither `None` nor `""` is found -/
theorem dGet?_conHapSet_opt (h : List (Str × List Nat)) (hk : ∀ e ∈ h, e.1 ≠ []) (lo : Option Str) :
    dGet? (conHapSet h) lo = dGet? h (lo.getD []) := by
  cases lo with
  | some l => exact dGet?_conHapSet h l
  | none =>
    have h1 : dGet? (conHapSet h) none = none :=
      (dGet?_none_iff _ _).2 (by simp only [conHapSet, List.map_map, List.mem_map, Function.comp]; rintro ⟨e, _, he⟩; cases he)
    have h2 : dGet? h [] = none := (dGet?_none_iff _ _).2 (by rintro hm; obtain ⟨e, he, hk'⟩ := List.mem_map.1 hm; exact hk e he hk')
    rw [h1]; exact h2.symm

theorem dGet?_absHapSet (hs : PyRt.HapSet) (h : HapKeysSome hs) (orig : Str) : dGet? (absHapSet hs) orig = dGet? hs (some orig) := by
  rw [← dGet?_conHapSet, conHapSet_absHapSet hs h]

theorem init_nf (haps : List (Str × Bool)) :
    Gen.Imp.ChrGroup___init__ haps = .ok (((haps.map (·.1)).foldl sAdd []).map (fun k => (k, []))) := by
  unfold Gen.Imp.ChrGroup___init__
  simp only []
  rw [PyRt.forIn_foldl (fun (d : PyRt.GData) (h : Str) => dSet d h []) (fun _ _ _ => rfl)]
  exact congrArg (fun d => Except.ok (PyRt.Done.fell d) >>= _)
    (List.foldl_hom (fun s : List Str => s.map fun k => (k, ([] : PyRt.HapSet))) (init := []) fun s h => dSet_map_const [] s h)

theorem foldl_sAdd_nodup (keys s : List Str) (h : (s ++ keys).Nodup) : keys.foldl sAdd s = s ++ keys := by
  induction keys generalizing s with
  | nil => simp
  | cons k keys ih =>
    have hk : k ∉ s := by
      intro hm
      exact (List.nodup_append.mp h).2.2 _ hm _ (by simp) rfl
    rw [List.foldl_cons, sAdd, if_neg hk, ih]
    · simp
    · simpa [List.append_assoc] using h

theorem absG_emptyVals (keys : List Str) : absG (keys.map (fun k => (k, []))) = newGroup keys := by
  simp [absG, newGroup, absHapSet, Function.comp_def]

theorem keysNonEmpty_emptyVals (keys : List Str) : KeysNonEmpty (keys.map (fun k => (k, []))) := by
  intro kv hkv
  obtain ⟨k, _, rfl⟩ := List.mem_map.mp hkv
  intro e he; cases he

theorem keysSome_emptyVals (keys : List Str) : KeysSome (keys.map (fun k => (k, []))) :=
  (keysNonEmpty_emptyVals keys).keysSome

/-- one pass of `for ltr in range(ord("A"), ord("A") + multi_count): chr_list.append(chr_name + chr(ltr))` -/
def chrStep (name : Str) (acc : List Str) (ltr : Int) : R (List Str) := PyRt.chr ltr >>= fun t => .ok (acc ++ [name ++ t])

theorem multi_chr_list_nf (name : Str) (n : Int) :
    Gen.Imp.ChrGroup_multi_chr_list name n =
      if n = 1 then .ok [name] else (PyRt.rangeUp 65 (65 + n)).foldlM (chrStep name) [] := by
  unfold Gen.Imp.ChrGroup_multi_chr_list
  by_cases h : n = 1
  · simp [h]
  · simp only [h, decide_false, if_false, Bool.false_eq_true]
    rw [PyRt.forIn_foldlM (chrStep name) (by intro x _ s; unfold chrStep; cases PyRt.chr x <;> rfl)]
    cases List.foldlM (chrStep name) [] (PyRt.rangeUp 65 (65 + n)) <;> rfl

/-- the largest count for which every `chr(ord("A") + k)`, `k < count`, exists: `0x110000 - ord("A")` -/
def chrBound : Int := 1114047

theorem multiChrList_length (name : Str) (k : Nat) : (multiChrList name k).length = k := by
  unfold multiChrList
  split
  · next h => simp [h]
  · simp

theorem multi_chr_list_tie (name : Str) (n : Int) (h : n ≤ chrBound) :
    Gen.Imp.ChrGroup_multi_chr_list name n = .ok (multiChrList name n.toNat) := by
  rw [multi_chr_list_nf]
  unfold multiChrList
  by_cases h1 : n = 1
  · subst h1; rfl
  · have h1' : ¬ n.toNat = 1 := by omega
    rw [if_neg h1, if_neg h1']
    rw [foldlM_ok (f := fun acc ltr => acc ++ [name ++ [Char.ofNat ltr.toNat]])]
    · rw [foldl_append_singleton]
      unfold PyRt.rangeUp
      have : ((65 : Int) + n - 65).toNat = n.toNat := by omega
      rw [this, List.map_map, List.nil_append]
      congr 1
    · intro x hx s
      have := PyRt.mem_rangeUp.1 hx
      unfold chrBound at h
      have hc : (0 ≤ x ∧ x < 0x110000) := by omega
      simp only [chrStep, PyRt.chr, hc, and_self, if_true]
      rfl

theorem foldlM_error {α σ : Type} (g : σ → α → R σ) (e : Err) (xs : List α)
    (hall : ∀ x s e', g s x = .error e' → e' = e) (hbad : ∃ x ∈ xs, ∀ s, g s x = .error e) (s : σ) :
    xs.foldlM g s = .error e := by
  induction xs generalizing s with
  | nil => obtain ⟨x, hx, _⟩ := hbad; cases hx
  | cons x xs ih =>
    rw [List.foldlM_cons]
    cases hg : g s x with
    | error e' => rw [hall x s e' hg]; rfl
    | ok s' =>
      obtain ⟨y, hy, hyb⟩ := hbad
      rcases List.mem_cons.mp hy with rfl | hy'
      · rw [hyb s] at hg; cases hg
      · exact ih ⟨y, hy', hyb⟩ s'

theorem add_scaffold_nf (heap_b : List Scaffold) (data : PyRt.GData) (hap : Str) (sid : Nat) :
    Gen.Imp.ChrGroup_add_scaffold_to_haplotype heap_b data hap sid =
      PyRt.gdataAppend data hap (PyRt.bsGet heap_b sid).originalName sid := by
  unfold Gen.Imp.ChrGroup_add_scaffold_to_haplotype
  cases PyRt.gdataAppend data hap (PyRt.bsGet heap_b sid).originalName sid <;> rfl

def appended (data : PyRt.GData) (hap : Str) (hs : PyRt.HapSet) (orig : Option Str) (sid : Nat) : PyRt.GData :=
  dSet data hap (dSet hs orig (((dGet? hs orig).getD []) ++ [sid]))

theorem gdataAppend_known (data : PyRt.GData) (hap : Str) (hs : PyRt.HapSet) (orig : Option Str) (sid : Nat)
    (hh : dGet? data hap = some hs) : PyRt.gdataAppend data hap orig sid = .ok (appended data hap hs orig sid) := by
  simp [PyRt.gdataAppend, hh, appended]

theorem gdataAppend_unknown (data : PyRt.GData) (hap : Str) (orig : Option Str) (sid : Nat)
    (hh : dGet? data hap = none) : PyRt.gdataAppend data hap orig sid = .error .attribute := by
  simp [PyRt.gdataAppend, hh]

theorem gdataAppend_conG (g : GroupData) (hap orig : Str) (sid : Nat) (hh : hap ∈ g.map (·.1)) :
    PyRt.gdataAppend (conG g) hap (some orig) sid = .ok (conG (groupAdd g hap orig sid)) := by
  obtain ⟨hs, hhs, -⟩ := dGet?_of_key g hap hh
  unfold PyRt.gdataAppend groupAdd
  simp only [dGet?_conG, hhs, Option.map_some, Option.getD_some, conG_dSet, conHapSet_dSet, dGet?_conHapSet]

theorem absG_appended (data : PyRt.GData) (hap : Str) (hs : PyRt.HapSet) (orig : Str) (sid : Nat)
    (hk : KeysSome data) (hh : dGet? data hap = some hs) :
    absG (appended data hap hs (some orig) sid) = groupAdd (absG data) hap orig sid := by
  have h := gdataAppend_conG (absG data) hap orig sid (keys_absG data ▸ List.mem_map_of_mem (f := (·.1)) (dGet?_mem hh))
  rw [conG_absG data hk, gdataAppend_known _ _ _ _ _ hh] at h
  rw [Except.ok.inj h, absG_conG]

theorem keys_appended (P : Option Str → Prop) {data : PyRt.GData} {hap : Str} {hs : PyRt.HapSet} {orig : Option Str} (sid : Nat)
    (hk : ∀ kv ∈ data, ∀ e ∈ kv.2, P e.1) (hh : dGet? data hap = some hs) (ho : P orig) :
    ∀ kv ∈ appended data hap hs orig sid, ∀ e ∈ kv.2, P e.1 :=
  forall_mem_dSet (P := fun (kv : Str × PyRt.HapSet) => ∀ e ∈ kv.2, P e.1) hk
    (forall_mem_dSet (P := fun (e : Option Str × List Nat) => P e.1) (hk (hap, hs) (dGet?_mem hh)) ho)

/-- the model's `groupAdd` on an unknown haplotype silently creates it -/
theorem groupAdd_unknown (data : PyRt.GData) (hap orig : Str) (sid : Nat) (hh : dGet? data hap = none) :
    groupAdd (absG data) hap orig sid = absG data ++ [(hap, [(orig, [sid])])] := by
  unfold groupAdd
  have : dGet? (absG data) hap = none := by rw [dGet?_absG, hh]; rfl
  rw [dSet_of_none _ this, this]
  rfl

/-- what `buildGroups` (Model/Remap.lean) computes inline where the source calls `original_tags_of_haplotype_scaffold(hap, last_orig)`:
    `hd` is `(dGet? cur hap).getD []`, `lo` is `lastOrig.getD []` -/
def origTagsModel (fs : List Scaffold) (hd : List (Str × List Nat)) (lo : Str) : R (List Str) :=
  match dGet? hd lo with
  | none => .error .key
  | some ids => pyGet ids 0 >>= fun first => .ok (((fs.getD first default).originalTags).getD [])

theorem original_tags_nf (heap_b : List Scaffold) (hap : Str) (last : Option Str) (data : PyRt.GData) :
    Gen.Imp.ChrGroup_original_tags_of_haplotype_scaffold heap_b hap last data =
      (PyRt.needArg (dGet? data hap) >>= fun hs => PyRt.dictGet hs last >>= fun ids => pyGet ids 0 >>= fun first =>
        .ok (((PyRt.bsGet heap_b first).originalTags).getD [])) := rfl

theorem bsGet_eq_getD (heap : List Scaffold) (i : Nat) : PyRt.bsGet heap i = heap.getD i default := rfl

theorem original_tags_known (heap_b : List Scaffold) (hap : Str) (last : Option Str) (data : PyRt.GData) (hs : PyRt.HapSet)
    (hh : dGet? data hap = some hs) :
    Gen.Imp.ChrGroup_original_tags_of_haplotype_scaffold heap_b hap last data =
      (match dGet? hs last with
       | none => .error .key
       | some ids => pyGet ids 0 >>= fun first => .ok (((heap_b.getD first default).originalTags).getD [])) := by
  rw [original_tags_nf, hh]
  simp only [PyRt.needArg, PyRt.dictGet, bsGet_eq_getD, bind, Except.bind]
  generalize dGet? hs last = o
  cases o <;> rfl

theorem foldl_add_sumInts {α : Type} (f : α → Int) (xs : List α) (s : Int) :
    xs.foldl (fun acc x => acc + f x) s = s + sumInts (xs.map f) := by
  induction xs generalizing s with
  | nil => simp [sumInts]
  | cons x xs ih => simp only [List.foldl_cons, ih, List.map_cons, sumInts]; omega

theorem length_of_first_tie (heap_b : List Scaffold) (data : PyRt.GData) :
    Gen.Imp.ChrGroup_length_of_first_haplotype heap_b data = groupFirstLength heap_b (absG data) := by
  unfold Gen.Imp.ChrGroup_length_of_first_haplotype
  match data with
  | [] => rfl
  | (hap, []) :: rest => rfl
  | (hap, [(orig, ids)]) :: rest =>
    simp only [List.map_cons, PyRt.unpackHead, bind, Except.bind, List.map_nil, List.isEmpty_nil, Bool.not_true, Bool.false_eq_true,
      if_false, PyRt.dictGet, dGet?, if_true]
    rw [PyRt.forIn_foldl (fun (acc : Int) (i : Nat) => acc + (PyRt.bsGet heap_b i).fragmentsLength)
      (by intro x _ s; rw [ImpScaffold.scaffold_fragments_length_tie])]
    simp [foldl_add_sumInts, absG, absHapSet, groupFirstLength, bsGet_eq_getD]
  | (hap, (orig, ids) :: e :: others) :: rest =>
    simp [PyRt.unpackHead, bind, Except.bind, PyRt.dictGet, dGet?, absG, absHapSet, groupFirstLength]

theorem max_hap_set_count_nf (data : PyRt.GData) :
    Gen.Imp.ChrGroup_max_hap_set_count data = PyRt.maxList (data.map (fun kv => (kv.2.length : Int))) := by
  unfold Gen.Imp.ChrGroup_max_hap_set_count
  have e : (data.map (fun kv => kv.2)).map (fun (hs : PyRt.HapSet) => Int.ofNat hs.length) = data.map (fun kv => (kv.2.length : Int)) := by
    rw [List.map_map]; rfl
  rw [e]
  generalize PyRt.maxList _ = r
  cases r <;> rfl

theorem foldl_max_spec (x : Int) (xs : List Int) : (∀ y ∈ x :: xs, y ≤ xs.foldl max x) ∧ xs.foldl max x ∈ x :: xs := by
  induction xs generalizing x with
  | nil => simp
  | cons y ys ih =>
    obtain ⟨h1, h2⟩ := ih (max x y)
    simp only [List.foldl_cons]
    refine ⟨?_, ?_⟩
    · intro z hz
      have hm := h1 (max x y) (by simp)
      rcases List.mem_cons.mp hz with rfl | hz
      · omega
      · rcases List.mem_cons.mp hz with rfl | hz
        · omega
        · exact h1 z (by simp [hz])
    · rcases List.mem_cons.mp h2 with h | h
      · rw [h]
        by_cases hxy : x ≤ y
        · have : max x y = y := by omega
          simp [this]
        · have : max x y = x := by omega
          simp [this]
      · simp [h]

/-- `scffld.name = scffld.name.replace(orig, this_chr)` through a reference -/
def renameOne (o new : Str) (heap : List Scaffold) (sid : Nat) : List Scaffold :=
  PyRt.bsSet heap sid (fun sc => { sc with name := PyRt.strReplace (PyRt.bsGet heap sid).name o new })

/-- `for scffld in scffld_list: …` (a None `orig` makes `str.replace` raise TypeError — in the first pass, so only for a non-empty list) -/
def renameIds (orig : Option Str) (new : Str) (heap : List Scaffold) (ids : List Nat) : R (List Scaffold) :=
  ids.foldlM (fun heap sid => PyRt.needArg orig >>= fun o => .ok (renameOne o new heap sid)) heap

/-- the state of the loop `for orig, scffld_list in hap_set.items()` in the translator's order (by type, then by name): `(heap_b, chr_names)`.
    Everything below goes through `rnPack` / `rnNames` / `rnHeap`; a change of the tuple order is repaired here only. -/
abbrev RnSt := List Scaffold × List Str
@[reducible] def rnPack (names : List Str) (heap : List Scaffold) : RnSt := (heap, names)
@[reducible] def rnNames (st : RnSt) : List Str := st.2
@[reducible] def rnHeap (st : RnSt) : List Scaffold := st.1
@[simp] theorem rnNames_pack (names : List Str) (heap : List Scaffold) : rnNames (rnPack names heap) = names := rfl
@[simp] theorem rnHeap_pack (names : List Str) (heap : List Scaffold) : rnHeap (rnPack names heap) = heap := rfl

/-- one pass of `for orig, scffld_list in hap_set.items()`; the state is `rnPack chr_names heap_b` -/
def renameEntry (st : RnSt) (e : Option Str × List Nat) : R RnSt :=
  PyRt.pop (rnNames st) 0 >>= fun pp => renameIds e.1 pp.1 (rnHeap st) e.2 >>= fun heap => .ok (rnPack pp.2 heap)

/-- one pass of `for hap_set in self.data.values()` -/
def renameHap (name : Str) (heap : List Scaffold) (hs : PyRt.HapSet) : R (List Scaffold) :=
  Gen.Imp.ChrGroup_multi_chr_list name (Int.ofNat hs.length) >>= fun names =>
    hs.foldlM renameEntry (rnPack names heap) >>= fun st => .ok (rnHeap st)

theorem name_chromosome_nf (heap_b : List Scaffold) (pre : Str) (n : Int) (data : PyRt.GData) :
    Gen.Imp.ChrGroup_name_chromosome heap_b pre n data = (data.map (fun kv => kv.2)).foldlM (renameHap (pre ++ intToStr n)) heap_b := by
  unfold Gen.Imp.ChrGroup_name_chromosome
  rw [PyRt.forIn_foldlM (renameHap (pre ++ intToStr n))]
  · generalize List.foldlM (m := R) _ _ _ = r
    cases r <;> rfl
  · intro hs _ heap
    unfold renameHap
    generalize Gen.Imp.ChrGroup_multi_chr_list _ _ = r
    cases r with
    | error e => rfl
    | ok names =>
      simp only [bind, Except.bind]
      rw [PyRt.forIn_foldlM renameEntry]
      · generalize List.foldlM (m := R) _ _ _ = r
        cases r <;> rfl
      · intro e _ st
        obtain ⟨orig, ids⟩ := e
        obtain ⟨heap, names⟩ := st
        unfold renameEntry
        simp only []
        generalize PyRt.pop names 0 = r
        cases r with
        | error e => rfl
        | ok pp =>
          simp only [bind, Except.bind]
          unfold renameIds
          rw [PyRt.forIn_foldlM (fun heap sid => PyRt.needArg orig >>= fun o => .ok (renameOne o pp.1 heap sid))]
          · generalize List.foldlM (m := R) _ _ _ = r
            cases r <;> rfl
          · intro sid _ heap
            cases orig <;> rfl

def mRenameOne (o new : Str) (fs : List Scaffold) (sid : Nat) : List Scaffold :=
  let s := fs.getD sid default
  AgpTpf.setAt fs sid { s with name := replaceAll o new (s.name.length + 1) s.name }
def mRenameEntry (fs : List Scaffold) (p : (Str × List Nat) × Str) : List Scaffold := p.1.2.foldl (mRenameOne p.1.1 p.2) fs
def mRenameHap (name : Str) (fs : List Scaffold) (h : Str × List (Str × List Nat)) : List Scaffold :=
  (h.2.zip (multiChrList name h.2.length)).foldl mRenameEntry fs

theorem nameGroup_eq (fs : List Scaffold) (g : GroupData) (pre : Str) (n : Nat) :
    nameGroup fs g pre n = g.foldl (mRenameHap (pre ++ natToStr n)) fs := rfl

/-- for a non-empty `orig`, `str.replace` is the model's `replaceAll`; a reference outside the arena is a no-op on both sides -/
theorem renameOne_eq (o new : Str) (ho : o ≠ []) (heap : List Scaffold) (sid : Nat) :
    renameOne o new heap sid = mRenameOne o new heap sid := by
  have he : o.isEmpty = false := by cases o <;> simp_all
  unfold renameOne mRenameOne PyRt.strReplace AgpTpf.setAt
  rw [Arena.bsSet_eq_modify, Arena.modify_eq_set_getD _ _ _ default]
  simp only [he, Bool.false_eq_true, if_false]
  rfl

theorem renameIds_some (o new : Str) (ho : o ≠ []) (heap : List Scaffold) (ids : List Nat) :
    renameIds (some o) new heap ids = .ok (ids.foldl (mRenameOne o new) heap) := by
  unfold renameIds
  exact foldlM_ok (fun sid _ heap => by
    show Except.ok (renameOne o new heap sid) = _
    rw [renameOne_eq o new ho]) heap

/-- the keys the renaming loop really uses (those with a non-empty list of scaffolds) are non-empty strings -/
def HapNamed (hs : PyRt.HapSet) : Prop := ∀ e ∈ hs, e.2 ≠ [] → ∃ c r, e.1 = some (c :: r)

theorem renameIds_named (k : Option Str) (ids : List Nat) (h : ids ≠ [] → ∃ c r, k = some (c :: r)) (new : Str) (heap : List Scaffold) :
    renameIds k new heap ids = .ok (ids.foldl (mRenameOne (k.getD []) new) heap) := by
  cases ids with
  | nil => rfl
  | cons i ids =>
    obtain ⟨c, r, rfl⟩ := h (by simp)
    exact renameIds_some _ _ (by simp) _ _

/-- `chr_names` has (at least) one name per entry, so `pop(0)` never fails -/
theorem foldlM_renameEntry (hs : PyRt.HapSet) (hn : HapNamed hs) (names : List Str) (hl : hs.length ≤ names.length) (heap : List Scaffold) :
    hs.foldlM renameEntry (rnPack names heap) = .ok (rnPack (names.drop hs.length) (((absHapSet hs).zip names).foldl mRenameEntry heap)) := by
  induction hs generalizing names heap with
  | nil => rfl
  | cons e hs ih =>
    obtain ⟨k, ids⟩ := e
    cases names with
    | nil => simp at hl
    | cons nm rest =>
      rw [List.foldlM_cons]
      have h1 : renameEntry (rnPack (nm :: rest) heap) (k, ids) = .ok (rnPack rest (ids.foldl (mRenameOne (k.getD []) nm) heap)) := by
        unfold renameEntry
        simp only [rnNames_pack, rnHeap_pack, PyRt.pop_zero_cons, renameIds_named k ids (hn (k, ids) (by simp)), bind, Except.bind]
      rw [h1]
      simp only [bind, Except.bind]
      rw [ih (fun e he => hn e (by simp [he])) rest (by simpa using hl)]
      rfl

theorem renameHap_tie (name : Str) (heap : List Scaffold) (hap : Str) (hs : PyRt.HapSet) (hn : HapNamed hs)
    (hb : (hs.length : Int) ≤ chrBound) : renameHap name heap hs = .ok (mRenameHap name heap (hap, absHapSet hs)) := by
  unfold renameHap mRenameHap
  rw [multi_chr_list_tie name (Int.ofNat hs.length) hb]
  have e : (Int.ofNat hs.length).toNat = hs.length := rfl
  simp only [bind, Except.bind, e]
  rw [foldlM_renameEntry hs hn _ (by rw [multiChrList_length]; exact Nat.le_refl _)]
  simp [absHapSet_length]

theorem name_chromosome_tie (heap_b : List Scaffold) (pre : Str) (n : Int) (data : PyRt.GData) (hn0 : 0 ≤ n)
    (hnamed : ∀ kv ∈ data, HapNamed kv.2) (hb : ∀ kv ∈ data, (kv.2.length : Int) ≤ chrBound) :
    Gen.Imp.ChrGroup_name_chromosome heap_b pre n data = .ok (nameGroup heap_b (absG data) pre n.toNat) := by
  rw [name_chromosome_nf, nameGroup_eq, intToStr_of_nonneg hn0]
  rw [foldlM_ok (f := fun fs hs => mRenameHap (pre ++ natToStr n.toNat) fs ([], absHapSet hs))]
  · unfold absG
    rw [List.foldl_map, List.foldl_map]
    rfl
  · intro hs hhs heap
    obtain ⟨kv, hkv, rfl⟩ := List.mem_map.mp hhs
    exact renameHap_tie _ heap [] kv.2 (hnamed kv hkv) (hb kv hkv)

theorem KeysNonEmpty.named {d : PyRt.GData} (h : KeysNonEmpty d) : ∀ kv ∈ d, HapNamed kv.2 :=
  fun kv hkv e he _ => h kv hkv e he

/-- the test `build_groups` makes (`if hap_dict:` — a non-empty dictionary) implies that the haplotype is a key -/
theorem dHas_of_absG_ne (data : PyRt.GData) (hap : Str) (h : (dGet? (absG data) hap).getD [] ≠ []) : dHas data hap = true := by
  unfold dHas
  rw [dGet?_absG] at h
  cases hd : dGet? data hap with
  | none => rw [hd] at h; exact absurd rfl h
  | some v => rfl

end AgpTpf.ImpChrGroup
