/-
  T1c helper lemmas for `Properties/C07ImpFuse.lean`: `BuildAssembly.scaffolds_fused_by_name` (assembly/build_assembly.py) against the
  model's `fuseByName` (Model/Remap.lean).

  On the model side `fuseByName` is a fold of `accRes` / `accLo` over a list of references (`fuseRefs`, any order).  The source keeps
  a dict of references and an arena of Scaffold objects being built (`PyRt.bsGet` / `bsSet` / `bsSetDefault`); `dictOf`, `heapOf`
  represent the model's insertion-ordered dict of scaffolds that way.  What ONE pass of the source loop does is `stepSrc`, a pure
  function on `(dict, arena, gap)`; it is the model's step as long as `gap` is still `self.default_gap` (always, for a left-over).
  `forIn_fuse` is about any `PyRt.forIn` whose body does such a step (the body is a parameter); `fused_eq_fold` shows that the
  generated kernel has such a body.
-/
import AgpTpf.Gen.Imp
import AgpTpf.Proofs.ImpSmall
import AgpTpf.Proofs.ImpRefDict
import AgpTpf.Proofs.Lib.Arena
import AgpTpf.Proofs.ImpMissing
import AgpTpf.Properties.C07Imp
import AgpTpf.Properties.C07ImpLeftover
import AgpTpf.Properties.C14Imp
namespace AgpTpf.ImpFuse
open AgpTpf
open AgpTpf.ImpMissing (loSrc)

/-- the value of the loop variable after `for gap in gb:` (Python keeps it): the last item, the old value when there was none -/
def lastOr (gap : Option Row) : List Row → Option Row
  | [] => gap
  | x :: xs => lastOr (some x) xs

theorem lastOr_ne_nil (gap : Option Row) (gb : List Row) (h : gb ≠ []) : lastOr gap gb = gb.getLast? := by
  induction gb generalizing gap with
  | nil => exact absurd rfl h
  | cons x xs ih =>
    cases xs with
    | nil => rfl
    | cons y ys =>
      rw [lastOr, ih (some x) (by simp)]
      simp [List.getLast?_cons_cons]

/-- the variables of `for gap in gb: build_scffld.add_row(gap)`: the reference `build_scffld`, the local `gap`, the arena of built scaffolds,
    the (never changed) arena of left-overs.  The ORDER in which the translator carries them (by the text of their type, then by name:
    `heap_lo`, `heap_b`, `gap`, `build_scffld`) is named here, in `ISt` / `ist`, and nowhere else -/
abbrev ISt := List PyRt.Leftover × List Scaffold × Option Row × Nat
abbrev ist (r : Nat) (gap : Option Row) (heap : List Scaffold) (lo : List PyRt.Leftover) : ISt := (lo, heap, gap, r)

theorem forIn_addRows {ρ : Type}
    (body : Row → ISt → R (PyRt.Ctl ISt ρ))
    (hbody : ∀ g gap r lo heap, body g (ist r gap heap lo)
      = .ok (.next (ist r (some g) (PyRt.bsSet heap r (fun sc => { sc with rows := sc.rows ++ [g] })) lo)))
    (gb : List Row) (gap : Option Row) (r : Nat) (lo : List PyRt.Leftover) (heap : List Scaffold) :
    PyRt.forIn gb (ist r gap heap lo) body
      = .ok (.fell (ist r (lastOr gap gb) (PyRt.bsSet heap r (fun sc => { sc with rows := sc.rows ++ gb })) lo)) := by
  induction gb generalizing gap heap with
  | nil =>
    rw [Arena.bsSet_eq_modify, Arena.modify_of_id heap r _ (by intro x; simp)]
    rfl
  | cons g gs ih =>
    rw [PyRt.forIn, hbody]
    simp only []
    rw [ih, lastOr, Arena.bsSet_eq_modify, Arena.bsSet_eq_modify, Arena.bsSet_eq_modify, List.modify_modify_eq]
    exact congrArg (fun f => Except.ok (PyRt.Done.fell (ist r (lastOr (some g) gs) (heap.modify r f) lo))) (funext fun x => by simp)

abbrev FKey := Option Str × Option Str × Str

/-- `step` of `fuseByName` -/
def fuseStep (acc : List (FKey × Scaffold)) (key : FKey) (proto : Scaffold) (add : List Row → List Row) : List (FKey × Scaffold) :=
  match dGet? acc key with
  | some s => dSet acc key { s with rows := add s.rows }
  | none => acc ++ [(key, { proto with rows := add [] })]

/-- the new Scaffold object handed to `setdefault`: the attributes copied from `scffld`, no rows -/
def protoOf (v : Scaffold) : Scaffold :=
  { name := v.name, tag := v.tag, haplotype := v.haplotype, rank := v.rank, originalName := v.originalName, originalTags := v.originalTags }

theorem protoOf_rows (v : Scaffold) : (protoOf v).rows = [] := rfl

def keyOf (v : Scaffold) : FKey := (v.tag, v.haplotype, v.name)

/-- the attributes of an OverlapResult that `scaffolds_fused_by_name` reads (`PyRt.brefView` of a `.res`) -/
def resView (o : OverlapResult) : Scaffold :=
  { name := o.name, rows := o.rows, tag := o.tag, haplotype := o.haplotype, rank := o.rank, originalName := o.originalName,
    originalTags := o.originalTags }

def accRes (jg : Option Gap) (acc : List (FKey × Scaffold)) (o : OverlapResult) : List (FKey × Scaffold) :=
  if o.rows.isEmpty then acc
  else fuseStep acc (keyOf (resView o)) (protoOf (resView o)) (fun built => Scaffold.appendRows built o.toScaffoldRows jg)

def accLo (jg : Option Gap) (acc : List (FKey × Scaffold)) (e : Scaffold × Option (Fragment × List Gap)) : List (FKey × Scaffold) :=
  if e.1.rows.isEmpty then acc
  else fuseStep acc (keyOf e.1) (protoOf e.1) (fun built => built ++ gapsBeforeLeftover jg built e.2 ++ e.1.rows)

/-- what a dangling reference into the arena of left-overs reads as (`PyRt.loGet`) -/
def dfltLo : Scaffold × Option (Fragment × List Gap) := (({ name := [] } : Scaffold), none)

/-- the model's fusing, for ANY order of `self.scaffolds`: every OverlapResult is appended with the JOIN gap -/
def fuseRefs (store : List Res) (extra : List (Scaffold × Option (Fragment × List Gap))) (jg : Option Gap)
    (refs : List PyRt.BuiltRef) (acc : List (FKey × Scaffold)) : List (FKey × Scaffold) :=
  refs.foldl (fun acc x => match x with
    | .res sid => accRes jg acc (getRes store sid)
    | .lo r => accLo jg acc (extra.getD r dfltLo)) acc

/-- `BuildAssembly.scaffolds` of a model state: the added results in store order, then the left-overs -/
def builtRefs (b : Build) : List PyRt.BuiltRef :=
  ((List.range b.store.length).filter (fun sid => (b.store.getD sid default).added)).map PyRt.BuiltRef.res
    ++ (List.range b.extra.length).map PyRt.BuiltRef.lo

theorem fuseByName_eq (b : Build) : fuseByName b = (fuseRefs b.store b.extra b.joinGap (builtRefs b) []).map (·.2) := by
  have h0 : fuseByName b
      = ((b.extra.foldl (accLo b.joinGap)
          (b.store.foldl (fun acc r => if ¬ r.added ∨ r.o.rows.isEmpty then acc else
            fuseStep acc (keyOf (resView r.o)) (protoOf (resView r.o))
              (fun built => Scaffold.appendRows built r.o.toScaffoldRows b.joinGap)) [])).map (·.2)) := by
    rfl
  rw [h0]
  unfold fuseRefs builtRefs
  rw [List.foldl_append, List.foldl_map, List.foldl_map]
  congr 1
  conv => lhs; rw [← range_map_getD b.extra dfltLo, List.foldl_map]
  congr 1
  conv => lhs; rw [← range_map_getD b.store default, List.foldl_map]
  rw [List.foldl_filter]
  congr 1
  funext a x
  show _ = if _ then accRes b.joinGap a (getRes b.store x) else a
  unfold accRes getRes
  generalize b.store.getD x default = r
  cases r.added <;> cases r.o.rows.isEmpty <;> rfl

def dictFrom (k : Nat) : List (FKey × Scaffold) → List (FKey × Nat)
  | [] => []
  | (key, _) :: r => (key, k) :: dictFrom (k + 1) r

def dictOf (acc : List (FKey × Scaffold)) : List (FKey × Nat) := dictFrom 0 acc
def heapOf (acc : List (FKey × Scaffold)) : List Scaffold := acc.map (·.2)

/-- the two are the general reference dictionary and arena of Proofs/ImpRefDict.lean, at these types -/
theorem dictFrom_eq (k : Nat) (acc : List (FKey × Scaffold)) : dictFrom k acc = ImpPhase2.dictFrom k acc := by
  induction acc generalizing k with
  | nil => rfl
  | cons x xs ih => obtain ⟨key, v⟩ := x; simp only [dictFrom, ImpPhase2.dictFrom, ih]

theorem heapOf_eq (acc : List (FKey × Scaffold)) : heapOf acc = ImpPhase2.heapOf id acc := rfl

/-- `setdefault` + an update of the rows of the object it returns, on dict and arena -/
def srcStep (dict : List (FKey × Nat)) (heap : List Scaffold) (key : FKey) (proto : Scaffold) (add : List Row → List Row) :
    List (FKey × Nat) × List Scaffold :=
  let sd := PyRt.bsSetDefault dict heap key proto
  (sd.1, PyRt.bsSet sd.2.1 sd.2.2 (fun sc => { sc with rows := add sc.rows }))

theorem srcStep_fuseStep (acc : List (FKey × Scaffold)) (key : FKey) (proto : Scaffold) (add : List Row → List Row)
    (hp : proto.rows = []) :
    srcStep (dictOf acc) (heapOf acc) key proto add
      = (dictOf (fuseStep acc key proto add), heapOf (fuseStep acc key proto add)) := by
  unfold srcStep PyRt.bsSetDefault fuseStep dictOf
  simp only [dictFrom_eq, heapOf_eq]
  cases h : dGet? acc key with
  | none =>
    rw [ImpPhase2.dGet?_dictFrom_none 0 acc key h]
    have hl : (ImpPhase2.heapOf id acc).length = acc.length := ImpPhase2.heapOf_length id acc
    simp only [ImpPhase2.dictFrom_append, hl, Nat.zero_add]
    congr 1
    rw [← hl, Arena.bsSet_eq_modify, Arena.modify_length_snoc]
    simp [ImpPhase2.heapOf, hp]
  | some s =>
    obtain ⟨i, h1, h2, h3⟩ := ImpPhase2.dGet?_dictFrom_some id 0 acc key s h
    obtain ⟨h4, h5⟩ := h3 { s with rows := add s.rows }
    rw [h1]
    simp only [Nat.zero_add, h4, h5]
    congr 1
    rw [Arena.bsSet_eq_modify, Arena.modify_of_some _ h2]
    rfl

theorem bsGet_setDefault (acc : List (FKey × Scaffold)) (key : FKey) (proto : Scaffold) (hp : proto.rows = []) :
    (PyRt.bsGet (PyRt.bsSetDefault (dictOf acc) (heapOf acc) key proto).2.1
        (PyRt.bsSetDefault (dictOf acc) (heapOf acc) key proto).2.2).rows
      = (match dGet? acc key with | some s => s.rows | none => []) := by
  unfold PyRt.bsSetDefault dictOf PyRt.bsGet
  simp only [dictFrom_eq, heapOf_eq]
  cases h : dGet? acc key with
  | none =>
    rw [ImpPhase2.dGet?_dictFrom_none 0 acc key h]
    simp [hp]
  | some s =>
    obtain ⟨i, h1, h2, -⟩ := ImpPhase2.dGet?_dictFrom_some id 0 acc key s h
    rw [h1]
    simp [List.getD, h2]

/-- the loop state without the (never changed) arena of left-overs: dict, arena of built scaffolds, the local `gap` -/
abbrev St := List (FKey × Nat) × List Scaffold × Option Row

/-- what one pass of `for scffld in self.scaffolds:` does.  An OverlapResult is appended with the CURRENT value of the local `gap`; a
    left-over re-binds `gap` to the last row `gaps_before_leftover` returned (if any). -/
def stepSrc (store : List Res) (extra : List (Scaffold × Option (Fragment × List Gap))) (jg : Option Gap)
    (x : PyRt.BuiltRef) (s : St) : St :=
  match x with
  | .res sid =>
    let o := getRes store sid
    if o.rows.isEmpty then s
    else
      let p := srcStep s.1 s.2.1 (keyOf (resView o)) (protoOf (resView o))
        (fun built => ImpSmall.appendRowsRow built o.toScaffoldRows s.2.2)
      (p.1, p.2, s.2.2)
  | .lo r =>
    let e := extra.getD r dfltLo
    if e.1.rows.isEmpty then s
    else
      let sd := PyRt.bsSetDefault s.1 s.2.1 (keyOf e.1) (protoOf e.1)
      let p := srcStep s.1 s.2.1 (keyOf e.1) (protoOf e.1) (fun built => built ++ gapsBeforeLeftover jg built e.2 ++ e.1.rows)
      (p.1, p.2, lastOr s.2.2 (gapsBeforeLeftover jg (PyRt.bsGet sd.2.1 sd.2.2).rows e.2))

theorem stepSrc_res_eq (store : List Res) (extra : List (Scaffold × Option (Fragment × List Gap))) (jg : Option Gap) (sid : Nat)
    (dict : List (FKey × Nat)) (heap : List Scaffold) (gap : Option Row) :
    stepSrc store extra jg (.res sid) (dict, heap, gap)
      = if (getRes store sid).rows.isEmpty then (dict, heap, gap)
        else ((srcStep dict heap (keyOf (resView (getRes store sid))) (protoOf (resView (getRes store sid)))
                (fun built => ImpSmall.appendRowsRow built (getRes store sid).toScaffoldRows gap)).1,
              (srcStep dict heap (keyOf (resView (getRes store sid))) (protoOf (resView (getRes store sid)))
                (fun built => ImpSmall.appendRowsRow built (getRes store sid).toScaffoldRows gap)).2, gap) := rfl

theorem stepSrc_lo_eq (store : List Res) (extra : List (Scaffold × Option (Fragment × List Gap))) (jg : Option Gap) (r : Nat)
    (dict : List (FKey × Nat)) (heap : List Scaffold) (gap : Option Row) :
    stepSrc store extra jg (.lo r) (dict, heap, gap)
      = if (extra.getD r dfltLo).1.rows.isEmpty then (dict, heap, gap)
        else ((srcStep dict heap (keyOf (extra.getD r dfltLo).1) (protoOf (extra.getD r dfltLo).1)
                (fun built => built ++ gapsBeforeLeftover jg built (extra.getD r dfltLo).2 ++ (extra.getD r dfltLo).1.rows)).1,
              (srcStep dict heap (keyOf (extra.getD r dfltLo).1) (protoOf (extra.getD r dfltLo).1)
                (fun built => built ++ gapsBeforeLeftover jg built (extra.getD r dfltLo).2 ++ (extra.getD r dfltLo).1.rows)).2,
              lastOr gap (gapsBeforeLeftover jg
                (PyRt.bsGet (PyRt.bsSetDefault dict heap (keyOf (extra.getD r dfltLo).1) (protoOf (extra.getD r dfltLo).1)).2.1
                  (PyRt.bsSetDefault dict heap (keyOf (extra.getD r dfltLo).1) (protoOf (extra.getD r dfltLo).1)).2.2).rows
                (extra.getD r dfltLo).2)) := rfl

theorem stepSrc_res (store : List Res) (extra : List (Scaffold × Option (Fragment × List Gap))) (jg : Option Gap) (sid : Nat)
    (acc : List (FKey × Scaffold)) :
    stepSrc store extra jg (.res sid) (dictOf acc, heapOf acc, jg.map Row.gap)
      = (dictOf (accRes jg acc (getRes store sid)), heapOf (accRes jg acc (getRes store sid)), jg.map Row.gap) := by
  rw [stepSrc_res_eq]
  unfold accRes
  by_cases h : (getRes store sid).rows.isEmpty
  · rw [if_pos h, if_pos h]
  · rw [if_neg h, if_neg h]
    simp only [ImpSmall.appendRowsRow_gap]
    rw [srcStep_fuseStep _ _ _ _ (protoOf_rows _)]

theorem stepSrc_lo (store : List Res) (extra : List (Scaffold × Option (Fragment × List Gap))) (jg : Option Gap) (r : Nat)
    (acc : List (FKey × Scaffold)) (gap : Option Row) :
    ∃ gap', stepSrc store extra jg (.lo r) (dictOf acc, heapOf acc, gap)
      = (dictOf (accLo jg acc (extra.getD r dfltLo)), heapOf (accLo jg acc (extra.getD r dfltLo)), gap') := by
  rw [stepSrc_lo_eq]
  unfold accLo
  by_cases h : (extra.getD r dfltLo).1.rows.isEmpty
  · exact ⟨gap, by rw [if_pos h, if_pos h]⟩
  · rw [if_neg h, if_neg h]
    simp only [srcStep_fuseStep _ _ _ _ (protoOf_rows _)]
    exact ⟨_, rfl⟩

theorem foldl_stepSrc_res (store : List Res) (extra : List (Scaffold × Option (Fragment × List Gap))) (jg : Option Gap)
    (sids : List Nat) (acc : List (FKey × Scaffold)) :
    (sids.map PyRt.BuiltRef.res).foldl (fun s x => stepSrc store extra jg x s) (dictOf acc, heapOf acc, jg.map Row.gap)
      = (dictOf (fuseRefs store extra jg (sids.map .res) acc), heapOf (fuseRefs store extra jg (sids.map .res) acc),
          jg.map Row.gap) := by
  induction sids generalizing acc with
  | nil => rfl
  | cons sid sids ih =>
    simp only [List.map_cons, List.foldl_cons, stepSrc_res, ih]
    rfl

theorem foldl_stepSrc_lo (store : List Res) (extra : List (Scaffold × Option (Fragment × List Gap))) (jg : Option Gap)
    (rs : List Nat) (acc : List (FKey × Scaffold)) (gap : Option Row) :
    ∃ gap', (rs.map PyRt.BuiltRef.lo).foldl (fun s x => stepSrc store extra jg x s) (dictOf acc, heapOf acc, gap)
      = (dictOf (fuseRefs store extra jg (rs.map .lo) acc), heapOf (fuseRefs store extra jg (rs.map .lo) acc), gap') := by
  induction rs generalizing acc gap with
  | nil => exact ⟨gap, rfl⟩
  | cons r rs ih =>
    obtain ⟨g1, h1⟩ := stepSrc_lo store extra jg r acc gap
    obtain ⟨g2, h2⟩ := ih (accLo jg acc (extra.getD r dfltLo)) g1
    exact ⟨g2, by simp only [List.map_cons, List.foldl_cons, h1, h2]; rfl⟩

theorem foldl_stepSrc_ordered (store : List Res) (extra : List (Scaffold × Option (Fragment × List Gap))) (jg : Option Gap)
    (sids rs : List Nat) :
    ∃ gap', (sids.map PyRt.BuiltRef.res ++ rs.map PyRt.BuiltRef.lo).foldl (fun s x => stepSrc store extra jg x s)
        ([], [], jg.map Row.gap)
      = (dictOf (fuseRefs store extra jg (sids.map .res ++ rs.map .lo) []),
         heapOf (fuseRefs store extra jg (sids.map .res ++ rs.map .lo) []), gap') := by
  have h1 := foldl_stepSrc_res store extra jg sids []
  obtain ⟨g, h2⟩ := foldl_stepSrc_lo store extra jg rs (fuseRefs store extra jg (sids.map .res) []) (jg.map Row.gap)
  refine ⟨g, ?_⟩
  rw [List.foldl_append]
  have h0 : (([], [], jg.map Row.gap) : St) = (dictOf [], heapOf [], jg.map Row.gap) := rfl
  rw [h0, h1, h2]
  unfold fuseRefs
  rw [List.foldl_append]

/-- the variables of `for scffld in self.scaffolds`: the local `gap`, the dict, the arena of built scaffolds, the arena of left-overs.
    The ORDER in which the translator carries them (by the text of their type, then by name: `hap_name_scaffold`, `heap_lo`, `heap_b`,
    `gap`) is named here, in `FSt` / `fst4`, and nowhere else -/
abbrev FSt := List (FKey × Nat) × List PyRt.Leftover × List Scaffold × Option Row
abbrev fst4 (gap : Option Row) (dict : List (FKey × Nat)) (heap : List Scaffold) (lo : List PyRt.Leftover) : FSt := (dict, lo, heap, gap)

theorem forIn_fuse {ρ : Type} (step : PyRt.BuiltRef → St → St) (lo0 : List PyRt.Leftover)
    (body : PyRt.BuiltRef → FSt → R (PyRt.Ctl FSt ρ))
    (hbody : ∀ x dict heap gap, body x (fst4 gap dict heap lo0)
      = .ok (.next (fst4 (step x (dict, heap, gap)).2.2 (step x (dict, heap, gap)).1 (step x (dict, heap, gap)).2.1 lo0)))
    (refs : List PyRt.BuiltRef) (dict : List (FKey × Nat)) (heap : List Scaffold) (gap : Option Row) :
    PyRt.forIn refs (fst4 gap dict heap lo0) body
      = .ok (.fell (fst4 (refs.foldl (fun s x => step x s) (dict, heap, gap)).2.2 (refs.foldl (fun s x => step x s) (dict, heap, gap)).1
          (refs.foldl (fun s x => step x s) (dict, heap, gap)).2.1 lo0)) :=
  PyRt.forIn_foldl_enc (fun s : St => fst4 s.2.2 s.1 s.2.1 lo0) (fun s x => step x s) (fun x _ s => hbody x s.1 s.2.1 s.2.2) (dict, heap, gap)

theorem loGet_map_loSrc (extra : List (Scaffold × Option (Fragment × List Gap))) (r : Nat) :
    PyRt.loGet (extra.map loSrc) r = loSrc (extra.getD r dfltLo) := by
  unfold PyRt.loGet
  simp only [List.getD_eq_getElem?_getD, List.getElem?_map]
  cases extra[r]? <;> rfl

theorem loSrc_fst (e : Scaffold × Option (Fragment × List Gap)) : (loSrc e).1 = e.1 := rfl

theorem append_scaffold_eq (s othr : Scaffold) (gap : Option Row) :
    Gen.Imp.Scaffold_append_scaffold s othr gap = .ok { s with rows := ImpSmall.appendRowsRow s.rows othr.rows gap } := by
  rw [C07.append_scaffold_is_source, ImpSmall.appendRowsRow_eq]
  cases gap <;> rfl

theorem appendRowsRow_none (rows othr : List Row) : ImpSmall.appendRowsRow rows othr none = rows ++ othr := rfl

theorem gaps_before_leftover_loSrc (built : Scaffold) (e : Scaffold × Option (Fragment × List Gap)) (jg : Option Gap) :
    Gen.Imp.BuildAssembly_gaps_before_leftover built (loSrc e).2 jg = .ok (gapsBeforeLeftover jg built.rows e.2) :=
  C07.gaps_before_leftover_is_source built e.2 jg

/-- `obj.rows = add(obj.rows)` as the translator emits it (the object is read through the reference first) -/
theorem bsSet_rows_get (heap : List Scaffold) (r : Nat) (add : List Row → List Row) :
    PyRt.bsSet heap r (fun _ => { PyRt.bsGet heap r with rows := add (PyRt.bsGet heap r).rows })
      = PyRt.bsSet heap r (fun sc => { sc with rows := add sc.rows }) := by
  rw [Arena.bsSet_eq_modify, Arena.bsSet_eq_modify]
  exact Arena.modify_const_getD heap r (fun sc => { sc with rows := add sc.rows }) _

/-- the left-over branch on the arena: the gap rows (computed from the object as it was) added, then the rows of the left-over -/
theorem bsSet_lo (heap : List Scaffold) (r : Nat) (gbf : List Row → List Row) (X : List Row) :
    PyRt.bsSet (PyRt.bsSet heap r (fun sc => { sc with rows := sc.rows ++ gbf (PyRt.bsGet heap r).rows })) r
        (fun _ => { PyRt.bsGet (PyRt.bsSet heap r (fun sc => { sc with rows := sc.rows ++ gbf (PyRt.bsGet heap r).rows })) r with
          rows := (PyRt.bsGet (PyRt.bsSet heap r (fun sc => { sc with rows := sc.rows ++ gbf (PyRt.bsGet heap r).rows })) r).rows ++ X })
      = PyRt.bsSet heap r (fun sc => { sc with rows := sc.rows ++ gbf sc.rows ++ X }) := by
  rw [bsSet_rows_get _ _ (fun built => built ++ X)]
  simp only [Arena.bsSet_eq_modify, List.modify_modify_eq]
  refine (Arena.modify_const_getD heap r _ ({ name := [] } : Scaffold)).symm.trans ?_
  exact (Arena.modify_const_getD heap r (fun sc => { sc with rows := sc.rows ++ gbf sc.rows ++ X }) _).symm ▸ rfl

theorem fused_eq_fold (store : List Res) (extra : List (Scaffold × Option (Fragment × List Gap))) (jg : Option Gap)
    (refs : List PyRt.BuiltRef) :
    Gen.Imp.BuildAssembly_scaffolds_fused_by_name store (extra.map loSrc) jg refs
      = .ok (store, (refs.foldl (fun s x => stepSrc store extra jg x s) ([], [], jg.map Row.gap)).2.1,
          (refs.foldl (fun s x => stepSrc store extra jg x s) ([], [], jg.map Row.gap)).1.map (·.2)) := by
  unfold Gen.Imp.BuildAssembly_scaffolds_fused_by_name
  dsimp only
  rw [forIn_fuse (stepSrc store extra jg) (extra.map loSrc) _ ?hb refs]
  case hb =>
    intro x dict heap gap
    cases x with
    | res sid =>
      rw [stepSrc_res_eq]
      simp only [PyRt.brefView, Bool.not_not]
      by_cases h : (getRes store sid).rows.isEmpty
      · rw [if_pos h, if_pos h]
      · rw [if_neg h, if_neg h]
        simp only [C14.to_scaffold_is_source_full, append_scaffold_eq, ok_bind]
        rw [bsSet_rows_get _ _ (fun built => ImpSmall.appendRowsRow built (getRes store sid).toScaffoldRows gap)]
        rfl
    | lo r =>
      rw [stepSrc_lo_eq]
      simp only [PyRt.brefView, loGet_map_loSrc, Bool.not_not, loSrc_fst]
      generalize he : extra.getD r dfltLo = e
      by_cases h : e.1.rows.isEmpty
      · rw [if_pos h, if_pos h]
      · rw [if_neg h, if_neg h]
        simp only [gaps_before_leftover_loSrc, ok_bind]
        rw [forIn_addRows _ ?hb2]
        case hb2 => intros; rfl
        simp only [ok_bind, loGet_map_loSrc, he, loSrc_fst, append_scaffold_eq, appendRowsRow_none]
        rw [bsSet_lo _ _ (fun built => gapsBeforeLeftover jg built e.2)]
        rfl
  simp only [ok_bind]
  rw [PyRt.forIn_foldl (fun s x => s ++ [x]) (fun _ _ _ => rfl)]
  have e : ∀ xs init : List Nat, xs.foldl (fun s x => s ++ [x]) init = init ++ xs := fun xs init => by
    simpa using foldl_append_singleton id xs init
  simp only [ok_bind, e, List.nil_append]

theorem dictOf_values (acc : List (FKey × Scaffold)) : (dictOf acc).map (·.2) = List.range acc.length := by
  unfold dictOf
  rw [dictFrom_eq, ImpPhase2.dictFrom_values, List.range_eq_range']

theorem range_map_bsGet (heap : List Scaffold) : (List.range heap.length).map (PyRt.bsGet heap) = heap :=
  range_map_getD heap _

theorem fused_ordered (store : List Res) (extra : List (Scaffold × Option (Fragment × List Gap))) (jg : Option Gap)
    (sids rs : List Nat) :
    Gen.Imp.BuildAssembly_scaffolds_fused_by_name store (extra.map loSrc) jg
        (sids.map PyRt.BuiltRef.res ++ rs.map PyRt.BuiltRef.lo)
      = .ok (store, (fuseRefs store extra jg (sids.map .res ++ rs.map .lo) []).map (·.2),
          List.range (fuseRefs store extra jg (sids.map .res ++ rs.map .lo) []).length) := by
  obtain ⟨g, hg⟩ := foldl_stepSrc_ordered store extra jg sids rs
  rw [fused_eq_fold, hg]
  simp only [dictOf_values]
  rfl

end AgpTpf.ImpFuse
