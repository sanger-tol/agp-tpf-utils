/-
  A Python dictionary whose values are objects, as the translated source holds it: a dictionary of REFERENCES (`dictFrom`: handed out
  in allocation order) into an arena (`heapOf`), against the model's insertion-ordered dictionary of values.  Used for the Scaffold
  objects of `scaffolds_fused_by_name` (Proofs/ImpFuse.lean) and the Assembly objects of `assemblies_with_scaffolds_fused`
  (Proofs/ImpPhase2.lean).
-/
import AgpTpf.Proofs.Lib.Py
namespace AgpTpf.ImpPhase2

def dictFrom {κ ν : Type} (k : Nat) : List (κ × ν) → List (κ × Nat)
  | [] => []
  | (key, _) :: r => (key, k) :: dictFrom (k + 1) r

def heapOf {κ ν α : Type} (g : ν → α) (acc : List (κ × ν)) : List α := acc.map (fun e => g e.2)

theorem heapOf_length {κ ν α : Type} (g : ν → α) (acc : List (κ × ν)) : (heapOf g acc).length = acc.length := by
  simp [heapOf]

theorem dictFrom_append {κ ν : Type} (k : Nat) (acc : List (κ × ν)) (key : κ) (v : ν) :
    dictFrom k (acc ++ [(key, v)]) = dictFrom k acc ++ [(key, k + acc.length)] := by
  induction acc generalizing k with
  | nil => rfl
  | cons x xs ih =>
    obtain ⟨k', v'⟩ := x
    simp only [List.cons_append, dictFrom, ih, List.length_cons]
    have : k + 1 + xs.length = k + (xs.length + 1) := by omega
    rw [this]

theorem dictFrom_values {κ ν : Type} (k : Nat) (acc : List (κ × ν)) : (dictFrom k acc).map (·.2) = List.range' k acc.length := by
  induction acc generalizing k with
  | nil => rfl
  | cons x xs ih =>
    obtain ⟨k', v'⟩ := x
    simp only [dictFrom, List.map_cons, ih, List.length_cons, List.range'_succ]

theorem dictFrom_keys {κ ν : Type} (k : Nat) (acc : List (κ × ν)) : (dictFrom k acc).map (·.1) = acc.map (·.1) := by
  induction acc generalizing k with
  | nil => rfl
  | cons x xs ih =>
    obtain ⟨k', v'⟩ := x
    simp only [dictFrom, List.map_cons, ih]

theorem dictFrom_congr {κ ν μ : Type} (k : Nat) (acc : List (κ × ν)) (acc' : List (κ × μ)) (h : acc.map (·.1) = acc'.map (·.1)) :
    dictFrom k acc = dictFrom k acc' := by
  have hl : acc.length = acc'.length := by simpa using congrArg List.length h
  rw [List.zip_of_prod (dictFrom_keys k acc) (dictFrom_values k acc),
    List.zip_of_prod (dictFrom_keys k acc') (dictFrom_values k acc'), h, hl]

theorem dGet?_dictFrom_none {κ ν : Type} [DecidableEq κ] (k : Nat) (acc : List (κ × ν)) (key : κ) (h : dGet? acc key = none) :
    dGet? (dictFrom k acc) key = none := by
  rwa [dGet?_none_iff, dictFrom_keys, ← dGet?_none_iff]

theorem dGet?_dictFrom_some {κ ν α : Type} [DecidableEq κ] (g : ν → α) (k : Nat) (acc : List (κ × ν)) (key : κ) (s : ν)
    (h : dGet? acc key = some s) :
    ∃ i, dGet? (dictFrom k acc) key = some (k + i) ∧ (heapOf g acc)[i]? = some (g s) ∧
      ∀ v, heapOf g (dSet acc key v) = (heapOf g acc).set i (g v) ∧ dictFrom k (dSet acc key v) = dictFrom k acc := by
  induction acc generalizing k with
  | nil => simp [dGet?] at h
  | cons x xs ih =>
    obtain ⟨k', v'⟩ := x
    simp only [dGet?] at h
    by_cases hk : k' = key
    · simp only [hk, if_true, Option.some.injEq] at h
      subst h
      refine ⟨0, ?_, ?_, ?_⟩
      · simp [dictFrom, dGet?, hk]
      · simp [heapOf]
      · intro v; simp [dSet, hk, heapOf, dictFrom]
    · simp only [hk, if_false] at h
      obtain ⟨i, h1, h2, h3⟩ := ih (k + 1) h
      refine ⟨i + 1, ?_, ?_, ?_⟩
      · simp only [dictFrom, dGet?, hk, if_false, h1]
        congr 1
        omega
      · simpa [heapOf] using h2
      · intro v
        obtain ⟨h4, h5⟩ := h3 v
        simp only [dSet, hk, if_false, dictFrom, h5]
        simp only [heapOf] at h4 ⊢
        simp [h4]

end AgpTpf.ImpPhase2
