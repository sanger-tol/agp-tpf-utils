/-
  C10, chromosome numbering: `ChrGroup.name_chromosome` on an arbitrary group (`nameGroup_spec`, `nameGroups_spec`),
  `check_groups`, `length_of_first_haplotype`, and `ChrNamer.name_chromosomes` for any `haplotypes_seen` in closed form
  (`nameChromosomes_any`: sort the groups by the first haplotype's length, number them 1..n); with one haplotype key it
  numbers the runs (`nameChromosomes_single`).
-/
import AgpTpf.Model.Remap
import AgpTpf.Proofs.C10Rename
import AgpTpf.Proofs.C10Groups
import AgpTpf.Proofs.C10Runs
import AgpTpf.Proofs.C10GroupsNumber
import AgpTpf.Proofs.C10GroupDict
import AgpTpf.Proofs.C10Build
namespace AgpTpf.C10
open AgpTpf

/-- the suffix a chromosome gets inside its haplotype set: none when it is alone, else the `i`-th letter from `A` -/
def chrLetter (c i : Nat) : Str := if c = 1 then [] else [Char.ofNat (65 + i)]

/-- `multi_chr_list(base, c)[i]` -/
def chrLabel (base : Str) (c i : Nat) : Str := base ++ chrLetter c i

theorem multiChrList_eq (base : Str) (c : Nat) : multiChrList base c = (List.range c).map (chrLabel base c) := by
  unfold multiChrList
  by_cases h : c = 1
  · subst h; simp [chrLabel, chrLetter, List.range_succ]
  · rw [if_neg h]
    apply List.map_congr_left
    intro k _
    simp [chrLabel, chrLetter, h]

theorem multiChrList_length (base : Str) (c : Nat) : (multiChrList base c).length = c := by
  rw [multiChrList_eq]; simp

def hapJobs (chrs : ChrDict) (base : Str) : List Job :=
  (chrs.zip (multiChrList base chrs.length)).map (fun p => (p.1.1, p.2, p.1.2))

def groupJobs (g : GroupData) (prefix_ : Str) (n : Nat) : List Job :=
  g.flatMap (fun hc => hapJobs hc.2 (prefix_ ++ natToStr n))

theorem nameGroup_eq_jobs (fs : List Scaffold) (g : GroupData) (prefix_ : Str) (n : Nat) :
    nameGroup fs g prefix_ n = runJobs (groupJobs g prefix_ n) fs := by
  unfold nameGroup groupJobs runJobs
  rw [List.foldl_flatMap]
  congr 1
  funext fs hc
  unfold hapJobs
  rw [List.foldl_map]
  rfl

theorem hapJobs_ids (chrs : ChrDict) (base : Str) : (hapJobs chrs base).flatMap (·.2.2) = chrIds chrs := by
  unfold hapJobs chrIds
  rw [List.flatMap_map]
  exact (List.flatMap_map Prod.fst (fun c : Str × List Nat => c.2) _).symm.trans
    (by rw [List.map_fst_zip (Nat.le_of_eq (multiChrList_length base chrs.length).symm)])

theorem groupJobs_ids (g : GroupData) (prefix_ : Str) (n : Nat) :
    (groupJobs g prefix_ n).flatMap (·.2.2) = groupIds g := by
  unfold groupJobs groupIds
  rw [List.flatMap_assoc]
  congr 1
  funext hc
  exact hapJobs_ids _ _

theorem mem_hapJobs (chrs : ChrDict) (base : Str) (i : Nat) (hi : i < chrs.length) :
    (chrs[i].1, chrLabel base chrs.length i, chrs[i].2) ∈ hapJobs chrs base := by
  unfold hapJobs
  rw [multiChrList_eq]
  rw [List.mem_map]
  refine ⟨(chrs[i], chrLabel base chrs.length i), ?_, rfl⟩
  rw [List.mem_iff_getElem]
  refine ⟨i, by simpa using hi, ?_⟩
  simp

theorem nameGroup_spec (fs : List Scaffold) (g : GroupData) (prefix_ : Str) (n : Nat) (hnd : (groupIds g).Nodup) :
    (nameGroup fs g prefix_ n).length = fs.length ∧
    (∀ j, j ∉ groupIds g → (nameGroup fs g prefix_ n).getD j default = fs.getD j default) ∧
    (∀ hc ∈ g, ∀ i (hi : i < hc.2.length), ∀ j ∈ hc.2[i].2,
      (nameGroup fs g prefix_ n).getD j default =
        renameScaffold hc.2[i].1 (chrLabel (prefix_ ++ natToStr n) hc.2.length i) (fs.getD j default)) := by
  rw [nameGroup_eq_jobs]
  obtain ⟨a, b, c⟩ := runJobs_spec (groupJobs g prefix_ n) fs
  rw [groupJobs_ids] at b c
  exact ⟨a, b, fun hc hhc i hi j hj => c hnd _ (List.mem_flatMap.2 ⟨hc, hhc, mem_hapJobs hc.2 _ i hi⟩) j hj⟩

def nameGroups (prefix_ : Str) (ps : List (Nat × GroupData)) (fs : List Scaffold) : List Scaffold :=
  ps.foldl (fun fs p => nameGroup fs p.2 prefix_ (p.1 + 1)) fs

def allJobs (prefix_ : Str) (ps : List (Nat × GroupData)) : List Job :=
  ps.flatMap (fun p => groupJobs p.2 prefix_ (p.1 + 1))

theorem nameGroups_eq_jobs (prefix_ : Str) (ps : List (Nat × GroupData)) (fs : List Scaffold) :
    nameGroups prefix_ ps fs = runJobs (allJobs prefix_ ps) fs := by
  unfold nameGroups allJobs
  conv => rhs; unfold runJobs
  rw [List.foldl_flatMap]
  congr 1
  funext fs p
  rw [nameGroup_eq_jobs]; rfl

theorem allJobs_ids (prefix_ : Str) (ps : List (Nat × GroupData)) :
    (allJobs prefix_ ps).flatMap (·.2.2) = ps.flatMap (fun p => groupIds p.2) := by
  unfold allJobs
  rw [List.flatMap_assoc]
  congr 1
  funext p
  exact groupJobs_ids _ _ _

theorem nameGroups_spec (prefix_ : Str) (gs : List GroupData) (fs : List Scaffold)
    (hnd : (gs.flatMap groupIds).Nodup) :
    let fs' := nameGroups prefix_ ((List.range gs.length).zip gs) fs
    fs'.length = fs.length ∧
    (∀ j, j ∉ gs.flatMap groupIds → fs'.getD j default = fs.getD j default) ∧
    (∀ k (hk : k < gs.length), ∀ hc ∈ gs[k], ∀ i (hi : i < hc.2.length), ∀ j ∈ hc.2[i].2,
      fs'.getD j default =
        renameScaffold hc.2[i].1 (chrLabel (prefix_ ++ natToStr (k + 1)) hc.2.length i) (fs.getD j default)) := by
  intro fs'
  obtain ⟨a, b, c⟩ := runJobs_spec (allJobs prefix_ ((List.range gs.length).zip gs)) fs
  rw [← nameGroups_eq_jobs] at a b c
  rw [allJobs_ids, zip_range_flatMap groupIds gs] at b c
  exact ⟨a, b, fun k hk hc hhc i hi j hj => c hnd _ (List.mem_flatMap.2 ⟨(k, gs[k]), mem_zip_range gs k hk,
    List.mem_flatMap.2 ⟨hc, hhc, mem_hapJobs hc.2 _ i hi⟩⟩) j hj⟩

theorem groupsHaveErrors_iff (groups : List GroupData) :
    groupsHaveErrors groups = true ↔
      ∃ g ∈ groups, ∃ h first rest, g = (h, first) :: rest ∧ first.length ≠ 1 := by
  unfold groupsHaveErrors
  rw [List.any_eq_true]
  refine exists_congr fun g => and_congr_right fun _ => ?_
  match g with
  | [] => simp
  | (h, first) :: rest =>
    refine Iff.trans ?_ ⟨fun hne => ⟨h, first, rest, rfl, hne⟩, fun ⟨_, _, _, e, hne⟩ => by cases e; exact hne⟩
    match first with
    | [] | [_] | _ :: _ :: _ => simp

theorem groupsHaveErrors_false_iff (groups : List GroupData) :
    groupsHaveErrors groups = false ↔
      ∀ g ∈ groups, ∀ h first rest, g = (h, first) :: rest → first.length = 1 := by
  rw [← Bool.not_eq_true, groupsHaveErrors_iff]
  simp only [not_exists, not_and, Decidable.not_not]

/-- `length_of_first_haplotype` as a total function (0 where Python raises) -/
def firstLen (fs : List Scaffold) (g : GroupData) : Int :=
  match groupFirstLength fs g with | .ok v => v | .error _ => 0

theorem groupFirstLength_ok (fs : List Scaffold) (g : GroupData) (hne : g ≠ [])
    (h1 : ∀ h first rest, g = (h, first) :: rest → first.length = 1) :
    groupFirstLength fs g = .ok (firstLen fs g) := by
  cases g with
  | nil => exact absurd rfl hne
  | cons p rest =>
    obtain ⟨h, first⟩ := p
    have := h1 h first rest rfl
    match first, this with
    | [(o, ids)], _ => rfl

theorem firstLen_single (fs : List Scaffold) (h o : Str) (ids : List Nat) (rest : GroupData) :
    firstLen fs ((h, [(o, ids)]) :: rest) = sumInts (ids.map (fun i => (fs.getD i default).fragmentsLength)) := rfl

def firstHapLength (fs : List Scaffold) (h1 : Str) (seg : List Entry) : Int :=
  sumInts ((hapEntries h1 seg).map (fun e => (fs.getD e.2 default).fragmentsLength))

theorem firstLen_segGroup (fs : List Scaffold) (h1 : Str) (others : List Str) (seg : List Entry)
    (h : (hapOrigs fs h1 seg).length = 1) :
    firstLen fs (segGroup fs (h1 :: others) seg) = firstHapLength fs h1 seg := by
  obtain ⟨rest, hg⟩ := segGroup_head fs h1 others seg
  match hO : hapOrigs fs h1 seg, h with
  | [o], _ =>
    have hc : hapChrs fs h1 seg = [(o, idsOf fs h1 o seg)] := by unfold hapChrs; rw [hO]; rfl
    rw [hg, hc, firstLen_single]
    have hall : ∀ e ∈ hapEntries h1 seg, origOf fs e.2 = o := by
      intro e he
      obtain ⟨he1, he2⟩ := (mem_hapEntries h1 seg e).1 he
      have : origOf fs e.2 ∈ hapOrigs fs h1 seg := (mem_hapOrigs fs h1 _ seg).2 ⟨e, he1, he2, rfl⟩
      rw [hO] at this
      simpa using this
    have hids : idsOf fs h1 o seg = (hapEntries h1 seg).map (·.2) := by
      unfold idsOf
      rw [List.filter_eq_self.2 (fun e he => by simpa using hall e he)]
    rw [hids, List.map_map]
    rfl

def sortedGroups (fs : List Scaffold) (gs : List GroupData) : List GroupData :=
  stableSort (fun a c => decide (firstLen fs a ≥ firstLen fs c)) gs

theorem sortedGroups_perm (fs : List Scaffold) (gs : List GroupData) : (sortedGroups fs gs).Perm gs :=
  sortByIntKeyDesc_perm _ gs

theorem sortedGroups_sorted (fs : List Scaffold) (gs : List GroupData) :
    (sortedGroups fs gs).Pairwise (fun a b => firstLen fs a ≥ firstLen fs b) := sortByIntKeyDesc_sorted _ gs

theorem sortedGroups_stable (fs : List Scaffold) (gs : List GroupData) (L : Int) :
    (sortedGroups fs gs).filter (fun g => firstLen fs g = L) = gs.filter (fun g => firstLen fs g = L) :=
  sortByIntKeyDesc_stable _ gs L

theorem nameChromosomes_of_groups (prefix_ : Str) (fs : List Scaffold) (haps : List Str) (entries : List Entry)
    (groups : List GroupData) (hb : buildGroups fs haps entries = .ok groups) (hne : ∀ g ∈ groups, g ≠ []) :
    (groupsHaveErrors groups = true → nameChromosomes prefix_ fs haps entries = .error .chrNamer) ∧
    (groupsHaveErrors groups = false →
      nameChromosomes prefix_ fs haps entries =
        .ok (nameGroups prefix_ ((List.range (sortedGroups fs groups).length).zip (sortedGroups fs groups)) fs)) := by
  unfold nameChromosomes
  rw [hb, ok_bind]
  constructor
  · intro he
    simp only [he, if_true]
    rfl
  · intro he
    simp only [he, Bool.false_eq_true, if_false]
    have h1 := (groupsHaveErrors_false_iff groups).1 he
    have hm := mapM_ok (f := fun g => (do let l ← groupFirstLength fs g; pure (l, g) : R (Int × GroupData)))
      (g := fun g => (firstLen fs g, g)) (l := groups)
      (by
        intro g hgm
        rw [groupFirstLength_ok fs g (hne g hgm) (h1 g hgm)]; rfl)
    rw [hm, ok_bind]
    rw [stableSort_map _ _ _ (fun _ _ => rfl), List.map_map]
    have hs : ((fun x : Int × GroupData => x.2) ∘ fun g : GroupData => (firstLen fs g, g)) = id := by
      funext g; rfl
    rw [hs, List.map_id]
    rfl

theorem nameChromosomes_any (prefix_ : Str) (fs : List Scaffold) (h1 : Str) (others : List Str) (entries : List Entry) :
    let G := (segsOf fs (h1 :: others) entries).map (segGroup fs (h1 :: others))
    nameChromosomes prefix_ fs (h1 :: others) entries =
      if entries.all (fun e => truthy (fs.getD e.2 default).originalName) = false then .error .value
      else if groupsHaveErrors G then .error .chrNamer
      else .ok (nameGroups prefix_ ((List.range (sortedGroups fs G).length).zip (sortedGroups fs G)) fs) := by
  intro G
  obtain ⟨hok, hbad⟩ := buildGroups_any fs (h1 :: others) entries
  by_cases hall : entries.all (fun e => truthy (fs.getD e.2 default).originalName) = false
  · rw [if_pos hall]
    obtain ⟨e, he, hf⟩ := List.all_eq_false.1 hall
    unfold nameChromosomes
    rw [hbad ⟨e, he, Bool.not_eq_true _ ▸ hf⟩]; rfl
  · rw [if_neg hall]
    have hg : ∀ e ∈ entries, truthy (fs.getD e.2 default).originalName = true :=
      List.all_eq_true.1 (Bool.not_eq_false _ ▸ hall)
    obtain ⟨h1', h2'⟩ := nameChromosomes_of_groups prefix_ fs _ entries G (hok hg)
      (fun g hgm => by obtain ⟨seg, _, rfl⟩ := List.mem_map.1 hgm; exact segGroup_ne_nil fs h1 others seg)
    by_cases hge : groupsHaveErrors G = true
    · rw [if_pos hge]; exact h1' hge
    · rw [if_neg hge]; exact h2' (Bool.not_eq_true _ ▸ hge)

theorem sortedGroups_mkGroup (fs : List Scaffold) (h : Str) (rs : List Run) :
    sortedGroups fs (rs.map (mkGroup h)) = (sortedRuns fs rs).map (mkGroup h) :=
  stableSort_map _ (mkGroup h) _ (fun _ _ => rfl) rs

theorem nameChromosomes_single (prefix_ : Str) (fs : List Scaffold) (h : Str) (entries : List (Str × Nat))
    (hne : entries ≠ []) (hh : ∀ e ∈ entries, e.1 = h)
    (hg : ∀ e ∈ entries, truthy (fs.getD e.2 default).originalName = true) :
    nameChromosomes prefix_ fs [h] entries =
      .ok (nameRuns prefix_
            ((List.range (sortedRuns fs (groupRuns (origPairs fs entries))).length).zip
              (sortedRuns fs (groupRuns (origPairs fs entries)))) fs) := by
  have hb := buildGroups_single_ok fs h entries hne hh hg
  rw [(nameChromosomes_of_groups prefix_ fs [h] entries _ hb (fun g hgm => by
    obtain ⟨r, _, rfl⟩ := List.mem_map.1 hgm; exact List.cons_ne_nil _ _)).2 (groupsHaveErrors_single h _),
    sortedGroups_mkGroup, zip_range_map]
  unfold nameGroups nameRuns; rw [List.foldl_map]; rfl

end AgpTpf.C10
