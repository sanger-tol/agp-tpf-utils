/-
  C10 uniqueness, part 0: string facts.
    * `<number><letter?><suffix>` never equals `<chromosome-name tag><suffix>` unless the tag is `<digits><one capital>`
    * `isPrefixOf` bookkeeping
-/
import AgpTpf.Model.Remap
import AgpTpf.Proofs.C10GroupsNames
import AgpTpf.Proofs.Lib.Text
namespace AgpTpf.C10U
open AgpTpf

/-- the remainder after the Pretext / tag name: nothing (the chromosome itself) or `_unloc_<k>` -/
def SufOk (suf : Str) : Prop := suf = [] ∨ ∃ k, suf = C10.unlocSuffix k

theorem SufOk.noDigitHd {suf : Str} (h : SufOk suf) : C10.NoDigitHd suf := by
  rcases h with rfl | ⟨k, rfl⟩
  · exact C10.noDigitHd_nil
  · exact C10.noDigitHd_unloc k

/-- a tag of the shape `<digits><ONE more character>` — the shape of `<n><letter>` that `multi_chr_list` generates -/
def isNumLetter (t : Str) : Bool := !(t.takeWhile isDigit).isEmpty && (t.dropWhile isDigit).length == 1

theorem isUpper_not_digit {c : Char} (h : isUpper c = true) : isDigit c = false := by
  cases hd : isDigit c with
  | false => rfl
  | true =>
    have h1 := (isDigit_iff c).1 hd
    unfold isUpper at h
    simp only [Bool.and_eq_true, decide_eq_true_eq] at h
    have : 'A'.toNat ≤ c.toNat := h.1
    have h65 : 'A'.toNat = 65 := by decide
    omega

theorem noDigitHd_dropWhile (t s : Str) (hs : C10.NoDigitHd s) : C10.NoDigitHd (t.dropWhile isDigit ++ s) := by
  have := List.head?_dropWhile_not isDigit t
  cases h : t.dropWhile isDigit with
  | nil => exact hs
  | cons x r => rw [h] at this; intro c hc; cases hc; simpa using this

theorem takeWhile_nil_of_head {c : Char} {r : Str} (h : isDigit c = false) : (c :: r).takeWhile isDigit = [] := by
  rw [List.takeWhile_cons, h]; rfl

/-- of the three shapes `[A-Z]\d*|[IVX_]+|\d+[A-Z]+` of a chromosome-name tag only the last starts with a digit: capitals, at
    least one, follow the digits -/
theorem isChrNameTag_digits {t : Str} (ht : isChrNameTag t = true) (hd : t.takeWhile isDigit ≠ []) :
    t.dropWhile isDigit ≠ [] ∧ ∀ x ∈ t.dropWhile isDigit, isUpper x = true := by
  unfold isChrNameTag at ht
  simp only [Bool.or_eq_true] at ht
  rcases ht with (h1 | h2) | h3
  · cases t with
    | nil => cases h1
    | cons c r =>
      simp only [Bool.and_eq_true] at h1
      exact absurd (takeWhile_nil_of_head (isUpper_not_digit h1.1)) hd
  · cases t with
    | nil => simp at h2
    | cons c r =>
      simp only [Bool.and_eq_true, List.all_cons] at h2
      have hc := h2.2.1
      have : isDigit c = false := by
        simp only [Bool.or_eq_true, decide_eq_true_eq] at hc
        rcases hc with ((rfl | rfl) | rfl) | rfl <;> decide
      exact absurd (takeWhile_nil_of_head this) hd
  · simp only [Bool.and_eq_true, Bool.not_eq_true', List.isEmpty_eq_false_iff] at h3
    exact ⟨h3.1.2, fun x hx => List.all_eq_true.1 h3.2 x hx⟩

/-- a generated autosome name is never a name-tagged chromosome's name, unless the tag is `<digits><one capital>` -/
theorem num_ne_tag (n : Nat) (L suf t suf' : Str) (hL : L = [] ∨ ∃ c, L = [c] ∧ isDigit c = false)
    (hs : SufOk suf) (hs' : SufOk suf') (ht : isChrNameTag t = true) (hnl : isNumLetter t = false) :
    natToStr n ++ L ++ suf ≠ t ++ suf' := by
  intro e
  have hLs : C10.NoDigitHd (L ++ suf) := by
    rcases hL with rfl | ⟨c, rfl, hc⟩
    · exact hs.noDigitHd
    · intro x hx
      cases hx; exact hc
  -- both sides split at the end of their leading digits
  have e' : natToStr n ++ (L ++ suf) = t.takeWhile isDigit ++ (t.dropWhile isDigit ++ suf') := by
    rw [← List.append_assoc, ← List.append_assoc, List.takeWhile_append_dropWhile]; exact e
  obtain ⟨e1, e2⟩ := span_unique isDigit _ _ _ _ (fun _ => isDigit_of_mem_natToStr)
    (fun c hc => List.all_eq_true.1 List.all_takeWhile c hc) hLs (noDigitHd_dropWhile t suf' hs'.noDigitHd) e'
  have hne : t.takeWhile isDigit ≠ [] := e1 ▸ natToStr_ne_nil n
  obtain ⟨hu, hup⟩ := isChrNameTag_digits ht hne
  -- so `t` is `<digits><two capitals or more>`, while the second character of `L ++ suf` is `u` or `_`
  unfold isNumLetter at hnl
  cases hdw : t.dropWhile isDigit with
  | nil => exact hu hdw
  | cons x r =>
    cases r with
    | nil =>
      rw [hdw, List.isEmpty_eq_false_iff.2 hne] at hnl
      cases hnl
    | cons y r' =>
      rw [hdw] at e2 hup
      have hy : isUpper y = true := hup y (by simp)
      have : y = 'u' ∨ y = '_' := by
        rcases hL with rfl | ⟨c, rfl, _⟩ <;> rcases hs with rfl | ⟨k, rfl⟩
        · cases e2
        · exact .inl (List.cons.inj (List.cons.inj e2).2).1.symm
        · cases e2
        · exact .inr (List.cons.inj (List.cons.inj e2).2).1.symm
      rcases this with rfl | rfl <;> cases hy

theorem isPrefixOf_append_self (p x : Str) : p.isPrefixOf (p ++ x) = true :=
  (C10.isPrefixOf_iff p (p ++ x)).2 ⟨x, rfl⟩

theorem isPrefixOf_append_assoc3 (p a b : Str) : p.isPrefixOf (p ++ a ++ b) = true := by
  rw [List.append_assoc]; exact isPrefixOf_append_self p _

end AgpTpf.C10U
