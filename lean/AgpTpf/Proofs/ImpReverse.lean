/-
  Helper definitions and lemmas for the tie of `Scaffold.reverse` (assembly/scaffold.py, translated into
  `Gen.Imp.Scaffold_reverse_imp`, Gen/Imp3.lean) to the model's `Scaffold.reverse` (Model/Basic.lean).

  The source builds NEW Fragment objects (`frag.reverse()` goes through `Fragment.__init__`): every fragment of the result takes
  the next free object id, where the model keeps the ids.  `renumber n rows` is that renumbering, `eraseOids` forgets the ids.
-/
import AgpTpf.Gen.Imp3
import AgpTpf.Properties.C14Imp
import AgpTpf.Proofs.Lib.Rows
namespace AgpTpf.ImpReverse
open AgpTpf

def eraseOidF (f : Fragment) : Fragment := { f with oid := 0 }
def eraseOidRow : Row → Row
  | .frag f => .frag (eraseOidF f)
  | .gap g => .gap g
def eraseOids (s : Scaffold) : Scaffold := { s with rows := s.rows.map eraseOidRow }

/-- what `Fragment.__init__` checks (and so what holds of every Fragment object that was constructed and not mutated by hand) -/
def FragValid (f : Fragment) : Prop := (f.strand = 0 ∨ f.strand = 1 ∨ f.strand = -1) ∧ f.start ≤ f.stop
instance (f : Fragment) : Decidable (FragValid f) := by unfold FragValid; infer_instance
def RowValid : Row → Prop
  | .frag f => FragValid f
  | .gap _ => True
instance (r : Row) : Decidable (RowValid r) := by
  cases r with
  | frag f => exact inferInstanceAs (Decidable (FragValid f))
  | gap g => exact inferInstanceAs (Decidable True)
def RowsValid (s : Scaffold) : Prop := ∀ r ∈ s.rows, RowValid r
instance (s : Scaffold) : Decidable (RowsValid s) := by unfold RowsValid; infer_instance

theorem rowValid_gap (g : Gap) : RowValid (Row.gap g) := trivial
theorem rowValid_frag (f : Fragment) : RowValid (Row.frag f) ↔ FragValid f := Iff.rfl

theorem rowsValid_iff (s : Scaffold) :
    RowsValid s ↔ ∀ f, Row.frag f ∈ s.rows → (f.strand = 0 ∨ f.strand = 1 ∨ f.strand = -1) ∧ f.start ≤ f.stop := by
  constructor
  · intro h f hf; exact h _ hf
  · intro h r hr
    cases r with
    | frag f => exact h f hr
    | gap g => trivial

def renumber (n : Nat) : List Row → List Row
  | [] => []
  | .frag f :: r => .frag { f with oid := n } :: renumber (n + 1) r
  | .gap g :: r => .gap g :: renumber n r

/-- what the source's `reverse()` returns when the next free object id is `n` -/
def reverseFrom (n : Nat) (s : Scaffold) : Scaffold := { s.reverse with rows := renumber n s.reverse.rows }

theorem renumber_erase (n : Nat) (l : List Row) : (renumber n l).map eraseOidRow = l.map eraseOidRow := by
  induction l generalizing n with
  | nil => rfl
  | cons x r ih => cases x <;> simp [renumber, ih, eraseOidRow, eraseOidF]

theorem renumber_of_erase (n : Nat) (l : List Row) : renumber n (l.map eraseOidRow) = renumber n l := by
  induction l generalizing n with
  | nil => rfl
  | cons x r ih => cases x <;> simp [renumber, ih, eraseOidRow, eraseOidF]

theorem renumber_congr (n : Nat) {l l' : List Row} (h : l.map eraseOidRow = l'.map eraseOidRow) : renumber n l = renumber n l' := by
  rw [← renumber_of_erase n l, ← renumber_of_erase n l', h]

theorem renumber_length (n : Nat) (l : List Row) : (renumber n l).length = l.length := by
  have := congrArg List.length (renumber_erase n l)
  simpa using this

theorem erase_rowReverse (r : Row) : eraseOidRow r.reverse = (eraseOidRow r).reverse := by
  cases r <;> rfl

theorem erase_revmap (l : List Row) : (l.reverse.map Row.reverse).map eraseOidRow = ((l.map eraseOidRow).reverse).map Row.reverse := by
  simp only [List.map_reverse, List.map_map]
  congr 2
  funext r; exact erase_rowReverse r

theorem fragmentsOf_erase (l : List Row) : fragmentsOf (l.map eraseOidRow) = (fragmentsOf l).map eraseOidF := by
  induction l with
  | nil => rfl
  | cons x a ih => cases x <;> simp [fragmentsOf, ih, eraseOidRow]

theorem fragmentsOf_renumber_length (n : Nat) (l : List Row) : (fragmentsOf (renumber n l)).length = (fragmentsOf l).length := by
  have h := congrArg (fun x => (fragmentsOf x).length) (renumber_erase n l)
  simpa [fragmentsOf_erase] using h

theorem fragmentsOf_renumber_oids (n : Nat) (l : List Row) :
    (fragmentsOf (renumber n l)).map (·.oid) = List.range' n (fragmentsOf l).length := by
  induction l generalizing n with
  | nil => rfl
  | cons x a ih =>
    cases x with
    | frag f => simp [renumber, fragmentsOf, ih, List.range'_succ]
    | gap g => simp [renumber, fragmentsOf, ih]

theorem fragmentsOf_renumber_erase (n : Nat) (l : List Row) :
    (fragmentsOf (renumber n l)).map eraseOidF = (fragmentsOf l).map eraseOidF := by
  rw [← fragmentsOf_erase, ← fragmentsOf_erase, renumber_erase]

theorem renumber_take (n : Nat) (l : List Row) (i : Nat) : (renumber n l).take i = renumber n (l.take i) := by
  induction l generalizing n i with
  | nil => simp [renumber]
  | cons x a ih =>
    cases i with
    | zero => simp [renumber]
    | succ i => cases x <;> simp [renumber, ih]

theorem renumber_getElem? (n : Nat) (l : List Row) (i : Nat) :
    (renumber n l)[i]? = (l[i]?).map (fun r => match r with
      | .frag f => Row.frag { f with oid := n + (fragmentsOf (l.take i)).length }
      | .gap g => Row.gap g) := by
  induction l generalizing n i with
  | nil => simp [renumber]
  | cons x a ih =>
    cases i with
    | zero => cases x <;> simp [renumber, fragmentsOf]
    | succ i =>
      cases x with
      | frag f =>
        simp only [renumber, List.getElem?_cons_succ, ih, List.take_succ_cons, fragmentsOf, List.length_cons]
        congr 1; funext r; cases r with
        | frag f' => simp only [Row.frag.injEq, Fragment.mk.injEq, and_true]; omega
        | gap g => rfl
      | gap g => simp only [renumber, List.getElem?_cons_succ, ih, List.take_succ_cons, fragmentsOf]

theorem rowValid_reverse (r : Row) : RowValid r.reverse ↔ RowValid r := by
  cases r with
  | frag f => simp only [Row.reverse, RowValid, FragValid, Fragment.reverse]; omega
  | gap g => rfl

theorem rowValid_erase (r : Row) : RowValid (eraseOidRow r) ↔ RowValid r := by
  cases r <;> rfl

theorem allValid_erase (l : List Row) : (∀ r ∈ l.map eraseOidRow, RowValid r) ↔ ∀ r ∈ l, RowValid r := by
  simp [rowValid_erase]

theorem allValid_renumber (n : Nat) (l : List Row) : (∀ r ∈ renumber n l, RowValid r) ↔ ∀ r ∈ l, RowValid r := by
  rw [← allValid_erase, renumber_erase, allValid_erase]

theorem allValid_revmap (l : List Row) : (∀ r ∈ l.reverse.map Row.reverse, RowValid r) ↔ ∀ r ∈ l, RowValid r := by
  simp [rowValid_reverse]

theorem rowsValid_reverseFrom (n : Nat) (s : Scaffold) : RowsValid (reverseFrom n s) ↔ RowsValid s := by
  show (∀ r ∈ renumber n (s.rows.reverse.map Row.reverse), RowValid r) ↔ _
  rw [allValid_renumber, allValid_revmap]; rfl

theorem eraseOids_reverseFrom (n : Nat) (s : Scaffold) : eraseOids (reverseFrom n s) = eraseOids s.reverse := by
  simp only [eraseOids, reverseFrom, renumber_erase]

theorem reverseFrom_fragments_length (n : Nat) (s : Scaffold) : (reverseFrom n s).fragments.length = s.fragments.length := by
  simp only [Scaffold.fragments, reverseFrom, Scaffold.reverse, fragmentsOf_renumber_length, fragmentsOf_reverse_map_reverse,
    List.length_map, List.length_reverse]

theorem reverseFrom_oids (n : Nat) (s : Scaffold) :
    (reverseFrom n s).fragments.map (·.oid) = List.range' n s.fragments.length := by
  simp only [Scaffold.fragments, reverseFrom, Scaffold.reverse, fragmentsOf_renumber_oids, fragmentsOf_reverse_map_reverse,
    List.length_map, List.length_reverse]

/-- `reverse()` keeps name / original_name / original_tags; tag / haplotype / rank are the constructor defaults -/
theorem reverseFrom_reverseFrom (n m : Nat) (s : Scaffold) :
    reverseFrom m (reverseFrom n s) =
      { name := s.name, rows := renumber m s.rows, originalName := s.originalName, originalTags := s.originalTags } := by
  have h : renumber m ((renumber n (s.rows.reverse.map Row.reverse)).reverse.map Row.reverse) = renumber m s.rows := by
    apply renumber_congr
    rw [erase_revmap, renumber_erase, ← erase_revmap, map_reverse_reverse_rows]
  simp only [reverseFrom, Scaffold.reverse, h]

theorem eraseOids_reverse (s : Scaffold) : eraseOids s.reverse = (eraseOids s).reverse := by
  simp only [eraseOids, Scaffold.reverse, erase_revmap]

theorem rows_eq_of_erase_of_oids : ∀ (l l' : List Row), l.map eraseOidRow = l'.map eraseOidRow →
    (fragmentsOf l).map (·.oid) = (fragmentsOf l').map (·.oid) → l = l' := by
  intro l
  induction l with
  | nil => intro l' h _; cases l' with
    | nil => rfl
    | cons y b => simp at h
  | cons x a ih =>
    intro l' h ho
    cases l' with
    | nil => simp at h
    | cons y b =>
      simp only [List.map_cons, List.cons.injEq] at h
      obtain ⟨hxy, hab⟩ := h
      cases x with
      | frag f =>
        cases y with
        | frag f' =>
          simp only [fragmentsOf, List.map_cons, List.cons.injEq] at ho
          have hf : f = f' := by
            cases f; cases f'
            simp only [eraseOidRow, eraseOidF, Row.frag.injEq, Fragment.mk.injEq] at hxy
            simp only [Fragment.mk.injEq]
            exact ⟨ho.1, hxy.2⟩
          rw [hf, ih b hab ho.2]
        | gap g' => simp [eraseOidRow] at hxy
      | gap g =>
        cases y with
        | frag f' => simp [eraseOidRow] at hxy
        | gap g' =>
          simp only [fragmentsOf] at ho
          simp only [eraseOidRow, Row.gap.injEq] at hxy
          rw [hxy, ih b hab ho]

/-- so the two facts `scaffold_reverse_is_source` states about the source's result determine it -/
theorem eq_of_eraseOids_of_oids (r t : Scaffold) (he : eraseOids r = eraseOids t)
    (ho : r.fragments.map (·.oid) = t.fragments.map (·.oid)) : r = t := by
  cases r; cases t
  simp only [eraseOids, Scaffold.mk.injEq] at he
  simp only [Scaffold.fragments] at ho
  simp only [Scaffold.mk.injEq]
  exact ⟨he.1, rows_eq_of_erase_of_oids _ _ he.2.1 ho, he.2.2⟩

theorem rowLength_erase (r : Row) : (eraseOidRow r).length = r.length := by cases r <;> rfl

theorem rowsLength_erase (l : List Row) : rowsLength (l.map eraseOidRow) = rowsLength l := by
  unfold rowsLength
  rw [List.map_map]
  have : Row.length ∘ eraseOidRow = Row.length := by funext r; exact rowLength_erase r
  rw [this]

theorem length_eraseOids (s : Scaffold) : (eraseOids s).length = s.length := rowsLength_erase s.rows

theorem fragmentsLength_eraseOids (s : Scaffold) : (eraseOids s).fragmentsLength = s.fragmentsLength := by
  simp only [Scaffold.fragmentsLength, Scaffold.fragments, eraseOids, fragmentsOf_erase, List.map_map]
  rfl

theorem fragmentsLength_reverse (s : Scaffold) : s.reverse.fragmentsLength = s.fragmentsLength := by
  simp only [Scaffold.fragmentsLength, Scaffold.fragments, Scaffold.reverse, fragmentsOf_reverse_map_reverse, List.map_map]
  have : Fragment.length ∘ Fragment.reverse = Fragment.length := by funext f; rfl
  rw [this, List.map_reverse, sumInts_reverse]

theorem setAt_mid {α : Type} (pre : List α) (y x : α) (r : List α) (k : Int) (hk : k = pre.length) :
    PyRt.setAt (pre ++ y :: r) k x = .ok (pre ++ x :: r) := by
  subst hk
  unfold PyRt.setAt
  have h1 : ¬ ((pre.length : Int) < 0) := by omega
  simp only [h1, if_false, List.length_append, List.length_cons, Int.toNat_natCast]
  split
  · rename_i h
    simp only [false_or] at h
    omega
  · simp

/-- the loop `for i, frag in new.idx_fragments(): new.rows[i] = frag.reverse()`, started when the rows before position `k` (`pre`)
    are done and the next free object id is `n`.  `pk` packs the loop state (whatever order the generated tuple has);
    `hbody` says what one pass does and is discharged at the use site by `rfl`. -/
theorem forIn_reverse {σ ρ : Type} (pk : Scaffold → Nat → σ) (body : Int × Fragment → σ → R (PyRt.Ctl σ ρ))
    (hbody : ∀ (i : Int) (frag : Fragment) (sc : Scaffold) (n : Nat), body (i, frag) (pk sc n) =
      ((Gen.Imp.Fragment_reverse frag n) >>= fun kc => (PyRt.setAt sc.rows i (Row.frag kc)) >>= fun upd =>
        (.ok (.next (pk { sc with rows := upd } (n + 1))) : R (PyRt.Ctl σ ρ))))
    (rest : List Row) : ∀ (pre : List Row) (k : Int) (sc : Scaffold) (n : Nat), k = pre.length → sc.rows = pre ++ rest →
      PyRt.forIn (PyRt.idxFragmentsFrom k rest) (pk sc n) body =
        if (∀ r ∈ rest, RowValid r) then
          .ok (.fell (pk { sc with rows := pre ++ renumber n (rest.map Row.reverse) } (n + (fragmentsOf rest).length)))
        else .error .value := by
  induction rest with
  | nil =>
    intro pre k sc n _ hrows
    have : ({ sc with rows := pre ++ renumber n [] } : Scaffold) = sc := by
      cases sc; simp_all [renumber]
    simp [PyRt.idxFragmentsFrom, PyRt.forIn, this, fragmentsOf]
  | cons x r ih =>
    intro pre k sc n hk hrows
    cases x with
    | gap g =>
      have h := ih (pre ++ [Row.gap g]) (k + 1) sc n (by simp [hk]) (by simp [hrows])
      simp only [PyRt.idxFragmentsFrom, h, List.forall_mem_cons, rowValid_gap, true_and, List.map_cons, Row.reverse, renumber,
        fragmentsOf, List.append_assoc, List.singleton_append]
    | frag f =>
      simp only [PyRt.idxFragmentsFrom, PyRt.forIn, hbody, C14.fragment_reverse_source_cases, List.forall_mem_cons]
      by_cases hv : FragValid f
      · have hv' : (f.strand = 0 ∨ f.strand = 1 ∨ f.strand = -1) ∧ f.start ≤ f.stop := hv
        have hv'' : RowValid (Row.frag f) := hv
        rw [if_pos hv', hrows]
        simp only [bind, Except.bind, setAt_mid pre (Row.frag f) _ r k hk, hv'', true_and]
        have h := ih (pre ++ [Row.frag { f.reverse with oid := n }]) (k + 1)
          { sc with rows := pre ++ Row.frag { f.reverse with oid := n } :: r } (n + 1) (by simp [hk]) (by simp)
        rw [h]
        simp only [List.map_cons, Row.reverse, renumber, fragmentsOf, List.append_assoc, List.singleton_append, List.length_cons]
        have e : n + 1 + (fragmentsOf r).length = n + ((fragmentsOf r).length + 1) := by omega
        rw [e]
      · have hv' : ¬ ((f.strand = 0 ∨ f.strand = 1 ∨ f.strand = -1) ∧ f.start ≤ f.stop) := hv
        have hv'' : ¬ RowValid (Row.frag f) := hv
        rw [if_neg hv']
        simp only [bind, Except.bind, hv'', false_and, if_false]

/-- the loop state of the generated `Scaffold_reverse_imp`, components in the generated order (by the Lean text of the type, then by
    variable name: `(nextOid, new)`): the one place to edit if the translator permutes the state tuple -/
abbrev pkState (sc : Scaffold) (n : Nat) : Nat × Scaffold := (n, sc)

/-- the error is the ValueError of the `Fragment.__init__` call inside `frag.reverse()`; the row assignments never raise -/
theorem reverse_imp_cases (n : Nat) (s : Scaffold) :
    Gen.Imp.Scaffold_reverse_imp n s =
      if RowsValid s then .ok (n + s.fragments.length, reverseFrom n s) else .error .value := by
  unfold Gen.Imp.Scaffold_reverse_imp PyRt.idxFragments
  simp only []
  rw [forIn_reverse pkState _ _ s.rows.reverse [] 0 _ n rfl rfl]
  · have hv : (∀ r ∈ s.rows.reverse, RowValid r) ↔ RowsValid s := by simp [RowsValid]
    have hl : (fragmentsOf s.rows.reverse).length = s.fragments.length := by
      simp [fragmentsOf_reverse, Scaffold.fragments]
    by_cases h : RowsValid s
    · rw [if_pos (hv.2 h), if_pos h, hl]; rfl
    · rw [if_neg (fun c => h (hv.1 c)), if_neg h]; rfl
  · intro i frag sc n; rfl

def exRev : Scaffold :=
  { name := ['s'], tag := some ['t'], haplotype := some ['h'], rank := 2, originalName := some ['o'], originalTags := some [['x']],
    rows := [.frag { oid := 1, name := ['a'], start := 1, stop := 4, strand := 1, tags := [['p']] }, .gap { length := 7, gapType := ['g'] },
             .frag { oid := 2, name := ['b'], start := 3, stop := 9, strand := -1 }, .gap { length := 2, gapType := ['u'] },
             .frag { oid := 3, name := ['c'], start := 5, stop := 5, strand := 0 }] }

/-- a fragment with strand 2 (only reachable by mutating a Fragment by hand): the source raises ValueError, the model does not -/
def exRevBad : Scaffold :=
  { name := ['s'], rows := [.frag { oid := 1, name := ['a'], start := 1, stop := 4, strand := 1 }, .gap { length := 7, gapType := ['g'] },
                            .frag { oid := 2, name := ['b'], start := 3, stop := 9, strand := 2 }] }

end AgpTpf.ImpReverse
