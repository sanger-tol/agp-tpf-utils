/-
  C09 routing, part 3 (R3): from the fused scaffolds to the output assemblies, and back.
  The output assemblies are cut from the fused scaffolds, renamed at most (`assembliesFused_noName`), along the dict of the
  split loop (`splitLoop_get`): fused scaffold `s` sits in the output assembly keyed `routeKey s.tag s.haplotype`, and every
  scaffold of every output assembly is such an `s`.
-/
import AgpTpf.Model.Remap
import AgpTpf.Properties.C09
namespace AgpTpf.C09
open AgpTpf

/-- the key of the output assembly a scaffold with this tag and haplotype is filed under: the tag if truthy, else the
    haplotype if truthy, else `none` (the primary assembly) -/
def routeKey (tag hap : Option Str) : Option Str :=
  if truthy tag then tag else if truthy hap then hap else none

theorem asmKey_fst (s : Scaffold) : (asmKey s).1 = routeKey s.tag s.haplotype := by
  unfold asmKey routeKey
  split
  · rfl
  · split <;> rfl

theorem noName_fields {s s' : Scaffold} (h : noName s' = noName s) :
    s'.rows = s.rows ∧ s'.tag = s.tag ∧ s'.haplotype = s.haplotype ∧ s'.rank = s.rank ∧
    s'.originalName = s.originalName ∧ s'.originalTags = s.originalTags := by
  have h1 := congrArg Scaffold.rows h
  have h2 := congrArg Scaffold.tag h
  have h3 := congrArg Scaffold.haplotype h
  have h4 := congrArg Scaffold.rank h
  have h5 := congrArg Scaffold.originalName h
  have h6 := congrArg Scaffold.originalTags h
  exact ⟨h1, h2, h3, h4, h5, h6⟩

/-- **Every fused scaffold sits in the output assembly keyed by `routeKey`, every output scaffold is a fused scaffold.**
    `noName s' = noName s`: the output scaffold `s'` is `s` up to renaming (chromosome prefix / chromosome names). -/
theorem assembliesFused_route (input : List Scaffold) (b : Build) (outs : List OutAsm) (stats : Stats)
    (h : assembliesFused input b = .ok (outs, stats)) :
    (outs.map (·.key)).Nodup ∧
    (∀ s ∈ fuseByName b, ∃ a ∈ outs, a.key = routeKey s.tag s.haplotype ∧ ∃ s' ∈ a.scaffolds, noName s' = noName s) ∧
    (∀ a ∈ outs, ∀ s' ∈ a.scaffolds, ∃ s ∈ fuseByName b, noName s' = noName s ∧ a.key = routeKey s.tag s.haplotype) := by
  obtain ⟨fs2, hfs2, rfl, _⟩ := assembliesFused_noName h
  have hget : ∀ i, noName (fs2.getD i default) = noName ((fuseByName b).getD i default) :=
    fun i => getD_of_map_eq noName default hfs2 i
  have g1 := splitLoop_keys_nodup b.namer.autosomePrefix (fuseByName b)
  refine ⟨?_, ?_, ?_⟩
  · unfold outsOf; rw [List.map_map]; exact g1
  · intro s hs
    obtain ⟨sid, hsid, rfl⟩ := List.getElem_of_mem hs
    have hsd : (fuseByName b).getD sid default = (fuseByName b)[sid] := by
      rw [List.getD_eq_getElem?_getD, List.getElem?_eq_getElem hsid]; rfl
    obtain ⟨c, ids, _, hd, _, hin, _⟩ := assembly_key b.namer.autosomePrefix (fuseByName b) sid hsid
    rw [hsd] at hd
    exact ⟨_, List.mem_map_of_mem (dGet?_mem hd), asmKey_fst _, fs2.getD sid default,
      mem_smartSorted.2 (List.mem_map.2 ⟨sid, hin, rfl⟩), by rw [hget, hsd]⟩
  · intro a ha s' hs'
    obtain ⟨⟨k, c, ids⟩, ha0, rfl⟩ := List.mem_map.mp ha
    obtain ⟨sid, hsid, rfl⟩ := List.mem_map.mp (mem_smartSorted.1 hs')
    rw [(splitLoop_get_some (dGet?_of_mem_nodup g1 ha0)).1] at hsid
    obtain ⟨hr, hkk⟩ := mem_idsOf.1 hsid
    refine ⟨_, Pipeline.getD_mem hr, hget sid, ?_⟩
    show k = _
    rw [← asmKey_fst]; exact hkk.symm

theorem assembliesFused_curated (input : List Scaffold) (b : Build) (outs : List OutAsm) (stats : Stats)
    (h : assembliesFused input b = .ok (outs, stats)) (hnc : NoClash (fuseByName b)) :
    ∀ s ∈ fuseByName b, ∀ a ∈ outs, a.key = routeKey s.tag s.haplotype → a.curated = !truthy s.tag := by
  intro s hs a ha hk
  obtain ⟨_, _, rfl, _⟩ := assembliesFused_ok h
  obtain ⟨⟨k, c, ids⟩, ha0, rfl⟩ := List.mem_map.mp ha
  obtain ⟨sid, hsid, rfl⟩ := List.getElem_of_mem hs
  have hsd : (fuseByName b).getD sid default = (fuseByName b)[sid] := by
    rw [List.getD_eq_getElem?_getD, List.getElem?_eq_getElem hsid]; rfl
  -- the entry under `routeKey …` is the one `assembly_key_noclash` describes
  have hd : dGet? (asmsOf b.namer.autosomePrefix (fuseByName b)) (routeKey (fuseByName b)[sid].tag (fuseByName b)[sid].haplotype) =
      some (c, ids) := by
    have hk' : k = routeKey (fuseByName b)[sid].tag (fuseByName b)[sid].haplotype := hk
    rw [← hk']
    exact dGet?_of_mem_nodup (splitLoop_keys_nodup _ _) ha0
  obtain ⟨n1, n2, n3⟩ := assembly_key_noclash b.namer.autosomePrefix (fuseByName b) sid hsid hnc
  simp only [hsd] at n1 n2 n3
  show c = _
  unfold routeKey at hd
  by_cases ht : truthy (fuseByName b)[sid].tag = true
  · obtain ⟨_, hd', _⟩ := n1 ht
    rw [if_pos ht, hd'] at hd
    cases hd; rw [ht]; rfl
  · have htf : truthy (fuseByName b)[sid].tag = false := by simpa using ht
    rw [if_neg ht] at hd
    by_cases hh : truthy (fuseByName b)[sid].haplotype = true
    · obtain ⟨_, hd', _⟩ := n2 ht hh
      rw [if_pos hh, hd'] at hd
      cases hd; rw [htf]; rfl
    · obtain ⟨_, hd', _⟩ := n3 ht hh
      rw [if_neg hh, hd'] at hd
      cases hd; rw [htf]; rfl

end AgpTpf.C09
