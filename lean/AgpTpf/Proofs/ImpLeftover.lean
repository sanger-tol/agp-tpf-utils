/-
  T1c helper lemmas for `Properties/C07ImpLeftover.lean`: `BuildAssembly.input_predecessor` / `BuildAssembly.gaps_before_leftover`
  (assembly/build_assembly.py) against the model's `inputPredecessor` / `gapsBeforeLeftover` (Model/Remap.lean).

  `PyRt.sliceRevFrom l (i - 1)` is `(l.take i).reverse`; `predToRows` / `predOfRows` convert between the model's
  `(Fragment, List Gap)` and the source's row objects; the backwards walk, a `PyRt.forIn` whose body prepends Gap rows and returns
  at the first Fragment row, is `inputPredecessor.go` (the body is a parameter: only what one pass returns is asked);
  `gapsBeforeLeftoverRows` is `gaps_before_leftover` spelled out for an arbitrary stored `(row, rows)` pair.
  Nothing here mentions a generated term.
-/
import AgpTpf.Model.Remap
import AgpTpf.Proofs.ImpRef
namespace AgpTpf.ImpLeftover
open AgpTpf
open AgpTpf.ImpFound (Ref forIn_keeps)

theorem sliceRevFrom_pred {α : Type} (l : List α) (i : Nat) (h : i ≠ 0) :
    PyRt.sliceRevFrom l ((i : Int) - 1) = (l.take i).reverse := by
  unfold PyRt.sliceRevFrom
  have h1 : ¬ ((i : Int) - 1 < 0) := by omega
  have h2 : ((i : Int) - 1).toNat + 1 = i := by omega
  simp only [h1, if_false, h2]
  rw [← List.take_eq_take_min]

/-- `l[i-1::-1]` for a negative `i`: Python counts from the end, so it is the first `len + i` rows backwards (none if `-i ≥ len`) -/
theorem sliceRevFrom_pred_neg {α : Type} (l : List α) (i : Int) (h : i < 0) :
    PyRt.sliceRevFrom l (i - 1) = (l.take (i + (l.length : Int)).toNat).reverse := by
  unfold PyRt.sliceRevFrom
  have h1 : i - 1 < 0 := by omega
  simp only [h1, if_true]
  by_cases h2 : i - 1 + (l.length : Int) < 0
  · have : (i + (l.length : Int)).toNat = 0 := by omega
    simp [h2, this]
  · have : (i - 1 + (l.length : Int)).toNat + 1 = (i + (l.length : Int)).toNat := by omega
    simp only [h2, if_false, this]
    rw [← List.take_eq_take_min]

/-- what `input_predecessor` returns: the Fragment as a row object, the gaps as rows -/
def predToRows (p : Fragment × List Gap) : Row × List Row := (Row.frag p.1, p.2.map Row.gap)

def gapsOfRows : List Row → Option (List Gap)
  | [] => some []
  | .gap g :: r => (gapsOfRows r).map (g :: ·)
  | .frag _ :: _ => none

def predOfRows (q : Row × List Row) : Option (Fragment × List Gap) :=
  match q.1 with
  | .frag f => (gapsOfRows q.2).map (fun gs => (f, gs))
  | .gap _ => none

theorem gapsOfRows_map (gs : List Gap) : gapsOfRows (gs.map Row.gap) = some gs := by
  induction gs with
  | nil => rfl
  | cons g gs ih => simp [gapsOfRows, ih]

theorem map_of_gapsOfRows (rs : List Row) (gs : List Gap) (h : gapsOfRows rs = some gs) : gs.map Row.gap = rs := by
  induction rs generalizing gs with
  | nil => simp [gapsOfRows] at h; subst h; rfl
  | cons a rs ih =>
    cases a with
    | frag f => simp [gapsOfRows] at h
    | gap g =>
      simp only [gapsOfRows, Option.map_eq_some_iff] at h
      obtain ⟨gs', h1, rfl⟩ := h
      simp [ih gs' h1]

theorem predOfRows_predToRows (p : Fragment × List Gap) : predOfRows (predToRows p) = some p := by
  simp [predOfRows, predToRows, gapsOfRows_map]

theorem predToRows_inj (p q : Fragment × List Gap) (h : predToRows p = predToRows q) : p = q := by
  have := congrArg predOfRows h
  simpa [predOfRows_predToRows] using this

theorem predToRows_predOfRows (q : Row × List Row) (p : Fragment × List Gap) (h : predOfRows q = some p) : predToRows p = q := by
  obtain ⟨r, rs⟩ := q
  cases r with
  | gap g => simp [predOfRows] at h
  | frag f =>
    simp only [predOfRows, Option.map_eq_some_iff] at h
    obtain ⟨gs, hgs, rfl⟩ := h
    simp [predToRows, map_of_gapsOfRows rs gs hgs]

theorem forIn_walk_eq (body : Row → List Row → R (PyRt.Ctl (List Row) (Option (Row × List Row))))
    (hgap : ∀ g gaps, body (.gap g) gaps = .ok (.next (Row.gap g :: gaps)))
    (hfrag : ∀ f gaps, body (.frag f) gaps = .ok (.ret (some (Row.frag f, gaps))))
    (K : PyRt.Done (List Row) (Option (Row × List Row)) → R (Option (Row × List Row)))
    (hret : ∀ r, K (.returned r) = .ok r) (hfell : ∀ s, K (.fell s) = .ok none) (l : List Row) :
    (PyRt.forIn l [] body >>= K) = .ok ((inputPredecessor.go [] l).map predToRows) := by
  have key : Ref (fun d v => K d = .ok v) (PyRt.forIn l [] body) (.ok ((inputPredecessor.go [] l).map predToRows)) := by
    refine forIn_keeps _ _ body (fun ys s => ∃ acc : List Gap, s = acc.map Row.gap ∧
      (inputPredecessor.go acc ys).map predToRows = (inputPredecessor.go [] l).map predToRows) ?_ ?_ l [] ⟨[], rfl, rfl⟩
    · rintro _ ⟨acc, rfl, he⟩; exact ⟨_, rfl, (hfell _).trans (congrArg _ he)⟩
    · rintro x ys _ ⟨acc, rfl, he⟩
      cases x with
      | gap g => rw [hgap]; exact ⟨g :: acc, rfl, he⟩
      | frag f => rw [hfrag]; exact ⟨_, rfl, (hret _).trans (congrArg _ he)⟩
  obtain ⟨d, hd, hk⟩ := key
  rw [hd]; exact hk

theorem dflt_eq (jg : Option Gap) :
    (jg.toList).map Row.gap = (match jg with | some g => [Row.gap g] | none => []) := by
  cases jg <;> rfl

/-- `gaps_before_leftover(build_scffld, scffld)` spelled out for whatever `scffld.input_predecessor` holds: `prev` is a row object whose
    `name` / `strand` / `start` / `end` are read only after `isinstance(last, Fragment)` succeeded — AttributeError if it is a Gap —
    and `gaps` are returned as they are -/
def gapsBeforeLeftoverRows (joinGap : Option Gap) (built : List Row) (pred : Option (Row × List Row)) : R (List Row) :=
  if built.isEmpty then .ok []
  else
    match pred, built.reverse with
    | some (prev, gaps), Row.frag last :: _ =>
      match prev with
      | Row.gap _ => .error .attribute
      | Row.frag prev =>
        if last.name = prev.name ∧ last.strand = prev.strand ∧
           (if prev.strand = -1 then last.start else last.stop) = (if prev.strand = -1 then prev.start else prev.stop)
        then .ok gaps else .ok (joinGap.toList.map Row.gap)
    | _, _ => .ok (joinGap.toList.map Row.gap)

theorem gapsBeforeLeftoverRows_predToRows (joinGap : Option Gap) (built : List Row) (pred : Option (Fragment × List Gap)) :
    gapsBeforeLeftoverRows joinGap built (pred.map predToRows) = .ok (gapsBeforeLeftover joinGap built pred) := by
  unfold gapsBeforeLeftoverRows gapsBeforeLeftover
  cases built.isEmpty with
  | true => rfl
  | false =>
    cases pred with
    | none => cases joinGap <;> rfl
    | some p =>
      cases built.reverse with
      | nil => cases joinGap <;> rfl
      | cons x r =>
        cases x with
        | gap g => cases joinGap <;> rfl
        | frag last =>
          cases joinGap <;> exact (apply_ite Except.ok _ _ _).symm

end AgpTpf.ImpLeftover
