/-
  C11: scaffold reversal at set level, adjacency (contig-end pair) reading of the junction sets.
-/
import AgpTpf.Proofs.C11Stats
namespace AgpTpf.C11
open AgpTpf

theorem junctionSet_congr (s t : Scaffold) (h : s.fragments = t.fragments) : s.junctionSet = t.junctionSet := by
  rw [junctionSet_eq_map, junctionSet_eq_map, h]

theorem junctionSet_reverse_ok (s : Scaffold) (S : List Junction) (h : s.junctionSet = .ok S) :
    ∃ S', s.reverse.junctionSet = .ok S' ∧ S'.Perm S ∧ ∀ j, j ∈ S' ↔ j ∈ S := by
  obtain ⟨js, hjs, rfl⟩ := (junctionSet_ok_iff s S).1 h
  have hm : ∀ j, j ∈ js.reverse.foldl sAdd [] ↔ j ∈ js.foldl sAdd [] := fun j => by
    rw [mem_foldl_sAdd, mem_foldl_sAdd, List.mem_reverse]
  refine ⟨_, by rw [junctionSet_reverse, hjs]; rfl, ?_, hm⟩
  exact (List.perm_ext_iff_of_nodup (nodup_foldl_sAdd _ List.nodup_nil) (nodup_foldl_sAdd _ List.nodup_nil)).2 hm

theorem junctionIn_iff (scs : List Scaffold) (j : Junction) :
    JunctionIn scs j ↔ ∃ sc ∈ scs, ∃ p ∈ adjPairs sc.fragments, junctionTuple p.1 p.2 = .ok j :=
  exists_congr fun _ => and_congr_right fun _ =>
    ⟨fun ⟨pre, a, b, post, e, h⟩ => ⟨(a, b), mem_adjPairs.2 ⟨pre, post, e⟩, h⟩,
     fun ⟨p, hp, h⟩ => let ⟨pre, post, e⟩ := mem_adjPairs.1 hp; ⟨pre, p.1, p.2, post, e, h⟩⟩

theorem junctionIn_reverse (s : Scaffold) (j : Junction) : JunctionIn [s.reverse] j ↔ JunctionIn [s] j := by
  simp only [junctionIn_iff, List.mem_singleton, exists_eq_left, Scaffold.reverse_fragments, adjPairs_map, adjPairs_reverse,
    List.map_map]
  constructor
  · rintro ⟨_, hp, h⟩
    obtain ⟨q, hq, rfl⟩ := List.mem_map.1 hp
    exact ⟨q, List.mem_reverse.1 hq, (junctionTuple_reverse_any q.1 q.2).symm.trans h⟩
  · rintro ⟨q, hq, h⟩
    exact ⟨_, List.mem_map.2 ⟨q, List.mem_reverse.2 hq, rfl⟩, (junctionTuple_reverse_any q.1 q.2).trans h⟩

def RevRel (s s' : Scaffold) : Prop := s' = s ∨ s' = s.reverse

def RevEquiv (scs scs' : List Scaffold) : Prop :=
  (∀ s ∈ scs, ∃ s' ∈ scs', RevRel s s') ∧ (∀ s' ∈ scs', ∃ s ∈ scs, RevRel s s')

theorem junctionIn_singleton (scs : List Scaffold) (j : Junction) :
    JunctionIn scs j ↔ ∃ s ∈ scs, JunctionIn [s] j := by
  unfold JunctionIn
  simp only [List.mem_singleton, exists_eq_left]

theorem junctionIn_revRel (s s' : Scaffold) (h : RevRel s s') (j : Junction) :
    JunctionIn [s'] j ↔ JunctionIn [s] j := by
  rcases h with rfl | rfl
  · exact Iff.rfl
  · exact junctionIn_reverse s j

theorem junctionIn_revEquiv (scs scs' : List Scaffold) (h : RevEquiv scs scs') (j : Junction) :
    JunctionIn scs' j ↔ JunctionIn scs j := by
  rw [junctionIn_singleton scs, junctionIn_singleton scs']
  constructor
  · rintro ⟨s', hs', hj⟩
    obtain ⟨s, hs, hr⟩ := h.2 s' hs'
    exact ⟨s, hs, (junctionIn_revRel s s' hr j).mp hj⟩
  · rintro ⟨s, hs, hj⟩
    obtain ⟨s', hs', hr⟩ := h.1 s hs
    exact ⟨s', hs', (junctionIn_revRel s s' hr j).mpr hj⟩

theorem pairsOk_reverse (s : Scaffold) : PairsOk s.reverse.fragments ↔ PairsOk s.fragments := by
  rw [← junctionSet_ok_pairsOk, ← junctionSet_ok_pairsOk, junctionSet_reverse, junctionSet_eq_map]
  cases junctionsOfFrags s.fragments <;> simp [Except.map]

theorem allOk_revEquiv {scs scs' : List Scaffold} (h : RevEquiv scs scs') (hok : AllOk scs) : AllOk scs' := by
  intro s' hs'
  obtain ⟨s, hs, hr⟩ := h.2 s' hs'
  rcases hr with rfl | rfl
  · exact hok _ hs
  · exact (pairsOk_reverse _).2 (hok _ hs)

theorem sDiff_length_congr {α} [DecidableEq α] {s t s' t' : List α} (hs : s.Nodup) (hs' : s'.Nodup)
    (e1 : ∀ x, x ∈ s' ↔ x ∈ s) (e2 : ∀ x, x ∈ t' ↔ x ∈ t) : (sDiff s' t').length = (sDiff s t).length :=
  ((List.perm_ext_iff_of_nodup (nodup_sDiff _ hs') (nodup_sDiff _ hs)).2 fun x => by
    rw [mem_sDiff, mem_sDiff, e1, e2]).length_eq

theorem makeStats_ok_iff (input : List Scaffold) (outs : List OutAsm) (cuts : Int) :
    (∃ st, makeStats input outs cuts = .ok st) ↔
      (∀ sc ∈ input, ∃ S, sc.junctionSet = .ok S) ∧
      (∀ a ∈ outs, ∀ sc ∈ a.scaffolds, ∃ S, sc.junctionSet = .ok S) := by
  simp only [junctionSet_ok_pairsOk]
  rw [makeStats_eq_statsOf, ite_ok_iff]

/-- the unordered contig-end pair `p` is an adjacency of one of the scaffolds -/
def AdjacencyIn (scs : List Scaffold) (p : End × End) : Prop :=
  ∃ sc ∈ scs, ∃ pre a b post, sc.fragments = pre ++ a :: b :: post ∧ SameAdj (facingEnds a b) p

theorem junctionIn_encode_iff (scs : List Scaffold) (hs : AllOk scs) (p : End × End) :
    JunctionIn scs (encodeAdj p) ↔ AdjacencyIn scs p := by
  refine exists_congr fun sc => and_congr_right fun hsc => exists_congr fun pre => exists_congr fun a =>
    exists_congr fun b => exists_congr fun post => and_congr_right fun e => ?_
  obtain ⟨ha, hb⟩ := (pairsOk_iff _).1 (hs sc hsc) pre a b post e
  rw [junctionTuple_eq_encodeAdj a b ha hb]
  exact ⟨fun ht => encodeAdj_inj (Except.ok.inj ht), fun hsame => by rw [encodeAdj_congr hsame]⟩

theorem junctionIn_encoded (scs : List Scaffold) (hs : AllOk scs) (j : Junction) (h : JunctionIn scs j) :
    encodeAdj (decodeAdj j) = j := by
  obtain ⟨sc, hsc, pre, a, b, post, e, ht⟩ := h
  obtain ⟨ha, hb⟩ := (pairsOk_iff _).1 (hs sc hsc) pre a b post e
  rw [junctionTuple_eq_encodeAdj a b ha hb] at ht
  cases ht
  exact encodeAdj_congr (decodeAdj_encodeAdj _)

theorem count_adjacencies (JI JO : Junction → Prop) (AI AO : End × End → Prop)
    (hI : ∀ p, JI (encodeAdj p) ↔ AI p) (hO : ∀ p, JO (encodeAdj p) ↔ AO p)
    (hpre : ∀ j, JI j → encodeAdj (decodeAdj j) = j)
    (B : List Junction) (hB : B.Nodup) (hmem : ∀ j, j ∈ B ↔ JI j ∧ ¬ JO j) :
    ∃ ps : List (End × End), ps.length = B.length ∧ ps.Pairwise (fun p q => ¬ SameAdj p q) ∧
      ∀ p, (∃ q ∈ ps, SameAdj q p) ↔ AI p ∧ ¬ AO p := by
  have hps : (B.map decodeAdj).map encodeAdj = B := by
    rw [List.map_map]
    exact (List.map_congr_left fun j hj => hpre j ((hmem j).1 hj).1).trans (List.map_id _)
  generalize B.map decodeAdj = ps at hps
  subst hps
  refine ⟨ps, by simp, ?_, ?_⟩
  · rw [List.nodup_iff_pairwise_ne, List.pairwise_map] at hB
    exact hB.imp (fun hne hsame => hne (encodeAdj_congr hsame))
  · intro p
    constructor
    · rintro ⟨q, hq, hsame⟩
      have := (hmem (encodeAdj q)).mp (List.mem_map_of_mem hq)
      rw [encodeAdj_congr hsame, hI, hO] at this
      exact this
    · intro h
      rw [← hI, ← hO] at h
      have := (hmem (encodeAdj p)).mpr h
      obtain ⟨q, hq, he⟩ := List.mem_map.mp this
      exact ⟨q, hq, encodeAdj_inj he⟩

end AgpTpf.C11
