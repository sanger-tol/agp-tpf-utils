/-
  `FastaStream.write_scaffold` / `write_assembly` (fasta/stream.py).  The writer is taken apart once, for every input: a row yields
  a list of chunks (`rowChunks`: what `get_gap_iter` / `get_sequence_iter` produce, each chunk with the `read` sizes behind it), and the
  chunks go to the line wrapper one after the other (`push`).  `streamRow_eq`, `streamScaffold_eq`, `streamAssembly_eq` say so without
  hypotheses, so they also say when a call fails.  For rows inside indexed records the chunks are pieces of `rowBody` of at most
  `bs` bytes (`rowChunks_ok`) and the wrapper sees their concatenation (`push_ok`): the byte-level specification of C03 / C13 / C14.
-/
import AgpTpf.Proofs.C03Chunks
import AgpTpf.Proofs.C03Wrap
import AgpTpf.Proofs.C03Seq
import AgpTpf.Proofs.Lib.Py
import AgpTpf.Proofs.Lib.Bytes
namespace AgpTpf.StreamProofs
open AgpTpf AgpTpf.ChunkProofs AgpTpf.WrapProofs AgpTpf.SeqProofs

/-- the gap character the stream writes (`gap_character=b"N"`, regenerated from the source) -/
def gapByte : Nat := Gen.gapCharacter.headD 78

/-- what one AGP row contributes to the sequence of its scaffold -/
def rowBody (resOf : Str → Bytes) : Row → Bytes
  | .gap g => List.replicate g.length.toNat gapByte
  | .frag f => if f.strand = -1 then reverseComplement (slice (resOf f.name) f.start f.stop)
               else slice (resOf f.name) f.start f.stop

/-- "the output AGP applied to the input FASTA": concatenation in row order -/
def rowsBody (resOf : Str → Bytes) (rows : List Row) : Bytes := (rows.map (rowBody resOf)).flatten

theorem rowsBody_cons (resOf : Str → Bytes) (r : Row) (rows : List Row) :
    rowsBody resOf (r :: rows) = rowBody resOf r ++ rowsBody resOf rows := rfl

theorem rowsBody_append (resOf : Str → Bytes) (a b : List Row) :
    rowsBody resOf (a ++ b) = rowsBody resOf a ++ rowsBody resOf b := by
  simp [rowsBody]

def FragOK (file : Bytes) (idx : List (Str × FastaInfo)) (resOf : Str → Bytes) (f : Fragment) : Prop :=
  ∃ info, getInfo idx f.name = .ok info ∧ RecordOK file info (resOf f.name) ∧
    1 ≤ f.start ∧ f.start ≤ f.stop ∧ f.stop ≤ (resOf f.name).length

def RowOK (file : Bytes) (idx : List (Str × FastaInfo)) (resOf : Str → Bytes) : Row → Prop
  | .gap _ => True
  | .frag f => FragOK file idx resOf f

structure LogInv (bs w : Int) (lg : StreamLog) : Prop where
  want_lo : 1 ≤ lg.want
  want_hi : lg.want ≤ w
  chunks : ∀ c ∈ lg.chunkSizes, (c : Int) ≤ bs
  reads : ∀ r ∈ lg.reads, 0 ≤ r ∧ r ≤ bs

/-- the FASTA record of a scaffold: header line and wrapped body -/
def recordBytes (w : Int) (name : Str) (body : Bytes) : Bytes :=
  [62] ++ strToBytes name ++ [10] ++ wrapBody w body

/-- the log after the chunks `cs` (bytes, and the `read` sizes that produced them) went to the writer one after the other -/
def push (w : Int) (lg : StreamLog) (cs : List ReadLog) : StreamLog :=
  { out := lg.out ++ (writeAll w lg.want (cs.map (·.data))).1
    want := (writeAll w lg.want (cs.map (·.data))).2
    chunkSizes := lg.chunkSizes ++ cs.map (·.data.length)
    reads := lg.reads ++ (cs.map (·.reads)).flatten }

theorem push_nil (w : Int) (lg : StreamLog) : push w lg [] = lg := by simp [push, writeAll]

theorem push_append (w : Int) (lg : StreamLog) (a b : List ReadLog) : push w (push w lg a) b = push w lg (a ++ b) := by
  simp [push, writeAll_append]

theorem push_one (w : Int) (lg : StreamLog) (c : ReadLog) :
    push w lg [c] =
      { out := lg.out ++ (writeChunk w (c.data.length + 1) lg.want c.data).1
        want := (writeChunk w (c.data.length + 1) lg.want c.data).2
        chunkSizes := lg.chunkSizes ++ [c.data.length]
        reads := lg.reads ++ c.reads } := by
  simp [push, writeAll]

theorem foldl_push (w : Int) : ∀ (cs : List ReadLog) (lg : StreamLog), cs.foldl (fun lg c => push w lg [c]) lg = push w lg cs
  | [], lg => (push_nil w lg).symm
  | c :: cs, lg => by rw [List.foldl_cons, foldl_push w cs, push_append]; rfl

theorem foldl_push_flatten (w : Int) : ∀ (css : List (List ReadLog)) (lg : StreamLog),
    css.foldl (push w) lg = push w lg css.flatten
  | [], lg => (push_nil w lg).symm
  | cs :: css, lg => by rw [List.foldl_cons, foldl_push_flatten w css, push_append, List.flatten_cons]

/-- the chunks the iterators hand to the writer for one row: `get_gap_iter` / `get_sequence_iter` as lists -/
def rowChunks (file : Bytes) (idx : List (Str × FastaInfo)) (bs : Int) : Row → R (List ReadLog)
  | .gap g => .ok ((gapChunkList g.length bs).map fun n => { data := List.replicate n.toNat gapByte })
  | .frag f => do
    let info ← getInfo idx f.name
    (if f.strand = -1 then revChunkList f.start f.stop bs else fwdChunkList f.start f.stop bs).mapM fun b =>
      (sequenceBytes file info b.1 b.2).map fun rl =>
        { rl with data := if f.strand = -1 then reverseComplement rl.data else rl.data }

theorem streamRow_eq (file : Bytes) (idx : List (Str × FastaInfo)) (bs w : Int) (lg : StreamLog) (row : Row) :
    streamRow file idx bs w lg row = (rowChunks file idx bs row).map (push w lg) := by
  cases row with
  | gap g =>
    rw [rowChunks, map_ok, ← foldl_push, List.foldl_map]
    simp only [push_one, List.append_nil]
    rfl
  | frag f =>
    simp only [streamRow, rowChunks]
    cases getInfo idx f.name with
    | error e => rfl
    | ok info =>
      rw [ok_bind, ok_bind, ← funext (foldl_push w · lg), ← foldlM_map]
      refine foldlM_congr (fun b _ lg => ?_) lg
      cases sequenceBytes file info b.1 b.2 with
      | error e => rfl
      | ok rl => rw [map_ok, map_ok, push_one]; rfl

theorem streamRows_eq (file : Bytes) (idx : List (Str × FastaInfo)) (bs w : Int) (rows : List Row) (lg : StreamLog) :
    rows.foldlM (streamRow file idx bs w) lg = (rows.mapM (rowChunks file idx bs)).map fun css => push w lg css.flatten := by
  rw [← funext (foldl_push_flatten w · lg), ← foldlM_map]
  exact foldlM_congr (fun row _ lg => streamRow_eq file idx bs w lg row) lg

/-- `if want != line_length: out.write(b"\n")` -/
def close (w : Int) (lg : StreamLog) : StreamLog := if lg.want ≠ w then { lg with out := lg.out ++ [10] } else lg

theorem close_out (w : Int) (lg : StreamLog) : (close w lg).out = if lg.want ≠ w then lg.out ++ [10] else lg.out := by
  unfold close; split <;> rfl
theorem close_chunkSizes (w : Int) (lg : StreamLog) : (close w lg).chunkSizes = lg.chunkSizes := by unfold close; split <;> rfl
theorem close_reads (w : Int) (lg : StreamLog) : (close w lg).reads = lg.reads := by unfold close; split <;> rfl

theorem streamScaffold_eq (file : Bytes) (idx : List (Str × FastaInfo)) (bs w : Int) (sc : Scaffold) :
    streamScaffold file idx bs w sc =
      (sc.rows.mapM (rowChunks file idx bs)).map fun css =>
        close w (push w { out := [62] ++ strToBytes sc.name ++ [10], want := w } css.flatten) := by
  rw [streamScaffold, streamRows_eq]
  cases sc.rows.mapM (rowChunks file idx bs) <;> rfl

def catLogs (w : Int) (acc : StreamLog) (lgs : List StreamLog) : StreamLog :=
  { out := acc.out ++ (lgs.map (·.out)).flatten, want := w,
    chunkSizes := acc.chunkSizes ++ (lgs.map (·.chunkSizes)).flatten, reads := acc.reads ++ (lgs.map (·.reads)).flatten }

theorem streamAssembly_eq (file : Bytes) (idx : List (Str × FastaInfo)) (bs w : Int) (scs : List Scaffold) :
    streamAssembly file idx bs w scs = (scs.mapM (streamScaffold file idx bs w)).map (catLogs w { want := w }) := by
  have key : ∀ (lgs : List StreamLog) (acc : StreamLog), acc.want = w →
      lgs.foldl (fun acc lg => catLogs w acc [lg]) acc = catLogs w acc lgs := by
    intro lgs
    induction lgs with
    | nil => intro acc h; cases acc; cases h; simp [catLogs]
    | cons lg lgs ih => intro acc _; rw [List.foldl_cons, ih _ rfl]; simp [catLogs]
  rw [streamAssembly, ← funext (fun lgs => key lgs { want := w } rfl), ← foldlM_map]
  refine foldlM_congr (fun sc _ acc => ?_) _
  cases streamScaffold file idx bs w sc with
  | error e => rfl
  | ok lg => simp [catLogs, pure, Except.pure, map_ok, ok_bind]

theorem replicate_chunks (x : Nat) : ∀ (l : List Int), (∀ c ∈ l, 0 ≤ c) →
    0 ≤ sumInts l ∧ (l.map (fun n => List.replicate n.toNat x)).flatten = List.replicate (sumInts l).toNat x
  | [], _ => by simp [sumInts]
  | a :: r, h => by
    have ha := h a (by simp)
    have ⟨h1, h2⟩ := replicate_chunks x r (fun c hc => h c (by simp [hc]))
    refine ⟨by simp only [sumInts]; omega, ?_⟩
    simp only [List.map_cons, List.flatten_cons, h2, List.replicate_append_replicate, sumInts]
    congr 1
    omega

def chunkOf (res : Bytes) (strand : Int) (b : Int × Int) : Bytes :=
  if strand = -1 then reverseComplement (slice res b.1 b.2) else slice res b.1 b.2

def ChunkOK (bs : Int) (c : ReadLog) : Prop := (c.data.length : Int) ≤ bs ∧ ∀ r ∈ c.reads, 0 ≤ r ∧ r ≤ bs

/-- the chunks of a range, in the order of the strand, make up the chunk that is the whole range -/
theorem chunkOf_glue {bs : Int} (hbs : 1 ≤ bs) (res : Bytes) (strand : Int) {start stop : Int} (h0 : 1 ≤ start) (h1 : start ≤ stop) :
    ((if strand = -1 then revChunkList start stop bs else fwdChunkList start stop bs).map (chunkOf res strand)).flatten =
      chunkOf res strand (start, stop) := by
  have hglue := Tiles.glue (bs := bs) (slice res) 1 (fun a b c ha hab hbc => slice_append _ a b c ha hab hbc) h0
    (fwdChunkList_tiles start stop bs hbs h1) (fwdChunkList_ne_nil start stop bs hbs h1)
  unfold chunkOf
  rw [← hglue]
  by_cases hs : strand = -1
  · simp only [hs, if_true, revChunkList_eq_reverse start stop bs hbs h1]
    exact flatten_reverseComplement_reverse (fun b : Int × Int => slice res b.1 b.2) _
  · simp only [hs, if_false]

variable {bs w : Int} {file : Bytes} {idx : List (Str × FastaInfo)} {resOf : Str → Bytes}

theorem rowChunks_ok (hbs : 1 ≤ bs) (row : Row) (h : RowOK file idx resOf row) :
    ∃ cs, rowChunks file idx bs row = .ok cs ∧ (cs.map (·.data)).flatten = rowBody resOf row ∧ ∀ c ∈ cs, ChunkOK bs c := by
  cases row with
  | gap g =>
    have ⟨hs, hb⟩ := gapChunkList_spec g.length bs hbs
    refine ⟨_, rfl, ?_, fun c hc => ?_⟩
    · rw [List.map_map, rowBody, show g.length.toNat = (max 0 g.length).toNat by omega, ← hs]
      exact (replicate_chunks gapByte _ fun c hc => (hb c hc).1).2
    · obtain ⟨n, hn, rfl⟩ := List.mem_map.1 hc
      have := hb n hn
      exact ⟨by simp only [List.length_replicate]; omega, fun _ hr => nomatch hr⟩
  | frag f =>
    obtain ⟨info, hinfo, hrec, h0, h1, h2⟩ := h
    simp only [rowChunks, hinfo, ok_bind]
    refine (mapM_ok_proj (·.data) (chunkOf (resOf f.name) f.strand) (ChunkOK bs) _ fun b hb => ?_).imp
      fun cs ⟨hcs, hd, hP⟩ => ⟨hcs, by rw [hd]; exact chunkOf_glue hbs _ _ h0 h1, hP⟩
    -- either direction lists the tiles of the forward list
    have ht := fwdChunkList_tiles f.start f.stop bs hbs h1
    have hb' : b ∈ fwdChunkList f.start f.stop bs := by
      split at hb
      · rw [revChunkList_eq_reverse f.start f.stop bs hbs h1] at hb; exact List.mem_reverse.1 hb
      · exact hb
    have hw := ht.within b hb'
    have hs := ht.size_le b hb'
    obtain ⟨rl, e, hdat, hrd⟩ := seq_chunk hrec b.1 b.2 (by omega) hw.2.1 (by omega)
    have hlen := slice_length (resOf f.name) b.1 b.2 (by omega) hw.2.1 (by omega)
    refine ⟨_, by rw [e]; rfl, by simp only [chunkOf, hdat], ?_, fun r hr => by have := hrd r hr; omega⟩
    simp only [hdat, apply_ite List.length, length_reverseComplement, ite_self]
    omega

theorem rowsChunks_ok (hbs : 1 ≤ bs) (rows : List Row) (h : ∀ r ∈ rows, RowOK file idx resOf r) :
    ∃ css, rows.mapM (rowChunks file idx bs) = .ok css ∧ (css.flatten.map (·.data)).flatten = rowsBody resOf rows ∧
      ∀ c ∈ css.flatten, ChunkOK bs c := by
  obtain ⟨css, e, hd, hP⟩ := mapM_ok_proj (fun cs : List ReadLog => (cs.map (·.data)).flatten) (rowBody resOf)
    (fun cs => ∀ c ∈ cs, ChunkOK bs c) rows fun r hr => rowChunks_ok hbs r (h r hr)
  refine ⟨css, e, ?_, fun c hc => ?_⟩
  · rw [rowsBody, ← hd, List.map_flatten, List.flatten_flatten, List.map_map]; rfl
  · obtain ⟨cs, hcs, hc⟩ := List.mem_flatten.1 hc
    exact hP cs hcs c hc

theorem push_ok (hw : 1 ≤ w) {lg : StreamLog} (hi : LogInv bs w lg) (cs : List ReadLog) (hc : ∀ c ∈ cs, ChunkOK bs c) :
    LogInv bs w (push w lg cs) ∧
      (push w lg cs).out = lg.out ++ (wrapGo w lg.want (cs.map (·.data)).flatten).1 ∧
      (push w lg cs).want = (wrapGo w lg.want (cs.map (·.data)).flatten).2 := by
  have hr := wrapGo_want_range w hw (cs.map (·.data)).flatten lg.want hi.want_lo hi.want_hi
  simp only [push, writeAll_eq_wrapGo w hw _ _ hi.want_lo, and_self, and_true]
  refine ⟨hr.1, hr.2, List.forall_mem_append.2 ⟨hi.chunks, fun n hn => ?_⟩, List.forall_mem_append.2 ⟨hi.reads, fun r hr => ?_⟩⟩
  · obtain ⟨c, hcm, rfl⟩ := List.mem_map.1 hn
    exact (hc c hcm).1
  · obtain ⟨rs, hrs, hr⟩ := List.mem_flatten.1 hr
    obtain ⟨c, hcm, rfl⟩ := List.mem_map.1 hrs
    exact (hc c hcm).2 r hr

theorem scaffold_spec (hbs : 1 ≤ bs) (hw : 1 ≤ w) (sc : Scaffold) (hr : ∀ r ∈ sc.rows, RowOK file idx resOf r) :
    ∃ lg, streamScaffold file idx bs w sc = .ok lg ∧
      lg.out = recordBytes w sc.name (rowsBody resOf sc.rows) ∧
      (∀ c ∈ lg.chunkSizes, (c : Int) ≤ bs) ∧ (∀ r ∈ lg.reads, 0 ≤ r ∧ r ≤ bs) := by
  obtain ⟨css, e, hd, hc⟩ := rowsChunks_ok hbs sc.rows hr
  obtain ⟨hi, ho, hwant⟩ := push_ok hw (lg := { out := [62] ++ strToBytes sc.name ++ [10], want := w })
    ⟨hw, Int.le_refl _, by simp, by simp⟩ css.flatten hc
  rw [hd] at ho hwant
  refine ⟨_, by rw [streamScaffold_eq, e, map_ok], ?_, by rw [close_chunkSizes]; exact hi.chunks,
    by rw [close_reads]; exact hi.reads⟩
  rw [close_out, hwant, ho, recordBytes, wrapBody]
  split <;> simp

theorem assembly_spec (hbs : 1 ≤ bs) (hw : 1 ≤ w) (scs : List Scaffold)
    (hok : ∀ sc ∈ scs, ∀ r ∈ sc.rows, RowOK file idx resOf r) :
    ∃ lg, streamAssembly file idx bs w scs = .ok lg ∧
      lg.out = (scs.map fun sc => recordBytes w sc.name (rowsBody resOf sc.rows)).flatten ∧
      (∀ c ∈ lg.chunkSizes, (c : Int) ≤ bs) ∧ (∀ r ∈ lg.reads, 0 ≤ r ∧ r ≤ bs) := by
  obtain ⟨lgs, e, ho, hP⟩ := mapM_ok_proj (·.out) (fun sc => recordBytes w sc.name (rowsBody resOf sc.rows))
    (fun lg : StreamLog => (∀ c ∈ lg.chunkSizes, (c : Int) ≤ bs) ∧ ∀ r ∈ lg.reads, 0 ≤ r ∧ r ≤ bs) scs
    fun sc hsc => scaffold_spec hbs hw sc (hok sc hsc)
  refine ⟨_, by rw [streamAssembly_eq, e]; rfl, by simp [catLogs, ho], ?_, ?_⟩
  · intro c hc
    obtain ⟨l, hl, hc⟩ := List.mem_flatten.1 (show c ∈ [] ++ _ from hc)
    obtain ⟨lg, hlg, rfl⟩ := List.mem_map.1 hl
    exact (hP lg hlg).1 c hc
  · intro r hr
    obtain ⟨l, hl, hr⟩ := List.mem_flatten.1 (show r ∈ [] ++ _ from hr)
    obtain ⟨lg, hlg, rfl⟩ := List.mem_map.1 hl
    exact (hP lg hlg).2 r hr

end AgpTpf.StreamProofs
