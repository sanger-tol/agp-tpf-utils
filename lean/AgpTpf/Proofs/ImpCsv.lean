/-
  T1c / C10 — helper lemmas for the tie between the model's `chromosomeNameCsv` and the translated source
  `Gen.Imp.AssemblyStats_chromosome_name_csv` (the text that `AssemblyStats.chromosome_name_csv` builds in a `StringIO`).

  `renderCsv` is the text of the rows (`name,chr,yes|no\n` each); `toSrc` gives the loop state of the source for the model's.
  `yesNo_no_newline`, `yesNo_injective` serve `C10.renderCsv_determines_rows` (with `append_sep_inj` of Lib/Text).
-/
import AgpTpf.Gen.Imp3
import AgpTpf.Proofs.C10Csv
import AgpTpf.Proofs.Lib.Namer
import AgpTpf.Proofs.Lib.Text
namespace AgpTpf.ImpCsv
open AgpTpf.C10

def yesNo (b : Bool) : Str := if b then "yes".toList else "no".toList

/-- one line: `",".join((name, chr_name, localised))` followed by `"\n"` -/
def csvLineText (r : Str × Str × Bool) : Str := joinWith ',' [r.1, r.2.1, yesNo r.2.2] ++ ['\n']

def renderCsv (rows : List (Str × Str × Bool)) : Str := rows.flatMap csvLineText

theorem renderCsv_nil : renderCsv [] = [] := rfl

theorem renderCsv_cons (r : Str × Str × Bool) (rows : List (Str × Str × Bool)) :
    renderCsv (r :: rows) = csvLineText r ++ renderCsv rows := by
  simp [renderCsv]

theorem renderCsv_append (a b : List (Str × Str × Bool)) : renderCsv (a ++ b) = renderCsv a ++ renderCsv b := by
  simp [renderCsv]

theorem renderCsv_snoc (a : List (Str × Str × Bool)) (r : Str × Str × Bool) :
    renderCsv (a ++ [r]) = renderCsv a ++ csvLineText r := by
  simp [renderCsv]

theorem csvLineText_eq (r : Str × Str × Bool) :
    csvLineText r = r.1 ++ ',' :: (r.2.1 ++ ',' :: (yesNo r.2.2 ++ ['\n'])) := by
  simp [csvLineText, joinWith]

theorem csvLineText_ne_nil (r : Str × Str × Bool) : csvLineText r ≠ [] := by
  simp [csvLineText]

/-- `csv_str.tell()` is zero iff no line was written -/
theorem renderCsv_eq_nil (rows : List (Str × Str × Bool)) : renderCsv rows = [] ↔ rows = [] := by
  cases rows with
  | nil => simp [renderCsv]
  | cons r rows => simp [renderCsv_cons, csvLineText_ne_nil]

theorem replaceFirst_nil_old (new s : Str) : replaceFirst [] new s = s := by
  induction s with
  | nil => rfl
  | cons c cs ih => simp [replaceFirst, ih]

/-- `name.replace(prefix, "", 1)`: the source's operation and the model's agree for EVERY prefix.  (For an empty `old` and a non-empty
    `new` they differ — Python inserts `new` in front, `replaceFirst` copies — but the replacement text here is `""`.) -/
theorem strReplace1_nil_new (s p : Str) : PyRt.strReplace1 s p [] = replaceFirst p [] s := by
  unfold PyRt.strReplace1
  cases p with
  | nil => simp [replaceFirst_nil_old]
  | cons c cs => simp

theorem rank_in_1_2 (r : Int) : (([(1 : Int), (2 : Int)]).contains r = true) ↔ (r = 1 ∨ r = 2) := by
  simp

/-- THE place that knows the order of the generated loop-state tuple (the translator sorts the carried variables by the Lean text
    of their type, then by name): `csv_str`, `orig_chr_name` ↦ the generated tuple -/
abbrev csvSt (csv_str : Str) (orig_chr_name : List (Option Str × Str)) : List (Option Str × Str) × Str :=
  (orig_chr_name, csv_str)

def toSrc (t : List (Str × Str × Bool) × List (Option Str × Str)) : List (Option Str × Str) × Str :=
  csvSt (renderCsv t.1) t.2

theorem toSrc_init : csvSt ([] : Str) ([] : List (Option Str × Str)) = toSrc ([], []) := rfl

/-- the model's step, by cases, in the shape the source's body has -/
theorem csvStep_cases (p : Str) (out : List (Str × Str × Bool)) (seen : List (Option Str × Str)) (s : Scaffold) :
    csvStep p (out, seen) s =
      if s.rank = 1 ∨ s.rank = 2 then
        if (truthy s.originalName && dHas seen s.originalName) = true then
          (out ++ [(s.name, (dGet? seen s.originalName).getD [], false)], seen)
        else
          (out ++ [(s.name, replaceFirst p [] s.name, true)], dSet seen s.originalName (replaceFirst p [] s.name))
      else (out, seen) := by
  unfold csvStep C10.chrStep mkCsv
  by_cases hr : s.rank = 1 ∨ s.rank = 2
  · simp only [if_pos hr]
    by_cases ht : truthy s.originalName = true
    · cases hg : dGet? seen s.originalName <;> simp [ht, dHas, hg]
    · simp [ht]
  · simp only [if_neg hr]

theorem yesNo_no_newline (b : Bool) : '\n' ∉ yesNo b := by
  cases b <;> decide

theorem yesNo_injective {b b' : Bool} (h : yesNo b = yesNo b') : b = b' := by
  cases b <;> cases b' <;> first | rfl | (exact absurd h (by decide))

end AgpTpf.ImpCsv
