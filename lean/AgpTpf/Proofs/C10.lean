/-
  Helper lemmas for C10: the namer's counters along a trace of `make_scaffold_name` / `label_scaffold` calls.
-/
import AgpTpf.Model.Remap
import AgpTpf.Proofs.Lib.Namer
import AgpTpf.Proofs.Lib.Py
import AgpTpf.Proofs.Lib.Text
namespace AgpTpf.C10
open AgpTpf

def SameCounters (n n' : Namer) : Prop :=
  n'.haplotigN = n.haplotigN ∧ n'.haplotigScaffolds = n.haplotigScaffolds ∧ n'.autosomePrefix = n.autosomePrefix

theorem makeScaffoldName_counters (n n' : Namer) (scName : Str) (rows : List Row) (tags : List Str)
    (h : makeScaffoldName n scName rows tags = .ok n') :
    SameCounters n n' ∧ n'.unlocN = 0 ∧ n'.unlocScaffolds = [] := by
  rw [makeScaffoldName_frame h]; exact ⟨⟨rfl, rfl, rfl⟩, rfl, rfl⟩

inductive Ev where
  | name (scName : Str) (rows : List Row) (tags : List Str)
  | label (o : OverlapResult) (sid : Nat) (frag : Fragment) (scTags : List Str) (orig : Str)

/-- run the namer over a sequence of calls; collects `(sid, piece, labelled result)` for the `label` calls -/
def runEvs : Namer → List Ev → R (Namer × List (Nat × Fragment × OverlapResult))
  | n, [] => .ok (n, [])
  | n, .name sc rows tags :: r => makeScaffoldName n sc rows tags >>= fun n' => runEvs n' r
  | n, .label o sid frag scTags orig :: r =>
    labelScaffold n o sid frag scTags orig >>= fun p =>
    runEvs p.1 r >>= fun q => .ok (q.1, (sid, frag, p.2) :: q.2)

theorem label_counters (n n' : Namer) (o o' : OverlapResult) (sid : Nat) (frag : Fragment) (scTags : List Str)
    (orig : Str) (h : labelScaffold n o sid frag scTags orig = .ok (n', o')) :
    n'.currentScaffoldName = n.currentScaffoldName ∧ n'.autosomePrefix = n.autosomePrefix ∧
    (if isHapPiece frag then
        o'.name = hapName (n.haplotigN + 1) ∧ n'.haplotigN = n.haplotigN + 1 ∧
        n'.haplotigScaffolds = n.haplotigScaffolds ++ [sid]
      else n'.haplotigN = n.haplotigN ∧ n'.haplotigScaffolds = n.haplotigScaffolds) ∧
    (if isUnlocPiece frag then
        o'.name = unlocName n.currentScaffoldName (n.unlocN + 1) ∧ n'.unlocN = n.unlocN + 1 ∧
        n'.unlocScaffolds = n.unlocScaffolds ++ [sid]
      else n'.unlocN = n.unlocN ∧ n'.unlocScaffolds = n.unlocScaffolds) ∧
    (isHapPiece frag = false → isUnlocPiece frag = false → o'.name = n.currentScaffoldName.getD sNone) := by
  obtain ⟨_, rfl, rfl⟩ := labelScaffold_ok h
  show (bump n sid frag).currentScaffoldName = _ ∧ (bump n sid frag).autosomePrefix = _ ∧
    (if _ then pieceName n frag = _ ∧ _ else _) ∧ (if _ then pieceName n frag = _ ∧ _ else _) ∧ (_ → _ → pieceName n frag = _)
  unfold bump pieceName
  cases hh : isHapPiece frag
  · cases hu : isUnlocPiece frag
    · exact ⟨rfl, rfl, ⟨rfl, rfl⟩, ⟨rfl, rfl⟩, fun _ _ => rfl⟩
    · exact ⟨rfl, rfl, ⟨rfl, rfl⟩, ⟨rfl, rfl, rfl⟩, fun _ h => nomatch h⟩
  · rw [isUnlocPiece_of_hap hh]
    exact ⟨rfl, rfl, ⟨rfl, rfl, rfl⟩, ⟨rfl, rfl⟩, fun h _ => nomatch h⟩

def Ev.isLabel : Ev → Bool
  | .label .. => true
  | .name .. => false

/-- one counter of the namer along a trace: `sel` the pieces `label_scaffold` counts with `cnt`, `lst` their ids, `ctx` the
    part of the namer the name `nm` depends on.  The selected pieces are numbered `cnt + 1, cnt + 2, …` without holes, in
    call order. -/
theorem runEvs_counter {γ : Type} (sel : Fragment → Bool) (cnt : Namer → Nat) (lst : Namer → List Nat) (ctx : Namer → γ)
    (nm : γ → Nat → Str)
    (hlabel : ∀ n n' o o' sid frag scTags orig, labelScaffold n o sid frag scTags orig = .ok (n', o') →
      ctx n' = ctx n ∧
      if sel frag then o'.name = nm (ctx n) (cnt n + 1) ∧ cnt n' = cnt n + 1 ∧ lst n' = lst n ++ [sid]
      else cnt n' = cnt n ∧ lst n' = lst n)
    (evs : List Ev)
    (hname : ∀ sc rows tags, Ev.name sc rows tags ∈ evs → ∀ n n', makeScaffoldName n sc rows tags = .ok n' →
      ctx n' = ctx n ∧ cnt n' = cnt n ∧ lst n' = lst n) :
    ∀ (n n' : Namer) (outs : List (Nat × Fragment × OverlapResult)), runEvs n evs = .ok (n', outs) →
      (outs.filter (fun p => sel p.2.1)).map (·.2.2.name) =
        (List.range' (cnt n + 1) (outs.filter (fun p => sel p.2.1)).length).map (nm (ctx n)) ∧
      cnt n' = cnt n + (outs.filter (fun p => sel p.2.1)).length ∧
      lst n' = lst n ++ (outs.filter (fun p => sel p.2.1)).map (·.1) ∧
      ctx n' = ctx n := by
  induction evs with
  | nil => intro n n' outs h; cases h; simp
  | cons ev r ih =>
    intro n n' outs h
    have ih := ih (fun sc rows tags hm => hname sc rows tags (List.mem_cons_of_mem _ hm))
    cases ev with
    | name sc rows tags =>
      obtain ⟨n1, h1, h⟩ := bind_eq_ok.1 h
      obtain ⟨k0, k1, k2⟩ := hname sc rows tags List.mem_cons_self n n1 h1
      rw [← k0, ← k1, ← k2]
      exact ih n1 n' outs h
    | label o sid frag scTags orig =>
      obtain ⟨⟨n1, o1⟩, h1, h⟩ := bind_eq_ok.1 h
      obtain ⟨⟨n2, outs2⟩, h2, h⟩ := bind_eq_ok.1 h
      cases h
      dsimp only
      obtain ⟨hctx, hc⟩ := hlabel n n1 o o1 sid frag scTags orig h1
      obtain ⟨i1, i2, i3, i4⟩ := ih n1 n2 outs2 h2
      rw [hctx] at i1 i4
      rw [List.filter_cons]
      cases hp : sel frag
      · obtain ⟨c2, c3⟩ : cnt n1 = cnt n ∧ lst n1 = lst n := by simpa only [hp, Bool.false_eq_true, if_false] using hc
        rw [if_neg Bool.false_ne_true, ← c2, ← c3]
        exact ⟨i1, i2, i3, i4⟩
      · obtain ⟨c1, c2, c3⟩ : o1.name = nm (ctx n) (cnt n + 1) ∧ cnt n1 = cnt n + 1 ∧ lst n1 = lst n ++ [sid] := by
          simpa only [hp, if_true] using hc
        rw [c2] at i1 i2; rw [c3] at i3
        rw [if_pos rfl, List.map_cons, List.length_cons, List.range'_succ, List.map_cons, i1, c1, i3]
        exact ⟨rfl, i2.trans (Nat.add_right_comm ..), by simp, i4⟩

theorem hapName_inj (a b : Nat) (h : hapName a = hapName b) : a = b := by
  unfold hapName at h
  exact natToStr_inj (List.append_cancel_left h)

theorem unlocName_inj (cur : Option Str) (a b : Nat) (h : unlocName cur a = unlocName cur b) : a = b := by
  unfold unlocName at h
  exact natToStr_inj (List.append_cancel_left h)

end AgpTpf.C10
