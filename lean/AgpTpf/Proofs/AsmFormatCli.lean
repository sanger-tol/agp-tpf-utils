/- asm-format glue: whole runs with one input (a file, or STDIN), and file content → lines -/
import AgpTpf.Proofs.AsmFormatRun
namespace AgpTpf.AsmFormat
open AgpTpf

theorem inFmtOf_ok {i : Option Fmt} {f : Option Str} {x : Fmt} (h : inFmtOf i f = .ok x) : inFmtSel i f = x := by
  unfold inFmtOf at h
  cases hs : inFmtSel i f <;> rw [hs] at h <;> cases h <;> rfl

theorem outFmtOf_ok {i : Option OutFmt} {f : Option Str} {x : OutFmt} (h : outFmtOf i f = .ok x) :
    outFmtSel i f = some x := by
  unfold outFmtOf at h
  cases hs : outFmtSel i f <;> rw [hs] at h <;> cases h <;> rfl

theorem fileLinesRead_of_ne (o : AsmFormatOpts) (f : Str × List Str) (h : o.outputFile ≠ some f.1) :
    fileLinesRead o f = f.2 := by
  unfold fileLinesRead; rw [if_neg h]

/-- FINDING (in-place run): the file that is also the output file is read as empty -/
theorem fileLinesRead_of_eq (o : AsmFormatOpts) (f : Str × List Str) (h : o.outputFile = some f.1) :
    fileLinesRead o f = [] := by
  unfold fileLinesRead; rw [if_pos h]

theorem asmFormat_single (o : AsmFormatOpts) (f : Str × List Str) (stdin : List Str) (text : Str) (pairs : List OvPair)
    (h : processFile o (outFmtSel o.format o.outputFile) f = .ok (text, pairs)) :
    (asmFormat o [f] stdin).written = text ∧ (asmFormat o [f] stdin).error = none ∧
    (asmFormat o [f] stdin).reports = (if pairs.isEmpty then [] else [(fileAsmName o f, pairs)]) := by
  rw [asmFormat_files, asmFormatLoop_cons, h]
  simp only [asmFormatLoop]
  refine ⟨by rw [addReport_written]; rfl, by rw [addReport_error], by rw [addReport_reports]; rfl⟩

theorem asmFormat_single_error (o : AsmFormatOpts) (f : Str × List Str) (stdin : List Str) (e : Err)
    (h : processFile o (outFmtSel o.format o.outputFile) f = .error e) :
    (asmFormat o [f] stdin).written = [] ∧ (asmFormat o [f] stdin).error = some .value := by
  rw [asmFormat_files, asmFormatLoop_cons, h]
  exact ⟨by simp only [addReport_written], rfl⟩

theorem asmFormat_stdin_ok (o : AsmFormatOpts) (stdin : List Str) (text : Str) (pairs : List OvPair)
    (h : processFh (stdinInFmt o) (stdinAsmName o) stdin (outFmtSel o.format o.outputFile) o.qcOverlaps = .ok (text, pairs)) :
    (asmFormat o [] stdin).written = text ∧ (asmFormat o [] stdin).error = none ∧
    (asmFormat o [] stdin).reports = (if pairs.isEmpty then [] else [(stdinAsmName o, pairs)]) := by
  rw [asmFormat_stdin, h]
  refine ⟨by rw [addReport_written], by rw [addReport_error], by rw [addReport_reports]; rfl⟩

theorem asmFormat_stdin_error (o : AsmFormatOpts) (stdin : List Str) (e : Err)
    (h : processFh (stdinInFmt o) (stdinAsmName o) stdin (outFmtSel o.format o.outputFile) o.qcOverlaps = .error e) :
    (asmFormat o [] stdin).written = [] ∧ (asmFormat o [] stdin).error = some e := by
  rw [asmFormat_stdin, h]
  exact ⟨by simp only [addReport_written], rfl⟩

theorem universalNewlinesGo_id (s : Str) (h : '\r' ∉ s) : universalNewlinesGo false s = s := by
  induction s with
  | nil => rfl
  | cons c t ih =>
    have hc : c ≠ '\r' := fun e => h (by simp [e])
    have ht : '\r' ∉ t := fun e => h (by simp [e])
    simp only [universalNewlinesGo, hc, if_false, Bool.false_eq_true, and_false, ih ht]

theorem fileLines_of_noCR (s : Str) (h : '\r' ∉ s) : fileLines s = pyLines s := by
  unfold fileLines universalNewlines; rw [universalNewlinesGo_id s h]

theorem convert_run (o : AsmFormatOpts) (n : Str) (stdin : List Str) (fi : Fmt) (fo : OutFmt)
    (inLines outLines : List Str) (a' : Assembly)
    (hin : inFmtOf o.inputFormat (some n) = .ok fi) (hout : outFmtOf o.format o.outputFile = .ok fo)
    (hio : o.outputFile ≠ some n)
    (hparse : parseFh fi (fileAsmName o (n, inLines)) inLines = .ok { a' with name := fileAsmName o (n, inLines) })
    (hwrite : writeFh { a' with name := fileAsmName o (n, inLines) } (some fo) = .ok outLines.flatten) :
    (asmFormat o [(n, inLines)] stdin).written = outLines.flatten ∧ (asmFormat o [(n, inLines)] stdin).error = none := by
  have hp : processFile o (outFmtSel o.format o.outputFile) (n, inLines) =
      .ok (outLines.flatten, if o.qcOverlaps then findOverlappingFragments { a' with name := fileAsmName o (n, inLines) } else []) := by
    unfold processFile
    rw [processFh_ok_iff]
    refine ⟨_, ?_, rfl, ?_⟩
    · rw [fileLinesRead_of_ne o _ hio]
      show parseFh (inFmtSel o.inputFormat (some n)) _ inLines = _
      rw [inFmtOf_ok hin]; exact hparse
    · rw [outFmtOf_ok hout]; exact hwrite
  obtain ⟨e1, e2, _⟩ := asmFormat_single o (n, inLines) stdin _ _ hp
  exact ⟨e1, e2⟩

end AgpTpf.AsmFormat
