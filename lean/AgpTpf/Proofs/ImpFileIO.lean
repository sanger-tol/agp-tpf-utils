/-
  T1c / file I/O kernels — helper lemmas for the ties between the translated `FastaInfo.fai_row`, `FastaIndex.load_index`,
  `FastaIndex.sequence_bytes` (`Gen/Imp3.lean`) and the model's `faiRow`, `loadIndex` (`Model/Cli.lean`), `sequenceBytes`
  (`Model/Fasta.lean`).

  `fai_row`, `load_index`: one pass of the source loop = the model's `loadIndexLine` + `dSet` (through `PyRt.forIn_foldlM`: a side
  goal asks what one pass returns).
  `sequence_bytes`: `PyRt.BinFile` (bytes + cursor) against the model's absolute positions (`readAt`); the whole-lines loop
  against the model's `readWholeLinesChk`, which makes the check the source makes at every relative seek (OSError for a negative
  target; `wholeLinesNeg`, `readWholeLinesChk_eq` in `Proofs/SeekChk.lean`).
-/
import AgpTpf.Gen.Imp3
import AgpTpf.Model.Cli
import AgpTpf.Model.Fasta
import AgpTpf.Proofs.SeekChk
import AgpTpf.Proofs.Lib.PyRt
set_option linter.unusedSimpArgs false
set_option linter.unusedVariables false
namespace AgpTpf.ImpFileIO
open AgpTpf

theorem faiRowSrc_eq (i : FastaInfo) (name : Str) : Gen.Imp.FastaInfo_fai_row i name = .ok (faiRow (name, i)) := by
  simp [Gen.Imp.FastaInfo_fai_row, faiRow, joinWith]

/-- `line.rstrip("\n")`: the translator writes the character set as a membership test -/
theorem nl_pred : (fun c => (['\n'] : List Char).contains c) = (· == '\n') := by
  funext c
  cases h : c == '\n' <;> simp [List.contains, List.elem, h]

def loadStep (acc : List (Str × FastaInfo)) (l : Str) : R (List (Str × FastaInfo)) := do
  let e ← loadIndexLine l; pure (dSet acc e.1 e.2)

theorem loadIndex_eq (lines : List Str) : loadIndex lines = lines.foldlM loadStep [] := rfl

/-- `name, a, b, c, d = fields` followed by the four `int(…)` in order, as a function of the field list: `PyRt.unpackN 5` + `getD` is
    the model's five-element `match` -/
theorem unpack5 {β : Type} (fs : List Str) (k : Str → Int → Int → Int → Int → R β) :
    (PyRt.unpackN 5 fs >>= fun un =>
      pyInt (un.getD 1 default) >>= fun t2 => pyInt (un.getD 2 default) >>= fun t3 =>
      pyInt (un.getD 3 default) >>= fun t4 => pyInt (un.getD 4 default) >>= fun t5 =>
      k (un.getD 0 default) t2 t3 t4 t5) =
    (match fs with
     | [n, a, b, c, d] => pyInt a >>= fun t2 => pyInt b >>= fun t3 => pyInt c >>= fun t4 => pyInt d >>= fun t5 => k n t2 t3 t4 t5
     | _ => .error .value) := by
  rcases fs with _ | ⟨n, _ | ⟨a, _ | ⟨b, _ | ⟨c, _ | ⟨d, _ | ⟨e, r⟩⟩⟩⟩⟩⟩ <;>
    simp [PyRt.unpackN, bind, Except.bind]

theorem loadStep_map {β : Type} (acc : List (Str × FastaInfo)) (l : Str) (k : List (Str × FastaInfo) → β) :
    (loadStep acc l).map k =
      (match splitFaiLine l with
       | [n, a, b, c, d] => pyInt a >>= fun t2 => pyInt b >>= fun t3 => pyInt c >>= fun t4 => pyInt d >>= fun t5 =>
           (.ok (k (dSet acc n { length := t2, fileOffset := t3, rpl := t4, mll := t5 })) : R β)
       | _ => .error .value) := by
  unfold loadStep loadIndexLine
  generalize splitFaiLine l = fs
  rcases fs with _ | ⟨n, _ | ⟨a, _ | ⟨b, _ | ⟨c, _ | ⟨d, _ | ⟨e, r⟩⟩⟩⟩⟩⟩
  all_goals try rfl
  dsimp only
  cases pyInt a <;> try rfl
  cases pyInt b <;> try rfl
  cases pyInt c <;> try rfl
  cases pyInt d <;> rfl

theorem loadIndexSrc_eq (lines : List Str) : Gen.Imp.FastaIndex_load_index [] lines = loadIndex lines := by
  unfold Gen.Imp.FastaIndex_load_index
  rw [loadIndex_eq]
  simp only [List.isEmpty_nil, Bool.not_true, Bool.false_eq_true, if_false]
  rw [PyRt.forIn_foldlM loadStep]
  · cases List.foldlM loadStep [] lines <;> rfl
  · intro line _ acc
    rw [nl_pred, loadStep_map]
    exact unpack5 (splitFaiLine line)
      fun n t2 t3 t4 t5 => .ok (PyRt.Ctl.next (dSet acc n { length := t2, fileOffset := t3, rpl := t4, mll := t5 }))

/-- `if self.index: raise IndexUsageError` -/
theorem loadIndexSrc_twice (idx : List (Str × FastaInfo)) (h : idx ≠ []) (lines : List Str) :
    Gen.Imp.FastaIndex_load_index idx lines = .error .usage := by
  unfold Gen.Imp.FastaIndex_load_index
  cases idx with
  | nil => exact absurd rfl h
  | cons a r => simp

theorem write_end (seq : PyRt.BytesIO) (d : List Nat) (h : seq.pos = seq.data.length) :
    PyRt.BytesIO.write seq d = { data := seq.data ++ d, pos := seq.data.length + d.length } := by
  simp [PyRt.BytesIO.write, h]

theorem read_fst (fh : PyRt.BinFile) (n : Int) : (PyRt.BinFile.read fh n).1 = readAt fh.data fh.pos n := by
  simp [PyRt.BinFile.read, readAt]

theorem read_snd (fh : PyRt.BinFile) (n : Int) :
    (PyRt.BinFile.read fh n).2 = { data := fh.data, pos := fh.pos + (readAt fh.data fh.pos n).length } := by
  simp [PyRt.BinFile.read, readAt]

theorem seek_eq (fh : PyRt.BinFile) (p : Int) :
    PyRt.BinFile.seek fh p = if p < 0 then .error .other else .ok { data := fh.data, pos := p.toNat } := rfl

theorem seekRel_eq (fh : PyRt.BinFile) (d : Int) :
    PyRt.BinFile.seekRel fh d =
      if (fh.pos : Int) + d < 0 then .error .other else .ok { data := fh.data, pos := ((fh.pos : Int) + d).toNat } := rfl

/-- the whole-lines loop of the source (`for _ in range(n): seq.write(fh.read(rpl)); fh.seek(leb, 1)`), the body a parameter, against
    the model's `readWholeLinesChk` (OSError at the first relative seek with a negative target).  `pk` packs the loop state; its order
    is given at the use site. -/
theorem forIn_wholeLines {ι σ ρ : Type} (pk : PyRt.BinFile → PyRt.BytesIO → σ) (rpl leb : Int)
    (body : ι → σ → R (PyRt.Ctl σ ρ))
    (hbody : ∀ i fh seq, body i (pk fh seq) =
      (PyRt.BinFile.seekRel (PyRt.BinFile.read fh rpl).2 leb >>= fun fh' =>
        .ok (.next (pk fh' (PyRt.BytesIO.write seq (PyRt.BinFile.read fh rpl).1)))))
    (xs : List ι) :
    ∀ (fh : PyRt.BinFile) (seq : PyRt.BytesIO) (rs : List Int), seq.pos = seq.data.length →
    PyRt.forIn xs (pk fh seq) body =
      match readWholeLinesChk fh.data rpl leb xs.length fh.pos { data := seq.data, reads := rs } with
      | .error e => .error e
      | .ok r => .ok (.fell (pk { data := fh.data, pos := r.1.toNat } { data := r.2.data, pos := r.2.data.length })) := by
  induction xs with
  | nil =>
    intro fh seq rs hseq
    cases seq with
    | mk d p =>
      simp only at hseq
      subst hseq
      simp [PyRt.forIn, readWholeLinesChk]
  | cons x xs ih =>
    intro fh seq rs hseq
    rw [PyRt.forIn, hbody, seekRel_eq, read_snd, read_fst]
    simp only [List.length_cons, readWholeLinesChk]
    by_cases hneg : ((fh.pos + (readAt fh.data fh.pos rpl).length : Nat) : Int) + leb < 0
    · have hneg' : (fh.pos : Int) + ((readAt fh.data fh.pos rpl).length : Int) + leb < 0 := by omega
      simp [hneg, hneg', bind, Except.bind]
    · have hneg' : ¬ ((fh.pos : Int) + ((readAt fh.data fh.pos rpl).length : Int) + leb < 0) := by omega
      have hpos : ((((fh.pos + (readAt fh.data fh.pos rpl).length : Nat) : Int) + leb).toNat : Int) =
          (fh.pos : Int) + ((readAt fh.data fh.pos rpl).length : Int) + leb := by omega
      simp only [if_neg hneg, if_neg hneg', bind, Except.bind]
      rw [ih _ _ (rs ++ [rpl]) (by rw [write_end _ _ hseq]; simp)]
      simp only [hpos, write_end _ _ hseq]

/-- where the source leaves the file handle when it returns (a position in the file; computed with the model's functions — the
    unchecked `readWholeLines`: when `sequence_bytes` returns, no seek of the loop went negative, `readWholeLinesChk_eq`) -/
def seqEndPos (file : Bytes) (info : FastaInfo) (start1 stop : Int) : Int :=
  let start := start1 - 1
  let rpl := info.rpl
  let mll := info.mll
  let leb := mll - rpl
  let frstLine := pyDiv start rpl
  let lastLine := pyDiv (stop - 1) rpl
  let frstOffset := pyMod start rpl
  let lastOffset := pyMod stop rpl
  let pos0 := info.fileOffset + frstOffset + mll * frstLine
  if frstLine = lastLine then pos0 + (readAt file pos0 (stop - start)).length
  else
    let d1 := readAt file pos0 (rpl - frstOffset)
    let pos1 := pos0 + d1.length + leb
    let lastWhole := if lastOffset = 0 then lastLine else lastLine - 1
    let pos2 := (readWholeLines file rpl leb (lastWhole - frstLine).toNat pos1 { data := d1, reads := [rpl - frstOffset] }).1
    if lastOffset ≠ 0 then pos2 + (readAt file pos2 lastOffset).length else pos2

/-- a relative seek INSIDE the whole-lines loop of `sequence_bytes(info, start1, stop)` has a negative target (`sequenceBytes` raises there:
    `sequenceBytes_loopSeekNeg`) -/
def loopSeekNeg (file : Bytes) (info : FastaInfo) (start1 stop : Int) : Bool :=
  let start := start1 - 1
  let rpl := info.rpl
  let mll := info.mll
  let leb := mll - rpl
  let frstLine := pyDiv start rpl
  let lastLine := pyDiv (stop - 1) rpl
  let frstOffset := pyMod start rpl
  let lastOffset := pyMod stop rpl
  let pos0 := info.fileOffset + frstOffset + mll * frstLine
  let d1 := readAt file pos0 (rpl - frstOffset)
  let pos1 := pos0 + d1.length + leb
  let lastWhole := if lastOffset = 0 then lastLine else lastLine - 1
  decide (frstLine ≠ lastLine) && wholeLinesNeg file rpl leb (lastWhole - frstLine).toNat pos1

theorem write_nil (d : List Nat) : PyRt.BytesIO.write { data := [], pos := 0 } d = { data := d, pos := d.length } := by
  simp [PyRt.BytesIO.write]

theorem readAt_toNat (file : Bytes) (p n : Int) : readAt file (p.toNat : Int) n = readAt file p n := by
  unfold readAt; rw [Int.toNat_natCast]

/-- for ALL inputs: the same exception class everywhere, including OSError for a relative seek with a negative target inside the
    whole-lines loop; the handle's initial position `pos` does not matter.  The only proof that unfolds the generated definition. -/
theorem seqBytesSrc_eq (file : Bytes) (pos : Nat) (info : FastaInfo) (start stop : Int) :
    Gen.Imp.FastaIndex_sequence_bytes_imp { data := file, pos := pos } info start stop =
      match sequenceBytes file info start stop with
      | .error e => .error e
      | .ok log =>
        .ok ({ data := file, pos := (seqEndPos file info start stop).toNat }, { data := log.data, pos := log.data.length }) := by
  unfold Gen.Imp.FastaIndex_sequence_bytes_imp sequenceBytes seqEndPos
  by_cases hr : info.rpl = 0
  · simp [PyRt.floorDiv, hr, bind, Except.bind, throw, throwThe, MonadExceptOf.throw]
  · simp only [PyRt.floorDiv, PyRt.floorMod, if_neg hr, seek_eq, bind, Except.bind, throw, throwThe, MonadExceptOf.throw, pure, Except.pure]
    generalize pyDiv (start - 1) info.rpl = t1
    generalize pyDiv (stop - 1) info.rpl = t2
    generalize pyMod (start - 1) info.rpl = t3
    generalize pyMod stop info.rpl = t4
    generalize stop - (start - 1) = n0
    generalize info.fileOffset + t3 + info.mll * t1 = pos0
    generalize info.rpl = rpl
    generalize info.mll - rpl = leb
    by_cases h0 : pos0 < 0
    · simp only [if_pos h0]
    · simp only [if_neg h0]
      obtain ⟨p0, rfl⟩ := Int.eq_ofNat_of_zero_le (by omega : 0 ≤ pos0)
      simp only [read_fst, read_snd, write_nil, seekRel_eq, Int.toNat_natCast]
      by_cases h12 : t1 = t2
      · simp [h12]
        omega
      · simp only [h12, decide_false, if_false, Bool.false_eq_true, ne_eq, not_false_eq_true, decide_true, Bool.true_and]
        generalize readAt file p0 (rpl - t3) = d1
        rw [Int.natCast_add]
        by_cases h1 : (p0 : Int) + (d1.length : Int) + leb < 0
        · simp only [if_pos h1]
        · simp only [if_neg h1]
          obtain ⟨p1, hp1⟩ := Int.eq_ofNat_of_zero_le (by omega : 0 ≤ (p0 : Int) + (d1.length : Int) + leb)
          rw [hp1]
          simp only [Int.toNat_natCast]
          rw [forIn_wholeLines Prod.mk rpl leb _ (fun i fh seq => rfl) _ { data := file, pos := p1 } { data := d1, pos := d1.length }
            [rpl - t3] rfl]
          simp only [PyRt.length_rangeUp, Int.sub_zero, decide_eq_true_eq]
          generalize ((if t4 = 0 then t2 else t2 - 1) - t1).toNat = k
          rw [readWholeLinesChk_eq]
          by_cases hneg : wholeLinesNeg file rpl leb k p1 = true
          · simp only [hneg, if_true]
          · have hnn := readWholeLines_nonneg file rpl leb k p1 { data := d1, reads := [rpl - t3] } (by omega) (by simpa using hneg)
            simp only [hneg, if_false, Bool.false_eq_true]
            generalize readWholeLines file rpl leb k p1 { data := d1, reads := [rpl - t3] } = r at hnn ⊢
            by_cases h4 : t4 = 0
            · simp [h4]
            · simp only [h4, not_false_eq_true, decide_true, if_true, readAt_toNat]
              rw [write_end _ _ rfl]
              simp
              omega

/-- `loopSeekNeg` needs `rpl > mll` and a short read at the end of the file; the error is `.zeroDiv` / `.other` from the earlier
    checks, else `.other` from the loop -/
theorem sequenceBytes_loopSeekNeg (file : Bytes) (info : FastaInfo) (start stop : Int)
    (h : loopSeekNeg file info start stop = true) : ∃ e, sequenceBytes file info start stop = .error e := by
  unfold loopSeekNeg at h
  unfold sequenceBytes
  dsimp only at h
  simp only [bind, Except.bind, throw, throwThe, MonadExceptOf.throw, pure, Except.pure]
  generalize pyDiv (start - 1) info.rpl = t1 at h ⊢
  generalize pyDiv (stop - 1) info.rpl = t2 at h ⊢
  generalize pyMod (start - 1) info.rpl = t3 at h ⊢
  generalize pyMod stop info.rpl = t4 at h ⊢
  generalize info.fileOffset + t3 + info.mll * t1 = pos0 at h ⊢
  simp only [Bool.and_eq_true, decide_eq_true_eq] at h
  by_cases hr : info.rpl = 0
  · exact ⟨.zeroDiv, by simp only [hr, if_true]⟩
  · by_cases h0 : pos0 < 0
    · exact ⟨.other, by simp only [hr, h0, if_true, if_false]⟩
    · by_cases h1 : pos0 + ((readAt file pos0 (info.rpl - t3)).length : Int) + (info.mll - info.rpl) < 0
      · exact ⟨.other, by simp only [hr, h0, h.1, h1, if_true, if_false]⟩
      · refine ⟨.other, ?_⟩
        simp only [hr, h0, h.1, h1, if_false]
        rw [readWholeLinesChk_eq, h.2]
        rfl

/-- the contrapositive of `sequenceBytes_loopSeekNeg` (`hle` is not used).  With `residues_per_line ≤ max_line_length`
    (`line_end_bytes ≥ 0`; every index the indexer writes has it) such a seek cannot go negative at all: `wholeLinesNeg_of_leb`. -/
theorem loopSeekNeg_of_le (file : Bytes) (info : FastaInfo) (start stop : Int) (hle : info.rpl ≤ info.mll) (log : ReadLog)
    (hok : sequenceBytes file info start stop = .ok log) : loopSeekNeg file info start stop = false := by
  cases hl : loopSeekNeg file info start stop with
  | false => rfl
  | true =>
    obtain ⟨e, he⟩ := sequenceBytes_loopSeekNeg file info start stop hl
    rw [he] at hok
    cases hok

/-- the rows of `write_index` -/
theorem mapM_faiRowSrc (entries : List (Str × FastaInfo)) :
    entries.mapM (fun r => Gen.Imp.FastaInfo_fai_row r.2 r.1) = .ok (entries.map faiRow) :=
  mapM_ok fun r _ => faiRowSrc_eq r.2 r.1

end AgpTpf.ImpFileIO
