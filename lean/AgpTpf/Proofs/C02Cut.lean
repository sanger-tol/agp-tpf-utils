/-
  C02 — helper lemmas for M7: the keep-start / keep-end flags `cut_fragments` gives the holders of a shared contig, by
  their place in the visiting order, and which side of the contig each flag leaves untouched.
-/
import AgpTpf.Proofs.C02Fix
import AgpTpf.Proofs.C02Trim
import AgpTpf.Proofs.C01Cut
import AgpTpf.Proofs.Lib.Pipeline
namespace AgpTpf.C02
open AgpTpf OverlapResult

/-- `(keep_start, keep_end)` handed to `trim_fragment` for the `i`-th holder (0-based) out of `last + 1` -/
def cutFlags (strand : Int) (i last : Nat) : Bool × Bool :=
  if strand = -1 then (i == last, i == 0) else (i == 0, i == last)

theorem keepFlags_eq_cutFlags (f : Fragment) (last i : Nat) : Pipeline.keepFlags f last i = cutFlags f.strand i last := rfl

theorem trimFragment_keep {o o' : OverlapResult} {f new : Fragment} {ks ke : Bool} {oid : Nat}
    (h : trimFragment o f ks ke oid = .ok (o', new)) :
    (ks = true → if f.strand = 1 then new.start = f.start else new.stop = f.stop) ∧
    (ke = true → if f.strand = 1 then new.stop = f.stop else new.start = f.start) := by
  obtain ⟨a, b, -, -, -, -, rfl, -, -⟩ := trimFragment_ok_iff.mp h
  constructor <;> rintro rfl <;> simp only [trimPiece_start, trimPiece_stop, startCut_keep, endCut_keep] <;> split <;> omega

theorem end_piece_kept {o o' : OverlapResult} {f new : Fragment} {i last : Nat} {oid : Nat}
    (hst : f.strand = 1 ∨ f.strand = -1)
    (h : trimFragment o f (cutFlags f.strand i last).1 (cutFlags f.strand i last).2 oid = .ok (o', new)) :
    (i = 0 → new.start = f.start) ∧ (i = last → new.stop = f.stop) := by
  obtain ⟨h1, h2⟩ := trimFragment_keep h
  rcases hst with hs | hs
  · rw [if_pos hs] at h1 h2
    exact ⟨fun hi => h1 (by simp [cutFlags, hs, hi]), fun hi => h2 (by simp [cutFlags, hs, hi])⟩
  · rw [if_neg (by omega)] at h1 h2
    exact ⟨fun hi => h2 (by simp [cutFlags, hs, hi]), fun hi => h1 (by simp [cutFlags, hs, hi])⟩

end AgpTpf.C02
