/-
  C02 core — K4: a cut deeper than the margin inside a contig, between two non-empty pieces of at least
  `err` bases each, splits the contig exactly at the Pretext coordinate — for ANY map satisfying the hypotheses
  of K2.  Both pieces keep their part of the contig (K2b, `deep_base_kept`); the two parts cannot share a base (C01: every input
  base is held by exactly one stored row), so each was shortened, and a shortened end lies exactly at the bait coordinate.
-/
import AgpTpf.Proofs.C02KOut
namespace AgpTpf.C02
open AgpTpf OverlapResult
open AgpTpf.C18 (Short)
open AgpTpf.C01 (WFInput)

theorem RowKept.span_contains {o : OverlapResult} {f : Fragment} {xs : Int} {L R : List Row} {r : Row} {dl dr : Int}
    (hk : RowKept o f xs L r R dl dr) {x : Int} (h1 : o.start ≤ x) (h2 : x ≤ o.stop) (hx1 : xs < x)
    (hx2 : x ≤ xs + f.length) : xs + 1 + dl ≤ x ∧ x ≤ xs + f.length - dr := by
  constructor
  · by_cases hd : dl = 0
    · omega
    · have hL : L = [] := Classical.byContradiction (fun hne => hd (hk.left hne))
      have := hk.pos
      rw [hL, rowsLength_nil] at this
      omega
  · by_cases hd : dr = 0
    · omega
    · have hR : R = [] := Classical.byContradiction (fun hne => hd (hk.right hne))
      have := hk.posR
      rw [hR, rowsLength_nil] at this
      omega

theorem remapToInput_core_at (input ptx : List Scaffold) (prefix_ : Str) (joinGap : Option Gap) (err : Int) (b : Build)
    (hwf : WFInput input) (hnn : InputNonNeg input) (hdis : PtxDisjoint ptx) (herr : 0 ≤ err)
    (h : remapToInput input ptx prefix_ joinGap err = .ok b) {r : Res} (hr : r ∈ b.store)
    {sc : Scaffold} (hsc : sc ∈ input) (hn : sc.name = r.o.bait.name) :
    ∃ o0 : OverlapResult, KInv sc.rows (3 * err) o0.start o0.stop r.o.bait r.o ∧ SafeKept sc.rows err (3 * err) r.o := by
  obtain ⟨sc1, o1, hsc1, hnm1, _, hK, hS⟩ := remapToInput_core input ptx prefix_ joinGap err b hwf hnn hdis herr h r hr
  rw [inj_of_nodup_map (·.name) hwf.1 sc1 hsc1 sc hsc (hnm1.trans hn.symm)] at hK hS
  exact ⟨o1, hK, hS⟩

theorem deep_base_kept {src : List Row} {err s0 e0 : Int} {p : Fragment} {o : OverlapResult} (hlen : NonNeg src)
    (herr : 0 ≤ err) (hK : KInv src (3 * err) s0 e0 p o) (hS : SafeKept src err (3 * err) o)
    {X Y : List Row} {f : Fragment} (hs : src = X ++ .frag f :: Y) {x : Int}
    (h1 : rowsLength X + 1 + 3 * err ≤ x) (h2 : x ≤ rowsLength X + f.length - 3 * err)
    (hb1 : o.bait.start ≤ x) (hb2 : x ≤ o.bait.stop) (hl : o.bait.start + err ≤ o.bait.stop + 1) :
    ∃ L r R dl dr, RowKept o f (rowsLength X) L r R dl dr ∧
      rowsLength X + 1 + dl ≤ x ∧ x ≤ rowsLength X + f.length - dr := by
  have x1 : rowsLength X < x := by omega
  have x2 : x ≤ rowsLength X + f.length := by omega
  obtain ⟨pa, pb⟩ := safeKept_iff_pos.mp hS X f Y hs ⟨by omega, by omega, by omega, by omega⟩ (by omega) (by omega) x x1 x2
    hb1 hb2
  obtain ⟨L, r, R, dl, dr, k⟩ := row_kept_at hlen hK.inv hK.edge hs x1 x2 pa pb
  exact ⟨L, r, R, dl, dr, k, k.span_contains pa pb x1 x2⟩

theorem short_covers {r : Row} {f : Fragment} {dl dr k : Int} (h : Short r (.frag f) dl dr) (h1 : dl ≤ k)
    (h2 : k < f.length - dr) :
    ∃ g, r = .frag g ∧ g.name = f.name ∧ g.start ≤ (if f.strand = 1 then f.start + k else f.stop - k) ∧
      (if f.strand = 1 then f.start + k else f.stop - k) ≤ g.stop := by
  obtain ⟨g, f', rfl, e, hn, _, hc⟩ := h
  cases e
  have : f.length = f.stop - f.start + 1 := rfl
  refine ⟨g, rfl, hn, ?_⟩
  by_cases hst : f.strand = 1
  · rw [if_pos hst] at hc ⊢; omega
  · rw [if_neg hst] at hc ⊢; omega

theorem short_meet {r1 r2 : Row} {f : Fragment} {dl1 dl2 dr2 e : Int} (h1 : Short r1 (.frag f) dl1 e)
    (h2 : Short r2 (.frag f) dl2 dr2) (hd : dl2 = f.length - e) :
    ∃ g1 g2, r1 = .frag g1 ∧ r2 = .frag g2 ∧ g1.name = f.name ∧ g2.name = f.name ∧ g1.strand = f.strand ∧
      g2.strand = f.strand ∧
      (if f.strand = 1 then g1.stop = f.stop - e ∧ g2.start = g1.stop + 1
       else g1.start = f.start + e ∧ g2.stop + 1 = g1.start) := by
  obtain ⟨g1, f1, rfl, e1, n1, s1, c1⟩ := h1
  obtain ⟨g2, f2, rfl, e2, n2, s2, c2⟩ := h2
  cases e1
  cases e2
  have : f.length = f.stop - f.start + 1 := rfl
  refine ⟨g1, g2, rfl, rfl, n1, n2, s1, s2, ?_⟩
  by_cases hst : f.strand = 1
  · rw [if_pos hst] at c1 c2 ⊢; omega
  · rw [if_neg hst] at c1 c2 ⊢; omega

theorem kept_rows_disjoint (input ptx : List Scaffold) (prefix_ : Str) (joinGap : Option Gap) (err : Int) (b : Build)
    (hwf : WFInput input) (h : remapToInput input ptx prefix_ joinGap err = .ok b)
    {i j : Nat} {r1 r2 : Res} (hne : i ≠ j) (hi : b.store[i]? = some r1) (hj : b.store[j]? = some r2)
    {f : Fragment} {xs : Int} {L1 R1 L2 R2 : List Row} {row1 row2 : Row} {dl1 dr1 dl2 dr2 : Int}
    (k1 : RowKept r1.o f xs L1 row1 R1 dl1 dr1) (k2 : RowKept r2.o f xs L2 row2 R2 dl2 dr2) {x : Int}
    (a1 : xs + 1 + dl1 ≤ x) (b1 : x ≤ xs + f.length - dr1) (a2 : xs + 1 + dl2 ≤ x) (b2 : x ≤ xs + f.length - dr2) :
    False := by
  obtain ⟨g1, e1, n1, c1⟩ := short_covers k1.short (k := x - xs - 1) (by omega) (by omega)
  obtain ⟨g2, e2, n2, c2⟩ := short_covers k2.short (k := x - xs - 1) (by omega) (by omega)
  exact stored_rows_disjoint input ptx prefix_ joinGap err b hwf h hne hi hj (g := g1) (g' := g2)
    (by rw [k1.rows, e1]; simp) (by rw [k2.rows, e2]; simp) (n1.trans n2.symm) _ c1 c2

/-- **K4 at the level of the stored results.**  The side conditions on the two pieces are only: each is non-empty and has at
    least `err` bases (`SafeKept`: a contig sharing `≥ err` bases with a piece and reaching deeper than `3·err` from both
    ends of the piece is never taken away from it). -/
theorem deep_cut_rows (input ptx : List Scaffold) (prefix_ : Str) (joinGap : Option Gap) (err : Int) (b : Build)
    (hwf : WFInput input) (hnn : InputNonNeg input) (hdis : PtxDisjoint ptx) (herr : 0 ≤ err)
    (h : remapToInput input ptx prefix_ joinGap err = .ok b)
    {i j : Nat} {r1 r2 : Res} (hne : i ≠ j) (hi : b.store[i]? = some r1) (hj : b.store[j]? = some r2)
    {c : Int} (hc1 : r1.o.bait.stop = c) (hc2 : r2.o.bait.start = c + 1)
    {sc : Scaffold} (hsc : sc ∈ input) (hn1 : sc.name = r1.o.bait.name) (hn2 : sc.name = r2.o.bait.name)
    {X Y : List Row} {f : Fragment} (hs : sc.rows = X ++ .frag f :: Y)
    (hd1 : rowsLength X + 1 + 3 * err < c) (hd2 : c < rowsLength X + f.length - 3 * err)
    (hp1 : r1.o.bait.start ≤ c) (hl1 : r1.o.bait.start + err ≤ c + 1)
    (hp2 : c + 1 ≤ r2.o.bait.stop) (hl2 : c + err ≤ r2.o.bait.stop) :
    ∃ L g1 g2 R, r1.o.rows = L ++ [.frag g1] ∧ r2.o.rows = .frag g2 :: R ∧ r1.o.stop = c ∧ r2.o.start = c + 1 ∧
      g1.name = f.name ∧ g2.name = f.name ∧ g1.strand = f.strand ∧ g2.strand = f.strand ∧
      (if f.strand = 1 then g1.stop = f.stop - (rowsLength X + f.length - c) ∧ g2.start = g1.stop + 1
       else g1.start = f.start + (rowsLength X + f.length - c) ∧ g2.stop + 1 = g1.start) := by
  have hlen := hnn sc hsc
  obtain ⟨_, hK1, hS1⟩ := remapToInput_core_at input ptx prefix_ joinGap err b hwf hnn hdis herr h
    (List.mem_of_getElem? hi) hsc hn1
  obtain ⟨_, hK2, hS2⟩ := remapToInput_core_at input ptx prefix_ joinGap err b hwf hnn hdis herr h
    (List.mem_of_getElem? hj) hsc hn2
  obtain ⟨L1, row1, R1, dl1, dr1, k1, sp1a, sp1b⟩ := deep_base_kept hlen herr hK1 hS1 hs (x := c) (Int.le_of_lt hd1)
    (Int.le_of_lt hd2) hp1 (Int.le_of_eq hc1.symm) (hc1.symm ▸ hl1)
  obtain ⟨L2, row2, R2, dl2, dr2, k2, sp2a, sp2b⟩ := deep_base_kept hlen herr hK2 hS2 hs (x := c + 1) (by omega) hd2
    (Int.le_of_eq hc2) hp2 (by omega)
  -- the two parts cannot share a base: the right end of piece 1's part and the left end of piece 2's part were cut
  have hdr1 : dr1 ≠ 0 := fun h0 =>
    kept_rows_disjoint input ptx prefix_ joinGap err b hwf h hne hi hj k1 k2 (x := c + 1) (by omega) (by omega) sp2a sp2b
  have hdl2 : dl2 ≠ 0 := fun h0 =>
    kept_rows_disjoint input ptx prefix_ joinGap err b hwf h hne hi hj k1 k2 (x := c) sp1a sp1b (by omega) (by omega)
  have hR1 : R1 = [] := Classical.byContradiction (fun hne' => hdr1 (k1.right hne'))
  have hL2 : L2 = [] := Classical.byContradiction (fun hne' => hdl2 (k2.left hne'))
  have hstop1 : r1.o.stop = c := (k1.cutR hdr1).trans hc1
  have hstart2 : r2.o.start = c + 1 := (k2.cutL hdl2).trans hc2
  have hp1' := k1.posR
  have hp2' := k2.pos
  rw [hR1, rowsLength_nil] at hp1'
  rw [hL2, rowsLength_nil] at hp2'
  obtain rfl : dr1 = rowsLength X + f.length - c := by omega
  obtain ⟨g1, g2, rfl, rfl, hm⟩ := short_meet k1.short k2.short (by omega)
  exact ⟨L1, g1, g2, R2, by rw [k1.rows, hR1], by rw [k2.rows, hL2]; rfl, hstop1, hstart2, hm⟩

end AgpTpf.C02
