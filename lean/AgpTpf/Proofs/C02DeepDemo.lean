/-
  C02 — the demo map with two deep cuts (`Properties/C02Deep`: one forward and one reverse contig cut deep inside, pieces
  swapped and reversed), as `Properties/C02Core` and `C02Order` use it to show that K2–K4 and O2/O3 are not vacuous.
  Each run on it is evaluated here ONCE, under the union of the views those files display; they read their own
  (coarser) views off these facts (`map_view_of`, `views_of_pair`).
-/
import AgpTpf.Proofs.ImpEval
import AgpTpf.Proofs.C02KCut
namespace AgpTpf.C02.DeepDemo
open AgpTpf
open scoped AgpTpf.ImpEval

def jg : Gap := { length := 200, gapType := "scaffold".toList }
def g10 : Gap := { length := 10, gapType := "scaffold".toList }
def g5 : Gap := { length := 5, gapType := "scaffold".toList }
def a1 : Fragment := { oid := 1, name := "ctgA1".toList, start := 1, stop := 100, strand := 1 }
def a2 : Fragment := { oid := 2, name := "ctgA2".toList, start := 1, stop := 80, strand := -1 }
def a3 : Fragment := { oid := 3, name := "ctgA3".toList, start := 1, stop := 40, strand := 1 }
def b1 : Fragment := { oid := 4, name := "ctgB1".toList, start := 1, stop := 80, strand := 1 }
def b2 : Fragment := { oid := 5, name := "ctgB2".toList, start := 1, stop := 60, strand := 1 }
/-- 240 bp: a1 1-100, gap, a2 111-190 (reverse contig), gap, a3 201-240 -/
def sA : Scaffold := { name := "scaffold_1".toList, rows := [.frag a1, .gap g10, .frag a2, .gap g10, .frag a3] }
/-- 145 bp: b1 1-80, gap, b2 86-145 -/
def sB : Scaffold := { name := "scaffold_2".toList, rows := [.frag b1, .gap g5, .frag b2] }
def inp : List Scaffold := [sA, sB]
def pc (n : Str) (s e st : Int) : Row := .frag { name := n, start := s, stop := e, strand := st }
/-- `scaffold_1` cut at 48 | 49 (inside the forward contig a1) and at 150 | 151 (inside the reverse contig a2, 111..190);
    `scaffold_2` cut at 82 | 83 (inside its gap) -/
def ptx : List Scaffold :=
  [{ name := "Scaffold_1".toList, rows := [pc sA.name 49 150 (-1), .gap jg, pc sB.name 1 82 1] },
   { name := "Scaffold_2".toList,
     rows := [pc sB.name 83 145 1, .gap jg, pc sA.name 151 240 1, .gap jg, pc sA.name 1 48 (-1)] }]

def inpC : Decoded inp := ⟨_, by unfold inp sA sB a1 a2 a3 b1 b2 g10 g5; str_lits; exact rfl⟩
def jgC : Decoded jg := ⟨_, by unfold jg; str_lits; exact rfl⟩
def ptxC : Decoded ptx := ⟨_, by unfold ptx sA sB jg; str_lits; exact rfl⟩

theorem hyps : C01.WFInput inp ∧ InputNonNeg inp ∧ PtxDisjoint ptx := by rw [inpC.2, ptxC.2]; decide +kernel

/-- what the two files display of a stored result: `added`, "no rows", its key `(tag, haplotype, name)`; its bait; its span and
    the contig keys of its rows -/
structure ResView where
  added : Bool
  noRows : Bool
  tag : Option Str
  haplotype : Option Str
  name : Str
  bait : Str × Int × Int
  start : Int
  stop : Int
  keys : List Key
  deriving DecidableEq

def view (b : Build) : List ResView :=
  b.store.map (fun r => ⟨r.added, r.o.rows.isEmpty, r.o.tag, r.o.haplotype, r.o.name,
    (r.o.bait.name, r.o.bait.start, r.o.bait.stop), r.o.start, r.o.stop, C01.keysOf r.o.rows⟩)

/-- `remap_to_input_assembly` with `err = 5` (margin 15) -/
theorem store5 : (remapToInput inp ptx "SUPER_".toList (some jg) 5).toOption.map view =
    some [⟨true, false, none, none, "scaffold_1".toList, (sA.name, 49, 150), 49, 150,
            [("ctgA1".toList, 49, 100), ("ctgA2".toList, 41, 80)]⟩,
          ⟨true, false, none, none, "scaffold_1".toList, (sB.name, 1, 82), 1, 80, [("ctgB1".toList, 1, 80)]⟩,
          ⟨true, false, none, none, "scaffold_2".toList, (sB.name, 83, 145), 86, 145, [("ctgB2".toList, 1, 60)]⟩,
          ⟨true, false, none, none, "scaffold_2".toList, (sA.name, 151, 240), 151, 240,
            [("ctgA2".toList, 1, 40), ("ctgA3".toList, 1, 40)]⟩,
          ⟨true, false, none, none, "scaffold_2".toList, (sA.name, 1, 48), 1, 48, [("ctgA1".toList, 1, 48)]⟩] := by
  rw [inpC.2, ptxC.2, jgC.2]; unfold sA sB; str_lits; decide +kernel

/-- … and with `err = 9` (margin 27): the same stored results -/
theorem store9 : (remapToInput inp ptx "SUPER_".toList (some jg) 9).toOption.map view =
    (remapToInput inp ptx "SUPER_".toList (some jg) 5).toOption.map view := by
  rw [store5, inpC.2, ptxC.2, jgC.2]; unfold sA sB; str_lits; decide +kernel

/-- found in two steps, so that the instance search for the view of `run9` stays small -/
local instance : DecidableEq (Str × List Key) := inferInstance
local instance : DecidableEq (Option Str × List (Str × List Key)) := inferInstance

theorem run9 : (remap inp ptx "SUPER_".toList (some jg) 9).toOption.map
      (fun r => (r.1.map (fun a => (a.key, a.scaffolds.map (fun s => (s.name, C01.keysOf s.rows)))), r.2.cuts)) =
    some ([(none, [("scaffold_1".toList, [("ctgA2".toList, 41, 80), ("ctgA1".toList, 49, 100), ("ctgB1".toList, 1, 80)]),
                   ("scaffold_2".toList, [("ctgB2".toList, 1, 60), ("ctgA2".toList, 1, 40), ("ctgA3".toList, 1, 40),
                                          ("ctgA1".toList, 1, 48)])])], 2) := by
  rw [inpC.2, ptxC.2, jgC.2]; str_lits; decide +kernel

theorem cuts5 : (remap inp ptx "SUPER_".toList (some jg) 5).toOption.map (fun r => r.2.cuts) = some 2 := by
  rw [inpC.2, ptxC.2, jgC.2]; str_lits; decide +kernel

end AgpTpf.C02.DeepDemo
