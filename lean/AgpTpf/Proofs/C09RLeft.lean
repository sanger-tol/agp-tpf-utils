/-
  C09 routing, part 4 (R5): left-over scaffolds (`add_missing`) — their tag, and their haplotype by the name of their
  first row.  That rule (`hapClassTag`, `registeredOr`, `leftoverHaplotype`, `makeScaffoldName_nameprefix`) is the one
  `make_scaffold_name` applies to any scaffold without a haplotype tag; R6 reads it for Pretext scaffolds.
-/
import AgpTpf.Model.Remap
import AgpTpf.Proofs.C09RFixed
import AgpTpf.Proofs.C09RLabel
import AgpTpf.Proofs.Lib.Py
import AgpTpf.Proofs.Lib.Namer
namespace AgpTpf.C09
open AgpTpf

/-- the left-over scaffold `add_missing` appends for input scaffold `sc` when the namer (after naming it) is `n` -/
def leftoverOf (n : Namer) (sc : Scaffold) (rows : List Row) : Scaffold :=
  { name := sc.name, rows := rows, rank := 3,
    tag := if n.targetTags ∧ ¬ sc.fragmentTags.contains sTarget then some sContaminant else none,
    haplotype := n.currentHaplotype }

theorem addMissingStep_spec (b b' : Build) (sc : Scaffold) (h : addMissingStep b sc = .ok b') :
    (∃ first, missingRows b sc.rows = .ok ([], first) ∧ b' = b) ∨
    (∃ rows first n, missingRows b sc.rows = .ok (rows, first) ∧ rows ≠ [] ∧
      makeScaffoldName b.namer sc.name rows ({ name := sc.name, rows := rows } : Scaffold).fragmentTags = .ok n ∧
      b'.namer = n ∧ b'.store = b.store ∧
      b'.extra = b.extra ++ [(leftoverOf n sc rows,
        match first with | some i => inputPredecessor sc.rows i | none => none)]) := by
  obtain ⟨rows, first, hv, ⟨rfl, rfl⟩ | ⟨hne, n, hn, rfl⟩⟩ := Pipeline.missingStep_inv (show Pipeline.missingStep b sc = .ok b' from h)
  · exact .inl ⟨first, hv, rfl⟩
  · exact .inr ⟨rows, first, n, hv, hne, hn, rfl, rfl, rfl⟩

/-- what R5 says about a left-over scaffold made from input scaffold `sc` -/
def LeftoverOK (target0 : Bool) (sc : Scaffold) (e : Scaffold × Option (Fragment × List Gap)) : Prop :=
  e.1.name = sc.name ∧ e.1.rows ≠ [] ∧ e.1.rank = 3 ∧
  (e.1.tag = none ∨ (e.1.tag = some sContaminant ∧ hasTarget sc = false)) ∧
  (target0 = true → e.1.tag = if hasTarget sc then none else some sContaminant)

theorem LeftoverOK.mono {t t' : Bool} {sc : Scaffold} {e : Scaffold × Option (Fragment × List Gap)}
    (ht : t' = true → t = true) (h : LeftoverOK t sc e) : LeftoverOK t' sc e :=
  ⟨h.1, h.2.1, h.2.2.1, h.2.2.2.1, fun h' => h.2.2.2.2 (ht h')⟩

/-- the tag follows the namer's flag as it stands once the left-over scaffold has its name -/
theorem leftoverOf_ok (n : Namer) (sc : Scaffold) {rows : List Row} (hne : rows ≠ [])
    (pred : Option (Fragment × List Gap)) : LeftoverOK n.targetTags sc (leftoverOf n sc rows, pred) := by
  refine ⟨rfl, hne, rfl, ?_, fun ht => ?_⟩ <;> simp only [leftoverOf, hasTarget]
  · by_cases hc : n.targetTags = true ∧ ¬ sc.fragmentTags.contains sTarget = true
    · exact .inr ⟨if_pos hc, by simpa using hc.2⟩
    · exact .inl (if_neg hc)
  · simp [ht]

/-- the flag `targetTags` is only ever raised, so what holds of a left-over scaffold under the flag at its own turn holds
    under the flag `add_missing` started with -/
theorem addMissing_leftovers (input : List Scaffold) (b b' : Build) (h : addMissing input b = .ok b') :
    (b.namer.targetTags = true → b'.namer.targetTags = true) ∧
    ∀ e ∈ b'.extra, e ∈ b.extra ∨ ∃ sc ∈ input, LeftoverOK b.namer.targetTags sc e := by
  rw [addMissing_eq] at h
  refine foldlM_inv (fun x : Build => (b.namer.targetTags = true → x.namer.targetTags = true) ∧
    ∀ e ∈ x.extra, e ∈ b.extra ∨ ∃ sc ∈ input, LeftoverOK b.namer.targetTags sc e) h ⟨id, fun e he => .inl he⟩ ?_
  intro x sc hsc x' ⟨hm, hx⟩ hs
  rcases addMissingStep_spec x x' sc hs with ⟨_, _, rfl⟩ | ⟨rows, first, n, _, hne, hn, e1, _, e3⟩
  · exact ⟨hm, hx⟩
  · have hnt : b.namer.targetTags = true → n.targetTags = true := fun ht => by
      rw [makeScaffoldName_frame hn]; exact Bool.or_eq_true_iff.mpr (.inl (hm ht))
    refine ⟨fun ht => e1 ▸ hnt ht, fun e he => ?_⟩
    rw [e3] at he
    rcases List.mem_append.mp he with he | he
    · exact hx e he
    · cases List.mem_singleton.mp he
      exact .inr ⟨sc, hsc, (leftoverOf_ok n sc hne _).mono hnt⟩

/-- the haplotype registered for `g` case-insensitively, else `g` itself (which is then registered: finding F10) -/
def registeredOr (n : Namer) (g : Str) : Str := (dGet? n.haplotypeLc (lowerStr g)).getD g

/-- … with the Primary substitution of `make_scaffold_name` -/
def leftoverHaplotype (n : Namer) (g : Str) : Option Str :=
  if truthy n.primaryHaplotype ∧ some (registeredOr n g) = n.primaryHaplotype then some sPrimary
  else some (registeredOr n g)

theorem getSet_value (n : Namer) (g : Str) :
    (n.getSetHaplotype g).2 = registeredOr n g ∧
    dGet? (n.getSetHaplotype g).1.haplotypeLc (lowerStr g) = some (registeredOr n g) := by
  unfold Namer.getSetHaplotype dSetDefault registeredOr
  cases hd : dGet? n.haplotypeLc (lowerStr g) with
  | some w => exact ⟨rfl, hd⟩
  | none =>
    refine ⟨rfl, ?_⟩
    show dGet? (n.haplotypeLc ++ [(lowerStr g, g)]) (lowerStr g) = some g
    rw [dGet?_append_of_none _ hd]; exact if_pos rfl

theorem haplotype_of_source {n n' : Namer} {g : Str}
    (hlc : n'.haplotypeLc = (dSetDefault n.haplotypeLc (lowerStr g) g).1)
    (hcur : n'.currentHaplotype = primarySubst n.primaryHaplotype (some (dSetDefault n.haplotypeLc (lowerStr g) g).2)) :
    n'.currentHaplotype = leftoverHaplotype n g ∧ dGet? n'.haplotypeLc (lowerStr g) = some (registeredOr n g) := by
  obtain ⟨v1, v2⟩ := getSet_value n g
  rw [getSetHaplotype_eq] at v1 v2
  exact ⟨by rw [hcur, v1, primarySubst_some]; rfl, by rw [hlc]; exact v2⟩

/-- what `make_scaffold_name` takes for a haplotype name -/
def hapClassTag (t : Str) : Bool :=
  t != sPainted && t != sTarget && t != sPrimary && !isChrNameTag t && !Gen.otherKnownTags.contains t

theorem tagClass_hap (t : Str) : C17.tagClass t = .hap ↔ hapClassTag t = true := by
  unfold hapClassTag
  simp only [Bool.and_eq_true, bne_iff_ne, ne_eq, Bool.not_eq_true']
  constructor
  · intro h
    obtain ⟨a, b, c, d, e⟩ : _ ∧ _ ∧ _ ∧ _ ∧ _ := by simpa only [h] using tagClass_spec t
    exact ⟨⟨⟨⟨c, d⟩, e⟩, b⟩, a⟩
  · rintro ⟨⟨⟨⟨c, d⟩, e⟩, b⟩, a⟩
    unfold C17.tagClass
    rw [if_neg c, if_neg d, if_neg e, if_neg (by rw [b]; nofun), if_pos (by rw [a]; nofun)]

theorem hapTags_eq_nil {tags : List Str} (hh : ∀ t ∈ tags, hapClassTag t = false) : hapTags tags = [] :=
  List.filter_eq_nil_iff.2 fun t ht hc => by
    have := (tagClass_hap t).1 (of_decide_eq_true hc)
    rw [hh t ht] at this; cases this

theorem makeScaffoldName_nameprefix (n n' : Namer) (scName nm g : Str) (rows : List Row) (tags : List Str)
    (hh : ∀ t ∈ tags, hapClassTag t = false) (hp : sPrimary ∉ tags)
    (hfirst : firstRowName rows = .ok nm) (hg : hapPrefixOfName nm = some g)
    (h : makeScaffoldName n scName rows tags = .ok n') :
    n'.currentHaplotype = leftoverHaplotype n g ∧
    dGet? n'.haplotypeLc (lowerStr g) = some (registeredOr n g) := by
  have hnil := hapTags_eq_nil hh
  obtain ⟨src, hsrc, _, hlc, hcur⟩ := makeScaffoldName_haplotype hp (by rw [hnil]; exact fun _ h => nomatch h) h
  rw [hnil] at hsrc
  obtain ⟨nm', hnm', rfl⟩ := hsrc
  rw [hfirst] at hnm'; cases hnm'
  rw [hg] at hlc hcur
  exact haplotype_of_source hlc hcur

theorem addMissingStep_nameprefix (b b' : Build) (sc : Scaffold) (rows : List Row) (first : Option Nat) (nm g : Str)
    (hm : missingRows b sc.rows = .ok (rows, first)) (hne : rows ≠ [])
    (hh : ∀ t ∈ ({ name := sc.name, rows := rows } : Scaffold).fragmentTags, hapClassTag t = false)
    (hp : sPrimary ∉ ({ name := sc.name, rows := rows } : Scaffold).fragmentTags)
    (hfirst : firstRowName rows = .ok nm) (hg : hapPrefixOfName nm = some g)
    (h : addMissingStep b sc = .ok b') :
    ∃ e, b'.extra = b.extra ++ [e] ∧ e.1.name = sc.name ∧ e.1.rows = rows ∧
      e.1.haplotype = leftoverHaplotype b.namer g ∧
      dGet? b'.namer.haplotypeLc (lowerStr g) = some (registeredOr b.namer g) := by
  rcases addMissingStep_spec b b' sc h with ⟨f0, h0, _⟩ | ⟨rows', first', n, h0, _, hn, e1, _, e3⟩
  · rw [hm] at h0
    simp only [Except.ok.injEq, Prod.mk.injEq] at h0
    exact absurd h0.1 hne
  · rw [hm] at h0
    simp only [Except.ok.injEq, Prod.mk.injEq] at h0
    obtain ⟨rfl, rfl⟩ := h0
    obtain ⟨c1, c2⟩ := makeScaffoldName_nameprefix b.namer n sc.name nm g rows _ hh hp hfirst hg hn
    exact ⟨_, e3, rfl, rfl, c1, by rw [e1]; exact c2⟩

/-- **First-row-name rule for a left-over scaffold whose contigs carry no tags** (one step of `add_missing`): the
    haplotype is the spelling registered for `lowerStr g`, else `g` itself — which this very call then registers. -/
theorem addMissingStep_haplotype (b b' : Build) (sc : Scaffold) (rows : List Row) (first : Option Nat) (nm g : Str)
    (hm : missingRows b sc.rows = .ok (rows, first)) (hne : rows ≠ [])
    (hnt : ({ name := sc.name, rows := rows } : Scaffold).fragmentTags = [])
    (hfirst : firstRowName rows = .ok nm) (hg : hapPrefixOfName nm = some g)
    (h : addMissingStep b sc = .ok b') :
    ∃ e, b'.extra = b.extra ++ [e] ∧ e.1.name = sc.name ∧ e.1.rows = rows ∧
      e.1.haplotype = leftoverHaplotype b.namer g ∧
      dGet? b'.namer.haplotypeLc (lowerStr g) = some (registeredOr b.namer g) :=
  addMissingStep_nameprefix b b' sc rows first nm g hm hne (by rw [hnt]; exact fun _ ht => nomatch ht)
    (by rw [hnt]; exact fun ht => nomatch ht) hfirst hg h

end AgpTpf.C09
