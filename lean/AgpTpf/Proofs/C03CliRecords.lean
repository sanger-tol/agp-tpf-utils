/-
  C03, last sentences — the CONTENT of the files of `Proofs/C03CliFiles.lean`: the record names read back from the FASTA
  text, the AGP text of a list of scaffolds as column lists with the record length as last end (`AgpOf`), uniqueness of
  names through `merge_assemblies`, and where a residue of an input record ends up inside a record (`rowsBody_residue`).
-/
import AgpTpf.Proofs.C03CliFiles
import AgpTpf.Proofs.C14
import AgpTpf.Properties.C09Route
namespace AgpTpf.C03
open AgpTpf AgpTpf.StreamProofs AgpTpf.WrapProofs AgpTpf.SeqProofs AgpTpf.C05

/-- the record names of a FASTA text as a line reader sees them: every line (split after LF) that starts with `>`,
    without the `>` and without the final LF -/
def fastaRecordNames (b : Bytes) : List Bytes :=
  ((bLines b).filter (fun l => l.head? == some 62)).map (fun l => (l.drop 1).dropLast)

/-- no `>` and no LF among the bytes -/
def CleanBytes (s : Bytes) : Prop := ∀ b ∈ s, b ≠ 62 ∧ b ≠ 10

theorem comp_clean (b : Nat) (h : b ≠ 62 ∧ b ≠ 10) : comp b ≠ 62 ∧ comp b ≠ 10 := by
  by_cases hb : b < 256
  · have := C14Proofs.comp_forall (fun b c => (c = 62 → b = 62) ∧ (c = 10 → b = 10)) (by decide +kernel) b hb
    exact ⟨fun e => h.1 (this.1 e), fun e => h.2 (this.2 e)⟩
  · rw [C14Proofs.comp_big b (by omega)]; exact h

theorem cleanBytes_rc (s : Bytes) (h : CleanBytes s) : CleanBytes (reverseComplement s) := by
  intro x hx
  unfold reverseComplement at hx
  obtain ⟨y, hy, rfl⟩ := List.mem_map.mp hx
  exact comp_clean y (h y (List.mem_reverse.mp hy))

theorem cleanBytes_rowsBody (resOf : Str → Bytes) (rows : List Row)
    (h : ∀ f, Row.frag f ∈ rows → CleanBytes (slice (resOf f.name) f.start f.stop)) :
    CleanBytes (rowsBody resOf rows) := by
  intro x hx
  obtain ⟨l, hl, hxl⟩ := List.mem_flatten.mp hx
  obtain ⟨r, hr, rfl⟩ := List.mem_map.mp hl
  cases r with
  | gap g =>
    simp only [rowBody] at hxl
    have := (List.mem_replicate.mp hxl).2
    rw [this, gap_character_is_N]; decide
  | frag f =>
    simp only [rowBody] at hxl
    split at hxl
    · exact cleanBytes_rc _ (h f hr) x hxl
    · exact h f hr x hxl

def recordLines (w : Nat) (name : Str) (body : Bytes) : List Bytes := (62 :: strToBytes name) :: linesOf w body

theorem recordBytes_lines (w : Nat) (hw : 1 ≤ w) (name : Str) (body : Bytes) :
    recordBytes (w : Int) name body = ((recordLines w name body).map (· ++ [10])).flatten := by
  unfold recordBytes recordLines
  rw [wrapBody_eq_lines w hw body]
  simp

theorem recordLines_no_lf (w : Nat) (name : Str) (body : Bytes) (hn : '\n' ∉ name) (hb : CleanBytes body) :
    ∀ l ∈ recordLines w name body, ∀ b ∈ l, b ≠ 10 := by
  intro l hl b hbl
  unfold recordLines at hl
  rcases List.mem_cons.mp hl with rfl | hl
  · rcases List.mem_cons.mp hbl with rfl | hbl
    · decide
    · exact strToBytes_no_lf name hn b hbl
  · exact (hb b (mem_linesOf w body l hl b hbl)).2

theorem recordLines_headers (w : Nat) (name : Str) (body : Bytes) (hb : CleanBytes body) :
    (((recordLines w name body).map (· ++ [10])).filter (fun l => l.head? == some 62)).map
        (fun l => (l.drop 1).dropLast) = [strToBytes name] := by
  unfold recordLines
  have hrest : ((linesOf w body).map (· ++ [10])).filter (fun l => l.head? == some 62) = [] := by
    rw [List.filter_eq_nil_iff]
    intro l hl
    obtain ⟨l0, hl0, rfl⟩ := List.mem_map.mp hl
    cases l0 with
    | nil => simp
    | cons c t =>
      have := (hb c (mem_linesOf w body _ hl0 c (by simp))).1
      simp [this]
  simp only [List.map_cons, List.filter_cons, List.cons_append, List.head?_cons, beq_self_eq_true, if_true, hrest,
    List.map_nil, List.drop_one, List.tail_cons, List.dropLast_concat]

theorem fastaOf_lines (w : Nat) (hw : 1 ≤ w) (resOf : Str → Bytes) (scs : List Scaffold) :
    fastaOf (w : Int) resOf scs =
      (((scs.flatMap (fun sc => recordLines w sc.name (rowsBody resOf sc.rows)))).map (· ++ [10])).flatten := by
  unfold fastaOf
  rw [List.flatMap_def, List.map_flatten, List.flatten_flatten, List.map_map, List.map_map]
  exact congrArg List.flatten (List.map_congr_left fun sc _ => recordBytes_lines w hw sc.name _)

theorem fastaRecordNames_fastaOf (w : Nat) (hw : 1 ≤ w) (resOf : Str → Bytes) (scs : List Scaffold)
    (hn : ∀ sc ∈ scs, '\n' ∉ sc.name) (hb : ∀ sc ∈ scs, CleanBytes (rowsBody resOf sc.rows)) :
    fastaRecordNames (fastaOf (w : Int) resOf scs) = scs.map (fun sc => strToBytes sc.name) := by
  unfold fastaRecordNames
  rw [fastaOf_lines w hw, C04.bLines_lines]
  · clear hn
    induction scs with
    | nil => rfl
    | cons s t ih =>
      simp only [List.flatMap_cons, List.map_append, List.filter_append, List.map_cons]
      rw [recordLines_headers w s.name _ (hb s (by simp)), ih (fun sc hsc => hb sc (by simp [hsc]))]
      rfl
  · intro l hl
    obtain ⟨sc, hsc, hl⟩ := List.mem_flatMap.mp hl
    exact recordLines_no_lf w sc.name _ (hn sc hsc) (hb sc hsc) l hl

theorem agp_rows_of_good : ∀ (scs : List Scaffold), (∀ s ∈ scs, C06.RowsGood s.rows) →
    ∃ bodies : List (List (List Str)),
      scs.mapM (fun s => formatAgpRows s.name 0 0 s.rows) = .ok (bodies.map (List.map C06.lineOfCols)) ∧
      Forall2 (fun (s : Scaffold) colss => C06.agpCols s.name 0 0 s.rows = .ok colss ∧
                  colss.length = s.rows.length ∧ C06.ValidAgpLines true s.name 0 0 colss s.length) scs bodies
  | [], _ => ⟨[], rfl, trivial⟩
  | s :: t, h => by
    obtain ⟨bt, h1, h2⟩ := agp_rows_of_good t (fun x hx => h x (by simp [hx]))
    obtain ⟨colss, hc, hl, hv⟩ := C06.agpCols_valid true s.name 0 0 s.rows
      (fun r hr => (h s (by simp) r hr).1.writable) (fun _ r hr => (h s (by simp) r hr).2)
    refine ⟨colss :: bt, ?_, ⟨hc, hl, by simpa [Scaffold.length] using hv⟩, h2⟩
    rw [List.mapM_cons, C06.formatAgpRows_eq, hc, h1]; rfl

/-- `txt` is the AGP of the scaffolds `scs`, and each object ends at the residue count of its record:
    `txt` = per scaffold the lines `lineOfCols cols` (columns joined by tabs + LF) of the column lists `agpCols`
    computes for the scaffold's rows (one line per row), which tile the object named like the scaffold from 1 with
    parts 1, 2, …, and whose LAST END is the number of residues of the record written for the scaffold. -/
def AgpOf (resOf : Str → Bytes) (scs : List Scaffold) (txt : List Str) : Prop :=
  ∃ bodies : List (List (List Str)),
    txt = (bodies.map (List.map C06.lineOfCols)).flatten ∧
    Forall2 (fun (s : Scaffold) colss => C06.agpCols s.name 0 0 s.rows = .ok colss ∧ colss.length = s.rows.length ∧
                C06.ValidAgpLines true s.name 0 0 colss ((rowsBody resOf s.rows).length : Int)) scs bodies

theorem agpLinesOf_spec (file : Bytes) (idx : List (Str × FastaInfo)) (resOf : Str → Bytes) (n : NamedAsm)
    (hok : ∀ sc ∈ n.scaffolds, ∀ r ∈ sc.rows, RowOK file idx resOf r)
    (hgood : ∀ sc ∈ n.scaffolds, C06.RowsGood sc.rows) :
    formatAgp (asmOfNamed n) = .ok (agpLinesOf n) ∧ AgpOf resOf n.scaffolds (agpLinesOf n) := by
  obtain ⟨bodies, h1, h2⟩ := agp_rows_of_good n.scaffolds hgood
  have hf : formatAgp (asmOfNamed n) = .ok ((bodies.map (List.map C06.lineOfCols)).flatten) := by
    unfold formatAgp asmOfNamed cliHeader
    simp only [h1, bind, Except.bind, pure, Except.pure, List.map_nil, List.nil_append]
  have ha : agpLinesOf n = (bodies.map (List.map C06.lineOfCols)).flatten := by
    unfold agpLinesOf; rw [hf]
  refine ⟨by rw [ha]; exact hf, bodies, ha, ?_⟩
  refine C05.Forall2.imp_of_mem ?_ h2
  intro s colss hs _ ⟨a, b, c⟩
  refine ⟨a, b, ?_⟩
  have hlen := record_length_eq_agp_length file idx resOf s.rows (hok s hs)
    (fun g hg => by have := (hgood s hs _ hg).2; simp only [C06.RowStrict] at this; omega)
  rw [hlen]; exact c

theorem nodup_flatMap_names : ∀ (l : List OutAsm), (∀ a ∈ l, (a.scaffolds.map (·.name)).Nodup) →
    l.Pairwise (fun a b => ∀ s ∈ a.scaffolds, ∀ t ∈ b.scaffolds, s.name ≠ t.name) →
    ((l.flatMap (·.scaffolds)).map (·.name)).Nodup :=
  fun _ h1 h2 => List.pairwise_map.2 (List.pairwise_flatMap.2 ⟨fun a ha => List.pairwise_map.1 (h1 a ha), h2⟩)

/-- offset of base `x` of a fragment row inside what the row contributes -/
def offsetInRow (f : Fragment) (x : Int) : Nat := if f.strand = -1 then (f.stop - x).toNat else (x - f.start).toNat

theorem rowsBody_residue (resOf : Str → Bytes) (pre post : List Row) (f : Fragment) (x : Int)
    (h0 : 1 ≤ f.start) (h1 : f.start ≤ x) (h2 : x ≤ f.stop) (h3 : f.stop ≤ (resOf f.name).length) :
    (rowsBody resOf (pre ++ Row.frag f :: post))[(rowsBody resOf pre).length + offsetInRow f x]? =
      if f.strand = -1 then ((resOf f.name)[(x - 1).toNat]?).map comp else (resOf f.name)[(x - 1).toNat]? := by
  have hlen := slice_length (resOf f.name) f.start f.stop h0 (by omega) h3
  rw [rowsBody_append, rowsBody_cons, List.getElem?_append_right (by omega), Nat.add_sub_cancel_left]
  unfold offsetInRow
  by_cases hs : f.strand = -1
  · simp only [hs, if_true, rowBody]
    have hk : (f.stop - x).toNat < (slice (resOf f.name) f.start f.stop).length := by omega
    rw [List.getElem?_append_left (by rw [length_reverseComplement]; exact hk), reverseComplement_getElem? _ _ hk]
    have : (slice (resOf f.name) f.start f.stop).length - 1 - (f.stop - x).toNat = (x - f.start).toNat := by omega
    rw [this, slice_getElem? _ _ _ _ h0 h1 h2]
  · simp only [hs, if_false, rowBody]
    have hk : (x - f.start).toNat < (slice (resOf f.name) f.start f.stop).length := by omega
    rw [List.getElem?_append_left hk, slice_getElem? _ _ _ _ h0 h1 h2]

theorem remap_rows_nonempty (input ptx : List Scaffold) (prefix_ : Str) (joinGap : Option Gap) (err : Int)
    (outs : List OutAsm) (stats : Stats) (h : remap input ptx prefix_ joinGap err = .ok (outs, stats)) :
    ∀ a ∈ outs, ∀ s ∈ a.scaffolds, s.rows ≠ [] := by
  obtain ⟨b, _, haf⟩ := Pipeline.remap_ok_iff.1 h
  intro a ha s hs
  obtain ⟨s0, hs0, hnn, _⟩ := (C09.assembliesFused_route input b outs stats haf).2.2 a ha s hs
  rw [(C09.noName_fields hnn).1]
  exact (C01.fuse_gaps b s0 hs0).2

theorem rowsLength_pos : ∀ (rows : List Row), (∀ r ∈ rows, C06.RowStrict r) → rows ≠ [] → 1 ≤ rowsLength rows
  | [], _, h => absurd rfl h
  | r :: rest, hs, _ => by
    have hr : 1 ≤ r.length := by
      have := hs r (by simp)
      cases r with
      | frag f => simp only [C06.RowStrict] at this; simp only [Row.length, Fragment.length]; omega
      | gap g => simp only [C06.RowStrict] at this; simp only [Row.length]; omega
    have hrest : 0 ≤ rowsLength rest := by
      cases rest with
      | nil => simp [rowsLength, sumInts]
      | cons x t => have := rowsLength_pos (x :: t) (fun y hy => hs y (by simp [hy])) (by simp); omega
    rw [rowsLength_cons]; omega

end AgpTpf.C03
