/-
  C10, chromosome numbering, `ChrNamer.build_groups` for any `haplotypes_seen`: the loop cuts `ChrNamer.scaffolds` into
  pieces by a rule that depends only on whether `other_haplotypes` is empty (`cutRule`) and returns one `segGroup` per
  piece (`buildGroups_any`).  With several haplotypes the pieces are `segments` (rule `startsNew`); with one haplotype key
  they are the maximal runs of one Pretext name and their groups the `mkGroup`s (`groups_single`).
-/
import AgpTpf.Model.Remap
import AgpTpf.Proofs.C10Runs
import AgpTpf.Proofs.C10GroupDict
namespace AgpTpf.C10
open AgpTpf

/-- `original_tags` of a fused scaffold contain `Singleton` -/
def isSingletonSc (fs : List Scaffold) (sid : Nat) : Bool :=
  (((fs.getD sid default).originalTags).getD []).contains sSingleton

/-- **the cut rule of `build_groups`** (`other_haplotypes` non-empty): does a new group start before `e`, `seg` being
    the entries already in the current group?  With `l` the previous entry:
      (i)  `e` is of another haplotype than `l`, and the current group already has an entry of `e`'s haplotype;
      (ii) `e` is of the same haplotype as `l`, has another Pretext name, and the FIRST scaffold the current group
           holds under (`l`'s haplotype, `l`'s Pretext name) carries the `Singleton` tag. -/
def startsNew (fs : List Scaffold) (seg : List Entry) (e : Entry) : Bool :=
  match seg.getLast? with
  | none => false
  | some l =>
    if e.1 ≠ l.1 then seg.any (fun x => decide (x.1 = e.1))
    else if origOf fs e.2 ≠ origOf fs l.2 then
      match (idsOf fs l.1 (origOf fs l.2) seg).head? with
      | some first => isSingletonSc fs first
      | none => false
    else false

/-- the segments: `seg` is the (already scanned) current segment, the second argument what is still to come -/
def segmentsAux (fs : List Scaffold) : List Entry → List Entry → List (List Entry)
  | seg, [] => [seg]
  | seg, e :: r => if startsNew fs seg e then seg :: segmentsAux fs [e] r else segmentsAux fs (seg ++ [e]) r

/-- decomposition of `ChrNamer.scaffolds` into the entry lists of the groups -/
def segments (fs : List Scaffold) (entries : List Entry) : List (List Entry) := segmentsAux fs [] entries

/-- **the groups `build_groups` builds** (`other_haplotypes` non-empty) -/
def groupsSpec (fs : List Scaffold) (haps : List Str) (entries : List Entry) : List GroupData :=
  (segments fs entries).map (segGroup fs haps)

/-- `seg` is the piece being scanned, the second argument what is still to come; `cut seg e`: a new piece starts before `e` -/
def cutAux {α : Type} (cut : List α → α → Bool) : List α → List α → List (List α)
  | seg, [] => [seg]
  | seg, e :: r => if cut seg e then seg :: cutAux cut [e] r else cutAux cut (seg ++ [e]) r

def cutAll {α : Type} (cut : List α → α → Bool) (l : List α) : List (List α) := cutAux cut [] l

theorem cutAux_flatten {α : Type} (cut : List α → α → Bool) : ∀ (r seg : List α),
    (cutAux cut seg r).flatten = seg ++ r := by
  intro r
  induction r with
  | nil => intro seg; simp [cutAux]
  | cons e r ih =>
    intro seg
    unfold cutAux
    split
    · rw [List.flatten_cons, ih]; simp
    · rw [ih]; simp

theorem cutAux_inv {α : Type} (cut : List α → α → Bool) (P : List α → Prop) (h1 : ∀ e, P [e])
    (hs : ∀ seg e, P seg → cut seg e = false → P (seg ++ [e])) : ∀ (r seg : List α), P seg →
    ∀ s ∈ cutAux cut seg r, P s := by
  intro r
  induction r with
  | nil => intro seg h s hs; simp [cutAux] at hs; subst hs; exact h
  | cons e r ih =>
    intro seg h s hs'
    unfold cutAux at hs'
    split at hs'
    · rcases List.mem_cons.1 hs' with e1 | hs'
      · subst e1; exact h
      · exact ih [e] (h1 e) s hs'
    · rename_i hc
      exact ih (seg ++ [e]) (hs seg e h (by simpa using hc)) s hs'

/-- `segs` cuts `entries` into consecutive pieces, none of them empty (one empty piece when there are no entries);
    all that the numbering of the groups needs to know about how `build_groups` cuts -/
def IsCut (entries : List Entry) (segs : List (List Entry)) : Prop :=
  segs.flatten = entries ∧ ((∀ s ∈ segs, s ≠ []) ∨ segs = [[]])

theorem cutAll_cons {α : Type} (cut : List α → α → Bool) (e : α) (r : List α) (h : cut [] e = false) :
    cutAll cut (e :: r) = cutAux cut [e] r := by
  unfold cutAll; rw [cutAux, h]; rfl

theorem cutAll_isCut (cut : List Entry → Entry → Bool) (cut0 : ∀ e, cut [] e = false) (l : List Entry) :
    IsCut l (cutAll cut l) := by
  refine ⟨by simpa [cutAll] using cutAux_flatten cut l [], ?_⟩
  cases l with
  | nil => exact Or.inr rfl
  | cons e r => rw [cutAll_cons cut e r (cut0 e)]; exact Or.inl (cutAux_inv cut (· ≠ []) (by simp) (by simp) r [e] (by simp))

theorem IsCut.cover {entries : List Entry} {segs : List (List Entry)} (h : IsCut entries segs) (e : Entry)
    (he : e ∈ entries) : ∃ s ∈ segs, e ∈ s := List.mem_flatten.1 (h.1 ▸ he)

theorem IsCut.sub {entries : List Entry} {segs : List (List Entry)} (h : IsCut entries segs) (s : List Entry)
    (hs : s ∈ segs) (e : Entry) (he : e ∈ s) : e ∈ entries := h.1 ▸ List.mem_flatten.2 ⟨s, hs, he⟩

theorem segments_eq_cutAll (fs : List Scaffold) (entries : List Entry) :
    segments fs entries = cutAll (startsNew fs) entries := by
  have : ∀ (r seg : List Entry), segmentsAux fs seg r = cutAux (startsNew fs) seg r := by
    intro r
    induction r with
    | nil => intro seg; rfl
    | cons e r ih => intro seg; unfold segmentsAux cutAux; rw [ih, ih]
  exact this entries []

/-- `other_haplotypes` empty: a new group starts before `e` when the current group has an entry of `e`'s haplotype and
    the Pretext name changed; else `startsNew` -/
def cutRule (fs : List Scaffold) (haps : List Str) (seg : List Entry) (e : Entry) : Bool :=
  if (haps.drop 1).isEmpty then
    seg.any (fun x => decide (x.1 = e.1)) && decide (some (origOf fs e.2) ≠ seg.getLast?.map (fun l => origOf fs l.2))
  else startsNew fs seg e

/-- the entry lists of the groups `build_groups` builds -/
def segsOf (fs : List Scaffold) (haps : List Str) (entries : List Entry) : List (List Entry) :=
  cutAll (cutRule fs haps) entries

theorem segsOf_of_others (fs : List Scaffold) (haps : List Str) (hoth : (haps.drop 1).isEmpty = false)
    (entries : List Entry) : segsOf fs haps entries = segments fs entries := by
  have : cutRule fs haps = startsNew fs := by funext seg e; unfold cutRule; rw [hoth]; rfl
  rw [segments_eq_cutAll, segsOf, this]

theorem cutRule_nil (fs : List Scaffold) (haps : List Str) (e : Entry) : cutRule fs haps [] e = false := by
  unfold cutRule startsNew; simp

theorem segsOf_isCut (fs : List Scaffold) (haps : List Str) (entries : List Entry) :
    IsCut entries (segsOf fs haps entries) := cutAll_isCut _ (cutRule_nil fs haps) entries

/-! ### the loop state as a function of the current segment -/

def lastHapOf (seg : List Entry) : Option Str := seg.getLast?.map (·.1)
def lastOrigOf (fs : List Scaffold) (seg : List Entry) : Option Str := seg.getLast?.map (fun l => origOf fs l.2)

def scanState (fs : List Scaffold) (haps : List Str) (G : List GroupData) (seg : List Entry) : GroupScan :=
  { groups := G, cur := segGroup fs haps seg, lastHap := lastHapOf seg, lastOrig := lastOrigOf fs seg }

theorem scanState_snoc (fs : List Scaffold) (haps : List Str) (G : List GroupData) (seg : List Entry) (e : Entry) :
    scanState fs haps G (seg ++ [e]) =
      { groups := G, cur := groupAdd (segGroup fs haps seg) e.1 (origOf fs e.2) e.2, lastHap := some e.1,
        lastOrig := some (origOf fs e.2) } := by
  unfold scanState lastHapOf lastOrigOf
  rw [segGroup_snoc, List.getLast?_concat]; rfl

theorem scanState_single (fs : List Scaffold) (haps : List Str) (G : List GroupData) (e : Entry) :
    scanState fs haps G [e] =
      { groups := G, cur := groupAdd (newGroup haps) e.1 (origOf fs e.2) e.2, lastHap := some e.1,
        lastOrig := some (origOf fs e.2) } := scanState_snoc fs haps G [] e

theorem bgStep_scan (fs : List Scaffold) (haps : List Str) (G : List GroupData) (seg : List Entry) (e : Entry)
    (hgood : truthy (fs.getD e.2 default).originalName = true) :
    bgStep fs haps (scanState fs haps G seg) e =
      .ok (if cutRule fs haps seg e then scanState fs haps (G ++ [segGroup fs haps seg]) [e]
           else scanState fs haps G (seg ++ [e])) := by
  obtain ⟨hap, sid⟩ := e
  rcases truthy_cases (fs.getD sid default).originalName with ⟨_, c, r, e0⟩ | ⟨e0, _⟩
  · have horig : origOf fs sid = c :: r := by unfold origOf; rw [e0]; rfl
    rw [scanState_single, scanState_snoc]
    unfold bgStep scanState cutRule startsNew lastHapOf lastOrigOf
    simp only [horig, e0, dGet_segGroup fs haps hap seg, pure_bind, List.drop_one]
    have hemp := hapChrs_isEmpty fs hap seg
    cases hany : seg.any (fun x => decide (x.1 = hap)) with
    | false =>
      -- no entry of this haplotype yet: the entry joins the group, whatever the rule
      have hhde : hapChrs fs hap seg = [] := by rw [hany] at hemp; simpa using hemp
      cases hl : seg.getLast? with
      | none => simp [hhde, pure, Except.pure]
      | some l =>
        have hh : ¬ hap = l.1 := fun h => by
          have : seg.any (fun x => decide (x.1 = hap)) = true :=
            List.any_eq_true.2 ⟨l, List.mem_of_getLast? hl, by simp [h]⟩
          rw [hany] at this; cases this
        by_cases hoth : haps.tail = [] <;> simp [hhde, hh, hoth, pure, Except.pure]
    | true =>
      have hhdne : ¬ hapChrs fs hap seg = [] := by intro h; rw [h, hany] at hemp; cases hemp
      obtain ⟨l, hl⟩ : ∃ l, seg.getLast? = some l :=
        ⟨_, List.getLast?_eq_some_getLast fun h => by rw [h] at hany; cases hany⟩
      have hlm : l ∈ seg := List.mem_of_getLast? hl
      rw [hl]
      by_cases hoth : haps.tail = []
      · -- one haplotype key: the Pretext name decides
        by_cases ho : c :: r = origOf fs l.2 <;> simp [hhdne, hoth, ho, pure, Except.pure]
      · by_cases hh : hap = l.1
        · subst hh
          by_cases ho : c :: r = origOf fs l.2
          · simp [hhdne, hoth, ho, pure, Except.pure]
          · -- rule (ii): the previous entry is in the group, so neither `KeyError` nor `IndexError`
            have hlo : origOf fs l.2 ∈ hapOrigs fs l.1 seg := (mem_hapOrigs fs l.1 _ seg).2 ⟨l, hlm, rfl, rfl⟩
            have hget := dGet_hapChrs fs l.1 (origOf fs l.2) seg
            rw [if_pos hlo] at hget
            cases hids : idsOf fs l.1 (origOf fs l.2) seg with
            | nil => exact absurd hids (idsOf_ne_nil_of_mem fs l.1 _ seg hlo)
            | cons first t =>
              rw [hids] at hget
              have hs' : sSingleton ∈ ((fs[first]?.getD default).originalTags).getD [] ↔ isSingletonSc fs first = true := by
                simp [isSingletonSc]
              cases hsing : isSingletonSc fs first <;>
                simp [hhdne, hoth, ho, hget, hids, pyGet_zero_cons, hs', hsing, pure, Except.pure, bind, Except.bind]
        · simp [hhdne, hoth, hh, pure, Except.pure]
  · rw [e0] at hgood; cases hgood

theorem scanState_nil (fs : List Scaffold) (haps : List Str) :
    scanState fs haps [] [] = { groups := [], cur := newGroup haps } := rfl

theorem fold_scan (fs : List Scaffold) (haps : List Str) :
    ∀ (r : List Entry) (G : List GroupData) (seg : List Entry),
    (∀ e ∈ r, truthy (fs.getD e.2 default).originalName = true) →
    ∃ st', r.foldlM (bgStep fs haps) (scanState fs haps G seg) = .ok st' ∧
      st'.groups ++ [st'.cur] = G ++ (cutAux (cutRule fs haps) seg r).map (segGroup fs haps) := by
  intro r
  induction r with
  | nil => intro G seg _; exact ⟨_, rfl, rfl⟩
  | cons e r ih =>
    intro G seg hg
    have hg' : ∀ e ∈ r, truthy (fs.getD e.2 default).originalName = true := fun x hx => hg x (List.mem_cons_of_mem _ hx)
    rw [List.foldlM_cons, bgStep_scan fs haps G seg e (hg e (by simp))]
    show ∃ st', (List.foldlM (bgStep fs haps) _ r) = .ok st' ∧ _
    unfold cutAux
    cases hs : cutRule fs haps seg e with
    | true =>
      simp only [if_true]
      obtain ⟨st', h1, h2⟩ := ih (G ++ [segGroup fs haps seg]) [e] hg'
      exact ⟨st', h1, by rw [h2]; simp⟩
    | false =>
      simp only [Bool.false_eq_true, if_false]
      exact ih G (seg ++ [e]) hg'

theorem buildGroups_any (fs : List Scaffold) (haps : List Str) (entries : List Entry) :
    ((∀ e ∈ entries, truthy (fs.getD e.2 default).originalName = true) →
        buildGroups fs haps entries = .ok ((segsOf fs haps entries).map (segGroup fs haps))) ∧
    ((∃ e ∈ entries, truthy (fs.getD e.2 default).originalName = false) →
        buildGroups fs haps entries = .error .value) := by
  constructor
  · intro hg
    rw [buildGroups_eq, ← scanState_nil]
    obtain ⟨st', h1, h2⟩ := fold_scan fs haps entries [] [] hg
    rw [h1]
    show Except.ok (st'.groups ++ [st'.cur]) = _
    rw [h2]; rfl
  · intro hb
    rw [buildGroups_eq, foldlM_error_of_bad (f := bgStep fs haps) (fun st => ∃ G seg, st = scanState fs haps G seg)
      (fun e => truthy (fs.getD e.2 default).originalName) .value entries { groups := [], cur := newGroup haps }
      ⟨[], [], rfl⟩ ?_ (fun st e => bgStep_bad fs haps st e.1 e.2) hb]
    · rfl
    · rintro st e _ ⟨G, seg, rfl⟩ hgood
      refine ⟨_, bgStep_scan fs haps G seg e hgood, ?_⟩
      split
      · exact ⟨_, _, rfl⟩
      · exact ⟨_, _, rfl⟩

theorem buildGroups_error_iff (fs : List Scaffold) (haps : List Str) (entries : List Entry) (err : Err) :
    buildGroups fs haps entries = .error err ↔
      err = .value ∧ ∃ e ∈ entries, truthy (fs.getD e.2 default).originalName = false := by
  obtain ⟨hok, hbad⟩ := buildGroups_any fs haps entries
  rcases all_or_some_bad fs entries with hg | hb
  · rw [hok hg]
    exact ⟨fun h => (nomatch h), fun ⟨_, e, he, hf⟩ => by rw [hg e he] at hf; cases hf⟩
  · rw [hbad hb]
    exact ⟨fun h => ⟨by cases h; rfl, hb⟩, fun ⟨h, _⟩ => by rw [h]⟩

theorem buildGroups_multi_ok (fs : List Scaffold) (haps : List Str) (hoth : (haps.drop 1).isEmpty = false)
    (entries : List Entry) (hg : ∀ e ∈ entries, truthy (fs.getD e.2 default).originalName = true) :
    buildGroups fs haps entries = .ok (groupsSpec fs haps entries) := by
  rw [groupsSpec, ← segsOf_of_others fs haps hoth]; exact (buildGroups_any fs haps entries).1 hg

theorem foldl_groupAdd_run (fs : List Scaffold) (h o : Str) : ∀ (t : List Entry) (ids : List Nat),
    (∀ e ∈ t, e.1 = h ∧ origOf fs e.2 = o) →
    t.foldl (fun g e => groupAdd g e.1 (origOf fs e.2) e.2) (mkGroup h (o, ids)) = mkGroup h (o, ids ++ t.map (·.2)) := by
  intro t
  induction t with
  | nil => intro ids _; simp
  | cons e t ih =>
    intro ids hu
    obtain ⟨e1, e2⟩ := hu e (by simp)
    rw [List.foldl_cons, e1, e2]
    have : groupAdd (mkGroup h (o, ids)) h o e.2 = mkGroup h (o, ids ++ [e.2]) := by
      simp [groupAdd, mkGroup, dGet?, dSet]
    rw [this, ih _ (fun x hx => hu x (List.mem_cons_of_mem _ hx))]
    simp

theorem segGroup_run (fs : List Scaffold) (h o : Str) (e : Entry) (t : List Entry)
    (hu : ∀ x ∈ e :: t, x.1 = h ∧ origOf fs x.2 = o) :
    segGroup fs [h] (e :: t) = mkGroup h (o, (e :: t).map (·.2)) := by
  obtain ⟨e1, e2⟩ := hu e (by simp)
  unfold segGroup
  rw [List.foldl_cons, e1, e2]
  have : groupAdd (newGroup [h]) h o e.2 = mkGroup h (o, [e.2]) := by
    simp [groupAdd, newGroup, mkGroup, dGet?, dSet]
  rw [this, foldl_groupAdd_run fs h o t _ (fun x hx => hu x (List.mem_cons_of_mem _ hx))]
  rfl

theorem cutRule_run (fs : List Scaffold) (h o : Str) (seg : List Entry) (hne : seg ≠ [])
    (hu : ∀ x ∈ seg, x.1 = h ∧ origOf fs x.2 = o) (e : Entry) (he : e.1 = h) :
    cutRule fs [h] seg e = decide (origOf fs e.2 ≠ o) := by
  obtain ⟨l, hl⟩ : ∃ l, seg.getLast? = some l := ⟨_, List.getLast?_eq_some_getLast hne⟩
  have hlm := List.mem_of_getLast? hl
  have hany : seg.any (fun x => decide (x.1 = e.1)) = true :=
    List.any_eq_true.2 ⟨l, hlm, by simp [he, (hu l hlm).1]⟩
  unfold cutRule
  rw [hl, hany]
  simp [(hu l hlm).2]

theorem cutAux_single (fs : List Scaffold) (h : Str) : ∀ (r seg : List Entry) (o : Str), seg ≠ [] →
    (∀ x ∈ seg, x.1 = h ∧ origOf fs x.2 = o) → (∀ e ∈ r, e.1 = h) →
    (cutAux (cutRule fs [h]) seg r).map (segGroup fs [h]) =
      (mergeRun (o, seg.map (·.2)) (groupRuns (origPairs fs r))).map (mkGroup h) := by
  intro r
  induction r with
  | nil =>
    intro seg o hne hu _
    obtain ⟨e, t, rfl⟩ := List.exists_cons_of_ne_nil hne
    simp only [cutAux, origPairs, List.map_nil, groupRuns, mergeRun, List.map_cons]
    rw [segGroup_run fs h o e t hu]; rfl
  | cons e r ih =>
    intro seg o hne hu hh
    have he : e.1 = h := hh e (by simp)
    have hh' : ∀ x ∈ r, x.1 = h := fun x hx => hh x (List.mem_cons_of_mem _ hx)
    unfold cutAux
    rw [cutRule_run fs h o seg hne hu e he]
    simp only [origPairs, List.map_cons, groupRuns]
    by_cases ho : origOf fs e.2 = o
    · simp only [ho, ne_eq, not_true_eq_false, decide_false, Bool.false_eq_true, if_false]
      rw [mergeRun_mergeRun_same]
      have := ih (seg ++ [e]) o (by simp) (by
        intro x hx
        rcases List.mem_append.1 hx with hx | hx
        · exact hu x hx
        · rw [List.mem_singleton.1 hx]; exact ⟨he, ho⟩) hh'
      rw [this]; simp [origPairs]
    · simp only [ne_eq, ho, not_false_eq_true, decide_true, if_true]
      rw [mergeRun_mergeRun_diff _ _ _ _ _ ho]
      obtain ⟨e0, t, rfl⟩ := List.exists_cons_of_ne_nil hne
      simp only [List.map_cons]
      rw [segGroup_run fs h o e0 t hu]
      have := ih [e] (origOf fs e.2) (by simp) (by
        intro x hx; rw [List.mem_singleton.1 hx]; exact ⟨he, rfl⟩) hh'
      rw [this]; rfl

theorem groups_single (fs : List Scaffold) (h : Str) (entries : List Entry) (hne : entries ≠ [])
    (hh : ∀ e ∈ entries, e.1 = h) :
    (segsOf fs [h] entries).map (segGroup fs [h]) = (groupRuns (origPairs fs entries)).map (mkGroup h) := by
  obtain ⟨e, r, rfl⟩ := List.exists_cons_of_ne_nil hne
  rw [segsOf, cutAll_cons _ e r (cutRule_nil fs [h] e), cutAux_single fs h r [e] (origOf fs e.2) (by simp)
    (by intro x hx; rw [List.mem_singleton.1 hx]; exact ⟨hh e (by simp), rfl⟩)
    (fun x hx => hh x (List.mem_cons_of_mem _ hx))]
  rfl

theorem buildGroups_single_ok (fs : List Scaffold) (h : Str) (entries : List (Str × Nat)) (hne : entries ≠ [])
    (hh : ∀ e ∈ entries, e.1 = h) (hg : ∀ e ∈ entries, truthy (fs.getD e.2 default).originalName = true) :
    buildGroups fs [h] entries = .ok ((groupRuns (origPairs fs entries)).map (mkGroup h)) :=
  groups_single fs h entries hne hh ▸ (buildGroups_any fs [h] entries).1 hg

/-- no cut inside a segment -/
def NoCut (fs : List Scaffold) (s : List Entry) : Prop :=
  ∀ pre e post, s = pre ++ e :: post → startsNew fs pre e = false

/-- a cut between any two neighbouring segments -/
def Boundaries (fs : List Scaffold) : List (List Entry) → Prop
  | [] => True
  | [_] => True
  | s1 :: s2 :: r => (∃ e t, s2 = e :: t ∧ startsNew fs s1 e = true) ∧ Boundaries fs (s2 :: r)

theorem noCut_nil (fs : List Scaffold) : NoCut fs [] := fun pre _ _ h => by cases pre <;> cases h

theorem noCut_single (fs : List Scaffold) (e : Entry) : NoCut fs [e] := by
  intro pre x post h
  cases pre with
  | nil => rfl
  | cons a pre => cases pre <;> cases h

theorem noCut_snoc (fs : List Scaffold) (seg : List Entry) (e : Entry) (h : NoCut fs seg)
    (hs : startsNew fs seg e = false) : NoCut fs (seg ++ [e]) := by
  intro pre x post hx
  rcases List.eq_nil_or_concat post with hp | ⟨post', y, hp⟩
  · subst hp
    have h2 : seg ++ [e] = pre ++ [x] := hx
    obtain ⟨h3, h4⟩ := List.append_inj' h2 rfl
    have : e = x := by simpa using h4
    subst this; subst h3; exact hs
  · subst hp
    have h2 : seg ++ [e] = (pre ++ x :: post') ++ [y] := by rw [hx]; simp
    obtain ⟨h3, _⟩ := List.append_inj' h2 rfl
    exact h pre x post' h3

theorem segmentsAux_head (fs : List Scaffold) : ∀ (r seg : List Entry),
    ∃ t rest, segmentsAux fs seg r = (seg ++ t) :: rest := by
  intro r
  induction r with
  | nil => intro seg; exact ⟨[], [], by simp [segmentsAux]⟩
  | cons e r ih =>
    intro seg
    unfold segmentsAux
    split
    · exact ⟨[], segmentsAux fs [e] r, by simp⟩
    · obtain ⟨t, rest, h⟩ := ih (seg ++ [e])
      exact ⟨e :: t, rest, by rw [h]; simp⟩

theorem segments_noCut (fs : List Scaffold) (entries : List Entry) : ∀ s ∈ segments fs entries, NoCut fs s :=
  segments_eq_cutAll fs entries ▸ cutAux_inv _ (NoCut fs) (noCut_single fs) (noCut_snoc fs) entries [] (noCut_nil fs)

theorem segmentsAux_boundaries (fs : List Scaffold) : ∀ (r seg : List Entry), Boundaries fs (segmentsAux fs seg r) := by
  intro r
  induction r with
  | nil => intro seg; simp [segmentsAux, Boundaries]
  | cons e r ih =>
    intro seg
    unfold segmentsAux
    split
    · rename_i hc
      obtain ⟨t, rest, h⟩ := segmentsAux_head fs r [e]
      have hb := ih [e]
      rw [h] at hb ⊢
      exact ⟨⟨e, t, rfl, hc⟩, hb⟩
    · exact ih _

theorem segments_isCut (fs : List Scaffold) (entries : List Entry) : IsCut entries (segments fs entries) :=
  segments_eq_cutAll fs entries ▸ cutAll_isCut _ (fun _ => rfl) entries

theorem segments_nil (fs : List Scaffold) : segments fs [] = [[]] := rfl

end AgpTpf.C10
