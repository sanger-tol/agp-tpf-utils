/-
  C04 helper: from the run list to `seqRegions` (no merges inside one buffer) and to scaffold rows; and back: rendering the
  scaffold of a record from its residues gives the record with every non-ACGT symbol replaced by `N`.
-/
import AgpTpf.Proofs.C04Runs
import AgpTpf.Proofs.C04Step
import AgpTpf.Proofs.Lib.Rows
namespace AgpTpf.C04
open AgpTpf

def castRuns (runs : List (Nat × Nat)) : List (Int × Int) := runs.map (fun r => ((r.1 : Int), (r.2 : Int)))

theorem closeReg_foldl_open (hi : Nat) (runs : List (Nat × Nat)) : ∀ (lo : Nat) (rs re : Int) (regs : List (Int × Int)),
    RunsIn lo hi runs → re < lo → 0 < re →
    closeReg (runs.foldl (mergeRun 0) (rs, some re, regs)) = regs ++ (rs, re) :: castRuns runs := by
  induction runs with
  | nil => intro lo rs re regs _ _ h0; simp [closeReg, castRuns]; omega
  | cons r rest ih =>
    intro lo rs re regs h hlt h0
    obtain ⟨s, e⟩ := r
    obtain ⟨h1, h2, h3, h4⟩ := h
    have hne : ¬ (re = (s : Int)) := by omega
    have hre : re ≠ 0 := by omega
    simp only [List.foldl_cons, mergeRun, Int.zero_add, Option.some.injEq, hne, if_false, ne_eq, hre,
      not_false_eq_true, if_true]
    rw [ih (e + 1) _ _ _ h4 (by omega) (by omega)]
    simp [castRuns]

theorem closeReg_foldl_runs (lo hi : Nat) (runs : List (Nat × Nat)) (h : RunsIn lo hi runs) :
    closeReg (runs.foldl (mergeRun 0) (0, none, [])) = castRuns runs := by
  cases runs with
  | nil => simp [closeReg, castRuns]
  | cons r rest =>
    obtain ⟨s, e⟩ := r
    obtain ⟨h1, h2, h3, h4⟩ := h
    simp only [List.foldl_cons, mergeRun, Int.zero_add]
    simp only [reduceCtorEq, if_false]
    rw [closeReg_foldl_open hi rest (e + 1) _ _ _ h4 (by omega) (by omega)]
    simp [castRuns]

def gapRow (len : Int) : Row := Row.gap { length := len, gapType := Gen.fastaGapType }
def fragRow (oid : Nat) (name : Str) (s e : Int) : Row :=
  Row.frag { oid := oid, name := name, start := s + 1, stop := e, strand := 1, tags := [] }

/-- `store_info`'s row construction including the trailing gap. -/
def rowsOf (name : Str) : Nat → Int → List (Int × Int) → Int → List Row
  | _, prevEnd, [], total => if total - prevEnd ≠ 0 then [gapRow (total - prevEnd)] else []
  | oid, prevEnd, (s, e) :: rest, total =>
    (if s ≠ prevEnd then [gapRow (s - prevEnd)] else []) ++ fragRow oid name s e :: rowsOf name (oid + 1) e rest total

theorem regionRows_eq (name : Str) (total : Int) (regs : List (Int × Int)) : ∀ (oid : Nat) (prevEnd : Int),
    (regionRows name oid prevEnd regs).2.1 = oid + regs.length ∧
    (let rem := total - (regionRows name oid prevEnd regs).2.2
     (if rem ≠ 0 then (regionRows name oid prevEnd regs).1 ++ [gapRow rem] else (regionRows name oid prevEnd regs).1))
      = rowsOf name oid prevEnd regs total := by
  induction regs with
  | nil => intro oid prevEnd; simp only [regionRows, rowsOf, gapRow]; split <;> simp_all
  | cons r rest ih =>
    intro oid prevEnd
    obtain ⟨s, e⟩ := r
    obtain ⟨ih1, ih2⟩ := ih (oid + 1) e
    rcases hR : regionRows name (oid + 1) e rest with ⟨R, o, l⟩
    rw [hR] at ih1 ih2
    simp only at ih1 ih2
    simp only [regionRows, rowsOf, List.length_cons, hR]
    refine ⟨by rw [ih1]; omega, ?_⟩
    rw [← ih2]
    by_cases hrem : total - l = 0 <;> simp [hrem, gapRow, fragRow]

/-- rows laid out consecutively from offset `o`: a fragment is forced to be `name:(o+1)-stop`, forward, untagged,
    with the next fresh object id; a gap has positive length and type `scaffold`. -/
def Tiled (name : Str) : Nat → Int → List Row → Prop
  | _, _, [] => True
  | oid, o, .frag f :: rest =>
      f = { oid := oid, name := name, start := o + 1, stop := f.stop, strand := 1, tags := [] } ∧ f.start ≤ f.stop ∧
      Tiled name (oid + 1) f.stop rest
  | oid, o, .gap g :: rest => 0 < g.length ∧ g.gapType = Gen.fastaGapType ∧ Tiled name oid (o + g.length) rest

/-- no two neighbouring rows of the same kind (so every fragment / gap is a *maximal* run). -/
def Alternates : List Row → Prop
  | [] => True
  | [_] => True
  | a :: b :: r => a.isGap ≠ b.isGap ∧ Alternates (b :: r)

def rowsMask : List Row → List Bool
  | [] => []
  | .frag f :: r => List.replicate (f.stop - f.start + 1).toNat true ++ rowsMask r
  | .gap g :: r => List.replicate g.length.toNat false ++ rowsMask r

def gapTo (a b : Int) : List Row := if b ≠ a then [gapRow (b - a)] else []

theorem rowsOf_nil (name : Str) (oid : Nat) (prevEnd total : Int) : rowsOf name oid prevEnd [] total = gapTo prevEnd total := by
  unfold rowsOf gapTo
  by_cases h : total = prevEnd
  · rw [if_neg (by omega), if_neg (by omega)]
  · rw [if_pos (by omega), if_pos h]
theorem rowsOf_cons (name : Str) (oid : Nat) (prevEnd s e total : Int) (rest : List (Int × Int)) :
    rowsOf name oid prevEnd ((s, e) :: rest) total =
      gapTo prevEnd s ++ fragRow oid name s e :: rowsOf name (oid + 1) e rest total := rfl

theorem rowsLength_gapTo (a b : Int) (l : List Row) : rowsLength (gapTo a b ++ l) = b - a + rowsLength l := by
  unfold gapTo
  split
  · rfl
  · rw [List.nil_append]; omega

theorem rowsMask_gapTo (a b : Int) (l : List Row) :
    rowsMask (gapTo a b ++ l) = List.replicate (b - a).toNat false ++ rowsMask l := by
  unfold gapTo
  split
  · rfl
  · rw [show b - a = 0 by omega]; rfl

theorem fragmentsOf_gapTo (a b : Int) (l : List Row) : fragmentsOf (gapTo a b ++ l) = fragmentsOf l := by
  unfold gapTo
  split <;> rfl

theorem tiled_gapTo {name : Str} {oid : Nat} {a b : Int} {l : List Row} (hab : a ≤ b) (h : Tiled name oid b l) :
    Tiled name oid a (gapTo a b ++ l) := by
  unfold gapTo
  split
  · exact ⟨show 0 < b - a by omega, rfl, by rw [show a + (b - a) = b by omega]; exact h⟩
  · rw [show a = b by omega]; exact h

theorem rowsLength_rowsOf (name : Str) (total : Int) (regs : List (Int × Int)) : ∀ (oid : Nat) (prevEnd : Int),
    rowsLength (rowsOf name oid prevEnd regs total) = total - prevEnd := by
  induction regs with
  | nil => intro oid prevEnd; rw [rowsOf_nil, ← List.append_nil (gapTo _ _), rowsLength_gapTo]; exact Int.add_zero _
  | cons r rest ih =>
    intro oid prevEnd
    rw [rowsOf_cons, rowsLength_gapTo, rowsLength_cons, ih]
    show r.1 - prevEnd + (r.2 - (r.1 + 1) + 1 + (total - r.2)) = _
    omega

theorem tiled_rowsOf (name : Str) (hi : Nat) (runs : List (Nat × Nat)) : ∀ (lo oid : Nat) (prevEnd : Int),
    RunsIn lo hi runs → prevEnd ≤ lo → prevEnd ≤ hi →
    Tiled name oid prevEnd (rowsOf name oid prevEnd (castRuns runs) hi) := by
  induction runs with
  | nil =>
    intro lo oid prevEnd _ _ h2
    rw [castRuns, List.map_nil, rowsOf_nil, ← List.append_nil (gapTo _ _)]
    exact tiled_gapTo h2 trivial
  | cons r rest ih =>
    intro lo oid prevEnd h h1 h2
    obtain ⟨s, e⟩ := r
    obtain ⟨g1, g2, g3, g4⟩ := h
    exact tiled_gapTo (by omega) ⟨rfl, show (s : Int) + 1 ≤ e by omega, ih (e + 1) (oid + 1) (e : Int) g4 (by omega) (by omega)⟩

theorem alternates_rowsOf (name : Str) (hi : Nat) (runs : List (Nat × Nat)) : ∀ (lo oid : Nat) (prevEnd : Int),
    RunsIn lo hi runs → prevEnd ≤ lo →
    Alternates (rowsOf name oid prevEnd (castRuns runs) hi) ∧
    (prevEnd < lo → ∀ r, (rowsOf name oid prevEnd (castRuns runs) hi).head? = some r → r.isGap = true) := by
  induction runs with
  | nil =>
    intro lo oid prevEnd _ _
    simp only [castRuns, List.map_nil, rowsOf]
    split
    · simp [Alternates, gapRow, Row.isGap]
    · simp [Alternates]
  | cons r rest ih =>
    intro lo oid prevEnd h h1
    obtain ⟨s, e⟩ := r
    obtain ⟨g1, g2, g3, g4⟩ := h
    obtain ⟨ih1, ih2⟩ := ih (e + 1) (oid + 1) (e : Int) g4 (by omega)
    have ih2' := ih2 (by omega)
    simp only [castRuns, List.map_cons, rowsOf]
    have hfrag : Alternates (fragRow oid name s e :: rowsOf name (oid + 1) e (castRuns rest) hi) := by
      cases hrows : rowsOf name (oid + 1) e (castRuns rest) hi with
      | nil => trivial
      | cons b bs =>
        rw [hrows] at ih1 ih2'
        have := ih2' b (by simp)
        exact ⟨by rw [this]; simp [fragRow, Row.isGap], ih1⟩
    split
    · refine ⟨?_, ?_⟩
      · exact ⟨by simp [gapRow, fragRow, Row.isGap], hfrag⟩
      · intro _ r hr; simp at hr; subst hr; rfl
    · rename_i hs
      refine ⟨hfrag, ?_⟩
      intro hlt; exfalso; apply hs; omega

theorem fragmentsOf_rowsOf (name : Str) (total : Int) (regs : List (Int × Int)) : ∀ (oid : Nat) (prevEnd : Int),
    (fragmentsOf (rowsOf name oid prevEnd regs total)).map (fun f => (f.start, f.stop)) =
      regs.map (fun r => (r.1 + 1, r.2)) := by
  induction regs with
  | nil => intro oid prevEnd; rw [rowsOf_nil, ← List.append_nil (gapTo _ _), fragmentsOf_gapTo]; rfl
  | cons r rest ih =>
    intro oid prevEnd
    rw [rowsOf_cons, fragmentsOf_gapTo, List.map_cons, ← ih (oid + 1) r.2]; rfl

theorem rowsMask_rowsOf (name : Str) (hi : Nat) (runs : List (Nat × Nat)) : ∀ (oid prevEnd : Nat),
    rowsMask (rowsOf name oid prevEnd (castRuns runs) hi) = runsMask prevEnd hi runs := by
  induction runs with
  | nil =>
    intro oid prevEnd
    rw [castRuns, List.map_nil, rowsOf_nil, ← List.append_nil (gapTo _ _), rowsMask_gapTo, Int.toNat_sub]
    exact List.append_nil _
  | cons r rest ih =>
    intro oid prevEnd
    rw [castRuns, List.map_cons, rowsOf_cons, rowsMask_gapTo, Int.toNat_sub, runsMask, ← ih (oid + 1) r.2]
    show _ ++ (List.replicate ((r.2 : Int) - ((r.1 : Int) + 1) + 1).toNat true ++ _) = _
    rw [show ((r.2 : Int) - ((r.1 : Int) + 1) + 1).toNat = r.2 - r.1 by omega]; rfl

/-! ### the scaffold of one record, as a function of its residues only -/

def runsOf (res : Bytes) : List (Nat × Nat) := acgtRuns 0 none res
def specRegions (res : Bytes) : List (Int × Int) := castRuns (runsOf res)
def specRows (name : Str) (oid : Nat) (res : Bytes) : List Row :=
  rowsOf name oid 0 (specRegions res) res.length

theorem runsOf_runsIn (res : Bytes) : RunsIn 0 res.length (runsOf res) := by
  have := acgtRuns_shape res 0 none
  simpa [runsOf] using this

theorem specRows_length (name : Str) (oid : Nat) (res : Bytes) :
    rowsLength (specRows name oid res) = res.length := by
  simp [specRows, rowsLength_rowsOf]

theorem specRows_mask (name : Str) (oid : Nat) (res : Bytes) :
    rowsMask (specRows name oid res) = res.map isACGT := by
  have := runsMask_acgtRuns res 0 none 0 (Nat.le_refl 0)
  rw [Nat.zero_add] at this
  exact (rowsMask_rowsOf name res.length (runsOf res) oid 0).trans this

theorem specRows_tiled (name : Str) (oid : Nat) (res : Bytes) : Tiled name oid 0 (specRows name oid res) :=
  tiled_rowsOf name res.length (runsOf res) 0 oid 0 (runsOf_runsIn res) (by simp) (by omega)

theorem specRows_fragments (name : Str) (oid : Nat) (res : Bytes) :
    (fragmentsOf (specRows name oid res)).map (fun f => (f.start, f.stop)) =
      (runsOf res).map (fun r => ((r.1 : Int) + 1, (r.2 : Int))) := by
  simp [specRows, fragmentsOf_rowsOf, specRegions, castRuns]

theorem tiled_frags (name : Str) : ∀ (rows : List Row) (oid : Nat) (o : Int), Tiled name oid o rows →
    0 ≤ rowsLength rows ∧
    (∀ f ∈ fragmentsOf rows, f.name = name ∧ o < f.start ∧ f.start ≤ f.stop ∧ f.stop ≤ o + rowsLength rows ∧
        oid ≤ f.oid ∧ f.oid < oid + (fragmentsOf rows).length) ∧
    (fragmentsOf rows).Pairwise (fun f g => f.stop < g.start ∧ f.oid < g.oid)
  | [], _, _, _ => ⟨Int.le_refl 0, fun f hf => (by cases hf), List.Pairwise.nil⟩
  | .frag f :: rest, oid, o, h => by
    obtain ⟨h1, h2, h3⟩ := h
    obtain ⟨ih0, ih1, ih2⟩ := tiled_frags name rest (oid + 1) f.stop h3
    have hs : f.start = o + 1 := by rw [h1]
    have hn : f.name = name := by rw [h1]
    have ho : f.oid = oid := by rw [h1]
    have hlen : rowsLength (Row.frag f :: rest) = (f.stop - f.start + 1) + rowsLength rest := rfl
    rw [fragmentsOf_cons_frag, List.length_cons, List.pairwise_cons]
    refine ⟨by omega, fun g hg => ?_, fun g hg => ?_, ih2⟩
    · rcases List.mem_cons.mp hg with rfl | hg
      · exact ⟨hn, by omega, h2, by omega, by omega, by omega⟩
      · obtain ⟨a1, a2, a3, a4, a5, a6⟩ := ih1 g hg
        exact ⟨a1, by omega, a3, by omega, by omega, by omega⟩
    · obtain ⟨_, a2, _, _, a5, _⟩ := ih1 g hg
      exact ⟨a2, by omega⟩
  | .gap g :: rest, oid, o, h => by
    obtain ⟨h1, _, h3⟩ := h
    obtain ⟨ih0, ih1, ih2⟩ := tiled_frags name rest oid (o + g.length) h3
    have hlen : rowsLength (Row.gap g :: rest) = g.length + rowsLength rest := rfl
    refine ⟨by omega, fun f hf => ?_, ih2⟩
    obtain ⟨a1, a2, a3, a4, a5, a6⟩ := ih1 f hf
    exact ⟨a1, by omega, a3, by omega, a5, a6⟩

theorem specRows_frag_count (name : Str) (oid : Nat) (res : Bytes) :
    (fragmentsOf (specRows name oid res)).length = (runsOf res).length := by
  have := congrArg List.length (specRows_fragments name oid res)
  simpa using this

theorem specRows_frags (name : Str) (oid : Nat) (res : Bytes) :
    (∀ f ∈ fragmentsOf (specRows name oid res), f.name = name ∧ 1 ≤ f.start ∧ f.start ≤ f.stop ∧
        f.stop ≤ res.length ∧ oid ≤ f.oid ∧ f.oid < oid + (runsOf res).length) ∧
    (fragmentsOf (specRows name oid res)).Pairwise (fun f g => f.stop < g.start ∧ f.oid < g.oid) := by
  obtain ⟨-, h1, h2⟩ := tiled_frags name _ oid 0 (specRows_tiled name oid res)
  refine ⟨fun f hf => ?_, h2⟩
  obtain ⟨a1, a2, a3, a4, a5, a6⟩ := h1 f hf
  rw [specRows_length] at a4
  rw [specRows_frag_count] at a6
  exact ⟨a1, by omega, a3, by omega, a5, a6⟩

/-- what a forward walk over the rows writes: the addressed residues for a fragment, `N`s for a gap -/
def renderRows (res : Bytes) : List Row → Bytes
  | [] => []
  | .frag f :: rest => (res.drop (f.start - 1).toNat).take (f.stop - f.start + 1).toNat ++ renderRows res rest
  | .gap g :: rest => List.replicate g.length.toNat 78 ++ renderRows res rest

def maskN (b : Nat) : Nat := if isACGT b then b else 78

theorem map_maskN_of_all_true (l : Bytes) (n : Nat) (h : l.map isACGT = List.replicate n true) : l.map maskN = l := by
  rw [List.eq_replicate_iff] at h
  have : ∀ b ∈ l, maskN b = b := by
    intro b hb; simp [maskN, h.2 (isACGT b) (List.mem_map_of_mem hb)]
  rw [List.map_congr_left this, List.map_id']

theorem map_maskN_of_all_false (l : Bytes) (n : Nat) (h : l.map isACGT = List.replicate n false) :
    l.map maskN = List.replicate n 78 := by
  rw [List.eq_replicate_iff] at h ⊢
  refine ⟨by simpa using h.1, ?_⟩
  intro b hb
  obtain ⟨x, hx, rfl⟩ := List.mem_map.mp hb
  simp [maskN, h.2 (isACGT x) (List.mem_map_of_mem hx)]

/-- a block of `n` equal bits at the head of the mask of `l`: its first `n` symbols are kept (all ACGT) or all become `N`, and
    the rest of the mask is the mask of `l.drop n` -/
theorem map_maskN_block {l : Bytes} {n : Nat} {b : Bool} {m : List Bool} (h : List.replicate n b ++ m = l.map isACGT) :
    l.map maskN = (if b then l.take n else List.replicate n 78) ++ (l.drop n).map maskN ∧ m = (l.drop n).map isACGT := by
  have h1 : (l.take n).map isACGT = List.replicate n b := by
    rw [List.map_take, ← h, List.take_left' List.length_replicate]
  refine ⟨?_, by rw [List.map_drop, ← h, List.drop_left' List.length_replicate]⟩
  conv => lhs; rw [← List.take_append_drop n l, List.map_append]
  cases b
  · rw [map_maskN_of_all_false _ _ h1]; rfl
  · rw [map_maskN_of_all_true _ _ h1]; rfl

theorem render_of_tiled (name : Str) (res : Bytes) (rows : List Row) : ∀ (oid o : Nat),
    Tiled name oid (o : Int) rows → rowsMask rows = (res.drop o).map isACGT →
    renderRows res rows = (res.drop o).map maskN := by
  induction rows with
  | nil => intro _ o _ hm; rw [List.map_eq_nil_iff.1 hm.symm]; rfl
  | cons row rest ih =>
    intro oid o ht hm
    cases row with
    | frag f =>
      obtain ⟨hhead, hm'⟩ := map_maskN_block hm
      rw [List.drop_drop] at hhead hm'
      obtain ⟨hf, hle, hrest⟩ := ht
      have hstart : f.start = (o : Int) + 1 := by rw [hf]
      rw [show f.stop = ((o + (f.stop - f.start + 1).toNat : Nat) : Int) by omega] at hrest
      rw [hhead, ← ih _ _ hrest hm', renderRows, show (f.start - 1).toNat = o by omega]; rfl
    | gap g =>
      obtain ⟨hhead, hm'⟩ := map_maskN_block hm
      rw [List.drop_drop] at hhead hm'
      obtain ⟨hpos, _, hrest⟩ := ht
      rw [show (o : Int) + g.length = ((o + g.length.toNat : Nat) : Int) by omega] at hrest
      rw [hhead, ← ih _ _ hrest hm']; rfl

theorem render_specRows (name : Str) (oid : Nat) (res : Bytes) :
    renderRows res (specRows name oid res) = res.map maskN := by
  have := render_of_tiled name res (specRows name oid res) oid 0 (specRows_tiled name oid res)
    (by rw [specRows_mask]; simp)
  simpa using this

end AgpTpf.C04
