/-
  `sortByIntKeyDesc` is a stable descending sort; a fold of point updates of a list, position by position;
  `renameBySize` hands the old names out longest first.
-/
import AgpTpf.Model.Remap
import AgpTpf.Proofs.Lib.Py
namespace AgpTpf.C10
open AgpTpf

section desc
variable {α : Type} (k : α → Int) (l : List α)

theorem sortByIntKeyDesc_perm : (sortByIntKeyDesc k l).Perm l := stableSort_perm _ l

theorem sortByIntKeyDesc_sorted : (sortByIntKeyDesc k l).Pairwise (fun a b => k a ≥ k b) :=
  (stableSort_sorted (fun a b => decide (k a ≥ k b)) (by intro a b; simp only [decide_eq_true_eq]; exact Int.le_total _ _)
    (by intro a b c; simp only [decide_eq_true_eq]; exact fun h1 h2 => Int.le_trans h2 h1) l).imp of_decide_eq_true

theorem sortByIntKeyDesc_stable (L : Int) :
    (sortByIntKeyDesc k l).filter (fun a => k a = L) = l.filter (fun a => k a = L) :=
  stableSort_filter _ _ (by intro x y hx hy; simp only [decide_eq_true_eq] at hx hy ⊢; rw [hx, hy]; exact Int.le_refl _) l

end desc

theorem getD_of_length_le {α} {l : List α} {n : Nat} (d : α) (h : l.length ≤ n) : l.getD n d = d := by
  rw [List.getD_eq_getElem?_getD, List.getElem?_eq_none h]; rfl

section upd
variable {α β : Type} [Inhabited α] (key : β → Nat) (g : β → α → α)

def updAt (l : List α) (b : β) : List α := setAt l (key b) (g b (l.getD (key b) default))

theorem updAt_length (l : List α) (b : β) : (updAt key g l b).length = l.length := by simp [updAt, setAt]

theorem updAt_getD (l : List α) (b : β) (j : Nat) :
    (updAt key g l b).getD j default =
      if key b = j ∧ key b < l.length then g b (l.getD (key b) default) else l.getD j default := by
  unfold updAt setAt
  simp only [List.getD_eq_getElem?_getD, List.getElem?_set]
  by_cases h : key b = j
  · subst h
    by_cases h2 : key b < l.length <;> simp [h2]
  · simp [h]

theorem foldl_updAt (bs : List β) : ∀ l : List α,
    (bs.foldl (updAt key g) l).length = l.length ∧
    (∀ j, j ∉ bs.map key → (bs.foldl (updAt key g) l).getD j default = l.getD j default) ∧
    ((bs.map key).Nodup → ∀ b ∈ bs, key b < l.length →
      (bs.foldl (updAt key g) l).getD (key b) default = g b (l.getD (key b) default)) := by
  induction bs with
  | nil => intro l; exact ⟨rfl, fun _ _ => rfl, fun _ b hb => (by cases hb)⟩
  | cons a r ih =>
    intro l
    obtain ⟨i1, i2, i3⟩ := ih (updAt key g l a)
    simp only [List.foldl_cons, List.map_cons, List.mem_cons, not_or, List.nodup_cons]
    refine ⟨i1.trans (updAt_length ..), ?_, ?_⟩
    · intro j hj
      rw [i2 j hj.2, updAt_getD, if_neg (fun h => hj.1 h.1.symm)]
    · intro hnd b hb hlt
      rcases hb with rfl | hb
      · rw [i2 _ hnd.1, updAt_getD, if_pos ⟨rfl, hlt⟩]
      · have hne : key a ≠ key b := fun e => hnd.1 (e ▸ List.mem_map.2 ⟨b, hb, rfl⟩)
        rw [i3 hnd.2 b hb (by rw [updAt_length]; exact hlt), updAt_getD, if_neg (fun h => hne h.1)]

end upd

def withName (r : Res) (x : Str) : Res := { r with o := { r.o with name := x } }

/-- the loop body of `renameBySize` -/
abbrev setName : List Res → Nat × Str → List Res := updAt Prod.fst (fun p r => withName r p.2)

theorem renameBySize_eq (store : List Res) (ids : List Nat) (h : ids ≠ []) :
    renameBySize store ids =
      ((sortByIntKeyDesc (fun i => (store.getD i default).o.length) ids).zip
        (ids.map (fun i => (store.getD i default).o.name))).foldl setName store := by
  unfold renameBySize
  rw [if_neg (by simpa using h)]
  rfl

theorem foldl_setName_shape (ps : List (Nat × Str)) : ∀ (st : List Res) (j : Nat),
    ∃ x, (ps.foldl setName st).getD j default = withName (st.getD j default) x := by
  intro st j
  refine foldl_inv (fun a => ∃ x, a.getD j default = withName (st.getD j default) x) _ ps (fun a q ⟨x, hx⟩ => ?_) st
    ⟨(st.getD j default).o.name, rfl⟩
  rw [updAt_getD]
  split
  · rename_i hc; rw [hc.1, hx]; exact ⟨q.2, rfl⟩
  · exact ⟨x, hx⟩

theorem map_eq_of_zip {β γ : Type} (f : β → γ) : ∀ (l1 : List β) (l2 : List γ), l1.length = l2.length →
    (∀ p ∈ l1.zip l2, f p.1 = p.2) → l1.map f = l2 := by
  intro l1 l2 hl h
  calc l1.map f = ((l1.zip l2).map Prod.fst).map f := by rw [List.map_fst_zip (Nat.le_of_eq hl)]
    _ = (l1.zip l2).map Prod.snd := by rw [List.map_map]; exact List.map_congr_left h
    _ = l2 := List.map_snd_zip (Nat.le_of_eq hl.symm)

end AgpTpf.C10
