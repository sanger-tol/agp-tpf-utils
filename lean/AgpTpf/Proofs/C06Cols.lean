/- C06: the column lists `formatAgpRows` writes, and their coordinate validity -/
import AgpTpf.Proofs.Lib.Text
import AgpTpf.Proofs.Lib.Rows
import AgpTpf.Proofs.C05MapM
namespace AgpTpf.C06
open AgpTpf
/-- the columns of one AGP line (spec function; `formatAgpRows_eq` ties it to the model) -/
def agpRowCols (name : Str) (p i : Int) (row : Row) : R (List Str) :=
  match row with
  | .gap g => .ok ([name, intToStr (p + 1), intToStr (p + row.length), intToStr (i + 1)] ++
      [Gen.agpGapCol5, intToStr g.length, g.gapType, Gen.agpGapLinkage, Gen.agpGapEvidence])
  | .frag f =>
    match strandStr Gen.agpStrandStr f.strand with
    | .ok ss => .ok ([name, intToStr (p + 1), intToStr (p + row.length), intToStr (i + 1)] ++
        [Gen.agpFragCol5, f.name, intToStr f.start, intToStr f.stop, ss] ++ f.tags)
    | .error e => .error e

def agpCols (name : Str) : Int → Int → List Row → R (List (List Str))
  | _, _, [] => .ok []
  | p, i, row :: rest =>
    match agpRowCols name p i row with
    | .error e => .error e
    | .ok c =>
      match agpCols name (p + row.length) (i + 1) rest with
      | .error e => .error e
      | .ok t => .ok (c :: t)

def lineOfCols (cols : List Str) : Str := joinWith '\t' cols ++ ['\n']

theorem formatAgpRows_eq (name : Str) (p i : Int) (rows : List Row) :
    formatAgpRows name p i rows = (agpCols name p i rows).map (List.map lineOfCols) := by
  induction rows generalizing p i with
  | nil => rfl
  | cons row rest ih =>
    unfold formatAgpRows agpCols
    rw [ih]
    cases row with
    | gap g =>
      simp only [agpRowCols]
      cases agpCols name (p + (Row.gap g).length) (i + 1) rest <;> rfl
    | frag f =>
      simp only [agpRowCols]
      cases strandStr Gen.agpStrandStr f.strand with
      | error e => rfl
      | ok ss => cases agpCols name (p + (Row.frag f).length) (i + 1) rest <;> rfl

/-- integer value of column `k`, as the AGP reader (`int(...)`) sees it -/
def colInt (cols : List Str) (k : Nat) : Option Int :=
  match cols[k]? with
  | some c => (match pyInt c with | .ok v => some v | .error _ => none)
  | none => none

/-- One AGP line whose object span starts right after running position `p`, is part `i+1`, and ends at `e`.
    `strict` adds the requirements that need positive row lengths / non-empty gap types. -/
structure ValidAgpLine (strict : Bool) (name : Str) (p i e : Int) (cols : List Str) : Prop where
  obj : cols[0]? = some name
  start : colInt cols 1 = some (p + 1)
  stop : colInt cols 2 = some e
  part : colInt cols 3 = some (i + 1)
  nonempty : strict = true → p + 1 ≤ e
  kind :
    (cols[4]? = some Gen.agpFragCol5 ∧ 9 ≤ cols.length ∧
      (∃ cs ce, colInt cols 6 = some cs ∧ colInt cols 7 = some ce ∧ e - (p + 1) = ce - cs) ∧
      (∃ s, cols[8]? = some s ∧ s ∈ Gen.agpStrandStr)) ∨
    (cols[4]? = some Gen.agpGapCol5 ∧ cols.length = 9 ∧
      colInt cols 5 = some (e - (p + 1) + 1) ∧
      (∃ gt, cols[6]? = some gt ∧ (strict = true → gt ≠ [])) ∧
      cols[7]? = some Gen.agpGapLinkage ∧ cols[8]? = some Gen.agpGapEvidence)

/-- the lines of one object tile it: first start `p+1`, each start = previous end + 1, parts `i+1, i+2, …`,
    last end = `last`. -/
def ValidAgpLines (strict : Bool) (name : Str) : Int → Int → List (List Str) → Int → Prop
  | p, _, [], last => p = last
  | p, i, cols :: rest, last =>
    ∃ e, ValidAgpLine strict name p i e cols ∧ ValidAgpLines strict name e (i + 1) rest last

theorem colInt_intToStr (cols : List Str) (k : Nat) (v : Int) (h : cols[k]? = some (intToStr v)) :
    colInt cols k = some v := by
  unfold colInt; rw [h]; simp only [pyInt_intToStr]

def StrandOk (r : Row) : Prop :=
  match r with
  | .frag f => f.strand = 0 ∨ f.strand = 1 ∨ f.strand = -1
  | .gap _ => True

/-- what `strict` validity needs: a `Fragment` always has `start ≤ end` (`mkFragment`), a gap that is written
    should have a positive length and a type. -/
def RowStrict (r : Row) : Prop :=
  match r with
  | .frag f => f.start ≤ f.stop
  | .gap g => 1 ≤ g.length ∧ g.gapType ≠ []

instance (r : Row) : Decidable (StrandOk r) := by unfold StrandOk; cases r <;> infer_instance
instance (r : Row) : Decidable (RowStrict r) := by unfold RowStrict; cases r <;> infer_instance

/-- the strand can be looked up in `STRAND_STR` (Python indexing: -3 … 2) -/
def StrandWritable (r : Row) : Prop :=
  match r with
  | .frag f => ∃ t, strandStr Gen.agpStrandStr f.strand = .ok t
  | .gap _ => True

theorem StrandOk.writable {r : Row} (h : StrandOk r) : StrandWritable r := by
  cases r with
  | gap g => trivial
  | frag f => rcases h with h | h | h <;> (simp only [StrandWritable, h]; exact ⟨_, rfl⟩)

theorem agpCols_cons (name : Str) (p i : Int) (row : Row) (rest : List Row) :
    agpCols name p i (row :: rest) =
      agpRowCols name p i row >>= fun c => agpCols name (p + row.length) (i + 1) rest >>= fun t => pure (c :: t) := by
  rw [agpCols]
  cases agpRowCols name p i row with
  | error e => rfl
  | ok c => cases agpCols name (p + row.length) (i + 1) rest <;> rfl

theorem agpRowCols_ok_iff (name : Str) (p i : Int) (row : Row) :
    (∃ c, agpRowCols name p i row = .ok c) ↔ StrandWritable row := by
  cases row with
  | gap g => exact ⟨fun _ => trivial, fun _ => ⟨_, rfl⟩⟩
  | frag f =>
    simp only [agpRowCols, StrandWritable]
    cases strandStr Gen.agpStrandStr f.strand with
    | error e => exact ⟨fun ⟨_, h⟩ => (nomatch h), fun ⟨_, h⟩ => (nomatch h)⟩
    | ok ss => exact ⟨fun _ => ⟨ss, rfl⟩, fun _ => ⟨_, rfl⟩⟩

theorem agpRowCols_valid (strict : Bool) (name : Str) (p i : Int) (row : Row) (hs : StrandWritable row)
    (hstrict : strict = true → RowStrict row) :
    ∃ cols, agpRowCols name p i row = .ok cols ∧ ValidAgpLine strict name p i (p + row.length) cols := by
  cases row with
  | gap g =>
    refine ⟨_, rfl, ?_⟩
    refine ⟨rfl, colInt_intToStr _ _ _ rfl, colInt_intToStr _ _ _ rfl, colInt_intToStr _ _ _ rfl, ?_, Or.inr ?_⟩
    · intro h; have := (hstrict h).1; simp only [Row.length]; omega
    · refine ⟨rfl, rfl, ?_, ⟨g.gapType, rfl, fun h => (hstrict h).2⟩, rfl, rfl⟩
      apply colInt_intToStr
      simp only [Row.length]
      have : p + g.length - (p + 1) + 1 = g.length := by omega
      rw [this]; rfl
  | frag f =>
    obtain ⟨ss, hss⟩ := hs
    have hmem : ss ∈ Gen.agpStrandStr := pyGet_mem hss
    refine ⟨_, by simp only [agpRowCols, hss]; rfl, ?_⟩
    refine ⟨rfl, colInt_intToStr _ _ _ rfl, colInt_intToStr _ _ _ rfl, colInt_intToStr _ _ _ rfl, ?_, Or.inl ?_⟩
    · intro h; have : f.start ≤ f.stop := hstrict h; simp only [Row.length, Fragment.length]; omega
    · refine ⟨rfl, by simp, ⟨f.start, f.stop, colInt_intToStr _ _ _ rfl, colInt_intToStr _ _ _ rfl, ?_⟩, ⟨ss, rfl, hmem⟩⟩
      simp only [Row.length, Fragment.length]; omega

theorem agpCols_valid (strict : Bool) (name : Str) (p i : Int) (rows : List Row)
    (hs : ∀ r ∈ rows, StrandWritable r) (hstrict : strict = true → ∀ r ∈ rows, RowStrict r) :
    ∃ colss, agpCols name p i rows = .ok colss ∧ colss.length = rows.length ∧
      ValidAgpLines strict name p i colss (p + rowsLength rows) := by
  induction rows generalizing p i with
  | nil => exact ⟨[], rfl, rfl, by simp [ValidAgpLines, rowsLength, sumInts]⟩
  | cons row rest ih =>
    obtain ⟨cols, hc, hv⟩ := agpRowCols_valid strict name p i row (hs row (by simp))
      (fun h => hstrict h row (by simp))
    obtain ⟨t, ht, hlen, hvt⟩ := ih (p + row.length) (i + 1) (fun r hr => hs r (by simp [hr]))
      (fun h r hr => hstrict h r (by simp [hr]))
    refine ⟨cols :: t, by rw [agpCols_cons, hc, ht]; rfl, by simp [hlen], ?_⟩
    refine ⟨p + row.length, hv, ?_⟩
    rw [rowsLength_cons, ← Int.add_assoc]; exact hvt

theorem agpCols_ok_iff_strands (name : Str) (p i : Int) (rows : List Row) :
    (∃ colss, agpCols name p i rows = .ok colss) ↔ ∀ r ∈ rows, StrandWritable r := by
  induction rows generalizing p i with
  | nil => simp [agpCols]
  | cons row rest ih =>
    rw [List.forall_mem_cons, ← ih (p + row.length) (i + 1), ← agpRowCols_ok_iff name p i row, agpCols_cons]
    simp only [bind_eq_ok]
    constructor
    · rintro ⟨_, c, hc, t, ht, _⟩; exact ⟨⟨c, hc⟩, t, ht⟩
    · rintro ⟨⟨c, hc⟩, t, ht⟩; exact ⟨_, c, hc, t, ht, rfl⟩

theorem format_agp_valid_at (strict : Bool) (name : Str) (p i : Int) (rows : List Row) (hs : ∀ r ∈ rows, StrandOk r)
    (hp : strict = true → ∀ r ∈ rows, RowStrict r) :
    ∃ colss, formatAgpRows name p i rows = .ok (colss.map lineOfCols) ∧ colss.length = rows.length ∧
      ValidAgpLines strict name p i colss (p + rowsLength rows) := by
  obtain ⟨colss, hc, hlen, hv⟩ := agpCols_valid strict name p i rows (fun r hr => (hs r hr).writable) hp
  exact ⟨colss, by rw [formatAgpRows_eq, hc]; rfl, hlen, hv⟩

open AgpTpf.C05 (Forall2) in
/-- The whole assembly, at either strictness level: the written file is the header lines followed, scaffold by
    scaffold, by lines that tile each object from 1 (`p = 0`), parts from 1 (`i = 0`), up to the scaffold's length. -/
theorem formatAgp_valid_at (strict : Bool) (a : Assembly) (hs : ∀ s ∈ a.scaffolds, ∀ r ∈ s.rows, StrandOk r)
    (hp : strict = true → ∀ s ∈ a.scaffolds, ∀ r ∈ s.rows, RowStrict r) :
    ∃ bodies : List (List (List Str)),
      formatAgp a = .ok (a.header.map (fun h => Gen.agpHeaderPrefix ++ h ++ ['\n']) ++
                          (bodies.map (List.map lineOfCols)).flatten) ∧
      Forall2 (fun (s : Scaffold) colss => colss.length = s.rows.length ∧
                  ValidAgpLines strict s.name 0 0 colss s.length) a.scaffolds bodies := by
  obtain ⟨ys, hb, hf⟩ := C05.mapM_ok_of_forall (fun s => formatAgpRows s.name 0 0 s.rows)
    (fun s y => ∃ colss, y = colss.map lineOfCols ∧ colss.length = s.rows.length ∧ ValidAgpLines strict s.name 0 0 colss s.length)
    a.scaffolds fun s hs' => by
      obtain ⟨colss, h1, h2, h3⟩ := format_agp_valid_at strict s.name 0 0 s.rows (hs s hs') (fun h => hp h s hs')
      exact ⟨_, h1, colss, rfl, h2, by simpa [Scaffold.length] using h3⟩
  obtain ⟨bodies, rfl, hfb⟩ := C05.Forall2.exists_map (List.map lineOfCols) hf
  refine ⟨bodies, ?_, hfb⟩
  unfold formatAgp
  rw [hb]; rfl

end AgpTpf.C06
