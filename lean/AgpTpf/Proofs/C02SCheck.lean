/-
  C02 (script model): Bool checkers for the hypotheses on scripts (to show them satisfiable on concrete values by
  `decide`).
-/
import AgpTpf.Proofs.C02SCuts
import AgpTpf.Proofs.C02SNull
import AgpTpf.Proofs.C08Check
import AgpTpf.Proofs.C02SArith
import AgpTpf.Proofs.C02Err
import AgpTpf.Proofs.Lib.Text
namespace AgpTpf.C02
open AgpTpf AgpTpf.Pretext
open AgpTpf.C12 (rowSpan meets)

def fragRowsAll (rows : List Row) (P : Nat → Fragment → Bool) : Bool :=
  (List.range rows.length).all (fun k => match rows[k]? with
    | some (.frag f) => P k f
    | _ => true)

theorem fragRowsAll_spec {rows : List Row} {P : Nat → Fragment → Bool} (h : fragRowsAll rows P = true) :
    ∀ k f, rows[k]? = some (.frag f) → P k f = true := by
  intro k f hk
  unfold fragRowsAll at h
  rw [List.all_eq_true] at h
  have hlt : k < rows.length := (List.getElem?_eq_some_iff.1 hk).1
  have := h k (List.mem_range.2 hlt)
  rw [hk] at this
  exact this

def pairsAll (input : List Scaffold) (scafs : List ScafScript) (P : Scaffold → ScafScript → Bool) : Bool :=
  (input.zip scafs).all (fun x => P x.1 x.2)

theorem pairsAll_spec {input : List Scaffold} {scafs : List ScafScript} {P : Scaffold → ScafScript → Bool}
    (h : pairsAll input scafs P = true) :
    ∀ (i : Nat) (sc : Scaffold) (c : ScafScript), input[i]? = some sc → scafs[i]? = some c → P sc c = true := by
  intro i sc c hi hc
  unfold pairsAll at h
  rw [List.all_eq_true] at h
  exact h (sc, c) (List.mem_iff_getElem?.2 ⟨i, List.getElem?_zip_eq_some.2 ⟨hi, hc⟩⟩)

def cleanAtB (rows : List Row) (c : Int) : Bool :=
  fragRowsAll rows (fun k _ => decide ((rowSpan rows k).2 ≤ c ∨ c < (rowSpan rows k).1))

theorem cleanAt_of_check {rows : List Row} {c : Int} (h : cleanAtB rows c = true) : CleanAt rows c := by
  intro k f hk
  have := fragRowsAll_spec h k f hk
  simpa using this

theorem touch_of_check {rows : List Row} {spans : List (Nat × Nat)}
    (h : ∀ ab ∈ spans, (List.range rows.length).any (fun k => meets rows ab.1 ab.2 k) = true) :
    ∀ ab ∈ spans, ∃ k, meets rows ab.1 ab.2 k = true := by
  intro ab hab
  obtain ⟨k, -, hk⟩ := List.any_eq_true.1 (h ab hab)
  exact ⟨k, hk⟩

def scafCleanB (p q : Nat) (sc : Scaffold) (c : ScafScript) : Bool :=
  c.cuts.all (fun t => cleanAtB sc.rows (coord p q t)) &&
  fragRowsAll sc.rows (fun k _ => decide ((rowSpan sc.rows k).1 ≤ (coord p q c.T : Int) →
    (rowSpan sc.rows k).2 - (coord p q c.T : Int) ≤ (errLen p q : Int))) &&
  (c.spans p q).all (fun ab => (List.range sc.rows.length).any (fun k => meets sc.rows ab.1 ab.2 k))

theorem scafClean_of_check {p q : Nat} {sc : Scaffold} {c : ScafScript} (h : scafCleanB p q sc c = true) :
    ScafClean p q sc c := by
  unfold scafCleanB at h
  simp only [Bool.and_eq_true, List.all_eq_true] at h
  obtain ⟨⟨h1, h2⟩, h3⟩ := h
  exact ⟨fun t ht => cleanAt_of_check (h1 t ht), fun k f hk => of_decide_eq_true (fragRowsAll_spec h2 k f hk),
    touch_of_check h3⟩

def cleanScriptB (input : List Scaffold) (s : Script) : Bool :=
  pairsAll input s.scafs (fun sc c => !c.present || scafCleanB s.p s.q sc c)

theorem cleanScript_of_check {input : List Scaffold} {s : Script} (h : cleanScriptB input s = true) :
    CleanScript input s := by
  intro i sc c hi hc hp
  have := pairsAll_spec h i sc c hi hc
  rw [hp] at this
  exact scafClean_of_check (by simpa using this)

def headsOkB (input : List Scaffold) (s : Script) : Bool :=
  s.groups.all (fun g => match g.items.head? with
    | some x => (match input[x.sc]? with
      | some sc => decide (hapPrefixOfName sc.name = none)
      | none => true)
    | none => true)

theorem headsOk_of_check {input : List Scaffold} {s : Script} (h : headsOkB input s = true) : HeadsOk input s := by
  intro g hg x hx sc hsc
  unfold headsOkB at h
  rw [List.all_eq_true] at h
  have := h g hg
  rw [hx] at this
  simp only [hsc, decide_eq_true_eq] at this
  exact this

def tailOkB (input : List Scaffold) (s : Script) : Bool :=
  pairsAll input s.scafs (fun sc c => fragRowsAll sc.rows (fun k f =>
    !(!c.present || decide ((coord s.p s.q c.T : Int) < (rowSpan sc.rows k).1)) ||
      (decide (f.tags = []) && decide (hapPrefixOfName f.name = none))))

theorem tailOk_of_check {input : List Scaffold} {s : Script} (h : tailOkB input s = true) : TailOk input s := by
  intro i sc c hi hc k f hk hor
  have := fragRowsAll_spec (pairsAll_spec h i sc c hi hc) k f hk
  simp only [Bool.or_eq_true, Bool.not_eq_true', Bool.and_eq_true, decide_eq_true_eq, Bool.not_eq_false',
    Bool.or_eq_false_iff, decide_eq_false_iff_not] at this
  rcases this with ⟨h1, h2⟩ | h3
  · rcases hor with e | e
    · rw [e] at h1; cases h1
    · exact absurd e h2
  · exact h3

def inputOkB (input : List Scaffold) : Bool :=
  decide ((input.map (·.name)).Nodup) &&
  input.all (fun sc => sc.rows.all (fun r => decide (0 ≤ r.length))) &&
  decide (((input.flatMap Scaffold.fragments).map Fragment.keyTuple).Nodup) &&
  input.all (fun sc => sc.fragments.all (fun f => decide (1 ≤ f.length)))

theorem inputOk_of_check {input : List Scaffold} (h : inputOkB input = true) : InputOk input := by
  unfold inputOkB at h
  simp only [Bool.and_eq_true, decide_eq_true_eq, List.all_eq_true] at h
  obtain ⟨⟨⟨h1, h2⟩, h3⟩, h4⟩ := h
  exact ⟨⟨h1, h2, h3⟩, h4⟩

def nullInputOkB (input : List Scaffold) (p q : Nat) (Ts : List (Option Nat)) : Bool :=
  decide ((input.map (·.name)).Nodup) &&
  decide (((input.flatMap Scaffold.fragments).map Fragment.keyTuple).Nodup) &&
  (input.zip Ts).all (fun x => match x.2 with
    | some T => C08.wfRowsB x.1.rows && decide (hapPrefixOfName x.1.name = none) &&
        decide (C08.lastFragmentStart x.1.rows ≤ (coord p q T : Int))
    | none => C08.absentOkB x.1)

theorem nullInputOk_of_check {input : List Scaffold} {p q : Nat} {Ts : List (Option Nat)}
    (h : nullInputOkB input p q Ts = true) : NullInputOk input p q Ts := by
  unfold nullInputOkB at h
  simp only [Bool.and_eq_true, decide_eq_true_eq, List.all_eq_true] at h
  obtain ⟨⟨h1, h2⟩, h3⟩ := h
  refine ⟨h1, h2, ?_, ?_⟩
  · intro sc T hm
    have := h3 _ hm
    simp only [Bool.and_eq_true, decide_eq_true_eq] at this
    exact ⟨C08.wfRows_of_check _ this.1.1, this.1.2, this.2⟩
  · intro sc hm
    exact C08.absentOk_of_check _ (h3 _ hm)

def cutOkB (M a b c : Int) : Bool := decide (b ≤ c ∨ c < a ∨ (M < c - a + 1 ∧ M < b - c))

def scafDeepB (p q : Nat) (sc : Scaffold) (c : ScafScript) : Bool :=
  c.cuts.all (fun t => fragRowsAll sc.rows (fun k _ =>
    cutOkB (3 * (errLen p q : Int)) (rowSpan sc.rows k).1 (rowSpan sc.rows k).2 (coord p q t : Int))) &&
  fragRowsAll sc.rows (fun k _ => decide ((rowSpan sc.rows k).1 ≤ (coord p q c.T : Int) →
    (rowSpan sc.rows k).2 - (coord p q c.T : Int) ≤ (errLen p q : Int))) &&
  (c.spans p q).all (fun ab => (List.range sc.rows.length).any (fun k => meets sc.rows ab.1 ab.2 k))

theorem scafDeep_of_check {p q : Nat} {sc : Scaffold} {c : ScafScript} (h : scafDeepB p q sc c = true) :
    ScafDeep p q sc c := by
  unfold scafDeepB at h
  simp only [Bool.and_eq_true, List.all_eq_true] at h
  obtain ⟨⟨h1, h2⟩, h3⟩ := h
  refine ⟨?_, fun k f hk => of_decide_eq_true (fragRowsAll_spec h2 k f hk), touch_of_check h3⟩
  intro t ht k f hk
  have := fragRowsAll_spec (h1 t ht) k f hk
  unfold cutOkB at this
  unfold CutOk
  exact of_decide_eq_true this

def deepScriptB (input : List Scaffold) (s : Script) : Bool :=
  pairsAll input s.scafs (fun sc c => !c.present || scafDeepB s.p s.q sc c)

theorem deepScript_of_check {input : List Scaffold} {s : Script} (h : deepScriptB input s = true) :
    DeepScript input s := by
  intro i sc c hi hc hp
  have := pairsAll_spec h i sc c hi hc
  rw [hp] at this
  exact scafDeep_of_check (by simpa using this)

end AgpTpf.C02

/-! C02 (script model): `errLen p q = 1 + ⌊p/q⌋` is what the remapper computes (`errLengthOfText`) from the decimal
text of β in the Pretext header, when that text denotes β exactly. -/
namespace AgpTpf.C02
open AgpTpf AgpTpf.Pretext

theorem digitsVal_lt (fr : Str) (h : AllDigits fr) (acc : Nat) : digitsVal acc fr < (acc + 1) * 10 ^ fr.length := by
  induction fr generalizing acc with
  | nil => show acc < (acc + 1) * 10 ^ 0; rw [Nat.pow_zero]; omega
  | cons c cs ih =>
    have hc := digitVal_le (h c (by simp))
    have := ih (fun x hx => h x (by simp [hx])) (acc * 10 + digitVal c)
    show digitsVal (acc * 10 + digitVal c) cs < (acc + 1) * 10 ^ (cs.length + 1)
    rw [Nat.pow_succ]
    have h3 : (acc * 10 + digitVal c + 1) * 10 ^ cs.length ≤ (acc + 1) * (10 ^ cs.length * 10) := by
      rw [← Nat.mul_assoc, Nat.mul_right_comm]
      exact Nat.mul_le_mul_right _ (by omega)
    exact Nat.lt_of_lt_of_le this h3

theorem errLen_congr (p q p' q' : Nat) (hq : 0 < q) (hq' : 0 < q') (h : p * q' = p' * q) : errLen p q = errLen p' q' := by
  unfold errLen
  have h1 : p / q = p * q' / (q * q') := (Nat.mul_div_mul_right p q hq').symm
  have h2 : p' / q' = p' * q / (q * q') := by rw [Nat.mul_comm q q']; exact (Nat.mul_div_mul_right p' q' hq).symm
  rw [h1, h2, h]

theorem errLen_of_decimal_text (n : Nat) (fr : Str) (hf : ∀ c ∈ fr, isDigit c = true) :
    errLengthOfText (natToStr n ++ '.' :: fr) =
      .ok ((errLen (n * 10 ^ fr.length + digitsVal 0 fr) (10 ^ fr.length) : Nat) : Int) := by
  rw [errLength_frac (allDigits_natToStr n) hf (Or.inl (natToStr_ne_nil n)), digitsVal_natToStr]
  have hlt := digitsVal_lt fr hf 0
  rw [Nat.zero_add, Nat.one_mul] at hlt
  have hP : 0 < 10 ^ fr.length := Nat.pos_of_ne_zero (by intro e; rw [e] at hlt; omega)
  unfold errLen
  rw [Nat.add_comm (n * 10 ^ fr.length), Nat.add_mul_div_right _ _ hP, Nat.div_eq_of_lt hlt]
  simp

end AgpTpf.C02
