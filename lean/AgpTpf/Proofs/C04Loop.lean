/-
  C04 helper: the line loop of `index_fasta_file` (`indexLine` / `storeInfo` / `indexFasta`).
-/
import AgpTpf.Proofs.C04Rows
import AgpTpf.Proofs.C04Runs
import AgpTpf.Proofs.C04Lines
import AgpTpf.Proofs.C04Step
namespace AgpTpf.C04
open AgpTpf AgpTpf.IndexProofs

theorem takeWhile_append_space (xs t : Bytes) (ht : ∀ b ∈ t, isBSpace b = true) :
    (xs ++ t).takeWhile (fun b => !isBSpace b) = xs.takeWhile (fun b => !isBSpace b) := by
  induction xs with
  | nil =>
    cases t with
    | nil => rfl
    | cons b bs => simp [List.takeWhile_cons, ht b (by simp)]
  | cons x xs ih =>
    simp only [List.cons_append, List.takeWhile_cons, ih]

theorem dropWhile_all {α} (p : α → Bool) (t : List α) (ht : ∀ b ∈ t, p b = true) : t.dropWhile p = [] := by
  induction t with
  | nil => rfl
  | cons b bs ih =>
    simp only [List.dropWhile_cons, ht b (by simp), if_true]
    exact ih (fun x hx => ht x (by simp [hx]))

theorem tok_append_space (hdr t : Bytes) (ht : ∀ b ∈ t, isBSpace b = true) :
    ((hdr ++ t).dropWhile isBSpace).takeWhile (fun b => !isBSpace b) = tokOf hdr := by
  rw [List.dropWhile_append, dropWhile_all _ t ht, tokOf]
  split
  · next h => rw [List.isEmpty_iff.1 h]
  · exact takeWhile_append_space _ t ht

/-- finished records + the record in progress, as the file describes them -/
structure Cur where
  idx : List (Str × FastaInfo)
  scaffolds : List Scaffold
  nextOid : Nat
  name : Str
  off : Int
  rpl : Int
  leb : Int
  res : Bytes
  pos : Int

structure Out where
  idx : List (Str × FastaInfo) := []
  scaffolds : List Scaffold := []
  pos : Int := 0
  nextOid : Nat := 0

/-- state inside a record: the not yet processed `buffer` together with the region triple represent exactly
    the residues `c.res` seen so far (this is where buffer independence enters). -/
structure InRec (st : IdxState) (c : Cur) : Prop where
  name : st.name = some c.name
  off : st.fileOffset = c.off
  rpl : st.rpl = some c.rpl
  leb : st.lineEndBytes = c.leb
  idx : st.idx = c.idx
  scaffolds : st.scaffolds = c.scaffolds
  nextOid : st.nextOid = c.nextOid
  pos : st.pos = c.pos
  len : st.seqLength + (st.buffer.length : Nat) = (c.res.length : Nat)
  reg : (acgtRuns 0 none st.buffer).foldl (mergeRun st.seqLength) (regTriple st) =
          (acgtRuns 0 none c.res).foldl (mergeRun 0) (0, none, [])

structure Between (st : IdxState) (o : Out) : Prop where
  idx : st.idx = o.idx
  scaffolds : st.scaffolds = o.scaffolds
  nextOid : st.nextOid = o.nextOid
  pos : st.pos = o.pos
  buffer : st.buffer = []

theorem psb_regTriple (st : IdxState) :
    regTriple (processSeqBuffer st) = (acgtRuns 0 none st.buffer).foldl (mergeRun st.seqLength) (regTriple st) := rfl

theorem InRec.flush {st : IdxState} {c : Cur} (h : InRec st c) : InRec (processSeqBuffer st) c where
  name := h.name
  off := h.off
  rpl := h.rpl
  leb := h.leb
  idx := h.idx
  scaffolds := h.scaffolds
  nextOid := h.nextOid
  pos := h.pos
  len := by
    show st.seqLength + (st.buffer.length : Nat) + (([] : Bytes).length : Nat) = _
    rw [h.len]; simp
  reg := by
    show (acgtRuns 0 none []).foldl _ (regTriple (processSeqBuffer st)) = _
    rw [acgtRuns_nil_none, List.foldl_nil, psb_regTriple, h.reg]

def Cur.feed (c : Cur) (l : Bytes) (n : Nat) : Cur :=
  { c with rpl := if c.rpl = 0 then (l.length : Int) else c.rpl, res := c.res ++ l, pos := c.pos + n }

theorem InRec.addKeep {st : IdxState} {c : Cur} (h : InRec st c) (n : Nat) (keep : Bytes) :
    InRec (addKeep st n keep c.rpl) (c.feed keep n) where
  name := h.name
  off := h.off
  rpl := rfl
  leb := h.leb
  idx := h.idx
  scaffolds := h.scaffolds
  nextOid := h.nextOid
  pos := by show st.pos + n = c.pos + n; rw [h.pos]
  len := by
    show st.seqLength + ((st.buffer ++ keep).length : Nat) = ((c.res ++ keep).length : Nat)
    have := h.len
    simp only [List.length_append]; omega
  reg := by
    show (acgtRuns 0 none (st.buffer ++ keep)).foldl (mergeRun st.seqLength) (regTriple st) =
      (acgtRuns 0 none (c.res ++ keep)).foldl (mergeRun 0) (0, none, [])
    rw [← foldl_mergeRun_append, ← foldl_mergeRun_append, h.reg, h.len, Int.zero_add]

def Cur.info (c : Cur) : FastaInfo :=
  { length := c.res.length, fileOffset := c.off, rpl := c.rpl, mll := c.rpl + c.leb }

def Cur.store (c : Cur) : Out :=
  { idx := c.idx ++ [(c.name, c.info)],
    scaffolds := c.scaffolds ++ [{ name := c.name, rows := specRows c.name c.nextOid c.res }],
    pos := c.pos, nextOid := c.nextOid + (runsOf c.res).length }

theorem InRec.closeReg {st : IdxState} {c : Cur} (h : InRec st c) :
    closeReg (regTriple (processSeqBuffer st)) = specRegions c.res := by
  rw [psb_regTriple, h.reg]
  exact closeReg_foldl_runs 0 c.res.length _ (runsOf_runsIn c.res)

theorem storeInfo_dup {st : IdxState} {c : Cur} (h : InRec st c) (hd : dHas c.idx c.name = true) :
    storeInfo st = .error .value := by
  have h' := h.flush
  rw [storeInfo_eq, storeK, h'.idx, h'.name, Option.getD_some, hd, if_pos rfl]

theorem storeInfo_ok {st : IdxState} {c : Cur} (h : InRec st c) (hd : dHas c.idx c.name = false) :
    ∃ st2, storeInfo st = .ok st2 ∧ Between st2 c.store := by
  have h' := h.flush
  have hreg := h.closeReg
  have hlen : (processSeqBuffer st).seqLength = (c.res.length : Nat) := h.len
  obtain ⟨k1, k2⟩ := regionRows_eq c.name (c.res.length : Nat) (specRegions c.res) c.nextOid 0
  refine ⟨_, by rw [storeInfo_eq, storeK, h'.idx, h'.name, Option.getD_some, hd]; rfl, ?_⟩
  simp only [regTriple] at hreg
  constructor
  · simp only [storedK, h'.idx, h'.name, Option.getD_some, Cur.store, Cur.info, hlen, h'.off, h'.rpl, h'.leb]
  · simp only [storedK, h'.scaffolds, h'.name, h'.nextOid, Option.getD_some, hreg, hlen, Cur.store]
    exact congrArg (fun r => c.scaffolds ++ [({ name := c.name, rows := r } : Scaffold)]) k2
  · simp only [storedK, h'.name, h'.nextOid, Option.getD_some, hreg, k1, Cur.store]
    simp only [specRegions, castRuns, runsOf, List.length_map]
  · exact h'.pos
  · rfl

/-- a residue line `l` followed by its terminator `t`, in a record whose header announced `leb` terminator bytes;
    `t = []` is the unterminated last line of a file. -/
def ResLine (leb : Int) (l t : Bytes) : Prop :=
  10 ∉ l ∧ l.head? ≠ some 62 ∧ ((t = [10] ∧ leb = 1) ∨ (t = [13, 10] ∧ leb = 2) ∨ (t = [] ∧ l ≠ []))

theorem keepOf_resLine {leb : Int} {l t : Bytes} (h : ResLine leb l t) : keepOf leb (l ++ t) = l := by
  obtain ⟨h10, _, ht⟩ := h
  rcases ht with ⟨rfl, rfl⟩ | ⟨rfl, rfl⟩ | ⟨rfl, hne⟩
  · have : (l ++ [10]).getLast? = some 10 := List.getLast?_concat
    simp only [keepOf, this, if_true]
    exact List.take_left' (by simp)
  · have : (l ++ [13, 10]).getLast? = some 10 := by
      rw [show l ++ [13, 10] = (l ++ [13]) ++ [10] by simp]; exact List.getLast?_concat
    simp only [keepOf, this, if_true]
    exact List.take_left' (by simp)
  · have : ¬ l.getLast? = some 10 := by
      intro hl; exact h10 (List.mem_of_getLast? hl)
    simp only [keepOf, List.append_nil, this, if_false]

theorem resLine_cons {leb : Int} {l t : Bytes} (h : ResLine leb l t) : ∃ b0 tl, l ++ t = b0 :: tl ∧ b0 ≠ 62 := by
  obtain ⟨_, h62, ht⟩ := h
  cases l with
  | cons b bs => exact ⟨b, bs ++ t, rfl, fun hb => h62 (by simp [hb])⟩
  | nil =>
    rcases ht with ⟨rfl, _⟩ | ⟨rfl, _⟩ | ⟨_, hne⟩
    · exact ⟨10, [], rfl, by decide⟩
    · exact ⟨13, [10], rfl, by decide⟩
    · exact absurd rfl hne

theorem residue_step (bs : Int) {st : IdxState} {c : Cur} {l t : Bytes} (h : InRec st c) (hl : ResLine c.leb l t) :
    ∃ st', indexLine bs st (l ++ t) = .ok st' ∧ InRec st' (c.feed l (l ++ t).length) := by
  obtain ⟨b0, tl, e, hne⟩ := resLine_cons hl
  rw [e, indexLine_seq bs st tl hne, ← e, seqLine_some bs _ h.rpl h.name, h.leb, keepOf_resLine hl]
  refine ⟨_, rfl, ?_⟩
  split
  · exact (h.addKeep _ l).flush
  · exact h.addKeep _ l

theorem residue_fold (bs : Int) (ls : List (Bytes × Bytes)) : ∀ {st : IdxState} {c : Cur}, InRec st c →
    (∀ lt ∈ ls, ResLine c.leb lt.1 lt.2) →
    ∃ st', (ls.map (fun lt => lt.1 ++ lt.2)).foldlM (indexLine bs) st = .ok st' ∧
      InRec st' (ls.foldl (fun c lt => c.feed lt.1 (lt.1 ++ lt.2).length) c) := by
  induction ls with
  | nil => intro st c h _; exact ⟨st, rfl, h⟩
  | cons lt rest ih =>
    intro st c h hall
    obtain ⟨st1, e1, h1⟩ := residue_step bs h (hall lt (by simp))
    have hall' : ∀ lt' ∈ rest, ResLine (c.feed lt.1 (lt.1 ++ lt.2).length).leb lt'.1 lt'.2 :=
      fun lt' hm => hall lt' (by simp [hm])
    obtain ⟨st2, e2, h2⟩ := ih h1 hall'
    refine ⟨st2, ?_, h2⟩
    simp only [List.map_cons, List.foldlM_cons, e1]
    exact e2

structure Rec where
  /-- header line after `>` without its terminator (name, optional description) -/
  hdr : Bytes
  /-- the line terminator used by this record: LF or CRLF -/
  le : Bytes
  /-- residue lines without terminators -/
  lines : List Bytes

namespace Rec
def tok (r : Rec) : Bytes := tokOf r.hdr
def name (r : Rec) : Str := r.tok.map Char.ofNat
def res (r : Rec) : Bytes := r.lines.flatten
def hdrLine (r : Rec) : Bytes := 62 :: r.hdr ++ r.le
def fileLines (r : Rec) : List Bytes := r.hdrLine :: r.lines.map (· ++ r.le)
def bytes (r : Rec) : Bytes := r.fileLines.flatten
/-- `residues_per_line`: length of the first non-empty residue line (0 when there is none) -/
def rplOf (lines : List Bytes) : Int := lines.foldl (fun acc l => if acc = 0 then (l.length : Int) else acc) 0
def rpl (r : Rec) : Int := rplOf r.lines

structure WF (r : Rec) : Prop where
  le : (r.le = [10] ∧ r.hdr.getLast? ≠ some 13) ∨ r.le = [13, 10]
  hdr10 : 10 ∉ r.hdr
  tok_ne : r.tok ≠ []
  tok_ascii : ∀ b ∈ r.tok, b < 128
  lines : ∀ l ∈ r.lines, 10 ∉ l ∧ l.head? ≠ some 62
end Rec

theorem bytesToStr_ascii (tok : Bytes) (h : ∀ b ∈ tok, b < 128) : bytesToStr tok = .ok (tok.map Char.ofNat) := by
  have : tok.all (· < 128) = true := by
    rw [List.all_eq_true]; intro b hb; simpa using h b hb
  simp [bytesToStr, this]

theorem Rec.WF.le_space {r : Rec} (h : r.WF) : ∀ b ∈ r.le, isBSpace b = true := by
  rcases h.le with ⟨h, _⟩ | h <;> rw [h] <;> decide

theorem Rec.hdrTok {r : Rec} (h : r.WF) : tokOf (r.hdrLine.drop 1) = r.tok :=
  tok_append_space r.hdr r.le h.le_space

theorem Rec.WF.hdr_ne {r : Rec} (h : r.WF) : r.hdr ≠ [] := by
  intro h0; apply h.tok_ne; simp [Rec.tok, tokOf, h0]

theorem Rec.hdr_b2 {r : Rec} (h : r.WF) :
    ∃ b2, pyGet r.hdrLine (-2) = .ok b2 ∧ (if b2 = 13 then (2 : Int) else 1) = (r.le.length : Nat) := by
  rcases h.le with ⟨hle, hlast⟩ | hle
  · rcases List.eq_nil_or_concat r.hdr with h0 | ⟨init, x, hx⟩
    · exact absurd h0 h.hdr_ne
    · have hx13 : x ≠ 13 := by
        intro hx'; apply hlast; rw [hx, hx']; simp
      refine ⟨x, ?_, by simp [hle, hx13]⟩
      have : r.hdrLine = (62 :: init) ++ [x, 10] := by simp [Rec.hdrLine, hx, hle]
      rw [this]; exact pyGet_neg_two_snoc _ _ _
  · refine ⟨13, ?_, by simp [hle]⟩
    have : r.hdrLine = (62 :: r.hdr) ++ [13, 10] := by simp [Rec.hdrLine, hle]
    rw [this]; exact pyGet_neg_two_snoc _ _ _

theorem processSeqBuffer_pos (st : IdxState) (p : Int) :
    processSeqBuffer { st with pos := p } = { processSeqBuffer st with pos := p } := rfl

theorem Rec.hdrTail {r : Rec} (h : r.WF) :
    ∃ b2, (if b2 = 13 then (2 : Int) else 1) = (r.le.length : Nat) ∧ ∀ v, hdrTail r.hdrLine v = .ok (resetHdr v r.name b2) := by
  obtain ⟨b2, hb2, hleb⟩ := Rec.hdr_b2 h
  refine ⟨b2, hleb, fun v => ?_⟩
  have hne : r.tok.isEmpty = false := List.isEmpty_eq_false_iff.2 h.tok_ne
  simp only [IndexProofs.hdrTail, Rec.hdrTok h, hne, Bool.false_eq_true, if_false, bytesToStr_ascii _ h.tok_ascii, hb2, ok_bind]
  rfl

def Fin (st : IdxState) (o : Out) : Prop := ∃ st2, finish st = .ok st2 ∧ Between st2 o

def Cur.start (o : Out) (r : Rec) : Cur :=
  { idx := o.idx, scaffolds := o.scaffolds, nextOid := o.nextOid, name := r.name,
    off := o.pos + (r.hdrLine.length : Nat), rpl := 0, leb := (r.le.length : Nat), res := [],
    pos := o.pos + (r.hdrLine.length : Nat) }

theorem header_step (bs : Int) {st : IdxState} {o : Out} {r : Rec} (hf : Fin st o) (hwf : r.WF) :
    ∃ st', indexLine bs st r.hdrLine = .ok st' ∧ InRec st' (Cur.start o r) := by
  obtain ⟨st2, e2, hb⟩ := hf
  obtain ⟨b2, hleb, hh⟩ := Rec.hdrTail hwf
  refine ⟨resetHdr (bumpPos st2 r.hdrLine.length) r.name b2, ?_, ?_⟩
  · have e : r.hdrLine = 62 :: (r.hdr ++ r.le) := rfl
    rw [e, indexLine_header, ← e, finish_bump, e2]; exact hh _
  simp only [resetHdr, hleb]
  constructor
  · rfl
  · show st2.pos + _ = _; rw [hb.pos]; rfl
  · rfl
  · rfl
  · exact hb.idx
  · exact hb.scaffolds
  · exact hb.nextOid
  · show st2.pos + _ = _; rw [hb.pos]; rfl
  · show (0 : Int) + (st2.buffer.length : Nat) = _; rw [hb.buffer]; rfl
  · show (acgtRuns 0 none st2.buffer).foldl _ _ = _; rw [hb.buffer]; rfl

def Cur.feedAll (c : Cur) (lts : List (Bytes × Bytes)) : Cur :=
  lts.foldl (fun c lt => c.feed lt.1 (lt.1 ++ lt.2).length) c

theorem Cur.feedAll_spec (lts : List (Bytes × Bytes)) : ∀ (c : Cur),
    c.feedAll lts =
      { c with rpl := (lts.map Prod.fst).foldl (fun acc l => if acc = 0 then (l.length : Int) else acc) c.rpl,
               res := c.res ++ (lts.map Prod.fst).flatten,
               pos := c.pos + (((lts.map (fun lt => lt.1 ++ lt.2)).flatten.length : Nat) : Int) } := by
  induction lts with
  | nil => intro c; simp [Cur.feedAll]
  | cons lt rest ih =>
    intro c
    have := ih (c.feed lt.1 (lt.1 ++ lt.2).length)
    simp only [Cur.feedAll, List.foldl_cons] at this ⊢
    rw [this]
    simp only [Cur.feed, List.map_cons, List.foldl_cons, List.flatten_cons, List.append_assoc, List.length_append,
      Cur.mk.injEq, true_and]
    simp only [Int.natCast_add]; omega

theorem rec_core (bs : Int) {st : IdxState} {o : Out} {r : Rec} (lts : List (Bytes × Bytes))
    (hf : Fin st o) (hwf : r.WF) (hl : ∀ lt ∈ lts, ResLine (r.le.length : Nat) lt.1 lt.2) :
    ∃ st1, (r.hdrLine :: lts.map (fun lt => lt.1 ++ lt.2)).foldlM (indexLine bs) st = .ok st1 ∧
      InRec st1 ((Cur.start o r).feedAll lts) := by
  obtain ⟨st', e', h'⟩ := header_step bs hf hwf
  obtain ⟨st1, e1, h1⟩ := residue_fold bs lts h' hl
  refine ⟨st1, ?_, h1⟩
  simp only [List.foldlM_cons, e']
  exact e1

def Rec.info (r : Rec) (start : Int) : FastaInfo :=
  { length := (r.res.length : Nat), fileOffset := start + (r.hdrLine.length : Nat), rpl := r.rpl,
    mll := r.rpl + (r.le.length : Nat) }

/-- what indexing one more record adds to the result; `o.pos` is the byte offset at which the record starts. -/
def addRec (o : Out) (r : Rec) : Out :=
  { idx := o.idx ++ [(r.name, r.info o.pos)],
    scaffolds := o.scaffolds ++ [{ name := r.name, rows := specRows r.name o.nextOid r.res }],
    pos := o.pos + (r.bytes.length : Nat),
    nextOid := o.nextOid + (runsOf r.res).length }

def fileOf (recs : List Rec) : Bytes := (recs.map Rec.bytes).flatten

def expIdx : Int → List Rec → List (Str × FastaInfo)
  | _, [] => []
  | p, r :: t => (r.name, r.info p) :: expIdx (p + (r.bytes.length : Nat)) t

def expScaffolds : Nat → List Rec → List Scaffold
  | _, [] => []
  | oid, r :: t => { name := r.name, rows := specRows r.name oid r.res } :: expScaffolds (oid + (runsOf r.res).length) t

theorem foldl_addRec (recs : List Rec) : ∀ o : Out, recs.foldl addRec o =
    { idx := o.idx ++ expIdx o.pos recs, scaffolds := o.scaffolds ++ expScaffolds o.nextOid recs,
      pos := o.pos + ((fileOf recs).length : Nat),
      nextOid := o.nextOid + (recs.map fun r => (runsOf r.res).length).sum } := by
  induction recs with
  | nil => intro o; simp [expIdx, expScaffolds, fileOf]
  | cons r t ih =>
    intro o
    rw [List.foldl_cons, ih]
    simp only [addRec, expIdx, expScaffolds, fileOf, List.append_assoc, List.singleton_append, List.map_cons, List.sum_cons,
      List.flatten_cons, List.length_append, Out.mk.injEq, true_and]
    omega

theorem expIdx_keys (recs : List Rec) : ∀ p, (expIdx p recs).map Prod.fst = recs.map Rec.name := by
  induction recs with
  | nil => intro p; rfl
  | cons r t ih => intro p; simp only [expIdx, List.map_cons, ih]

theorem expScaffolds_names (recs : List Rec) : ∀ k, (expScaffolds k recs).map (·.name) = recs.map Rec.name := by
  induction recs with
  | nil => intro k; rfl
  | cons r t ih => intro k; simp only [expScaffolds, List.map_cons, ih]

theorem expScaffolds_mem (recs : List Rec) : ∀ oid, ∀ s ∈ expScaffolds oid recs,
    ∃ r ∈ recs, ∃ k, s = { name := r.name, rows := specRows r.name k r.res } := by
  induction recs with
  | nil => intro oid s hs; cases hs
  | cons r t ih =>
    intro oid s hs
    simp only [expScaffolds, List.mem_cons] at hs
    rcases hs with rfl | hs
    · exact ⟨r, by simp, oid, rfl⟩
    · obtain ⟨r', hr', k, e⟩ := ih _ s hs
      exact ⟨r', by simp [hr'], k, e⟩

theorem expIdx_append (a b : List Rec) : ∀ p, expIdx p (a ++ b) = expIdx p a ++ expIdx (p + ((fileOf a).length : Nat)) b := by
  induction a with
  | nil => intro p; simp [expIdx, fileOf]
  | cons r t ih =>
    intro p
    simp only [List.cons_append, expIdx, ih, fileOf, List.map_cons, List.flatten_cons, List.length_append, Int.natCast_add,
      Int.add_assoc]

theorem foldl_addRec_keys (recs : List Rec) (o : Out) :
    (recs.foldl addRec o).idx.map Prod.fst = o.idx.map Prod.fst ++ recs.map Rec.name := by
  rw [foldl_addRec, List.map_append, expIdx_keys]

def closedLts (r : Rec) : List (Bytes × Bytes) := r.lines.map (fun l => (l, r.le))

theorem closedLts_lines (r : Rec) : (closedLts r).map (fun lt => lt.1 ++ lt.2) = r.lines.map (· ++ r.le) := by
  simp [closedLts]

theorem closedLts_fst (r : Rec) : (closedLts r).map Prod.fst = r.lines := by
  simp only [closedLts, List.map_map]
  exact List.map_id' _

theorem Rec.WF.resLine {r : Rec} (h : r.WF) : ∀ lt ∈ closedLts r, ResLine (r.le.length : Nat) lt.1 lt.2 := by
  intro lt hm
  simp only [closedLts, List.mem_map] at hm
  obtain ⟨l, hl, rfl⟩ := hm
  obtain ⟨h1, h2⟩ := h.lines l hl
  refine ⟨h1, h2, ?_⟩
  rcases h.le with ⟨hle, _⟩ | hle
  · left; simp [hle]
  · right; left; simp [hle]

theorem store_closed (o : Out) (r : Rec) : ((Cur.start o r).feedAll (closedLts r)).store = addRec o r := by
  rw [Cur.feedAll_spec, closedLts_fst, closedLts_lines]
  simp only [Cur.store, Cur.start, addRec, Cur.info, Rec.info, Rec.res, Rec.rpl, Rec.rplOf, List.nil_append,
    Rec.bytes, Rec.fileLines, List.flatten_cons, List.length_append, Out.mk.injEq, true_and]
  refine ⟨?_, trivial⟩
  omega

theorem fin_of_inRec {st : IdxState} {c : Cur} (h : InRec st c) (hd : c.name ∉ c.idx.map Prod.fst) :
    Fin st c.store := by
  have hd' : dHas c.idx c.name = false := (dHas_eq_false_iff _ _).2 ((dGet?_none_iff _ _).2 hd)
  obtain ⟨st2, e2, hb⟩ := storeInfo_ok h hd'
  refine ⟨st2, ?_, hb⟩
  simp only [finish, h.name, Option.isSome_some, if_true, e2]

theorem finErr_of_inRec {st : IdxState} {c : Cur} (h : InRec st c) (hd : c.name ∈ c.idx.map Prod.fst) :
    finish st = .error .value := by
  simp only [finish, h.name, Option.isSome_some, if_true]
  exact storeInfo_dup h ((dHas_iff_mem _ _).mpr hd)

theorem addRec_keys (o : Out) (r : Rec) : (addRec o r).idx.map Prod.fst = o.idx.map Prod.fst ++ [r.name] := by
  simp [addRec]

theorem rec_step (bs : Int) {st : IdxState} {o : Out} {r : Rec} (hf : Fin st o) (hwf : r.WF)
    (hn : r.name ∉ o.idx.map Prod.fst) :
    ∃ st1, r.fileLines.foldlM (indexLine bs) st = .ok st1 ∧ Fin st1 (addRec o r) := by
  obtain ⟨st1, e1, h1⟩ := rec_core bs (closedLts r) hf hwf hwf.resLine
  rw [closedLts_lines] at e1
  refine ⟨st1, e1, ?_⟩
  rw [← store_closed]
  apply fin_of_inRec h1
  rw [Cur.feedAll_spec]; exact hn

theorem chain (bs : Int) (recs : List Rec) : ∀ {st : IdxState} {o : Out}, Fin st o → (∀ r ∈ recs, r.WF) →
    (o.idx.map Prod.fst ++ recs.map Rec.name).Nodup →
    ∃ st1, (recs.flatMap Rec.fileLines).foldlM (indexLine bs) st = .ok st1 ∧ Fin st1 (recs.foldl addRec o) := by
  induction recs with
  | nil => intro st o hf _ _; exact ⟨st, rfl, hf⟩
  | cons r rest ih =>
    intro st o hf hwf hnd
    have hn : r.name ∉ o.idx.map Prod.fst := by
      intro hm
      rw [List.nodup_append] at hnd
      exact hnd.2.2 _ hm _ (by simp) rfl
    obtain ⟨st1, e1, h1⟩ := rec_step bs hf (hwf r (by simp)) hn
    have hnd' : ((addRec o r).idx.map Prod.fst ++ rest.map Rec.name).Nodup := by
      rw [addRec_keys]; simpa using hnd
    obtain ⟨st2, e2, h2⟩ := ih h1 (fun r' hm => hwf r' (by simp [hm])) hnd'
    refine ⟨st2, ?_, h2⟩
    simp only [List.flatMap_cons, List.foldlM_append, e1]
    exact e2

theorem fin_init : Fin {} {} := ⟨{}, rfl, ⟨rfl, rfl, rfl, rfl, rfl⟩⟩

theorem indexFasta_of_fin (bs : Int) {lines : List Bytes} {st1 : IdxState} {o : Out}
    (h1 : lines.foldlM (indexLine bs) {} = .ok st1) (hf : Fin st1 o) (hne : o.idx ≠ []) :
    ∃ st, indexFasta lines bs = .ok st ∧ st.idx = o.idx ∧ st.scaffolds = o.scaffolds := by
  obtain ⟨st2, e2, hb⟩ := hf
  refine ⟨st2, ?_, hb.idx, hb.scaffolds⟩
  have hne' : st2.idx.isEmpty = false := by rw [hb.idx]; exact List.isEmpty_eq_false_iff.2 hne
  rw [indexFasta_eq, h1]
  show (finish st1 >>= _) = _
  rw [e2]
  show (if st2.idx.isEmpty then _ else _) = _
  rw [hne']; rfl

theorem Rec.WF.isLine_le {r : Rec} (h : r.WF) {x : Bytes} (hx : 10 ∉ x) : IsLine (x ++ r.le) := by
  rcases h.le with ⟨hle, _⟩ | hle <;> rw [hle]
  · exact ⟨x, rfl, hx⟩
  · refine ⟨x ++ [13], by simp, ?_⟩
    simp only [List.mem_append, List.mem_cons, List.not_mem_nil, or_false, not_or]
    exact ⟨hx, by decide⟩

theorem Rec.WF.isLine {r : Rec} (h : r.WF) : ∀ l ∈ r.fileLines, IsLine l := by
  intro l hm
  simp only [Rec.fileLines, List.mem_cons, List.mem_map] at hm
  rcases hm with rfl | ⟨l', hl', rfl⟩
  · exact h.isLine_le (x := 62 :: r.hdr) (by simp only [List.mem_cons, not_or]; exact ⟨by decide, h.hdr10⟩)
  · exact h.isLine_le (h.lines l' hl').1

theorem flatMap_isLine {recs : List Rec} (h : ∀ r ∈ recs, r.WF) : ∀ l ∈ recs.flatMap Rec.fileLines, IsLine l := by
  intro l hm
  rw [List.mem_flatMap] at hm
  obtain ⟨r, hr, hl⟩ := hm
  exact (h r hr).isLine l hl

theorem fileOf_lines (recs : List Rec) : fileOf recs = (recs.flatMap Rec.fileLines).flatten := by
  rw [List.flatMap_def, List.flatten_flatten, List.map_map]; rfl

theorem bLines_fileOf {recs : List Rec} (h : ∀ r ∈ recs, r.WF) : bLines (fileOf recs) = recs.flatMap Rec.fileLines := by
  have := bLines_flatten_append (recs.flatMap Rec.fileLines) [] (flatMap_isLine h)
  rw [fileOf_lines]
  simpa [bLines] using this

/-- **the line loop**: the records `init`, then a last record whose residue lines come with any admissible terminators
    (all its own: a complete file; none on the last line: the final terminator is missing) -/
theorem indexFasta_lts (bs : Int) (init : List Rec) (last : Rec) (lts : List (Bytes × Bytes))
    (hwf : ∀ r ∈ init ++ [last], r.WF) (hnd : ((init ++ [last]).map Rec.name).Nodup)
    (hl : ∀ lt ∈ lts, ResLine (last.le.length : Nat) lt.1 lt.2) (hfst : lts.map Prod.fst = last.lines) :
    ∃ st, indexFasta (init.flatMap Rec.fileLines ++ last.hdrLine :: lts.map (fun lt => lt.1 ++ lt.2)) bs = .ok st ∧
      st.idx = ((init ++ [last]).foldl addRec {}).idx ∧ st.scaffolds = ((init ++ [last]).foldl addRec {}).scaffolds := by
  simp only [List.map_append, List.map_cons, List.map_nil] at hnd
  obtain ⟨st1, e1, h1⟩ := chain bs init fin_init (fun r hr => hwf r (by simp [hr])) (by simpa using (List.nodup_append.mp hnd).1)
  obtain ⟨st2, e2, h2⟩ := rec_core bs lts h1 (hwf last (by simp)) hl
  have hnm : last.name ∉ (init.foldl addRec {}).idx.map Prod.fst := by
    rw [foldl_addRec_keys]
    exact fun hm => (List.nodup_append.mp hnd).2.2 _ (by simpa using hm) _ (by simp) rfl
  have hfin := fin_of_inRec h2 (by rw [Cur.feedAll_spec]; exact hnm)
  have e12 : (init.flatMap Rec.fileLines ++ last.hdrLine :: lts.map (fun lt => lt.1 ++ lt.2)).foldlM (indexLine bs) {} = .ok st2 := by
    simp only [List.foldlM_append, e1]; exact e2
  obtain ⟨st, e, i1, i2⟩ := indexFasta_of_fin bs e12 hfin (by simp [Cur.store])
  refine ⟨st, e, i1.trans ?_, i2.trans ?_⟩ <;> rw [Cur.feedAll_spec, hfst, List.foldl_append] <;> rfl

theorem indexFasta_fileOf (bs : Int) (recs : List Rec) (hne : recs ≠ []) (hwf : ∀ r ∈ recs, r.WF)
    (hnd : (recs.map Rec.name).Nodup) :
    ∃ st, indexFasta (bLines (fileOf recs)) bs = .ok st ∧
      st.idx = (recs.foldl addRec {}).idx ∧ st.scaffolds = (recs.foldl addRec {}).scaffolds := by
  obtain ⟨init, last, e⟩ := (List.eq_nil_or_concat recs).resolve_left hne
  rw [List.concat_eq_append] at e
  subst e
  rw [bLines_fileOf hwf, List.flatMap_append, List.flatMap_singleton, Rec.fileLines, ← closedLts_lines]
  exact indexFasta_lts bs init last _ hwf hnd (hwf last (by simp)).resLine (closedLts_fst last)

def openLts (r : Rec) (ls : List Bytes) (l : Bytes) : List (Bytes × Bytes) := ls.map (fun x => (x, r.le)) ++ [(l, [])]

def Rec.openLines (r : Rec) (ls : List Bytes) (l : Bytes) : List Bytes := (r.hdrLine :: ls.map (· ++ r.le)) ++ [l]

/-- the file `init ++ [last]` with the very last line terminator missing (`last.lines = ls ++ [l]`) -/
def fileOpen (init : List Rec) (last : Rec) (ls : List Bytes) (l : Bytes) : Bytes :=
  fileOf init ++ (last.openLines ls l).flatten

theorem openLts_lines (r : Rec) (ls : List Bytes) (l : Bytes) :
    r.hdrLine :: (openLts r ls l).map (fun lt => lt.1 ++ lt.2) = r.openLines ls l := by
  simp [openLts, Rec.openLines]

theorem openLts_fst (r : Rec) (ls : List Bytes) (l : Bytes) : (openLts r ls l).map Prod.fst = ls ++ [l] := by
  simp only [openLts, List.map_append, List.map_map, List.map_cons, List.map_nil]
  congr 1
  exact List.map_id' _

theorem openLts_resLine {r : Rec} {ls : List Bytes} {l : Bytes} (h : r.WF) (hl : r.lines = ls ++ [l]) (hne : l ≠ []) :
    ∀ lt ∈ openLts r ls l, ResLine (r.le.length : Nat) lt.1 lt.2 := by
  intro lt hm
  simp only [openLts, List.mem_append, List.mem_map, List.mem_cons, List.not_mem_nil, or_false] at hm
  rcases hm with ⟨x, hx, rfl⟩ | rfl
  · exact h.resLine (x, r.le) (by simp only [closedLts, List.mem_map]; exact ⟨x, by simp [hl, hx], rfl⟩)
  · obtain ⟨h1, h2⟩ := h.lines l (by simp [hl])
    exact ⟨h1, h2, Or.inr (Or.inr ⟨rfl, hne⟩)⟩

theorem bLines_fileOpen {init : List Rec} {last : Rec} {ls : List Bytes} {l : Bytes}
    (hwf : ∀ r ∈ init, r.WF) (hlast : last.WF) (hl : last.lines = ls ++ [l]) (hne : l ≠ []) :
    bLines (fileOpen init last ls l) = init.flatMap Rec.fileLines ++ last.openLines ls l := by
  have hlines : ∀ x ∈ init.flatMap Rec.fileLines ++ (last.hdrLine :: ls.map (· ++ last.le)), IsLine x := by
    intro x hx
    rcases List.mem_append.mp hx with hx | hx
    · exact flatMap_isLine hwf x hx
    · apply hlast.isLine x
      simp only [Rec.fileLines, hl, List.map_append, List.mem_cons, List.mem_append] at hx ⊢
      rcases hx with hx | hx
      · exact Or.inl hx
      · exact Or.inr (Or.inl hx)
  have h10 : 10 ∉ l := (hlast.lines l (by simp [hl])).1
  have := bLines_flatten_append _ l hlines
  rw [bLines_open l hne h10] at this
  rw [fileOpen, fileOf_lines, Rec.openLines]
  simp only [List.flatten_append, List.flatten_cons, List.flatten_nil, List.append_nil, List.append_assoc] at this ⊢
  exact this

theorem indexFasta_fileOpen (bs : Int) (init : List Rec) (last : Rec) (ls : List Bytes) (l : Bytes)
    (hwf : ∀ r ∈ init ++ [last], r.WF) (hnd : ((init ++ [last]).map Rec.name).Nodup)
    (hl : last.lines = ls ++ [l]) (hne : l ≠ []) :
    ∃ st, indexFasta (bLines (fileOpen init last ls l)) bs = .ok st ∧
      st.idx = ((init ++ [last]).foldl addRec {}).idx ∧ st.scaffolds = ((init ++ [last]).foldl addRec {}).scaffolds := by
  have hlast : last.WF := hwf last (by simp)
  rw [bLines_fileOpen (fun r hr => hwf r (by simp [hr])) hlast hl hne, ← openLts_lines]
  exact indexFasta_lts bs init last _ hwf hnd (openLts_resLine hlast hl hne) ((openLts_fst last ls l).trans hl.symm)

/-- once `store_info()` has failed nothing after it runs: the next line, if there is one, is a header line and calls it -/
theorem foldlM_finErr (bs : Int) {st : IdxState} {e : Err} (post : List Rec) (hf : finish st = .error e) :
    ((post.flatMap Rec.fileLines).foldlM (indexLine bs) st >>= finish) = .error e := by
  cases post with
  | nil => exact hf
  | cons p ps =>
    rw [List.flatMap_cons, Rec.fileLines, List.cons_append, List.foldlM_cons,
      show p.hdrLine = 62 :: (p.hdr ++ p.le) from rfl, indexLine_header_error bs _ hf]
    rfl

/-- the first record whose name is already in the index makes `store_info()` raise `ValueError` -/
theorem chain_dup (bs : Int) (recs : List Rec) : ∀ {st : IdxState} {o : Out}, Fin st o → (∀ r ∈ recs, r.WF) →
    (o.idx.map Prod.fst).Nodup → ¬ (o.idx.map Prod.fst ++ recs.map Rec.name).Nodup →
    ((recs.flatMap Rec.fileLines).foldlM (indexLine bs) st >>= finish) = .error .value := by
  induction recs with
  | nil => intro st o _ _ hnd hdup; exact absurd (by simpa using hnd) hdup
  | cons r rest ih =>
    intro st o hf hwf hnd hdup
    have hr := hwf r (by simp)
    have hrest : ∀ r' ∈ rest, r'.WF := fun r' hm => hwf r' (by simp [hm])
    rw [List.flatMap_cons, List.foldlM_append]
    by_cases hn : r.name ∈ o.idx.map Prod.fst
    · obtain ⟨st2, e2, h2⟩ := rec_core bs (closedLts r) hf hr hr.resLine
      rw [closedLts_lines] at e2
      rw [show r.fileLines.foldlM (indexLine bs) st = .ok st2 from e2]
      exact foldlM_finErr bs rest (finErr_of_inRec h2 (by rw [Cur.feedAll_spec]; exact hn))
    · obtain ⟨st1, e1, h1⟩ := rec_step bs hf hr hn
      rw [e1]
      refine ih h1 hrest ?_ ?_ <;> rw [addRec_keys]
      · exact List.nodup_append.mpr ⟨hnd, by simp, fun a ha b hb hab => hn (by simp at hb; rw [← hb, ← hab]; exact ha)⟩
      · simpa using hdup

theorem indexFasta_dup (bs : Int) (recs : List Rec) (hwf : ∀ r ∈ recs, r.WF) (hnd : ¬ (recs.map Rec.name).Nodup) :
    indexFasta (bLines (fileOf recs)) bs = .error .value := by
  rw [bLines_fileOf hwf, indexFasta_eq, chain_dup bs recs fin_init hwf List.nodup_nil (by simpa using hnd)]
  rfl

def Uniform (w : Nat) (lines : List Bytes) : Prop :=
  lines = [] ∨ ∃ full last, lines = full ++ [last] ∧ (∀ l ∈ full, l.length = w) ∧ 0 < last.length ∧ last.length ≤ w

theorem rplOf_cons (l : Bytes) (ls : List Bytes) (h : l ≠ []) : Rec.rplOf (l :: ls) = (l.length : Nat) := by
  have : ((l.length : Nat) : Int) ≠ 0 := by have := List.length_pos_iff.mpr h; omega
  simp only [Rec.rplOf, List.foldl_cons, if_true]
  exact foldl_inv (· = ((l.length : Nat) : Int)) _ ls (fun a _ ha => by rw [ha]; exact if_neg this) _ rfl

theorem rplOf_uniform (w : Nat) (lines : List Bytes) (h : Uniform w lines) :
    Rec.rplOf lines = ((min w lines.flatten.length : Nat) : Int) := by
  rcases h with rfl | ⟨full, last, rfl, hfull, h0, hw⟩
  · simp [Rec.rplOf]
  · have hlast : last ≠ [] := by intro h; rw [h] at h0; simp at h0
    cases full with
    | nil =>
      rw [List.nil_append, rplOf_cons _ _ hlast]
      simp only [List.flatten_cons, List.flatten_nil, List.append_nil]
      congr 1; omega
    | cons f fs =>
      have hf : f.length = w := hfull f (by simp)
      have hfne : f ≠ [] := by intro h; rw [h] at hf; simp at hf; omega
      rw [List.cons_append, rplOf_cons _ _ hfne]
      simp only [List.flatten_cons, List.length_append]
      congr 1; omega

end AgpTpf.C04
