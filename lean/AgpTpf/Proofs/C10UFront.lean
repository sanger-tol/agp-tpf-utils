/-
  C10 uniqueness, parts 8 and 9 (the front half): one Pretext fragment inside `find_assembly_overlaps` keeps the store invariant,
  and the namer state `make_scaffold_name` leaves for a Pretext scaffold satisfies `CtxOk`; then from the hypotheses on the input
  to the conditions on the fused scaffolds — through `find_assembly_overlaps`, the overhang resolver, `cut_fragments`, the final
  `rename_by_size` of the haplotigs and `add_missing`.
-/
import AgpTpf.Proofs.C01Missing
import AgpTpf.Proofs.Lib.Rows
import AgpTpf.Proofs.C10UStore
import AgpTpf.Proofs.Lib.Py
namespace AgpTpf.C10U
open AgpTpf

theorem processBait_step {TG : Par} {p : Str} {N : List Str} {c : Str} (input : List Scaffold) (scTags : List Str)
    (orig : Str) (frs : List Fragment) (b b' : Build) (bait : Fragment) (hfr : bait ∈ frs)
    (hF : SInv TG p N b) (hU : UInv TG p N c b) (hctx : CtxOk TG p N b.namer orig scTags frs c)
    (h : processBait input scTags orig b bait = .ok b') :
    SInv TG p N b' ∧ UInv TG p N c b' ∧ CtxOk TG p N b'.namer orig scTags frs c ∧ SameCore b.namer b'.namer ∧
    b'.extra = b.extra := by
  rcases C09.processBait_created h with ⟨-, rfl⟩ | ⟨-, hp, r, hst, hf, hnm, hn, hex⟩
  · exact ⟨hF, hU, hctx, SameCore.refl _, rfl⟩
  · obtain ⟨a1, a2⟩ := append_created b b' r hF hU hctx hfr hp hst hf hnm hn
    have hs : SameCore b.namer b'.namer := hn ▸ sameCore_bump _ _ _
    exact ⟨a1, a2, hctx.of_sameCore hs, hs, hex⟩

theorem firstRowName_ok (rows : List Row) (nm : Str) (h : firstRowName rows = .ok nm) :
    ∃ f r, rows = .frag f :: r ∧ f.name = nm := by
  unfold firstRowName at h
  simp only [bind, Except.bind] at h
  cases rows with
  | nil => rw [pyGet_nil] at h; cases h
  | cons x r =>
    rw [pyGet_zero_cons] at h
    simp only at h
    cases x with
    | frag f => simp only [pure, Except.pure, Except.ok.injEq] at h; exact ⟨f, r, rfl, h⟩
    | gap g => cases h

theorem firstRowName_mem {rows : List Row} {nm : Str} (h : firstRowName rows = .ok nm) :
    ∃ f ∈ fragmentsOf rows, f.name = nm := by
  obtain ⟨f, r, rfl, hf⟩ := firstRowName_ok _ _ h
  exact ⟨f, List.mem_cons_self, hf⟩

theorem mem_fragNames {input ptx : List Scaffold} {s : Scaffold} (hs : s ∈ ptx ++ input) (f : Fragment)
    (hf : f ∈ s.fragments) : f.name ∈ C10.fragNames ptx ++ C10.fragNames input := by
  unfold C10.fragNames
  exact List.flatMap_append ▸ List.mem_flatMap.2 ⟨s, hs, List.mem_map.2 ⟨f, hf, rfl⟩⟩

/-- an untagged scaffold handed to `ChrNamer` (rank 1), resp. one named after a chromosome tag (rank 2) -/
theorem scOk_rank1 {p : Str} {N : List Str} {s : Scaffold} (hr : s.rank = 1) (hh : HapOk s.haplotype) (ht : s.tag = none)
    (h : R1Shape N s) : ScOk p N s :=
  ⟨hh.ne_nil, hh.not_tagWord, Or.inl ht, fun h' => absurd ht h', fun _ _ => h, fun _ h' => absurd (hr ▸ h') (by decide),
    fun _ h' _ => absurd hr h'⟩

theorem scOk_rank2 {p : Str} {N : List Str} {s : Scaffold} (hr : s.rank = 2) (hh : HapOk s.haplotype) (ht : s.tag = none)
    (h : ∃ t suf, s.name = t ++ suf ∧ isChrNameTag t = true ∧ isNumLetter t = false ∧ SufOk suf ∧
      p.isPrefixOf s.name = false) : ScOk p N s :=
  ⟨hh.ne_nil, hh.not_tagWord, Or.inl ht, fun h' => absurd ht h', fun _ h' => absurd (hr ▸ h') (by decide), fun _ _ => h,
    fun _ _ h' => absurd hr h'⟩

/-- `htag`: the condition on Contaminant / FalseDuplicate pieces, supplied by whichever clause 7 is assumed -/
theorem ctxOk_of_facts {TG : Par} (input ptx : List Scaffold) (p : Str) (H : C10.NamesOutsideGenerated input ptx p)
    (ps : Scaffold) (hps : ps ∈ ptx) (n n' : Namer)
    (hfacts : NameFacts n n' ps.name ps.rows ps.fragmentTags)
    (hfirst : ∀ c, firstRowName ps.rows = .ok c → ∃ sc ∈ input, sc.name = c)
    (htag : ∀ c, n'.currentScaffoldName = some c →
      ∀ tg, (tg = some sContaminant ∨ tg = some sFalseDuplicate) → ∀ suf, SufOk suf →
      (suf = [] ∨ ps.fragmentTags.contains sPainted = true) →
      (specialPiece ps.fragments = true ∨ (n'.targetTags = true ∧ ¬ ps.fragmentTags.contains sTarget = true)) →
      TG.Q { name := c ++ suf, tag := tg, haplotype := n'.currentHaplotype, rank := 3, originalName := some ps.name,
             originalTags := some ps.fragmentTags }) :
    ∃ c, CtxOk TG p (ptx.map (·.name)) n' ps.name ps.fragmentTags ps.fragments c := by
  obtain ⟨c, hc, hcases⟩ := hfacts.cur
  refine ⟨c, hc, hfacts.hap, htag c hc, fun suf hsuf hpaint => ?_⟩
  rcases hcases with ⟨h2, hct, hchr⟩ | ⟨h1, rfl, hpa⟩ | ⟨h3, hfr, hnp⟩
  · exact scOk_rank2 h2 hfacts.hap rfl ⟨c, suf, rfl, hchr, H.chrTagsNotNumLetter ps hps c hct hchr, hsuf,
      prefixFree_spec p c (H.chrTagsPrefixFree ps hps c hct hchr) suf hsuf⟩
  · exact scOk_rank1 h1 hfacts.hap rfl ⟨ps.name, suf, rfl, List.mem_map.2 ⟨ps, hps, rfl⟩, rfl, hsuf,
      unlocFree_of_name _ (H.paintedNamesUnlocFree ps hps hpa)⟩
  · -- not painted, so no unloc suffix: the name is that of the first row, a piece of an input scaffold
    obtain rfl : suf = [] := hpaint.resolve_right fun h => hnp (List.contains_iff_mem.1 h)
    obtain ⟨sc, hsc, rfl⟩ := hfirst c hfr
    exact scOk_rank3 h3 hfacts.hap (Or.inl rfl) fun _ => by
      rw [List.append_nil]; exact H.inputOutsidePrefix sc hsc

theorem mayBeTagged_of_piece {input ptx : List Scaffold} {ps : Scaffold} {n : Namer}
    (htgt : n.targetTags = true → (ptx ++ input).any C10.hasTarget = true)
    (hsp : specialPiece ps.fragments = true ∨ (n.targetTags = true ∧ ¬ ps.fragmentTags.contains sTarget = true)) :
    C10.mayBeTagged ((ptx ++ input).any C10.hasTarget) ps = true := by
  unfold C10.mayBeTagged
  rw [Bool.or_eq_true]
  rcases hsp with h | ⟨h1, h2⟩
  · exact Or.inl h
  · right; rw [htgt h1]; unfold C10.hasTarget; simpa using h2

theorem mem_fragmentTags_of_sub {sc : Scaffold} {rows : List Row} (hsub : ∀ f ∈ fragmentsOf rows, f ∈ sc.fragments)
    {t : Str} (ht : t ∈ ({ name := sc.name, rows := rows } : Scaffold).fragmentTags) :
    ∃ f ∈ sc.fragments, t ∈ f.tags ∧ t ≠ [] := by
  obtain ⟨f, hf, h⟩ := Scaffold.mem_fragmentTags.1 ht
  exact ⟨f, hsub f hf, h⟩

/-- `make_scaffold_name` for the rows `rows` kept of a scaffold `sc` of either assembly: the facts the labelling relies on hold,
    and Target mode is only entered where some scaffold carries the `Target` tag -/
theorem nameFacts_of_part {input ptx : List Scaffold} {p : Str} (H : C10.NamesOutsideGenerated input ptx p)
    {sc : Scaffold} (hsc : sc ∈ ptx ++ input) {rows : List Row} (hsub : ∀ f ∈ fragmentsOf rows, f ∈ sc.fragments)
    {n n' : Namer} (hgood : NamerGood n) (htgt : n.targetTags = true → (ptx ++ input).any C10.hasTarget = true)
    (h : makeScaffoldName n sc.name rows ({ name := sc.name, rows := rows } : Scaffold).fragmentTags = .ok n') :
    NameFacts n n' sc.name rows ({ name := sc.name, rows := rows } : Scaffold).fragmentTags ∧
    (n'.targetTags = true → (ptx ++ input).any C10.hasTarget = true) := by
  have hfacts := makeScaffoldName_facts n n' sc.name rows _ (Scaffold.nil_not_mem_fragmentTags _) hgood
    (fun nm g hnm hg => by
      obtain ⟨f, hf, rfl⟩ := firstRowName_mem hnm
      exact noTagWord_of_clause H.noTagWordHaplotype _ (mem_fragNames hsc f (hsub f hf)) g hg) h
  refine ⟨hfacts, fun ht => (hfacts.target ht).elim htgt fun h => List.any_eq_true.2 ⟨sc, hsc, ?_⟩⟩
  unfold C10.hasTarget
  rw [List.contains_iff_mem]
  exact Scaffold.mem_fragmentTags.2 (mem_fragmentTags_of_sub hsub h)

/-- what the assumed clause 7 must supply for a Pretext scaffold: the namer invariant after `make_scaffold_name`, and the
    condition `Q` for every Contaminant / FalseDuplicate piece the scaffold may produce -/
def PtxCallback (TG : Par) (input ptx : List Scaffold) : Prop :=
  ∀ ps ∈ ptx, ∀ n n' : Namer, TG.NI n → NameFacts n n' ps.name ps.rows ps.fragmentTags →
    makeScaffoldName n ps.name ps.rows ps.fragmentTags = .ok n' →
    TG.NI n' ∧ (C10.mayBeTagged ((ptx ++ input).any C10.hasTarget) ps = true →
      ∀ c, n'.currentScaffoldName = some c → ∀ tg suf, SufOk suf →
      TG.Q { name := c ++ suf, tag := tg, haplotype := n'.currentHaplotype, rank := 3, originalName := some ps.name,
             originalTags := some ps.fragmentTags })

/-- … and for a left-over scaffold (`rows`: the rows `add_missing` kept of input scaffold `sc`), in Target mode -/
def LeftCallback (TG : Par) (input ptx : List Scaffold) : Prop :=
  ∀ sc ∈ input, ∀ (rows : List Row) (n n' : Namer), TG.NI n → (∀ f ∈ fragmentsOf rows, f ∈ sc.fragments) →
    NameFacts n n' sc.name rows ({ name := sc.name, rows := rows } : Scaffold).fragmentTags →
    makeScaffoldName n sc.name rows ({ name := sc.name, rows := rows } : Scaffold).fragmentTags = .ok n' →
    TG.NI n' ∧ ((ptx ++ input).any C10.hasTarget = true →
      TG.Q { name := sc.name, tag := some sContaminant, haplotype := n'.currentHaplotype, rank := 3 })

/-- the invariant of `find_assembly_overlaps`: `SInv` between Pretext scaffolds; `SInv`, `UInv c` and `CtxOk … c` for the
    current name `c` while the fragments of one are looked up -/
theorem find_inv {TG : Par} (input ptx : List Scaffold) (p : Str) (H : C10.NamesOutsideGenerated input ptx p)
    (hPtx : PtxCallback TG input ptx) (b b' : Build) (hF : SInv TG p (ptx.map (·.name)) b)
    (htgt : b.namer.targetTags = true → (ptx ++ input).any C10.hasTarget = true) (hx : b.extra = [])
    (h : findAssemblyOverlaps input ptx b = .ok b') :
    SInv TG p (ptx.map (·.name)) b' ∧ (b'.namer.targetTags = true → (ptx ++ input).any C10.hasTarget = true) ∧
    b'.extra = [] := by
  refine Pipeline.findAssemblyOverlaps_inv₂
    (fun s => SInv TG p (ptx.map (·.name)) s ∧
      (s.namer.targetTags = true → (ptx ++ input).any C10.hasTarget = true) ∧ s.extra = [])
    (fun ps s => ∃ c, SInv TG p (ptx.map (·.name)) s ∧ UInv TG p (ptx.map (·.name)) c s ∧
      CtxOk TG p (ptx.map (·.name)) s.namer ps.name ps.fragmentTags ps.fragments c ∧
      (s.namer.targetTags = true → (ptx ++ input).any C10.hasTarget = true) ∧ s.extra = [])
    h ⟨hF, htgt, hx⟩ ?_ ?_ ?_
  · intro ps hps x n1 ⟨hF, htgt, hx⟩ h1 hlook
    obtain ⟨hfacts, htgt1⟩ := nameFacts_of_part H (List.mem_append.2 (Or.inl hps)) (fun _ hf => hf) hF.good htgt h1
    obtain ⟨hni1, htag⟩ := hPtx ps hps x.namer n1 hF.ni hfacts h1
    -- the first row is a piece of an input scaffold
    obtain ⟨c, hctx⟩ := ctxOk_of_facts (TG := TG) input ptx p H ps hps x.namer n1 hfacts
      (fun c hc => by obtain ⟨f, hm, rfl⟩ := firstRowName_mem hc; exact hlook f hm)
      (fun c hc tg _ suf hsuf _ hsp => htag (mayBeTagged_of_piece htgt1 hsp) c hc tg suf hsuf)
    exact ⟨c, ⟨hF.entries, hfacts.good, hni1, hfacts.pre.trans hF.pre, by rw [hfacts.hapS]; exact hF.ids,
        by rw [hfacts.hapS, hfacts.hapN]; exact hF.names⟩,
      ⟨by rw [hfacts.unlocS]; exact List.nodup_nil, by rw [hfacts.unlocS]; intro i hi; cases hi⟩, hctx, htgt1, hx⟩
  · intro ps _ f hf s s' ⟨c, q1, q2, q3, q4, q5⟩ hs
    obtain ⟨c1, c2, c3, c4, c5⟩ := processBait_step input _ _ _ s s' f hf q1 q2 q3 hs
    exact ⟨c, c1, c2, c3, fun ht => q4 (c4.2.2.2.1 ▸ ht), c5.trans q5⟩
  · intro ps _ s ⟨c, q1, q2, _, q4, q5⟩
    exact ⟨rename_unloc_inv s q1 q2, q4, q5⟩

/-- the label fields are a function of the fixed fields and the name -/
def labOfFixed (x : ((Option Str × Option Str × Int × Option Str × Option (List Str) × Fragment) × Bool) × Str) :
    Scaffold :=
  { name := x.2, tag := x.1.1.1, haplotype := x.1.1.2.1, rank := x.1.1.2.2.1, originalName := x.1.1.2.2.2.1,
    originalTags := x.1.1.2.2.2.2.1 }

theorem labRes_fixedN (r : Res) : labRes r = labOfFixed (fixedN r) := rfl

theorem sinv_of_fixedN {TG : Par} {p : Str} {N : List Str} {b b' : Build}
    (hst : b'.store.map fixedN = b.store.map fixedN) (hn : b'.namer = b.namer) (hF : SInv TG p N b) :
    SInv TG p N b' := by
  have hlen : b'.store.length = b.store.length := by simpa using congrArg List.length hst
  have hget : ∀ i, fixedN (b'.store.getD i default) = fixedN (b.store.getD i default) :=
    getD_of_map_eq fixedN default hst
  refine hF.congr hn hlen (fun i => congrArg (fun x => x.1.1.1) (hget i)) (fun i _ => congrArg (fun x => x.2) (hget i))
    fun r hr => ?_
  obtain ⟨j, hj, e⟩ := mem_getD _ r default hr
  rw [← e, labRes_fixedN, hget j, ← labRes_fixedN]
  exact hF.entries _ (Pipeline.getD_mem (hlen ▸ hj))

/-- what `add_missing` maintains -/
structure AInv (TG : Par) (input ptx : List Scaffold) (p : Str) (b : Build) : Prop where
  good : NamerGood b.namer
  ni : TG.NI b.namer
  pre : b.namer.autosomePrefix = p
  target : b.namer.targetTags = true → (ptx ++ input).any C10.hasTarget = true
  extras : ∀ e ∈ b.extra, PE TG p (ptx.map (·.name)) (lab e.1)
  noHap : ∀ e ∈ b.extra, e.1.tag ≠ some sHaplotig

theorem missingStep_inv {TG : Par} (input ptx : List Scaffold) (p : Str)
    (H : C10.NamesOutsideGenerated input ptx p) (hLeft : LeftCallback TG input ptx) (sc : Scaffold)
    (hsc : sc ∈ input) (b b' : Build) (hA : AInv TG input ptx p b) (h : Pipeline.missingStep b sc = .ok b') :
    AInv TG input ptx p b' := by
  obtain ⟨rows, first, hv, ⟨-, rfl⟩ | ⟨-, n, hn, rfl⟩⟩ := Pipeline.missingStep_inv h
  · exact hA
  · have hsub : ∀ f ∈ fragmentsOf rows, f ∈ sc.fragments := by
      intro f hf
      rw [(C01.missingRows_spec b sc.rows rows first hv).1] at hf
      exact (List.mem_filter.1 hf).1
    obtain ⟨hfacts, htarget⟩ := nameFacts_of_part H (List.mem_append.2 (Or.inr hsc)) hsub hA.good hA.target hn
    obtain ⟨hni, hq⟩ := hLeft sc hsc rows b.namer n hA.ni hsub hfacts hn
    refine ⟨hfacts.good, hni, hfacts.pre.trans hA.pre, htarget, fun e he => ?_, fun e he => ?_⟩
    · rcases List.mem_append.1 he with he | he
      · exact hA.extras e he
      · -- the new left-over scaffold: rank 3, called as in the input, Contaminant in Target mode
        cases List.mem_singleton.1 he
        split
        · next hc =>
          exact ⟨scOk_rank3 rfl hfacts.hap (Or.inr (by simp [lab, tagWords])) nofun, fun _ => hq (htarget hc.1)⟩
        · exact ⟨scOk_rank3 rfl hfacts.hap (Or.inl rfl) fun _ => H.inputOutsidePrefix sc hsc,
            fun h => by rcases h with h | h <;> cases h⟩
    · rcases List.mem_append.1 he with he | he
      · exact hA.noHap e he
      · cases List.mem_singleton.1 he
        show (if _ then some sContaminant else none) ≠ some sHaplotig
        split
        · decide
        · exact nofun

theorem sinv_start (TG : Par) (input : List Scaffold) (p : Str) (N : List Str) (joinGap : Option Gap) (err : Int)
    (hNI0 : TG.NI { autosomePrefix := p }) :
    SInv TG p N (Pipeline.initBuild input p joinGap err) :=
  ⟨fun r hr => (by cases hr), ⟨fun kv hkv => (by cases hkv), fun v hv => (by cases hv)⟩, hNI0, rfl, rfl, rfl⟩

theorem front_spec {TG : Par} (input ptx : List Scaffold) (p : Str) (joinGap : Option Gap) (err : Int) (b : Build)
    (H : C10.NamesOutsideGenerated input ptx p) (hNI0 : TG.NI { autosomePrefix := p })
    (hPtx : PtxCallback TG input ptx) (hLeft : LeftCallback TG input ptx)
    (h : remapToInput input ptx p joinGap err = .ok b) :
    StoreOk TG p (ptx.map (·.name)) b.store ∧ (∀ e ∈ b.extra, PE TG p (ptx.map (·.name)) (lab e.1)) ∧
    b.namer.autosomePrefix = p ∧ (∀ e ∈ b.extra, e.1.tag ≠ some sHaplotig) := by
  obtain ⟨b1, b2, b3, h1, h2, h3, h4⟩ := Pipeline.remapToInput_ok h
  obtain ⟨hF1, ht1, hx1⟩ := find_inv input ptx p H hPtx _ b1 (sinv_start TG input p _ joinGap err hNI0)
    (fun h => (by cases h)) rfl h1
  -- resolver and cutting edit stored results in place; the final `rename_by_size` renames the haplotigs
  have f3 := (Pipeline.discardOverhanging_frame h2).1.trans (Pipeline.cutRemaining_frame h3).1
  have hS := rename_hap_ok b3
    (sinv_of_fixedN (C09.evolves_fixedN (Pipeline.middle_evolves h2 h3)) f3.namer hF1).finv
  have hst := (Pipeline.addMissing_frame h4).1
  rw [Pipeline.addMissing_eq] at h4
  have hx3 : b3.extra = [] := f3.extra.trans hx1
  have hA0 : AInv TG input ptx p { b3 with store := renameBySize b3.store b3.namer.haplotigScaffolds } :=
    ⟨f3.namer ▸ hF1.good, f3.namer ▸ hF1.ni, f3.namer ▸ hF1.pre, f3.namer ▸ ht1,
      fun e (he : e ∈ b3.extra) => (nomatch hx3 ▸ he), fun e (he : e ∈ b3.extra) => (nomatch hx3 ▸ he)⟩
  have hA := foldlM_inv (AInv TG input ptx p) h4 hA0
    (fun s sc hsc s' q hs => missingStep_inv input ptx p H hLeft sc hsc s s' q hs)
  exact ⟨hst ▸ hS, hA.extras, hA.pre, hA.noHap⟩

end AgpTpf.C10U
