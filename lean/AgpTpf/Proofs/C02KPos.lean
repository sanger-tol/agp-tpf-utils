/-
  C02 core: scaffold positions (`rowAt`, `ContigAt`), boundaries, and the exact
  geometry of `discard_start` / `discard_end` on a result satisfying the C18 invariant (which rows and which scaffold
  positions are removed; that the gap rows stripped after the discarded row are gap positions of the source scaffold).
-/
import AgpTpf.Proofs.Lib.Rows
import AgpTpf.Proofs.C18
namespace AgpTpf.C02
open AgpTpf OverlapResult
open AgpTpf.C18 (Inv)

/-- the row covering scaffold position `x` (1-based): the first row whose cumulative end is `≥ x` -/
def rowAt : List Row → Int → Option Row
  | [], _ => none
  | r :: rs, x => if x ≤ r.length then some r else rowAt rs (x - r.length)

def ContigAt (src : List Row) (x : Int) : Prop := 1 ≤ x ∧ ∃ f, rowAt src x = some (.frag f)

/-- so the cumulative index is monotone -/
def NonNeg (rows : List Row) : Prop := ∀ r ∈ rows, 0 ≤ r.length

theorem NonNeg.append_left {a b : List Row} (h : NonNeg (a ++ b)) : NonNeg a :=
  fun r hr => h r (List.mem_append_left _ hr)
theorem NonNeg.append_right {a b : List Row} (h : NonNeg (a ++ b)) : NonNeg b :=
  fun r hr => h r (List.mem_append_right _ hr)

theorem rowsLength_nonneg {l : List Row} (h : NonNeg l) : 0 ≤ rowsLength l := by
  induction l with
  | nil => simp [rowsLength_nil]
  | cons r t ih =>
    rw [rowsLength_cons]
    have := h r (List.mem_cons_self ..)
    have := ih (fun x hx => h x (List.mem_cons_of_mem _ hx))
    omega

theorem rowAt_append_right (X l : List Row) (hX : NonNeg X) (x : Int) (hx : rowsLength X < x) :
    rowAt (X ++ l) x = rowAt l (x - rowsLength X) := by
  induction X generalizing x with
  | nil => simp [rowsLength_nil]
  | cons r t ih =>
    have h0 := rowsLength_nonneg (l := t) (fun y hy => hX y (List.mem_cons_of_mem _ hy))
    rw [rowsLength_cons] at hx
    have hr : ¬ x ≤ r.length := by omega
    simp only [List.cons_append, rowAt, hr, ↓reduceIte]
    rw [ih (fun y hy => hX y (List.mem_cons_of_mem _ hy)) (x - r.length) (by omega), rowsLength_cons]
    congr 1; omega

theorem rowAt_some_decomp : ∀ (src : List Row), NonNeg src → ∀ (x : Int) (r : Row), 1 ≤ x → rowAt src x = some r →
    ∃ X Y, src = X ++ r :: Y ∧ rowsLength X < x ∧ x ≤ rowsLength X + r.length
  | [], _, x, r, _, h => by simp [rowAt] at h
  | a :: t, hn, x, r, h1, h => by
    simp only [rowAt] at h
    by_cases hx : x ≤ a.length
    · rw [if_pos hx] at h
      cases h
      exact ⟨[], t, rfl, by rw [rowsLength_nil]; omega, by rw [rowsLength_nil]; omega⟩
    · rw [if_neg hx] at h
      obtain ⟨X, Y, e, q1, q2⟩ := rowAt_some_decomp t (fun z hz => hn z (List.mem_cons_of_mem _ hz)) (x - a.length) r
        (by omega) h
      exact ⟨a :: X, Y, by rw [e]; rfl, by rw [rowsLength_cons]; omega, by rw [rowsLength_cons]; omega⟩

theorem pre_of_decomp {src X Y : List Row} {r : Row} (hs : src = X ++ r :: Y) :
    src[X.length]? = some r ∧ C12.pre src X.length = rowsLength X ∧
      C12.pre src (X.length + 1) = rowsLength X + r.length := by
  have hk : src[X.length]? = some r := by rw [hs]; simp
  obtain ⟨hklt, hk'⟩ := List.getElem?_eq_some_iff.mp hk
  have e1 : C12.pre src X.length = rowsLength X := by unfold C12.pre; rw [hs]; simp
  exact ⟨hk, e1, by rw [C12.pre_succ src X.length hklt, hk', e1]⟩

theorem pos_unique {src X Y A B : List Row} {r s : Row} (hlen : NonNeg src) (h1 : src = X ++ r :: Y)
    (h2 : src = A ++ s :: B) {x : Int} (hx1 : rowsLength X < x) (hx2 : x ≤ rowsLength X + r.length)
    (ha1 : rowsLength A < x) (ha2 : x ≤ rowsLength A + s.length) : X = A ∧ r = s ∧ Y = B := by
  obtain ⟨-, e1, e2⟩ := pre_of_decomp h1
  obtain ⟨-, a1, a2⟩ := pre_of_decomp h2
  have hl : X.length = A.length := by
    rcases Nat.lt_trichotomy X.length A.length with h | h | h
    · have := C12.pre_mono src hlen (X.length + 1) A.length h; omega
    · exact h
    · have := C12.pre_mono src hlen (A.length + 1) X.length h; omega
  obtain ⟨rfl, e⟩ := List.append_inj (h1.symm.trans h2) hl
  cases e
  exact ⟨rfl, rfl, rfl⟩

theorem pos_in_run {src X Y : List Row} {r : Row} (hlen : NonNeg src) (hs : src = X ++ r :: Y) {x : Int}
    (hx1 : rowsLength X < x) (hx2 : x ≤ rowsLength X + r.length) :
    ∀ (A S B : List Row), src = A ++ S ++ B → rowsLength A < x → x ≤ rowsLength A + rowsLength S →
      ∃ S1 S2, S = S1 ++ r :: S2 ∧ X = A ++ S1 ∧ Y = S2 ++ B
  | A, [], B, _, h1, h2 => by rw [rowsLength_nil] at h2; omega
  | A, a :: S, B, hS, h1, h2 => by
    rw [rowsLength_cons] at h2
    by_cases hx : x ≤ rowsLength A + a.length
    · obtain ⟨rfl, rfl, rfl⟩ := pos_unique hlen hs (show src = A ++ a :: (S ++ B) by rw [hS]; simp) hx1 hx2 h1 hx
      exact ⟨[], S, rfl, by simp, rfl⟩
    · obtain ⟨S1, S2, rfl, rfl, rfl⟩ := pos_in_run hlen hs hx1 hx2 (A ++ [a]) S B (by rw [hS]; simp)
        (by rw [rowsLength_append, rowsLength_singleton]; omega) (by rw [rowsLength_append, rowsLength_singleton]; omega)
      exact ⟨a :: S1, S2, rfl, by simp, rfl⟩

theorem not_contigAt_gap_run {src X G Y : List Row} (hs : src = X ++ G ++ Y) (hlen : NonNeg src) (hG : ∀ r ∈ G, r.isGap = true)
    {x : Int} (h1 : rowsLength X < x) (h2 : x ≤ rowsLength X + rowsLength G) : ¬ ContigAt src x := by
  rintro ⟨hx, f, hf⟩
  obtain ⟨X', Y', hs', a, b⟩ := rowAt_some_decomp src hlen x _ hx hf
  obtain ⟨G1, G2, rfl, -, -⟩ := pos_in_run hlen hs' a b X G Y hs h1 h2
  cases hG (.frag f) (by simp)

theorem rowAt_frag {src X Y : List Row} {f : Fragment} (hs : src = X ++ .frag f :: Y) (hlen : NonNeg src)
    {x : Int} (h1 : rowsLength X < x) (h2 : x ≤ rowsLength X + f.length) : rowAt src x = some (.frag f) := by
  have hX : NonNeg X := by rw [hs] at hlen; exact hlen.append_left
  rw [hs, rowAt_append_right X _ hX x h1]
  simp only [rowAt]
  rw [if_pos (by simp only [Row.length]; omega)]

theorem contigAt_of_row {src X Y : List Row} {f : Fragment} (hs : src = X ++ .frag f :: Y) (hlen : NonNeg src)
    {x : Int} (h1 : rowsLength X < x) (h2 : x ≤ rowsLength X + f.length) : ContigAt src x := by
  have := rowsLength_nonneg (hs ▸ hlen).append_left
  exact ⟨by omega, f, rowAt_frag hs hlen h1 h2⟩

def Boundary (src : List Row) (y : Int) : Prop := ∃ X Y, src = X ++ Y ∧ y = rowsLength X

/-- keeps `min` / `max` out of the arithmetic of the callers -/
theorem le_overlap_iff {a b c d k : Int} :
    k ≤ min a b - max c d + 1 ↔ k ≤ a - c + 1 ∧ k ≤ a - d + 1 ∧ k ≤ b - c + 1 ∧ k ≤ b - d + 1 := by
  have e : k ≤ min a b - max c d + 1 ↔ max c d + (k - 1) ≤ min a b := by omega
  have f : ∀ z, max c d + (k - 1) ≤ z ↔ max c d ≤ z - (k - 1) := fun z => by omega
  rw [e, Int.le_min, f, f, Int.max_le, Int.max_le]
  omega

/-- only the first and the last row of a result can be shortened -/
theorem inner_run {src : List Row} {o : OverlapResult} (hI : Inv src o) {P M Q : List Row} (hr : o.rows = P ++ M ++ Q)
    (hP : P ≠ []) (hQ : Q ≠ []) : ∃ X Y, src = X ++ M ++ Y ∧ rowsLength X = o.start - 1 + rowsLength P := by
  obtain ⟨p, P, rfl⟩ := List.exists_cons_of_ne_nil hP
  obtain ⟨Q, q, rfl⟩ := (list_nil_or_concat Q).resolve_left hQ
  cases hI.content with
  | empty h0 _ => rw [h0] at hr; cases hr
  | one A B s r dl dr _ h1 =>
    have := congrArg List.length (h1.symm.trans hr)
    simp at this
  | many A B mid s0 s1 r0 r1 dl dr hs h1 hs0 _ _ _ hst _ =>
    have hr' : (r0 :: mid) ++ [r1] = (p :: (P ++ M ++ Q)) ++ [q] := by rw [← h1, hr]; simp
    obtain ⟨rfl, rfl⟩ := List.cons.inj (List.append_inj' hr' rfl).1
    have := hs0.length
    exact ⟨A ++ s0 :: P, Q ++ s1 :: B, by rw [hs]; simp, by rw [rowsLength_append, rowsLength_cons, rowsLength_cons]; omega⟩

theorem discardStart_full {o o' : OverlapResult} (h : discardStart o = .ok o') :
    ∃ d G, o.rows = d :: (G ++ o'.rows) ∧ (∀ r ∈ G, r.isGap = true) ∧ o'.start = o.start + d.length + rowsLength G ∧
      o'.stop = o.stop ∧ o'.bait = o.bait := by
  obtain ⟨d, G, T, h1, h2, -, rfl⟩ := discardStart_ok h
  exact ⟨d, G, h1, h2, rfl, rfl, rfl⟩

theorem discardStart_geom {src : List Row} {o o' : OverlapResult} (hlen : NonNeg src) (hI : Inv src o)
    (h : discardStart o = .ok o') :
    ∃ d t, o.rows = d :: t ∧ o'.stop = o.stop ∧ o'.bait = o.bait ∧ o.start + d.length ≤ o'.start ∧
      (∀ x, x < o'.start → ContigAt src x → x < o.start + d.length) ∧
      (o'.rows = [] ∨ Boundary src (o'.start - 1)) := by
  obtain ⟨d, G, hrows, hG, hst, hen, hb⟩ := discardStart_full h
  refine ⟨d, _, hrows, hen, hb, ?_⟩
  by_cases h0 : o'.rows = []
  · -- nothing is left: the last row of `d :: G` is no gap row, so no gap row was stripped
    rw [h0, List.append_nil] at hrows
    obtain ⟨-, f, t, ht⟩ := hI.noTerminalGap.resolve_left (by rw [hrows]; simp)
    rcases list_nil_or_concat G with rfl | ⟨G', g, rfl⟩
    · rw [rowsLength_nil] at hst
      exact ⟨by omega, fun x h2 _ => by omega, Or.inl h0⟩
    · obtain rfl := List.singleton_inj.mp (List.append_inj' (show (d :: G') ++ [g] = t ++ [.frag f] from
        hrows.symm.trans ht) rfl).2
      cases hG (.frag f) (by simp)
  · -- the stripped gap rows are a run of gap rows of the source scaffold, directly behind the discarded row
    obtain ⟨X, Y, hs, hX⟩ := inner_run hI (P := [d]) (M := G) (by rw [hrows]; simp) (by simp) h0
    rw [rowsLength_singleton] at hX
    have := rowsLength_nonneg (l := G) (fun y hy => hlen y (by rw [hs]; simp [hy]))
    exact ⟨by omega, fun x h2 hc => Int.lt_of_not_ge fun hx => not_contigAt_gap_run hs hlen hG (by omega) (by omega) hc,
      Or.inr ⟨X ++ G, Y, hs, by rw [rowsLength_append]; omega⟩⟩

theorem discardEnd_full {o o' : OverlapResult} (h : discardEnd o = .ok o') :
    ∃ d G, o.rows = o'.rows ++ G ++ [d] ∧ (∀ r ∈ G, r.isGap = true) ∧ o'.stop = o.stop - d.length - rowsLength G ∧
      o'.start = o.start ∧ o'.bait = o.bait := by
  obtain ⟨d, G, T, h1, h2, -, rfl⟩ := discardEnd_ok h
  exact ⟨d, G, h1, h2, rfl, rfl, rfl⟩

theorem discardEnd_geom {src : List Row} {o o' : OverlapResult} (hlen : NonNeg src) (hI : Inv src o)
    (h : discardEnd o = .ok o') :
    ∃ d t, o.rows = t ++ [d] ∧ o'.start = o.start ∧ o'.bait = o.bait ∧ o'.stop ≤ o.stop - d.length ∧
      (∀ x, o'.stop < x → ContigAt src x → o.stop - d.length < x) ∧ (o'.rows = [] ∨ Boundary src o'.stop) := by
  obtain ⟨d, G, hrows, hG, hen, hst, hb⟩ := discardEnd_full h
  refine ⟨d, _, hrows, hst, hb, ?_⟩
  by_cases h0 : o'.rows = []
  · rw [h0, List.nil_append] at hrows
    obtain ⟨⟨f, t, ht⟩, -⟩ := hI.noTerminalGap.resolve_left (by rw [hrows]; simp)
    cases G with
    | nil =>
      rw [rowsLength_nil] at hen
      exact ⟨by omega, fun x h2 _ => by omega, Or.inl h0⟩
    | cons g G' =>
      obtain rfl := (List.cons.inj (show g :: (G' ++ [d]) = .frag f :: t from hrows.symm.trans ht)).1
      cases hG (.frag f) (by simp)
  · obtain ⟨X, Y, hs, hX⟩ := inner_run hI (M := G) (Q := [d]) hrows h0 (by simp)
    have hsp := hI.span
    rw [hrows, rowsLength_append, rowsLength_append, rowsLength_singleton] at hsp
    have := rowsLength_nonneg (l := G) (fun y hy => hlen y (by rw [hs]; simp [hy]))
    exact ⟨by omega, fun x h2 hc => Int.lt_of_not_ge fun hx => not_contigAt_gap_run hs hlen hG (by omega) (by omega) hc,
      Or.inr ⟨X, G ++ Y, by rw [hs, List.append_assoc], by omega⟩⟩

end AgpTpf.C02
