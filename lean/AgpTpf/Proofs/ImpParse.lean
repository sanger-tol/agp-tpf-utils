/-
  T1c tie for `parse_agp` / `parse_tpf` (assembly/parser.py): lemmas for the translated sources
  `Gen.Imp.parse_agp_imp` / `Gen.Imp.parse_tpf_imp`.

  The source keeps the scaffolds it creates in an arena `heap` and refers to the current one by a reference
  `sc : Option Nat`; `asm.scaffolds` is the list `refs` of references.  The model keeps `st.scaffolds` (current one LAST)
  and the flag `st.haveScaffold`.  `srcState` rebuilds the model's `ParseState` from the source's variables, `ArenaInv`
  is the invariant that makes the two views agree (`refs = [0, …, heap.length)`, `sc` is `none` or the last slot).

  `parse_loop` is the `for` loop over the lines and the `return asm`, against the model's fold of ANY line reader.  The only place
  that looks at the generated text is the proof of its body hypothesis in `Properties/C05ImpParse.lean`.
-/
import AgpTpf.Gen.Imp
import AgpTpf.Model.Text
import AgpTpf.Proofs.ImpRef
import AgpTpf.Proofs.Lib.Arena
import AgpTpf.Proofs.C05Tables
import AgpTpf.Proofs.Lib.Py
namespace AgpTpf.C05
open AgpTpf
open AgpTpf.ImpFound (Ref nextRel)

theorem throw_bind {α β : Type} (e : Err) (k : α → R β) : ((throw e : R α) >>= k) = .error e := rfl

theorem needObj_some {α : Type} (x : α) : PyRt.needObj (some x) = .ok x := rfl
theorem needObj_none {α : Type} : PyRt.needObj (none : Option α) = .error .attribute := rfl

/-- the model's state, from the source's variables (`scaffold is not None` is the model's flag) -/
def srcState (hdr : List Str) (nm : Str) (sc : Option Nat) (heap : List Scaffold) (oid : Nat) : ParseState :=
  { header := hdr, scaffolds := heap, currentName := nm, haveScaffold := sc.isSome, nextOid := oid }

/-- the arena and `asm.scaffolds` grow together, and the current scaffold is the newest one -/
def ArenaInv (sc : Option Nat) (heap : List Scaffold) (refs : List Nat) : Prop :=
  refs = List.range heap.length ∧ (sc = none ∨ (heap ≠ [] ∧ sc = some (heap.length - 1)))

theorem arenaInv_init : ArenaInv none [] [] := ⟨rfl, .inl rfl⟩

theorem srcState_init : srcState [] [] none [] 0 = {} := rfl

/-- `Scaffold(name)` allocated at the end of the arena, `asm.add_scaffold(ref)` -/
theorem arenaInv_alloc {sc : Option Nat} {heap : List Scaffold} {refs : List Nat} (h : ArenaInv sc heap refs)
    (s : Scaffold) : ArenaInv (some heap.length) (heap ++ [s]) (refs ++ [heap.length]) := by
  refine ⟨?_, .inr ⟨by simp, by simp⟩⟩
  rw [h.1]; simp [List.range_succ]

theorem srcState_switch_ne (hdr : List Str) (nm : Str) (sc : Option Nat) (heap : List Scaffold) (oid : Nat)
    (name : Str) (h : name ≠ nm) :
    (srcState hdr nm sc heap oid).switchScaffold name =
      srcState hdr name (some heap.length) (heap ++ [{ name := name }]) oid := by
  simp [ParseState.switchScaffold, srcState, h]

theorem srcState_switch_eq (hdr : List Str) (nm : Str) (sc : Option Nat) (heap : List Scaffold) (oid : Nat) :
    (srcState hdr nm sc heap oid).switchScaffold nm = srcState hdr nm sc heap oid := by
  simp [ParseState.switchScaffold, srcState]

theorem srcState_haveScaffold (hdr : List Str) (nm : Str) (sc : Option Nat) (heap : List Scaffold) (oid : Nat) :
    (srcState hdr nm sc heap oid).haveScaffold = sc.isSome := rfl

/-- attribute access on the variable `scaffold` (`scaffold.add_row`: AttributeError on `None`) against the model's
    `if ¬ st.haveScaffold then throw .attribute`, whatever follows -/
theorem stepSim_needObj {σ τ : Type} {Q : σ → τ → Prop}
    (hdr : List Str) (nm : Str) (sc : Option Nat) (heap : List Scaffold) (oid : Nat)
    {f : Nat → R σ} {k : PUnit → R τ} {g : R τ}
    (h : ∀ r, sc = some r → Ref Q (f r) g) :
    Ref Q (PyRt.needObj sc >>= f)
      (if ¬ (srcState hdr nm sc heap oid).haveScaffold = true then (throw Err.attribute >>= k) else g) := by
  cases sc with
  | none => exact Ref.error _
  | some r => exact h r rfl

theorem srcState_nextOid (hdr : List Str) (nm : Str) (sc : Option Nat) (heap : List Scaffold) (oid : Nat) :
    (srcState hdr nm sc heap oid).nextOid = oid := rfl

theorem srcState_header (hdr : List Str) (nm : Str) (sc : Option Nat) (heap : List Scaffold) (oid : Nat) :
    (srcState hdr nm sc heap oid).header = hdr := rfl

theorem srcState_scaffolds (hdr : List Str) (nm : Str) (sc : Option Nat) (heap : List Scaffold) (oid : Nat) :
    (srcState hdr nm sc heap oid).scaffolds = heap := rfl

theorem srcState_bump (hdr : List Str) (nm : Str) (sc : Option Nat) (heap : List Scaffold) (oid : Nat) :
    { srcState hdr nm sc heap oid with nextOid := (srcState hdr nm sc heap oid).nextOid + 1 } =
      srcState hdr nm sc heap (oid + 1) := rfl

/-- `asm.add_header_line(h)` -/
theorem srcState_addHeader (hdr : List Str) (nm : Str) (sc : Option Nat) (heap : List Scaffold) (oid : Nat) (h : Str) :
    { srcState hdr nm sc heap oid with header := (srcState hdr nm sc heap oid).header ++ [h] } =
      srcState (hdr ++ [h]) nm sc heap oid := rfl

theorem arenaInv_addRow {sc : Option Nat} {heap : List Scaffold} {refs : List Nat} (h : ArenaInv sc heap refs)
    (r : Nat) (row : Row) : ArenaInv sc (PyRt.arenaAddRow heap r row) refs := by
  have hl : (PyRt.arenaAddRow heap r row).length = heap.length := by rw [Arena.arenaAddRow_eq_modify, List.length_modify]
  refine ⟨by rw [hl]; exact h.1, h.2.imp id fun ⟨hne, h2⟩ => ⟨fun e => hne (List.eq_nil_of_length_eq_zero ?_), by rw [hl]; exact h2⟩⟩
  rw [← hl, e]; rfl

theorem srcState_addRow_none (hdr : List Str) (nm : Str) (heap : List Scaffold) (oid : Nat) (row : Row) :
    (srcState hdr nm none heap oid).addRow row = .error .attribute := by
  simp [ParseState.addRow, srcState]

theorem srcState_addRow_some (hdr : List Str) (nm : Str) (r : Nat) (heap : List Scaffold) (refs : List Nat) (oid : Nat)
    (row : Row) (h : ArenaInv (some r) heap refs) :
    (srcState hdr nm (some r) heap oid).addRow row = .ok (srcState hdr nm (some r) (PyRt.arenaAddRow heap r row) oid) := by
  rcases h.2 with h2 | ⟨hne, h2⟩
  · cases h2
  · rcases List.eq_nil_or_concat heap with h0 | ⟨init, s, rfl⟩
    · exact absurd h0 hne
    · cases h2
      rw [List.concat_eq_append, Arena.arenaAddRow_eq_modify, show (init ++ [s]).length - 1 = init.length by simp,
        Arena.modify_length_snoc]
      simp [ParseState.addRow, srcState]

theorem slice_from_9 {α : Type} (l : List α) : PyRt.slice l (some (9 : Int)) none = l.drop 9 := PyRt.slice_from l 9

theorem dictGet_eq_lookupStr {β : Type} (d : List (Str × β)) (k : Str) : PyRt.dictGet d k = lookupStr d k := rfl

/-- `gap_type_dict.get(t, t.translate(tr))`: the model's `tpfGapTypeOfText`, for the table `tr` of the model -/
theorem tpfGapTypeOfText_eq_getD (t : Str) :
    tpfGapTypeOfText t = (dGet? Gen.tpfGapParseDict t).getD
      (t.map (fun c => match dGet? (Gen.lowerFrom.zip Gen.lowerTo) c with | some d => d | none => c)) := by
  unfold tpfGapTypeOfText
  cases dGet? Gen.tpfGapParseDict t <;> rfl

/-- `line.rstrip("\r\n")`: the character class written as a membership test -/
theorem isCrLf_eq_contains : (fun c => (['\r', '\n'] : List Char).contains c) = isCrLf := by
  funext c
  by_cases h1 : c = '\r'
  · subst h1; rfl
  · by_cases h2 : c = '\n'
    · subst h2; rfl
    · have e1 : (c == '\r') = false := by simp [h1]
      have e2 : (c == '\n') = false := by simp [h2]
      simp [isCrLf, List.contains, List.elem, e1, e2, h1, h2]

theorem bind_ok {α β : Type} (a : α) (f : α → R β) : ((Except.ok a : R α) >>= f) = f a := rfl
theorem bind_error {α β : Type} (e : Err) (f : α → R β) : ((Except.error e : R α) >>= f) = .error e := rfl

/-- the assembly a run of the source's parser returns, from its four result components -/
def srcAssembly (r : List Scaffold × Nat × List Str × List Nat) : Assembly :=
  { header := r.2.2.1, scaffolds := r.2.2.2.map (fun i => r.1.getD i default) }

/-- the loop variables, as both generated parsers carry them (the same six) -/
abbrev ParseVars : Type := List Nat × List Scaffold × List Str × Option Nat × Nat × Str

/-- `harness/translate_imp.py` packs the loop variables in a tuple ordered by the Lean text of their type, then by name:
    `(asm_scaffolds, heap_sc, asm_header, scaffold, nextOid, scaffold_name)`.  `vars` builds (and matches) that tuple from the variables in
    the order the PROOFS use, the argument order of `srcState` / `ArenaInv`; it is the only place that knows the generated order — if
    the translator permutes the tuple, permute the right-hand side and the type `ParseVars`, nothing else. -/
@[match_pattern] abbrev vars (hdr : List Str) (nm : Str) (sc : Option Nat) (heap : List Scaffold) (refs : List Nat) (oid : Nat) :
    ParseVars := (refs, heap, hdr, sc, oid, nm)

def ParseRel (s : ParseVars) (t : ParseState) : Prop :=
  match s with
  | vars hdr nm sc heap refs oid => t = srcState hdr nm sc heap oid ∧ ArenaInv sc heap refs

theorem parseRel_mk {hdr : List Str} {nm : Str} {sc : Option Nat} {heap : List Scaffold} {refs : List Nat} {oid : Nat}
    (h : ArenaInv sc heap refs) : ParseRel (vars hdr nm sc heap refs oid) (srcState hdr nm sc heap oid) := ⟨rfl, h⟩

/-- after `if fields[i] != scaffold_name: …`, joined on `(asm.scaffolds, heap, scaffold, scaffold_name)` in the generated order -/
def SwitchRel (hdr : List Str) (oid : Nat) (j : List Nat × List Scaffold × Option Nat × Str) (st' : ParseState) : Prop :=
  ∃ sc heap refs nm, j = (refs, heap, sc, nm) ∧ st' = srcState hdr nm sc heap oid ∧ ArenaInv sc heap refs

theorem switchRel_ite {hdr : List Str} {nm : Str} {sc : Option Nat} {heap : List Scaffold} {refs : List Nat} {oid : Nat}
    (h : ArenaInv sc heap refs) (f : Str) :
    SwitchRel hdr oid
      (if f ≠ nm then (refs ++ [heap.length], heap ++ [{ name := f }], some heap.length, f) else (refs, heap, sc, nm))
      ((srcState hdr nm sc heap oid).switchScaffold f) := by
  by_cases hn : f = nm
  · subst hn
    rw [if_neg (by simp), srcState_switch_eq]
    exact ⟨_, _, _, _, rfl, rfl, h⟩
  · rw [if_pos hn, srcState_switch_ne _ _ _ _ _ _ hn]
    exact ⟨_, _, _, _, rfl, rfl, arenaInv_alloc h _⟩

/-- `for line in file: …; return asm`, for ANY line reader `step` of the model that one pass of the loop refines on related states;
    `fin` is the code after the loop: it hands back the arena, the object counter, the header and the references -/
theorem parse_loop {ρ : Type} (step : ParseState → Str → R ParseState) (body : Str → ParseVars → R (PyRt.Ctl ParseVars ρ))
    (fin : PyRt.Done ParseVars ρ → R (List Scaffold × Nat × List Str × List Nat)) (lines : List Str)
    (hbody : ∀ line hdr nm sc heap refs oid, ArenaInv sc heap refs →
      Ref (nextRel ParseRel) (body line (vars hdr nm sc heap refs oid)) (step (srcState hdr nm sc heap oid) line))
    (hfin : ∀ hdr nm sc heap refs oid, fin (.fell (vars hdr nm sc heap refs oid)) = .ok (heap, oid, hdr, refs)) :
    (PyRt.forIn lines (vars [] [] none [] [] 0) body >>= fin).map srcAssembly =
      lines.foldlM step {} >>= fun st => pure { header := st.header, scaffolds := st.scaffolds } := by
  refine ImpFound.forIn_ref_fin ParseRel step body lines _ _ fin srcAssembly _ (parseRel_mk arenaInv_init) ?_ ?_
  · intro line _ (vars hdr nm sc heap refs oid) _ h
    obtain ⟨rfl, hinv⟩ := h
    exact hbody line hdr nm sc heap refs oid hinv
  · intro (vars hdr nm sc heap refs oid) _ h
    obtain ⟨rfl, hinv⟩ := h
    rw [hfin, hinv.1]
    simp only [srcAssembly, Except.map, range_map_getD]
    rfl

end AgpTpf.C05

/-! T1c tie for `format_tpf` (assembly/format.py): the model's gap-type translation written as a per-character table, and
`Except` plumbing for the translated source `Gen.Imp.format_tpf_imp` (its loops: `PyRt.forIn_append_mapM`, `PyRt.forIn_foldl`). -/
namespace AgpTpf.C05
open AgpTpf

theorem imp_map_ok {α β} (f : α → β) (a : α) : (Except.ok a : R α).map f = .ok (f a) := rfl
theorem imp_map_error {α β} (f : α → β) (e : Err) : (Except.error e : R α).map f = .error e := rfl

/-- the model's `tpfGapTypeToText` is `gap_type_dict.get(g, g.translate(tr))` with `tr` the character map
    `trChar Gen.upperFrom Gen.upperTo` (`C05Tables`) -/
theorem tpfGapTypeToText_eq_getD (g : Str) :
    tpfGapTypeToText g = (dGet? Gen.tpfGapFormatDict g).getD (g.map (trChar Gen.upperFrom Gen.upperTo)) := by
  unfold tpfGapTypeToText
  cases dGet? Gen.tpfGapFormatDict g <;> rfl

/-- `"\n"` written after the row text is the `++ ['\n']` of the model's line -/
theorem imp_newline : ("\n".toList : Str) = ['\n'] := rfl

end AgpTpf.C05
