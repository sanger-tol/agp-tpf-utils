/-
  C10, chromosome numbering: `replaceAll` (Python `str.replace`) lemmas; renaming as a list of jobs
  `(old, new, ids)` (`runJobs_spec`), of which `nameGroup` on a one-haplotype group is the one-job case.
-/
import AgpTpf.Model.Remap
import AgpTpf.Proofs.C10Rename
namespace AgpTpf.C10
open AgpTpf

/-- `old in s` (Python substring test) -/
def occursIn (old : Str) : Str → Bool
  | [] => old.isEmpty
  | c :: cs => old.isPrefixOf (c :: cs) || occursIn old cs

theorem isPrefixOf_iff (a b : Str) : a.isPrefixOf b = true ↔ ∃ t, b = a ++ t := by
  rw [List.isPrefixOf_iff_prefix]
  constructor
  · rintro ⟨t, ht⟩; exact ⟨t, ht.symm⟩
  · rintro ⟨t, ht⟩; exact ⟨t, ht.symm⟩

theorem occursIn_iff (old : Str) : ∀ s : Str, occursIn old s = true ↔ ∃ pre post, s = pre ++ old ++ post := by
  intro s
  induction s with
  | nil =>
    unfold occursIn
    rw [List.isEmpty_iff]
    exact ⟨fun h => ⟨[], [], by rw [h]; rfl⟩, fun ⟨pre, post, h⟩ =>
      (List.append_eq_nil_iff.1 (List.append_eq_nil_iff.1 h.symm).1).2⟩
  | cons c cs ih =>
    unfold occursIn
    rw [Bool.or_eq_true, isPrefixOf_iff, ih]
    constructor
    · rintro (⟨t, ht⟩ | ⟨pre, post, h⟩)
      · exact ⟨[], t, by simpa using ht⟩
      · exact ⟨c :: pre, post, by simp [h]⟩
    · rintro ⟨pre, post, h⟩
      cases pre with
      | nil => left; exact ⟨post, by simpa using h⟩
      | cons p pre =>
        right
        simp only [List.cons_append, List.cons.injEq] at h
        exact ⟨pre, post, by simpa using h.2⟩

theorem occursIn_false_of_mem (old s : Str) (c : Char) (hc : c ∈ old) (hs : c ∉ s) : occursIn old s = false := by
  cases h : occursIn old s with
  | false => rfl
  | true =>
    obtain ⟨pre, post, e⟩ := (occursIn_iff old s).1 h
    exact absurd (by rw [e]; simp [hc]) hs

theorem occursIn_tail {old : Str} {c : Char} {cs : Str} (h : occursIn old (c :: cs) = false) :
    old.isPrefixOf (c :: cs) = false ∧ occursIn old cs = false := by
  unfold occursIn at h
  simpa [Bool.or_eq_false_iff] using h

theorem replaceAll_nil (old new : Str) (fuel : Nat) : replaceAll old new fuel [] = [] := by cases fuel <;> rfl

theorem replaceAll_cons (old new : Str) (fuel : Nat) (c : Char) (cs : Str) :
    replaceAll old new (fuel + 1) (c :: cs) =
      if old.isPrefixOf (c :: cs) ∧ ¬ old.isEmpty then new ++ replaceAll old new fuel ((c :: cs).drop old.length)
      else c :: replaceAll old new fuel cs := rfl

theorem replaceAll_noOcc (old new : Str) : ∀ (fuel : Nat) (s : Str), occursIn old s = false →
    replaceAll old new fuel s = s := by
  intro fuel
  induction fuel with
  | zero => intro s _; rfl
  | succ f ih =>
    intro s hs
    cases s with
    | nil => rfl
    | cons c cs =>
      obtain ⟨h1, h2⟩ := occursIn_tail hs
      rw [replaceAll_cons, if_neg (by rw [h1]; simp), ih cs h2]

theorem replaceAll_prefix (old new : Str) (hne : old ≠ []) (fuel : Nat) (rest : Str) :
    replaceAll old new (fuel + 1) (old ++ rest) = new ++ replaceAll old new fuel rest := by
  cases old with
  | nil => exact absurd rfl hne
  | cons o os =>
    have hp : (o :: os).isPrefixOf (o :: (os ++ rest)) = true := (isPrefixOf_iff _ _).2 ⟨rest, rfl⟩
    rw [List.cons_append, replaceAll_cons, if_pos ⟨hp, by simp⟩]
    simp

theorem replaceAll_fuel (old new : Str) : ∀ (fuel fuel' : Nat) (s : Str), s.length ≤ fuel → s.length ≤ fuel' →
    replaceAll old new fuel s = replaceAll old new fuel' s := by
  intro fuel
  induction fuel with
  | zero =>
    intro fuel' s h _
    obtain rfl := List.eq_nil_of_length_eq_zero (Nat.le_zero.1 h)
    exact (replaceAll_nil old new fuel').symm
  | succ f ih =>
    intro fuel' s h h'
    cases s with
    | nil => exact (replaceAll_nil old new fuel').symm
    | cons c cs =>
      cases fuel' with
      | zero => simp at h'
      | succ f' =>
        have h := Nat.le_of_succ_le_succ h
        have h' := Nat.le_of_succ_le_succ h'
        rw [replaceAll_cons, replaceAll_cons]
        by_cases hc : old.isPrefixOf (c :: cs) ∧ ¬ old.isEmpty
        · -- the scan continues on a strictly shorter string, `old` being non-empty
          have hd : ((c :: cs).drop old.length).length ≤ cs.length := by
            cases old with
            | nil => exact absurd hc.2 (by simp)
            | cons _ os => rw [List.length_cons, List.drop_succ_cons, List.length_drop]; exact Nat.sub_le _ _
          rw [if_pos hc, if_pos hc, ih f' _ (Nat.le_trans hd h) (Nat.le_trans hd h')]
        · rw [if_neg hc, if_neg hc, ih f' cs h h']

theorem replaceAll_self (old new : Str) (hne : old ≠ []) (fuel : Nat) :
    replaceAll old new (fuel + 1) old = new := by
  have := replaceAll_prefix old new hne fuel []
  rwa [List.append_nil, replaceAll_nil, List.append_nil] at this

theorem replaceAll_prefix_noOcc (old new : Str) (hne : old ≠ []) (fuel : Nat) (rest : Str)
    (h : occursIn old rest = false) : replaceAll old new (fuel + 1) (old ++ rest) = new ++ rest := by
  rw [replaceAll_prefix old new hne, replaceAll_noOcc old new fuel rest h]

/-- what `ChrGroup.name_chromosome` does to one scaffold -/
def renameScaffold (old new : Str) (s : Scaffold) : Scaffold :=
  { s with name := replaceAll old new (s.name.length + 1) s.name }

def renameAt (old new : Str) (fs : List Scaffold) (sid : Nat) : List Scaffold :=
  setAt fs sid (renameScaffold old new (fs.getD sid default))

theorem multiChrList_one (c : Str) : multiChrList c 1 = [c] := rfl

theorem nameGroup_single_eq (fs : List Scaffold) (h orig : Str) (ids : List Nat) (prefix_ : Str) (n : Nat) :
    nameGroup fs [(h, [(orig, ids)])] prefix_ n = ids.foldl (renameAt orig (prefix_ ++ natToStr n)) fs := rfl

/-- `(old, new, ids)`: in every scaffold of `ids` replace `old` by `new` in the name -/
abbrev Job := Str × Str × List Nat

def runJobs (jobs : List Job) (fs : List Scaffold) : List Scaffold :=
  jobs.foldl (fun fs j => j.2.2.foldl (renameAt j.1 j.2.1) fs) fs

theorem runJobs_append (a b : List Job) (fs : List Scaffold) : runJobs (a ++ b) fs = runJobs b (runJobs a fs) := by
  unfold runJobs; rw [List.foldl_append]

theorem runJobs_eq_updAt (jobs : List Job) (fs : List Scaffold) :
    runJobs jobs fs =
      (jobs.flatMap fun q => q.2.2.map fun i => (q.1, q.2.1, i)).foldl
        (updAt (·.2.2) fun b => renameScaffold b.1 b.2.1) fs := by
  unfold runJobs
  rw [List.foldl_flatMap]
  congr 1
  funext fs q
  rw [List.foldl_map]
  rfl

theorem runJobs_spec (jobs : List Job) (fs : List Scaffold) :
    (runJobs jobs fs).length = fs.length ∧
    (∀ j, j ∉ jobs.flatMap (·.2.2) → (runJobs jobs fs).getD j default = fs.getD j default) ∧
    ((jobs.flatMap (·.2.2)).Nodup → ∀ q ∈ jobs, ∀ j ∈ q.2.2,
      (runJobs jobs fs).getD j default = renameScaffold q.1 q.2.1 (fs.getD j default)) := by
  have hk : (jobs.flatMap fun q => q.2.2.map fun i => (q.1, q.2.1, i)).map (·.2.2) = jobs.flatMap (·.2.2) := by
    rw [List.map_flatMap]
    congr 1
    funext q
    rw [List.map_map]
    exact List.map_id _
  obtain ⟨a, b, c⟩ := foldl_updAt (·.2.2) (fun b => renameScaffold b.1 b.2.1)
    (jobs.flatMap fun q => q.2.2.map fun i => (q.1, q.2.1, i)) fs
  rw [← runJobs_eq_updAt] at a b c
  rw [hk] at b c
  refine ⟨a, b, fun hnd q hq j hj => ?_⟩
  by_cases hl : j < fs.length
  · exact c hnd (q.1, q.2.1, j) (List.mem_flatMap.2 ⟨q, hq, List.mem_map.2 ⟨j, hj, rfl⟩⟩) hl
  · -- out of range both sides are the default scaffold, whose empty name `replace` leaves alone
    have hl := Nat.le_of_not_lt hl
    rw [getD_of_length_le _ (a ▸ hl), getD_of_length_le _ hl]
    rfl

theorem foldl_renameAt (old new : Str) (ids : List Nat) (fs : List Scaffold) :
    (ids.foldl (renameAt old new) fs).length = fs.length ∧
    (∀ j, j ∉ ids → (ids.foldl (renameAt old new) fs).getD j default = fs.getD j default) ∧
    (ids.Nodup → ∀ j ∈ ids,
      (ids.foldl (renameAt old new) fs).getD j default = renameScaffold old new (fs.getD j default)) := by
  obtain ⟨a, b, c⟩ := runJobs_spec [(old, new, ids)] fs
  rw [List.flatMap_singleton] at b c
  exact ⟨a, b, fun hnd j hj => c hnd _ List.mem_cons_self j hj⟩

end AgpTpf.C10
