/-
  C09 routing, part 1 (R1): the label fields of a stored lookup result are fixed when `processBait` creates it.
  Every later stage of `remap_to_input_assembly` (`trim_large_overhangs`, the overhang resolver, `cut_fragments`,
  `rename_by_size`, `add_missing`) changes only `rows / start / stop` (and `rename_by_size` the `name`).
-/
import AgpTpf.Model.Remap
import AgpTpf.Proofs.Lib.Pipeline
import AgpTpf.Proofs.Lib.Overlap
namespace AgpTpf.C09
open AgpTpf

/-- the label fields of an `OverlapResult`: everything but `rows`, `start`, `stop` and `name` -/
def oFixed (o : OverlapResult) : Option Str × Option Str × Int × Option Str × Option (List Str) × Fragment :=
  (o.tag, o.haplotype, o.rank, o.originalName, o.originalTags, o.bait)

def fixedOf (r : Res) : (Option Str × Option Str × Int × Option Str × Option (List Str) × Fragment) × Bool :=
  (oFixed r.o, r.added)

/-- … together with the name (which only `rename_by_size` changes) -/
def fixedN (r : Res) : ((Option Str × Option Str × Int × Option Str × Option (List Str) × Fragment) × Bool) × Str :=
  (fixedOf r, r.o.name)

theorem fixedOf_of_fixedN {s1 s2 : List Res} (h : s1.map fixedN = s2.map fixedN) : s1.map fixedOf = s2.map fixedOf := by
  have e : ∀ s : List Res, s.map fixedOf = (s.map fixedN).map (·.1) := by
    intro s; rw [List.map_map]; rfl
  rw [e s1, e s2, h]

theorem discardStart_fixed (o o' : OverlapResult) (h : o.discardStart = .ok o') :
    oFixed o' = oFixed o ∧ o'.name = o.name := by
  obtain ⟨d, G, T, -, -, -, rfl⟩ := OverlapResult.discardStart_ok h
  exact ⟨rfl, rfl⟩

theorem discardEnd_fixed (o o' : OverlapResult) (h : o.discardEnd = .ok o') :
    oFixed o' = oFixed o ∧ o'.name = o.name := by
  obtain ⟨d, G, T, -, -, -, rfl⟩ := OverlapResult.discardEnd_ok h
  exact ⟨rfl, rfl⟩

theorem trimLargeOverhangs_fixed (o o' : OverlapResult) (err : Int) (h : o.trimLargeOverhangs err = .ok o') :
    oFixed o' = oFixed o ∧ o'.name = o.name := by
  rcases OverlapResult.trimLarge_cases h with rfl | h1 | h1 | ⟨o1, h1, h2⟩
  · exact ⟨rfl, rfl⟩
  · exact discardStart_fixed _ _ h1
  · exact discardEnd_fixed _ _ h1
  · obtain ⟨a1, a2⟩ := discardStart_fixed _ _ h1
    obtain ⟨b1, b2⟩ := discardEnd_fixed _ _ h2
    exact ⟨b1.trans a1, b2.trans a2⟩

theorem trimFragment_fixed (o : OverlapResult) (trim : Fragment) (ks ke : Bool) (oid : Nat)
    (o' : OverlapResult) (new : Fragment) (h : o.trimFragment trim ks ke oid = .ok (o', new)) :
    oFixed o' = oFixed o ∧ o'.name = o.name := by
  obtain ⟨a, b, -, -, -, -, -, -, rfl⟩ := OverlapResult.trimFragment_ok_iff.mp h
  exact ⟨rfl, rfl⟩

theorem evolves_fixedN {dr : Prop} {fr : Fragment → Prop} {n n' : Nat} {s s' : List Res}
    (h : Pipeline.Evolves dr fr n s n' s') : s'.map fixedN = s.map fixedN :=
  h.map_eq fixedN
    (fun r o' _ h => by simp only [fixedN, fixedOf, discardStart_fixed _ _ h])
    (fun r o' _ h => by simp only [fixedN, fixedOf, discardEnd_fixed _ _ h])
    (fun r f ks ke n o' new h => by simp only [fixedN, fixedOf, trimFragment_fixed _ _ _ _ _ _ _ h])

def Keeps (b b' : Build) : Prop :=
  b'.store.map fixedN = b.store.map fixedN ∧ b'.namer = b.namer ∧ b'.extra = b.extra ∧ b'.joinGap = b.joinGap

theorem Keeps.trans {a b c : Build} (h1 : Keeps a b) (h2 : Keeps b c) : Keeps a c :=
  ⟨h2.1.trans h1.1, h2.2.1.trans h1.2.1, h2.2.2.1.trans h1.2.2.1, h2.2.2.2.trans h1.2.2.2⟩

theorem discardOverhanging_keeps (fuel : Nat) (b b' : Build) (h : discardOverhanging fuel b = .ok b') : Keeps b b' :=
  have f := (Pipeline.discardOverhanging_frame h).1
  ⟨evolves_fixedN (Pipeline.discardOverhanging_evolves h), f.namer, f.extra, f.joinGap⟩

theorem cutRemaining_keeps (b b' : Build) (h : cutRemaining b = .ok b') : Keeps b b' :=
  have f := (Pipeline.cutRemaining_frame h).1
  ⟨evolves_fixedN (Pipeline.cutRemaining_evolves h), f.namer, f.extra, f.joinGap⟩

theorem renameBySize_fixedOf (store : List Res) (ids : List Nat) :
    (renameBySize store ids).map fixedOf = store.map fixedOf :=
  Pipeline.renameBySize_map_eq _ (fun _ _ => rfl) store ids

/-- one left-over scaffold (the body of the loop of `add_missing`, verbatim) -/
def addMissingStep (b : Build) (sc : Scaffold) : R Build := do
  let (rows, first) ← missingRows b sc.rows
  if rows.isEmpty then pure b
  else do
    let tags := ({ name := sc.name, rows := rows } : Scaffold).fragmentTags
    let n ← makeScaffoldName b.namer sc.name rows tags
    let tag := if n.targetTags ∧ ¬ sc.fragmentTags.contains sTarget then some sContaminant else none
    let new : Scaffold := { name := sc.name, rows := rows, rank := 3, tag := tag, haplotype := n.currentHaplotype }
    let pred := match first with | some i => inputPredecessor sc.rows i | none => none
    pure { b with namer := n, extra := b.extra ++ [(new, pred)] }

theorem addMissing_eq (input : List Scaffold) (b : Build) : addMissing input b = input.foldlM addMissingStep b := rfl

theorem addMissing_store (input : List Scaffold) (b b' : Build) (h : addMissing input b = .ok b') :
    b'.store = b.store ∧ b'.joinGap = b.joinGap ∧ b'.found = b.found :=
  have f := Pipeline.addMissing_frame h
  ⟨f.1, f.2.2.2.2.2.1, f.2.1⟩

theorem middle_fixedOf {input : List Scaffold} {fuel : Nat} {ids : List Nat} {b1 b2 b3 b : Build}
    (h2 : discardOverhanging fuel b1 = .ok b2) (h3 : cutRemaining b2 = .ok b3)
    (h4 : addMissing input { b3 with store := renameBySize b3.store ids } = .ok b) :
    b.store.map fixedOf = b1.store.map fixedOf := by
  rw [(addMissing_store input _ b h4).1]
  show (renameBySize b3.store ids).map fixedOf = _
  rw [renameBySize_fixedOf]
  exact fixedOf_of_fixedN ((discardOverhanging_keeps _ b1 b2 h2).trans (cutRemaining_keeps b2 b3 h3)).1

/-- the fresh build `remap_to_input_assembly` starts from -/
def startBuild (input : List Scaffold) (prefix_ : Str) (joinGap : Option Gap) (err : Int) : Build :=
  { namer := { autosomePrefix := prefix_ },
    nextOid := (input.flatMap Scaffold.fragments).foldl (fun m f => max m (f.oid + 1)) 0,
    joinGap := joinGap, err := err }

end AgpTpf.C09
