/-
  C01, the middle of `remap_to_input_assembly` — part 4 (L3): `cut_fragments` / `cutRemaining` replace, in every
  holder of a multiply-found contig, the contig's row by a piece; the pieces tile the contig, so afterwards every base
  of that contig is held by exactly one row of the store.
  What cutting keeps of one stored result (`FromInput`) is closed under the edits of the store, so it holds at every
  state the loops pass through (`Pipeline.Evolves.forall`); the loops themselves carry only the ledger of the fragments
  held (`cutFragments_ledger`) and, per input contig, how many stored rows hold one of its bases (`Cutting`).
-/
import AgpTpf.Proofs.C01MiddleRound
import AgpTpf.Proofs.C01Cut
namespace AgpTpf.C01
open AgpTpf

variable {input : List Scaffold} {n0 : Nat}

/-- every contig row of the result comes from the input: it is a piece of an input fragment, and an input OBJECT if its
    id is below `n0` (cut pieces get ids from `n0` on) -/
def FromInput (input : List Scaffold) (n0 : Nat) (r : Res) : Prop :=
  ∀ g, Row.frag g ∈ r.o.rows → (g.oid < n0 → g ∈ inputFrags input) ∧ ∃ F ∈ inputFrags input, PieceOf F g

theorem PieceOf.covers {F g : Fragment} (h : PieceOf F g) {n : Str} {x : Int} (hc : C01.covers n x g = true) :
    C01.covers n x F = true := by
  obtain ⟨h1, h2, _, h4, _⟩ := h
  simp only [C01.covers, decide_eq_true_eq] at hc ⊢
  exact ⟨h4 ▸ hc.1, by omega, by omega⟩

theorem countP_covers_pieces_zero {l : List Fragment} (hl : ∀ g ∈ l, ∃ F ∈ inputFrags input, PieceOf F g) {n : Str} {x : Int}
    (hno : ¬ ∃ F ∈ inputFrags input, covers n x F = true) : l.countP (covers n x) = 0 :=
  List.countP_eq_zero.mpr fun g hg hc => let ⟨F, hF, hp⟩ := hl g hg; hno ⟨F, hF, hp.covers hc⟩

theorem fromInput_of_slice (hwf : WFInput input) {r : Res} (h : ∃ sc ∈ input, r.o.rows <:+: sc.rows) :
    FromInput input n0 r := fun g hg =>
  have hin := mem_inputFrags_of_slice h hg
  ⟨fun _ => hin, g, hin, .self (hwf.2.2.2.2 g hin)⟩

theorem storeFrags_pieces {store : List Res} (h : ∀ r ∈ store, FromInput input n0 r) :
    ∀ g ∈ storeFrags store, ∃ F ∈ inputFrags input, PieceOf F g := fun g hg =>
  let ⟨r, hr, _, hgr⟩ := mem_storeFrags.mp hg
  (h r hr g hgr).2

/-- the discards only remove rows; `trim_fragment` of an input fragment puts a piece of it, with an id from `n0` on, in
    the place of a row -/
theorem fromInput_closed {dr : Prop} :
    Pipeline.OpClosed dr (· ∈ inputFrags input) (fun n r => n0 ≤ n ∧ FromInput input n0 r) where
  mono h := ⟨Nat.le_succ_of_le h.1, h.2⟩
  discardStart _ h hd := ⟨h.1, fun g hg => h.2 g ((OverlapResult.discardStart_keeps hd).1.subset hg)⟩
  discardEnd _ h hd := ⟨h.1, fun g hg => h.2 g ((OverlapResult.discardEnd_keeps hd).1.subset hg)⟩
  trim {n r f new ks ke o'} hf h ht := by
    refine ⟨Nat.le_succ_of_le h.1, fun g hg => ?_⟩
    obtain ⟨h1, h2, h3, h4, h5, h6⟩ := trim_within_aux _ _ _ _ _ _ _ ht
    have hmem : Row.frag g ∈ r.o.rows ∨ g = new := (OverlapResult.mem_trimFragment_rows ht hg).imp_right Row.frag.inj
    rcases hmem with m | rfl
    · exact h.2 g m
    · exact ⟨fun hlt => by omega, f, hf, h1, h2, h3, h4, h5⟩

theorem _root_.AgpTpf.Pipeline.Evolves.added {dr : Prop} {fr : Fragment → Prop} {n n' : Nat} {s s' : List Res}
    (h : Pipeline.Evolves dr fr n s n' s') {sid : Nat} {r : Res} (hr : s[sid]? = some r) (ha : r.added = true) :
    ∃ r', s'[sid]? = some r' ∧ r'.added = true := by
  have := congrArg (·[sid]?) (h.map_eq (·.added) (fun _ _ _ _ => rfl) (fun _ _ _ _ => rfl) (fun _ _ _ _ _ _ _ _ => rfl))
  simp only [List.getElem?_map, hr, Option.map_some, ha] at this
  cases hs : s'[sid]? with
  | none => rw [hs] at this; cases this
  | some r' => rw [hs] at this; exact ⟨r', rfl, Option.some.inj this⟩

theorem ind_add (c : Bool) (a b : Nat) : (if c = true then a + b else 0) = (if c = true then a else 0) + (if c = true then b else 0) := by
  cases c <;> simp

theorem trimFragment_frags {o o' : OverlapResult} {trim new : Fragment} {ks ke : Bool} {oid : Nat}
    (h : o.trimFragment trim ks ke oid = .ok (o', new)) :
    ∃ A B g, fragmentsOf o.rows = A ++ g :: B ∧ fragmentsOf o'.rows = A ++ new :: B ∧ g.oid = trim.oid := by
  rcases OverlapResult.trimFragment_rows h with ⟨t, g, e1, eo, e2⟩ | ⟨t, g, e1, eo, e2⟩
  · exact ⟨fragmentsOf t, [], g, by rw [e1, fragmentsOf_append]; rfl, by rw [e2, fragmentsOf_append]; rfl, eo⟩
  · exact ⟨[], fragmentsOf t, g, by rw [e1]; rfl, by rw [e2]; rfl, eo⟩

/-- the row `trim_fragment` finds by identity IS the input fragment it was called for (ids below `n0` are input objects,
    and those are distinct): the fragments of the result before and after -/
theorem FromInput.trim_frags (hwf : WFInput input) (hlt : ∀ f ∈ inputFrags input, f.oid < n0) {r : Res}
    (h : FromInput input n0 r) {F new : Fragment} (hF : F ∈ inputFrags input) {ks ke : Bool} {n : Nat} {o' : OverlapResult}
    (ht : r.o.trimFragment F ks ke n = .ok (o', new)) :
    ∃ A B, fragmentsOf r.o.rows = A ++ F :: B ∧ fragmentsOf o'.rows = A ++ new :: B := by
  obtain ⟨A, B, g, ea, eb, eo⟩ := trimFragment_frags ht
  have hg : Row.frag g ∈ r.o.rows := mem_fragmentsOf.mp (by rw [ea]; simp)
  have := hwf.oid_inj ((h g hg).1 (by rw [eo]; exact hlt F hF)) hF eo
  exact ⟨A, B, this ▸ ea, eb⟩

/-- one holder's pass: among the fragments held by the store, one copy of `F` becomes the new piece (`q` arbitrary: an
    equation between multisets, said by counts) -/
theorem cutHolder_ledger (hwf : WFInput input) (hlt : ∀ f ∈ inputFrags input, f.oid < n0) {F : Fragment}
    (hF : F ∈ inputFrags input) {last : Nat} {b : Build} {subs : List Fragment} {i sid : Nat}
    {a' : Build × List Fragment × Nat} (hfrom : ∀ r ∈ b.store, FromInput input n0 r) {r : Res} (hr : b.store[sid]? = some r)
    (hadd : r.added = true) (h : Pipeline.cutHolder F last (b, subs, i) sid = .ok a') :
    ∃ new, a'.2.1 = subs ++ [new] ∧
      ∀ q : Fragment → Bool, (storeFrags a'.1.store).countP q + (if q F then 1 else 0) =
        (storeFrags b.store).countP q + (if q new then 1 else 0) := by
  obtain ⟨o, new, hv, rfl⟩ := Pipeline.cutHolder_ok h
  rw [getD_of_getElem? hr] at hv ⊢
  obtain ⟨A, B, ea, eb⟩ := (hfrom r (List.mem_of_getElem? hr)).trim_frags hwf hlt hF hv
  refine ⟨new, rfl, fun q => ?_⟩
  have hs := storeFrags_set_count q b.store sid r { r with o := o } hr
  rw [show resFrags r = A ++ F :: B by rw [resFrags, hadd]; exact ea,
    show resFrags { r with o := o } = A ++ new :: B by rw [resFrags, hadd]; exact eb] at hs
  simp only [List.countP_append, List.countP_cons] at hs
  simp only [setAt]
  omega

theorem countP_covers_pieces (F : Fragment) (subs : List Fragment) (hname : ∀ s ∈ subs, s.name = F.name) (n : Str) (x : Int) :
    subs.countP (covers n x) = if F.name = n then coverCount subs x else 0 := by
  split
  · next e =>
    rw [coverCount, ← List.countP_eq_length_filter]
    exact List.countP_congr fun s hs => by simp only [covers, coversB, hname s hs, e, true_and]
  · next e =>
    exact List.countP_eq_zero.mpr fun s hs hc => e ((hname s hs).symm.trans (of_decide_eq_true hc).1)

theorem cutFragments_ledger (hwf : WFInput input) (hlt : ∀ f ∈ inputFrags input, f.oid < n0) {b b' : Build} {fnd : Found}
    (hF : fnd.fragment ∈ inputFrags input) (hfrom : ∀ r ∈ b.store, FromInput input n0 r) (hn : n0 ≤ b.nextOid)
    (hA : ∀ sid ∈ fnd.scaffolds, ∃ r, b.store[sid]? = some r ∧ r.added = true) (h : cutFragments b fnd = .ok b') :
    ∃ subs, qcPasses fnd.fragment subs = true ∧ (∀ s ∈ subs, PieceOf fnd.fragment s) ∧
      ∀ q : Fragment → Bool, (storeFrags b'.store).countP q + (if q fnd.fragment then fnd.scaffolds.length else 0) =
        (storeFrags b.store).countP q + subs.countP q := by
  obtain ⟨ordered, b1, subs, m, ho, hf, hq, rfl⟩ := Pipeline.cutFragments_ok h
  have hperm : ordered.Perm fnd.scaffolds := (sortedByKeyM_ok ho).1
  obtain ⟨hlen, _, hpieces⟩ := cutLoop_pieces hf
  refine ⟨subs, hq, hpieces, ?_⟩
  have hfin := foldlM_inv (fun a : Build × List Fragment × Nat =>
      Pipeline.Evolves False (· ∈ inputFrags input) b.nextOid b.store a.1.nextOid a.1.store ∧
      ∀ q : Fragment → Bool, (storeFrags a.1.store).countP q + (if q fnd.fragment then a.2.1.length else 0) =
        (storeFrags b.store).countP q + a.2.1.countP q) hf ⟨.refl, by simp⟩ ?_
  · rw [← hperm.length_eq, ← hlen]; exact hfin.2
  · rintro ⟨bc, sc, ic⟩ sid hsid a' ⟨he, hl⟩ hs
    -- what the edits keep holds at the state the loop has reached
    have hfromc : ∀ r ∈ bc.store, FromInput input n0 r := fun r hr =>
      (he.forall fromInput_closed (fun r hr => ⟨hn, hfrom r hr⟩) r hr).2
    obtain ⟨r0, hr0, ha0⟩ := hA sid (hperm.subset hsid)
    obtain ⟨r, hr, hadd⟩ := he.added hr0 ha0
    obtain ⟨new, e, hled⟩ := cutHolder_ledger hwf hlt hF hfromc hr hadd hs
    refine ⟨he.trans ((Pipeline.cutHolder_evolves hs).mono id (fun f (e : f = fnd.fragment) => e ▸ hF)), fun q => ?_⟩
    have a1 := hled q
    have a2 := hl q
    simp only [e, List.length_append, List.length_cons, List.length_nil, List.countP_append, List.countP_cons,
      List.countP_nil, Nat.zero_add] at a2 ⊢
    rw [ind_add]
    omega

theorem cutFragments_cover (hwf : WFInput input) (hlt : ∀ f ∈ inputFrags input, f.oid < n0) {b b' : Build} {fnd : Found}
    (hF : fnd.fragment ∈ inputFrags input) (hfrom : ∀ r ∈ b.store, FromInput input n0 r) (hn : n0 ≤ b.nextOid)
    (hA : ∀ sid ∈ fnd.scaffolds, ∃ r, b.store[sid]? = some r ∧ r.added = true) (h : cutFragments b fnd = .ok b')
    (n : Str) (x : Int) :
    (storeFrags b'.store).countP (covers n x) + (if covers n x fnd.fragment then fnd.scaffolds.length else 0) =
      (storeFrags b.store).countP (covers n x) + (if covers n x fnd.fragment then 1 else 0) := by
  obtain ⟨subs, hq, hp, hled⟩ := cutFragments_ledger hwf hlt hF hfrom hn hA h
  have htile := (qc_tiles_aux fnd.fragment subs (fun s hs => (hp s hs).2.2.1) hq).2.2.2.2.2
      (fun s hs => ⟨(hp s hs).1, (hp s hs).2.1⟩) x
  rw [hled (covers n x), countP_covers_pieces fnd.fragment subs (fun s hs => (hp s hs).2.2.2.1) n x, htile]
  congr 1
  by_cases e : fnd.fragment.name = n <;> by_cases c : fnd.fragment.start ≤ x ∧ x ≤ fnd.fragment.stop <;> simp [covers, e, c]

/-- the loop of `cut_remaining_overhangs` with the keys `ks` of `multi` still to do, relative to the build `b1` it started
    from: a base of an input contig is in one stored row if the contig has been cut, else in as many as the contig had holders -/
structure Cutting (input : List Scaffold) (b1 : Build) (ks : List Key) (b : Build) : Prop where
  pending : ks.Nodup ∧ ∀ k ∈ ks, k ∈ b1.multi
  evolves : Pipeline.Evolves False (· ∈ inputFrags input) b1.nextOid b1.store b.nextOid b.store
  found : b.found = b1.found
  cover : ∀ n x, ∀ F ∈ inputFrags input, covers n x F = true →
    (storeFrags b.store).countP (covers n x) =
      if F.keyTuple ∈ b1.multi ∧ F.keyTuple ∉ ks then 1 else (holders b1 F.keyTuple).length

theorem Cutting.fromInput (hwf : WFInput input) {b1 b : Build} {ks : List Key} (hm : Mid input b1)
    (hc : Cutting input b1 ks b) : ∀ r ∈ b.store, FromInput input b1.nextOid r := fun r hr =>
  (hc.evolves.forall fromInput_closed (fun r hr => ⟨Nat.le_refl _, fromInput_of_slice hwf (hm.slices r hr)⟩) r hr).2

theorem Cutting.step (hwf : WFInput input) {b1 b bm : Build} (hm : Mid input b1)
    (hlt : ∀ f ∈ inputFrags input, f.oid < b1.nextOid) {k : Key} {ks : List Key} (hc : Cutting input b1 (k :: ks) b)
    (hbm : Pipeline.cutMulti b k = .ok bm) : Cutting input b1 ks bm := by
  have hkm : k ∈ b1.multi := hc.pending.2 k (List.mem_cons_self ..)
  have hnd := List.nodup_cons.mp hc.pending.1
  obtain ⟨fnd, hf, _⟩ := hm.registry.of_multi hkm
  obtain ⟨hkey, hFin⟩ := hm.foundOK k fnd hf
  have hev := Pipeline.cutMulti_evolves hbm
  have hfr := (Pipeline.cutMulti_frame hbm).2.1
  unfold Pipeline.cutMulti at hbm
  rw [hc.found] at hbm hev
  rw [hf] at hbm
  have hA : ∀ sid ∈ fnd.scaffolds, ∃ r, b.store[sid]? = some r ∧ r.added = true := fun sid hsid =>
    let ⟨_, hr, ha⟩ := hm.holder_added (k := k) (holders_of_found hf ▸ hsid)
    hc.evolves.added hr ha
  have a5 := cutFragments_cover hwf hlt hFin (hc.fromInput hwf hm) hc.evolves.le hA hbm
  refine ⟨⟨hnd.2, fun k' hk' => hc.pending.2 k' (List.mem_cons_of_mem _ hk')⟩,
    hc.evolves.trans (hev.mono id fun f ⟨k', fnd', hk', e⟩ => e ▸ (hm.foundOK k' fnd' hk').2), hfr.trans hc.found,
    fun n x F hF hcF => ?_⟩
  have e := a5 n x
  have h0 := hc.cover n x F hF hcF
  cases hcf : covers n x fnd.fragment with
  | true =>
    obtain rfl : F = fnd.fragment := hwf.cover_unique hF hFin hcF hcf
    rw [hkey, if_neg (fun h => h.2 (List.mem_cons_self ..)), holders_of_found hf] at h0
    rw [hcf, h0] at e
    rw [hkey, if_pos ⟨hkm, hnd.1⟩]
    simp only [↓reduceIte] at e
    omega
  | false =>
    have hne : F.keyTuple ≠ k := fun e' => by
      have := hwf.key_inj hF hFin (e'.trans hkey.symm)
      rw [this, hcf] at hcF; cases hcF
    rw [hcf] at e
    simp only [Bool.false_eq_true, ↓reduceIte, Nat.add_zero] at e
    rw [e, h0]
    simp only [List.mem_cons, hne, false_or]

/-- L3: after `cut_remaining_overhangs` every stored row comes from the input, and a base of an input contig is held by
    exactly one stored row if the contig was multiply found, else by as many rows as before -/
theorem cutRemaining_cover (hwf : WFInput input) {b b' : Build} (hm : Mid input b)
    (hoid : ∀ f ∈ inputFrags input, f.oid < b.nextOid) (h : cutRemaining b = .ok b') :
    (∀ r ∈ b'.store, FromInput input b.nextOid r) ∧
    ∀ n x, ∀ F ∈ inputFrags input, covers n x F = true →
      (storeFrags b'.store).countP (covers n x) = if F.keyTuple ∈ b.multi then 1 else (holders b F.keyTuple).length := by
  obtain ⟨bm, hbm, rfl⟩ := Pipeline.cutRemaining_ok h
  have hc : Cutting input b [] bm := foldlM_rest (Cutting input b) (fun _ _ _ _ hc hs => hc.step hwf hm hoid hs) b.multi b bm
    ⟨⟨hm.multiNodup, fun _ h => h⟩, .refl, rfl, fun n x F hF hcF => by
      rw [if_neg (fun h => h.2 h.1)]; exact hm.cover_eq_holders hwf F hF n x hcF⟩ hbm
  have hfrom : ∀ r ∈ bm.store, FromInput input b.nextOid r := hc.fromInput hwf hm
  refine ⟨hfrom, fun n x F hF hcF => ?_⟩
  rw [hc.cover n x F hF hcF]
  simp

theorem cutRemaining_registered (hwf : WFInput input) {b b' : Build} (hm : Mid input b)
    (hoid : ∀ f ∈ inputFrags input, f.oid < b.nextOid) (h : cutRemaining b = .ok b')
    {n : Str} {x : Int} {F : Fragment} (hF : F ∈ inputFrags input) (hcF : covers n x F = true) :
    (storeFrags b'.store).countP (covers n x) = if dHas b.found F.keyTuple then 1 else 0 := by
  rw [(cutRemaining_cover hwf hm hoid h).2 n x F hF hcF]
  simp only [hm.registry.2 F.keyTuple]
  cases hf : dGet? b.found F.keyTuple with
  | none => simp [holders, hf, dHas]
  | some fnd =>
    have h1 : 0 < fnd.scaffolds.length := List.length_pos_iff.mpr (hm.registry.1 _ fnd hf)
    simp only [holders, hf, dHas, Option.isSome_some, ↓reduceIte]
    split <;> omega

end AgpTpf.C01
