/-
  T1c helper lemmas for `FastaStream.write_scaffold` (C03): the translated source (`Gen.Imp.FastaStream_write_scaffold`,
  over the loop combinators of `Model/PyRt.lean`) against the model (`streamScaffold` / `streamRow` / `writeChunk`).

  Everything here is stated about ARBITRARY loop bodies that satisfy a small equational spec (`hbody`), so that the generated
  text only has to be shown to meet the spec by `simp` — nothing below mentions a generated sub-term.

  The ORDER in which the translator lists the variables a loop carries is named in exactly two definitions, `enc2` and `st3`;
  every lemma is stated over an arbitrary representation of the loop state (`enc` / `mk`, as in `PyRt.forIn_foldl_enc`,
  `PyRt.forIn_foldlM_enc`), and the model-side state stays `(want, out)` throughout.  What the model's `streamRow` does is read
  off Proofs/C03Stream.lean (`streamRow_eq`: the chunks of the row, pushed one after the other); what `writeChunk` does on one
  step and that its fuel does not matter above the chunk length is in Proofs/C03Wrap.lean (`writeChunk_succ`, `writeChunk_spec`).
-/
import AgpTpf.Model.PyRt
import AgpTpf.Proofs.C03Stream
import AgpTpf.Proofs.ImpRef
namespace AgpTpf.C03
open AgpTpf

/-- the chunks `get_gap_iter` yields for a gap row, per the model (`streamRow`, gap case): one `BytesIO` of `n` gap characters
    per entry `n` of `gapChunkList g.length bs`.  (Never called on a fragment row: the source tests `isinstance(row, Gap)`.) -/
def modelGapIter (bs : Int) (row : Row) (gc : List Nat) : List PyRt.BytesIO :=
  match row with
  | .gap g => (gapChunkList g.length bs).map (fun n => { data := List.replicate n.toNat (gc.headD 78) })
  | .frag _ => []

/-- the chunks `get_sequence_iter` yields for a fragment row, per the model (`streamRow`, fragment case): `get_info`, then one
    `sequence_bytes` (reverse-complemented on the minus strand) per entry of `fwdChunkList` / `revChunkList`.
    `.error` exactly as the model: unknown name → `ValueError`; otherwise the error of the FIRST failing `sequence_bytes`
    (`List.mapM` stops there).  The Python iterator is a generator, so chunks before the failing one have already been written to
    `out` when the exception propagates — but `write_scaffold` then has no result, and an `Except` keeps none either: on both sides
    the outcome is that exception.  (On a gap row: `AttributeError`, never reached.) -/
def modelSeqIter (file : Bytes) (idx : List (Str × FastaInfo)) (bs : Int) (row : Row) : R (List PyRt.BytesIO) := do
  let f ← PyRt.asFrag row
  let info ← getInfo idx f.name
  let bounds := if f.strand = -1 then revChunkList f.start f.stop bs else fwdChunkList f.start f.stop bs
  bounds.mapM (fun b => do
    let rl ← sequenceBytes file info b.1 b.2
    pure { data := if f.strand = -1 then reverseComplement rl.data else rl.data })

end AgpTpf.C03

namespace AgpTpf.ImpStream
open AgpTpf AgpTpf.PyRt AgpTpf.C03 AgpTpf.StreamProofs

theorem forIn_next {α σ ρ : Type} (g : σ → α → σ) (xs : List α) (s : σ) (body : α → σ → R (Ctl σ ρ))
    (h : ∀ x ∈ xs, ∀ s, body x s = .ok (.next (g s x))) :
    PyRt.forIn xs s body = .ok (.fell (xs.foldl g s)) :=
  forIn_foldl g h s

theorem forIn_nextM {α σ ρ : Type} (g : σ → α → R σ) (xs : List α) (s : σ) (body : α → σ → R (Ctl σ ρ))
    (h : ∀ x ∈ xs, ∀ s, body x s = (g s x).map .next) :
    PyRt.forIn xs s body = (xs.foldlM g s).map .fell :=
  forIn_foldlM g h s

/-- how the translated `write_scaffold` carries `(want, out)` through its two `for` loops: the variables `sink_self_out`, `want`
    in the translator's canonical order (sorted by type text `(List Nat)` < `Int`, then by name).  If that order changes, change it HERE (and in `st3`). -/
abbrev enc2 (s : Int × Bytes) : Bytes × Int := (s.2, s.1)

/-- how the translated `while True` loop carries `want`, `chunk`, `out`: sorted by the Lean text of the TYPE, then by name:
    `sink_self_out : (List Nat)`, `want : Int`, `chunk : PyRt.BytesIO` -/
abbrev st3 (want : Int) (c : BytesIO) (out : Bytes) : Bytes × Int × BytesIO := (out, want, c)

def rest (c : BytesIO) : Bytes := c.data.drop c.pos

theorem rest_seek0 (c : BytesIO) : rest (c.seek 0) = c.data := by
  simp [rest, BytesIO.seek]

theorem read_fst (c : BytesIO) (n : Int) :
    (c.read n).1 = seqOf n (rest c) := by
  simp only [BytesIO.read, rest, seqOf]

theorem read_snd_rest (c : BytesIO) (n : Int) :
    rest (c.read n).2 = (rest c).drop (c.read n).1.length := by
  simp only [BytesIO.read, rest, List.drop_drop]

/-- `hbody` is the body of the read loop for one chunk: read `want` bytes; nothing read: `break`; otherwise append them, decrease
    `want`, and at `want = 0` append LF and reset `want` to `w`.  Loop and `writeChunk` spend their fuel pass for pass. -/
theorem whileLoop_read {τ ρ : Type} (mk : Int → BytesIO → Bytes → τ) (w : Int)
    (cond : τ → R Bool) (body : τ → R (Ctl τ ρ))
    (hcond : ∀ want c out, cond (mk want c out) = .ok true)
    (hbody : ∀ want c out, body (mk want c out) =
      if (c.read want).1.isEmpty then .ok (.brk (mk want (c.read want).2 out))
      else if want - ((c.read want).1.length : Int) = 0 then .ok (.next (mk w (c.read want).2 (out ++ (c.read want).1 ++ [10])))
      else .ok (.next (mk (want - ((c.read want).1.length : Int)) (c.read want).2 (out ++ (c.read want).1))))
    : ∀ (fuel : Nat) (want : Int) (c : BytesIO) (out : Bytes), (rest c).length < fuel →
      ∃ c', whileLoop fuel (mk want c out) cond body =
        .ok (.fell (mk (writeChunk w fuel want (rest c)).2 c' (out ++ (writeChunk w fuel want (rest c)).1)))
  | 0, _, _, _, h => absurd h (Nat.not_lt_zero _)
  | fuel + 1, want, c, out, h => by
    have hrest : rest (c.read want).2 = (rest c).drop (seqOf want (rest c)).length := by rw [read_snd_rest, read_fst]
    simp only [whileLoop, hcond, hbody, read_fst, writeChunk_succ]
    by_cases hemp : (seqOf want (rest c)).isEmpty = true
    · exact ⟨(c.read want).2, by simp only [hemp, if_true, List.append_nil]⟩
    · have hl : (rest (c.read want).2).length < fuel := by
        have := seqOf_length_pos hemp
        have := seqOf_length_le want (rest c)
        rw [hrest, List.length_drop]; omega
      by_cases hz : want - ((seqOf want (rest c)).length : Int) = 0
      · obtain ⟨c', hc'⟩ := whileLoop_read mk w cond body hcond hbody fuel w (c.read want).2
          (out ++ (seqOf want (rest c) ++ [10])) hl
        exact ⟨c', by simp only [hemp, hz, if_true, if_false, Bool.false_eq_true, hc', hrest, List.append_assoc]⟩
      · obtain ⟨c', hc'⟩ := whileLoop_read mk w cond body hcond hbody fuel (want - ((seqOf want (rest c)).length : Int))
          (c.read want).2 (out ++ seqOf want (rest c)) hl
        exact ⟨c', by simp only [hemp, hz, if_false, Bool.false_eq_true, hc', hrest, List.append_assoc]⟩

/-- what writing one chunk does to `(want, out)` (the model's `writeChunk`, with the model's fuel) -/
def chunkStep (w : Int) (s : Int × Bytes) (c : BytesIO) : Int × Bytes :=
  ((writeChunk w (c.data.length + 1) s.1 c.data).2, s.2 ++ (writeChunk w (c.data.length + 1) s.1 c.data).1)

/-- `chunk.seek(0)` + the read loop + the hand-over of `(want, out)` to the enclosing `for` -/
theorem chunk_body {τ₃ τ₂ ρ : Type} (mk : Int → BytesIO → Bytes → τ₃) (enc : Int × Bytes → τ₂) (w : Int) (fuel : Nat)
    (cond : τ₃ → R Bool) (body : τ₃ → R (Ctl τ₃ ρ))
    (k : Done τ₃ ρ → R (Ctl τ₂ ρ))
    (hcond : ∀ want c out, cond (mk want c out) = .ok true)
    (hbody : ∀ want c out, body (mk want c out) =
      if (c.read want).1.isEmpty then .ok (.brk (mk want (c.read want).2 out))
      else if want - ((c.read want).1.length : Int) = 0 then .ok (.next (mk w (c.read want).2 (out ++ (c.read want).1 ++ [10])))
      else .ok (.next (mk (want - ((c.read want).1.length : Int)) (c.read want).2 (out ++ (c.read want).1))))
    (hk : ∀ want c out, k (.fell (mk want c out)) = .ok (.next (enc (want, out))))
    (c : BytesIO) (hc : c.data.length < fuel) (want : Int) (out : Bytes) :
    (whileLoop fuel (mk want (c.seek 0) out) cond body >>= k) = .ok (.next (enc (chunkStep w (want, out) c))) := by
  obtain ⟨c', hc'⟩ := whileLoop_read mk w cond body hcond hbody fuel want (c.seek 0) out (by rw [rest_seek0]; exact hc)
  rw [hc', rest_seek0, writeChunk_spec w c.data.length fuel _ _ (Nat.le_refl _) hc]
  simp only [bind, Except.bind, hk, chunkStep]

def proj (lg : StreamLog) : Int × Bytes := (lg.want, lg.out)

def rowChunks (gapIt : Row → List BytesIO) (seqIt : Row → R (List BytesIO)) (row : Row) : R (List BytesIO) :=
  if row.isGap then .ok (gapIt row) else seqIt row

def rowStep (w : Int) (gapIt : Row → List BytesIO) (seqIt : Row → R (List BytesIO)) (s : Int × Bytes) (row : Row) :
    R (Int × Bytes) :=
  (rowChunks gapIt seqIt row).map (fun cs => cs.foldl (chunkStep w) s)

/-- replace the head of a bind by an equal computation (to normalise how the source picks the iterator) -/
theorem bind_of_eq {α β : Type} {X X' : R α} {f : α → R β} {r : R β} (h : X = X') (h2 : (X' >>= f) = r) : (X >>= f) = r :=
  h ▸ h2

theorem rowChunks_model (file : Bytes) (idx : List (Str × FastaInfo)) (bs : Int) (row : Row) :
    rowChunks (fun r => modelGapIter bs r Gen.gapCharacter) (modelSeqIter file idx bs) row =
      (StreamProofs.rowChunks file idx bs row).map (List.map fun c => ({ data := c.data } : BytesIO)) := by
  cases row with
  | gap g => simp [rowChunks, Row.isGap, modelGapIter, StreamProofs.rowChunks, map_ok, gapByte]
  | frag f =>
    simp only [rowChunks, Row.isGap, Bool.false_eq_true, if_false, modelSeqIter, asFrag, StreamProofs.rowChunks, ok_bind]
    cases getInfo idx f.name with
    | error e => rfl
    | ok info =>
      rw [ok_bind, ok_bind, mapM_map_post]
      refine mapM_congr fun b _ => ?_
      cases sequenceBytes file info b.1 b.2 <;> rfl

theorem proj_push (w : Int) (lg : StreamLog) (cs : List ReadLog) :
    proj (push w lg cs) = (cs.map fun c => ({ data := c.data } : BytesIO)).foldl (chunkStep w) (proj lg) := by
  rw [← foldl_push, List.foldl_map]
  exact (List.foldl_hom proj fun lg c => by rw [push_one]; rfl).symm

theorem streamRow_proj (file : Bytes) (idx : List (Str × FastaInfo)) (bs w : Int) (log : StreamLog) (row : Row) :
    (streamRow file idx bs w log row).map proj =
      rowStep w (fun r => modelGapIter bs r Gen.gapCharacter) (modelSeqIter file idx bs) (proj log) row := by
  rw [streamRow_eq, rowStep, rowChunks_model, map_map, map_map]
  exact congrArg (Except.map · _) (funext (proj_push w log))

theorem rows_proj (file : Bytes) (idx : List (Str × FastaInfo)) (bs w : Int) (rows : List Row) (log : StreamLog) :
    (rows.foldlM (streamRow file idx bs w) log).map proj =
      rows.foldlM (rowStep w (fun r => modelGapIter bs r Gen.gapCharacter) (modelSeqIter file idx bs)) (proj log) :=
  ImpFound.foldlM_abs proj _ _ rows (fun row _ lg => streamRow_proj file idx bs w lg row) log

/-- `if want != line_length: out.write(b"\n")`, on the `(want, out)` state -/
def finish (w : Int) (s : Int × Bytes) : Bytes := if s.1 ≠ w then s.2 ++ [10] else s.2

theorem streamScaffold_out (file : Bytes) (idx : List (Str × FastaInfo)) (bs w : Int) (sc : Scaffold) :
    (streamScaffold file idx bs w sc).map (·.out) =
      (sc.rows.foldlM (rowStep w (fun r => modelGapIter bs r Gen.gapCharacter) (modelSeqIter file idx bs))
        (w, [62] ++ strToBytes sc.name ++ [10])).map (finish w) := by
  have hrows := rows_proj file idx bs w sc.rows { out := [62] ++ strToBytes sc.name ++ [10], want := w }
  simp only [proj] at hrows
  rw [← hrows]
  unfold streamScaffold
  dsimp only
  cases List.foldlM (streamRow file idx bs w) { out := [62] ++ strToBytes sc.name ++ [10], want := w } sc.rows with
  | error e => rfl
  | ok log =>
    by_cases hw : log.want = w <;> simp [bind, Except.bind, Except.map, pure, Except.pure, proj, finish, hw]

/-- the fuel hypothesis of the tie theorems (per iterator) is the one the loop lemma wants (per row) -/
theorem rowChunks_fuel {file : Bytes} {idx : List (Str × FastaInfo)} {bs : Int} {gc : List Nat} {row : Row} {fuel : Nat}
    (h : (∀ c ∈ modelGapIter bs row gc, c.data.length < fuel) ∧
      (∀ cs, modelSeqIter file idx bs row = .ok cs → ∀ c ∈ cs, c.data.length < fuel))
    (cs : List BytesIO) (hcs : rowChunks (fun r => modelGapIter bs r gc) (modelSeqIter file idx bs) row = .ok cs) :
    ∀ c ∈ cs, c.data.length < fuel := by
  simp only [rowChunks] at hcs
  split at hcs
  · cases hcs; exact h.1
  · exact h.2 cs hcs

/-- so `bs.toNat < fuel` gives the gap half of the fuel hypothesis -/
theorem modelGapIter_length_le (bs : Int) (row : Row) (gc : List Nat) (c : BytesIO) (hc : c ∈ modelGapIter bs row gc) :
    c.data.length ≤ bs.toNat := by
  cases row with
  | frag f => simp [modelGapIter] at hc
  | gap g =>
    simp only [modelGapIter, gapChunkList, List.map_map, List.mem_map, List.mem_range, Function.comp] at hc
    obtain ⟨i, _, rfl⟩ := hc
    simp only [List.length_replicate]
    generalize (i : Int) * bs = x
    omega

end AgpTpf.ImpStream
