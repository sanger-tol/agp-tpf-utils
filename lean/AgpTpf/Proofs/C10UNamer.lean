/-
  C10 uniqueness, part 4: every scaffold of `scaffolds_fused_by_name` carries the label fields (name, tag, haplotype, rank, original
  name / tags) of ONE stored lookup result or ONE left-over scaffold — the one that created its dict entry.  Then what
  `ScaffoldNamer.make_scaffold_name` leaves in the namer —
  the current scaffold name / rank (chromosome-name tag → rank 2; Painted → rank 1, the Pretext name; otherwise rank 3,
  the first row's name) and the current haplotype (never the empty string, never one of the three tag words, provided
  no name's haplotype prefix is a tag word; `None` when there is no haplotype tag and no haplotype prefix).
-/
import AgpTpf.Proofs.Lib.Namer
import AgpTpf.Proofs.Lib.Fuse
import AgpTpf.Proofs.C10UBack
namespace AgpTpf.C10U
open AgpTpf

def lab (s : Scaffold) : Scaffold := { s with rows := [] }

/-- the label fields of a stored lookup result, as `scaffolds_fused_by_name` copies them -/
def labRes (r : Res) : Scaffold :=
  { name := r.o.name, tag := r.o.tag, haplotype := r.o.haplotype, rank := r.o.rank,
    originalName := r.o.originalName, originalTags := r.o.originalTags }

theorem lab_eta (s : Scaffold) :
    ({ name := s.name, tag := s.tag, haplotype := s.haplotype, rank := s.rank, originalName := s.originalName,
       originalTags := s.originalTags } : Scaffold) = lab s := by
  cases s; rfl

theorem fused_lab (b : Build) (P : Scaffold → Prop) (hs : ∀ r ∈ b.store, P (labRes r))
    (he : ∀ e ∈ b.extra, P (lab e.1)) : ∀ s ∈ fuseByName b, P (lab s) := by
  intro s hs'
  obtain ⟨it, hit, hl⟩ := Fuse.fuseByName_labels hs'
  show P { s with rows := [] }
  rw [hl]
  rcases Fuse.mem_fuseItems.1 hit with ⟨r, hr, _, _, rfl⟩ | ⟨e, he', _, rfl⟩
  · exact hs r hr
  · exact lab_eta e.1 ▸ he e he'

theorem scOk_of_lab (p : Str) (N : List Str) (s : Scaffold) (h : ScOk p N (lab s)) : ScOk p N s :=
  ⟨h.hapNe, h.hapNoTag, h.tagCases, h.taggedRank, h.r1, h.r2, h.r3⟩


def tagWordStrs : List Str := [sContaminant, sFalseDuplicate, sHaplotig]

/-- a haplotype spelling that can never be confused with an assembly tag -/
def HapWordOk (h : Str) : Prop := h ≠ [] ∧ h ∉ tagWordStrs

def HapOk (o : Option Str) : Prop := o = none ∨ ∃ h, o = some h ∧ HapWordOk h

theorem HapOk.ne_nil {o : Option Str} (h : HapOk o) : o ≠ some [] := by
  rcases h with rfl | ⟨x, rfl, hx⟩
  · simp
  · intro e; exact hx.1 (Option.some.inj e)

theorem HapOk.not_tagWord {o : Option Str} (h : HapOk o) : o ∉ tagWords := by
  rcases h with rfl | ⟨x, rfl, hx⟩
  · simp [tagWords]
  · intro e
    obtain ⟨y, hy, e'⟩ := (List.mem_map (f := some) (l := tagWordStrs)).1 e
    exact hx.2 (Option.some.inj e' ▸ hy)

theorem hapWordOk_primary : HapWordOk sPrimary := ⟨by decide, by decide⟩

def NamerGood (n : Namer) : Prop :=
  (∀ kv ∈ n.haplotypeLc, HapWordOk kv.2) ∧ (∀ v, n.primaryHaplotype = some v → HapWordOk v)

/-- the three tag words are known tags, not haplotype names -/
theorem tagClass_hap (t : Str) (h : C17.tagClass t = .hap) : t ∉ tagWordStrs := by
  have hk : Gen.otherKnownTags.contains t = false := (by simpa only [h] using tagClass_spec t : _ ∧ _).1
  intro hm
  simp only [tagWordStrs, List.mem_cons, List.not_mem_nil, or_false] at hm
  rcases hm with rfl | rfl | rfl <;> cases hk

structure ScanInv (n0 : Namer) (seen : List Str) (st : Namer × TagScan) : Prop where
  good : NamerGood st.1
  painted : st.2.isPainted = true ↔ sPainted ∈ seen
  nameRank : (st.2.rank = none ∧ st.2.scaffoldName = none) ∨
    ∃ t, st.2.scaffoldName = some t ∧ st.2.rank = some 2 ∧ t ∈ seen ∧ isChrNameTag t = true
  hap : HapOk st.2.haplotype
  hapFree : (∀ t ∈ seen, C17.tagClass t ≠ .hap) → st.2.haplotype = none
  target : st.1.targetTags = true → n0.targetTags = true ∨ sTarget ∈ seen

/-- the facts about the namer state the labelling of one Pretext scaffold relies on -/
structure NameFacts (n n' : Namer) (scName : Str) (rows : List Row) (tags : List Str) : Prop where
  good : NamerGood n'
  hapN : n'.haplotigN = n.haplotigN
  hapS : n'.haplotigScaffolds = n.haplotigScaffolds
  pre : n'.autosomePrefix = n.autosomePrefix
  unlocN : n'.unlocN = 0
  unlocS : n'.unlocScaffolds = []
  target : n'.targetTags = true → n.targetTags = true ∨ sTarget ∈ tags
  hap : HapOk n'.currentHaplotype
  hapFree : (∀ t ∈ tags, C17.tagClass t ≠ .hap) → (∀ nm, firstRowName rows = .ok nm → hapPrefixOfName nm = none) →
    n'.currentHaplotype = none
  cur : ∃ c, n'.currentScaffoldName = some c ∧
    ((n'.currentRank = 2 ∧ c ∈ tags ∧ isChrNameTag c = true) ∨
     (n'.currentRank = 1 ∧ c = scName ∧ sPainted ∈ tags) ∨
     (n'.currentRank = 3 ∧ firstRowName rows = .ok c ∧ sPainted ∉ tags))

/-- the spellings `make_scaffold_name` can register are acceptable (`makeScaffoldName_spellings`), the counters are in its
    frame, name and rank are `makeScaffoldName_name` -/
theorem makeScaffoldName_facts (n n' : Namer) (scName : Str) (rows : List Row) (tags : List Str)
    (hne : [] ∉ tags) (hn : NamerGood n)
    (hnames : ∀ nm g, firstRowName rows = .ok nm → hapPrefixOfName nm = some g → g ∉ tagWordStrs)
    (h : makeScaffoldName n scName rows tags = .ok n') : NameFacts n n' scName rows tags := by
  have hfr := makeScaffoldName_frame h
  obtain ⟨g1, g2, g3⟩ := makeScaffoldName_spellings (Q := fun kv => HapWordOk kv.2) hn.1
    (fun t ht => ⟨fun e => hne (e ▸ (List.mem_filter.1 ht).1), tagClass_hap t (by simpa using (List.mem_filter.1 ht).2)⟩)
    (fun nm g hnm hg => ⟨hapPrefixOfName_ne_nil nm g hg, hnames nm g hnm hg⟩) (fun _ _ hv _ => hv) h
  have hname := makeScaffoldName_name h
  refine ⟨⟨g1, fun v hv => (g2 v hv).elim (hn.2 v) fun ⟨_, hk⟩ => hk⟩, by rw [hfr], by rw [hfr], by rw [hfr], by rw [hfr],
    by rw [hfr], fun ht => ?_, ?_, fun hall hnone => makeScaffoldName_nohap
      (List.filter_eq_nil_iff.2 fun t ht => by simpa using hall t ht) hnone h, ?_⟩
  · rw [hfr] at ht
    exact (Bool.or_eq_true _ _ ▸ ht).imp id List.contains_iff_mem.1
  · cases hc : n'.currentHaplotype with
    | none => exact .inl rfl
    | some v => exact .inr ⟨v, rfl, (g3 v hc).elim (fun e => e ▸ hapWordOk_primary) fun ⟨_, hk⟩ => hk⟩
  · rcases hl : chrTags tags with _ | ⟨c, r⟩ <;> rw [hl] at hname
    · by_cases hp : tags.contains sPainted = true
      · rw [if_pos hp] at hname
        exact ⟨scName, hname.1, .inr (.inl ⟨hname.2, rfl, List.contains_iff_mem.1 hp⟩)⟩
      · rw [if_neg hp] at hname
        obtain ⟨h1, h2, h3⟩ := hname
        cases hc : n'.currentScaffoldName with
        | none => exact absurd hc h2
        | some c => exact ⟨c, rfl, .inr (.inr ⟨h3, by rw [hc] at h1; exact h1, fun hm => hp (List.contains_iff_mem.2 hm)⟩)⟩
    · have hm : c ∈ chrTags tags := hl ▸ List.mem_cons_self
      have hcl : C17.tagClass c = .chr := by simpa [chrTags] using (List.mem_filter.1 hm).2
      have hchr : isChrNameTag c = true := (by simpa only [hcl] using tagClass_spec c : _ ∧ _).1
      exact ⟨c, hname.2.1, .inl ⟨hname.2.2, (List.mem_filter.1 hm).1, hchr⟩⟩

end AgpTpf.C10U
