/-
  Gapless fragment–fragment adjacencies of a row list (`adjPairs`, `seam`) and `NoTerminalGap`; used by C07 and C01.
-/
import AgpTpf.Model.Remap
import AgpTpf.Proofs.ImpEval
namespace AgpTpf.C07
open AgpTpf

/-- results of the model are compared by `decide` in the examples of C07 and C01 -/
instance instDecEqR {α} [DecidableEq α] : DecidableEq (R α) := ImpEval.instDecEqExcept

/-- the pairs of fragments that are directly adjacent (no gap row between them), in order -/
def adjPairs : List Row → List (Fragment × Fragment)
  | [] => []
  | .gap _ :: r => adjPairs r
  | .frag a :: r =>
    match r with
    | .frag b :: _ => (a, b) :: adjPairs r
    | _ => adjPairs r

/-- the adjacency created where `l` is followed by `r` without a separator -/
def seam (l r : List Row) : List (Fragment × Fragment) :=
  match l.getLast?, r.head? with
  | some (.frag a), some (.frag b) => [(a, b)]
  | _, _ => []

@[simp] theorem adjPairs_nil : adjPairs [] = [] := rfl
@[simp] theorem adjPairs_gap_cons (g : Gap) (r : List Row) : adjPairs (.gap g :: r) = adjPairs r := rfl
@[simp] theorem adjPairs_frag_frag (a b : Fragment) (r : List Row) :
    adjPairs (.frag a :: .frag b :: r) = (a, b) :: adjPairs (.frag b :: r) := rfl
@[simp] theorem adjPairs_frag_gap (a : Fragment) (g : Gap) (r : List Row) :
    adjPairs (.frag a :: .gap g :: r) = adjPairs r := rfl
@[simp] theorem adjPairs_single (x : Row) : adjPairs [x] = [] := by cases x <;> rfl

theorem adjPairs_cons (x : Row) (t : List Row) : adjPairs (x :: t) = seam [x] t ++ adjPairs t := by
  cases x with
  | gap g => rfl
  | frag a =>
    cases t with
    | nil => rfl
    | cons y t' => cases y <;> rfl

theorem adjPairs_append (l r : List Row) : adjPairs (l ++ r) = adjPairs l ++ seam l r ++ adjPairs r := by
  induction l with
  | nil => rfl
  | cons x t ih =>
    rw [List.cons_append, adjPairs_cons, ih, adjPairs_cons x t]
    cases t with
    | nil => simp [seam]
    | cons y t' => simp [seam, List.getLast?_cons_cons]

theorem mem_seam_iff (l r : List Row) (a b : Fragment) :
    (a, b) ∈ seam l r ↔ l.getLast? = some (.frag a) ∧ r.head? = some (.frag b) := by
  unfold seam
  split
  · next a' b' h1 h2 =>
    rw [h1, h2]; simp only [List.mem_cons, Prod.mk.injEq, List.not_mem_nil, or_false, Option.some.injEq, Row.frag.injEq]
    constructor <;> (rintro ⟨rfl, rfl⟩; exact ⟨rfl, rfl⟩)
  · next hno =>
    constructor
    · intro h; cases h
    · rintro ⟨h1, h2⟩; exact absurd h2 (hno a b h1)

theorem seam_gap_left (l r : List Row) (g : Gap) : seam (l ++ [.gap g]) r = [] := by
  simp [seam]

theorem seam_gap_right (l r : List Row) (g : Gap) : seam l (.gap g :: r) = [] := by
  unfold seam; simp only [List.head?_cons]; split <;> simp_all

theorem seam_nil_left (r : List Row) : seam [] r = [] := by simp [seam]
theorem seam_nil_right (l : List Row) : seam l [] = [] := by
  unfold seam; simp only [List.head?_nil]; split <;> simp_all

theorem adjPairs_append_gap (l r : List Row) (g : Gap) :
    adjPairs (l ++ [.gap g] ++ r) = adjPairs l ++ adjPairs r := by
  rw [adjPairs_append, adjPairs_append, seam_gap_left, seam_gap_right]; simp

theorem adjPairs_all_gaps (l : List Row) (h : ∀ x ∈ l, ∃ g, x = Row.gap g) : adjPairs l = [] := by
  induction l with
  | nil => rfl
  | cons x t ih =>
    obtain ⟨g, rfl⟩ := h x (List.mem_cons_self ..)
    simpa using ih (fun y hy => h y (List.mem_cons_of_mem _ hy))

theorem adjPairs_append_gaps (l sep r : List Row) (hne : sep ≠ []) (h : ∀ x ∈ sep, ∃ g, x = Row.gap g) :
    adjPairs (l ++ sep ++ r) = adjPairs l ++ adjPairs r := by
  rw [adjPairs_append, adjPairs_append, adjPairs_all_gaps sep h]
  have h1 : seam l sep = [] := by
    cases sep with
    | nil => exact absurd rfl hne
    | cons x t => obtain ⟨g, rfl⟩ := h x (List.mem_cons_self ..); exact seam_gap_right l t g
  have h2 : seam (l ++ sep) r = [] := by
    have hl : sep = sep.dropLast ++ [sep.getLast hne] := (List.dropLast_concat_getLast hne).symm
    obtain ⟨g, hg⟩ := h _ (List.getLast_mem hne)
    rw [hl, hg, ← List.append_assoc]
    exact seam_gap_left _ r g
  rw [h1, h2]; simp

def NoTerminalGap (rows : List Row) : Prop :=
  (∀ g, rows.head? ≠ some (.gap g)) ∧ (∀ g, rows.getLast? ≠ some (.gap g))

end AgpTpf.C07
