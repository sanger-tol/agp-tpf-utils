/-
  C03 end to end, input side: the assembly `index_fasta_file` derives from a well-formed FASTA (records with uniform
  line width, LF or CRLF, distinct names) satisfies every input hypothesis of `Properties/C03Cli.lean`:
  `C01.WFInput`, `InputWithin` (every contig fragment names an index entry that lays its record out in the file and
  lies within the record), strict rows — and the residues its fragments address are `ACGTacgt` only.
-/
import AgpTpf.Proofs.C03CliRecords
import AgpTpf.Properties.C04
namespace AgpTpf.C03
open AgpTpf AgpTpf.StreamProofs AgpTpf.SeqProofs AgpTpf.C04

theorem specRows_frag_acgt (name : Str) (oid : Nat) (res : Bytes) (f : Fragment)
    (hf : f ∈ fragmentsOf (specRows name oid res)) : ∀ x ∈ slice res f.start f.stop, isACGT x = true := by
  have hmem : (f.start, f.stop) ∈ (runsOf res).map (fun r => ((r.1 : Int) + 1, (r.2 : Int))) := by
    rw [← specRows_fragments name oid res]
    exact List.mem_map.mpr ⟨f, hf, rfl⟩
  obtain ⟨r, hr, e⟩ := List.mem_map.mp hmem
  simp only [Prod.mk.injEq] at e
  intro x hx
  obtain ⟨i, i1, i2, i3⟩ := (mem_slice_iff res f.start f.stop x).mp hx
  have hcov := (acgtRuns_cover res i).mp ⟨r, hr, by omega, by omega⟩
  obtain ⟨b, hb1, hb2⟩ := hcov
  rw [i3] at hb1
  cases hb1
  exact hb2

theorem acgt_clean (x : Nat) (h : isACGT x = true) : x ≠ 62 ∧ x ≠ 10 := by
  constructor <;> (intro e; subst e; revert h; decide)

theorem inputFrags_expScaffolds_cons (k : Nat) (r : Rec) (t : List Rec) :
    C01.inputFrags (expScaffolds k (r :: t)) =
      fragmentsOf (specRows r.name k r.res) ++ C01.inputFrags (expScaffolds (k + (runsOf r.res).length) t) := by
  simp [C01.inputFrags, expScaffolds, Scaffold.fragments]

def Before (f g : Fragment) : Prop := f.oid < g.oid ∧ (f.name = g.name → f.stop < g.start)

theorem expScaffolds_frags (recs : List Rec) : ∀ k, (recs.map Rec.name).Nodup →
    (∀ f ∈ C01.inputFrags (expScaffolds k recs), k ≤ f.oid ∧ f.name ∈ recs.map Rec.name ∧ f.start ≤ f.stop) ∧
    (C01.inputFrags (expScaffolds k recs)).Pairwise Before := by
  induction recs with
  | nil => intro k _; exact ⟨fun f hf => (by cases hf), List.Pairwise.nil⟩
  | cons r t ih =>
    intro k hnd
    rw [List.map_cons, List.nodup_cons] at hnd
    obtain ⟨ih1, ih2⟩ := ih (k + (runsOf r.res).length) hnd.2
    obtain ⟨s1, s2⟩ := specRows_frags r.name k r.res
    rw [inputFrags_expScaffolds_cons]
    constructor
    · intro f hf
      rcases List.mem_append.mp hf with hf | hf
      · obtain ⟨a1, _, a3, _, a5, _⟩ := s1 f hf
        exact ⟨a5, by rw [a1]; simp, a3⟩
      · obtain ⟨b1, b2, b3⟩ := ih1 f hf
        exact ⟨by omega, by simp [b2], b3⟩
    · rw [List.pairwise_append]
      refine ⟨s2.imp (fun ⟨p, q⟩ => ⟨q, fun _ => p⟩), ih2, ?_⟩
      intro f hf g hg
      obtain ⟨a1, _, _, _, _, a6⟩ := s1 f hf
      obtain ⟨b1, b2, _⟩ := ih1 g hg
      refine ⟨by omega, fun e => ?_⟩
      exact absurd (by rw [← a1, e]; exact b2) hnd.1

theorem wfInput_expScaffolds (recs : List Rec) (k : Nat) (hnd : (recs.map Rec.name).Nodup) :
    C01.WFInput (expScaffolds k recs) := by
  obtain ⟨h1, h2⟩ := expScaffolds_frags recs k hnd
  refine ⟨by rw [expScaffolds_names]; exact hnd, ?_, ?_, ?_, fun f hf => (h1 f hf).2.2⟩
  · unfold List.Nodup
    rw [List.pairwise_map]
    exact h2.imp (fun ⟨p, _⟩ e => by omega)
  · unfold List.Nodup
    rw [List.pairwise_map]
    refine h2.imp_of_mem ?_
    intro f g hf _ ⟨_, q⟩ e
    have hs := (h1 f hf).2.2
    simp only [Fragment.keyTuple, Prod.mk.injEq] at e
    have := q e.1
    omega
  · exact h2.imp (fun ⟨_, q⟩ e => Or.inl (q e))

theorem mem_expScaffolds_frags (recs : List Rec) (k : Nat) (f : Fragment) (hf : f ∈ C01.inputFrags (expScaffolds k recs)) :
    ∃ pre r post k', recs = pre ++ r :: post ∧ f ∈ fragmentsOf (specRows r.name k' r.res) := by
  obtain ⟨s, hs, hfs⟩ := List.mem_flatMap.1 hf
  obtain ⟨r, hr, k', rfl⟩ := expScaffolds_mem recs k s hs
  obtain ⟨pre, post, rfl⟩ := List.append_of_mem hr
  exact ⟨pre, r, post, k', rfl, hfs⟩

def resOfRecs (recs : List Rec) (name : Str) : Bytes :=
  match recs.find? (fun r => r.name = name) with
  | some r => r.res
  | none => []

theorem resOfRecs_eq (pre : List Rec) (r : Rec) (post : List Rec) (hnd : ((pre ++ r :: post).map Rec.name).Nodup) :
    resOfRecs (pre ++ r :: post) r.name = r.res := by
  unfold resOfRecs
  have hpre : pre.find? (fun x => x.name = r.name) = none := by
    rw [List.find?_eq_none]
    intro x hx e
    simp only [decide_eq_true_eq] at e
    simp only [List.map_append, List.map_cons] at hnd
    exact (List.nodup_append.mp hnd).2.2 _ (List.mem_map.mpr ⟨x, hx, rfl⟩) _ (by simp) e
  rw [List.find?_append, hpre]
  simp

/-- **FASTA in.**  For a FASTA file of well-formed records with distinct names and uniform line width (per record),
    indexed with any buffer size: the derived assembly is `C01.WFInput`; every contig fragment of it names an index entry
    that lays its record out in the file, and lies within the record (`InputWithin`); its rows are strict; the residues
    a fragment addresses contain neither `>` nor LF (they are `ACGTacgt`); scaffold names = record names. -/
theorem fasta_input_ok (bs : Int) (recs : List Rec) (hne : recs ≠ []) (hwf : ∀ r ∈ recs, r.WF)
    (hnd : (recs.map Rec.name).Nodup) (hu : ∀ r ∈ recs, ∃ w, Uniform w r.lines) :
    ∃ st, indexFasta (bLines (fileOf recs)) bs = .ok st ∧
      C01.WFInput st.scaffolds ∧
      InputWithin (fileOf recs) st.idx (resOfRecs recs) st.scaffolds ∧
      (∀ sc ∈ st.scaffolds, ∀ r ∈ sc.rows, C06.StrandOk r ∧ C06.RowStrict r) ∧
      (∀ F ∈ C01.inputFrags st.scaffolds, CleanBytes (slice (resOfRecs recs F.name) F.start F.stop)) ∧
      st.scaffolds.map (·.name) = recs.map Rec.name := by
  obtain ⟨st, e, hi, hs⟩ := indexFasta_fileOf bs recs hne hwf hnd
  have hsc : st.scaffolds = expScaffolds 0 recs := by
    rw [hs, foldl_addRec]; rfl
  have hfrag : ∀ F ∈ C01.inputFrags st.scaffolds, ∃ pre r post k', recs = pre ++ r :: post ∧
      F ∈ fragmentsOf (specRows r.name k' r.res) := by
    rw [hsc]; exact mem_expScaffolds_frags recs 0
  refine ⟨st, e, by rw [hsc]; exact wfInput_expScaffolds recs 0 hnd, ?_, ?_, ?_, by rw [hsc, expScaffolds_names]⟩
  · intro F hF
    obtain ⟨pre, r, post, k', erecs, hFr⟩ := hfrag F hF
    obtain ⟨a1, a2, a3, a4, _, _⟩ := (specRows_frags r.name k' r.res).1 F hFr
    have hnd' : ((pre ++ r :: post).map Rec.name).Nodup := erecs ▸ hnd
    obtain ⟨w, hw⟩ := hu r (by rw [erecs]; simp)
    have hres : r.res ≠ [] := by
      intro h; rw [h] at a4; simp at a4; omega
    refine ⟨r.info ((fileOf pre).length : Nat), ?_, ?_, a2, a3, ?_⟩
    · rw [a1, hi, erecs]; exact getInfo_expected pre r post hnd'
    · rw [a1, erecs, resOfRecs_eq pre r post hnd']
      exact recordOK_of_uniform pre r post w hw hres
    · rw [a1, erecs, resOfRecs_eq pre r post hnd']; exact a4
  · intro sc hsc' r hr
    have hp := (C06.built_index_valid [] recs hnd st.idx st.scaffolds hi hs).1.forall_right
      (Q := fun sc => ∀ r ∈ sc.rows, C06.StrandOk r ∧ C06.RowStrict r)
      (fun _ _ _ hp r hr => ⟨(hp.2.2 r hr).1, (hp.2.2 r hr).2.1⟩) sc hsc'
    exact hp r hr
  · intro F hF x hx
    obtain ⟨pre, r, post, k', erecs, hFr⟩ := hfrag F hF
    obtain ⟨a1, _⟩ := (specRows_frags r.name k' r.res).1 F hFr
    have hnd' : ((pre ++ r :: post).map Rec.name).Nodup := erecs ▸ hnd
    rw [a1, erecs, resOfRecs_eq pre r post hnd'] at hx
    exact acgt_clean x (specRows_frag_acgt r.name k' r.res F hFr x hx)

end AgpTpf.C03
