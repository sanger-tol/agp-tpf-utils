/-
  C10, chromosome numbering, from the pieces `build_groups` cuts to the new names — every piece gets one number; letters
  inside a haplotype set; inside one haplotype key the new name determines Pretext name and suffix (`Named`).  Nothing
  here depends on the cut rule: `IsCut entries segs` is all that is used of it.
-/
import AgpTpf.Model.Remap
import AgpTpf.Proofs.C10GroupsNames
import AgpTpf.Proofs.C10GroupDict
import AgpTpf.Proofs.C10Build
import AgpTpf.Proofs.C10Name
namespace AgpTpf.C10
open AgpTpf

section ids
variable (fs : List Scaffold) (haps : List Str) {entries : List Entry} {segs : List (List Entry)}

theorem groups_ids (segs : List (List Entry)) :
    ((segs.map (segGroup fs haps)).flatMap groupIds).Perm (segs.flatten.map (·.2)) := by
  rw [List.flatMap_map]
  refine (flatMap_perm_mem _ _ (fun s => s.map (·.2)) (fun s _ => groupIds_segGroup fs haps s)).trans ?_
  rw [List.flatMap_def, List.map_flatten]

theorem sorted_ids (hcut : IsCut entries segs) :
    ((sortedGroups fs (segs.map (segGroup fs haps))).flatMap groupIds).Perm (entries.map (·.2)) := by
  have := ((sortedGroups_perm fs (segs.map (segGroup fs haps))).flatMap_right groupIds).trans (groups_ids fs haps segs)
  rwa [hcut.1] at this

theorem groups_nodup (hcut : IsCut entries segs) (hid : (entries.map (·.2)).Nodup) :
    (segs.map (segGroup fs haps)).Nodup := by
  rcases hcut.2 with hne | rfl
  · have h1 : ((segs.map (segGroup fs haps)).flatMap groupIds).Nodup := by
      rw [(groups_ids fs haps segs).nodup_iff, hcut.1]; exact hid
    rw [List.Nodup, List.pairwise_flatMap] at h1
    refine h1.2.imp_of_mem ?_
    intro g1 g2 hg1 _ hdis heq
    obtain ⟨s, hs, rfl⟩ := List.mem_map.1 hg1
    obtain ⟨e, he⟩ := List.exists_mem_of_ne_nil s (hne s hs)
    have hx : e.2 ∈ groupIds (segGroup fs haps s) :=
      (groupIds_segGroup fs haps s).mem_iff.2 (List.mem_map.2 ⟨e, he, rfl⟩)
    exact hdis e.2 hx e.2 (heq ▸ hx) rfl
  · simp

end ids

theorem sortedGroups_length (fs : List Scaffold) (haps : List Str) (entries : List Entry) :
    (sortedGroups fs (groupsSpec fs haps entries)).length = (segments fs entries).length :=
  (sortedGroups_perm fs _).length_eq.trans (List.length_map _)

theorem nameChromosomes_multi (prefix_ : Str) (fs : List Scaffold) (h1 : Str) (others : List Str) (hne : others ≠ [])
    (entries : List Entry) (hg : ∀ e ∈ entries, truthy (fs.getD e.2 default).originalName = true) :
    (groupsHaveErrors (groupsSpec fs (h1 :: others) entries) = true →
      nameChromosomes prefix_ fs (h1 :: others) entries = .error .chrNamer) ∧
    (groupsHaveErrors (groupsSpec fs (h1 :: others) entries) = false →
      nameChromosomes prefix_ fs (h1 :: others) entries =
        .ok (nameGroups prefix_ ((List.range (sortedGroups fs (groupsSpec fs (h1 :: others) entries)).length).zip
          (sortedGroups fs (groupsSpec fs (h1 :: others) entries))) fs)) :=
  nameChromosomes_of_groups prefix_ fs _ entries _
    (buildGroups_multi_ok fs _ (by cases others with | nil => exact absurd rfl hne | cons _ _ => rfl) entries hg)
    (fun g hgm => by obtain ⟨seg, _, rfl⟩ := List.mem_map.1 hgm; exact segGroup_ne_nil fs h1 others seg)

theorem nameGroups_at (prefix_ : Str) (gs : List GroupData) (fs : List Scaffold)
    (hnd : (gs.flatMap groupIds).Nodup) (k : Nat) (hk : k < gs.length) (h : Str) (chrs : ChrDict)
    (hhc : (h, chrs) ∈ gs[k]) (i : Nat) (o : Str) (ids : List Nat) (hi : chrs[i]? = some (o, ids)) (j : Nat)
    (hj : j ∈ ids) :
    (nameGroups prefix_ ((List.range gs.length).zip gs) fs).getD j default =
      renameScaffold o (chrLabel (prefix_ ++ natToStr (k + 1)) chrs.length i) (fs.getD j default) := by
  obtain ⟨hil, hie⟩ := List.getElem?_eq_some_iff.1 hi
  have := (nameGroups_spec prefix_ gs fs hnd).2.2 k hk (h, chrs) hhc i hil j (by rw [hie]; exact hj)
  rw [this, hie]

theorem hapChrs_length (fs : List Scaffold) (h : Str) (seg : List Entry) :
    (hapChrs fs h seg).length = (hapOrigs fs h seg).length := by unfold hapChrs; simp

theorem hapChrs_keys (fs : List Scaffold) (h : Str) (seg : List Entry) :
    (hapChrs fs h seg).map (·.1) = hapOrigs fs h seg := by
  unfold hapChrs; rw [List.map_map]; exact List.map_id _

/-- position of a scaffold's chromosome inside its haplotype set of the group built from `seg` -/
def chrIndex (fs : List Scaffold) (seg : List Entry) (e : Entry) : Nat :=
  (hapOrigs fs e.1 seg).idxOf (origOf fs e.2)

/-- number of chromosomes of `e`'s haplotype in the group built from `seg` -/
def chrCount (fs : List Scaffold) (seg : List Entry) (e : Entry) : Nat := (hapOrigs fs e.1 seg).length

theorem chrIndex_lt (fs : List Scaffold) (seg : List Entry) (e : Entry) (he : e ∈ seg) :
    chrIndex fs seg e < chrCount fs seg e :=
  List.idxOf_lt_length_of_mem ((mem_hapOrigs fs e.1 _ seg).2 ⟨e, he, rfl, rfl⟩)

theorem chrIndex_get (fs : List Scaffold) (seg : List Entry) (e : Entry) (he : e ∈ seg) :
    (hapOrigs fs e.1 seg)[chrIndex fs seg e]? = some (origOf fs e.2) := by
  have hlt := chrIndex_lt fs seg e he
  rw [List.getElem?_eq_getElem hlt]
  exact congrArg some (List.getElem_idxOf hlt)

theorem piece_numbered (prefix_ : Str) (fs : List Scaffold) (haps : List Str) (hnd : haps.Nodup)
    {entries : List Entry} {segs : List (List Entry)} (hcut : IsCut entries segs) (hm : ∀ e ∈ entries, e.1 ∈ haps)
    (hid : (entries.map (·.2)).Nodup) (seg : List Entry) (hseg : seg ∈ segs) :
    let sorted := sortedGroups fs (segs.map (segGroup fs haps))
    let fs' := nameGroups prefix_ ((List.range sorted.length).zip sorted) fs
    ∃ k, ∃ hk : k < sorted.length, sorted[k] = segGroup fs haps seg ∧
      ∀ e ∈ seg, fs'.getD e.2 default =
        renameScaffold (origOf fs e.2)
          (chrLabel (prefix_ ++ natToStr (k + 1)) (chrCount fs seg e) (chrIndex fs seg e)) (fs.getD e.2 default) := by
  intro sorted fs'
  have hg : segGroup fs haps seg ∈ segs.map (segGroup fs haps) := List.mem_map.2 ⟨seg, hseg, rfl⟩
  have hgs : segGroup fs haps seg ∈ sorted := (sortedGroups_perm fs _).mem_iff.2 hg
  obtain ⟨k, hk, hkr⟩ := List.mem_iff_getElem.1 hgs
  refine ⟨k, hk, hkr, ?_⟩
  intro e he
  have hmem : ∀ x ∈ seg, x.1 ∈ haps := fun x hx => hm x (hcut.sub seg hseg x hx)
  have hsg := segGroup_eq fs haps hnd seg hmem
  have hhc : (e.1, hapChrs fs e.1 seg) ∈ sorted[k] := by
    rw [hkr, hsg]; exact List.mem_map.2 ⟨e.1, hmem e he, rfl⟩
  have hi : (hapChrs fs e.1 seg)[chrIndex fs seg e]? = some (origOf fs e.2, idsOf fs e.1 (origOf fs e.2) seg) := by
    unfold hapChrs
    rw [List.getElem?_map, chrIndex_get fs seg e he]; rfl
  have hj : e.2 ∈ idsOf fs e.1 (origOf fs e.2) seg := (mem_idsOf fs e.1 _ seg e.2).2 ⟨e, he, rfl, rfl, rfl⟩
  have := nameGroups_at prefix_ sorted fs ((sorted_ids fs haps hcut).nodup_iff.2 hid) k hk e.1 _ hhc _ _ _ hi e.2 hj
  rw [hapChrs_length] at this
  exact this

theorem toNat_ofNat_valid (n : Nat) (hv : n.isValidChar) : (Char.ofNat n).toNat = n := by
  unfold Char.ofNat
  rw [dif_pos hv]
  rfl

theorem ofNat_invalid (n : Nat) (hv : ¬ n.isValidChar) : Char.ofNat n = Char.ofNat 0 := by
  unfold Char.ofNat
  rw [dif_neg hv]
  rfl

theorem letter_not_digit (i : Nat) : isDigit (Char.ofNat (65 + i)) = false := by
  by_cases hv : (65 + i).isValidChar
  · cases hd : isDigit (Char.ofNat (65 + i)) with
    | false => rfl
    | true =>
      have := (isDigit_iff _).1 hd
      rw [toNat_ofNat_valid _ hv] at this
      omega
  · rw [ofNat_invalid _ hv]; decide

/-- the largest number of chromosomes per haplotype set for which `chr(ord("A") + i)` stays below the surrogate range
    (where the model's `Char.ofNat` is no longer injective) -/
def letterBound : Nat := 55231

theorem letter_inj (i j : Nat) (hi : i < letterBound) (hj : j < letterBound)
    (h : Char.ofNat (65 + i) = Char.ofNat (65 + j)) : i = j := by
  unfold letterBound at hi hj
  have h1 := toNat_ofNat_valid (65 + i) (Or.inl (by omega))
  have h2 := toNat_ofNat_valid (65 + j) (Or.inl (by omega))
  rw [h] at h1
  omega

theorem noDigitHd_letter (c i : Nat) (suf : Str) (hs : NoDigitHd suf) : NoDigitHd (chrLetter c i ++ suf) := by
  unfold chrLetter
  by_cases h : c = 1
  · rw [if_pos h]; exact hs
  · rw [if_neg h]
    intro ch hch
    simp only [List.cons_append, List.nil_append, List.head?_cons, Option.some.injEq] at hch
    subst hch
    exact letter_not_digit i

theorem chrLetter_inj (c i j : Nat) (s s' : Str) (hc : c ≤ letterBound) (hi : i < c) (hj : j < c)
    (h : chrLetter c i ++ s = chrLetter c j ++ s') : i = j ∧ s = s' := by
  unfold chrLetter at h
  by_cases h1 : c = 1
  · rw [if_pos h1, if_pos h1] at h
    exact ⟨(Nat.lt_one_iff.1 (h1 ▸ hi)).trans (Nat.lt_one_iff.1 (h1 ▸ hj)).symm, by simpa using h⟩
  · rw [if_neg h1, if_neg h1] at h
    simp only [List.cons_append, List.nil_append, List.cons.injEq] at h
    exact ⟨letter_inj i j (Nat.lt_of_lt_of_le hi hc) (Nat.lt_of_lt_of_le hj hc) h.1, h.2⟩

theorem hapOrigs_of_group_eq (fs : List Scaffold) (haps : List Str) (h : Str) (s1 s2 : List Entry)
    (hg : segGroup fs haps s1 = segGroup fs haps s2) : hapOrigs fs h s1 = hapOrigs fs h s2 := by
  have h1 := dGet_segGroup fs haps h s1
  have h2 := dGet_segGroup fs haps h s2
  rw [hg, h2] at h1
  rw [← hapChrs_keys fs h s1, ← hapChrs_keys fs h s2, h1]

theorem first_hap_one (fs : List Scaffold) (h1 : Str) (others : List Str) (segs : List (List Entry))
    (hok : groupsHaveErrors (segs.map (segGroup fs (h1 :: others))) = false) (seg : List Entry) (hseg : seg ∈ segs) :
    (hapOrigs fs h1 seg).length = 1 := by
  obtain ⟨rest, hh⟩ := segGroup_head fs h1 others seg
  have := (groupsHaveErrors_false_iff _).1 hok _ (List.mem_map.2 ⟨seg, hseg, rfl⟩) h1 _ rest hh
  rwa [hapChrs_length] at this

theorem new_name_inj (prefix_ : Str) (fs : List Scaffold) (haps : List Str) (hnd : haps.Nodup)
    (entries : List Entry) (segs : List (List Entry)) (hcut : IsCut entries segs) (hm : ∀ e ∈ entries, e.1 ∈ haps)
    (hid : (entries.map (·.2)).Nodup) (hg : ∀ e ∈ entries, truthy (fs.getD e.2 default).originalName = true)
    (a b : Entry) (ha : a ∈ entries) (hb : b ∈ entries) (hab : a.1 = b.1)
    (hbound : ∀ seg ∈ segs, (hapOrigs fs a.1 seg).length ≤ letterBound)
    (sa sb : Str) (hna : (fs.getD a.2 default).name = origOf fs a.2 ++ sa) (hda : NoDigitHd sa)
    (hoa : occursIn (origOf fs a.2) sa = false)
    (hnb : (fs.getD b.2 default).name = origOf fs b.2 ++ sb) (hdb : NoDigitHd sb)
    (hob : occursIn (origOf fs b.2) sb = false) :
    let sorted := sortedGroups fs (segs.map (segGroup fs haps))
    let fs' := nameGroups prefix_ ((List.range sorted.length).zip sorted) fs
    (fs'.getD a.2 default).name = (fs'.getD b.2 default).name → origOf fs a.2 = origOf fs b.2 ∧ sa = sb := by
  intro sorted fs' heq
  obtain ⟨s1, hs1, ha1⟩ := hcut.cover a ha
  obtain ⟨s2, hs2, hb2⟩ := hcut.cover b hb
  obtain ⟨k, hk, hgk, hfa⟩ := piece_numbered prefix_ fs haps hnd hcut hm hid s1 hs1
  obtain ⟨k', hk', hgk', hfb⟩ := piece_numbered prefix_ fs haps hnd hcut hm hid s2 hs2
  have hfa' := hfa a ha1
  have hfb' := hfb b hb2
  rw [renameScaffold_piece fs a.2 _ (hg a ha) sa hna hoa] at hfa'
  rw [renameScaffold_piece fs b.2 _ (hg b hb) sb hnb hob] at hfb'
  have heq' : (fs'.getD a.2 default).name = (fs'.getD b.2 default).name := heq
  rw [hfa', hfb'] at heq'
  simp only [chrLabel, List.append_assoc] at heq'
  rw [← List.append_assoc, ← List.append_assoc prefix_] at heq'
  obtain ⟨e1, e2⟩ := chr_name_inj prefix_ _ _ (k + 1) (k' + 1) (noDigitHd_letter _ _ _ hda) (noDigitHd_letter _ _ _ hdb) heq'
  have ekk : k = k' := Nat.succ.inj e1
  subst ekk
  -- same number, so same group, so the same list of chromosomes of this haplotype: the letter decides the Pretext name
  have hO : hapOrigs fs a.1 s1 = hapOrigs fs a.1 s2 := hapOrigs_of_group_eq fs haps a.1 s1 s2 (by rw [← hgk, ← hgk'])
  have hia := chrIndex_lt fs s1 a ha1
  have hib := chrIndex_lt fs s2 b hb2
  have hga := chrIndex_get fs s1 a ha1
  have hgb := chrIndex_get fs s2 b hb2
  unfold chrCount at e2 hia hib
  rw [← hab, ← hO] at e2 hib hgb
  obtain ⟨ei, es⟩ := chrLetter_inj _ _ _ sa sb (hbound s1 hs1) hia hib e2
  rw [ei, hgb] at hga
  exact ⟨(Option.some.inj hga).symm, es⟩

def Piece (fs : List Scaffold) (sid : Nat) (suf : Str) : Prop :=
  (fs.getD sid default).name = origOf fs sid ++ suf ∧ NoDigitHd suf ∧ occursIn (origOf fs sid) suf = false

/-- **what `name_chromosomes` does to the names** of the scaffolds handed to it, as uniqueness proofs use it: they all
    have a Pretext name, nothing else is touched, a piece `<Pretext name> ++ suf` becomes `<prefix><n><letter?> ++ suf`,
    and inside one haplotype key (among those satisfying `K`) equal new names come from equal Pretext names and equal
    suffixes -/
structure Named (p : Str) (fs fs' : List Scaffold) (entries : List Entry) (K : Str → Prop) : Prop where
  orig : ∀ e ∈ entries, truthy (fs.getD e.2 default).originalName = true
  frame : ∀ j, j ∉ entries.map (·.2) → fs'.getD j default = fs.getD j default
  shape : ∀ e ∈ entries, ∀ suf, Piece fs e.2 suf → ∃ n c i,
    fs'.getD e.2 default = { fs.getD e.2 default with name := p ++ natToStr n ++ chrLetter c i ++ suf }
  inj : ∀ a ∈ entries, ∀ b ∈ entries, a.1 = b.1 → K a.1 → ∀ sa sb, Piece fs a.2 sa → Piece fs b.2 sb →
    (fs'.getD a.2 default).name = (fs'.getD b.2 default).name → origOf fs a.2 = origOf fs b.2 ∧ sa = sb

theorem named (p : Str) (fs : List Scaffold) (h1 : Str) (others : List Str) (entries : List Entry)
    (fs' : List Scaffold) (hnd : (h1 :: others).Nodup) (hid : (entries.map (·.2)).Nodup)
    (hm : ∀ e ∈ entries, e.1 ∈ h1 :: others) (K : Str → Prop)
    (hbound : ∀ h, K h → ∀ seg ∈ segsOf fs (h1 :: others) entries, (hapOrigs fs h seg).length ≤ letterBound)
    (hok : nameChromosomes p fs (h1 :: others) entries = .ok fs') : Named p fs fs' entries K := by
  rw [nameChromosomes_any] at hok
  split at hok
  · cases hok
  · rename_i hall
    split at hok
    · cases hok
    · cases hok
      have hg : ∀ e ∈ entries, truthy (fs.getD e.2 default).originalName = true :=
        List.all_eq_true.1 (Bool.not_eq_false _ ▸ hall)
      have hcut := segsOf_isCut fs (h1 :: others) entries
      have hids := sorted_ids fs (h1 :: others) hcut
      refine ⟨hg, fun j hj => (nameGroups_spec p _ fs (hids.nodup_iff.2 hid)).2.1 j (fun hmem => hj (hids.mem_iff.1 hmem)),
        ?_, ?_⟩
      · intro e he suf hp
        obtain ⟨seg, hseg, hes⟩ := hcut.cover e he
        obtain ⟨k, _, _, hren⟩ := piece_numbered p fs (h1 :: others) hnd hcut hm hid seg hseg
        refine ⟨k + 1, chrCount fs seg e, chrIndex fs seg e, ?_⟩
        rw [hren e hes, renameScaffold_piece fs e.2 _ (hg e he) suf hp.1 hp.2.2]; rfl
      · intro a ha b hb hab hK sa sb hpa hpb heq
        exact new_name_inj p fs (h1 :: others) hnd entries _ hcut hm hid hg a b ha hb hab (hbound a.1 hK)
          sa sb hpa.1 hpa.2.1 hpa.2.2 hpb.1 hpb.2.1 hpb.2.2 heq

theorem Named.pairwise {p : Str} {fs fs' : List Scaffold} {entries : List Entry} {K : Str → Prop}
    (N : Named p fs fs' entries K) (hid : (entries.map (·.2)).Nodup) (hshape : ∀ e ∈ entries, PieceShape fs e.2)
    (hdist : ∀ e ∈ entries, ∀ e' ∈ entries, e.2 ≠ e'.2 → origOf fs e.2 = origOf fs e'.2 →
      (fs.getD e.2 default).name ≠ (fs.getD e'.2 default).name) (h : Str) (hK : K h) :
    ((entries.filter (fun e => e.1 = h)).map (fun e => (fs'.getD e.2 default).name)).Nodup := by
  rw [List.Nodup, List.pairwise_map]
  have hp : entries.Pairwise (fun a b => a.2 ≠ b.2) := by
    have := hid; rw [List.Nodup, List.pairwise_map] at this; exact this
  refine (hp.sublist List.filter_sublist).imp_of_mem ?_
  intro a b ha hb hab heq
  simp only [List.mem_filter, decide_eq_true_eq] at ha hb
  obtain ⟨sa, hpa⟩ := hshape a ha.1
  obtain ⟨sb, hpb⟩ := hshape b hb.1
  obtain ⟨horig, es⟩ := N.inj a ha.1 b hb.1 (ha.2.trans hb.2.symm) (ha.2 ▸ hK) sa sb hpa hpb heq
  exact hdist a ha.1 b hb.1 hab horig (by rw [hpa.1, hpb.1, horig, es])

end AgpTpf.C10
