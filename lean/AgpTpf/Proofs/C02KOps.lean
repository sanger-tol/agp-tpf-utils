/-
  C02 core — K1 at the level of one `OverlapResult`:
  the invariant `KInv` (C18 invariant + "every contig base of the lookup span that lies in the core
  `[bait.start + M, bait.stop − M]` is still inside `[start, stop]`" + "the result ends on a row boundary of the source
  scaffold or exactly at the bait coordinate") is kept by every operation applied under its guard.
-/
import AgpTpf.Proofs.C02KPos
import AgpTpf.Proofs.C02Trim
namespace AgpTpf.C02
open AgpTpf OverlapResult
open AgpTpf.C18 (Inv ids)

def CoreKept (src : List Row) (M s0 e0 : Int) (o : OverlapResult) : Prop :=
  ∀ x, s0 ≤ x → x ≤ e0 → ContigAt src x → o.bait.start + M ≤ x → x ≤ o.bait.stop - M → o.start ≤ x ∧ x ≤ o.stop

def EdgeOK (src : List Row) (o : OverlapResult) : Prop :=
  o.rows = [] ∨ ((Boundary src (o.start - 1) ∨ o.start = o.bait.start) ∧ (Boundary src o.stop ∨ o.stop = o.bait.stop))

structure KInv (src : List Row) (M s0 e0 : Int) (p : Fragment) (o : OverlapResult) : Prop where
  inv : Inv src o
  bait : o.bait = p
  core : CoreKept src M s0 e0 o
  edge : EdgeOK src o

theorem CoreKept.step {src : List Row} {M s0 e0 : Int} {o o' : OverlapResult} (hk : CoreKept src M s0 e0 o)
    (hb : o'.bait = o.bait)
    (hl : ∀ x, o.start ≤ x → x < o'.start → ContigAt src x → o.bait.start + M ≤ x → x ≤ o.bait.stop - M → False)
    (hr : ∀ x, o'.stop < x → x ≤ o.stop → ContigAt src x → o.bait.start + M ≤ x → x ≤ o.bait.stop - M → False) :
    CoreKept src M s0 e0 o' := by
  intro x h1 h2 hc h3 h4
  rw [hb] at h3 h4
  obtain ⟨h5, h6⟩ := hk x h1 h2 hc h3 h4
  constructor
  · by_cases hx : x < o'.start
    · exact (hl x h5 hx hc h3 h4).elim
    · omega
  · by_cases hx : o'.stop < x
    · exact (hr x hx h6 hc h3 h4).elim
    · omega

theorem kinv_lookup {src : List Row} {bait : Fragment} {o : OverlapResult} (M : Int) (hd : (ids src).Nodup)
    (h : findOverlaps src bait = .ok (some o)) : KInv src M o.start o.stop bait o := by
  obtain ⟨i, j, _, _, _, _, _, hst, hen, hb⟩ := findOverlaps_fields h
  refine ⟨C18.inv_lookup' hd h, congrArg (·.bait) hb, fun x h1 h2 _ _ _ => ⟨h1, h2⟩, Or.inr ⟨Or.inl ?_, Or.inl ?_⟩⟩
  · exact ⟨src.take i, src.drop i, (List.take_append_drop i src).symm, by omega⟩
  · exact ⟨src.take (j + 1), src.drop (j + 1), (List.take_append_drop (j + 1) src).symm, hen⟩

/-- `hg`: either the new start still lies before the core (guard (b), `improves`) or no position of the discarded first
    row lies in the core (guard (a), see `startA_row_outside`) -/
theorem kinv_discardStart {src : List Row} {M s0 e0 : Int} {p : Fragment} {o o' : OverlapResult} (hlen : NonNeg src)
    (hk : KInv src M s0 e0 p o) (h : discardStart o = .ok o')
    (hg : o'.start ≤ o.bait.start + M ∨
      ∃ d t, o.rows = d :: t ∧ ∀ x, o.start ≤ x → x < o.start + d.length → o.bait.start + M ≤ x → x ≤ o.bait.stop - M → False) :
    KInv src M s0 e0 p o' := by
  obtain ⟨d, t, hrows, hen, hb, _, hrow, hbd⟩ := discardStart_geom hlen hk.inv h
  refine ⟨C18.inv_discardStart hk.inv h, hb.trans hk.bait, hk.core.step hb ?_ (fun x h1 h2 => by omega), ?_⟩
  · intro x h1 h2 hc h3 h4
    rcases hg with hg | ⟨d', t', hr', hout⟩
    · omega
    · rw [hrows] at hr'
      cases hr'
      exact hout x h1 (hrow x h2 hc) h3 h4
  · rcases hbd with h0 | hbd
    · exact Or.inl h0
    · rcases hk.edge with he | ⟨_, he⟩
      · rw [hrows] at he; cases he
      · exact Or.inr ⟨Or.inl hbd, by rw [hen, hb]; exact he⟩

theorem startRow_overlap_lt {o : OverlapResult} {err ov : Int} {r : Row} {t : List Row} (hr : o.rows = r :: t)
    (hov : startRowBaitOverlap o = .ok ov) (hlt : ov < err) :
    o.bait.stop - o.bait.start + 1 < err ∨ o.bait.stop - o.start + 1 < err ∨ o.start + r.length - o.bait.start < err ∨
      r.length < err := by
  rw [startRowBaitOverlap_ok hr] at hov
  simp only [Except.ok.injEq] at hov
  have h : ¬ err ≤ min o.bait.stop (o.start + r.length - 1) - max o.bait.start o.start + 1 := by
    have := Int.le_max_right 0 (min o.bait.stop (o.start + r.length - 1) - max o.bait.start o.start + 1)
    omega
  rw [le_overlap_iff] at h
  omega

theorem startA_row_outside {o : OverlapResult} {err ov : Int} {r : Row} {t : List Row} (herr : 0 ≤ err)
    (hr : o.rows = r :: t) (hov : startRowBaitOverlap o = .ok ov) (hlt : ov < err)
    (hout : o.start < o.bait.start ∨ o.bait.stop < o.start + r.length - 1) :
    ∀ x, o.start ≤ x → x < o.start + r.length → o.bait.start + 3 * err ≤ x → x ≤ o.bait.stop - 3 * err → False := by
  intro x h1 h2 h3 h4
  have := startRow_overlap_lt hr hov hlt
  omega

theorem startB_bound {o o' : OverlapResult} {a err : Int} (ha : overhangIfStartRemoved o = .ok a) (hgt : a > -3 * err)
    (h : discardStart o = .ok o') : o'.start < o.bait.start + 3 * err := by
  obtain ⟨_, _, _, _, _, _, hb⟩ := discardStart_full h
  obtain ⟨o'', h'', hx⟩ := overhangIfStartRemoved_eq ha
  rw [h] at h''; cases h''
  simp only [startOverhang, hb] at hx
  omega

theorem kinv_discardEnd {src : List Row} {M s0 e0 : Int} {p : Fragment} {o o' : OverlapResult} (hlen : NonNeg src)
    (hk : KInv src M s0 e0 p o) (h : discardEnd o = .ok o')
    (hg : o.bait.stop - M ≤ o'.stop ∨
      ∃ d t, o.rows = t ++ [d] ∧ ∀ x, o.stop - d.length < x → x ≤ o.stop → o.bait.start + M ≤ x → x ≤ o.bait.stop - M → False) :
    KInv src M s0 e0 p o' := by
  obtain ⟨d, t, hrows, hst, hb, _, hrow, hbd⟩ := discardEnd_geom hlen hk.inv h
  refine ⟨C18.inv_discardEnd hk.inv h, hb.trans hk.bait, hk.core.step hb (fun x h1 h2 => by omega) ?_, ?_⟩
  · intro x h1 h2 hc h3 h4
    rcases hg with hg | ⟨d', t', hr', hout⟩
    · omega
    · rw [hrows] at hr'
      obtain rfl := List.singleton_inj.mp (List.append_inj' hr' rfl).2
      exact hout x (hrow x h1 hc) h2 h3 h4
  · rcases hbd with h0 | hbd
    · exact Or.inl h0
    · rcases hk.edge with he | ⟨he, _⟩
      · rw [hrows] at he; simp at he
      · exact Or.inr ⟨by rw [hst, hb]; exact he, Or.inl hbd⟩

theorem endRow_overlap_lt {o : OverlapResult} {err ov : Int} {r : Row} {t : List Row} (hr : o.rows = t ++ [r])
    (hov : endRowBaitOverlap o = .ok ov) (hlt : ov < err) :
    o.bait.stop - o.bait.start + 1 < err ∨ o.bait.stop - (o.stop - r.length) < err ∨ o.stop - o.bait.start + 1 < err ∨
      r.length < err := by
  rw [endRowBaitOverlap_ok hr] at hov
  simp only [Except.ok.injEq] at hov
  have h : ¬ err ≤ min o.bait.stop o.stop - max o.bait.start (o.stop - r.length + 1) + 1 := by
    have := Int.le_max_right 0 (min o.bait.stop o.stop - max o.bait.start (o.stop - r.length + 1) + 1)
    omega
  rw [le_overlap_iff] at h
  omega

theorem endA_row_outside {o : OverlapResult} {err ov : Int} {r : Row} {t : List Row} (herr : 0 ≤ err)
    (hr : o.rows = t ++ [r]) (hov : endRowBaitOverlap o = .ok ov) (hlt : ov < err)
    (hout : o.stop - r.length + 1 < o.bait.start ∨ o.bait.stop < o.stop) :
    ∀ x, o.stop - r.length < x → x ≤ o.stop → o.bait.start + 3 * err ≤ x → x ≤ o.bait.stop - 3 * err → False := by
  intro x h1 h2 h3 h4
  have := endRow_overlap_lt hr hov hlt
  omega

theorem endB_bound {o o' : OverlapResult} {a err : Int} (ha : overhangIfEndRemoved o = .ok a) (hgt : a > -3 * err)
    (h : discardEnd o = .ok o') : o.bait.stop - 3 * err < o'.stop := by
  obtain ⟨_, _, _, _, _, _, hb⟩ := discardEnd_full h
  obtain ⟨o'', h'', hx⟩ := overhangIfEndRemoved_eq ha
  rw [h] at h''; cases h''
  simp only [endOverhang, hb] at hx
  omega

theorem trimLarge_induct {P : OverlapResult → Prop} {o o' : OverlapResult} {err : Int}
    (h : trimLargeOverhangs o err = .ok o') (h0 : P o)
    (hs : ∀ {o o1}, P o → StartGuard o err → discardStart o = .ok o1 → P o1)
    (he : ∀ {o o1}, P o → EndGuard o err → discardEnd o = .ok o1 → P o1) : P o' := by
  rcases trimLarge_char h with ⟨_, rfl⟩ | ⟨_, o1, h1, h2⟩
  · exact h0
  · have h1' : P o1 := by
      rcases h1 with ⟨hg, hd⟩ | ⟨_, rfl⟩
      · exact hs h0 hg hd
      · exact h0
    rcases h2 with ⟨_, _, rfl⟩ | ⟨_, ⟨hg, hd⟩ | ⟨_, rfl⟩⟩
    · exact h1'
    · exact he h1' hg hd
    · exact h1'

theorem kinv_trimLarge {src : List Row} {s0 e0 err : Int} {p : Fragment} {o o' : OverlapResult}
    (hlen : NonNeg src) (herr : 0 ≤ err) (hk : KInv src (3 * err) s0 e0 p o)
    (h : trimLargeOverhangs o err = .ok o') : KInv src (3 * err) s0 e0 p o' := by
  refine trimLarge_induct h hk ?_ ?_
  · intro o o1 hk ⟨hov, ov, hv, hlt⟩ hd
    obtain ⟨d, G, hrows, _⟩ := discardStart_full hd
    refine kinv_discardStart hlen hk hd (Or.inr ⟨d, _, hrows, startA_row_outside herr hrows hv hlt (Or.inl ?_)⟩)
    simp only [startOverhang] at hov; omega
  · intro o o1 hk ⟨hov, ov, hv, hlt⟩ hd
    obtain ⟨d, G, hrows, _⟩ := discardEnd_full hd
    refine kinv_discardEnd hlen hk hd (Or.inr ⟨d, _, hrows, endA_row_outside herr hrows hv hlt (Or.inr ?_)⟩)
    simp only [endOverhang] at hov; omega

/-- the core position facts need nothing about which row is trimmed -/
theorem trimFragment_ends {o o' : OverlapResult} {f new : Fragment} {ks ke : Bool} {oid : Nat}
    (h : trimFragment o f ks ke oid = .ok (o', new)) :
    o'.bait = o.bait ∧ (o'.start = o.start ∨ (o.start < o.bait.start ∧ o'.start = o.bait.start)) ∧
    (o'.stop = o.stop ∨ (o.bait.stop < o.stop ∧ o'.stop = o.bait.stop)) := by
  obtain ⟨a, b, -, -, -, -, -, -, rfl⟩ := trimFragment_ok_iff.mp h
  refine ⟨rfl, ?_, ?_⟩
  · rcases startCut_cases o a ks with h0 | ⟨-, -, h1, h2⟩
    · exact Or.inl (by show o.start + startCut o a ks = o.start; omega)
    · exact Or.inr ⟨h1, h2⟩
  · rcases endCut_cases o b ke with h0 | ⟨-, -, h1, h2⟩
    · exact Or.inl (by show o.stop - endCut o b ke = o.stop; omega)
    · exact Or.inr ⟨h1, h2⟩

theorem kinv_trimFragment {src : List Row} {M s0 e0 : Int} {p : Fragment} {o o' : OverlapResult} {f new : Fragment}
    {ks ke : Bool} {oid : Nat} (hM : 0 ≤ M) (hk : KInv src M s0 e0 p o)
    (hr : (∃ t, o.rows = .frag f :: t) ∨ (∃ t, o.rows = t ++ [.frag f])) (hfresh : oid ∉ ids o.rows)
    (h : trimFragment o f ks ke oid = .ok (o', new)) : KInv src M s0 e0 p o' := by
  obtain ⟨hb, h1, h2⟩ := trimFragment_ends h
  refine ⟨?_, hb.trans hk.bait,
    hk.core.step hb (fun x _ hx _ h3 _ => by omega) (fun x hx _ _ _ h4 => by omega), ?_⟩
  · rcases hr with ⟨t, hr⟩ | ⟨t, hr⟩
    · exact C18.inv_trimFragment_first hk.inv hr hfresh h
    · exact C18.inv_trimFragment_last hk.inv hr hfresh h
  · rcases hk.edge with he | ⟨e1, e2⟩
    · rw [he] at hr; simp at hr
    · right
      constructor
      · rcases h1 with h1 | ⟨_, h1⟩
        · rw [h1, hb]; exact e1
        · right; rw [h1, hb]
      · rcases h2 with h2 | ⟨_, h2⟩
        · rw [h2, hb]; exact e2
        · right; rw [h2, hb]

/-- one operation on an `OverlapResult`, applied under the guard the pipeline applies it under:
    * `trim_large_overhangs(err)` (its own guards are inside);
    * `discard_start` / `discard_end` under guard (a) — the sub-texel rule: the terminal row shares `< err` bases with the
      bait — for a terminal row that is not wholly inside the bait (in the pipeline: a contig shared with another piece
      whose bait is disjoint), or under guard (b) — `improves`: the what-if overhang is `> −3·err`;
    * `trim_fragment` of the first or last row (new object id fresh). -/
inductive GStep (err : Int) : OverlapResult → OverlapResult → Prop
  | trimLarge {o o'} : trimLargeOverhangs o err = .ok o' → GStep err o o'
  | startA {o o' ov r t} : o.rows = r :: t → startRowBaitOverlap o = .ok ov → ov < err →
      (o.start < o.bait.start ∨ o.bait.stop < o.start + r.length - 1) → discardStart o = .ok o' → GStep err o o'
  | startB {o o' a} : overhangIfStartRemoved o = .ok a → a > -3 * err → discardStart o = .ok o' → GStep err o o'
  | endA {o o' ov r t} : o.rows = t ++ [r] → endRowBaitOverlap o = .ok ov → ov < err →
      (o.stop - r.length + 1 < o.bait.start ∨ o.bait.stop < o.stop) → discardEnd o = .ok o' → GStep err o o'
  | endB {o o' a} : overhangIfEndRemoved o = .ok a → a > -3 * err → discardEnd o = .ok o' → GStep err o o'
  | trim {o o' f new ks ke oid} : ((∃ t, o.rows = .frag f :: t) ∨ (∃ t, o.rows = t ++ [.frag f])) → oid ∉ ids o.rows →
      trimFragment o f ks ke oid = .ok (o', new) → GStep err o o'

inductive GRun (err : Int) : OverlapResult → OverlapResult → Prop
  | refl {o} : GRun err o o
  | step {o o1 o2} : GRun err o o1 → GStep err o1 o2 → GRun err o o2

theorem kinv_step {src : List Row} {s0 e0 err : Int} {p : Fragment} {o o' : OverlapResult}
    (hlen : NonNeg src) (herr : 0 ≤ err) (hk : KInv src (3 * err) s0 e0 p o) (h : GStep err o o') :
    KInv src (3 * err) s0 e0 p o' := by
  cases h with
  | trimLarge h => exact kinv_trimLarge hlen herr hk h
  | startA hr hov hlt hout h =>
    exact kinv_discardStart hlen hk h (Or.inr ⟨_, _, hr, startA_row_outside herr hr hov hlt hout⟩)
  | startB ha hgt h => exact kinv_discardStart hlen hk h (Or.inl (Int.le_of_lt (startB_bound ha hgt h)))
  | endA hr hov hlt hout h =>
    exact kinv_discardEnd hlen hk h (Or.inr ⟨_, _, hr, endA_row_outside herr hr hov hlt hout⟩)
  | endB ha hgt h => exact kinv_discardEnd hlen hk h (Or.inl (Int.le_of_lt (endB_bound ha hgt h)))
  | trim hr hf h => exact kinv_trimFragment (by omega) hk hr hf h

theorem kinv_run {src : List Row} {s0 e0 err : Int} {p : Fragment} {o o' : OverlapResult}
    (hlen : NonNeg src) (herr : 0 ≤ err) (hk : KInv src (3 * err) s0 e0 p o) (h : GRun err o o') :
    KInv src (3 * err) s0 e0 p o' := by
  induction h with
  | refl => exact hk
  | step _ hs ih => exact kinv_step hlen herr ih hs

end AgpTpf.C02
