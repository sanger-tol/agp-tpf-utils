/-
  C02 — helper lemmas for M3 (`OverhangPremise.improves`) and M4 (`OverhangResolver.make_fixes`, one premise list).
-/
import AgpTpf.Proofs.C18
import AgpTpf.Proofs.C01Qc
import AgpTpf.Proofs.Lib.Py
import AgpTpf.Proofs.Lib.Pipeline
namespace AgpTpf.C02
open AgpTpf OverlapResult

def Premise.currentOverhang (p : Premise) (store : List Res) : Int :=
  match p.kind with
  | .start => (getRes store p.sid).startOverhang
  | .stop => (getRes store p.sid).endOverhang

theorem delta_eq {p : Premise} {store : List Res} {a : Int} (ha : p.overhangIfApplied store = .ok a) :
    p.delta store = .ok (iabs a - iabs (Premise.currentOverhang p store)) := by
  unfold Premise.delta Premise.currentOverhang
  rw [ha]; rfl

theorem delta_ok {p : Premise} {store : List Res} {d : Int} (hd : p.delta store = .ok d) :
    ∃ a, p.overhangIfApplied store = .ok a ∧ d = iabs a - iabs (Premise.currentOverhang p store) := by
  cases ha : p.overhangIfApplied store with
  | error e =>
    unfold Premise.delta at hd
    rw [ha] at hd; cases hd
  | ok a =>
    rw [delta_eq ha] at hd
    cases hd
    exact ⟨a, rfl, rfl⟩

theorem overhangIfApplied_rows_ne {p : Premise} {store : List Res} {a : Int}
    (ha : p.overhangIfApplied store = .ok a) : (getRes store p.sid).rows ≠ [] := by
  intro h0
  unfold Premise.overhangIfApplied at ha
  cases hk : p.kind with
  | start =>
    rw [hk] at ha
    simp only [overhangIfStartRemoved, h0] at ha
    cases ha
  | stop =>
    rw [hk] at ha
    simp only [overhangIfEndRemoved, h0, List.reverse_nil] at ha
    cases ha

theorem improves_eq {p : Premise} {store : List Res} {err a : Int} (ha : p.overhangIfApplied store = .ok a) :
    p.improves store err =
      .ok (decide ((getRes store p.sid).rows.length ≠ 1 ∧
                   iabs a - iabs (Premise.currentOverhang p store) < 0 ∧
                   a > Gen.improvesGuardFactor * err)) := by
  unfold Premise.improves
  split
  · rename_i h1; simp [h1, pure, Except.pure]
  · rename_i h1
    rw [delta_eq ha]
    simp only [bind, Except.bind]
    split
    · rename_i h2
      rw [ha]
      simp only [pure, Except.pure, Except.ok.injEq]
      by_cases h3 : a > Gen.improvesGuardFactor * err <;> simp [h1, h2, h3]
    · rename_i h2
      simp [h2, pure, Except.pure]

theorem improves_deep {p : Premise} {store : List Res} {err a : Int}
    (ha : p.overhangIfApplied store = .ok a) (hdeep : a ≤ -3 * err) : p.improves store err = .ok false := by
  rw [improves_eq ha]
  have : Gen.improvesGuardFactor = -3 := by decide
  rw [this]
  congr 1
  rw [decide_eq_false_iff_not]
  intro ⟨_, _, h3⟩
  omega

theorem improves_true {p : Premise} {store : List Res} {err : Int} (h : p.improves store err = .ok true) :
    2 ≤ (getRes store p.sid).rows.length ∧
    ∃ a, p.overhangIfApplied store = .ok a ∧
      iabs a - iabs (Premise.currentOverhang p store) < 0 ∧
      a > Gen.improvesGuardFactor * err := by
  cases ha : p.overhangIfApplied store with
  | error e =>
    unfold Premise.improves Premise.delta at h
    rw [ha] at h
    split at h <;> cases h
  | ok a =>
    rw [improves_eq ha, Except.ok.injEq, decide_eq_true_eq] at h
    have : (getRes store p.sid).rows.length ≠ 0 :=
      fun h0 => overhangIfApplied_rows_ne ha (List.length_eq_zero_iff.mp h0)
    exact ⟨by omega, a, rfl, h.2⟩

theorem improves_ok_of_rows {p : Premise} {store : List Res} (h : (getRes store p.sid).rows ≠ []) :
    ∃ a, p.overhangIfApplied store = .ok a := by
  unfold Premise.overhangIfApplied
  cases p.kind with
  | start =>
    simp only [overhangIfStartRemoved]
    split
    · rename_i h0; exact absurd h0 h
    · exact ⟨_, rfl⟩
  | stop =>
    simp only [overhangIfEndRemoved]
    split
    · rename_i h0; exact absurd (List.reverse_eq_nil_iff.mp h0) h
    · exact ⟨_, rfl⟩

/-- the general rule of `make_fixes` (the `elif len(premises) > 1` … block) -/
def generalRule (err : Int) (store : List Res) (fixes : List Premise) (ps : List Premise) :
    R (List Res × List Premise) :=
  Pipeline.generalChoice err store ps >>= Pipeline.applyChoice store fixes

theorem sortPrems_spec {store : List Res} {ps sorted : List Premise} (h : sortPremsByDelta store ps = .ok sorted) :
    sorted.Perm ps ∧
    ∃ keyed : List (Int × Premise), keyed.map (·.2) = sorted ∧ (∀ kp ∈ keyed, kp.2.delta store = .ok kp.1) ∧
      keyed.Pairwise (fun a b => a.1 ≤ b.1) :=
  sortedByKeyM_ok h

theorem sortPrems_head_min {store : List Res} {ps rest : List Premise} {bst : Premise}
    (h : sortPremsByDelta store ps = .ok (bst :: rest)) :
    bst ∈ ps ∧ (∀ q ∈ rest, q ∈ ps) ∧
    ∃ db, bst.delta store = .ok db ∧ ∀ q ∈ ps, ∃ dq, q.delta store = .ok dq ∧ db ≤ dq := by
  obtain ⟨hperm, keyed, hk1, hk2, hk3⟩ := sortPrems_spec h
  refine ⟨hperm.mem_iff.mp (by simp), fun q hq => hperm.mem_iff.mp (by simp [hq]), ?_⟩
  cases keyed with
  | nil => simp at hk1
  | cons kb kt =>
    simp only [List.map_cons, List.cons.injEq] at hk1
    obtain ⟨hb, ht⟩ := hk1
    rw [List.pairwise_cons] at hk3
    refine ⟨kb.1, by rw [← hb]; exact hk2 kb (by simp), ?_⟩
    intro q hq
    have hq' : q ∈ bst :: rest := hperm.mem_iff.mpr hq
    rcases List.mem_cons.mp hq' with rfl | hq'
    · exact ⟨kb.1, by rw [← hb]; exact hk2 kb (by simp), by omega⟩
    · rw [← ht] at hq'
      obtain ⟨kq, hkq, rfl⟩ := List.mem_map.mp hq'
      exact ⟨kq.1, hk2 kq (by simp [hkq]), hk3.1 kq hkq⟩

theorem delta_returns {p : Premise} {store : List Res} (h : (getRes store p.sid).rows ≠ []) :
    ∃ d, p.delta store = .ok d := by
  obtain ⟨a, ha⟩ := improves_ok_of_rows h
  exact ⟨_, delta_eq ha⟩

theorem sortPrems_returns {store : List Res} {ps : List Premise} (h : ∀ p ∈ ps, (getRes store p.sid).rows ≠ []) :
    ∃ sorted, sortPremsByDelta store ps = .ok sorted := by
  unfold sortPremsByDelta
  obtain ⟨keyed, hk⟩ := _root_.AgpTpf.mapM_ok_of_forall (f := fun p : Premise => do let d ← p.delta store; pure (d, p)) (l := ps) (by
    intro p hp
    obtain ⟨d, hd⟩ := delta_returns (h p hp)
    exact ⟨(d, p), by simp only [hd, bind, Except.bind, pure, Except.pure]⟩)
  simp only [bind, Except.bind, pure, Except.pure] at hk ⊢
  rw [hk]
  exact ⟨_, rfl⟩

theorem apply_only_touches {p : Premise} {store store' : List Res} (h : p.apply store = .ok store') :
    store'.length = store.length ∧ (∀ i, i ≠ p.sid → store'[i]? = store[i]?) ∧
    ∃ o', (match p.kind with
            | .start => (getRes store p.sid).discardStart
            | .stop => (getRes store p.sid).discardEnd) = .ok o' ∧
          store' = store.set p.sid { store.getD p.sid default with o := o' } := by
  obtain ⟨o', ho, rfl⟩ := Pipeline.apply_ok h
  exact ⟨Pipeline.length_setAt _ _ _, fun i hi => List.getElem?_set_ne (fun e => hi e.symm), o', ho, rfl⟩

end AgpTpf.C02
