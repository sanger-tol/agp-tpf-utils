/-
  C10 uniqueness, part 5: the hypotheses of the uniqueness theorem (`NamesOutsideGenerated`,
  `TaggedOneHaplotype`) as explicit, decidable conditions on the input scaffolds, the Pretext scaffolds and the prefix,
  and the small facts that connect them to the proof.
-/
import AgpTpf.Proofs.C10UNamer
namespace AgpTpf.C10
open AgpTpf

/-- names of all fragments: for Pretext scaffolds the input scaffold each piece lies on, for input scaffolds the contigs -/
def fragNames (l : List Scaffold) : List Str := l.flatMap (fun s => s.fragments.map (·.name))

def unlocInfixStr : Str := ['_', 'u', 'n', 'l', 'o', 'c', '_']

/-- `p` is not a prefix of `t` nor of any `t_unloc_<k>`: neither of `p`, `t ++ "_unloc_"` is a prefix of the other -/
def prefixFree (p t : Str) : Bool := !p.isPrefixOf (t ++ unlocInfixStr) && !(t ++ unlocInfixStr).isPrefixOf p

/-- the name has a character that is neither a digit nor one of `_ u n l o c` (every `Scaffold_<n>` has: the `S`) -/
def unlocFreeName (o : Str) : Bool := o.any (fun c => !isDigit c && !(['_', 'u', 'n', 'l', 'o', 'c'].contains c))

/-- clause 1: input scaffold names lie outside the generated `<prefix>…` namespace -/
abbrev InputOutsidePrefix (input : List Scaffold) (prefix_ : Str) : Prop :=
  ∀ sc ∈ input, prefix_.isPrefixOf sc.name = false

/-- clause 2: no name read by `haplotype_from_first_row_name` (`^([^_]+)_.+_\d+$`: the input scaffold names the Pretext
    pieces refer to, the input contig names) yields one of the tag words `Contaminant`, `FalseDuplicate`, `Haplotig`
    as haplotype (finding F16) -/
abbrev NoTagWordHaplotype (input ptx : List Scaffold) : Prop :=
  ∀ nm ∈ fragNames ptx ++ fragNames input, hapPrefixOfName nm ∉ C10U.tagWords

/-- clause 3: the chromosome-name tags used do not run into the prefix (`add_chr_prefix` leaves names alone that
    already start with it) -/
abbrev ChrTagsPrefixFree (ptx : List Scaffold) (prefix_ : Str) : Prop :=
  ∀ ps ∈ ptx, ∀ t ∈ ps.fragmentTags, isChrNameTag t = true → prefixFree prefix_ t = true

/-- clause 4: no chromosome-name tag is `<digits><one character>` — the shape `<n>A`, `<n>B` … that `multi_chr_list`
    generates in multi-haplotype maps -/
abbrev ChrTagsNotNumLetter (ptx : List Scaffold) : Prop :=
  ∀ ps ∈ ptx, ∀ t ∈ ps.fragmentTags, isChrNameTag t = true → C10U.isNumLetter t = false

/-- clause 5: painted Pretext scaffold names cannot occur inside `_unloc_<k>` (`str.replace` replaces every
    occurrence of the Pretext name) -/
abbrev PaintedNamesUnlocFree (ptx : List Scaffold) : Prop :=
  ∀ ps ∈ ptx, sPainted ∈ ps.fragmentTags → unlocFreeName ps.name = true

/-- clause 6, an artefact of the model (`Char.ofNat` on surrogates): at most 55231 Pretext scaffolds -/
abbrev FewScaffolds (ptx : List Scaffold) : Prop := ptx.length ≤ letterBound

/-- **U2.**  The hypothesis of the uniqueness theorem for the curated assemblies and the haplotig assembly. -/
structure NamesOutsideGenerated (input ptx : List Scaffold) (prefix_ : Str) : Prop where
  inputOutsidePrefix : InputOutsidePrefix input prefix_
  noTagWordHaplotype : NoTagWordHaplotype input ptx
  chrTagsPrefixFree : ChrTagsPrefixFree ptx prefix_
  chrTagsNotNumLetter : ChrTagsNotNumLetter ptx
  paintedNamesUnlocFree : PaintedNamesUnlocFree ptx
  fewScaffolds : FewScaffolds ptx

theorem namesOutsideGenerated_iff (input ptx : List Scaffold) (prefix_ : Str) :
    NamesOutsideGenerated input ptx prefix_ ↔
      InputOutsidePrefix input prefix_ ∧ NoTagWordHaplotype input ptx ∧ ChrTagsPrefixFree ptx prefix_ ∧
      ChrTagsNotNumLetter ptx ∧ PaintedNamesUnlocFree ptx ∧ FewScaffolds ptx :=
  ⟨fun h => ⟨h.1, h.2, h.3, h.4, h.5, h.6⟩, fun ⟨a, b, c, d, e, f⟩ => ⟨a, b, c, d, e, f⟩⟩

instance (input ptx : List Scaffold) (prefix_ : Str) : Decidable (NamesOutsideGenerated input ptx prefix_) :=
  decidable_of_iff _ (namesOutsideGenerated_iff input ptx prefix_).symm

def hasTarget (s : Scaffold) : Bool := s.fragmentTags.contains sTarget

/-- the tag would be read as a haplotype name by `make_scaffold_name` -/
def isHapTag (t : Str) : Bool := decide (C17.tagClass t = .hap)

/-- no haplotype tag in the scaffold's tag set and no haplotype prefix in its first row's name: its pieces get no
    haplotype -/
def hapFreeSc (ps : Scaffold) : Bool :=
  ps.fragmentTags.all (fun t => !isHapTag t) &&
  (match ps.rows.head? with
   | some (.frag f) => (hapPrefixOfName f.name).isNone
   | _ => true)

/-- some piece of the Pretext scaffold may be tagged Contaminant / FalseDuplicate: it carries such a tag, or the map
    uses Target tags (`target`) and this scaffold has none -/
def mayBeTagged (target : Bool) (ps : Scaffold) : Bool :=
  ps.fragments.any (fun f => f.tags.contains sContaminant || f.tags.contains sFalseDuplicate) || (target && !hasTarget ps)

def fragHapFree (f : Fragment) : Bool := f.tags.all (fun t => t.isEmpty || !isHapTag t) && (hapPrefixOfName f.name).isNone

/-- clause 7a: a Pretext scaffold that may hold a Contaminant / FalseDuplicate piece carries no haplotype -/
abbrev TaggedPiecesNoHaplotype (input ptx : List Scaffold) : Prop :=
  ∀ ps ∈ ptx, mayBeTagged ((ptx ++ input).any hasTarget) ps = true → hapFreeSc ps = true

/-- clause 7b: when Target tags are used (left-overs become contaminants), no input contig carries a haplotype -/
abbrev TargetLeftoversNoHaplotype (input ptx : List Scaffold) : Prop :=
  (ptx ++ input).any hasTarget = true → ∀ sc ∈ input, ∀ f ∈ sc.fragments, fragHapFree f = true

/-- **U2, tagged assemblies.**  "Tagged assemblies: one haplotype": everything that can land in the Contaminant or
    FalseDuplicate assembly carries no haplotype. -/
structure TaggedOneHaplotype (input ptx : List Scaffold) : Prop where
  pieces : TaggedPiecesNoHaplotype input ptx
  leftovers : TargetLeftoversNoHaplotype input ptx

theorem taggedOneHaplotype_iff (input ptx : List Scaffold) :
    TaggedOneHaplotype input ptx ↔ TaggedPiecesNoHaplotype input ptx ∧ TargetLeftoversNoHaplotype input ptx :=
  ⟨fun h => ⟨h.1, h.2⟩, fun ⟨a, b⟩ => ⟨a, b⟩⟩

instance (input ptx : List Scaffold) : Decidable (TaggedOneHaplotype input ptx) :=
  decidable_of_iff _ (taggedOneHaplotype_iff input ptx).symm

end AgpTpf.C10

namespace AgpTpf.C10U
open AgpTpf

theorem noTagWord_of_clause {input ptx : List Scaffold} (h : C10.NoTagWordHaplotype input ptx) (nm : Str)
    (hnm : nm ∈ C10.fragNames ptx ++ C10.fragNames input) (g : Str) (hg : hapPrefixOfName nm = some g) :
    g ∉ tagWordStrs :=
  fun hm => h nm hnm (hg ▸ (List.mem_map_of_mem hm : some g ∈ tagWordStrs.map some))

theorem unlocSuffix_eq (k : Nat) : C10.unlocSuffix k = C10.unlocInfixStr ++ natToStr k := rfl

/-- the literal of the model, read off without running the UTF-8 decoder -/
theorem toList_unloc : "_unloc_".toList = C10.unlocInfixStr := String.toList_ofList

theorem prefixFree_spec (p t : Str) (h : C10.prefixFree p t = true) (suf : Str) (hs : SufOk suf) :
    p.isPrefixOf (t ++ suf) = false := by
  unfold C10.prefixFree at h
  simp only [Bool.and_eq_true, Bool.not_eq_true'] at h
  obtain ⟨h1, h2⟩ := h
  cases hp : p.isPrefixOf (t ++ suf) with
  | false => rfl
  | true =>
    exfalso
    rw [List.isPrefixOf_iff_prefix] at hp
    have no1 : ¬ p <+: t ++ C10.unlocInfixStr := fun h => Bool.false_ne_true (h1 ▸ List.isPrefixOf_iff_prefix.2 h)
    rcases hs with rfl | ⟨k, rfl⟩
    · rw [List.append_nil] at hp
      exact no1 (hp.trans (List.prefix_append _ _))
    · rw [unlocSuffix_eq, ← List.append_assoc] at hp
      have hx : t ++ C10.unlocInfixStr <+: t ++ C10.unlocInfixStr ++ natToStr k := List.prefix_append _ _
      by_cases hlen : p.length ≤ (t ++ C10.unlocInfixStr).length
      · exact no1 (List.prefix_of_prefix_length_le hp hx hlen)
      · exact Bool.false_ne_true (h2 ▸ List.isPrefixOf_iff_prefix.2 (List.prefix_of_prefix_length_le hx hp (by omega)))

theorem unlocFree_of_name (o : Str) (h : C10.unlocFreeName o = true) : UnlocFree o := by
  unfold C10.unlocFreeName at h
  rw [List.any_eq_true] at h
  obtain ⟨c, hc, hcc⟩ := h
  simp only [Bool.and_eq_true, Bool.not_eq_true'] at hcc
  intro k
  exact C10.not_occurs_unloc o k c hc hcc.1 fun hm => Bool.false_ne_true (hcc.2 ▸ List.contains_iff_mem.2 hm)

end AgpTpf.C10U
