/-
  C11: the junction tuple is an injective encoding of the unordered pair of facing contig ends
  (`endLe`, by which `junction_tuple` sorts the two ends, is a total order: `Proofs/Lib/Order.lean`).
-/
import AgpTpf.Proofs.Lib.Py
import AgpTpf.Proofs.Lib.Order
import AgpTpf.Proofs.ImpEval
namespace AgpTpf.C11
open AgpTpf

/-- decidable equality of outcomes, so that the concrete examples can be checked by `decide` -/
instance instDecEqR {α} [DecidableEq α] : DecidableEq (R α) := ImpEval.instDecEqExcept

theorem ite_endLe_swap {β} (f : Str × Int → Str × Int → β) (x y : Str × Int) :
    (if endLe y x then f y x else f x y) = if endLe x y then f x y else f y x := by
  by_cases h1 : endLe x y = true <;> by_cases h2 : endLe y x = true
  · cases endLe_order.antisymm x y h1 h2; rfl
  · simp [h1, h2]
  · simp [h1, h2]
  · exact absurd (endLe_order.total x y) (by simp [h1, h2])

/-- a contig end: (contig name, coordinate, isTail).  `isTail = true`: the end at the contig's `stop`
    coordinate; `false`: the `head`, at its `start` coordinate. -/
abbrev End := Str × Int × Bool

/-- the end of left-hand fragment `a` that faces the junction to its right -/
def leftFacing (a : Fragment) : End :=
  if a.strand = 1 then (a.name, a.stop, true) else (a.name, a.start, false)

/-- the end of right-hand fragment `b` that faces the junction to its left -/
def rightFacing (b : Fragment) : End :=
  if b.strand = 1 then (b.name, b.start, false) else (b.name, b.stop, true)

def facingEnds (a b : Fragment) : End × End := (leftFacing a, rightFacing b)

theorem leftFacing_reverse {b : Fragment} (h : b.strand = 1 ∨ b.strand = -1) : leftFacing b.reverse = rightFacing b := by
  rcases h with h | h <;> simp [leftFacing, rightFacing, Fragment.reverse, h]

theorem rightFacing_reverse {a : Fragment} (h : a.strand = 1 ∨ a.strand = -1) : rightFacing a.reverse = leftFacing a := by
  rcases h with h | h <;> simp [leftFacing, rightFacing, Fragment.reverse, h]

/-- equality of UNORDERED pairs -/
def SameAdj (p q : End × End) : Prop := (p.1 = q.1 ∧ p.2 = q.2) ∨ (p.1 = q.2 ∧ p.2 = q.1)

instance (p q : End × End) : Decidable (SameAdj p q) := by unfold SameAdj; infer_instance

theorem SameAdj.refl (p : End × End) : SameAdj p p := Or.inl ⟨rfl, rfl⟩
theorem SameAdj.symm {p q : End × End} (h : SameAdj p q) : SameAdj q p :=
  h.imp (fun h => ⟨h.1.symm, h.2.symm⟩) (fun h => ⟨h.2.symm, h.1.symm⟩)
theorem SameAdj.swap (p : End × End) : SameAdj p p.swap := Or.inr ⟨rfl, rfl⟩
theorem SameAdj.trans {p q r : End × End} (h1 : SameAdj p q) (h2 : SameAdj q r) : SameAdj p r := by
  unfold SameAdj at *
  rcases h1 with ⟨a, b⟩ | ⟨a, b⟩ <;> rcases h2 with ⟨c, d⟩ | ⟨c, d⟩
  · exact Or.inl ⟨a.trans c, b.trans d⟩
  · exact Or.inr ⟨a.trans c, b.trans d⟩
  · exact Or.inr ⟨a.trans d, b.trans c⟩
  · exact Or.inl ⟨a.trans d, b.trans c⟩

/-- the tuple that encodes an adjacency (specification of `junction_tuple` in terms of contig ends):
    * tail–head  : `(tailName, tailCoord, headName, headCoord)`
    * tail–tail  : ends in ascending order, second one written coordinate-first
    * head–head  : ends in descending order, first one written coordinate-first -/
def encodeAdj (p : End × End) : Junction :=
  match p.1.2.2, p.2.2.2 with
  | true, false => (.s p.1.1, .i p.1.2.1, .s p.2.1, .i p.2.2.1)
  | false, true => (.s p.2.1, .i p.2.2.1, .s p.1.1, .i p.1.2.1)
  | true, true =>
    let x := (p.1.1, p.1.2.1); let y := (p.2.1, p.2.2.1)
    let pq := if endLe x y then (x, y) else (y, x)
    (.s pq.1.1, .i pq.1.2, .i pq.2.2, .s pq.2.1)
  | false, false =>
    let x := (p.1.1, p.1.2.1); let y := (p.2.1, p.2.2.1)
    let pq := if endLe y x then (x, y) else (y, x)
    (.i pq.1.2, .s pq.1.1, .s pq.2.1, .i pq.2.2)

theorem junctionTuple_eq (a b : Fragment) : junctionTuple a b =
    if (a.strand = 1 ∨ a.strand = -1) ∧ (b.strand = 1 ∨ b.strand = -1) then .ok (encodeAdj (facingEnds a b))
    else .error .value := by
  by_cases ha : a.strand = 1 ∨ a.strand = -1
  · by_cases hb : b.strand = 1 ∨ b.strand = -1
    · rw [if_pos ⟨ha, hb⟩]
      rcases ha with ha | ha <;> rcases hb with hb | hb <;>
        simp [junctionTuple, encodeAdj, facingEnds, leftFacing, rightFacing, ha, hb]
    · rw [if_neg fun h => hb h.2]
      simp only [junctionTuple, (not_or.1 hb).1, (not_or.1 hb).2, if_false, ite_self]
  · rw [if_neg fun h => ha h.1]
    simp only [junctionTuple, (not_or.1 ha).1, (not_or.1 ha).2, if_false]

theorem junctionTuple_ok_iff (a b : Fragment) :
    (∃ t, junctionTuple a b = .ok t) ↔ ((a.strand = 1 ∨ a.strand = -1) ∧ (b.strand = 1 ∨ b.strand = -1)) := by
  rw [junctionTuple_eq, ite_ok_iff]

theorem junctionTuple_eq_encodeAdj (a b : Fragment) (ha : a.strand = 1 ∨ a.strand = -1)
    (hb : b.strand = 1 ∨ b.strand = -1) : junctionTuple a b = .ok (encodeAdj (facingEnds a b)) := by
  rw [junctionTuple_eq, if_pos ⟨ha, hb⟩]

theorem encodeAdj_swap (p : End × End) : encodeAdj p.swap = encodeAdj p := by
  obtain ⟨⟨n1, c1, k1⟩, ⟨n2, c2, k2⟩⟩ := p
  cases k1 <;> cases k2 <;> simp only [encodeAdj, Prod.swap]
  · rw [← ite_endLe_swap (fun x y => (y, x))]
  · rw [ite_endLe_swap Prod.mk]

theorem encodeAdj_congr {p q : End × End} (h : SameAdj p q) : encodeAdj p = encodeAdj q := by
  rcases h with ⟨h1, h2⟩ | ⟨h1, h2⟩
  · rw [Prod.ext h1 h2]
  · rw [show p = q.swap from Prod.ext h1 h2, encodeAdj_swap]

def nameOf : JCell → Str | .s x => x | .i _ => []
def coordOf : JCell → Int | .i x => x | .s _ => 0

/-- reading the pair of ends back from its tuple: which cells are names tells the kinds of the two ends -/
def decodeAdj (j : Junction) : End × End :=
  match j.1, j.2.2.1 with
  | .s n1, .s n2 => ((n1, coordOf j.2.1, true), (n2, coordOf j.2.2.2, false))
  | .s n1, .i c2 => ((n1, coordOf j.2.1, true), (nameOf j.2.2.2, c2, true))
  | .i c1, _ => ((nameOf j.2.1, c1, false), (nameOf j.2.2.1, coordOf j.2.2.2, false))

theorem decodeAdj_encodeAdj (p : End × End) : SameAdj (decodeAdj (encodeAdj p)) p := by
  obtain ⟨⟨n1, c1, k1⟩, ⟨n2, c2, k2⟩⟩ := p
  cases k1 <;> cases k2 <;> simp only [encodeAdj]
  · split
    · exact .inl ⟨rfl, rfl⟩
    · exact .inr ⟨rfl, rfl⟩
  · exact .inr ⟨rfl, rfl⟩
  · exact .inl ⟨rfl, rfl⟩
  · split
    · exact .inl ⟨rfl, rfl⟩
    · exact .inr ⟨rfl, rfl⟩

theorem encodeAdj_inj {p q : End × End} (h : encodeAdj p = encodeAdj q) : SameAdj p q :=
  (decodeAdj_encodeAdj p).symm.trans (h ▸ decodeAdj_encodeAdj q)

end AgpTpf.C11
