/-
  C02 (deep cuts): the overhang resolver has nothing to do — every premise it can form concerns a terminal row that shares more
  than `3·err` bases with its bait (or is the only row), so no premise `improves`, and the sub-texel rule does not apply: a round
  makes no fix, and `discard_overhanging_fragments` returns the build unchanged (`discardOverhanging_quiet`; for the maps of this
  family: `discardOverhanging_deepN`, C02DNHyp).  Then what `trim_fragment` returns at a cut site: the new Fragment in terms of
  `cutFragStart` / `cutFragEnd`, and what `trimStartSpec` / `trimEndSpec` do to a result that begins / ends with a contig.
-/
import AgpTpf.Proofs.C02DHyp
import AgpTpf.Proofs.C02Fix
import AgpTpf.Proofs.C02Trim
import AgpTpf.Proofs.C01MiddleRound
import AgpTpf.Properties.C18
import AgpTpf.Proofs.Lib.Py
import AgpTpf.Proofs.Lib.Pipeline
import AgpTpf.Proofs.C02Cut
import AgpTpf.Proofs.Lib.Overlap
namespace AgpTpf.C02
open AgpTpf OverlapResult

theorem leadingGapLength_nonneg (r : List Row) (h : ∀ x ∈ r, 0 ≤ x.length) : 0 ≤ leadingGapLength r := by
  induction r with
  | nil => simp [leadingGapLength]
  | cons x t ih =>
    cases x with
    | frag f => simp [leadingGapLength]
    | gap g =>
      have h1 := h (.gap g) (by simp)
      have h2 := ih (fun y hy => h y (by simp [hy]))
      simp only [leadingGapLength, Row.length] at h1 ⊢
      omega

theorem start_removed_deep {o : OverlapResult} {ov err : Int} (hov : o.startRowBaitOverlap = .ok ov) (h3 : 3 * err < ov)
    (he : 0 ≤ err) (hlen : ∀ x ∈ o.rows, 0 ≤ x.length) : ∃ a, o.overhangIfStartRemoved = .ok a ∧ a ≤ -3 * err := by
  obtain ⟨d, t, hr, hn⟩ := startRowBaitOverlap_eq hov
  have hg := leadingGapLength_nonneg t (fun y hy => hlen y (by rw [hr]; simp [hy]))
  unfold overhangIfStartRemoved
  rw [hr]
  exact ⟨_, rfl, by omega⟩

theorem end_removed_deep {o : OverlapResult} {ov err : Int} (hov : o.endRowBaitOverlap = .ok ov) (h3 : 3 * err < ov)
    (he : 0 ≤ err) (hlen : ∀ x ∈ o.rows, 0 ≤ x.length) : ∃ a, o.overhangIfEndRemoved = .ok a ∧ a ≤ -3 * err := by
  obtain ⟨d, t, hr, hn⟩ := endRowBaitOverlap_eq hov
  have hg := leadingGapLength_nonneg t.reverse (fun y hy => hlen y (by rw [hr]; simp at hy ⊢; exact Or.inl hy))
  unfold overhangIfEndRemoved
  rw [hr]
  simp only [List.reverse_append, List.reverse_cons, List.reverse_nil, List.nil_append, List.cons_append]
  exact ⟨_, rfl, by omega⟩

/-- a premise the resolver will never act on -/
def QuietP (store : List Res) (err : Int) (p : Premise) : Prop :=
  (getRes store p.sid).rows ≠ [] ∧ (∃ ov, p.baitOverlap store = .ok ov ∧ err ≤ ov) ∧ p.improves store err = .ok false

theorem improves_single {p : Premise} {store : List Res} {err : Int} (h : (getRes store p.sid).rows.length = 1) :
    p.improves store err = .ok false := by
  unfold Premise.improves
  simp [h, pure, Except.pure]

theorem generalChoice_quiet (err : Int) (store : List Res) (ps : List Premise) (hq : ∀ p ∈ ps, QuietP store err p) :
    Pipeline.generalChoice err store ps = .ok none := by
  unfold Pipeline.generalChoice
  split
  · obtain ⟨sorted, hs⟩ := sortPrems_returns fun p hp => (hq p hp).1
    rw [hs]
    simp only [bind, Except.bind]
    match sorted, hs with
    | [], _ => rfl
    | [_], _ => rfl
    | bst :: nxt :: rest, hs =>
      have hb := (sortPrems_head_min hs).1
      simp only [(hq bst hb).2.2, Bool.false_eq_true, if_false, pure, Except.pure]
  · rfl

/-- no premise is chosen: with two premises the first bait overlap is not below `err`, and the general rule finds no
    premise that improves -/
theorem fixOne_quiet (err : Int) (store : List Res) (fixes ps : List Premise) (hq : ∀ p ∈ ps, QuietP store err p) :
    fixOne err (store, fixes) ps = .ok (store, fixes) := by
  apply Pipeline.fixOne_of_none
  have hg := generalChoice_quiet err store ps hq
  unfold Pipeline.fixChoice Pipeline.subTexelChoice
  rcases ps with _ | ⟨frst, _ | ⟨scnd, _ | ⟨c, t⟩⟩⟩
  · exact hg
  · exact hg
  · obtain ⟨fo, hfo, hge⟩ := (hq frst (by simp)).2.1
    have : ¬ fo < err := by omega
    simp only [hfo, bind, Except.bind, this, if_false, pure, Except.pure]
    exact hg
  · exact hg

theorem fixFold_quiet (err : Int) (store : List Res) (prems : List (Key × List Premise))
    (hq : ∀ e ∈ prems, ∀ p ∈ e.2, QuietP store err p) (fixes : List Premise) :
    (prems.map (·.2)).foldlM (fixOne err) (store, fixes) = .ok (store, fixes) := by
  induction prems with
  | nil => rfl
  | cons e t ih =>
    simp only [List.map_cons, List.foldlM_cons, fixOne_quiet err store fixes e.2 (hq e (by simp)), bind, Except.bind]
    exact ih (fun x hx => hq x (by simp [hx]))

theorem discardOverhanging_quiet {b : Build}
    (hq : ∀ k ∈ b.multi, ∀ fnd, dGet? b.found k = some fnd → ∀ sid ∈ fnd.scaffolds, (getRes b.store sid).rows ≠ [] ∧
      ∀ p, Pipeline.premiseOf b.store fnd.fragment sid = .ok (some p) → QuietP b.store b.err p) (fuel : Nat) :
    discardOverhanging (fuel + 1) b = .ok b := by
  obtain ⟨prems, hprems⟩ := Pipeline.roundPremises_total fun k hk fnd hf sid hsid => (hq k hk fnd hf sid hsid).1
  have hQ := (Pipeline.roundPremises_filed hprems fun k hk fnd hf sid hsid => (hq k hk fnd hf sid hsid).2).2
  rw [Pipeline.discardOverhanging_succ]
  split
  · rfl
  · rw [Pipeline.resolverRound_eq, hprems]
    simp only [bind, Except.bind, fixFold_quiet b.err b.store prems (fun e he p hp => ((hQ e he).2 p hp).2) []]
    rfl

theorem quiet_start_of (store : List Res) (sid : Nat) (F : Fragment) (err ov : Int)
    (hne : (getRes store sid).rows ≠ [])
    (hov : (getRes store sid).startRowBaitOverlap = .ok ov) (hge : err ≤ ov)
    (himp : (getRes store sid).rows.length = 1 ∨ ∃ a, (getRes store sid).overhangIfStartRemoved = .ok a ∧ a ≤ -3 * err) :
    QuietP store err { kind := .start, sid := sid, fragment := F } := by
  refine ⟨hne, ⟨ov, hov, hge⟩, ?_⟩
  rcases himp with h | ⟨a, ha, hle⟩
  · exact improves_single h
  · exact improves_deep (p := { kind := .start, sid := sid, fragment := F }) ha hle

theorem quiet_stop_of (store : List Res) (sid : Nat) (F : Fragment) (err ov : Int)
    (hne : (getRes store sid).rows ≠ [])
    (hov : (getRes store sid).endRowBaitOverlap = .ok ov) (hge : err ≤ ov)
    (himp : (getRes store sid).rows.length = 1 ∨ ∃ a, (getRes store sid).overhangIfEndRemoved = .ok a ∧ a ≤ -3 * err) :
    QuietP store err { kind := .stop, sid := sid, fragment := F } := by
  refine ⟨hne, ⟨ov, hov, hge⟩, ?_⟩
  rcases himp with h | ⟨a, ha, hle⟩
  · exact improves_single h
  · exact improves_deep (p := { kind := .stop, sid := sid, fragment := F }) ha hle

theorem getRes_expectedStore (input ptx : List Scaffold) (i : Nat) (hi : i < (allPieces ptx).length) :
    getRes (expectedStore input ptx) i = labelled (pieceAt ptx i).1 (pieceO input (pieceAt ptx i).2) := by
  unfold getRes
  rw [expectedStore_eq_map, List.getD_eq_getElem?_getD, List.getElem?_map, (pieceAt_mem ptx i hi).2]
  rfl

theorem single_of_first_last_oid {rows t t' : List Row} {g F : Fragment} (h1 : rows = .frag g :: t)
    (h2 : rows = t' ++ [.frag F]) (hoid : g.oid = F.oid) (hnd : (C18.ids rows).Nodup) : t = [] ∧ g = F := by
  cases t' with
  | nil =>
    rw [h1] at h2
    simp only [List.nil_append, List.cons.injEq, Row.frag.injEq] at h2
    exact ⟨h2.2, h2.1⟩
  | cons y t'' =>
    rw [h1] at h2
    simp only [List.cons_append, List.cons.injEq] at h2
    obtain ⟨rfl, rfl⟩ := h2
    rw [h1, C18.ids_cons_frag, C18.ids_append, List.nodup_cons] at hnd
    exact absurd (by rw [hoid]; simp [C18.ids, fragmentsOf]) hnd.1

theorem rows_len_nonneg {input : List Scaffold} {p : Fragment} (hf : PieceFacts input p)
    (hlen : ∀ sc ∈ input, ∀ r ∈ sc.rows, 0 ≤ r.length) : ∀ x ∈ (pieceO input p).rows, 0 ≤ x.length := by
  obtain ⟨sc, hsc, hinf⟩ := hf.slice
  exact fun x hx => hlen sc hsc x (hinf.subset hx)

theorem quiet_b {input ptx : List Scaffold} {err : Int} (hd : DeepBase input ptx err) (x : Site) (hx : SiteOk input ptx err x) :
    (getRes (expectedStore input ptx) x.b).rows ≠ [] ∧ ∀ p,
      Pipeline.premiseOf (expectedStore input ptx) x.frag x.b = .ok (some p) → QuietP (expectedStore input ptx) err p := by
  have hget := getRes_expectedStore input ptx x.b hx.inB
  obtain ⟨hk, hf⟩ := hd.piece x.b hx.inB
  obtain ⟨t, ht⟩ := List.head?_eq_some_iff.1 hx.headB
  have hne : (getRes (expectedStore input ptx) x.b).rows ≠ [] := by rw [hget]; exact hf.ne
  have hfirst : (getRes (expectedStore input ptx) x.b).firstIs x.frag = .ok true := by
    rw [hget, firstIs_cons (labelled (pieceAt ptx x.b).1 (pieceO input (pieceAt ptx x.b).2)) x.frag _ t ht,
      rowIs_self]
  obtain ⟨ov, hov, hdeep⟩ := hx.deepB
  have herr : 0 ≤ err := by have := hd.errPos; omega
  refine ⟨hne, fun p hp => ?_⟩
  obtain ⟨e1, e2, -, he⟩ := Pipeline.premiseOf_some hp
  obtain ⟨kind, sid, frag⟩ := p
  cases e1; cases e2
  cases kind with
  | start =>
    refine quiet_start_of _ _ _ _ ov hne (by rw [hget]; exact hov) (by omega) ?_
    rcases hdeep with h3 | ⟨h1, _⟩
    · right
      obtain ⟨a, ha, hle⟩ := start_removed_deep hov h3 herr (rows_len_nonneg hf hd.lens)
      exact ⟨a, by rw [hget]; exact ha, hle⟩
    · left; rw [hget]; exact h1
  | stop => exact absurd (hfirst.symm.trans (he rfl).1) (by simp)

theorem quiet_a {input ptx : List Scaffold} {err : Int} (hd : DeepBase input ptx err) (x : Site) (hx : SiteOk input ptx err x) :
    (getRes (expectedStore input ptx) x.a).rows ≠ [] ∧ ∀ p,
      Pipeline.premiseOf (expectedStore input ptx) x.frag x.a = .ok (some p) → QuietP (expectedStore input ptx) err p := by
  have hget := getRes_expectedStore input ptx x.a hx.inA
  obtain ⟨hk, hf⟩ := hd.piece x.a hx.inA
  obtain ⟨t', ht'⟩ := List.getLast?_eq_some_iff.1 hx.lastA
  have hne : (getRes (expectedStore input ptx) x.a).rows ≠ [] := by rw [hget]; exact hf.ne
  obtain ⟨ov, hov, hdeep⟩ := hx.deepA
  have herr : 0 ≤ err := by have := hd.errPos; omega
  refine ⟨hne, fun p hp => ?_⟩
  obtain ⟨e1, e2, hs, -⟩ := Pipeline.premiseOf_some hp
  obtain ⟨kind, sid, frag⟩ := p
  cases e1; cases e2
  cases kind with
  | start =>
    have h1 := hs rfl
    rw [hget] at h1
    obtain ⟨g, t, hr, hoid⟩ := C01.firstIs_true h1
    obtain ⟨rfl, rfl⟩ := single_of_first_last_oid hr ht' hoid hf.distinct
    have hr' : (pieceO input (pieceAt ptx x.a).2).rows = [.frag x.frag] := hr
    have hs := (startRowBaitOverlap_single hr' (by rw [← rowsLength_singleton, ← hr']; exact hf.span)).trans hov
    exact quiet_start_of _ _ _ _ ov hne (by rw [hget]; exact hs) (by omega)
      (Or.inl (by rw [hget]; show (pieceO input (pieceAt ptx x.a).2).rows.length = 1; rw [hr']; rfl))
  | stop =>
    refine quiet_stop_of _ _ _ _ ov hne (by rw [hget]; exact hov) (by omega) ?_
    rcases hdeep with h3 | ⟨h1, _⟩
    · right
      obtain ⟨a, ha, hle⟩ := end_removed_deep hov h3 herr (rows_len_nonneg hf hd.lens)
      exact ⟨a, by rw [hget]; exact ha, hle⟩
    · left; rw [hget]; exact h1

theorem trimPiece_eq_cutFrag (o : OverlapResult) (F : Fragment) (oid : Nat) (d1 d2 : Int) (htags : o.bait.tags = []) :
    trimPiece o F oid d1 d2 = cutFragEnd (cutFragStart F d1 oid) d2 oid := by
  unfold trimPiece cutFragEnd cutFragStart
  by_cases h : F.strand = 1 <;> simp [h, htags]

theorem trimFragment_cut {o o' : OverlapResult} {F new : Fragment} {ks ke a b : Bool} {oid : Nat}
    (ha : firstIs o F = .ok a) (hb : lastIs o F = .ok b) (htags : o.bait.tags = [])
    (h : o.trimFragment F ks ke oid = .ok (o', new)) :
    o' = { o with start := o.start + startCut o a ks, stop := o.stop - endCut o b ke,
                  rows := if b = true then setLast o.rows (.frag (cutFragEnd (cutFragStart F (startCut o a ks) oid)
                            (endCut o b ke) oid))
                          else setFirst o.rows (.frag (cutFragEnd (cutFragStart F (startCut o a ks) oid)
                            (endCut o b ke) oid)) } := by
  obtain ⟨a', b', ha', hb', -, -, rfl, -, rfl⟩ := trimFragment_ok_iff.mp h
  cases ha.symm.trans ha'
  cases hb.symm.trans hb'
  rw [trimPiece_eq_cutFrag o F oid _ _ htags]

theorem trimStartSpec_cons (oid : Nat) (o : OverlapResult) (F : Fragment) (r : List Row) (h : o.rows = .frag F :: r) :
    trimStartSpec oid o =
      { o with start := o.bait.start, rows := .frag (cutFragStart F (o.bait.start - o.start) oid) :: r } := by
  unfold trimStartSpec; rw [h]

theorem trimEndSpec_concat (oid : Nat) (o : OverlapResult) (F : Fragment) (t : List Row) (h : o.rows = t ++ [.frag F]) :
    trimEndSpec oid o =
      { o with stop := o.bait.stop, rows := t ++ [.frag (cutFragEnd F (o.stop - o.bait.stop) oid)] } := by
  unfold trimEndSpec; rw [h]; simp

theorem cutFragEnd_cutFragStart_zero (F : Fragment) (r : Int) (oid : Nat) :
    cutFragEnd (cutFragStart F 0 oid) r oid = cutFragEnd F r oid := by
  simp [cutFragEnd, cutFragStart]

theorem cutFragEnd_zero_cutFragStart (F : Fragment) (l : Int) (oid : Nat) :
    cutFragEnd (cutFragStart F l oid) 0 oid = cutFragStart F l oid := by
  simp [cutFragEnd, cutFragStart]

end AgpTpf.C02
