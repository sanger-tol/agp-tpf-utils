/-
 C05 (e): AGP as a `Dialect`
-/
import AgpTpf.Proofs.C05Dialect
namespace AgpTpf.C05
open AgpTpf AgpTpf.C06 AgpTpf.AsmFormat

/-- object (scaffold) name the AGP reader can take back: it is the FIRST column, so it must not be empty (an
    empty first scaffold name equals the reader's initial `scaffold_name = ""` → AttributeError on `None`),
    must not contain a tab, and must not start with '#' (the line would be a comment). -/
def AgpScafNameOk (n : Str) : Prop := n ≠ [] ∧ '\t' ∉ n ∧ n.head? ≠ some '#'

instance (n : Str) : Decidable (AgpScafNameOk n) := by unfold AgpScafNameOk; infer_instance

/-- only the LAST column is exposed to `rstrip()`: the last tag (if any) must end in a non-whitespace character
    (so it is non-empty). -/
def lastTagOk (tags : List Str) : Bool :=
  match tags.getLast? with
  | none => true
  | some t => endsNonSpace t

/-- row the AGP reader takes back unchanged.  Component names and gap types may be empty and may contain
    spaces; no column may contain a tab; `start ≤ end` and the strand range are `Fragment.__init__`'s checks. -/
def AgpRowOk (r : Row) : Prop :=
  match r with
  | .gap g => '\t' ∉ g.gapType
  | .frag f => '\t' ∉ f.name ∧ (∀ t ∈ f.tags, '\t' ∉ t) ∧ lastTagOk f.tags = true ∧ f.start ≤ f.stop ∧
      (f.strand = 0 ∨ f.strand = 1 ∨ f.strand = -1)

instance (r : Row) : Decidable (AgpRowOk r) := by unfold AgpRowOk; cases r <;> infer_instance

/-- the part of `parse_agp`'s loop body after `fields = line.rstrip().split("\t")` -/
def agpFields (st : ParseState) (fields : List Str) : R ParseState := do
    let f0 ← pyGet fields 0
    let st := st.switchScaffold f0
    let f4 ← pyGet fields 4
    if Gen.agpGapComponentTypes.contains f4 then do
      if ¬ st.haveScaffold then throw .attribute
      let f5 ← pyGet fields 5
      let f6 ← pyGet fields 6
      let len ← pyInt f5
      st.addRow (.gap { length := len, gapType := f6 })
    else do
      if ¬ st.haveScaffold then throw .attribute
      let f5 ← pyGet fields 5
      let f6 ← pyGet fields 6
      let f7 ← pyGet fields 7
      let f8 ← pyGet fields 8
      let strand ← lookupStr Gen.agpStrandDict f8
      let s ← pyInt f6
      let e ← pyInt f7
      let f ← mkFragment st.nextOid f5 s e strand (fields.drop 9)
      let st ← st.addRow (.frag f)
      pure { st with nextOid := st.nextOid + 1 }

theorem startsWith_hashhash (line : Str) (h : startsWith ['#', '#'] line = true) : startsWith ['#'] line = true := by
  cases line with
  | nil => cases h
  | cons c t => simp only [startsWith, List.isPrefixOf] at h ⊢; simp at h ⊢; exact h.1

theorem agpFields_gap (st : ParseState) {fields : List Str} {name f4 gt : Str} {len : Int}
    (h0 : fields[0]? = some name) (h4 : fields[4]? = some f4) (hg : Gen.agpGapComponentTypes.contains f4 = true)
    (h5 : fields[5]? = some (intToStr len)) (h6 : fields[6]? = some gt) :
    agpFields st fields = addRowOid (st.switchScaffold name) (.gap { length := len, gapType := gt }) := by
  have g0 : pyGet fields 0 = .ok name := pyGet_of_getElem? (k := 0) h0
  have g4 : pyGet fields 4 = .ok f4 := pyGet_of_getElem? (k := 4) h4
  have g5 : pyGet fields 5 = .ok (intToStr len) := pyGet_of_getElem? (k := 5) h5
  have g6 : pyGet fields 6 = .ok gt := pyGet_of_getElem? (k := 6) h6
  simp only [agpFields, g0, g4, g5, g6, ok_bind, hg, if_true, pyInt_intToStr, addRowOid]
  cases hh : (st.switchScaffold name).haveScaffold with
  | true => rfl
  | false => rw [addRow_noScaffold _ _ hh]; rfl

theorem agpFields_frag (st : ParseState) {fields : List Str} {name f4 ss : Str} {f : Fragment}
    (h0 : fields[0]? = some name) (h4 : fields[4]? = some f4) (hg : Gen.agpGapComponentTypes.contains f4 = false)
    (h5 : fields[5]? = some f.name) (h6 : fields[6]? = some (intToStr f.start)) (h7 : fields[7]? = some (intToStr f.stop))
    (h8 : fields[8]? = some ss) (h9 : fields.drop 9 = f.tags) (hlook : lookupStr Gen.agpStrandDict ss = .ok f.strand)
    (hf : RowParsed (.frag f)) :
    agpFields st fields = addRowOid (st.switchScaffold name) (.frag f) := by
  have g0 : pyGet fields 0 = .ok name := pyGet_of_getElem? (k := 0) h0
  have g4 : pyGet fields 4 = .ok f4 := pyGet_of_getElem? (k := 4) h4
  have g5 : pyGet fields 5 = .ok f.name := pyGet_of_getElem? (k := 5) h5
  have g6 : pyGet fields 6 = .ok (intToStr f.start) := pyGet_of_getElem? (k := 6) h6
  have g7 : pyGet fields 7 = .ok (intToStr f.stop) := pyGet_of_getElem? (k := 7) h7
  have g8 : pyGet fields 8 = .ok ss := pyGet_of_getElem? (k := 8) h8
  simp only [agpFields, g0, g4, g5, g6, g7, g8, ok_bind, hg, Bool.false_eq_true, if_false, pyInt_intToStr, hlook, h9,
    mkFragment_ok_iff.2 ⟨hf.1, hf.2, rfl⟩, addRowOid]
  cases hh : (st.switchScaffold name).haveScaffold with
  | true => cases (st.switchScaffold name).addRow (Row.frag { f with oid := (st.switchScaffold name).nextOid }) <;> rfl
  | false => rw [addRow_noScaffold _ _ hh]; rfl

theorem agpRowCols_avoids {x : Char} (hx : isSpace x = true) {name : Str} {p i : Int} {row : Row} {cols : List Str}
    (hn : x ∉ name) (hr : RowAvoids x row) (hc : agpRowCols name p i row = .ok cols) : ∀ c ∈ cols, x ∉ c := by
  have no : ∀ {c : Str}, (∀ y ∈ c, isSpace y = false) → x ∉ c := fun hc h => by rw [hc x h] at hx; cases hx
  obtain ⟨k1, k2, k3, k4, k5⟩ : (∀ y ∈ Gen.agpGapCol5, isSpace y = false) ∧ (∀ y ∈ Gen.agpGapLinkage, isSpace y = false) ∧
      (∀ y ∈ Gen.agpGapEvidence, isSpace y = false) ∧ (∀ y ∈ Gen.agpFragCol5, isSpace y = false) ∧
      ∀ c ∈ Gen.agpStrandStr, ∀ y ∈ c, isSpace y = false := by decide +kernel
  have hi := fun v => no (intToStr_no_space v)
  cases row with
  | gap g =>
    cases hc
    simp only [List.cons_append, List.nil_append, List.forall_mem_cons]
    exact ⟨hn, hi _, hi _, hi _, no k1, hi _, hr, no k2, no k3, nofun⟩
  | frag f =>
    simp only [agpRowCols] at hc
    cases hss : strandStr Gen.agpStrandStr f.strand with
    | error e => rw [hss] at hc; cases hc
    | ok ss =>
      rw [hss] at hc; cases hc
      simp only [List.cons_append, List.nil_append, List.forall_mem_cons]
      exact ⟨hn, hi _, hi _, hi _, no k4, hr.1, hi _, hi _, no (k5 ss (pyGet_mem hss)), hr.2⟩

theorem AgpRowOk.avoids_tab {r : Row} (h : AgpRowOk r) : RowAvoids '\t' r := by
  cases r with
  | gap g => exact h
  | frag f => exact ⟨h.1, h.2.1⟩

theorem AgpRowOk.rowParsed {r : Row} (h : AgpRowOk r) : RowParsed r := by
  cases r with
  | gap g => trivial
  | frag f => exact ⟨h.2.2.2.2, h.2.2.2.1⟩

theorem agpFields_step {st : ParseState} {fields : List Str} {st' : ParseState} (h : agpFields st fields = .ok st') :
    DataStep st st' := by
  unfold agpFields at h
  obtain ⟨name, -, h⟩ := bind_eq_ok.1 h
  obtain ⟨f4, -, h⟩ := bind_eq_ok.1 h
  split at h
  · split at h
    · cases h
    obtain ⟨f5, -, h⟩ := bind_eq_ok.1 h
    obtain ⟨f6, -, h⟩ := bind_eq_ok.1 h
    obtain ⟨len, -, h⟩ := bind_eq_ok.1 h
    exact ⟨_, .gap _, st', st'.nextOid, .inr ⟨name, rfl⟩, trivial, h, rfl⟩
  · split at h
    · cases h
    obtain ⟨f5, -, h⟩ := bind_eq_ok.1 h
    obtain ⟨f6, -, h⟩ := bind_eq_ok.1 h
    obtain ⟨f7, -, h⟩ := bind_eq_ok.1 h
    obtain ⟨f8, -, h⟩ := bind_eq_ok.1 h
    obtain ⟨strand, -, h⟩ := bind_eq_ok.1 h
    obtain ⟨s, -, h⟩ := bind_eq_ok.1 h
    obtain ⟨e, -, h⟩ := bind_eq_ok.1 h
    obtain ⟨f, hf, h⟩ := bind_eq_ok.1 h
    obtain ⟨st'', ha, h'⟩ := bind_eq_ok.1 h
    exact ⟨_, .frag f, st'', _, .inr ⟨name, rfl⟩, by obtain ⟨h1, h2, rfl⟩ := mkFragment_ok_iff.1 hf; exact ⟨h1, h2⟩, ha,
      (Except.ok.inj h').symm⟩

theorem agpCols_rows (name : Str) (p i : Int) (rows : List Row) (colss : List (List Str))
    (h : agpCols name p i rows = .ok colss) :
    Forall2 (fun row cols => ∃ p i, agpRowCols name p i row = .ok cols) rows colss := by
  induction rows generalizing p i colss with
  | nil => rw [agpCols] at h; cases h; trivial
  | cons row rest ih =>
    rw [agpCols_cons] at h
    obtain ⟨c, hr, h⟩ := bind_eq_ok.1 h
    obtain ⟨t, ht, h⟩ := bind_eq_ok.1 h
    cases h
    exact ⟨⟨p, i, hr⟩, ih _ _ _ ht⟩

theorem formatAgpRows_cols {name : Str} {p i : Int} {rows : List Row} {ls : List Str} (h : formatAgpRows name p i rows = .ok ls) :
    Forall2 (fun row line => ∃ cs, (∃ p i, agpRowCols name p i row = .ok cs) ∧ line = lineOfCols cs) rows ls := by
  rw [formatAgpRows_eq] at h
  cases hc : agpCols name p i rows with
  | error e => rw [hc] at h; cases h
  | ok colss =>
    rw [hc] at h; cases h
    exact Forall2.map_right lineOfCols ((agpCols_rows _ _ _ _ _ hc).imp fun _ cs h => ⟨cs, h, rfl⟩)

/-- the first column is the object name; the last one is the evidence, the strand or the last tag -/
theorem agpRowCols_ends {name : Str} {p i : Int} {row : Row} {cs : List Str} (hn : name.head? ≠ some '#') (hr : AgpRowOk row)
    (hc : agpRowCols name p i row = .ok cs) :
    ∃ c0 rest l x, cs = c0 :: rest ∧ c0.head? ≠ some '#' ∧ cs.getLast? = some l ∧ l.getLast? = some x ∧ isSpace x = false := by
  cases row with
  | gap g => cases hc; exact ⟨name, _, Gen.agpGapEvidence, 'n', rfl, hn, rfl, rfl, rfl⟩
  | frag f =>
    obtain ⟨ss, hss, -, -, -, c, hc1, hc2⟩ := strandStr_agp f.strand hr.2.2.2.2
    simp only [agpRowCols, hss] at hc
    cases hc
    cases hl : f.tags.getLast? with
    | none => rw [List.getLast?_eq_none_iff.1 hl]; exact ⟨name, _, ss, c, rfl, hn, rfl, hc1, hc2⟩
    | some t =>
      have ht := hr.2.2.1
      rw [lastTagOk, hl] at ht
      obtain ⟨x, hx1, hx2⟩ := endsNonSpace_iff.1 ht
      exact ⟨name, _, t, x, rfl, hn, by rw [List.getLast?_append, hl]; rfl, hx1, hx2⟩

theorem agpFields_cols {name : Str} {p i : Int} {row : Row} {cs : List Str} (hr : AgpRowOk row)
    (hc : agpRowCols name p i row = .ok cs) (st : ParseState) : agpFields st cs = addRowOid (st.switchScaffold name) row := by
  cases row with
  | gap g => cases hc; exact agpFields_gap st rfl rfl (by decide +kernel) rfl rfl
  | frag f =>
    obtain ⟨ss, hss, hlook, -⟩ := strandStr_agp f.strand hr.2.2.2.2
    simp only [agpRowCols, hss] at hc
    cases hc
    exact agpFields_frag st rfl rfl (by decide +kernel) rfl rfl rfl rfl rfl hlook hr.rowParsed

/-- AGP: `agp.read` is `parseAgpLine`, `agp.format` is `formatAgp`, `agp.parse` is `parseAgp`, each by unfolding.  Every line
    names its object, and every row comes back as it is. -/
def agp : Dialect where
  skip := startsWith ['#', '#']
  strip := isSpace
  fields := agpFields
  hdrPrefix := Gen.agpHeaderPrefix
  rowLines s := formatAgpRows s.name 0 0 s.rows
  Cols name row cs := ∃ p i, agpRowCols name p i row = .ok cs
  back := id
  opens _ := true
  NameOk n := '\t' ∉ n ∧ n.head? ≠ some '#'
  RowOk := AgpRowOk
  skip_hash := startsWith_hashhash
  strip_nl := rfl
  strip_space _ h := h
  fields_step _ _ _ := agpFields_step
  prefix_hash := rfl
  prefix_chars := by decide
  prefix_noskip _ := rfl
  prefix_nl := by decide
  rowLines_ok s h := by
    obtain ⟨colss, hc⟩ := (agpCols_ok_iff_strands s.name 0 0 s.rows).2 fun r hr => (h r hr).writable
    exact ⟨colss.map lineOfCols, by rw [formatAgpRows_eq, hc]; rfl⟩
  rowLines_cols _ _ := formatAgpRows_cols
  row_strand h := h.rowParsed.strandOk
  name_tab h := h.1
  row_tab := AgpRowOk.avoids_tab
  back_avoids h := h
  cols_avoid hx hn hr hc := by obtain ⟨p, i, hc⟩ := hc; exact agpRowCols_avoids hx hn hr hc
  cols_ends hn hr hc := by obtain ⟨p, i, hc⟩ := hc; exact agpRowCols_ends hn.2 hr hc
  fields_cols _ hr hc st _ := by obtain ⟨p, i, hc⟩ := hc; exact agpFields_cols hr hc st

theorem agp_back (a : Assembly) : agp.backAssembly a = a := by
  cases a; simp [Dialect.backAssembly, agp]

/-- (e) "no line is silently skipped, merged or re-homed" for the AGP reader: a blank or `#` line leaves the
    scaffolds untouched; every other line either raises or adds exactly one row — to the scaffold named in its
    first column, which is the current one or a newly opened one. -/
theorem agp_line_one_row_or_error (st : ParseState) (line : Str) (st' : ParseState)
    (h : parseAgpLine st line = .ok st') :
    (isBlankLine line = true ∨ startsWith ['#'] line = true →
        st'.scaffolds = st.scaffolds ∧ st'.currentName = st.currentName ∧ st'.nextOid = st.nextOid) ∧
    (¬ (isBlankLine line = true ∨ startsWith ['#'] line = true) →
        OneRowAdded st st' ∧ totalRows st' = totalRows st + 1 ∧ st'.header = st.header) :=
  agp.one_row_or_error st line st' h

end AgpTpf.C05

/-! C05 (f): AGP whole-assembly round trips; the AGP writer ignores object ids -/
namespace AgpTpf.C05
open AgpTpf AgpTpf.C06

/-- Assemblies the AGP writer/reader pair carries without loss (each clause is needed, see the definitions):
    header lines `HeaderOk`; scaffold names `AgpScafNameOk`, consecutive scaffolds differently named (`NamesChain`,
    else the reader MERGES them); no empty scaffold (it writes no line and vanishes); rows `AgpRowOk`. -/
def WFAgp (a : Assembly) : Prop :=
  (∀ h ∈ a.header, HeaderOk h) ∧ NamesChain [] a.scaffolds ∧
  ∀ s ∈ a.scaffolds, AgpScafNameOk s.name ∧ s.rows ≠ [] ∧ ∀ r ∈ s.rows, AgpRowOk r

instance (a : Assembly) : Decidable (WFAgp a) := by unfold WFAgp; infer_instance

/-- the description asks less of a scaffold name: it may be empty (`NamesChain []` keeps the first one non-empty) -/
theorem WFAgp.wf {a : Assembly} (h : WFAgp a) : agp.WF a :=
  ⟨h.1, h.2.1, fun s hs => ⟨⟨(h.2.2 s hs).1.2.1, (h.2.2 s hs).1.2.2⟩,
    by obtain ⟨r, t, e⟩ := List.exists_cons_of_ne_nil (h.2.2 s hs).2.1; exact ⟨r, t, e, rfl⟩, (h.2.2 s hs).2.2⟩⟩

/-- (f, AGP) -/
theorem agp_roundtrip_lines (a : Assembly) (h : WFAgp a) :
    ∃ lines, formatAgp a = .ok lines ∧ parseAgp lines = .ok (canonAssembly a) := by
  have := agp.format_parse a h.wf
  rwa [agp_back] at this

theorem renumRows_length (k : Nat) (rows : List Row) : (renumRows k rows).length = rows.length := by
  induction rows generalizing k with
  | nil => rfl
  | cons r t ih => cases r <;> simp [renumRows, ih]

theorem formatAgpRows_renum (name : Str) (p i : Int) (k : Nat) (rows : List Row) :
    formatAgpRows name p i (renumRows k rows) = formatAgpRows name p i rows := by
  induction rows generalizing p i k with
  | nil => rfl
  | cons r t ih =>
    cases r with
    | gap g =>
      simp only [renumRows]
      unfold formatAgpRows
      rw [ih]
    | frag f =>
      simp only [renumRows]
      unfold formatAgpRows
      simp only [Row.length, Fragment.length]
      rw [ih]

theorem canonScaffolds_forall2 (P : Scaffold → Scaffold → Prop)
    (hP : ∀ s k, P { name := s.name, rows := renumRows k s.rows } s) (k : Nat) (scs : List Scaffold) :
    Forall2 P (canonScaffolds k scs) scs := by
  induction scs generalizing k with
  | nil => trivial
  | cons s t ih => exact ⟨hP s k, ih _⟩

/-- so re-formatting parsed written AGP reproduces it byte for byte (`agp_format_parse_format`) -/
theorem formatAgp_canon (a : Assembly) : formatAgp (canonAssembly a) = formatAgp a := by
  unfold formatAgp canonAssembly
  simp only
  rw [mapM_congr_forall2 _ (fun s => formatAgpRows s.name 0 0 s.rows) _ a.scaffolds
    (canonScaffolds_forall2 _ (fun s k => formatAgpRows_renum s.name 0 0 k s.rows) 0 a.scaffolds)]

end AgpTpf.C05
